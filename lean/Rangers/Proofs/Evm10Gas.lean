import Rangers.Proofs.Evm10Run
/-!
C10 — gas non-interference: gas decides only WHETHER an instruction runs, never WHAT it computes
(for every modelled instruction except GAS itself, including the memory opcodes and jumps).
-/
namespace Rangers.Proofs.Evm10
open Rangers Rangers.Model.Evm10 Rangers.Model.Evm10.U256

/-- the same frame with other gas bookkeeping -/
def setGas (f : Frame) (g l : Nat) : Frame := { f with gas := g, lastGasCost := l }

def mapGas (g l : Nat) : ExecResult → ExecResult
  | .ok f res => .ok (setGas f g l) res
  | r => r

theorem validJumpdest_setGas (f : Frame) (g l : Nat) (d : Word) :
    validJumpdest (setGas f g l) d = validJumpdest f d := rfl

theorem act_setGas (H : Bytes → Bytes) (e : Exec) (f : Frame) (g l : Nat) (he : e ≠ .opGas) :
    act H e (setGas f g l) = act H e f := by
  cases e <;> first | rfl | exact absurd rfl he

theorem finish_setGas (f : Frame) (g l : Nat) (a : Act) :
    finish (setGas f g l) a = mapGas g l (finish f a) := by
  rcases a with _ | _ | ⟨_, _ | _⟩ | ⟨_ | _, _⟩ | ⟨_, _ | _⟩ | _ | _ <;> rfl

/-- in the normal form the gas is read by the act of GAS and by nothing else -/
theorem execOp_setGas (H : Bytes → Bytes) (e : Exec) (f : Frame) (g l : Nat) (he : e ≠ .opGas) :
    execOp H e (setGas f g l) = mapGas g l (execOp H e f) := by
  rw [execOp_eq, execOp_eq, act_setGas H e f g l he, finish_setGas]
  show (match applyPure e f.code f.pc f.stack with
    | some st => _
    | none => if f.stack.length < arity e then _ else _) = _
  cases applyPure e f.code f.pc f.stack
  · dsimp only
    by_cases hl : f.stack.length < arity e
    · rw [if_pos hl, if_pos hl]; rfl
    · rw [if_neg hl, if_neg hl]
  · rfl

theorem memSized_unique {fn : MemFn} {st : List Word} {a b : Nat}
    (ha : MemSized fn st a) (hb : MemSized fn st b) : a = b := by
  rcases ha with ⟨h1, e1⟩ | ⟨s1, h1, e1⟩ <;> rcases hb with ⟨h2, e2⟩ | ⟨s2, h2, e2⟩
  · rw [e1, e2]
  · rw [h1] at h2; simp at h2
  · rw [h1] at h2; simp at h2
  · rw [h1] at h2
    simp only [MemSizeResult.size.injEq] at h2
    rw [h2.1] at e1
    rw [e1] at e2
    simpa using e2

theorem step_gas_noninterference {H : Bytes → Bytes} {t : Table} {p : GasParams} {f fa fb : Frame}
    {g l : Nat} (ha : step H t p f = .next fa) (hb : step H t p (setGas f g l) = .next fb)
    (hng : ∀ info, t.get (getOp f.code f.pc) = some info → info.exec ≠ .opGas) :
    fb = setGas fa fb.gas fb.lastGasCost := by
  obtain ⟨ia, ga, la, ma, f1, r1, hga, _, _, hma, hxa, rfl⟩ := step_next_decomp ha
  obtain ⟨ib, gb, lb, mb, f2, r2, hgb, _, _, hmb, hxb, rfl⟩ := step_next_decomp hb
  obtain rfl : ia = ib := Option.some.inj (hga.symm.trans hgb)
  obtain rfl : ma = mb := memSized_unique hma hmb
  have hpre : preExec (setGas f g l) gb lb ma = setGas (preExec f ga la ma) gb lb := rfl
  rw [hpre, execOp_setGas H ia.exec _ gb lb (hng ia hga), hxa] at hxb
  injection hxb with e1 e2
  rw [← e1, ← e2, postExec_eq, postExec_eq]
  rfl

theorem stepsTo_gas_noninterference {H : Bytes → Bytes} {t : Table} {p : GasParams} {k : Nat}
    {f fa : Frame} (ha : StepsTo H t p k f fa) :
    ∀ {g l : Nat} {fb : Frame}, StepsTo H t p k (setGas f g l) fb →
      (∀ pc info, t.get (getOp f.code pc) = some info → info.exec ≠ .opGas) →
      fb = setGas fa fb.gas fb.lastGasCost := by
  induction ha with
  | zero f => intro g l fb hb _; cases hb; rfl
  | @succ k f f1 f2 hs _ ih =>
    intro g l fb hb hng
    cases hb with
    | succ hs' hrest =>
      rename_i f1'
      have h1 := step_gas_noninterference hs hs' (fun info h => hng _ info h)
      rw [h1] at hrest
      have hc : f1.code = f.code := (step_frame_const hs).1
      exact ih hrest (fun pc info h => hng pc info (by rw [← hc]; exact h))

end Rangers.Proofs.Evm10
