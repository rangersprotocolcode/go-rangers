import Rangers.Model.Journal
/-! `undo` and `undoAll` as the proofs use them: what they do to a crashed state, the equation of `undo` for each
of the eleven entry kinds on a state that has not crashed, and that nothing they call touches `nextRev`.  For the latter the
three raw setters are seen as instances of one function, `rawSet`; `modify_rel` and `revAt_modify` (`JournalRel`, `JournalOps`)
treat the three undo methods that call them in the same way. -/
namespace Rangers.Proofs.Journal
open Rangers Rangers.Model.Journal

theorem undo_crashed (c : Cfg) {s : ADB} (h : s.crashed = true) (e : Entry) : undo c s e = s := by
  unfold undo; simp [h]

theorem undoAll_append (c : Cfg) (s : ADB) (a b : List Entry) :
    undoAll c s (a ++ b) = undoAll c (undoAll c s b) a := by
  simp [undoAll, List.reverse_append, List.foldl_append]

theorem undoAll_nil (c : Cfg) (s : ADB) : undoAll c s [] = s := rfl

theorem undoAll_singleton (c : Cfg) (s : ADB) (e : Entry) : undoAll c s [e] = undo c s e := rfl

theorem undoAll_crashed (c : Cfg) {s : ADB} (h : s.crashed = true) (es : List Entry) : undoAll c s es = s := by
  unfold undoAll
  generalize es.reverse = l
  induction l with
  | nil => rfl
  | cons e l ih => simp only [List.foldl, undo_crashed c h e, ih]

section
variable (c : Cfg) {s : ADB} (hs : s.crashed = false)
include hs

theorem undo_create (a : Addr) :
    undo c s (.create a) = { s with objs := mdel s.objs a, dirtySet := sdel s.dirtySet a } := if_neg (by simp [hs])

theorem undo_suicide (a : Addr) (prev : Bool) (prevBal : Nat) :
    undo c s (.suicide a prev prevBal) = (match resolve s a with
      | (s1, none) => s1
      | (s1, some o) => setBalanceRaw c (putObj s1 a { o with suicided := prev }) a prevBal) := if_neg (by simp [hs])

theorem undo_nonce (a : Addr) (prev : Nat) :
    undo c s (.nonce a prev) = (match resolve s a with
      | (s1, none) => crash s1
      | (s1, some _) => setNonceRaw s1 a prev) := if_neg (by simp [hs])

theorem undo_storage (a : Addr) (k : Key) (prev : Val) :
    undo c s (.storage a k prev) = (match resolve s a with
      | (s1, none) => crash s1
      | (s1, some _) => setDataRaw s1 a k prev) := if_neg (by simp [hs])

theorem undo_code (a : Addr) (prevCode : Option Bytes) (prevHash : Hash) :
    undo c s (.code a prevCode prevHash) = (match resolve s a with
      | (s1, none) => crash s1
      | (s1, some _) => setCodeRaw s1 a (toHash prevHash) prevCode) := if_neg (by simp [hs])

theorem undo_refund (prev : Nat) : undo c s (.refund prev) = { s with refund := prev } := if_neg (by simp [hs])

theorem undo_addLog (th : Hash) :
    undo c s (.addLog th) = (match (mget s.logs th).getD [] with
      | [] => crash s
      | [_] => { s with logs := mdel s.logs th, logSize := (s.logSize + U64 - 1) % U64 }
      | l => { s with logs := mset s.logs th l.dropLast, logSize := (s.logSize + U64 - 1) % U64 }) := if_neg (by simp [hs])

theorem undo_touch (a : Addr) (prev prevDirty : Bool) :
    undo c s (.touch a prev prevDirty) = (if !prev && decide (a ≠ c.ripemd) then
      match resolve s a with
      | (s1, none) => crash s1
      | (s1, some o) =>
        let s2 := putObj s1 a { o with touched := prev }
        if !prevDirty then { s2 with dirtySet := sdel s2.dirtySet a } else s2
      else s) := if_neg (by simp [hs])

theorem undo_alAddr (a : Addr) : undo c s (.alAddr a) = { s with al := s.al.deleteAddress a } := if_neg (by simp [hs])

theorem undo_alSlot (a : Addr) (slot : Hash) :
    undo c s (.alSlot a slot) = (match s.al.deleteSlot a slot with
      | none => crash s
      | some al => { s with al := al }) := if_neg (by simp [hs])

theorem undo_transient (a : Addr) (k prev : Hash) :
    undo c s (.transient a k prev) = { s with transient := tset s.transient a k prev } := if_neg (by simp [hs])

end

theorem markDirty_nextRev (s : ADB) (a : Addr) (o : Obj) : (markDirty s a o).nextRev = s.nextRev := by
  unfold markDirty; split <;> rfl
theorem resolve_nextRev (s : ADB) (a : Addr) : (resolve s a).1.nextRev = s.nextRev := by
  unfold resolve; repeat' split
  all_goals rfl
theorem resolveNew_nextRev (s : ADB) (a : Addr) : (resolveNew s a).1.nextRev = s.nextRev := by
  unfold resolveNew; repeat' split
  all_goals rfl
/-- the raw setters `setNonce`, `setData`, `setNFTSetDefinition` of `accountObject`, seen alike: a panic if the object
    is not cached, else `g` of it stored through `markDirty` -/
def rawSet (g : Obj → Obj) (s : ADB) (a : Addr) : ADB :=
  match mget s.objs a with
  | none => crash s
  | some o => markDirty s a (g o)

theorem rawSet_nextRev (g : Obj → Obj) (s : ADB) (a : Addr) : (rawSet g s a).nextRev = s.nextRev := by
  unfold rawSet; split
  · rfl
  · rw [markDirty_nextRev]
theorem setBalanceRaw_nextRev (c : Cfg) (s : ADB) (a : Addr) (n : Nat) : (setBalanceRaw c s a n).nextRev = s.nextRev := by
  unfold setBalanceRaw
  have := resolveNew_nextRev s c.tok
  split
  · rename_i s1 h; rw [h] at this; exact this
  · rename_i s1 _ h; rw [h] at this; exact (rawSet_nextRev _ s1 c.tok).trans this

theorem resolve_nextRev' {s s1 : ADB} {a : Addr} {r : Option Obj} (h : resolve s a = (s1, r)) : s1.nextRev = s.nextRev := by
  have := resolve_nextRev s a; rwa [h] at this

/-- the shape of `undo` on a `nonce`, `storage` or `code` entry (`undo_nonce`, `undo_storage`, `undo_code`) -/
theorem modify_nextRev (g : Obj → Obj) (s : ADB) (a : Addr) :
    (match resolve s a with | (s1, none) => crash s1 | (s1, some _) => rawSet g s1 a).nextRev = s.nextRev := by
  cases h : resolve s a with
  | mk s1 r => cases r <;> simp only [crash, rawSet_nextRev, resolve_nextRev' h]

theorem undo_nextRev (c : Cfg) (s : ADB) (e : Entry) : (undo c s e).nextRev = s.nextRev := by
  cases hs : s.crashed with
  | true => rw [undo_crashed c hs]
  | false =>
    cases e with
    | create a => rw [undo_create c hs]
    | suicide a prev prevBal =>
      rw [undo_suicide c hs]
      cases h : resolve s a with
      | mk s1 r => cases r <;> simp only [setBalanceRaw_nextRev, putObj, resolve_nextRev' h]
    | nonce a prev => rw [undo_nonce c hs]; exact modify_nextRev _ s a
    | storage a k prev => rw [undo_storage c hs]; exact modify_nextRev _ s a
    | code a pc ph => rw [undo_code c hs]; exact modify_nextRev _ s a
    | refund prev => rw [undo_refund c hs]
    | addLog th => rw [undo_addLog c hs]; split <;> rfl
    | touch a prev pd =>
      rw [undo_touch c hs]
      split
      · cases h : resolve s a with
        | mk s1 r =>
          cases r with
          | none => exact (resolve_nextRev' h : s1.nextRev = _)
          | some o => simp only; split <;> exact (resolve_nextRev' h : s1.nextRev = _)
      · rfl
    | alAddr a => rw [undo_alAddr c hs]
    | alSlot a sl => rw [undo_alSlot c hs]; split <;> rfl
    | transient a k prev => rw [undo_transient c hs]

theorem undoAll_nextRev (c : Cfg) (s : ADB) (es : List Entry) : (undoAll c s es).nextRev = s.nextRev := by
  unfold undoAll
  generalize es.reverse = l
  induction l generalizing s with
  | nil => rfl
  | cons e l ih => simp only [List.foldl]; rw [ih, undo_nextRev]

end Rangers.Proofs.Journal
