import Mathlib.Algebra.Group.Basic
import Mathlib.Algebra.Module.Basic
import Mathlib.Tactic.Ring
import Mathlib.Tactic.Abel
import Mathlib.Tactic.Linarith
import Rangers.Model.VrfCurve
/-! The signed radix-16 recoding of `GeScalarMultBase` and its two-pass evaluation, in any commutative group. -/
namespace Rangers.Proofs.C16Radix
open Rangers.Model.VrfCurve

/-- Value of a digit string in radix `r`, least significant digit first. `C16Window.valueLSB` is the case `r = 2`,
    written there as a Horner fold from the most significant digit, the order in which `windowLoop` reads them. -/
def valueR (r : Int) : List Int → Int
  | [] => 0
  | d :: ds => d + r * valueR r ds

theorem nibbles_value (n k : Nat) : valueR 16 (nibblesAux n k) = ((k % 16 ^ n : Nat) : Int) := by
  induction n generalizing k with
  | zero => simp [nibblesAux, valueR, Nat.mod_one]
  | succ n ih =>
    simp only [nibblesAux, valueR, ih]
    have : k % 16 ^ (n + 1) = k % 16 + 16 * (k / 16 % 16 ^ n) := by
      rw [Nat.pow_succ, Nat.mul_comm, Nat.mod_mul]
    rw [this]; push_cast; ring

theorem recode_value (l : List Int) (c : Int) (hl : l ≠ []) :
    valueR 16 (recodeAux l c) = valueR 16 l + c := by
  induction l generalizing c with
  | nil => exact absurd rfl hl
  | cons e rest ih =>
    cases rest with
    | nil => simp [recodeAux, valueR]
    | cons e' rest' =>
      simp only [recodeAux, valueR]
      rw [ih ((e + c + 8) / 16) (by simp)]
      simp only [valueR]
      ring

theorem signedRadix16_value (k : Nat) (hk : k < 16 ^ 64) : valueR 16 (signedRadix16 k) = (k : Int) := by
  have hne : nibblesAux (63 + 1) k ≠ [] := by rw [nibblesAux]; exact List.cons_ne_nil _ _
  rw [signedRadix16, recode_value _ _ hne, nibbles_value, Nat.mod_eq_of_lt hk, add_zero]

theorem value_split (l : List Int) : valueR 16 l = valueR 256 (evens l) + 16 * valueR 256 (odds l) := by
  induction l using evens.induct with
  | case1 => simp [evens, odds, valueR]
  | case2 a => simp [evens, odds, valueR]
  | case3 a b rest ih => simp only [evens, odds, valueR, ih]; ring

variable {G : Type} [AddCommGroup G]

theorem accum_group (B : G) (tbl : Nat → Int → G) (htbl : ∀ pos d, tbl pos d = (d * 256 ^ pos) • B)
    (pos : Nat) (ds : List Int) (acc : G) :
    accumDigits (· + ·) tbl pos ds acc = acc + (256 ^ pos * valueR 256 ds) • B := by
  induction ds generalizing pos acc with
  | nil => simp [accumDigits, valueR]
  | cons d ds ih =>
    simp only [accumDigits, ih, htbl, valueR]
    rw [add_assoc, ← add_zsmul]
    congr 2
    rw [pow_succ]; ring

theorem baseMul_group (B : G) (tbl : Nat → Int → G) (htbl : ∀ pos d, tbl pos d = (d * 256 ^ pos) • B)
    (e : List Int) :
    baseMulWith (0 : G) (fun x => x + x) (· + ·) tbl e = valueR 16 e • B := by
  unfold baseMulWith
  simp only [accum_group B tbl htbl, zero_add, pow_zero, one_mul]
  have h16 : ∀ x : G, ((x + x) + (x + x)) + ((x + x) + (x + x)) + (((x + x) + (x + x)) + ((x + x) + (x + x))) = (16 : Int) • x := by
    intro x
    simp only [← two_zsmul, smul_smul]
    norm_num
  rw [h16, ← mul_zsmul, ← add_zsmul, value_split]
  congr 1; ring

end Rangers.Proofs.C16Radix
