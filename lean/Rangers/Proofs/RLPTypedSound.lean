import Rangers.Proofs.RLPTypedLeaf
/-! Canonicity of the typed slice decoder: whatever `decT` accepts, `encT` writes back. -/
namespace Rangers.RLP
open Rangers

mutual
  /-- Types for which typed canonicity is claimed: no `rlp:"nil"` field anywhere, integer widths
      from 8 to 64 bits.  That is all `uintOf_sound` needs (`bits / 8` bytes hold a number below
      `2 ^ bits`); reading back every number below `2 ^ bits` needs a multiple of 8, which `WFV` asks
      for as `goWidth`. -/
  def Ty.plain : Ty → Prop
    | .uint bits => 8 ≤ bits ∧ bits ≤ 64
    | .slice e => e.plain
    | .arr _ e => e.plain
    | .ptr e => e.plain
    | .struct fs => plainFs fs
    | _ => True
  def plainFs : List (Tag × Ty) → Prop
    | [] => True
    | (tag, t) :: fs => tag ≠ .nilOK ∧ t.plain ∧ plainFs fs
end

theorem Ty.plain_struct (fs : List (Tag × Ty)) : (Ty.struct fs).plain ↔ plainFs fs := by rw [Ty.plain]

theorem pow256_le (bits cs : Nat) (h : cs ≤ bits / 8) : 256 ^ cs ≤ 2 ^ bits := by
  have h1 : (256 : Nat) ^ cs = 2 ^ (8 * cs) := by
    have : (256 : Nat) = 2 ^ 8 := by decide
    rw [this, ← Nat.pow_mul]
  rw [h1]
  exact Nat.pow_le_pow_right (by omega) (by omega)

/-- from 56 size bytes on `writeUint`'s one header byte and `puthead`'s long form part ways -/
theorem encUint_eq_encString {n : Nat} (hl : (toBE n).length < 56) : encUint n = encString (toBE n) := by
  unfold encUint
  by_cases h0 : n = 0
  · subst h0; rfl
  · rw [if_neg h0, putint_eq h0]
    have hbe := beNat_toBE n
    cases hb : toBE n with
    | nil => have := toBE_length_pos h0; rw [hb] at this; cases this
    | cons b0 tl =>
      have hm := toBE_head_ne_zero hb
      rw [hb] at hbe hl
      cases tl with
      | nil =>
        rw [beNat_singleton] at hbe
        subst hbe
        by_cases h128 : b0.toNat < 128
        · rw [if_pos h128, encString_byte b0 h128, UInt8.ofNat_toNat]
        · rw [if_neg h128, encString_nonbyte [b0] (by simp [headLt128, h128])]; rfl
      | cons b1 tl' =>
        have hge : ¬ n < 128 := by
          rw [← hbe, beNat_cons]
          have : 256 ^ 1 ≤ 256 ^ (b1 :: tl').length := Nat.pow_le_pow_right (by omega) (by simp)
          have := Nat.mul_le_mul (Nat.one_le_iff_ne_zero.2 hm) this
          omega
        rw [if_neg hge, encString_nonbyte _ (by simp), encHead_small _ _ hl]
        rfl

theorem encBig_eq_encString (n : Nat) : encBig n = encString (toBE n) := by
  unfold encBig
  by_cases h0 : n = 0
  · subst h0; rfl
  · rw [if_neg h0]

theorem uintOf_sound {bits : Nat} {buf rest : Bytes} {n : Nat} (hb : 8 ≤ bits ∧ bits ≤ 64)
    (h : uintOf bits buf = .ok (n, rest)) : buf = encUint n ++ rest ∧ n < 2 ^ bits := by
  obtain ⟨hby, hlen⟩ := uintOf_ok_iff.1 h
  have hl : (toBE n).length ≤ bits / 8 := by
    rcases hlen with hl | hl
    · exact hl
    · have := toBE_length_le 1 n (by omega); omega
  refine ⟨?_, ?_⟩
  · rw [encUint_eq_encString (by omega)]; exact (bytesOf_ok_iff.1 hby).1
  · have := beNat_lt (toBE n)
    rw [beNat_toBE] at this
    exact Nat.lt_of_lt_of_le this (pow256_le bits _ hl)

theorem encT_any_of_slice {v : Val} {e : Bytes} (h : encT (.slice .any) v = .ok e) : encT .any v = .ok e := by
  cases v <;> first | exact h | cases h

theorem encT_any_of_bytes {v : Val} {e : Bytes} (h : encT .bytes v = .ok e) : encT .any v = .ok e := by
  cases v <;> first | exact h | cases h

theorem leaf_sound {ty : Ty} (hl : ty.leaf = true) (hp : ty.plain) {f : Nat} {b rest : Bytes} {v : Val}
    (h : decT (f + 1) ty b = .ok (v, rest)) : ∃ e, encT ty v = .ok e ∧ b = e ++ rest := by
  cases ty with
  | raw =>
    obtain ⟨k, c, hb, _, rfl⟩ := decT_raw_ok_iff.1 h
    exact ⟨_, rfl, hb⟩
  | uint bits =>
    rw [decT_uint] at h
    obtain ⟨r, hu, h⟩ := bind_ok_iff.1 h
    cases h
    obtain ⟨h1, h2⟩ := uintOf_sound hp hu
    exact ⟨_, by rw [encT_uint, if_pos h2], h1⟩
  | bool =>
    rw [decT_bool] at h
    obtain ⟨⟨n, rest'⟩, hu, h⟩ := bind_ok_iff.1 h
    obtain ⟨h1, _⟩ := uintOf_sound (by omega : 8 ≤ 8 ∧ 8 ≤ 64) hu
    simp only at h
    split at h
    · rename_i hn; cases h; subst hn; exact ⟨_, rfl, h1⟩
    · split at h
      · rename_i hn; cases h; subst hn; exact ⟨_, rfl, h1⟩
      · cases h
  | big =>
    rw [decT_big] at h
    obtain ⟨⟨c, rest'⟩, hu, h⟩ := bind_ok_iff.1 h
    obtain ⟨n, hbg, h⟩ := bind_ok_iff.1 h
    cases h
    rw [(bigOfContent_ok_iff c n).1 hbg] at hu
    exact ⟨_, rfl, by rw [encBig_eq_encString]; exact (bytesOf_ok_iff.1 hu).1⟩
  | str =>
    rw [decT_str] at h
    obtain ⟨r, hu, h⟩ := bind_ok_iff.1 h
    cases h
    exact ⟨_, rfl, (bytesOf_ok_iff.1 hu).1⟩
  | bytes =>
    rw [decT_bytes] at h
    obtain ⟨r, hu, h⟩ := bind_ok_iff.1 h
    cases h
    exact ⟨_, rfl, (bytesOf_ok_iff.1 hu).1⟩
  | barr n =>
    obtain ⟨c, hu, hn, rfl⟩ := decT_barr_ok_iff.1 h
    exact ⟨_, by rw [encT_barr, if_pos hn], (bytesOf_ok_iff.1 hu).1⟩
  | _ => cases hl

theorem typed_sound : ∀ f,
    (∀ ty b v rest, Ty.plain ty → decT f ty b = .ok (v, rest) → ∃ e, encT ty v = .ok e ∧ b = e ++ rest) ∧
    (∀ e c vs, Ty.plain e → decElems f e c = .ok vs → encElems e vs = .ok c) ∧
    (∀ e n c vs, Ty.plain e → decArr f e n c = .ok vs → vs.length = n ∧ encElems e vs = .ok c) ∧
    (∀ fs c vs, plainFs fs → decFields f fs c = .ok vs → encFields fs vs = .ok c) := by
  intro f
  induction f with
  | zero => exact ⟨nofun, nofun, nofun, nofun⟩
  | succ f ih =>
    obtain ⟨ihT, ihE, ihA, ihF⟩ := ih
    refine ⟨?_, ?_, ?_, ?_⟩
    · intro ty b v rest hp h
      cases ty with
      | any =>
        rw [decT_any] at h
        obtain ⟨⟨k, c, r⟩, hk, h⟩ := bind_ok_iff.1 h
        cases k with
        | list =>
          obtain ⟨e, he, hb⟩ := ihT (.slice .any) b v rest trivial h
          exact ⟨e, encT_any_of_slice he, hb⟩
        | byte | string =>
          obtain ⟨e, he, hb⟩ := ihT .bytes b v rest trivial h
          exact ⟨e, encT_any_of_bytes he, hb⟩
      | slice e =>
        rw [decT_slice] at h
        obtain ⟨c, vs, rfl, _, hd, rfl⟩ := onList_ok_iff.1 h
        exact ⟨_, by rw [encT_slice, ihE e _ vs hp hd]; rfl, rfl⟩
      | arr n e =>
        rw [decT_arr] at h
        obtain ⟨c, vs, rfl, _, hd, rfl⟩ := onList_ok_iff.1 h
        obtain ⟨hl, hp1⟩ := ihA e n _ vs hp hd
        exact ⟨_, by rw [encT_arr, if_pos hl, hp1]; rfl, rfl⟩
      | struct fs =>
        rw [decT_struct] at h
        obtain ⟨c, vs, rfl, _, hd, rfl⟩ := onList_ok_iff.1 h
        exact ⟨_, by rw [encT_struct, ihF fs _ vs hp hd]; rfl, rfl⟩
      | ptr e =>
        rw [decT_ptr] at h
        obtain ⟨⟨v', rest'⟩, hd, h⟩ := bind_ok_iff.1 h
        cases h
        exact ihT e b v' rest' hp hd
      | _ => exact leaf_sound rfl hp h
    · intro e c vs hp h
      cases c with
      | nil => cases h; exact encElems_nil e
      | cons x xs =>
        rw [decElems_cons] at h
        obtain ⟨v, rest, vs', hd, hd2, rfl⟩ := thenRest_ok_iff.1 h
        obtain ⟨a, ha1, ha2⟩ := ihT e _ v rest hp hd
        rw [encElems_cons, ha1, ihE e rest vs' hp hd2, ha2]
        rfl
    · intro e n c vs hp h
      cases n with
      | zero =>
        cases c with
        | nil => cases h; exact ⟨rfl, rfl⟩
        | cons x xs => cases h
      | succ n =>
        cases c with
        | nil => cases h
        | cons x xs =>
          rw [decArr_cons] at h
          obtain ⟨v, rest, vs', hd, hd2, rfl⟩ := thenRest_ok_iff.1 h
          obtain ⟨a, ha1, ha2⟩ := ihT e _ v rest hp hd
          obtain ⟨hl, hp1⟩ := ihA e n rest vs' hp hd2
          exact ⟨by rw [List.length_cons, hl], by rw [encElems_cons, ha1, hp1, ha2]; rfl⟩
    · intro fs c vs hp h
      cases fs with
      | nil =>
        cases c with
        | nil => cases h; exact encFields_nil
        | cons x xs => cases h
      | cons fld fs' =>
        obtain ⟨tag, ty⟩ := fld
        obtain ⟨htag, hty, hfs⟩ := hp
        cases tag with
        | nilOK => exact absurd rfl htag
        | tail =>
          cases ty with
          | slice e =>
            cases fs' with
            | nil =>
              rw [decFields_tail] at h
              obtain ⟨vs', hd, h⟩ := bind_ok_iff.1 h
              cases h
              rw [encFields_tail, ihE e c vs' hty hd]
            | cons _ _ => cases h
          | _ => cases h
        | none =>
          cases c with
          | nil => cases h
          | cons x xs =>
            rw [decFields_none] at h
            obtain ⟨v, rest, vs', hd, hd2, rfl⟩ := thenRest_ok_iff.1 h
            obtain ⟨a, ha1, ha2⟩ := ihT ty _ v rest hty hd
            rw [encFields_cons (tag := .none) nofun, ha1, ihF fs' rest vs' hfs hd2, ha2]
            rfl

end Rangers.RLP
