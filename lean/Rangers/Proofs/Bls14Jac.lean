import Rangers.Model.Bls14Jac
import Rangers.Proofs.Bls14Curve
/-!
Jacobian ⇒ affine: the affine image `(x/z², y/z³)` of every `curvePoint` operation as the code
computes it is the affine operation of `Model/Bls14G1.lean`. Pure field algebra over `ZMod p`
(`p` prime); the curve equation is never used — add-2007-bl / dbl-2009-l are the chord and tangent
rule written projectively.
-/
namespace Rangers.Proofs.Bls14
open Rangers Rangers.Model.Bls14

variable [hp : Fact (Nat.Prime P)]

/-- All three coordinates reduced (always true of values held by the Go code). -/
def JRed (c : Jac) : Prop := c.x < P ∧ c.y < P ∧ c.z < P

noncomputable def jAffF (c : Jac) : Option (F × F) :=
  if (c.z : F) = 0 then none else some ((c.x : F) / (c.z : F) ^ 2, (c.y : F) / (c.z : F) ^ 3)

theorem cast_eq_zero_iff_of_lt {a : ℕ} (ha : a < P) : (a : F) = 0 ↔ a = 0 :=
  ⟨fun h => ZModCast.natCast_inj_of_lt ha P_pos (h.trans Nat.cast_zero.symm), fun h => by rw [h, Nat.cast_zero]⟩

theorem toPt_affF (c : Jac) (hr : JRed c) : ptAffF c.toPt = jAffF c ∧ c.toPt.reduced = true := by
  obtain ⟨hx, hy, hz⟩ := hr
  unfold Jac.toPt jMakeAffine jAffF
  by_cases h1 : c.z = 1
  · simp [h1, ptAffF, Pt.reduced, hx, hy]
  · by_cases h0 : c.z = 0
    · simp [h0, ptAffF, Pt.reduced]
    · have hzF : (c.z : F) ≠ 0 := fun h => h0 ((cast_eq_zero_iff_of_lt hz).mp h)
      simp only [beq_iff_eq, h1, h0, if_false, hzF]
      rw [if_neg (by decide : ¬ (1 = 0))]
      refine ⟨?_, by simp [Pt.reduced, fmul_lt]⟩
      simp only [ptAffF, cast_fmul, cast_finv, Option.some.injEq, Prod.mk.injEq]
      constructor <;> ring

omit hp in
/-- Both add-2007-bl and dbl-2009-l compute a slope numerator `R = l·Z3` over the common denominator
    `Z3`, and `X3`, `Y3` are the coordinates of `lineF` scaled by `Z3²`, `Z3³`. -/
theorem lineF_of_slope_numerator {K : Type*} [Field K] {l x1 x2 y1 R X3 Y3 Z3 : K} (hZ : Z3 ≠ 0)
    (hR : R = l * Z3) (hX : X3 = R ^ 2 - (x1 + x2) * Z3 ^ 2)
    (hY : Y3 = R * (x1 * Z3 ^ 2 - X3) - y1 * Z3 ^ 3) :
    (X3 / Z3 ^ 2, Y3 / Z3 ^ 3) = lineF l x1 x2 y1 := by
  rw [lineF, div_eq_iff (pow_ne_zero 2 hZ) |>.mpr, div_eq_iff (pow_ne_zero 3 hZ) |>.mpr]
  · rw [hY, hX, hR]; ring
  · rw [hX, hR]; ring

omit hp in
theorem jDouble_red (a : Jac) : JRed (jDouble a) :=
  ⟨fsub_lt _ _, fsub_lt _ _, fadd_lt _ _⟩

theorem jDouble_cast (a : Jac) :
    ((jDouble a).x : F) = (3 * (a.x : F) ^ 2) ^ 2 - 8 * a.x * (a.y : F) ^ 2 ∧
    ((jDouble a).y : F) =
      3 * (a.x : F) ^ 2 * (4 * a.x * (a.y : F) ^ 2 - (jDouble a).x) - 8 * (a.y : F) ^ 4 ∧
    ((jDouble a).z : F) = 2 * a.y * a.z := by
  refine ⟨?_, ?_, ?_⟩
  · simp only [jDouble, cast_fadd, cast_fsub, cast_fmul]; ring
  · -- the x-coordinate stays an atom
    generalize hc : ((jDouble a).x : F) = c
    simp only [jDouble, cast_fadd, cast_fsub, cast_fmul] at hc ⊢
    rw [hc]; ring
  · simp only [jDouble, cast_fadd, cast_fmul]; ring

theorem jAffF_of_ne (c : Jac) (hz : (c.z : F) ≠ 0) :
    ∃ x y : F, (c.x : F) = x * (c.z : F) ^ 2 ∧ (c.y : F) = y * (c.z : F) ^ 3 ∧ jAffF c = some (x, y) :=
  ⟨_, _, (div_mul_cancel₀ _ (pow_ne_zero 2 hz)).symm, (div_mul_cancel₀ _ (pow_ne_zero 3 hz)).symm,
    by rw [jAffF, if_neg hz]⟩

theorem jDouble_affF (a : Jac) : jAffF (jDouble a) = doubleF (jAffF a) := by
  obtain ⟨hx, hy, hz⟩ := jDouble_cast a
  by_cases hz0 : (a.z : F) = 0
  · have : ((jDouble a).z : F) = 0 := by rw [hz, hz0, mul_zero]
    simp [jAffF, this, hz0, doubleF]
  · obtain ⟨x, y, hX, hY, hA⟩ := jAffF_of_ne a hz0
    rw [hA]
    by_cases hy0 : y = 0
    · have : ((jDouble a).z : F) = 0 := by rw [hz, hY, hy0, zero_mul, mul_zero, zero_mul]
      simp [jAffF, this, doubleF, hy0]
    · have h2 := two_ne_zero' (hp := hp)
      have hz' : ((jDouble a).z : F) ≠ 0 := by
        rw [hz, hY]
        exact mul_ne_zero (mul_ne_zero h2 (mul_ne_zero hy0 (pow_ne_zero 3 hz0))) hz0
      rw [jAffF, if_neg hz']
      simp only [doubleF, hy0, if_false, Option.some.injEq]
      refine lineF_of_slope_numerator (R := 3 * (a.x : F) ^ 2) hz' ?_ ?_ ?_
      · rw [hz, hX, hY, div_mul_eq_mul_div, eq_div_iff (mul_ne_zero h2 hy0)]; ring
      · rw [hx, hz, hX, hY]; ring
      · rw [hy, hx, hz, hX, hY]; ring

/-- `h` and `s2 − s1` of `curvePoint.Add`. -/
def jH (a b : Jac) : ℕ := fsub (fmul b.x (fmul a.z a.z)) (fmul a.x (fmul b.z b.z))
def jT (a b : Jac) : ℕ :=
  fsub (fmul b.y (fmul a.z (fmul a.z a.z))) (fmul a.y (fmul b.z (fmul b.z b.z)))

/-- The general branch of `curvePoint.Add` (after the infinity and doubling exits). -/
def jAddGen (a b : Jac) : Jac :=
  let u1 := fmul a.x (fmul b.z b.z)
  let s1 := fmul a.y (fmul b.z (fmul b.z b.z))
  let h := jH a b
  let i := fmul (fadd h h) (fadd h h)
  let j := fmul h i
  let r := fadd (jT a b) (jT a b)
  let v := fmul u1 i
  let cx := fsub (fsub (fmul r r) j) (fadd v v)
  ⟨cx, fsub (fmul r (fsub v cx)) (fadd (fmul s1 j) (fmul s1 j)),
   fmul (fsub (fsub (fmul (fadd a.z b.z) (fadd a.z b.z)) (fmul a.z a.z)) (fmul b.z b.z)) h⟩

omit hp in
theorem jAdd_eq (a b : Jac) :
    jAdd a b =
      if a.z = 0 then b else if b.z = 0 then a
      else if (jH a b == 0 && jT a b == 0) = true then jDouble a else jAddGen a b := by
  unfold jAdd Jac.isInfinity
  by_cases h1 : a.z = 0
  · simp [h1]
  · by_cases h2 : b.z = 0
    · simp [h1, h2]
    · simp only [beq_iff_eq, h1, h2, if_false]
      rfl

theorem jAddGen_cast (a b : Jac) :
    ((jAddGen a b).x : F) =
      (2 * (jT a b : F)) ^ 2 - 4 * (jH a b : F) ^ 3 - 8 * (a.x * (b.z : F) ^ 2) * (jH a b : F) ^ 2 ∧
    ((jAddGen a b).y : F) =
      2 * (jT a b : F) * (4 * (a.x * (b.z : F) ^ 2) * (jH a b : F) ^ 2 - (jAddGen a b).x)
        - 8 * (a.y * (b.z : F) ^ 3) * (jH a b : F) ^ 3 ∧
    ((jAddGen a b).z : F) = 2 * a.z * b.z * (jH a b : F) := by
  refine ⟨?_, ?_, ?_⟩
  · simp only [jAddGen, cast_fadd, cast_fsub, cast_fmul]; ring
  · generalize hc : ((jAddGen a b).x : F) = c
    simp only [jAddGen, cast_fadd, cast_fsub, cast_fmul] at hc ⊢
    rw [hc]; ring
  · simp only [jAddGen, cast_fadd, cast_fsub, cast_fmul]; ring

omit hp in
theorem jAdd_red (a b : Jac) (ha : JRed a) (hb : JRed b) : JRed (jAdd a b) := by
  rw [jAdd_eq]
  split
  · exact hb
  · split
    · exact ha
    · split
      · exact jDouble_red a
      · exact ⟨fsub_lt _ _, fsub_lt _ _, fmul_lt _ _⟩

theorem jAdd_affF (a b : Jac) (ha : JRed a) (hb : JRed b) :
    jAffF (jAdd a b) = addF (jAffF a) (jAffF b) := by
  rw [jAdd_eq]
  by_cases hza : a.z = 0
  · have : (a.z : F) = 0 := by rw [hza]; simp
    simp [hza, jAffF, addF]
  have hzaF : (a.z : F) ≠ 0 := fun h => hza ((cast_eq_zero_iff_of_lt ha.2.2).mp h)
  obtain ⟨x1, y1, hX1, hY1, hA⟩ := jAffF_of_ne a hzaF
  rw [if_neg hza, hA]
  by_cases hzb : b.z = 0
  · have : (b.z : F) = 0 := by rw [hzb]; simp
    rw [if_pos hzb, hA]
    simp [jAffF, this, addF]
  have hzbF : (b.z : F) ≠ 0 := fun h => hzb ((cast_eq_zero_iff_of_lt hb.2.2).mp h)
  obtain ⟨x2, y2, hX2, hY2, hB⟩ := jAffF_of_ne b hzbF
  rw [if_neg hzb, hB]
  have hW : ((a.z : F) * b.z) ≠ 0 := mul_ne_zero hzaF hzbF
  have hH : (jH a b : F) = (x2 - x1) * ((a.z : F) * b.z) ^ 2 := by
    simp only [jH, cast_fsub, cast_fmul, hX1, hX2]; ring
  have hT : (jT a b : F) = (y2 - y1) * ((a.z : F) * b.z) ^ 3 := by
    simp only [jT, cast_fsub, cast_fmul, hY1, hY2]; ring
  have hXiff : x1 = x2 ↔ jH a b = 0 := by
    rw [← cast_eq_zero_iff_of_lt (show jH a b < P from fsub_lt _ _), hH, mul_eq_zero, sub_eq_zero,
      eq_comm]
    simp [hW]
  have hYiff : y1 = y2 ↔ jT a b = 0 := by
    rw [← cast_eq_zero_iff_of_lt (show jT a b < P from fsub_lt _ _), hT, mul_eq_zero, sub_eq_zero,
      eq_comm]
    simp [hW]
  by_cases hH0 : jH a b = 0
  · by_cases hT0 : jT a b = 0
    · have hc : (jH a b == 0 && jT a b == 0) = true := by simp [hH0, hT0]
      rw [if_pos hc, jDouble_affF, hA]
      simp only [addF, hXiff.mpr hH0, hYiff.mpr hT0, if_true]
    · -- opposite points: z = (…)·h = 0
      have hc : ¬ (jH a b == 0 && jT a b == 0) = true := by simp [hT0]
      have hz0 : ((jAddGen a b).z : F) = 0 := by
        rw [(jAddGen_cast a b).2.2, hH0, Nat.cast_zero, mul_zero]
      rw [if_neg hc, jAffF, if_pos hz0]
      simp only [addF, hXiff.mpr hH0, mt hYiff.mp hT0, if_true, if_false]
  · have hc : ¬ (jH a b == 0 && jT a b == 0) = true := by simp [hH0]
    have hXne : ¬ x1 = x2 := mt hXiff.mp hH0
    have hd : x2 - x1 ≠ 0 := sub_ne_zero.mpr (Ne.symm hXne)
    obtain ⟨hx, hy, hz⟩ := jAddGen_cast a b
    have hz' : ((jAddGen a b).z : F) ≠ 0 := by
      rw [hz, hH]
      exact mul_ne_zero (mul_ne_zero (mul_ne_zero (two_ne_zero' (hp := hp)) hzaF) hzbF)
        (mul_ne_zero hd (pow_ne_zero 2 hW))
    rw [if_neg hc, jAffF, if_neg hz']
    simp only [addF, hXne, if_false, Option.some.injEq]
    refine lineF_of_slope_numerator (R := 2 * (jT a b : F)) hz' ?_ ?_ ?_
    · rw [hz, hH, hT, div_mul_eq_mul_div, eq_div_iff hd]; ring
    · rw [hx, hz, hH, hT, hX1]; ring
    · rw [hy, hx, hz, hH, hT, hX1, hY1]; ring

theorem toPt_jAdd (a b : Jac) (ha : JRed a) (hb : JRed b) :
    (jAdd a b).toPt = Pt.add a.toPt b.toPt := by
  have h1 := toPt_affF (jAdd a b) (jAdd_red a b ha hb)
  have h2 := toPt_affF a ha
  have h3 := toPt_affF b hb
  apply ptAffF_inj _ _ h1.2 (pt_add_reduced _ _ h2.2 h3.2)
  rw [h1.1, jAdd_affF a b ha hb, ptAdd_affF, h2.1, h3.1]

theorem toPt_jDouble (a : Jac) (ha : JRed a) : (jDouble a).toPt = Pt.double a.toPt := by
  have h1 := toPt_affF (jDouble a) (jDouble_red a)
  have h2 := toPt_affF a ha
  apply ptAffF_inj _ _ h1.2 (pt_double_reduced _)
  rw [h1.1, jDouble_affF a, ptDouble_affF, h2.1]

omit hp in
theorem toPt_ofPt (p : Pt) (hr : p.reduced = true) : (Jac.ofPt p).toPt = p ∧ JRed (Jac.ofPt p) := by
  cases p with
  | inf => exact ⟨by decide, by decide, by decide, by decide⟩
  | aff x y =>
    simp only [Pt.reduced, Bool.and_eq_true, decide_eq_true_eq] at hr
    exact ⟨by simp [Jac.ofPt, Jac.toPt, jMakeAffine], hr.1, hr.2, show 1 < P by decide⟩

theorem toPt_jMulStep (a s : Jac) (ha : JRed a) (hs : JRed s) (bit : Bool) :
    (jMulStep a s bit).toPt =
      (if bit then Pt.add (Pt.double s.toPt) a.toPt else Pt.double s.toPt) ∧ JRed (jMulStep a s bit) := by
  cases bit with
  | false => exact ⟨by simp [jMulStep, toPt_jDouble s hs], jDouble_red s⟩
  | true =>
    simp only [jMulStep, if_true]
    rw [toPt_jAdd _ _ (jDouble_red s) ha, toPt_jDouble s hs]
    exact ⟨rfl, jAdd_red _ _ (jDouble_red s) ha⟩

theorem toPt_foldl (a : Jac) (ha : JRed a) (bs : List Bool) (s : Jac) (hs : JRed s) :
    (bs.foldl (jMulStep a) s).toPt =
      bs.foldl (fun s b => if b then Pt.add (Pt.double s) a.toPt else Pt.double s) s.toPt := by
  induction bs generalizing s with
  | nil => rfl
  | cons b bs ih =>
    simp only [List.foldl_cons]
    have h := toPt_jMulStep a s ha hs b
    rw [ih _ h.2, h.1]

theorem toPt_jMul (a : Jac) (ha : JRed a) (k : ℕ) : (jMul a k).toPt = Pt.mul a.toPt k := by
  unfold jMul Pt.mul
  -- `jMul` has one bit more than `Pt.mul`, the leading zero of `curvePoint.Mul`: its step doubles infinity, and
  -- the affine image of that is the `.inf` the fold of `Pt.mul` starts from (the closing `rfl`)
  rw [List.reverse_append, List.reverse_singleton, List.singleton_append, List.foldl_cons]
  have h0 := toPt_jMulStep a Jac.infinity ha ⟨by decide, by decide, by decide⟩ false
  rw [toPt_foldl a ha _ _ h0.2, h0.1]
  rfl

omit hp in
theorem jNeg_red (a : Jac) (ha : JRed a) : JRed (jNeg a) := ⟨ha.1, fneg_lt _, ha.2.2⟩

theorem toPt_jNeg (a : Jac) (ha : JRed a) : (jNeg a).toPt = a.toPt.neg := by
  have h1 := toPt_affF (jNeg a) (jNeg_red a ha)
  have h2 := toPt_affF a ha
  apply ptAffF_inj _ _ h1.2 (pt_neg_reduced _ h2.2)
  rw [h1.1, ptNeg_affF, h2.1]
  unfold jAffF
  simp only [jNeg, cast_fneg]
  split
  · rfl
  · simp [negF, neg_div]

end Rangers.Proofs.Bls14
