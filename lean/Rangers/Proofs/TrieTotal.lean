import Rangers.Proofs.TrieWalk
/- The branches in which the Go code would panic are unreachable for minimal-form tries and terminated keys. -/
namespace Rangers.Trie
open Rangers

theorem getPanicsAt_eq (cs : List Node) (i : Nat) (rest : Key) (h : i < cs.length) :
    getPanicsAt cs i rest = getPanics (cs[i]?.getD .nil) rest := by
  induction cs generalizing i with
  | nil => simp at h
  | cons c cs ih => cases i with
    | zero => simp [getPanicsAt]
    | succ i => simp [getPanicsAt, ih i (by simpa using h)]

theorem insertPanicsAt_eq (cs : List Node) (i : Nat) (rest : Key) (v : Node) (h : i < cs.length) :
    insertPanicsAt cs i rest v = insertPanics (cs[i]?.getD .nil) rest v := by
  induction cs generalizing i with
  | nil => simp at h
  | cons c cs ih => cases i with
    | zero => simp [insertPanicsAt]
    | succ i => simp [insertPanicsAt, ih i (by simpa using h)]

theorem deletePanicsAt_eq (cs : List Node) (i : Nat) (rest : Key) (h : i < cs.length) :
    deletePanicsAt cs i rest = deletePanics (cs[i]?.getD .nil) rest := by
  induction cs generalizing i with
  | nil => simp at h
  | cons c cs ih => cases i with
    | zero => simp [deletePanicsAt]
    | succ i => simp [deletePanicsAt, ih i (by simpa using h)]

theorem insertPanics_miss (p : Key) {a b : Nat} (kA kB : Key) (v val : Node) (hab : a ≠ b) (ha : a < 17) (hb : b < 17) :
    insertPanics (.short (p ++ a :: kA) v) (p ++ b :: kB) val = false := by
  have hm := prefixLen_diverge p kA kB hab
  obtain ⟨hA1, _, _⟩ := diverge_index p a kA
  obtain ⟨hB1, _, _⟩ := diverge_index p b kB
  obtain ⟨x, r, hxr⟩ : ∃ x r, p ++ b :: kB = x :: r := List.exists_cons_of_ne_nil (by simp)
  have hne : p.length ≠ (p ++ a :: kA).length := by simp
  have hlen : ¬ (p ++ b :: kB).length ≤ p.length := by simp
  rw [hxr] at hm hB1 hlen ⊢
  simp only [insertPanics, hm, hne, if_false, hA1, hB1, hlen, Nat.not_le.mpr ha, Nat.not_le.mpr hb, decide_false, Bool.or_self]

theorem no_panic_of_walk (val : Bytes) {t : Node} {k : Key} (w : Walk t k) :
    getPanics t k = false ∧ insertPanics t k (.value val) = false ∧ deletePanics t k = false := by
  induction w with
  | nil key => exact ⟨getPanics_nil key, insertPanics_nil key _, deletePanics_nil key⟩
  | value b _ => simp [getPanics, insertPanics, deletePanics]
  | miss p a kA b kB v hwf hk hab ha hb =>
    refine ⟨?_, insertPanics_miss p kA kB v _ hab ha hb, ?_⟩
    · simp only [getPanics, prefix_cond_iff, if_neg (not_prefix_of_diverge p kA kB hab)]
    · simp only [deletePanics, prefixLen_diverge p kA kB hab, List.length_append, List.length_cons]
      rw [if_pos (by omega)]
  | ext kk v r _ hne _ _ ih =>
    obtain ⟨ih1, ih2, ih3⟩ := ih
    have hm : prefixLen (kk ++ r) kk = kk.length := prefixLen_append_self kk r
    refine ⟨?_, ?_, ?_⟩
    · simp only [getPanics, prefix_cond_iff, if_pos (List.prefix_append kk r), List.drop_left, ih1]
    · obtain ⟨x, s, rfl⟩ := List.exists_cons_of_ne_nil hne
      have hm : prefixLen (x :: (s ++ r)) (x :: s) = (x :: s).length := hm
      have hd : (x :: (s ++ r)).drop (x :: s).length = r := List.drop_left (l₁ := x :: s)
      show insertPanics (.short (x :: s) v) (x :: (s ++ r)) (.value val) = false
      simp only [insertPanics, hm, if_true, hd, ih2]
    · simp only [deletePanics, hm, Nat.lt_irrefl, if_false, List.drop_left, ih3]
      split <;> rfl
  | slot cs i r hwf hi _ _ ih =>
    have hi : i < cs.length := by rw [((WF_full_iff cs).mp hwf).1]; exact hi
    simp only [getPanics, insertPanics, deletePanics, getPanicsAt_eq cs i r hi, insertPanicsAt_eq cs i r _ hi,
      deletePanicsAt_eq cs i r hi]
    exact ih

end Rangers.Trie
