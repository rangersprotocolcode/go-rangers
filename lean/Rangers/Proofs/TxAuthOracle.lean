import Rangers.Model.TxAuth
/-!
Oracle sufficiency: the verdict of `verifyTx` depends on the cryptographic primitives only
through the finitely many points listed by `queries`.  This is what makes the driver's
finite oracle table a faithful stand-in for the real functions: if the table answers every
query the model lists (the driver refuses otherwise), the model's verdict on the table equals
its verdict on the real primitives.
-/
namespace Rangers.Model.TxAuth
open Rangers

def Crypto.agreesOn (cr cr' : Crypto) : Query → Prop
  | .sha m => cr.sha256 m = cr'.sha256 m
  | .kec m => cr.keccak m = cr'.keccak m
  | .rcv m r s v => cr.recoverCore m r s v = cr'.recoverCore m r s v
  | .ver pk m r s => cr.verifyCore pk m r s = cr'.verifyCore pk m r s

/-- the shape every function of the model shares with its query list: the same guard in front of both -/
theorem guard_congr {α : Type} {c : Prop} [Decidable c] {d b b' : α} {L : List Query} {P : Query → Prop}
    (h : ∀ q ∈ (if c then [] else L), P q) (hb : (∀ q ∈ L, P q) → b = b') :
    (if c then d else b) = (if c then d else b') := by
  by_cases hc : c
  · rw [if_pos hc, if_pos hc]
  · rw [if_neg hc] at h
    rw [if_neg hc, if_neg hc, hb h]

theorem libRecover_congr (cr cr' : Crypto) (msg sig : Bytes)
    (h : ∀ q ∈ libRecoverQ msg sig, cr.agreesOn cr' q) : libRecover cr msg sig = libRecover cr' msg sig := by
  unfold libRecover
  unfold libRecoverQ at h
  exact guard_congr h fun h => guard_congr h fun h => h _ (List.mem_singleton.2 rfl)

theorem libVerify_congr (cr cr' : Crypto) (pk msg sig : Bytes)
    (h : ∀ q ∈ libVerifyQ pk msg sig, cr.agreesOn cr' q) : libVerify cr pk msg sig = libVerify cr' pk msg sig := by
  unfold libVerify
  unfold libVerifyQ at h
  exact guard_congr h fun h => guard_congr h fun h => guard_congr h fun h => h _ (List.mem_singleton.2 rfl)

theorem recoverPubkey_congr (cr cr' : Crypto) (msg sig : Bytes)
    (h : ∀ q ∈ recQ msg sig, cr.agreesOn cr' q) : recoverPubkey cr msg sig = recoverPubkey cr' msg sig := by
  unfold recoverPubkey
  unfold recQ at h
  exact guard_congr h fun h => guard_congr h fun h => guard_congr h (libRecover_congr cr cr' _ _)

theorem recoverPubkeyEth_congr (cr cr' : Crypto) (msg sig : Bytes)
    (h : ∀ q ∈ recQEth msg sig, cr.agreesOn cr' q) : recoverPubkeyEth cr msg sig = recoverPubkeyEth cr' msg sig := by
  unfold recoverPubkeyEth
  unfold recQEth at h
  exact guard_congr h fun h => guard_congr h fun h => guard_congr h (libRecover_congr cr cr' _ _)

theorem verifyNative_congr (cr cr' : Crypto) (cfg : ChainCfg) (ht : Nat) (tx : Tx)
    (h : ∀ q ∈ nativeQueries cr cfg ht tx, cr.agreesOn cr' q) :
    verifyNative cr cfg ht tx = verifyNative cr' cfg ht tx := by
  unfold verifyNative
  unfold nativeQueries at h
  refine guard_congr h fun h => ?_
  rw [← (h _ (List.mem_cons_self ..) : cr.sha256 (ser tx) = cr'.sha256 (ser tx))]
  refine guard_congr (fun q hq => h q (List.mem_cons_of_mem _ hq)) fun h => ?_
  suffices hvs : verifySign cr tx = verifySign cr' tx by rw [hvs]
  unfold verifySign
  generalize tx.sign = o at h ⊢
  cases o with
  | none => rfl
  | some sg =>
    dsimp only at h ⊢
    rw [← recoverPubkey_congr cr cr' _ _ (fun q hq => h q (List.mem_append_left _ hq))]
    generalize recoverPubkey cr tx.hash sg.bytes = o at h ⊢
    cases o with
    | none => rfl
    | some pk =>
      dsimp only at h ⊢
      rw [← libVerify_congr cr cr' _ _ _ (fun q hq => h q (List.mem_append_right _ (List.mem_append_left _ hq)))]
      cases hl : libVerify cr pk tx.hash (sg.bytes.take 64) with
      | false => rfl
      | true =>
        rw [hl, if_pos rfl] at h
        have hk : cr.keccak (getIDInput pk) = cr'.keccak (getIDInput pk) :=
          h _ (List.mem_append_right _ (List.mem_append_right _ (List.mem_singleton.2 rfl)))
        rw [nativeAddrStr, nativeAddrStr, hk]

theorem recoverPlain_congr (cr cr' : Crypto) (sh : Bytes) (r s : Nat) (vb : Int)
    (h : ∀ q ∈ recoverPlainQueries cr sh r s vb, cr.agreesOn cr' q) :
    recoverPlain cr sh r s vb = recoverPlain cr' sh r s vb := by
  unfold recoverPlain
  unfold recoverPlainQueries at h
  refine guard_congr h fun h => guard_congr h fun h => guard_congr h fun h => guard_congr h fun h => ?_
  dsimp only at h ⊢
  rw [← recoverPubkeyEth_congr cr cr' sh _ (fun q hq => h q (List.mem_append_left _ hq))]
  generalize recoverPubkeyEth cr sh _ = o at h ⊢
  cases o with
  | none => rfl
  | some pub =>
    dsimp only at h ⊢
    refine guard_congr (fun q hq => h q (List.mem_append_right _ hq)) fun h => ?_
    rw [(h _ (List.mem_singleton.2 rfl) : cr.keccak (pub.drop 1) = cr'.keccak (pub.drop 1))]

theorem ethSender_congr (cr cr' : Crypto) (c : Nat) (e : EthTx)
    (h : ∀ q ∈ ethSenderQueries cr c e, cr.agreesOn cr' q) : ethSender cr c e = ethSender cr' c e := by
  unfold ethSender
  unfold ethSenderQueries at h
  by_cases hp : ¬ isProtectedV e.v = true
  · rw [if_pos hp] at h
    rw [if_pos hp, if_pos hp, ← (h _ (List.mem_cons_self ..) : cr.keccak _ = cr'.keccak _)]
    exact recoverPlain_congr cr cr' _ _ _ _ (fun q hq => h q (List.mem_cons_of_mem _ hq))
  · rw [if_neg hp] at h
    rw [if_neg hp, if_neg hp]
    refine guard_congr h fun h => ?_
    rw [← (h _ (List.mem_cons_self ..) : cr.keccak _ = cr'.keccak _)]
    exact recoverPlain_congr cr cr' _ _ _ _ (fun q hq => h q (List.mem_cons_of_mem _ hq))

theorem verifyEth_congr (cr cr' : Crypto) (cfg : ChainCfg) (ht : Nat) (tx : Tx)
    (h : ∀ q ∈ ethQueries cr cfg ht tx, cr.agreesOn cr' q) :
    verifyEth cr cfg ht tx = verifyEth cr' cfg ht tx := by
  unfold verifyEth
  unfold ethQueries at h
  dsimp only
  generalize decodeTx (fromHex tx.extraData) = o at h ⊢
  cases o with
  | none => rfl
  | some e =>
    dsimp only at h ⊢
    refine guard_congr h fun h => ?_
    rw [← ethSender_congr cr cr' _ e (fun q hq => h q (List.mem_append_left _ hq))]
    generalize ethSender cr (ethChainId cfg ht) e = o at h ⊢
    cases o with
    | none => rfl
    | some sender =>
      have hk : cr.keccak (encodeTx e) = cr'.keccak (encodeTx e) :=
        h _ (List.mem_append_right _ (List.mem_singleton.2 rfl))
      dsimp only
      rw [convertTx, convertTx, hk]

end Rangers.Model.TxAuth
