import Rangers.Model.VrfSha512
import Rangers.Model.Vrf
import Rangers.Proofs.C16Vrf
/-! Output length of the SHA-512 model and of `ECVRFProve`'s result. -/
namespace Rangers.Proofs.C16Sha
open Rangers Rangers.Model Rangers.Model.VrfSha512

theorem compress_size (hs : Array UInt64) (blk : Bytes) : (compress hs blk).size = 8 := by
  simp [compress]

theorem blocks_size (fuel : Nat) (bs : Bytes) (hs : Array UInt64) (h : hs.size = 8) :
    (blocks fuel bs hs).size = 8 := by
  induction fuel generalizing bs hs with
  | zero => simpa [blocks] using h
  | succ f ih =>
    unfold blocks
    split
    · exact h
    · exact ih _ _ (compress_size _ _)

theorem flatMap_u64BE_length (l : List UInt64) : (l.flatMap u64BE).length = 8 * l.length := by
  induction l with
  | nil => simp
  | cons a l ih => simp [List.flatMap_cons, u64BE, ih]; omega

theorem sha512_length (m : Bytes) : (sha512 m).length = 64 := by
  unfold sha512
  simp only []
  rw [flatMap_u64BE_length, Array.length_toList, blocks_size _ _ _ (by decide)]

theorem prove_length (sk m pi : Bytes) (h : Vrf.prove sk m = .ok pi) : pi.length = Vrf.proveSize := by
  rw [(Rangers.Proofs.C16Vrf.proveWith_ok h).2]
  exact Rangers.Proofs.C16Vrf.honestProof_length (fun _ => Rangers.Proofs.C16Vrf.natToLE_length _ _)
    (fun a b c d => by simp [Vrf.ed25519Ops, VrfCurve.hashPoints, sha512_length]) _ _ _ _

end Rangers.Proofs.C16Sha
