import Rangers.Proofs.RLPTypedHead
/-! The decoders that read one string: what each of them accepts, as an iff in terms of the bytes
    the writers produce (`Stream.Bytes()` is in `RLPTypedHead`; here `Stream.uint`, `RawValue`,
    `[n]byte`). -/
namespace Rangers.RLP
open Rangers

/-- `Stream.uint(bits)` on kind and content -/
def uintOfCut (bits : Nat) : Kind → Bytes → Except Err Nat
  | .list, _ => .error .expectedString
  | .byte, c =>
    (match c with
      | [b] => if b.toNat = 0 then .error .canonInt else .ok b.toNat
      | _ => .error .eof)
  | .string, c =>
    if c.length > bits / 8 then .error .uintOverflow
    else if c.length = 0 then .ok 0
    else if c.length = 1 then
      (if headLt128 c = true then .error .canonSize else .ok (beNat c))
    else match c with
      | [] => .error .eof
      | b0 :: _ => if b0.toNat = 0 then .error .canonInt else .ok (beNat c)

theorem uintOf_eq (bits : Nat) (buf : Bytes) : uintOf bits buf = onCut buf (uintOfCut bits) := by
  rw [onCut_head]
  unfold uintOf
  cases hk : readHead buf with
  | error e => rfl
  | ok h =>
    obtain ⟨k, ts, cs⟩ := h
    have hc := cut_content hk
    dsimp only
    generalize (buf.drop ts).take cs = c at hc
    subst hc
    cases k with
    | list => rfl
    | byte =>
      cases c with
      | nil => rfl
      | cons b tl =>
        cases tl with
        | nil => simp only [uintOfCut, ite_bind]; rfl
        | cons _ _ => rfl
    | string =>
      cases c with
      | nil => simp only [uintOfCut, ite_bind]; rfl
      | cons b0 tl => simp only [uintOfCut, ite_bind]; rfl

theorem uintOfCut_big {bits : Nat} {c : Bytes} (hov : ¬ c.length > bits / 8)
    (hcan : ¬ (c.length = 1 ∧ headLt128 c = true)) : uintOfCut bits .string c = bigOfContent c := by
  simp only [uintOfCut, if_neg hov]
  cases c with
  | nil => rfl
  | cons b0 tl =>
    rw [if_neg (show ¬ (b0 :: tl).length = 0 from Nat.succ_ne_zero _)]
    by_cases h1 : (b0 :: tl).length = 1
    · have hlt : ¬ headLt128 (b0 :: tl) = true := fun h => hcan ⟨h1, h⟩
      have hb0 : ¬ b0.toNat = 0 := by intro h; apply hlt; simp [headLt128, h]
      simp only [if_pos h1, if_neg hlt, bigOfContent, if_neg hb0]
    · simp only [if_neg h1, bigOfContent]

/-- `n < 128`: `Stream.uint` passes a single byte below 0x80 whatever `bits`. -/
theorem uintOfCut_ok_iff {bits : Nat} {k : Kind} {c : Bytes} {n : Nat} (hf : Framed k c) :
    uintOfCut bits k c = .ok n ↔ bytesOfCut k c = .ok (toBE n) ∧ ((toBE n).length ≤ bits / 8 ∨ n < 128) := by
  cases k with
  | list => exact ⟨nofun, fun h => nomatch h.1⟩
  | byte =>
    obtain ⟨x, rfl, hx⟩ := hf.2 rfl
    show (if x.toNat = 0 then _ else _) = _ ↔ Except.ok [x] = _ ∧ _
    by_cases h0 : x.toNat = 0
    · rw [if_pos h0]
      exact ⟨nofun, fun ⟨h, _⟩ => absurd h0 (toBE_eq_singleton (Except.ok.inj h).symm).2⟩
    · rw [if_neg h0]
      constructor
      · intro h; cases h; rw [toBE_byte h0]; exact ⟨rfl, Or.inr hx⟩
      · intro ⟨h, _⟩; rw [(toBE_eq_singleton (Except.ok.inj h).symm).1]
  | string =>
    rw [bytesOfCut_ok_iff]
    unfold Canon
    simp only [ne_eq, reduceCtorEq, not_false_eq_true, true_and]
    by_cases hov : c.length > bits / 8
    · have : uintOfCut bits .string c = .error .uintOverflow := if_pos hov
      rw [this]
      refine ⟨nofun, fun ⟨⟨hcan, hc⟩, hl⟩ => ?_⟩
      subst hc
      -- too long for `bits`, so below 128: one byte, which the single-byte rule refuses
      have hn : n < 128 := by omega
      have hlen : (toBE n).length = 1 := by have := toBE_length_le 1 n (by omega); omega
      cases hb : toBE n with
      | nil => rw [hb] at hlen; cases hlen
      | cons x tl =>
        have : tl = [] := by rw [hb] at hlen; simpa using hlen
        subst this
        exact absurd ⟨hlen, by simp [hb, headLt128, ← (toBE_eq_singleton hb).1, hn]⟩ hcan
    · by_cases hcan : c.length = 1 ∧ headLt128 c = true
      · have : uintOfCut bits .string c = .error .canonSize := by
          simp only [uintOfCut, if_neg hov, if_neg (show ¬ c.length = 0 by omega), if_pos hcan.1, if_pos hcan.2]
        rw [this]
        exact ⟨nofun, fun ⟨⟨h, _⟩, _⟩ => absurd hcan h⟩
      · rw [uintOfCut_big hov hcan, bigOfContent_ok_iff]
        constructor
        · intro h; exact ⟨⟨hcan, h.symm⟩, Or.inl (by rw [← h]; omega)⟩
        · intro ⟨⟨_, h⟩, _⟩; exact h.symm

theorem uintOf_ok_iff {bits : Nat} {buf rest : Bytes} {n : Nat} :
    uintOf bits buf = .ok (n, rest) ↔
      bytesOf buf = .ok (toBE n, rest) ∧ ((toBE n).length ≤ bits / 8 ∨ n < 128) := by
  rw [uintOf_eq, bytesOf_eq, onCut_ok_iff, onCut_ok_iff]
  constructor
  · rintro ⟨k, c, hb, hf, h⟩
    obtain ⟨hs, hl⟩ := (uintOfCut_ok_iff hf).1 h
    exact ⟨⟨k, c, hb, hf, hs⟩, hl⟩
  · rintro ⟨⟨k, c, hb, hf, hs⟩, hl⟩
    exact ⟨k, c, hb, hf, (uintOfCut_ok_iff hf).2 ⟨hs, hl⟩⟩

theorem decT_raw_ok_iff {f : Nat} {buf rest : Bytes} {v : Val} :
    decT (f + 1) .raw buf = .ok (v, rest) ↔
      ∃ k c, buf = frame k c ++ rest ∧ Framed k c ∧ v = .bytes (frame k c) := by
  rw [decT_raw, onCut_ok_iff]
  simp only [Except.ok.injEq, eq_comm]

theorem decT_barr_ok_iff {f n : Nat} {buf rest : Bytes} {v : Val} :
    decT (f + 1) (.barr n) buf = .ok (v, rest) ↔
      ∃ c, bytesOf buf = .ok (c, rest) ∧ c.length = n ∧ v = .bytes c := by
  simp only [decT_barr, bytesOf_eq, onCut_ok_iff]
  constructor
  · rintro ⟨k, c, hb, hf, hg⟩
    suffices h : bytesOfCut k c = .ok c ∧ c.length = n ∧ v = .bytes c from ⟨c, ⟨k, c, hb, hf, h.1⟩, h.2⟩
    cases k with
    | list => cases hg
    | byte =>
      obtain ⟨x, rfl, _⟩ := hf.2 rfl
      simp only at hg
      by_cases h0 : n = 0
      · rw [if_pos h0] at hg; cases hg
      · by_cases h1 : n > 1
        · rw [if_neg h0, if_pos h1] at hg; cases hg
        · rw [if_neg h0, if_neg h1] at hg
          exact ⟨rfl, by simp only [List.length_singleton]; omega, (Except.ok.inj hg).symm⟩
    | string =>
      simp only at hg
      by_cases h0 : n < c.length
      · rw [if_pos h0] at hg; cases hg
      · by_cases h1 : n > c.length
        · rw [if_neg h0, if_pos h1] at hg; cases hg
        · by_cases hc : c.length = 1 ∧ headLt128 c = true
          · rw [if_neg h0, if_neg h1, if_pos hc] at hg; cases hg
          · rw [if_neg h0, if_neg h1, if_neg hc] at hg
            exact ⟨if_neg hc, by omega, (Except.ok.inj hg).symm⟩
  · rintro ⟨c, ⟨k, c', hb, hf, hs⟩, rfl, rfl⟩
    obtain ⟨hk, hcan, rfl⟩ := bytesOfCut_ok_iff.1 hs
    refine ⟨k, c, hb, hf, ?_⟩
    cases k with
    | list => exact absurd rfl hk
    | byte =>
      obtain ⟨x, rfl, _⟩ := hf.2 rfl
      exact (if_neg (Nat.succ_ne_zero 0)).trans (if_neg (Nat.lt_irrefl 1))
    | string =>
      exact (if_neg (Nat.lt_irrefl _)).trans ((if_neg (Nat.lt_irrefl _)).trans (if_neg fun h => hcan ⟨rfl, h⟩))

end Rangers.RLP
