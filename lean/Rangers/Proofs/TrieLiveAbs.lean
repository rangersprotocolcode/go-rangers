import Rangers.Model.TrieLive
/- Abstraction relation between live tries (flags, hash nodes) and fully loaded tries, with the first
   equation of `AbsL` and of `AbsLs`; a module of its own for the reason given in `TrieEquations`. -/
namespace Rangers.Trie
open Rangers

/-- the store holds, under its hash, the collapsed form of every node of the subtree `t` that its parent references by hash
    (RLP of 32 bytes or more): what `resolveHash` needs to load anything below `t`.  For `t` itself this asks nothing if it
    is shorter (`storeOf` with `force = false`; `stored_iff`). -/
def Stored (H : Bytes → Bytes) (st : Store) (t : Node) : Prop :=
  ∀ e ∈ storeOf H false t, st.lookup e.1 = some e.2

/-- what the cache flags of a live node standing for `t` promise:
    a cached hash is the hash of the node (and a child that has one is referenced by hash, i.e. its
    RLP is ≥ 32 bytes); a clean node has everything below it in the store, under its hash if it has
    one, and is an embedded (< 32 byte) child if it has none -/
def FlagOK (H : Bytes → Bytes) (st : Store) (child : Bool) (fl : Flag) (t : Node) : Prop :=
  (∀ h, fl.hash = some h → h = H (enc H t) ∧ (child = true → 32 ≤ (enc H t).length)) ∧
  (fl.dirty = false → Stored H st t ∧
    (match fl.hash with
     | some h => st.lookup h = some (collapse H t)
     | none => child = true ∧ (enc H t).length < 32))

/-- `l` is `t` unloaded: the hash node of `t`'s hash, with `t` and all below it in the store, so that `resolveHash` brings
    back a loaded node standing for `t` (`resolve_hashOf`) -/
def HashOf (H : Bytes → Bytes) (st : Store) (child : Bool) (t : Node) (l : LNode) : Prop :=
  l = .hash (H (enc H t)) ∧ WF t ∧ (child = true → 32 ≤ (enc H t).length) ∧
  Stored H st t ∧ st.lookup (H (enc H t)) = some (collapse H t)

mutual
/-- `l` is a loaded live node standing for `t` (children may be unloaded).  `child` tells a node below another (`true`) from
    the root (`false`): `hasher.hash` runs with `force = !child`, so only a child may be embedded in its parent instead of
    hashed (RLP under 32 bytes); the root is hashed whatever its size. -/
def AbsL (H : Bytes → Bytes) (st : Store) : Bool → Node → LNode → Prop
  | _, .nil, .nil => True
  | _, .value b, .value b' => b = b'
  | child, .short k v, .short k' lv fl =>
    k = k' ∧ (AbsL H st true v lv ∨ HashOf H st true v lv) ∧ FlagOK H st child fl (.short k v)
  | child, .full cs, .full lcs fl => AbsLs H st cs lcs ∧ FlagOK H st child fl (.full cs)
  | _, _, _ => False
def AbsLs (H : Bytes → Bytes) (st : Store) : List Node → List LNode → Prop
  | [], [] => True
  | c :: cs, l :: ls => (AbsL H st true c l ∨ HashOf H st true c l) ∧ AbsLs H st cs ls
  | _, _ => False
end

/-- the live node `l` stands for the loaded trie `t`, loaded or not: the relation the refinement theorems for `getL`,
    `insertL`, `deleteL` and `hashL` assume of their input and restore -/
def AbsR (H : Bytes → Bytes) (st : Store) (child : Bool) (t : Node) (l : LNode) : Prop :=
  AbsL H st child t l ∨ HashOf H st child t l

/-- `st'` answers every lookup that `st` answers, alike: what `dbInsert` does to the store, and all that `Stored`, `FlagOK`,
    `HashOf`, `AbsR` need to carry over (`.mono`) -/
def Extends (st st' : Store) : Prop := ∀ h c, st.lookup h = some c → st'.lookup h = some c

theorem AbsL_nil {H : Bytes → Bytes} {st : Store} {child : Bool} {l : LNode} : AbsL H st child .nil l ↔ l = .nil := by
  cases l <;> simp [AbsL]

theorem AbsLs_cons {H : Bytes → Bytes} {st : Store} {c : Node} {cs : List Node} {l : LNode} {ls : List LNode} :
    AbsLs H st (c :: cs) (l :: ls) ↔ AbsR H st true c l ∧ AbsLs H st cs ls := by
  simp only [AbsLs, AbsR]

end Rangers.Trie
