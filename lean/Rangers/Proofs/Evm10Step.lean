import Rangers.Model.Evm10Interp
import Rangers.Proofs.Evm10Exec
/-!
C10 — one interpreter iteration taken apart.  `step_elim` is the only proof that walks through
`step`: whatever holds of the results of the failing checks and of `stepExec` on every frame that
passed them holds of `step`.
-/
namespace Rangers.Proofs.Evm10
open Rangers Rangers.Model.Evm10 Rangers.Model.Evm10.U256

/-- the word-rounded memory size the loop derived from the slot's `memorySize` function -/
def MemSized (fn : MemFn) (st : List Word) (memorySize : Nat) : Prop :=
  (memorySizeOf fn st = .noFn ∧ memorySize = 0) ∨
  (∃ sz, memorySizeOf fn st = .size sz false ∧
         safeMul (toWordSize sz) 32 = (memorySize, false))

theorem step_elim {H : Bytes → Bytes} {t : Table} {p : GasParams} {f : Frame} {P : StepResult → Prop}
    (early : ∀ e, e ≠ .goPanic → P (.fail e)) (unm : ∀ n, P (.unmodelled n))
    (mpanic : ∀ info, t.get (getOp f.code f.pc) = some info → info.minStack ≤ f.stack.length →
      memorySizeOf info.memSize f.stack = .panic → P (.fail .goPanic))
    (exec : ∀ info gas2 last ms, t.get (getOp f.code f.pc) = some info →
      info.minStack ≤ f.stack.length → f.stack.length ≤ info.maxStack →
      MemSized info.memSize f.stack ms → P (stepExec H info f gas2 last ms)) :
    P (step H t p f) := by
  unfold step
  split
  · exact early _ (by decide)
  · rename_i info hget
    split
    · exact early _ (by decide)
    · split
      · exact early _ (by decide)
      · split
        · exact early _ (by decide)
        · have dyn : ∀ ms, MemSized info.memSize f.stack ms →
              P (match stepDynGas p info f (f.gas - info.constantGas) ms with
                | .error r => r
                | .ok (gas2, last) => stepExec H info f gas2 last ms) := by
            intro ms hms
            unfold stepDynGas
            cases dynGasOf p info.dynGas f.stack f.mem.length f.lastGasCost ms with
            | noFn => exact exec info _ _ ms hget (by omega) (by omega) hms
            | unmodelled n => exact unm n
            | error => exact early .outOfGas (by decide)
            | cost c last =>
              dsimp only
              by_cases hc : f.gas - info.constantGas < c
              · rw [if_pos hc]; exact early .outOfGas (by decide)
              · rw [if_neg hc]; exact exec info _ _ ms hget (by omega) (by omega) hms
          unfold stepMemSize
          cases hm : memorySizeOf info.memSize f.stack with
          | noFn => exact dyn 0 (Or.inl ⟨hm, rfl⟩)
          | panic => exact mpanic info hget (by omega) hm
          | unmodelled n => exact unm n
          | size sz ov =>
            dsimp only
            cases ov
            · cases ho : (safeMul (toWordSize sz) 32).2
              · exact dyn _ (Or.inr ⟨sz, hm, Prod.ext rfl ho⟩)
              · exact early .gasUintOverflow (by decide)
            · exact early .gasUintOverflow (by decide)

theorem stepExec_next {H : Bytes → Bytes} {info : OpInfo} {f f' : Frame} {gas2 last ms : Nat}
    (h : stepExec H info f gas2 last ms = .next f') :
    ∃ f1 res, execOp H info.exec (preExec f gas2 last ms) = .ok f1 res ∧ f' = postExec info f1 res := by
  unfold stepExec at h
  split at h
  · cases h
  · cases h
  · rename_i f1 res hex
    split at h
    · cases h
    · split at h
      · cases h
      · exact ⟨f1, res, hex, (StepResult.next.inj h).symm⟩

theorem stepExec_fail {H : Bytes → Bytes} {info : OpInfo} {f : Frame} {gas2 last ms : Nat} {e : Err}
    (h : stepExec H info f gas2 last ms = .fail e) :
    execOp H info.exec (preExec f gas2 last ms) = .err e := by
  unfold stepExec at h
  split at h
  · rename_i e' hex
    rw [hex, StepResult.fail.inj h]
  · cases h
  · split at h
    · cases h
    · split at h <;> cases h

theorem step_next_decomp {H : Bytes → Bytes} {t : Table} {p : GasParams} {f f' : Frame}
    (h : step H t p f = .next f') :
    ∃ info gas2 last memorySize f1 res,
      t.get (getOp f.code f.pc) = some info ∧
      info.minStack ≤ f.stack.length ∧ f.stack.length ≤ info.maxStack ∧
      MemSized info.memSize f.stack memorySize ∧
      execOp H info.exec (preExec f gas2 last memorySize) = .ok f1 res ∧
      f' = postExec info f1 res := by
  refine step_elim (P := fun r => r = .next f' → _) (fun _ _ => nofun) (fun _ => nofun)
    (fun _ _ _ _ => nofun) (fun info gas2 last ms hget hmin hmax hms h => ?_) h
  obtain ⟨f1, res, hex, hf⟩ := stepExec_next h
  exact ⟨info, gas2, last, ms, f1, res, hget, hmin, hmax, hms, hex, hf⟩

theorem preExec_mem_length (f : Frame) (gas2 last ms : Nat) :
    (preExec f gas2 last ms).mem.length = max f.mem.length ms := by
  simp only [preExec]
  split
  · exact resize_length _ _
  · omega

theorem postExec_eq (info : OpInfo) (f1 : Frame) (res : Bytes) :
    postExec info f1 res =
      { f1 with returnData := if info.returns then res else f1.returnData,
                pc := if info.jumps then f1.pc else f1.pc + 1 } := by
  unfold postExec
  cases info.returns <;> cases info.jumps <;> rfl

/-- the step-level `Changes`: memory is grown to the word-rounded size the slot asks for, and the pc
clause includes the loop's own `pc++` -/
theorem step_next_frame {H : Bytes → Bytes} {t : Table} {p : GasParams} {f f' : Frame}
    (hs : step H t p f = .next f') :
    ∃ info ms gas last st m pc rd, t.get (getOp f.code f.pc) = some info ∧
      MemSized info.memSize f.stack ms ∧
      f' = { f with gas := gas, lastGasCost := last, stack := st, mem := m, pc := pc,
                    returnData := rd } ∧
      m.length = max f.mem.length ms ∧
      (info.jumps = false → info.exec ≠ .opJump → info.exec ≠ .opJumpi →
        pc = f.pc + 1 + pushWidth info.exec) := by
  obtain ⟨info, gas2, last, ms, f1, res, hget, _, _, hms, hex, rfl⟩ := step_next_decomp hs
  obtain ⟨st, m, pc, rfl, hl, hpc⟩ := execOp_ok hex
  rw [postExec_eq]
  refine ⟨info, ms, gas2, last, st, m, _, _, hget, hms, rfl, by rw [hl, preExec_mem_length], ?_⟩
  intro hj h1 h2
  rw [hj, hpc h1 h2]
  exact Nat.add_right_comm _ _ _

theorem step_frame_const {H : Bytes → Bytes} {t : Table} {p : GasParams} {f f' : Frame}
    (hs : step H t p f = .next f') :
    f'.code = f.code ∧ f'.bitmap = f.bitmap ∧ f'.input = f.input := by
  obtain ⟨_, _, _, _, _, _, _, _, _, _, rfl, _, _⟩ := step_next_frame hs
  exact ⟨rfl, rfl, rfl⟩

end Rangers.Proofs.Evm10
