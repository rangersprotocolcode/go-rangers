import Rangers.Proofs.RLPTypedRT
/-! Fuel of the typed slice decoder: more fuel never changes a non-fuel result (`typed_mono`),
    and the fuel `decodeTy` hands out is never exhausted (`typed_fuel_suffices`). -/
namespace Rangers.RLP
open Rangers

def MonoAt (f : Nat) : Prop :=
  (∀ ty b, Stable (decT f ty b) (decT (f + 1) ty b)) ∧
  (∀ e c, Stable (decElems f e c) (decElems (f + 1) e c)) ∧
  (∀ e n c, Stable (decArr f e n c) (decArr (f + 1) e n c)) ∧
  (∀ fs c, Stable (decFields f fs c) (decFields (f + 1) fs c))

theorem mono_zero : MonoAt 0 :=
  ⟨fun _ _ h => absurd (decT_zero _ _) h, fun _ _ h => absurd (decElems_zero _ _) h,
   fun _ _ _ h => absurd (decArr_zero _ _ _) h, fun _ _ h => absurd (decFields_zero _ _) h⟩

theorem mono_succ {f : Nat} (ih : MonoAt f) : MonoAt (f + 1) := by
  obtain ⟨ihT, ihE, ihA, ihF⟩ := ih
  refine ⟨?_, ?_, ?_, ?_⟩
  · intro ty b
    cases ty with
    | any =>
      rw [decT_any, decT_any]
      refine bind_stable (fun _ => rfl) ?_
      rintro ⟨k, c, r⟩ _
      cases k <;> exact ihT _ _
    | ptr e => rw [decT_ptr, decT_ptr]; exact bind_stable (ihT e b) (fun _ _ _ => rfl)
    | slice e => rw [decT_slice, decT_slice]; exact onList_stable (ihE e)
    | arr n e => rw [decT_arr, decT_arr]; exact onList_stable (ihA e n)
    | struct fs => rw [decT_struct, decT_struct]; exact onList_stable (ihF fs)
    | _ => exact fun _ => rfl
  · intro e c
    cases c with
    | nil => exact fun _ => rfl
    | cons x xs => rw [decElems_cons, decElems_cons]; exact thenRest_stable (ihT _ _) (ihE e)
  · intro e n c
    cases n with
    | zero => exact fun _ => rfl
    | succ n =>
      cases c with
      | nil => exact fun _ => rfl
      | cons x xs => rw [decArr_cons, decArr_cons]; exact thenRest_stable (ihT _ _) (ihA e n)
  · intro fs c
    cases fs with
    | nil => exact fun _ => rfl
    | cons fld fs' =>
      obtain ⟨tag, ty⟩ := fld
      cases tag with
      | none =>
        cases c with
        | nil => exact fun _ => rfl
        | cons x xs => rw [decFields_none, decFields_none]; exact thenRest_stable (ihT _ _) (ihF fs')
      | tail =>
        cases ty with
        | slice e =>
          cases fs' with
          | nil => rw [decFields_tail, decFields_tail]; exact bind_stable (ihE e c) (fun _ _ _ => rfl)
          | cons _ _ => exact fun _ => rfl
        | _ => exact fun _ => rfl
      | nilOK =>
        cases ty with
        | ptr e =>
          cases c with
          | nil => exact fun _ => rfl
          | cons x xs =>
            rw [decFields_nilOK _ _ _ (List.cons_ne_nil x xs), decFields_nilOK _ _ _ (List.cons_ne_nil x xs)]
            refine bind_stable (fun _ => rfl) ?_
            rintro ⟨k, c, r⟩ _
            by_cases hc : c = [] ∧ k ≠ .byte
            · simp only [if_pos hc]; exact bind_stable (ihF fs' _) (fun _ _ _ => rfl)
            · simp only [if_neg hc]
              exact thenRest_stable (bind_stable (ihT e _) (fun _ _ _ => rfl)) (ihF fs')
        | _ => exact fun _ => rfl

theorem typed_mono : ∀ f, MonoAt f := by
  intro f
  induction f with
  | zero => exact mono_zero
  | succ f ih => exact mono_succ ih

theorem bytesOf_ne_fuel (buf : Bytes) : bytesOf buf ≠ .error .fuel := by
  rw [bytesOf_eq]
  refine onCut_ne_fuel fun k c _ _ _ => ?_
  cases k
  · nofun
  · exact ite_ne_fuel nofun nofun
  · nofun

theorem uintOf_ne_fuel (bits : Nat) (buf : Bytes) : uintOf bits buf ≠ .error .fuel := by
  rw [uintOf_eq]
  refine onCut_ne_fuel fun k c _ _ _ => ?_
  cases k with
  | list => nofun
  | byte =>
    cases c with
    | nil => nofun
    | cons b tl =>
      cases tl with
      | nil => exact ite_ne_fuel nofun nofun
      | cons _ _ => nofun
  | string =>
    refine ite_ne_fuel nofun (ite_ne_fuel nofun (ite_ne_fuel (ite_ne_fuel nofun nofun) ?_))
    cases c with
    | nil => nofun
    | cons b0 _ => exact ite_ne_fuel nofun nofun

theorem bigOfContent_ne_fuel (c : Bytes) : bigOfContent c ≠ .error .fuel := by
  cases c with
  | nil => nofun
  | cons b0 _ => exact ite_ne_fuel nofun nofun

theorem decT_leaf_ne_fuel (ty : Ty) (hl : ty.leaf = true) (f : Nat) (b : Bytes) : decT (f + 1) ty b ≠ .error .fuel := by
  cases ty with
  | raw => rw [decT_raw]; exact onCut_ne_fuel fun _ _ _ _ _ => nofun
  | uint bits => rw [decT_uint]; exact bind_ne_fuel (uintOf_ne_fuel bits b) (fun _ _ => nofun)
  | bool =>
    rw [decT_bool]
    exact bind_ne_fuel (uintOf_ne_fuel 8 b) fun r _ => ite_ne_fuel nofun (ite_ne_fuel nofun nofun)
  | big =>
    rw [decT_big]
    exact bind_ne_fuel (bytesOf_ne_fuel b) fun r _ => bind_ne_fuel (bigOfContent_ne_fuel r.1) (fun _ _ => nofun)
  | str => rw [decT_str]; exact bind_ne_fuel (bytesOf_ne_fuel b) (fun _ _ => nofun)
  | bytes => rw [decT_bytes]; exact bind_ne_fuel (bytesOf_ne_fuel b) (fun _ _ => nofun)
  | barr n =>
    rw [decT_barr]
    refine onCut_ne_fuel fun k c _ _ _ => ?_
    cases k
    · exact ite_ne_fuel nofun (ite_ne_fuel nofun nofun)
    · exact ite_ne_fuel nofun (ite_ne_fuel nofun (ite_ne_fuel nofun nofun))
    · nofun
  | _ => cases hl

/-- `tySize ty` units of fuel for every byte of the buffer and for two more suffice for `decT`; the
    loops take one unit on top of the weight of what they call, since they hand it their own buffer.
    The last clause: `decT .any` (weight 5) hands the slice decoder its own buffer one unit down,
    which is less than the first clause asks for `.slice .any` (weight 6). -/
def SuffAt (f : Nat) : Prop :=
  (∀ ty (b : Bytes), tySize ty * (b.length + 2) ≤ f → decT f ty b ≠ .error .fuel) ∧
  (∀ e (c : Bytes), tySize e * (c.length + 2) + 1 ≤ f → decElems f e c ≠ .error .fuel) ∧
  (∀ e n (c : Bytes), tySize e * (c.length + 2) + 1 ≤ f → decArr f e n c ≠ .error .fuel) ∧
  (∀ fs (c : Bytes), fieldsSize fs * (c.length + 2) + 1 ≤ f → decFields f fs c ≠ .error .fuel) ∧
  (∀ b : Bytes, tySize .any * (b.length + 2) ≤ f + 1 → decT f (.slice .any) b ≠ .error .fuel)

theorem suff_zero : SuffAt 0 := by
  refine ⟨?_, ?_, ?_, ?_, ?_⟩
  · intro ty b h
    have := tySize_pos ty
    have : 2 ≤ tySize ty * (b.length + 2) := by
      calc 2 = 1 * 2 := rfl
        _ ≤ tySize ty * (b.length + 2) := Nat.mul_le_mul this (by omega)
    omega
  · intros; omega
  · intros; omega
  · intros; omega
  · intro b h; simp only [tySize] at h; omega

/-- a list-shaped decoder hands its content (shorter than the buffer) to an inner decoder of weight `a` -/
theorem list_fuel {a L c f : Nat} (h : (a + 1) * (L + 2) ≤ f + 1) (hc : c + 1 ≤ L) : a * (c + 2) + 1 ≤ f := by
  have hm : a * (c + 2) ≤ a * (L + 1) := Nat.mul_le_mul_left a (by omega)
  have hs : (a + 1) * (L + 2) = a * (L + 1) + a + (L + 2) := by
    rw [Nat.add_mul, Nat.one_mul, Nat.mul_succ]
  omega

/-- a loop of weight `a ≥ 1` goes on with what is left after one value -/
theorem loop_fuel {a L r f : Nat} (ha : 1 ≤ a) (h : a * (L + 2) + 1 ≤ f + 1) (hr : r + 1 ≤ L) : a * (r + 2) + 1 ≤ f := by
  have hm : a * (r + 2) ≤ a * (L + 1) := Nat.mul_le_mul_left a (by omega)
  have hs : a * (L + 2) = a * (L + 1) + a := Nat.mul_succ a (L + 1)
  omega

theorem suff_succ {f : Nat} (ih : SuffAt f) : SuffAt (f + 1) := by
  obtain ⟨ihT, ihE, ihA, ihF, ihS⟩ := ih
  refine ⟨?_, ?_, ?_, ?_, ?_⟩
  · intro ty b hb
    cases ty with
    | any =>
      rw [decT_any]
      refine bind_ne_fuel (cut_ne_fuel b) ?_
      rintro ⟨k, c, r⟩ _
      have hbytes := ihT .bytes b (by simp only [tySize] at hb ⊢; omega)
      cases k
      · exact hbytes
      · exact hbytes
      · exact ihS b hb
    | ptr e =>
      rw [decT_ptr]
      simp only [tySize, Nat.add_mul, Nat.one_mul] at hb
      exact bind_ne_fuel (ihT e b (by omega)) (fun _ _ => nofun)
    | slice e =>
      rw [decT_slice]
      exact onList_ne_fuel fun c hc => ihE e c (list_fuel hb hc)
    | arr n e =>
      rw [decT_arr]
      exact onList_ne_fuel fun c hc => ihA e n c (list_fuel hb hc)
    | struct fs =>
      rw [decT_struct]
      exact onList_ne_fuel fun c hc => ihF fs c (list_fuel hb hc)
    | _ => exact decT_leaf_ne_fuel _ rfl f b
  · intro e c hb
    cases c with
    | nil => nofun
    | cons x xs =>
      rw [decElems_cons]
      refine thenRest_ne_fuel (ihT e _ (by omega)) fun v rest hd => ?_
      exact ihE e rest (loop_fuel (tySize_pos e) hb (decT_shorter hd))
  · intro e n c hb
    cases n with
    | zero => cases c <;> nofun
    | succ n =>
      cases c with
      | nil => nofun
      | cons x xs =>
        rw [decArr_cons]
        refine thenRest_ne_fuel (ihT e _ (by omega)) fun v rest hd => ?_
        exact ihA e n rest (loop_fuel (tySize_pos e) hb (decT_shorter hd))
  · intro fs c hb
    cases fs with
    | nil => cases c <;> nofun
    | cons fld fs' =>
      obtain ⟨tag, ty⟩ := fld
      simp only [fieldsSize, Nat.add_mul] at hb
      -- after one field's value the remaining fields see a shorter content
      have hrest : ∀ rest : Bytes, rest.length ≤ c.length → fieldsSize fs' * (rest.length + 2) + 1 ≤ f := by
        intro rest hl
        have := Nat.mul_le_mul_left (fieldsSize fs') (show rest.length + 2 ≤ c.length + 2 by omega)
        omega
      cases tag with
      | none =>
        cases c with
        | nil => nofun
        | cons x xs =>
          rw [decFields_none]
          refine thenRest_ne_fuel (ihT ty _ (by omega)) fun v rest hd => ?_
          exact ihF fs' rest (hrest rest (Nat.le_of_lt (decT_shorter hd)))
      | tail =>
        cases ty with
        | slice e =>
          cases fs' with
          | nil =>
            rw [decFields_tail]
            simp only [tySize, Nat.add_mul, Nat.one_mul] at hb
            exact bind_ne_fuel (ihE e c (by omega)) (fun _ _ => nofun)
          | cons _ _ => nofun
        | _ => nofun
      | nilOK =>
        cases ty with
        | ptr e =>
          cases c with
          | nil => nofun
          | cons x xs =>
            rw [decFields_nilOK _ _ _ (List.cons_ne_nil x xs)]
            simp only [tySize, Nat.add_mul, Nat.one_mul] at hb
            refine bind_ne_fuel (cut_ne_fuel _) ?_
            rintro ⟨k, c, r⟩ hcut
            by_cases hc : c = [] ∧ k ≠ .byte
            · simp only [if_pos hc]
              have hl := congrArg List.length (cut_ok_iff.1 hcut).1
              rw [List.length_append] at hl
              exact bind_ne_fuel (ihF fs' _ (hrest _ (by omega))) (fun _ _ => nofun)
            · simp only [if_neg hc]
              refine thenRest_ne_fuel (bind_ne_fuel (ihT e _ (by omega)) (fun _ _ => nofun)) fun v rest hd => ?_
              obtain ⟨r, hr, hv⟩ := bind_ok_iff.1 hd
              cases hv
              exact ihF fs' _ (hrest _ (Nat.le_of_lt (decT_shorter hr)))
        | _ => nofun
  · intro b hb
    rw [decT_slice]
    -- `decodeInterface` hands the slice decoder its own buffer, one call down; the loop then runs on the
    -- shorter content, where the weight 5 of `interface{}` pays for the three calls a level of data costs
    refine onList_ne_fuel fun c hc => ihE .any c ?_
    simp only [tySize] at hb ⊢
    omega

theorem typed_suff : ∀ f, SuffAt f := by
  intro f
  induction f with
  | zero => exact suff_zero
  | succ f ih => exact suff_succ ih

theorem typed_fuel_suffices (ty : Ty) (b : Bytes) : decT (typedFuel ty b) ty b ≠ .error .fuel :=
  (typed_suff _).1 ty b (by unfold typedFuel; omega)

theorem decT_typedFuel {f : Nat} {ty : Ty} {b : Bytes} {r : Val × Bytes} (h : decT f ty b = .ok r) :
    decT (typedFuel ty b) ty b = .ok r :=
  ok_of_fuel (fun f => (typed_mono f).1 ty b) h (typed_fuel_suffices ty b)

end Rangers.RLP
