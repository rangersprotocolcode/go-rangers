import Rangers.Proofs.RLPHead
import Rangers.Proofs.RLPBind
/-! Framing. A value stands in a buffer as `frame k c`: the byte itself, or `puthead`'s header for
    `c.length` followed by the content `c`.  The Stream's header parser accepts exactly
    `frame k c ++ rest` (`readHead_ok_iff`); `cut` (that parser plus the read of the content) and
    raw.go's `split` return `k`, `c`, `rest` from it (`cut_ok_iff`, `split_ok_iff`).  Every decoder of
    one value is `onCut buf g` with `g` a function of kind and content alone, so what it accepts and
    what it leaves are read off `onCut_ok_iff` without any position arithmetic. -/
namespace Rangers.RLP
open Rangers

theorem encHead_ne_nil (s l n : Nat) : encHead s l n ≠ [] := by
  unfold encHead; split <;> simp

theorem encString_nonbyte (c : Bytes) (h : ¬ (c.length = 1 ∧ headLt128 c = true)) :
    encString c = encHead 0x80 0xb7 c.length ++ c := by
  cases c with
  | nil => simp [encString]
  | cons x xs =>
    cases xs with
    | nil =>
      have hx : ¬ x.toNat < 128 := by simpa [headLt128] using h
      have : ¬ x.toNat ≤ 0x7f := by omega
      simp [encString, this]
    | cons y ys => simp [encString]

theorem encString_byte (x : UInt8) (h : x.toNat < 0x80) : encString [x] = [x] := by
  have : x.toNat ≤ 0x7f := by omega
  simp [encString, this]

theorem headLt128_take {l : Bytes} {n : Nat} (hn : 1 ≤ n) : headLt128 (l.take n) = headLt128 l := by
  cases l with
  | nil => simp
  | cons x xs =>
    cases n with
    | zero => omega
    | succ k => simp [headLt128]

/-- a value as it stands in a buffer: the byte itself, or `puthead`'s header followed by the content -/
def frame : Kind → Bytes → Bytes
  | .byte, c => c
  | k, c => encHead (smallTag k) (largeTag k) c.length ++ c

/-- what the header parsers demand of a content they delimit: a size that fits a `uint64`, and a
    `byte` is one byte below 0x80 -/
def Framed (k : Kind) (c : Bytes) : Prop :=
  c.length < 2 ^ 64 ∧ (k = .byte → ∃ x : UInt8, c = [x] ∧ x.toNat < 0x80)

/-- the single-byte rule (checked by raw.go's `readKind`, and by the Stream in `Bytes`/`uint`):
    a one-byte string below 0x80 is not written with a header -/
def Canon (k : Kind) (c : Bytes) : Prop := ¬ (k = .string ∧ c.length = 1 ∧ headLt128 c = true)

theorem frame_of_ne {k : Kind} (hk : k ≠ .byte) (c : Bytes) :
    frame k c = encHead (smallTag k) (largeTag k) c.length ++ c := by
  cases k with
  | byte => exact absurd rfl hk
  | string | list => rfl

theorem Framed.of_ne {k : Kind} {c : Bytes} (hk : k ≠ .byte) (hc : c.length < 2 ^ 64) : Framed k c :=
  ⟨hc, fun h => absurd h hk⟩

theorem frame_length {k : Kind} {c : Bytes} (h : Framed k c) :
    1 ≤ (frame k c).length ∧ (k ≠ .byte → c.length + 1 ≤ (frame k c).length) := by
  by_cases hk : k = .byte
  · obtain ⟨x, rfl, _⟩ := h.2 hk
    subst hk
    exact ⟨Nat.le_refl 1, fun h => absurd rfl h⟩
  · rw [frame_of_ne hk, List.length_append]
    have := List.length_pos_iff.2 (encHead_ne_nil (smallTag k) (largeTag k) c.length)
    exact ⟨by omega, fun _ => by omega⟩

theorem frame_encString {k : Kind} {c : Bytes} (hf : Framed k c) (hk : k ≠ .list) (hc : Canon k c) :
    frame k c = encString c := by
  cases k with
  | list => exact absurd rfl hk
  | byte =>
    obtain ⟨x, rfl, hx⟩ := hf.2 rfl
    exact (encString_byte x hx).symm
  | string => exact (encString_nonbyte c fun h => hc ⟨rfl, h⟩).symm

theorem encString_frame {b : Bytes} (hb : b.length < 2 ^ 64) :
    ∃ k, k ≠ .list ∧ Framed k b ∧ Canon k b ∧ encString b = frame k b := by
  by_cases hc : b.length = 1 ∧ headLt128 b = true
  · obtain ⟨h1, h2⟩ := hc
    cases b with
    | nil => cases h1
    | cons x xs =>
      cases xs with
      | cons _ _ => cases h1
      | nil =>
        have hx : x.toNat < 0x80 := by simpa [headLt128] using h2
        exact ⟨.byte, nofun, ⟨hb, fun _ => ⟨x, rfl, hx⟩⟩, nofun, encString_byte x hx⟩
  · exact ⟨.string, nofun, .of_ne nofun hb, fun h => hc h.2, encString_nonbyte b hc⟩

theorem frame_drop {k : Kind} {c : Bytes} {h : Nat} (hk : k ≠ .byte) (hlen : h + c.length = (frame k c).length)
    (tail : Bytes) : (frame k c ++ tail).drop h = c ++ tail := by
  rw [frame_of_ne hk] at hlen ⊢
  rw [List.append_assoc]
  exact List.drop_left' (by rw [List.length_append] at hlen; omega)

theorem frame_split {k : Kind} {c : Bytes} {ts : Nat} (hf : Framed k c) (h : ts + c.length = (frame k c).length)
    (rest : Bytes) :
    ((frame k c ++ rest).drop ts).take c.length = c ∧ (frame k c ++ rest).drop (ts + c.length) = rest := by
  refine ⟨?_, by rw [h]; exact List.drop_left' rfl⟩
  by_cases hk : k = .byte
  · subst hk
    obtain ⟨x, rfl, _⟩ := hf.2 rfl
    have : ts = 0 := Nat.add_right_cancel (h.trans (Nat.zero_add 1).symm)
    subst this
    rfl
  · rw [frame_drop hk h]
    exact List.take_left' rfl

theorem readHead_ok_iff {buf : Bytes} {k : Kind} {ts cs : Nat} :
    readHead buf = .ok (k, ts, cs) ↔
      ∃ c rest, buf = frame k c ++ rest ∧ Framed k c ∧ c.length = cs ∧ ts + cs = (frame k c).length := by
  constructor
  · intro h
    cases buf with
    | nil => cases h
    | cons b tl =>
      rw [readHead_cons] at h
      have hs := form_spec b.toNat_lt
      cases hf : form b.toNat with
      | byte =>
        simp only [hf] at h hs
        obtain ⟨_, heq⟩ := fits_ok.1 h
        cases heq
        exact ⟨[b], tl, rfl, ⟨Nat.one_lt_two_pow (by decide), fun _ => ⟨b, rfl, hs⟩⟩, rfl, rfl⟩
      | short k' n =>
        simp only [hf] at h hs
        obtain ⟨hle, heq⟩ := fits_ok.1 h
        cases heq
        obtain ⟨hk, hn, ht⟩ := hs
        simp only at hle
        have hcl : (tl.take cs).length = cs := by rw [List.length_take]; omega
        have hfr : frame k (tl.take cs) = b :: tl.take cs := by
          rw [frame_of_ne hk, hcl, encHead_small _ _ hn, ← ht, UInt8.ofNat_toNat]; rfl
        exact ⟨tl.take cs, tl.drop cs, by rw [hfr, List.cons_append, List.take_append_drop], .of_ne hk (by omega), hcl,
          by rw [hfr, List.length_cons, hcl, Nat.add_comm]⟩
      | long k' m =>
        simp only [hf] at h hs
        obtain ⟨hk, hm1, hm8, ht⟩ := hs
        cases hr : readSize tl m with
        | error e => rw [hr] at h; cases h
        | ok s =>
          simp only [hr] at h
          obtain ⟨hle, heq⟩ := fits_ok.1 h
          simp only [Prod.mk.injEq] at heq
          obtain ⟨rfl, rfl, rfl⟩ := heq
          obtain ⟨hl, hbe, h56⟩ := readSize_inv hr hm1
          have hlen : (toBE s).length = m := by rw [hbe, List.length_take]; omega
          simp only at hle
          have hcl : ((tl.drop m).take s).length = s := by rw [List.length_take, List.length_drop]; omega
          have hfr : frame k' ((tl.drop m).take s) = b :: (tl.take m ++ (tl.drop m).take s) := by
            rw [frame_of_ne hk, hcl, encHead_large _ _ h56, hlen, ← ht, UInt8.ofNat_toNat, hbe]; rfl
          refine ⟨(tl.drop m).take s, tl.drop (m + s), ?_, .of_ne hk (by rw [hcl]; exact lt_of_toBE_len (by omega)), hcl, ?_⟩
          · rw [hfr, List.cons_append, List.append_assoc, ← List.drop_drop, List.take_append_drop, List.take_append_drop]
          · rw [hfr, List.length_cons, List.length_append, hcl, List.length_take]; omega
  · rintro ⟨c, rest, rfl, hf, rfl, hlen⟩
    by_cases hkb : k = .byte
    · subst hkb
      obtain ⟨x, rfl, hx⟩ := hf.2 rfl
      have : ts = 0 := Nat.add_right_cancel (hlen.trans (Nat.zero_add 1).symm)
      subst this
      exact readHead_byte x rest hx
    · have : ts = (encHead (smallTag k) (largeTag k) c.length).length := by
        rw [frame_of_ne hkb, List.length_append] at hlen; omega
      subst this
      rw [frame_of_ne hkb, List.append_assoc]
      exact readHead_enc hkb c.length (c ++ rest) hf.1 (by simp)

/-- the next value of a slice as `Stream.Kind` and the read of its content delimit it: kind, content, rest -/
def cut (buf : Bytes) : Except Err (Kind × Bytes × Bytes) :=
  (readHead buf).bind fun h => .ok (h.1, (buf.drop h.2.1).take h.2.2, buf.drop (h.2.1 + h.2.2))

theorem cut_content {buf : Bytes} {k : Kind} {ts cs : Nat} (h : readHead buf = .ok (k, ts, cs)) :
    ((buf.drop ts).take cs).length = cs := by
  obtain ⟨c, rest, rfl, hf, rfl, hlen⟩ := readHead_ok_iff.1 h
  rw [(frame_split hf hlen rest).1]

theorem cut_ok_iff {buf c rest : Bytes} {k : Kind} :
    cut buf = .ok (k, c, rest) ↔ buf = frame k c ++ rest ∧ Framed k c := by
  unfold cut
  rw [bind_ok_iff]
  constructor
  · rintro ⟨⟨k', ts, cs⟩, hk, h⟩
    obtain ⟨c', rest', rfl, hf, rfl, hlen⟩ := readHead_ok_iff.1 hk
    obtain ⟨h1, h2⟩ := frame_split hf hlen rest'
    simp only [h1, h2] at h
    cases h
    exact ⟨rfl, hf⟩
  · rintro ⟨rfl, hf⟩
    have hlen : (frame k c).length - c.length + c.length = (frame k c).length := by
      by_cases hkb : k = .byte
      · obtain ⟨x, rfl, _⟩ := hf.2 hkb; subst hkb; rfl
      · have := (frame_length hf).2 hkb; omega
    obtain ⟨h1, h2⟩ := frame_split hf hlen rest
    exact ⟨_, readHead_ok_iff.2 ⟨c, rest, rfl, hf, rfl, hlen⟩, by simp only [h1, h2]⟩

theorem cut_ne_fuel (buf : Bytes) : cut buf ≠ .error .fuel :=
  bind_ne_fuel (readHead_ne_fuel buf) (fun _ _ => nofun)

/-- the single-byte rule as raw.go's `readKind` checks it (on the buffer behind the header) is the rule on the content -/
theorem canon_iff {b : Bytes} {k : Kind} {ts cs : Nat} (h : readHead b = .ok (k, ts, cs)) :
    ¬ (k = .string ∧ cs = 1 ∧ headLt128 (b.drop ts) = true) ↔ Canon k ((b.drop ts).take cs) := by
  unfold Canon
  rw [cut_content h]
  constructor
  · rintro h ⟨h1, rfl, h3⟩; rw [headLt128_take (Nat.le_refl 1)] at h3; exact h ⟨h1, rfl, h3⟩
  · rintro h ⟨h1, rfl, h3⟩; rw [← headLt128_take (Nat.le_refl 1)] at h3; exact h ⟨h1, rfl, h3⟩

theorem split_ok_iff {b c rest : Bytes} {k : Kind} :
    split b = .ok (k, c, rest) ↔ b = frame k c ++ rest ∧ Framed k c ∧ Canon k c := by
  have hs : split b = (readKind b).bind fun h => .ok (h.1, (b.drop h.2.1).take h.2.2, b.drop (h.2.1 + h.2.2)) := by
    unfold split; cases readKind b <;> rfl
  rw [hs, bind_ok_iff, ← and_assoc, ← cut_ok_iff, cut, bind_ok_iff]
  constructor
  · rintro ⟨⟨k', ts, cs⟩, hk, h⟩
    cases h
    obtain ⟨hh, hc⟩ := (readKind_iff_readHead ..).1 hk
    exact ⟨⟨_, hh, rfl⟩, (canon_iff hh).1 hc⟩
  · rintro ⟨⟨⟨k', ts, cs⟩, hh, h⟩, hc⟩
    cases h
    exact ⟨_, (readKind_iff_readHead ..).2 ⟨hh, (canon_iff hh).2 hc⟩, rfl⟩

theorem split_ne_fuel (b : Bytes) : split b ≠ .error .fuel := by
  unfold split
  cases h : readKind b with
  | error e => intro he; injection he with he; subst he; exact readKind_ne_fuel b h
  | ok r => nofun

section onCut
variable {α : Type}

/-- a decoder that interprets kind and content of the next value and leaves what follows it -/
def onCut (buf : Bytes) (g : Kind → Bytes → Except Err α) : Except Err (α × Bytes) :=
  (cut buf).bind fun r => (g r.1 r.2.1).bind fun a => .ok (a, r.2.2)

/-- `onCut` in the terms the model's decoders are written in: header, then content and rest by position -/
theorem onCut_head (g : Kind → Bytes → Except Err α) {buf : Bytes} :
    onCut buf g =
      match readHead buf with
      | .error e => .error e
      | .ok (k, ts, cs) => (g k ((buf.drop ts).take cs)).bind fun a => .ok (a, buf.drop (ts + cs)) := by
  unfold onCut cut
  cases readHead buf <;> rfl

theorem onCut_ok_iff {buf rest : Bytes} {g : Kind → Bytes → Except Err α} {a : α} :
    onCut buf g = .ok (a, rest) ↔ ∃ k c, buf = frame k c ++ rest ∧ Framed k c ∧ g k c = .ok a := by
  unfold onCut
  rw [bind_ok_iff]
  constructor
  · rintro ⟨⟨k, c, rest'⟩, hc, h⟩
    obtain ⟨a', hg, h⟩ := bind_ok_iff.1 h
    cases h
    obtain ⟨hb, hf⟩ := cut_ok_iff.1 hc
    exact ⟨k, c, hb, hf, hg⟩
  · rintro ⟨k, c, hb, hf, hg⟩
    exact ⟨_, cut_ok_iff.2 ⟨hb, hf⟩, bind_ok_iff.2 ⟨a, hg, rfl⟩⟩

theorem onCut_ne_fuel {buf : Bytes} {g : Kind → Bytes → Except Err α}
    (h : ∀ k c rest, buf = frame k c ++ rest → Framed k c → g k c ≠ .error .fuel) : onCut buf g ≠ .error .fuel :=
  bind_ne_fuel (cut_ne_fuel buf) fun ⟨k, c, rest⟩ hc =>
    bind_ne_fuel (h k c rest (cut_ok_iff.1 hc).1 (cut_ok_iff.1 hc).2) (fun _ _ => nofun)

theorem onCut_stable {buf : Bytes} {g g' : Kind → Bytes → Except Err α} (h : ∀ k c, Stable (g k c) (g' k c)) :
    Stable (onCut buf g) (onCut buf g') :=
  bind_stable (fun _ => rfl) fun _ _ => bind_stable (h _ _) (fun _ _ _ => rfl)

end onCut

end Rangers.RLP
