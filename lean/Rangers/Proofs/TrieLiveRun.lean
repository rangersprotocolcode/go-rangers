import Rangers.Proofs.TrieLiveSim
import Rangers.Proofs.TrieYPRoot
/- Run-level simulation; a height bound for the iteration fuel from the key sizes in the history. -/
namespace Rangers.Trie
open Rangers

theorem nrun_state (H : Bytes → Bytes) (t : Node) (ops : List Op) : (nrun H t ops).1 = ops.foldl applyOp t := by
  induction ops generalizing t with
  | nil => rfl
  | cons op ops ih =>
    simp only [nrun, List.foldl_cons]
    rw [ih]
    cases op <;> rfl

theorem lrun_sim {H : Bytes → Bytes} {U : Node → Prop} (hok : HashOK H U) (F : Nat) (ops : List Op) :
    ∀ (lt : LTrie) (t : Node), Sim H U lt t → (∀ pre, pre <+: ops → Admits H U F (pre.foldl applyOp t)) →
      (lrun H F lt ops).2 = (nrun H t ops).2 ∧ Sim H U (lrun H F lt ops).1 (nrun H t ops).1 := by
  induction ops with
  | nil => intro lt t h _; exact ⟨rfl, h⟩
  | cons op ops ih =>
    intro lt t h ha
    obtain ⟨ho, hs⟩ := sim_step hok F h (ha [] List.nil_prefix) op
    have hst : (nstep H t op).1 = applyOp t op := by cases op <;> rfl
    obtain ⟨ro, rs⟩ := ih _ _ hs (fun pre hp => by
      have := ha (op :: pre) (by simpa [List.cons_prefix_cons] using hp)
      simpa [hst] using this)
    simp only [lrun, nrun]
    exact ⟨by rw [ho, ro], rs⟩

mutual
/-- the node and all nodes below it: what a hash hypothesis about a trie has to speak of -/
def subnodes : Node → List Node
  | .nil => [.nil]
  | .value b => [.value b]
  | .short k v => .short k v :: subnodes v
  | .full cs => .full cs :: subnodesL cs
def subnodesL : List Node → List Node
  | [] => []
  | c :: cs => subnodes c ++ subnodesL cs
end

theorem self_mem_subnodes (t : Node) : t ∈ subnodes t := by
  cases t <;> simp [subnodes]

theorem mem_subnodesL {cs : List Node} {x : Node} : x ∈ subnodesL cs ↔ ∃ c ∈ cs, x ∈ subnodes c := by
  induction cs with
  | nil => simp [subnodesL]
  | cons c cs ih => simp [subnodesL, ih]

theorem subnodes_trans (b : Node) : ∀ a x, a ∈ subnodes b → x ∈ subnodes a → x ∈ subnodes b := by
  induction b using Node.induct with
  | hnil => intro a x ha hx; simp [subnodes] at ha; subst ha; exact hx
  | hval v => intro a x ha hx; simp [subnodes] at ha; subst ha; exact hx
  | hshort k v ih =>
    intro a x ha hx
    simp only [subnodes, List.mem_cons] at ha
    rcases ha with rfl | ha
    · exact hx
    · simp only [subnodes, List.mem_cons]; right; exact ih a x ha hx
  | hfull cs ih =>
    intro a x ha hx
    simp only [subnodes, List.mem_cons] at ha
    rcases ha with rfl | ha
    · exact hx
    · obtain ⟨c, hc, hac⟩ := mem_subnodesL.mp ha
      simp only [subnodes, List.mem_cons]; right
      exact mem_subnodesL.mpr ⟨c, hc, ih c hc a x hac hx⟩

/-- the nodes that occur in the history: all nodes of all intermediate tries (a finite set) -/
def Occurs (ops : List Op) (t : Node) : Prop := ∃ pre, pre <+: ops ∧ t ∈ subnodes (run pre)

theorem occurs_run {ops pre : List Op} (h : pre <+: ops) : Occurs ops (run pre) := ⟨pre, h, self_mem_subnodes _⟩

theorem closedU_occurs (ops : List Op) : ClosedU (Occurs ops) := by
  constructor
  · rintro k v ⟨pre, hp, hm⟩
    exact ⟨pre, hp, subnodes_trans _ _ _ hm (by simp [subnodes, self_mem_subnodes])⟩
  · rintro cs ⟨pre, hp, hm⟩ c hc
    refine ⟨pre, hp, subnodes_trans _ _ _ hm ?_⟩
    simp only [subnodes, List.mem_cons]; right
    exact mem_subnodesL.mpr ⟨c, hc, self_mem_subnodes c⟩

/-- the longest key written in the history, in bytes: it bounds the height of every trie the history passes through
    (`height_run_le`), and so the iteration fuel -/
def maxKeyBytes : List Op → Nat
  | [] => 0
  | .upd k _ :: ops => max k.length (maxKeyBytes ops)
  | _ :: ops => maxKeyBytes ops

theorem finalMap_written (ops : List Op) (m : Bytes → Option Bytes) (k v : Bytes)
    (h : ops.foldl specStep m k = some v) : m k = some v ∨ ∃ v', Op.upd k v' ∈ ops := by
  induction ops generalizing m with
  | nil => exact Or.inl h
  | cons op ops ih =>
    simp only [List.foldl_cons] at h
    rcases ih _ h with h1 | ⟨v', hv'⟩
    · cases op with
      | upd k' v' =>
        simp only [specStep] at h1
        by_cases hk : k = k'
        · subst hk; exact Or.inr ⟨v', by simp⟩
        · simp only [hk, if_false] at h1; exact Or.inl h1
      | del k' =>
        simp only [specStep] at h1
        by_cases hk : k = k'
        · simp [hk] at h1
        · simp only [hk, if_false] at h1; exact Or.inl h1
      | _ => exact Or.inl h1
    · exact Or.inr ⟨v', by simp [hv']⟩

theorem length_le_maxKeyBytes (ops : List Op) (k v : Bytes) (h : Op.upd k v ∈ ops) : k.length ≤ maxKeyBytes ops := by
  induction ops with
  | nil => simp at h
  | cons op ops ih =>
    cases h with
    | head => simp [maxKeyBytes]; exact Nat.le_max_left _ _
    | tail _ h' =>
      have := ih h'
      cases op with
      | upd k' _ => exact Nat.le_trans this (Nat.le_max_right k'.length _)
      | _ => exact this

theorem height_run_le (ops : List Op) {m : Nat} (hm : ∀ k v, Op.upd k v ∈ ops → k.length ≤ m) :
    height (run ops) ≤ 2 * m + 2 := by
  rcases (represents_run ops).wf with h | hwf
  · rw [h]; simp [height]
  · obtain ⟨e, he, hle⟩ := height_le_some_path _ hwf
    obtain ⟨k, hk, hmap⟩ := (represents_run ops).mem_iter.mp he
    rcases finalMap_written ops _ k e.2 hmap with h0 | ⟨v', hv'⟩
    · cases h0
    · have := hm k v' hv'
      rw [hk] at hle
      simp only [keybytesToHex, List.length_append, length_hexOfBytes, List.length_singleton] at hle
      omega

section
variable {H : Bytes → Bytes} {ops : List Op} {F : Nat} (hF : 4 * maxKeyBytes ops + 6 ≤ F)
  (hsz : ∀ pre, pre <+: ops → (enc H (run pre)).length < 256 ^ 8)
include hF hsz

theorem admits_run {pre : List Op} (hp : pre <+: ops) : Admits H (Occurs ops) F (run pre) :=
  ⟨occurs_run hp, by have := height_run_le pre (fun k v h => length_le_maxKeyBytes ops k v (hp.subset h)); omega, hsz pre hp⟩

theorem lrun_empty (hok : HashOK H (Occurs ops)) :
    (lrun H F LTrie.empty ops).2 = (nrun H .nil ops).2 ∧ Sim H (Occurs ops) (lrun H F LTrie.empty ops).1 (run ops) := by
  have := lrun_sim hok F ops LTrie.empty .nil (sim_empty H _) (fun pre hp => admits_run hF hsz hp)
  rwa [nrun_state] at this

theorem lstep_after_run (hok : HashOK H (Occurs ops)) (op : Op) :
    (lstep H F (lrun H F LTrie.empty ops).1 op).2 = (nstep H (run ops) op).2 :=
  (sim_step hok F (lrun_empty hF hsz hok).2 (admits_run hF hsz (List.prefix_refl _)) op).1

end

end Rangers.Trie
