import Rangers.Model.Pool
/-! Lemmas about `Transactions.Less` and the insertion sort of the pool model. -/
namespace Rangers.Pool

theorem Cmp.ofBool_ne_panic (b : Bool) : Cmp.ofBool b ≠ .panic := by
  cases b <;> decide

theorem ite_ne_panic {p : Prop} [Decidable p] {x y : Cmp} (hx : x ≠ .panic) (hy : y ≠ .panic) :
    (if p then x else y) ≠ .panic := by
  split <;> assumption

theorem lessRes_panic_iff {c : Cfg} {a b : Tx} :
    lessRes c a b = .panic ↔
      (a.req = 0 ∧ b.req = 0) ∧ c.p023 = true ∧ a.src = b.src ∧ a.nonce = b.nonce ∧ a.hash = b.hash := by
  unfold lessRes
  by_cases hr : a.req = 0 ∧ b.req = 0
  · rw [if_pos hr]
    by_cases h23 : c.p023 = true
    · rw [if_pos h23]
      by_cases hs : a.src = b.src
      · rw [if_pos hs]
        by_cases hn : a.nonce = b.nonce
        · rw [if_neg (not_not_intro hn)]
          by_cases hh : a.hash = b.hash
          · rw [if_pos hh]; exact iff_of_true rfl ⟨hr, h23, hs, hn, hh⟩
          · rw [if_neg hh]; exact iff_of_false (Cmp.ofBool_ne_panic _) (fun h => hh h.2.2.2.2)
        · rw [if_pos hn]; exact iff_of_false (Cmp.ofBool_ne_panic _) (fun h => hn h.2.2.2.1)
      · rw [if_neg hs]; exact iff_of_false (Cmp.ofBool_ne_panic _) (fun h => hs h.2.2.1)
    · rw [if_neg h23]
      exact iff_of_false
        (ite_ne_panic (ite_ne_panic (Cmp.ofBool_ne_panic _) (Cmp.ofBool_ne_panic _))
          (ite_ne_panic (Cmp.ofBool_ne_panic _) (Cmp.ofBool_ne_panic _)))
        (fun h => h23 h.2.1)
  · rw [if_neg hr]; exact iff_of_false (Cmp.ofBool_ne_panic _) (fun h => hr h.1)

theorem less_eq_true_iff {c : Cfg} {a b : Tx} : less c a b = true ↔ lessRes c a b = .lt := by
  unfold less; cases lessRes c a b <;> decide

/-- sorted as `sort.Sort` leaves a slice: no element is `Less` than one in front of it -/
def SortedBy (c : Cfg) (l : List Tx) : Prop := l.Pairwise (fun a b => less c b a = false)

theorem strictChain_iff {c : Cfg} : ∀ {r : List Tx},
    strictChain c r = true ↔ r.Pairwise (fun x y => lessRes c x y = .lt ∧ lessRes c y x = .ge)
  | [] => iff_of_true rfl .nil
  | x :: xs => by
    simp only [strictChain, Bool.and_eq_true, List.all_eq_true, beq_iff_eq, List.pairwise_cons, strictChain_iff (r := xs)]

/-- `Less` is a strict weak order on the transactions `S` holds of. `negtrans`, transitivity of "not less", is the form
insertion needs (`x` stops in front of `y`, so it is not less than anything behind `y`); transitivity of `Less` would say
nothing about elements neither of which is less than the other. -/
structure WeakOrderOn (c : Cfg) (S : Tx → Prop) : Prop where
  asymm : ∀ a b, S a → S b → less c a b = true → less c b a = false
  negtrans : ∀ a b d, S a → S b → S d → less c a b = false → less c b d = false → less c a d = false

theorem insRev_spec (c : Cfg) (x : Tx) (l : List Tx) :
    match insRev c x l with
    | some r => r.Perm (x :: l) ∧ ∀ {S : Tx → Prop}, WeakOrderOn c S → S x → (∀ y ∈ l, S y) →
        l.Pairwise (fun p q => less c p q = false) → r.Pairwise (fun p q => less c p q = false)
    | none => ∃ y ∈ l, y.hash = x.hash := by
  fun_induction insRev c x l with
  | case1 => exact ⟨List.Perm.refl _, fun _ _ _ _ => List.pairwise_singleton _ _⟩
  | case2 y ys hlt ih =>
    -- `x` goes further left: `y` stays in front of `x` and of what it was in front of
    cases hr : insRev c x ys with
    | none => rw [hr] at ih; obtain ⟨z, hz, e⟩ := ih; exact ⟨z, List.mem_cons_of_mem _ hz, e⟩
    | some r' =>
      rw [hr] at ih
      refine ⟨(ih.1.cons y).trans (List.Perm.swap x y ys), fun W hx hS hp => ?_⟩
      have hp' := List.pairwise_cons.mp hp
      refine List.pairwise_cons.mpr ⟨fun q hq => ?_, ih.2 W hx (fun z hz => hS z (List.mem_cons_of_mem _ hz)) hp'.2⟩
      rcases List.mem_cons.mp (ih.1.mem_iff.mp hq) with rfl | hq'
      · exact W.asymm _ _ hx (hS y (List.mem_cons_self ..)) (less_eq_true_iff.mpr hlt)
      · exact hp'.1 q hq'
  | case3 y ys hge =>
    -- `x` stops in front of `y`: not less than `y`, hence than nothing behind `y`
    refine ⟨List.Perm.refl _, fun W hx hS hp => ?_⟩
    have hxy : less c x y = false := by rw [less, hge]; rfl
    refine List.pairwise_cons.mpr ⟨fun q hq => ?_, hp⟩
    rcases List.mem_cons.mp hq with rfl | hq'
    · exact hxy
    · exact W.negtrans _ _ _ hx (hS y (List.mem_cons_self ..)) (hS q (List.mem_cons_of_mem _ hq')) hxy
        ((List.pairwise_cons.mp hp).1 q hq')
  | case4 y ys hp => exact ⟨y, List.mem_cons_self .., (lessRes_panic_iff.mp hp).2.2.2.2.symm⟩

theorem sortRev_spec (c : Cfg) (l acc : List Tx) :
    match sortRev c l acc with
    | some r => r.Perm (l ++ acc) ∧ ∀ {S : Tx → Prop}, WeakOrderOn c S → (∀ y ∈ l ++ acc, S y) →
        acc.Pairwise (fun p q => less c p q = false) → r.Pairwise (fun p q => less c p q = false)
    | none => ¬ ((l ++ acc).map (·.hash)).Nodup := by
  fun_induction sortRev c l acc with
  | case1 acc => exact ⟨List.Perm.refl _, fun _ _ hp => hp⟩
  | case2 x xs acc acc' hins ih =>
    have hi := insRev_spec c x acc
    rw [hins] at hi
    have hperm : (xs ++ acc').Perm (x :: xs ++ acc) := (List.Perm.append_left xs hi.1).trans List.perm_middle
    cases hs : sortRev c xs acc' with
    | none => rw [hs] at ih; exact fun hn => ih ((hperm.map _).nodup_iff.mpr hn)
    | some r =>
      rw [hs] at ih
      exact ⟨ih.1.trans hperm, fun W hS hp => ih.2 W (fun y hy => hS y (hperm.subset hy))
        (hi.2 W (hS x (List.mem_cons_self ..)) (fun y hy => hS y (List.mem_append_right _ hy)) hp)⟩
  | case3 x xs acc hins =>
    have hi := insRev_spec c x acc
    rw [hins] at hi
    obtain ⟨y, hy, e⟩ := hi
    exact fun hn => (List.nodup_cons.mp hn).1 (List.mem_map.mpr ⟨y, List.mem_append_right xs hy, e⟩)

theorem goSort_spec (c : Cfg) (l : List Tx) :
    match goSort c l with
    | some r => r.Perm l ∧ (WeakOrderOn c (· ∈ l) → SortedBy c r)
    | none => ¬ (l.map (·.hash)).Nodup := by
  have h := sortRev_spec c l []
  rw [List.append_nil] at h
  unfold goSort
  cases hs : sortRev c l [] with
  | none => rw [hs] at h; exact h
  | some r =>
    rw [hs] at h
    exact ⟨(List.reverse_perm r).trans h.1, fun W => List.pairwise_reverse.mpr (h.2 W (fun _ hy => hy) List.Pairwise.nil)⟩

end Rangers.Pool
