import Rangers.Proofs.JournalRevertG
import Rangers.Proofs.JournalObj
/-! The finer relation `SimR` behind the positive root theorem: besides answering all queries alike
(`Sim`), two states agree on what `Finalise` will do — same dirty set (as a set), and per resolved
account object: same `onDirty` state, same flushed storage, same cache emptiness (`XObj`, `JournalObj`).  It is
`SimP` at `ObjSim ∧ XObj` with the dirty sets compared, so every `undo` respects it. -/
namespace Rangers.Proofs.JournalG
open Rangers Rangers.Model.Journal Rangers.Proofs.Journal

/-- `ResP XObj` written out (`XRes.toP`, `XRes.ofP`) -/
inductive XRes : Res → Res → Prop
  | absent : XRes .absent .absent
  | deleted : XRes .deleted .deleted
  | live {o o' : Obj} : XObj o o' → XRes (.live o) (.live o')

theorem XRes.refl (r : Res) : XRes r r := by
  cases r with
  | absent => exact .absent
  | deleted => exact .deleted
  | live o => exact .live (XObj.refl o)
theorem XRes.trans {r r' r'' : Res} (h : XRes r r') (h' : XRes r' r'') : XRes r r'' := by
  cases h with
  | absent => exact h'
  | deleted => exact h'
  | live h => cases h' with | live h' => exact .live (h.trans h')
theorem XRes.of_live {o : Obj} {r : Res} (h : XRes (.live o) r) : ∃ o', r = .live o' ∧ XObj o o' := by
  cases h with | live h => exact ⟨_, rfl, h⟩
theorem XRes.of_absent {r : Res} (h : XRes .absent r) : r = .absent := by cases h; rfl
theorem XRes.of_deleted {r : Res} (h : XRes .deleted r) : r = .deleted := by cases h; rfl

/-- `SimP (ObjSim ∧ XObj) True` written out (`simP_simR`) -/
structure SimR (s t : ADB) : Prop where
  sim : Sim s t
  dirty : s.crashed = false → ∀ a, a ∈ s.dirtySet ↔ a ∈ t.dirtySet
  x : s.crashed = false → ∀ a, XRes (res s a) (res t a)

theorem SimR.refl (s : ADB) : SimR s s := ⟨Sim.refl s, fun _ _ => Iff.rfl, fun _ _ => XRes.refl _⟩
theorem SimR.trans {s t u : ADB} (h : SimR s t) (h' : SimR t u) : SimR s u :=
  ⟨h.sim.trans h'.sim,
   fun hc a => (h.dirty hc a).trans (h'.dirty (h.sim.crashed ▸ hc) a),
   fun hc a => (h.x hc a).trans (h'.x (h.sim.crashed ▸ hc) a)⟩

theorem SimR.of_crashed {s t : ADB} (hs : s.crashed = true) (ht : t.crashed = true) : SimR s t :=
  ⟨Sim.of_crashed hs ht, fun h => by simp [hs] at h, fun h => by simp [hs] at h⟩

theorem XRes.toP {r r' : Res} (h : XRes r r') : ResP XObj r r' := by
  cases h with
  | absent => exact .absent
  | deleted => exact .deleted
  | live h => exact .live h

theorem XRes.ofP {r r' : Res} (h : ResP XObj r r') : XRes r r' := by
  cases h with
  | absent => exact .absent
  | deleted => exact .deleted
  | live h => exact .live h

theorem simP_simR {s t : ADB} : SimP (fun cs o o' => ObjSim cs o o' ∧ XObj o o') True s t ↔ SimR s t :=
  ⟨fun h => ⟨⟨h.crashed, fun hs => (h.rel hs).frame, fun hs a => ResRel.ofP (((h.rel hs).objs a).mono fun _ _ ho => ho.1)⟩,
      fun hs => (h.rel hs).dirty trivial, fun hs a => XRes.ofP (((h.rel hs).objs a).mono fun _ _ ho => ho.2)⟩,
   fun h => ⟨h.sim.crashed, fun hs => ⟨h.sim.frame hs, fun a => (h.sim.objs hs a).toP.and (h.x hs a).toP, fun _ => h.dirty hs⟩⟩⟩

theorem undo_congrR (c : Cfg) {s t : ADB} (h : SimR s t) (e : Entry) : SimR (undo c s e) (undo c t e) :=
  simP_simR.mp ((simP_simR.mpr h).undo closed_R c e)

theorem relOk_SimR (c : Cfg) : RelOk c SimR :=
  ⟨SimR.refl, SimR.trans, fun e h => undo_congrR c h e, fun _ _ _ _ => simP_simR.mp (.of_view closed_R rfl rfl rfl (.inner _))⟩

theorem RevAt.toSimR {c : Cfg} {f : ADB → ADB} {s : ADB} (h : Rev c (SimP (fun cs o o' => ObjSim cs o o' ∧ XObj o o') True) s (f s)) :
    RevAt c SimR f s :=
  .of_rev (h.mono fun _ => simP_simR.mp)

end Rangers.Proofs.JournalG
