import Rangers.Model.Bls14G1
import Mathlib.Data.Nat.ModEq
/-!
Modular exponentiation (`powMod b e m = b ^ e % m`), the square-root step of hash-to-G1,
reducedness of field operations.
-/
namespace Rangers.Proofs.Bls14
open Rangers Rangers.Model.Bls14

theorem P_pos : 0 < P := by decide
theorem P_odd : P % 2 = 1 := by decide
theorem P_mod4 : P % 4 = 3 := by decide
theorem P_lt : P < 256 ^ 32 := by decide
theorem three_lt_P : 3 < P := by decide

theorem fadd_lt (a b : Nat) : fadd a b < P := Nat.mod_lt _ P_pos
theorem fmul_lt (a b : Nat) : fmul a b < P := Nat.mod_lt _ P_pos
theorem fsub_lt (a b : Nat) : fsub a b < P := Nat.mod_lt _ P_pos
theorem fneg_lt (a : Nat) : fneg a < P := Nat.mod_lt _ P_pos

theorem powModAux_spec (m fuel b e acc : Nat) (h : e < 2 ^ fuel) :
    powModAux m fuel b e acc ≡ acc * b ^ e [MOD m] := by
  induction fuel generalizing b e acc with
  | zero =>
    have : e = 0 := by simpa using h
    subst this; simp [powModAux]; exact Nat.ModEq.refl _
  | succ fuel ih =>
    rw [powModAux]
    split
    · next h0 => subst h0; simp; exact Nat.ModEq.refl _
    · next h0 =>
      have he : e / 2 < 2 ^ fuel := by
        rw [Nat.pow_succ] at h; omega
      refine (ih _ _ _ he).trans ?_
      have hsq : (b * b % m) ^ (e / 2) ≡ b ^ (2 * (e / 2)) [MOD m] := by
        rw [Nat.pow_mul]
        have : b * b % m ≡ b ^ 2 [MOD m] := by rw [Nat.pow_two]; exact Nat.mod_modEq _ _
        exact this.pow _
      split
      · next h1 =>
        have hd : e = 2 * (e / 2) + 1 := by omega
        have : acc * b ^ e = acc * b * b ^ (2 * (e / 2)) := by
          conv_lhs => rw [hd, Nat.pow_succ]
          rw [Nat.mul_assoc, Nat.mul_comm (b ^ _) b]
        rw [this]
        exact (Nat.mod_modEq _ _).mul hsq
      · next h1 =>
        have hd : e = 2 * (e / 2) := by omega
        conv_rhs => rw [hd]
        exact (Nat.ModEq.refl acc).mul hsq

theorem powModAux_lt (m : Nat) : ∀ fuel b e acc, acc < m → powModAux m fuel b e acc < m
  | 0, _, _, _, h => h
  | fuel + 1, b, e, acc, h => by
    rw [powModAux]
    split
    · exact h
    · exact powModAux_lt m fuel _ _ _ (by split; exacts [Nat.mod_lt _ (Nat.zero_lt_of_lt h), h])

theorem powMod_lt (b e : Nat) {m : Nat} (hm : 0 < m) : powMod b e m < m :=
  powModAux_lt m _ _ _ _ (Nat.mod_lt _ hm)

theorem powMod_spec (b e m : Nat) (he : e < 2 ^ 256) : powMod b e m = b ^ e % m := by
  have h := powModAux_spec m 256 (b % m) e (1 % m) he
  rcases Nat.eq_zero_or_pos m with rfl | hm
  · simpa [Nat.ModEq, powMod] using h
  · have h2 : powMod b e m ≡ b ^ e [MOD m] :=
      h.trans (by simpa using (Nat.mod_modEq 1 m).mul ((Nat.mod_modEq b m).pow e))
    rwa [Nat.ModEq, Nat.mod_eq_of_lt (powMod_lt b e hm)] at h2

/-- Pure modular arithmetic: no primality of `p` is needed. -/
theorem modSqrt_sq (t y : Nat) (h : modSqrt t = some y) : y * y % P = t % P ∧ y < P := by
  unfold modSqrt at h
  simp only at h
  split at h
  · next h0 =>
    have : t % P = 0 := by simpa using h0
    have hy : y = 0 := by simpa using h.symm
    subst hy; simp [this, P_pos]
  · split at h
    · next h0 h1 =>
      have hy : y = powMod (t % P) ((P + 1) / 4) P := by simpa using h.symm
      have e1 : powMod (t % P) ((P - 1) / 2) P = 1 := by simpa using h1
      rw [powMod_spec _ _ _ (by decide)] at e1
      refine ⟨?_, by rw [hy]; exact powMod_lt _ _ P_pos⟩
      rw [hy, powMod_spec _ _ _ (by decide)]
      -- (u^k % P)^2 = u^(2k) = u * u^((P-1)/2)
      have hk : (P + 1) / 4 + (P + 1) / 4 = 1 + (P - 1) / 2 := by decide
      have : (t % P) ^ ((P + 1) / 4) % P * ((t % P) ^ ((P + 1) / 4) % P) % P
          = (t % P) ^ ((P + 1) / 4 + (P + 1) / 4) % P := by
        rw [Nat.pow_add, ← Nat.mul_mod]
      rw [this, hk, Nat.pow_add, Nat.pow_one, Nat.mul_mod, e1]
      simp
    · simp at h

end Rangers.Proofs.Bls14
