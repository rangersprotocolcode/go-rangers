import Rangers.Proofs.JournalRevertG
/-! Root clause, positive part: ops that do not touch account objects (refund counter, logs, access
list, transient storage, snapshots and reverts of such ops) leave the input of `Finalise` — object
cache, dirty set, account trie — literally unchanged, so the content `IntermediateRoot` hashes is
restored exactly.  (For regions that touch account objects the clause is false without side conditions, see the
counterexamples of Props/C04; under `StepOkR` it is `revert_restores_root`, Props/C04C.) -/
namespace Rangers.Proofs.Journal
open Rangers Rangers.Model.Journal

/-- everything `Finalise` reads -/
def ObjView (s : ADB) : List (Addr × Obj) × List Addr × List (Addr × Leaf) := (s.objs, s.dirtySet, s.trie)

def entryGlobal : Entry → Bool
  | .refund _ | .addLog _ | .alAddr _ | .alSlot .. | .transient .. => true
  | _ => false

def opGlobal : Op → Bool
  | .addRefund _ | .subRefund _ | .addLog .. | .alAddr _ | .alSlot .. | .tset .. | .snapshot | .revert _ => true
  | _ => false

theorem undo_global (c : Cfg) (s : ADB) (e : Entry) (he : entryGlobal e = true) :
    ObjView (undo c s e) = ObjView s ∧ (undo c s e).journal = s.journal ∧ (undo c s e).revisions = s.revisions := by
  cases hs : s.crashed with
  | true => rw [undo_crashed c hs]; exact ⟨rfl, rfl, rfl⟩
  | false =>
    cases e with
    | refund p => rw [undo_refund c hs]; exact ⟨rfl, rfl, rfl⟩
    | addLog th => rw [undo_addLog c hs]; split <;> exact ⟨rfl, rfl, rfl⟩
    | alAddr a => rw [undo_alAddr c hs]; exact ⟨rfl, rfl, rfl⟩
    | alSlot a sl => rw [undo_alSlot c hs]; split <;> exact ⟨rfl, rfl, rfl⟩
    | transient a k p => rw [undo_transient c hs]; exact ⟨rfl, rfl, rfl⟩
    | _ => cases he

theorem undoAll_global (c : Cfg) (s : ADB) (es : List Entry) (h : ∀ e ∈ es, entryGlobal e = true) :
    ObjView (undoAll c s es) = ObjView s ∧ (undoAll c s es).journal = s.journal ∧ (undoAll c s es).revisions = s.revisions := by
  unfold undoAll
  have h' : ∀ e ∈ es.reverse, entryGlobal e = true := fun e he => h e (List.mem_reverse.mp he)
  generalize es.reverse = l at h'
  induction l generalizing s with
  | nil => exact ⟨rfl, rfl, rfl⟩
  | cons e l ih =>
    have a := ih (undo c s e) (fun x hx => h' x (List.mem_cons_of_mem _ hx))
    have b := undo_global c s e (h' e (List.mem_cons_self ..))
    exact ⟨a.1.trans b.1, a.2.1.trans b.2.1, a.2.2.trans b.2.2⟩

/-- invariant of a run of global ops started right after a snapshot at journal length `j0` -/
structure GInv (j0 : Nat) (s : ADB) : Prop where
  len : j0 ≤ s.journal.length
  ents : ∀ e ∈ s.journal.drop j0, entryGlobal e = true
  revs : ∀ r ∈ s.revisions, j0 ≤ r.2

theorem GInv.append {j0 : Nat} {s t : ADB} (h : GInv j0 s) (E : List Entry) (hj : t.journal = s.journal ++ E)
    (hE : ∀ e ∈ E, entryGlobal e = true) (hr : t.revisions = s.revisions) : GInv j0 t := by
  refine ⟨by rw [hj, List.length_append]; exact Nat.le_trans h.len (Nat.le_add_right _ _), ?_, ?_⟩
  · rw [hj, List.drop_append_of_le_length h.len]
    intro e he
    rcases List.mem_append.mp he with he | he
    · exact h.ents e he
    · exact hE e he
  · intro r hrm
    rw [hr] at hrm
    exact h.revs r hrm

/-- `t` is `s` after account-free bookkeeping: `Finalise`'s input and the revision stack are those of `s`, the
    journal has grown by global entries -/
def GStep (s t : ADB) : Prop :=
  ObjView t = ObjView s ∧ t.revisions = s.revisions ∧ ∃ E, t.journal = s.journal ++ E ∧ ∀ e ∈ E, entryGlobal e = true

theorem GStep.refl (s : ADB) : GStep s s := ⟨rfl, rfl, [], by simp, by simp⟩

theorem GStep.one {s t : ADB} (e : Entry) (he : entryGlobal e = true) (hv : ObjView t = ObjView s)
    (hr : t.revisions = s.revisions) (hj : t.journal = s.journal ++ [e]) : GStep s t :=
  ⟨hv, hr, [e], hj, by simpa using he⟩

theorem global_step (c : Cfg) (s : ADB) (op : Op) (hop : opGlobal op = true) (h1 : op ≠ Op.snapshot) (h2 : ∀ id, op ≠ Op.revert id) :
    GStep s (step c s op) := by
  cases op with
  | addRefund g =>
    show GStep s (addRefund s g)
    unfold addRefund; split
    · exact .refl s
    · exact .one _ rfl rfl rfl rfl
  | subRefund g =>
    show GStep s (subRefund s g)
    unfold subRefund; split
    · exact .refl s
    · split <;> exact .one _ rfl rfl rfl rfl
  | addLog a t d =>
    show GStep s (addLog s a t d)
    unfold addLog; split
    · exact .refl s
    · exact .one _ rfl rfl rfl rfl
  | alAddr a =>
    show GStep s (addAddressToAccessList s a)
    simp only [addAddressToAccessList]; split
    · exact .refl s
    · split
      · exact .one _ rfl rfl rfl rfl
      · exact .refl s
  | alSlot a sl =>
    show GStep s (addSlotToAccessList s a sl)
    unfold addSlotToAccessList; split
    · exact .refl s
    · split
      · exact ⟨rfl, rfl, [], by simp [crash], by simp⟩
      · rename_i al addrMod slotMod _
        refine ⟨rfl, rfl, (if addrMod then [Entry.alAddr a] else []) ++ (if slotMod then [Entry.alSlot a sl] else []), ?_, ?_⟩
        · cases addrMod <;> cases slotMod <;> simp
        · intro e he
          cases addrMod <;> cases slotMod <;> simp at he
          · subst he; rfl
          · subst he; rfl
          · rcases he with rfl | rfl <;> rfl
  | tset a k v =>
    show GStep s (setTransientState s a k v)
    simp only [setTransientState]; split
    · exact .refl s
    · split
      · exact .refl s
      · exact .one _ rfl rfl rfl rfl
  | snapshot => exact absurd rfl h1
  | revert id => exact absurd rfl (h2 id)
  | _ => cases hop

theorem step_global (c : Cfg) (j0 : Nat) (s : ADB) (op : Op) (hop : opGlobal op = true) (h : GInv j0 s) :
    ObjView (step c s op) = ObjView s ∧ GInv j0 (step c s op) := by
  by_cases h1 : op = Op.snapshot
  · subst h1
    show ObjView (snapshot s).1 = ObjView s ∧ GInv j0 (snapshot s).1
    unfold snapshot
    split
    · exact ⟨rfl, h⟩
    · refine ⟨rfl, ⟨h.len, h.ents, fun r hr => ?_⟩⟩
      simp only [List.mem_append, List.mem_singleton] at hr
      rcases hr with hr | hr
      · exact h.revs r hr
      · subst hr; exact h.len
  by_cases h2 : ∃ id, op = Op.revert id
  · obtain ⟨id, rfl⟩ := h2
    show ObjView (revert c s id) = ObjView s ∧ GInv j0 (revert c s id)
    unfold revert
    split
    · exact ⟨rfl, h⟩
    · cases hf : findRev s.revisions id 0 with
      | none => exact ⟨rfl, ⟨h.len, h.ents, h.revs⟩⟩
      | some x =>
        obtain ⟨i, rid, j⟩ := x
        simp only
        have hmem : (rid, j) ∈ s.revisions := List.mem_of_getElem? (findRev_some hf).2
        have hj0 := h.revs _ hmem
        have hsub : ∀ e ∈ s.journal.drop j, entryGlobal e = true := by
          intro e he
          have : s.journal.drop j = (s.journal.drop j0).drop (j - j0) := by
            rw [List.drop_drop, Nat.add_sub_cancel' hj0]
          rw [this] at he
          exact h.ents e (List.mem_of_mem_drop he)
        obtain ⟨hv, hbj, hbr⟩ := undoAll_global c s _ hsub
        split
        · exact ⟨rfl, ⟨h.len, h.ents, h.revs⟩⟩
        · split
          · exact ⟨hv, ⟨by rw [hbj]; exact h.len, by rw [hbj]; exact h.ents, by rw [hbr]; exact h.revs⟩⟩
          · refine ⟨hv, ⟨by rw [List.length_take]; exact Nat.le_min.mpr ⟨hj0, h.len⟩, ?_, ?_⟩⟩
            · intro e he
              simp only at he
              have : (s.journal.take j).drop j0 = (s.journal.drop j0).take (j - j0) := by
                rw [List.drop_take]
              rw [this] at he
              exact h.ents e (List.mem_of_mem_take he)
            · intro r hr
              simp only at hr ⊢
              exact h.revs r (List.mem_of_mem_take hr)
  · obtain ⟨hv, hr, E0, hj, hg⟩ := global_step c s op hop h1 (fun id e => h2 ⟨id, e⟩)
    exact ⟨hv, h.append E0 hj hg hr⟩

theorem run_global (c : Cfg) (j0 : Nat) (ops : List Op) (s : ADB) (hops : ∀ op ∈ ops, opGlobal op = true) (h : GInv j0 s) :
    ObjView (run c s ops) = ObjView s ∧ GInv j0 (run c s ops) := by
  induction ops generalizing s with
  | nil => exact ⟨rfl, h⟩
  | cons op ops ih =>
    obtain ⟨v1, g1⟩ := step_global c j0 s op (hops op (List.mem_cons_self ..)) h
    obtain ⟨v2, g2⟩ := ih (step c s op) (fun o ho => hops o (List.mem_cons_of_mem _ ho)) g1
    exact ⟨v2.trans v1, g2⟩

theorem finaliseOne_view (d : Bool) (s t : ADB) (a : Addr) (h : ObjView s = ObjView t) :
    ObjView (finaliseOne d s a) = ObjView (finaliseOne d t a) := by
  simp only [ObjView, Prod.mk.injEq] at h
  obtain ⟨h1, h2, h3⟩ := h
  unfold finaliseOne
  rw [h1]
  cases mget t.objs a with
  | none => simp [ObjView, h1, h2, h3]
  | some o => simp only; split <;> simp [ObjView, h2, h3]

theorem finalise_trie_congr (d : Bool) (s t : ADB) (hs : s.crashed = false) (ht : t.crashed = false)
    (h : ObjView s = ObjView t) : (finalise d s).trie = (finalise d t).trie := by
  have hds : s.dirtySet = t.dirtySet := by simp only [ObjView, Prod.mk.injEq] at h; exact h.2.1
  have key : ∀ (l : List Addr) (x y : ADB), ObjView x = ObjView y →
      ObjView (l.foldl (finaliseOne d) x) = ObjView (l.foldl (finaliseOne d) y) := by
    intro l
    induction l with
    | nil => intro x y hxy; exact hxy
    | cons a l ih => intro x y hxy; exact ih _ _ (finaliseOne_view d x y a hxy)
  have := key s.dirtySet s t h
  simp only [finalise, hs, ht, Bool.false_eq_true, if_false, clearJournal, ← hds]
  simp only [ObjView, Prod.mk.injEq] at this
  exact this.2.2

theorem revert_objview_global (c : Cfg) (s : ADB) (region : List Op) (hs : s.crashed = false) (hr : s.revisions = [])
    (hops : ∀ op ∈ region, opGlobal op = true) :
    ObjView (revert c (run c (snapshot s).1 region) (snapshot s).2) = ObjView s := by
  have hsnap := snapshot_eq hs
  have g0 : GInv s.journal.length (snapshot s).1 := by
    rw [hsnap]
    refine ⟨Nat.le_refl _, by simp, fun r hrm => ?_⟩
    simp only [hr, List.nil_append, List.mem_singleton] at hrm
    subst hrm; exact Nat.le_refl _
  obtain ⟨v1, g1⟩ := run_global c _ region _ hops g0
  obtain ⟨v2, _⟩ := step_global c _ (run c (snapshot s).1 region) (Op.revert (snapshot s).2) rfl g1
  have v0 : ObjView (snapshot s).1 = ObjView s := by rw [hsnap]; rfl
  exact (v2.trans v1).trans v0

end Rangers.Proofs.Journal
