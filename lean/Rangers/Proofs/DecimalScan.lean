import Rangers.Proofs.DecimalArith
/-!
String level of the C18 model: what `nat.scan` / `Float.scan` / `Float.Parse` do on
`[sign] digits [ "." digits ] suffix`, where the suffix is empty or an exponent part.
Such a string is written `signStr sg ++ (plainBody ip fp dot ++ suffix)` throughout, with `ip`, `fp` the digits before
and after the point. `dot` says whether the point is written: `"5."` and `"5"` have the same `ip` and `fp`, and
`Float.scan` notes a fraction start for the first only. The hypothesis `dot = false → fp = []` that goes with it says
that fraction digits need a point.
-/
namespace Rangers.Decimal

def allDig (s : Str) : Prop := ∀ c ∈ s, isDig c = true

instance (s : Str) : Decidable (allDig s) := by unfold allDig; infer_instance

theorem allDig_nil : allDig [] := by intro c h; cases h

theorem allDig_cons {c : Char} {s : Str} : allDig (c :: s) ↔ isDig c = true ∧ allDig s :=
  List.forall_mem_cons

theorem allDig_append {a b : Str} : allDig (a ++ b) ↔ allDig a ∧ allDig b :=
  List.forall_mem_append

theorem allDig_replicate_zero (k : Nat) : allDig (List.replicate k '0') := by
  intro c hc
  rw [List.eq_of_mem_replicate hc]; decide

theorem allDig_toDigits (n : Nat) : allDig (Nat.toDigits 10 n) := by
  intro c hc
  exact Nat.isDigit_of_mem_toDigits (by decide) (by decide) hc

theorem isDig_ne_dot {c : Char} (h : isDig c = true) : c ≠ '.' := by
  rintro rfl; revert h; decide

theorem isDig_ne_minus {c : Char} (h : isDig c = true) : c ≠ '-' := by
  rintro rfl; revert h; decide

theorem isDig_ne_plus {c : Char} (h : isDig c = true) : c ≠ '+' := by
  rintro rfl; revert h; decide

theorem digVal_le_nine {c : Char} (h : isDig c = true) : digVal c ≤ 9 := by
  have h9 : c.toNat ≤ '9'.toNat := (Char.isDigit_iff_toNat.mp h).2
  have h0 : '9'.toNat = '0'.toNat + 9 := rfl
  unfold digVal; omega

theorem scanMant_digits (ds rest : Str) (fo : Bool) (m cnt : Nat) (dp : Option Nat) (h : allDig ds) :
    scanMant (ds ++ rest) fo m cnt dp = scanMant rest fo (Nat.ofDigitChars 10 ds m) (cnt + ds.length) dp := by
  induction ds generalizing m cnt with
  | nil => simp
  | cons c cs ih =>
    obtain ⟨hc, hcs⟩ := allDig_cons.mp h
    have hne : c ≠ '.' := isDig_ne_dot hc
    rw [List.cons_append, scanMant]
    simp only [hne, decide_false, Bool.false_and, Bool.false_eq_true, if_false, hc, if_true]
    rw [ih _ _ hcs, Nat.ofDigitChars_cons, List.length_cons]
    congr 1
    · unfold digVal; rw [Nat.mul_comm]
    · omega

theorem scanMant_dot (rest : Str) (m cnt : Nat) (dp : Option Nat) :
    scanMant ('.' :: rest) true m cnt dp = scanMant rest false m cnt (some cnt) := by
  rw [scanMant]; simp

/-- The digit loop of `Float.scan` stops at once on `s`: it starts with neither a digit nor a point. -/
def stopsMant (s : Str) : Prop := ∀ fo m cnt dp, scanMant s fo m cnt dp = ⟨m, cnt, dp, s⟩

theorem stopsMant_nil : stopsMant [] := fun _ _ _ _ => by rw [scanMant]

theorem stopsMant_cons {c : Char} (cs : Str) (hc : isDig c = false) (hdot : c ≠ '.') :
    stopsMant (c :: cs) := fun _ _ _ _ => by
  rw [scanMant]; simp [hc, hdot]

def plainBody (ip fp : Str) (dot : Bool) : Str := ip ++ (if dot then '.' :: fp else [])

theorem scanMant_plain (ip fp : Str) (dot : Bool) (rest : Str) (hip : allDig ip) (hfp : allDig fp)
    (hdot : dot = false → fp = []) (hrest : stopsMant rest) :
    scanMant (plainBody ip fp dot ++ rest) true 0 0 none =
      ⟨Nat.ofDigitChars 10 (ip ++ fp) 0, ip.length + fp.length,
        if dot then some ip.length else none, rest⟩ := by
  unfold plainBody
  cases dot with
  | false =>
    obtain rfl : fp = [] := hdot rfl
    simp only [Bool.false_eq_true, if_false, List.append_nil]
    rw [scanMant_digits ip _ true 0 0 none hip, hrest]
    simp
  | true =>
    simp only [if_true, List.append_assoc, List.cons_append]
    rw [scanMant_digits ip _ true 0 0 none hip, scanMant_dot, scanMant_digits fp _ false _ _ _ hfp,
      hrest, Nat.ofDigitChars_append]
    simp

def signStr : Option Bool → Str
  | none => []
  | some true => ['-']
  | some false => ['+']

def signNeg : Option Bool → Bool
  | some true => true
  | _ => false

theorem plainBody_ne_nil (ip fp : Str) (dot : Bool) (h : ip ++ fp ≠ []) (hdot : dot = false → fp = []) :
    plainBody ip fp dot ≠ [] := by
  unfold plainBody
  cases dot with
  | true => simp
  | false =>
    obtain rfl : fp = [] := hdot rfl
    simpa using h

theorem plainBody_head (ip fp : Str) (dot : Bool) (hip : allDig ip) (c : Char) (t : Str)
    (h : plainBody ip fp dot = c :: t) : c ≠ '-' ∧ c ≠ '+' := by
  unfold plainBody at h
  cases ip with
  | nil =>
    cases dot with
    | true =>
      simp at h
      obtain ⟨rfl, _⟩ := h
      constructor <;> decide
    | false => simp at h
  | cons a as =>
    simp at h
    obtain ⟨rfl, _⟩ := h
    have := (allDig_cons.mp hip).1
    exact ⟨isDig_ne_minus this, isDig_ne_plus this⟩

theorem scanFloat_sign (sg : Option Bool) (body : Str) (hne : body ≠ [])
    (hhead : ∀ c t, body = c :: t → c ≠ '-' ∧ c ≠ '+') :
    scanFloat (signStr sg ++ body) = scanBody (signNeg sg) body := by
  cases body with
  | nil => exact absurd rfl hne
  | cons c t =>
    obtain ⟨h1, h2⟩ := hhead c t rfl
    cases sg with
    | none => simp only [signStr, List.nil_append, scanFloat, h1, h2, if_false, signNeg]
    | some b =>
      cases b with
      | true => simp [signStr, scanFloat, signNeg]
      | false => simp [signStr, scanFloat, signNeg]

theorem scanExp_nil : scanExp [] = some (0, 10, []) := by rw [scanExp]

theorem buildFloat_dec (neg : Bool) (M f : Nat) (fcount K : Int)
    (hfc : (if fcount < 0 then fcount else 0) = -(f : Int))
    (hlo : -2147483648 ≤ (bitLen M : Int) - f + K) (hhi : (bitLen M : Int) - f + K ≤ 2147483647) :
    buildFloat neg M fcount K 10 = some (decFloat neg M (K - f)) := by
  unfold buildFloat decFloat
  simp only [hfc, reduceIte]
  rw [if_neg (by unfold minExp maxExp; simp only [Bool.or_eq_true, decide_eq_true_eq]; omega),
    show -(f : Int) + K = K - f by omega]
  split
  · rename_i h
    rw [h, if_neg (lt_irrefl 0)]
    simp [mul, pow5]
  · split
    · rfl
    · rfl

/-- The left side is the `d` of `buildFloat`, the decimal exponent that the fraction digits contribute, on what
    `scanMant_plain` returns. -/
theorem fcount_plain (ip fp : Str) (dot : Bool) (hdot : dot = false → fp = []) :
    (if fcountOf (if dot = true then some ip.length else none) (ip.length + fp.length) < 0
      then fcountOf (if dot = true then some ip.length else none) (ip.length + fp.length) else 0)
      = -(fp.length : Int) := by
  cases dot with
  | false =>
    obtain rfl : fp = [] := hdot rfl
    simp [fcountOf]
  | true =>
    simp only [if_true, fcountOf]
    push_cast
    split <;> omega

/-- `hlo`, `hhi`: the exponent of the mantissa float is in `big.Float`'s range. -/
theorem scanFloat_dec (sg : Option Bool) (ip fp : Str) (dot : Bool) (suffix : Str) (K : Int)
    (hip : allDig ip) (hfp : allDig fp) (hdot : dot = false → fp = []) (hne : ip ++ fp ≠ [])
    (hstop : stopsMant suffix) (hexp : scanExp suffix = some (K, 10, []))
    (hlo : -2147483648 ≤ (bitLen (Nat.ofDigitChars 10 (ip ++ fp) 0) : Int) - fp.length + K)
    (hhi : (bitLen (Nat.ofDigitChars 10 (ip ++ fp) 0) : Int) - fp.length + K ≤ 2147483647) :
    scanFloat (signStr sg ++ (plainBody ip fp dot ++ suffix)) =
      some (if Nat.ofDigitChars 10 (ip ++ fp) 0 = 0 then .zero (signNeg sg)
        else decFloat (signNeg sg) (Nat.ofDigitChars 10 (ip ++ fp) 0) (K - fp.length)) := by
  have hbne : plainBody ip fp dot ≠ [] := plainBody_ne_nil ip fp dot hne hdot
  obtain ⟨b0, bt, hb⟩ := List.exists_cons_of_ne_nil hbne
  have hhead : ∀ c t, plainBody ip fp dot ++ suffix = c :: t → c ≠ '-' ∧ c ≠ '+' := by
    intro c t h
    rw [hb, List.cons_append] at h
    injection h with h1 _
    subst h1
    exact plainBody_head ip fp dot hip b0 bt hb
  rw [scanFloat_sign sg _ (by rw [hb]; simp) hhead]
  unfold scanBody
  rw [scanMant_plain ip fp dot suffix hip hfp hdot hstop]
  have hcount : ip.length + fp.length ≠ 0 := by
    rw [← List.length_append]; exact fun h => hne (List.length_eq_zero_iff.mp h)
  simp only [hcount, if_false, hexp]
  split
  · rfl
  · rw [buildFloat_dec _ _ fp.length _ _ (fcount_plain ip fp dot hdot) hlo hhi]; rfl

/-- a string with a digit in it is none of the `Inf` spellings `Float.Parse` looks for first -/
theorem parseFloat_eq_scanFloat (s : Str) (c : Char) (hc : c ∈ s) (hd : isDig c = true) :
    parseFloat s = scanFloat s := by
  have hno : ∀ t : Str, (∀ x ∈ t, isDig x = false) → s ≠ t := fun t ht e => by
    rw [ht c (e ▸ hc)] at hd; cases hd
  unfold parseFloat
  rw [if_neg, if_neg]
  · simp only [Bool.or_eq_true, decide_eq_true_eq, not_or]
    exact ⟨hno _ (by decide), hno _ (by decide)⟩
  · simp only [Bool.or_eq_true, decide_eq_true_eq, not_or]
    exact ⟨⟨⟨hno _ (by decide), hno _ (by decide)⟩, hno _ (by decide)⟩, hno _ (by decide)⟩

theorem mem_string_of_mem_digits (sg : Option Bool) (ip fp : Str) (dot : Bool) (suffix : Str)
    (hdot : dot = false → fp = []) (c : Char) (hc : c ∈ ip ++ fp) :
    c ∈ signStr sg ++ (plainBody ip fp dot ++ suffix) := by
  refine List.mem_append_right _ (List.mem_append_left _ ?_)
  unfold plainBody
  cases dot with
  | false => obtain rfl : fp = [] := hdot rfl; exact hc
  | true =>
    rcases List.mem_append.mp hc with h | h
    · exact List.mem_append_left _ h
    · exact List.mem_append_right _ (List.mem_cons_of_mem _ h)

/-- `hx1`, `hx2`: `pow5` is exact there (`pow5_exact`); `hbound`: the numerator of the result's quotient in lowest
    powers of ten, as `decFloat_scaled` asks. -/
theorem strToBigInt_dec (sg : Option Bool) (ip fp : Str) (dot : Bool) (suffix : Str) (K : Int) (d : Nat)
    (hip : allDig ip) (hfp : allDig fp) (hdot : dot = false → fp = []) (hne : ip ++ fp ≠ [])
    (hstop : stopsMant suffix) (hexp : scanExp suffix = some (K, 10, []))
    (hx1 : -248 ≤ K - fp.length) (hx2 : K - fp.length ≤ 248)
    (hbound : Nat.ofDigitChars 10 (ip ++ fp) 0 * 10 ^ (d + (K - fp.length).toNat - (fp.length - K).toNat)
      < 2 ^ 510) :
    strToBigInt (signStr sg ++ (plainBody ip fp dot ++ suffix)) (d : Int) =
      .ok (if signNeg sg then
          -((Nat.ofDigitChars 10 (ip ++ fp) 0 * 10 ^ (d + (K - fp.length).toNat) / 10 ^ (fp.length - K).toNat : ℕ) : Int)
        else ((Nat.ofDigitChars 10 (ip ++ fp) 0 * 10 ^ (d + (K - fp.length).toNat) / 10 ^ (fp.length - K).toNat : ℕ) : Int)) := by
  have hsne : signStr sg ++ (plainBody ip fp dot ++ suffix) ≠ [] := fun h =>
    plainBody_ne_nil ip fp dot hne hdot (List.append_eq_nil_iff.mp (List.append_eq_nil_iff.mp h).2).1
  have hMbits : bitLen (Nat.ofDigitChars 10 (ip ++ fp) 0) ≤ 510 :=
    bitLen_le_of_lt (lt_of_le_of_lt (Nat.le_mul_of_pos_right _ (by positivity)) hbound)
  rw [← neg_sub K] at hbound ⊢
  unfold strToBigInt
  obtain ⟨c, t, hct⟩ := List.exists_cons_of_ne_nil hne
  have hcd : isDig c = true := allDig_append.mpr ⟨hip, hfp⟩ c (hct ▸ List.mem_cons_self ..)
  rw [if_neg hsne, parseFloat_eq_scanFloat _ c (mem_string_of_mem_digits sg ip fp dot suffix hdot c (hct ▸ List.mem_cons_self ..)) hcd,
    scanFloat_dec sg ip fp dot suffix K hip hfp hdot hne hstop hexp (by omega) (by omega)]
  simp only []
  by_cases hM0 : Nat.ofDigitChars 10 (ip ++ fp) 0 = 0
  · simp [hM0, mul, baseFloat, toInt]
  · rw [if_neg hM0]
    obtain ⟨m, e, hmul, hint⟩ := decFloat_scaled (signNeg sg) _ (K - fp.length) d
      (Nat.pos_of_ne_zero hM0) hx1 hx2 hbound
    simp only [hmul, hint]

theorem strToBigInt_plain (sg : Option Bool) (ip fp : Str) (dot : Bool) (d : Nat)
    (hip : allDig ip) (hfp : allDig fp) (hdot : dot = false → fp = []) (hne : ip ++ fp ≠ [])
    (hf : fp.length ≤ 248)
    (hbound : Nat.ofDigitChars 10 (ip ++ fp) 0 * 10 ^ (d - fp.length) < 2 ^ 510) :
    strToBigInt (signStr sg ++ plainBody ip fp dot) (d : Int) =
      .ok (if signNeg sg then -((Nat.ofDigitChars 10 (ip ++ fp) 0 * 10 ^ d / 10 ^ fp.length : ℕ) : Int)
           else ((Nat.ofDigitChars 10 (ip ++ fp) 0 * 10 ^ d / 10 ^ fp.length : ℕ) : Int)) := by
  have h := strToBigInt_dec sg ip fp dot [] 0 d hip hfp hdot hne stopsMant_nil scanExp_nil
    (by omega) (by omega)
  simp only [List.append_nil, Int.zero_sub, Int.sub_zero, Int.toNat_neg_natCast, Int.toNat_natCast,
    Nat.add_zero] at h
  exact h hbound

end Rangers.Decimal
