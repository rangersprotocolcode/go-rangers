import Rangers.Proofs.MinerInv
/-! A small concrete `Cfg` (prefix "hash", tagged record encoding) used for non-vacuity examples and
    counterexample witnesses. It satisfies the codec hypotheses the theorems assume: `CodecId` and `RawOK` here,
    `CodecSome` and `SepU` on two ids in `Props/C20B` (`toy_codecSome`, `toy_sep`). -/
namespace Rangers.Miner

/-- Reads `toyCfg.enc`: tag `0x7b`, type byte, id, nine zero bytes. The padding and the length test keep everything shorter
    than 11 bytes from decoding, so that an 8-byte stake and a 1-byte status are no records (`toy_rawOK`), while an id of
    any length, the empty one too, comes back (`toy_codecId`). -/
def toyDec (b : Bytes) : Option Info :=
  if b.length < 11 then none
  else match b with
    | 0x7b :: t :: rest => some { id := rest.take (rest.length - 9), pk := [1], vrf := [1], applyHeight := 0, typ := t.toNat }
    | _ => none

def toyCfg : Cfg :=
  { H := fun b => 0xff :: b,
    enc := fun i => [0x7b, UInt8.ofNat i.typ] ++ i.id ++ List.replicate 9 0,
    dec := toyDec }

theorem toy_codecId : CodecId toyCfg := by
  intro i j ht h
  simp only [toyCfg, toyDec] at h
  split at h
  · cases h
  · simp at h
    rw [← h]
    simp
    omega

theorem toy_rawOK : RawOK toyCfg := by
  constructor
  · intro n
    show toyDec (u64be n) = none
    unfold toyDec
    rw [u64be_length, if_pos (by decide)]
  · intro b; rfl

def addr1 : Bytes := List.replicate 20 0xa1
def addr2 : Bytes := List.replicate 20 0xa2

/-- An empty registry at height 100 in which `addr1` and `addr2` hold 100000 tokens each. -/
def funded : State := { State.empty 100 with bal := [(addr1, 100000 * wei), (addr2, 100000 * wei)] }

end Rangers.Miner
