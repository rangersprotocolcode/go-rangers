import Rangers.Proofs.MinerSum
import Rangers.Proofs.MinerStake
/-! C20: key separation over a universe of ids, the frame of a registry write sequence (`Writes`, `OnlyKeys`), the `Clean`
    invariant (an id that is not registered has no stake) and point updates of the total stake. -/
namespace Rangers.Miner

/-- The four storage keys of a miner id. -/
def keysOf (cfg : Cfg) (i : Bytes) : List Bytes := [i, cfg.H i, cfg.H (cfg.H i), cfg.H (cfg.H (cfg.H i))]

theorem id_mem_keysOf (cfg : Cfg) (i : Bytes) : i ∈ keysOf cfg i := List.mem_cons_self ..
theorem slotStake_mem_keysOf (cfg : Cfg) (i : Bytes) : slotStake cfg i ∈ keysOf cfg i := List.mem_cons_of_mem _ (List.mem_cons_self ..)
theorem slotAcct_mem_keysOf (cfg : Cfg) (i : Bytes) : slotAcct cfg i ∈ keysOf cfg i :=
  List.mem_cons_of_mem _ (List.mem_cons_of_mem _ (List.mem_cons_self ..))
theorem slotStatus_mem_keysOf (cfg : Cfg) (i : Bytes) : slotStatus cfg i ∈ keysOf cfg i :=
  List.mem_cons_of_mem _ (List.mem_cons_of_mem _ (List.mem_cons_of_mem _ (List.mem_cons_self ..)))

/-- Key-family separation on a universe of ids: each id has four distinct keys and different ids share none. -/
def SepU (cfg : Cfg) (U : List Bytes) : Prop :=
  (∀ i ∈ U, (keysOf cfg i).Nodup) ∧ (∀ i ∈ U, ∀ j ∈ U, i ≠ j → ∀ k ∈ keysOf cfg i, k ∉ keysOf cfg j)

theorem untouched_self (cfg : Cfg) (i : Bytes) (hk : (keysOf cfg i).Nodup) : Untouched cfg i i := by
  simp only [keysOf, List.nodup_cons, List.mem_cons, List.not_mem_nil, or_false, not_or] at hk
  exact ⟨fun e => hk.1.1 e.symm, hk.2.1.1, hk.2.1.2⟩

theorem stake_notin_keysOf (cfg : Cfg) (i j : Bytes) :
    cfg.H j ∉ keysOf cfg i ↔ Untouched cfg i j ∧ cfg.H j ≠ cfg.H i := by
  simp only [keysOf, List.mem_cons, List.not_mem_nil, or_false, not_or, Untouched]
  exact ⟨fun ⟨a, b, c, d⟩ => ⟨⟨a, c, d⟩, b⟩, fun ⟨⟨a, c, d⟩, b⟩ => ⟨a, b, c, d⟩⟩

theorem sep_keys_disjoint (cfg : Cfg) (U : List Bytes) (hs : SepU cfg U) (i j : Bytes) (hi : i ∈ U) (hj : j ∈ U) (hij : j ≠ i) :
    ∀ k ∈ keysOf cfg j, k ∉ keysOf cfg i := hs.2 j hj i hi hij

theorem sep_untouched (cfg : Cfg) (U : List Bytes) (hs : SepU cfg U) (i j : Bytes) (hi : i ∈ U) (hj : j ∈ U) :
    Untouched cfg i j := by
  by_cases hij : j = i
  · subst hij
    exact untouched_self cfg j (hs.1 j hi)
  · exact ((stake_notin_keysOf cfg i j).mp (sep_keys_disjoint cfg U hs i j hi hj hij _ (slotStake_mem_keysOf ..))).1

theorem sep_stake_ne (cfg : Cfg) (U : List Bytes) (hs : SepU cfg U) (i j : Bytes) (hi : i ∈ U) (hj : j ∈ U) (hij : i ≠ j) :
    cfg.H j ≠ cfg.H i :=
  ((stake_notin_keysOf cfg i j).mp (sep_keys_disjoint cfg U hs i j hi hj (Ne.symm hij) _ (slotStake_mem_keysOf ..))).2

/-- `st'` differs from `st` in the live registry only at keys of `i` in registry `dT`. -/
def OnlyKeys (cfg : Cfg) (st st' : State) (dT : DbId) (i : Bytes) : Prop :=
  ∀ d q, (d ≠ dT ∨ q ∉ keysOf cfg i) → (st'.live d).get q = (st.live d).get q

theorem onlyKeys_refl (cfg : Cfg) (st st' : State) (dT : DbId) (i : Bytes) (h : st'.live = st.live) : OnlyKeys cfg st st' dT i := by
  intro d q _; rw [h]

theorem onlyKeys_write (cfg : Cfg) (st st0 : State) (dT : DbId) (i k v : Bytes) (hk : k ∈ keysOf cfg i)
    (h : OnlyKeys cfg st0 st dT i) : OnlyKeys cfg st0 (st.write dT k v) dT i := by
  intro d q hq
  rw [write_get]
  have : ¬ (d = dT ∧ q = k) := by
    rintro ⟨rfl, rfl⟩
    rcases hq with hq | hq
    · exact hq rfl
    · exact hq hk
  rw [if_neg this]
  exact h d q hq

/-- `st'` is `st` after storage writes in registry `d`, each under one of the four keys of `i`: what every registry writer
    does, whatever it writes. -/
inductive Writes (cfg : Cfg) (d : DbId) (i : Bytes) (st : State) : State → Prop
  | refl : Writes cfg d i st st
  | write {s : State} {k : Bytes} (v : Bytes) : Writes cfg d i st s → k ∈ keysOf cfg i → Writes cfg d i st (s.write d k v)

theorem Writes.fields {cfg : Cfg} {d : DbId} {i : Bytes} {st st' : State} (h : Writes cfg d i st st') :
    st'.bal = st.bal ∧ st'.pending = st.pending ∧ st'.escrow = st.escrow ∧ st'.height = st.height ∧ st'.trie = st.trie ∧
      st'.pk = st.pk := by
  induction h with
  | refl => exact ⟨rfl, rfl, rfl, rfl, rfl, rfl⟩
  | write _ _ _ ih => exact ih

theorem Writes.live_ne {cfg : Cfg} {d : DbId} {i : Bytes} {st st' : State} (h : Writes cfg d i st st') {d' : DbId} (hd : d' ≠ d) :
    st'.live d' = st.live d' := by
  induction h with
  | refl => rfl
  | write _ _ _ ih => rw [write_live, if_neg hd, ih]

theorem Writes.onlyKeys {cfg : Cfg} {d : DbId} {i : Bytes} {st st' : State} (h : Writes cfg d i st st') {st0 : State}
    (hl : st.live = st0.live) : OnlyKeys cfg st0 st' d i := by
  induction h with
  | refl => exact onlyKeys_refl cfg st0 st d i hl
  | write _ _ hk ih => exact onlyKeys_write cfg _ st0 d i _ _ hk ih

theorem updateMiner_writes (cfg : Cfg) (st : State) (m : Miner) (oi : Option Info) :
    Writes cfg (dbOfType m.typ) m.id st (updateMiner cfg st m oi) := by
  have h0 : Writes cfg (dbOfType m.typ) m.id st (match oi with
      | some info => st.write (dbOfType m.typ) m.id (cfg.enc info)
      | none => st) := by
    cases oi with
    | none => exact .refl
    | some info => exact .write _ .refl (id_mem_keysOf ..)
  exact .write _ (.write _ (.write _ h0 (slotStake_mem_keysOf ..)) (slotAcct_mem_keysOf ..)) (slotStatus_mem_keysOf ..)

theorem removeMiner_writes (cfg : Cfg) (st : State) (id acc : Bytes) (t l : Nat) :
    Writes cfg (dbOfType t) id st (removeMiner cfg st id acc t l) := by
  unfold removeMiner
  split
  · exact .write _ (.write _ (.write _ (.write _ .refl (id_mem_keysOf ..)) (slotStake_mem_keysOf ..)) (slotAcct_mem_keysOf ..))
      (slotStatus_mem_keysOf ..)
  · exact .write _ (.write _ .refl (slotStake_mem_keysOf ..)) (slotStatus_mem_keysOf ..)

theorem refundCore_writes (cfg : Cfg) (st : State) (src : Bytes) (m : Miner) (money : Nat) :
    Writes cfg (dbOfType m.typ) m.id st (refundCore cfg st m.id src m money) := by
  unfold refundCore
  split
  · exact removeMiner_writes ..
  · exact updateMiner_writes cfg st { m with stake := m.stake - money } none

/-- The id a transaction works on. -/
def txTarget : Tx → Bytes
  | .apply _ id .. => id
  | .add _ id _ => id
  | .refund _ id _ => id
  | .chacc _ id _ => id
  | .bad .. => []

/-- The registry an accepted transaction writes to. -/
def txDb (cfg : Cfg) (st : State) : Tx → DbId
  | .apply _ _ typ .. => dbOfType typ
  | .add _ id _ => match getMiner cfg st id with | some m => dbOfType m.typ | none => .zero
  | .refund _ id _ => match getMiner cfg st id with | some m => dbOfType m.typ | none => .zero
  | .chacc _ id _ => match getMiner cfg st id with | some m => dbOfType m.typ | none => .zero
  | .bad .. => .zero

theorem getMinerById_frame (cfg : Cfg) (st st' : State) (dT d : DbId) (i j : Bytes) (h : OnlyKeys cfg st st' dT i)
    (hne : d ≠ dT ∨ ∀ k ∈ keysOf cfg j, k ∉ keysOf cfg i) : getMinerById cfg st' d j = getMinerById cfg st d j := by
  have hk : ∀ k ∈ keysOf cfg j, (st'.live d).get k = (st.live d).get k := by
    intro k hk
    apply h
    rcases hne with hne | hne
    · exact Or.inl hne
    · exact Or.inr (hne k hk)
  unfold getMinerById readMiner slotStake slotAcct slotStatus
  rw [hk j (id_mem_keysOf ..), hk (cfg.H j) (slotStake_mem_keysOf ..), hk (cfg.H (cfg.H j)) (slotAcct_mem_keysOf ..),
    hk (cfg.H (cfg.H (cfg.H j))) (slotStatus_mem_keysOf ..)]

theorem stakeAt_frame (cfg : Cfg) (st st' : State) (dT d : DbId) (i j : Bytes) (h : OnlyKeys cfg st st' dT i)
    (hne : d ≠ dT ∨ cfg.H j ∉ keysOf cfg i) : stakeAt cfg st' d j = stakeAt cfg st d j := by
  unfold stakeAt slotStake
  rw [h d (cfg.H j) hne]

/-- An id (of the universe) that a registry does not know has no stake recorded there. -/
def Clean (cfg : Cfg) (U : List Bytes) (st : State) : Prop :=
  ∀ d j, j ∈ U → getMinerById cfg st d j = none → stakeAt cfg st d j = 0

theorem sep_frame (cfg : Cfg) (U : List Bytes) (st st' : State) (dT : DbId) (i : Bytes) (hs : SepU cfg U) (hi : i ∈ U)
    (hok : OnlyKeys cfg st st' dT i) (d : DbId) (j : Bytes) (hj : j ∈ U) (hne : ¬ (d = dT ∧ j = i)) :
    getMinerById cfg st' d j = getMinerById cfg st d j ∧ stakeAt cfg st' d j = stakeAt cfg st d j := by
  have hk : d ≠ dT ∨ ∀ k ∈ keysOf cfg j, k ∉ keysOf cfg i := by
    by_cases hd : d = dT
    · exact .inr (sep_keys_disjoint cfg U hs i j hi hj (fun e => hne ⟨hd, e⟩))
    · exact .inl hd
  exact ⟨getMinerById_frame cfg st st' dT d i j hok hk,
    stakeAt_frame cfg st st' dT d i j hok (hk.imp id (· _ (slotStake_mem_keysOf ..)))⟩

theorem clean_step (cfg : Cfg) (U : List Bytes) (st st' : State) (dT : DbId) (i : Bytes) (hs : SepU cfg U) (hi : i ∈ U)
    (hc : Clean cfg U st) (hok : OnlyKeys cfg st st' dT i)
    (ht : getMinerById cfg st' dT i = none → stakeAt cfg st' dT i = 0) : Clean cfg U st' := by
  intro d j hj hnone
  by_cases hdj : d = dT ∧ j = i
  · obtain ⟨rfl, rfl⟩ := hdj; exact ht hnone
  · obtain ⟨h1, h2⟩ := sep_frame cfg U st st' dT i hs hi hok d j hj hdj
    rw [h2]; exact hc d j hj (h1 ▸ hnone)

theorem clean_of_live (cfg : Cfg) (U : List Bytes) (st st' : State) (h : st'.live = st.live) (hc : Clean cfg U st) : Clean cfg U st' := by
  intro d j hj hn
  have : getMinerById cfg st d j = none := by rw [← getMinerById_congr cfg st st' h]; exact hn
  rw [stakeAt_of_live cfg st st' h]; exact hc d j hj this

theorem getMinerById_isSome (cfg : Cfg) (st : State) (d : DbId) (id : Bytes) :
    (getMinerById cfg st d id).isSome ↔ (st.live d).get id ≠ [] ∧ (cfg.dec ((st.live d).get id)).isSome := by
  unfold getMinerById
  by_cases hv : (st.live d).get id = []
  · simp [hv]
  · simp only [hv, if_false, ne_eq, not_false_eq_true, true_and]
    cases cfg.dec ((st.live d).get id) <;> simp

/-- The record slot is what makes a miner present. -/
theorem present_of_rec (cfg : Cfg) (st st' : State) (d : DbId) (i : Bytes) (h : (st'.live d).get i = (st.live d).get i)
    (hp : getMinerById cfg st d i ≠ none) : getMinerById cfg st' d i ≠ none := by
  have h1 := (getMinerById_isSome cfg st d i).mp (Option.isSome_iff_ne_none.mpr hp)
  rw [← h] at h1
  exact Option.isSome_iff_ne_none.mp ((getMinerById_isSome cfg st' d i).mpr h1)

/-- Stake recorded over the whole universe, in all three registries. -/
def stakeTotal (cfg : Cfg) (st : State) (U : List Bytes) : Nat :=
  (U.map (stakeAt cfg st .val)).sum + (U.map (stakeAt cfg st .prop)).sum + (U.map (stakeAt cfg st .zero)).sum

theorem stakeTotal_point (cfg : Cfg) (U : List Bytes) (st st' : State) (dT : DbId) (i : Bytes) (hs : SepU cfg U) (hn : U.Nodup)
    (hi : i ∈ U) (hok : OnlyKeys cfg st st' dT i) :
    stakeTotal cfg st' U + stakeAt cfg st dT i = stakeTotal cfg st U + stakeAt cfg st' dT i := by
  have hother : ∀ d, d ≠ dT → (U.map (stakeAt cfg st' d)).sum = (U.map (stakeAt cfg st d)).sum := fun d hd =>
    congrArg List.sum (List.map_congr_left fun j _ => stakeAt_frame cfg st st' dT d i j hok (Or.inl hd))
  have hsame : (U.map (stakeAt cfg st' dT)).sum + stakeAt cfg st dT i = (U.map (stakeAt cfg st dT)).sum + stakeAt cfg st' dT i := by
    apply sum_point U _ _ i hi hn
    intro j hj hne
    exact stakeAt_frame cfg st st' dT dT i j hok (Or.inr (sep_keys_disjoint cfg U hs i j hi hj hne _ (slotStake_mem_keysOf ..)))
  unfold stakeTotal
  generalize stakeAt cfg st dT i = s at hsame ⊢
  generalize stakeAt cfg st' dT i = s' at hsame ⊢
  cases dT
  · rw [hother .prop nofun, hother .zero nofun, Nat.add_right_comm _ _ s, Nat.add_right_comm _ _ s, hsame,
      Nat.add_right_comm _ _ s', Nat.add_right_comm _ _ s']
  · rw [hother .val nofun, hother .zero nofun, Nat.add_right_comm _ _ s, Nat.add_assoc _ _ s, hsame,
      Nat.add_right_comm _ _ s', Nat.add_assoc _ _ s']
  · rw [hother .val nofun, hother .prop nofun, Nat.add_assoc _ _ s, hsame, Nat.add_assoc _ _ s']

theorem stakeTotal_of_live (cfg : Cfg) (U : List Bytes) (st st' : State) (h : st'.live = st.live) :
    stakeTotal cfg st' U = stakeTotal cfg st U := by
  unfold stakeTotal stakeAt; rw [h]

end Rangers.Miner
