import Rangers.Model.TrieStore
/-
The empty-trie case of each recursive function of the trie model.  They stand upstream of every
other proof module on purpose: Lean derives the equation lemmas of a recursive definition where a
proof first asks for them, once per declaration of that module, and hands them on to the modules
that import it.
-/
namespace Rangers.Trie
open Rangers

@[simp] theorem get_nil (k : Key) : get .nil k = none := by simp [get]
theorem getAt_nil (i : Nat) (k : Key) : getAt [] i k = none := by simp [getAt]
theorem insert_nil (x : Nat) (r : Key) (val : Node) : insert .nil (x :: r) val = (true, .short (x :: r) val) := by
  simp [insert]
theorem insertAt_nil (i : Nat) (k : Key) (val : Node) : insertAt [] i k val = (false, []) := by simp [insertAt]
theorem delete_nil (k : Key) : delete .nil k = (false, .nil) := by simp [delete]
theorem deleteAt_nil (i : Nat) (k : Key) : deleteAt [] i k = (false, []) := by simp [deleteAt]
theorem iter_nil : iter .nil = [] := by simp [iter]
theorem iterL_nil (i : Nat) : iterL [] i = [] := by simp [iterL]
theorem enc_nil (H : Bytes → Bytes) : enc H .nil = [0x80] := by simp [enc]
theorem encL_nil (H : Bytes → Bytes) (i : Nat) : encL H [] i = [] := by simp [encL]
theorem not_WF_nil : ¬ WF .nil := by simp [WF]
theorem WFslots_nil (i : Nat) : WFslots [] i := by simp [WFslots]
theorem prefixLen_nil (k : Key) : prefixLen [] k = 0 := by simp [prefixLen]
theorem countNN_nil : countNN [] = 0 := by simp [countNN]
theorem not_validKey_nil : ¬ ValidKey [] := by simp [ValidKey]
theorem canon_zero (J) : canon 0 J = .nil := by simp [canon]
theorem getPanics_nil (k : Key) : getPanics .nil k = false := by simp [getPanics]
theorem insertPanics_nil (k : Key) (val : Node) : insertPanics .nil k val = false := by cases k <;> simp [insertPanics]
theorem deletePanics_nil (k : Key) : deletePanics .nil k = false := by simp [deletePanics]
theorem height_nil : height .nil = 0 := by simp [height]
theorem heightL_nil : height.heightL [] = 0 := by simp [height.heightL]
theorem lcp_nil (k : Key) : lcp [] k = [] := by simp [lcp]
theorem lcpAll_nil : lcpAll [] = [] := by simp [lcpAll]
theorem hexOfBytes_nil : hexOfBytes [] = [] := by simp [hexOfBytes]
theorem decodeNibbles_nil : decodeNibbles [] = [] := by simp [decodeNibbles]
theorem collapse_nil (H : Bytes → Bytes) : collapse H .nil = .empty := by simp [collapse]
theorem collapseL_nil (H : Bytes → Bytes) (i : Nat) : collapseL H [] i = [] := by simp [collapseL]
theorem storeOf_nil (H : Bytes → Bytes) (b : Bool) : storeOf H b .nil = [] := by simp [storeOf]
theorem storeOfL_nil (H : Bytes → Bytes) : storeOfL H [] = [] := by simp [storeOfL]
theorem expand_zero (st : List (Bytes × CNode)) (c : CNode) : expand st 0 c = none := by simp [expand]

end Rangers.Trie
