import Rangers.Model.GroupChain
/-! Store and key lemmas for the group-chain model (core Lean only). -/
namespace Rangers.Model.GroupChain
open Rangers

theorem sget_sdel (s : Store) (k k' : Bytes) :
    sget (sdel s k) k' = if k' = k then none else sget s k' := by
  induction s with
  | nil => simp [sdel, sget]
  | cons e t ih =>
    obtain ⟨ke, ve⟩ := e
    by_cases h : ke = k
    · subst h
      have : sdel ((ke, ve) :: t) ke = sdel t ke := by simp [sdel]
      rw [this, ih]
      by_cases h2 : k' = ke
      · simp [h2]
      · have : ¬ ke = k' := fun e => h2 e.symm
        simp [sget, h2, this]
    · have : sdel ((ke, ve) :: t) k = (ke, ve) :: sdel t k := by simp [sdel, h]
      rw [this]
      simp only [sget]
      by_cases h3 : ke = k'
      · subst h3; simp [h]
      · simp [h3, ih]

theorem sget_sput (s : Store) (k : Bytes) (v : Val) (k' : Bytes) :
    sget (sput s k v) k' = if k' = k then some v else sget s k' := by
  unfold sput
  by_cases h : k' = k
  · subst h; simp [sget]
  · have : ¬ k = k' := fun e => h e.symm
    simp [sget, this, h, sget_sdel]

theorem mem_of_sget {s : Store} {k : Bytes} {v : Val} (h : sget s k = some v) : (k, v) ∈ s := by
  induction s with
  | nil => cases h
  | cons e t ih =>
    rw [sget] at h
    split at h
    · next hk => cases h; exact hk ▸ List.mem_cons_self ..
    · exact List.mem_cons_of_mem _ (ih h)

/-- `count--` in uint64 arithmetic undoes `count++` below 2^64. -/
theorem u64_pred_succ {n : Nat} (h : n < u64) : (n + 1 + u64 - 1) % u64 = n := by
  rw [Nat.add_right_comm, Nat.add_sub_cancel, Nat.add_mod_right, Nat.mod_eq_of_lt h]

theorem hkey_length (n : Nat) : (hkey n).length = 8 := by simp [hkey]

theorem u8_ofNat_eq {a b : Nat} (h : UInt8.ofNat a = UInt8.ofNat b) : a % 256 = b % 256 := by
  have := congrArg UInt8.toNat h
  simpa using this

theorem div_eq_of_byte {n m b : Nat} (hd : n / (b * 256) = m / (b * 256))
    (hb : UInt8.ofNat (n / b) = UInt8.ofNat (m / b)) : n / b = m / b := by
  have hm := u8_ofNat_eq hb
  rw [← Nat.div_div_eq_div_mul, ← Nat.div_div_eq_div_mul] at hd
  omega

/-- Byte by byte.  The one-step proof through `beToNat` (`Proofs/BigEndian.lean`), `beToNat (hkey n) = n` by one `omega`
    over all eight bytes, goes through but takes seconds to check. -/
theorem hkey_inj {n m : Nat} (hn : n < u64) (hm : m < u64) (h : hkey n = hkey m) : n = m := by
  unfold hkey at h
  simp only [List.cons.injEq, and_true] at h
  obtain ⟨h0, h1, h2, h3, h4, h5, h6, h7⟩ := h
  -- from the top byte down; above the top byte there is nothing
  have d8 : n / (72057594037927936 * 256) = m / (72057594037927936 * 256) := by
    unfold u64 at hn hm; omega
  have d7 := div_eq_of_byte d8 h0
  have d6 := div_eq_of_byte (b := 281474976710656) d7 h1
  have d5 := div_eq_of_byte (b := 1099511627776) d6 h2
  have d4 := div_eq_of_byte (b := 4294967296) d5 h3
  have d3 := div_eq_of_byte (b := 16777216) d4 h4
  have d2 := div_eq_of_byte (b := 65536) d3 h5
  have d1 := div_eq_of_byte (b := 256) d2 h6
  have d0 := div_eq_of_byte (b := 1) d1 (by rw [Nat.div_one, Nat.div_one]; exact h7)
  rwa [Nat.div_one, Nat.div_one] at d0

theorem hkey_ne_curKey {n : Nat} (hn : n < 4611686018427387904) : hkey n ≠ curKey := by
  intro h
  unfold hkey curKey at h
  simp only [List.cons.injEq, and_true] at h
  -- the top byte: `g` = 0x67 in `"gcurrent"`, below 0x40 for a height under 2^62
  have e0 := u8_ofNat_eq (b := 0x67) h.1
  omega

theorem hkey_ne_cntKey (n : Nat) : hkey n ≠ cntKey := by
  intro h; have := congrArg List.length h; simp [hkey, cntKey] at this

theorem curKey_ne_cntKey : curKey ≠ cntKey := by decide

end Rangers.Model.GroupChain
