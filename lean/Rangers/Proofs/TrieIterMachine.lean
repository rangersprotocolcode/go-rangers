import Rangers.Model.TrieIter
import Rangers.Proofs.TrieIterBytes
/- The NodeIterator stack machine on a minimal-form trie: its stack stands for the pairs still to come (`pendingOut`), and
   one `Next` reports the first of them; hence full iteration lists the trie in the order of `iter`. -/
namespace Rangers.Trie
open Rangers

theorem next_child {it : NodeIt} {F : Frame} {S : List Frame} (hs : it.stack = F :: S) (he : it.atEnd = false)
    {st F' : Frame} {p' : Key} (hc : nextChild it.path F = some (st, p', F')) :
    it.next = ({ it with stack := st :: { F' with next := F'.next + 1 } :: S, path := p' }, true) := by
  simp only [NodeIt.next, he, Bool.false_eq_true, if_false, NodeIt.peek, hs, if_true, peekLoop, hc, Option.map_some,
    NodeIt.push]

theorem next_exhausted {it : NodeIt} {F G : Frame} {S : List Frame} (hs : it.stack = F :: G :: S) (he : it.atEnd = false)
    (hc : nextChild it.path F = none) :
    it.next.2 = it.pop.next.2 ∧ (it.next.2 = true → it.next.1 = it.pop.next.1) := by
  have hp : it.pop.stack = G :: S := by simp [NodeIt.pop, hs]
  have hpe : it.pop.atEnd = false := by simp [NodeIt.pop, hs, he]
  simp only [NodeIt.next, he, hpe, Bool.false_eq_true, if_false, NodeIt.peek, hs, hp, if_true, List.length_cons]
  rw [show S.length + 1 + 1 + 1 = (S.length + 1 + 1) + 1 from rfl, peekLoop]
  simp only [hs, hc]
  cases hpl : peekLoop (S.length + 1 + 1) it.pop with
  | none => simp
  | some r => simp

theorem next_last {it : NodeIt} {F : Frame} (hs : it.stack = [F]) (he : it.atEnd = false)
    (hc : nextChild it.path F = none) : it.next = ({ it with atEnd := true }, false) := by
  simp [NodeIt.next, he, NodeIt.peek, hs, peekLoop, hc, NodeIt.pop]

theorem firstChild_eq (cs : List Node) (frm : Nat) :
    firstChild cs frm = ((occupied cs).find? (fun i => decide (frm ≤ i))).map (fun i => (i, cs.getD i .nil)) := by
  unfold firstChild occupied
  rw [← List.head?_filter, List.filter_filter]
  simp only [List.getD_eq_getElem?_getD]

theorem firstChild_some {cs : List Node} {frm i : Nat} {c : Node} (h : firstChild cs frm = some (i, c)) :
    frm ≤ i ∧ i < cs.length ∧ c = cs.getD i .nil ∧ c ≠ .nil ∧ ∀ j, frm ≤ j → j < i → cs.getD j .nil = .nil := by
  rw [firstChild_eq, Option.map_eq_some_iff] at h
  obtain ⟨i', hf, he⟩ := h
  obtain ⟨rfl, rfl⟩ := Prod.mk.inj he
  obtain ⟨hfrm, as, bs, hocc, has⟩ := List.find?_eq_some_iff_append.mp hf
  have hi := mem_occupied.mp (hocc ▸ List.mem_append_right as List.mem_cons_self : i' ∈ occupied cs)
  have hsorted := occupied_sorted cs
  rw [hocc, List.pairwise_append] at hsorted
  refine ⟨by simpa using hfrm, hi.1, rfl, by rw [List.getD_eq_getElem?_getD]; exact hi.2, fun j hj1 hj2 => ?_⟩
  rw [List.getD_eq_getElem?_getD]
  refine Classical.byContradiction (fun hne => ?_)
  have hj : j ∈ as ++ i' :: bs := hocc ▸ mem_occupied.mpr ⟨by omega, hne⟩
  rcases List.mem_append.mp hj with hja | hjb
  · simpa [hj1] using has j hja
  · rcases List.mem_cons.mp hjb with rfl | hjb
    · omega
    · have := List.rel_of_pairwise_cons hsorted.2.1 hjb; omega

theorem firstChild_none {cs : List Node} {frm : Nat} (h : firstChild cs frm = none) :
    ∀ j, frm ≤ j → j < cs.length → cs.getD j .nil = .nil := by
  intro j hj1 hj2
  rw [firstChild_eq, Option.map_eq_none_iff, List.find?_eq_none] at h
  rw [List.getD_eq_getElem?_getD]
  exact Classical.byContradiction (fun hne => by simpa [hj1] using h j (mem_occupied.mpr ⟨hj2, hne⟩))

theorem drop_eq_cons (cs : List Node) (n : Nat) (h : n < cs.length) : cs.drop n = cs.getD n .nil :: cs.drop (n + 1) := by
  rw [List.drop_eq_getElem_cons h]
  simp [List.getD_eq_getElem?_getD, List.getElem?_eq_getElem h]

theorem iterL_drop_skip (cs : List Node) (d frm : Nat) (hd : frm + d ≤ cs.length)
    (hnil : ∀ j, frm ≤ j → j < frm + d → cs.getD j .nil = .nil) :
    iterL (cs.drop frm) frm = iterL (cs.drop (frm + d)) (frm + d) := by
  induction d generalizing frm with
  | zero => rfl
  | succ d ih =>
    rw [drop_eq_cons cs frm (by omega), hnil frm (by omega) (by omega)]
    simp only [iterL, iter, prepend, List.map_nil, List.nil_append]
    have := ih (frm + 1) (by omega) (fun j h1 h2 => hnil j (by omega) (by omega))
    have e : frm + 1 + d = frm + (d + 1) := by omega
    rw [e] at this
    exact this

theorem iterL_drop_nil (cs : List Node) (frm : Nat)
    (hnil : ∀ j, frm ≤ j → j < cs.length → cs.getD j .nil = .nil) : iterL (cs.drop frm) frm = [] := by
  by_cases hf : frm ≤ cs.length
  · have := iterL_drop_skip cs (cs.length - frm) frm (by omega) (fun j h1 h2 => hnil j h1 (by omega))
    rw [this, show frm + (cs.length - frm) = cs.length by omega, List.drop_length]; rfl
  · rw [List.drop_eq_nil_of_le (by omega)]; rfl

theorem iterL_drop_first (cs : List Node) (frm i : Nat) (h1 : frm ≤ i) (h2 : i < cs.length)
    (hnil : ∀ j, frm ≤ j → j < i → cs.getD j .nil = .nil) :
    iterL (cs.drop frm) frm = prepend [i] (iter (cs.getD i .nil)) ++ iterL (cs.drop (i + 1)) (i + 1) := by
  have := iterL_drop_skip cs (i - frm) frm (by omega) (fun j a b => hnil j a (by omega))
  rw [this, show frm + (i - frm) = i by omega, drop_eq_cons cs i h2]
  rfl

def toKV (e : Key × Bytes) : Bytes × Bytes := (hexToKeybytes e.1, e.2)

/-- what `Iterator.Next` reports when the node iterator has just moved to `it` -/
def emitOf (it : NodeIt) : List (Bytes × Bytes) :=
  if hasTerm it.path then
    match it.stack with
    | top :: _ =>
      match top.node with
      | .value b => [(hexToKeybytes it.path, b)]
      | _ => []
    | [] => []
  else []

theorem iterLoop_succ (f : Nat) (it : NodeIt) :
    iterLoop (f + 1) it = if it.next.2 then emitOf it.next.1 ++ iterLoop f it.next.1 else [] := by
  simp only [iterLoop, emitOf]
  generalize it.next = r
  obtain ⟨it', b⟩ := r
  cases b with
  | false => rfl
  | true =>
    dsimp only
    cases hasTerm it'.path with
    | false => rfl
    | true =>
      cases it'.stack with
      | nil => rfl
      | cons top _ =>
        obtain ⟨node, _, _⟩ := top
        cases node <;> rfl

theorem prepend_append (p : Key) (A B : List (Key × Bytes)) : prepend p (A ++ B) = prepend p A ++ prepend p B := by
  simp [prepend]

theorem nodeCountL_append (xs ys : List Node) :
    nodeCount.nodeCountL (xs ++ ys) = nodeCount.nodeCountL xs + nodeCount.nodeCountL ys := by
  induction xs with
  | nil => simp [nodeCount.nodeCountL]
  | cons x xs ih => simp only [List.cons_append, nodeCount.nodeCountL, ih, Nat.add_assoc]

theorem nodeCountL_drop_ge (cs : List Node) (frm i : Nat) (h1 : frm ≤ i) (h2 : i < cs.length) :
    nodeCount (cs.getD i .nil) + nodeCount.nodeCountL (cs.drop (i + 1)) ≤ nodeCount.nodeCountL (cs.drop frm) := by
  have h := List.take_append_drop (i - frm) (cs.drop frm)
  rw [List.drop_drop, show frm + (i - frm) = i by omega, drop_eq_cons cs i h2] at h
  rw [← h, nodeCountL_append]
  simp only [nodeCount.nodeCountL]
  omega

/-- the pairs the children of a node from slot `next` on still have to deliver (paths relative to the node) -/
def below : Node → Nat → List (Key × Bytes)
  | .full cs, n => iterL (cs.drop n) n
  | .short k v, 0 => prepend k (iter v)
  | _, _ => []

/-- the output a stack still stands for, its top frame sitting at `path` -/
def pendingOut : List Frame → Key → List (Key × Bytes)
  | [], _ => []
  | F :: S, p => prepend p (below F.node F.next) ++ pendingOut S (p.take F.pathlen)

/-- `below` with `nodeCount` in place of `iter`: an upper bound on the frames still to be pushed -/
def belowCount : Node → Nat → Nat
  | .full cs, n => nodeCount.nodeCountL (cs.drop n)
  | .short _ v, 0 => nodeCount v
  | _, _ => 0

def pendingCount : List Frame → Nat
  | [] => 0
  | F :: S => belowCount F.node F.next + pendingCount S

theorem below_zero (t : Node) (h : ¬ ∃ b, t = .value b) : below t 0 = iter t := by
  cases t with
  | value b => exact absurd ⟨b, rfl⟩ h
  | nil => simp [below, iter]
  | short k v => simp [below, iter]
  | full cs => simp [below, iter]

theorem belowCount_zero (t : Node) : belowCount t 0 + 1 ≤ nodeCount t := by
  cases t <;> simp [belowCount, nodeCount]

theorem nextChild_none {p : Key} {F : Frame} (h : nextChild p F = none) : below F.node F.next = [] := by
  obtain ⟨n, nx, pl⟩ := F
  cases n with
  | nil => rfl
  | value b => rfl
  | short k v =>
    cases nx with
    | zero => simp [nextChild] at h
    | succ m => rfl
  | full cs =>
    cases hfc : firstChild cs nx with
    | some r => simp [nextChild, hfc] at h
    | none => exact iterL_drop_nil cs nx (firstChild_none hfc)

theorem nextChild_some {p p' : Key} {F C F' : Frame} (hv : Visitable F.node) (h : nextChild p F = some (C, p', F')) :
    ∃ q c i, C = ⟨c, 0, p.length⟩ ∧ p' = p ++ q ∧ F' = { F with next := i } ∧
      Visitable c ∧ ((∃ b, c = .value b) → hasTerm (p ++ q) = true) ∧
      below F.node F.next = prepend q (iter c) ++ below F.node (i + 1) ∧
      nodeCount c + belowCount F.node (i + 1) ≤ belowCount F.node F.next := by
  obtain ⟨n, nx, pl⟩ := F
  cases n with
  | nil => simp [nextChild] at h
  | value b => simp [nextChild] at h
  | short k v =>
    have hwf : WF (.short k v) := (hv.resolve_left (by simp)).resolve_left (by simp)
    cases nx with
    | succ m => simp [nextChild] at h
    | zero =>
      simp only [nextChild, if_true, Option.some.injEq, Prod.mk.injEq] at h
      obtain ⟨rfl, rfl, rfl⟩ := h
      refine ⟨k, v, 0, rfl, rfl, rfl, Visitable.of_short hwf, ?_, by simp [below], by simp [belowCount]⟩
      rintro ⟨b, rfl⟩
      rcases (WF_short_iff k (.value b)).mp hwf with ⟨_, _, hk, _⟩ | ⟨cs, h0, _⟩
      · obtain ⟨m, rfl, _⟩ := (validKey_iff k).mp hk
        rw [← List.append_assoc, hasTerm_append_16]
      · cases h0
  | full cs =>
    have hwf : WF (.full cs) := (hv.resolve_left (by simp)).resolve_left (by simp)
    cases hfc : firstChild cs nx with
    | none => simp [nextChild, hfc] at h
    | some r =>
      obtain ⟨i, ch⟩ := r
      simp only [nextChild, hfc, Option.map_some, Option.some.injEq, Prod.mk.injEq] at h
      obtain ⟨rfl, rfl, rfl⟩ := h
      obtain ⟨h1, h2, rfl, hne, hnil⟩ := firstChild_some hfc
      have hshape := slot_shape hwf i
      rw [← List.getD_eq_getElem?_getD] at hshape
      refine ⟨[i], cs.getD i .nil, i, rfl, rfl, rfl, ?_, ?_, iterL_drop_first cs nx i h1 h2 hnil,
        nodeCountL_drop_ge cs nx i h1 h2⟩
      · rcases hshape with h0 | ⟨_, b, hb, _⟩ | ⟨_, hw, _⟩
        · exact Or.inl h0
        · exact Or.inr (Or.inl ⟨b, hb⟩)
        · exact Or.inr (Or.inr hw)
      · rintro ⟨b, hb⟩
        rcases hshape with h0 | ⟨h16, _⟩ | ⟨_, hw, _⟩
        · exact absurd h0 hne
        · rw [h16, hasTerm_append_16]
        · rw [hb] at hw; exact absurd hw (not_WF_value b)

theorem arrive {c : Node} (hv : Visitable c) {it : NodeIt} {pl : Nat} {R : List Frame} (hs : it.stack = ⟨c, 0, pl⟩ :: R)
    (ht : (∃ b, c = .value b) → hasTerm it.path = true) :
    emitOf it ++ (prepend it.path (below c 0)).map toKV = (prepend it.path (iter c)).map toKV := by
  by_cases hval : ∃ b, c = .value b
  · obtain ⟨b, rfl⟩ := hval
    simp [emitOf, ht ⟨b, rfl⟩, hs, below, iter, prepend, toKV]
  · rw [below_zero c hval]
    have : emitOf it = [] := by
      unfold emitOf
      rw [hs]
      cases c with
      | value b => exact absurd ⟨b, rfl⟩ hval
      | _ => simp
    rw [this, List.nil_append]

/-- the state after a successful `Next` from a stack `S` at path `p`: the pair it reports (if any) and the output
    its stack stands for make up the output `S` stood for -/
structure Advanced (S : List Frame) (p : Key) (it' : NodeIt) : Prop where
  atEnd : it'.atEnd = false
  nonempty : it'.stack ≠ []
  visitable : ∀ G ∈ it'.stack, Visitable G.node
  count : pendingCount it'.stack + 1 ≤ pendingCount S
  out : emitOf it' ++ (pendingOut it'.stack it'.path).map toKV = (pendingOut S p).map toKV

theorem step_push {it : NodeIt} {F : Frame} {S : List Frame} (hs : it.stack = F :: S) (he : it.atEnd = false)
    (hok : ∀ G ∈ it.stack, Visitable G.node) {r : Frame × Key × Frame} (hc : nextChild it.path F = some r) :
    it.next.2 = true ∧ Advanced it.stack it.path it.next.1 := by
  obtain ⟨C, p', F'⟩ := r
  obtain ⟨q, c, i, rfl, rfl, rfl, hvc, hterm, hbelow, hcount⟩ := nextChild_some (hok F (by rw [hs]; simp)) hc
  rw [next_child hs he hc]
  refine ⟨rfl, he, by simp, ?_, ?_, ?_⟩
  · intro G hG
    simp only [List.mem_cons] at hG
    rcases hG with rfl | rfl | hG
    · exact hvc
    · exact hok F (by rw [hs]; simp)
    · exact hok G (by rw [hs]; simp [hG])
  · have := belowCount_zero c
    simp only [hs, pendingCount]
    omega
  · simp only [hs, pendingOut, List.take_left', List.map_append, ← List.append_assoc]
    rw [arrive hvc (it := { it with stack := _, path := it.path ++ q }) rfl hterm, hbelow]
    simp only [prepend_append, prepend_prepend, List.map_append, List.append_assoc]

theorem step_spec : ∀ (S : List Frame) (F : Frame) (it : NodeIt), it.stack = F :: S → it.atEnd = false →
    (∀ G ∈ it.stack, Visitable G.node) →
    (it.next.2 = false ∧ pendingOut it.stack it.path = []) ∨ (it.next.2 = true ∧ Advanced it.stack it.path it.next.1) := by
  intro S
  induction S with
  | nil =>
    intro F it hs he hok
    cases hc : nextChild it.path F with
    | some r => exact Or.inr (step_push hs he hok hc)
    | none =>
      rw [next_last hs he hc, hs]
      exact Or.inl ⟨rfl, by simp [pendingOut, nextChild_none hc, prepend]⟩
  | cons G R ih =>
    intro F it hs he hok
    cases hc : nextChild it.path F with
    | some r => exact Or.inr (step_push hs he hok hc)
    | none =>
      -- the exhausted top frame stands for nothing: the step is the step of the popped iterator
      obtain ⟨h1, h2⟩ := next_exhausted hs he hc
      have hps : it.pop.stack = G :: R := by simp [NodeIt.pop, hs]
      have hout : pendingOut it.stack it.path = pendingOut it.pop.stack it.pop.path := by
        simp [NodeIt.pop, hs, pendingOut, nextChild_none hc, prepend]
      have hcnt : pendingCount it.pop.stack ≤ pendingCount it.stack := by
        simp only [NodeIt.pop, hs, pendingCount]; omega
      rcases ih G it.pop hps (by simp [NodeIt.pop, hs, he]) (fun X hX => hok X (by rw [hs]; rw [hps] at hX; simp [hX])) with
        ⟨a, b⟩ | ⟨a, b⟩
      · exact Or.inl ⟨h1.trans a, hout.trans b⟩
      · refine Or.inr ⟨h1.trans a, ?_⟩
        rw [h2 (h1.trans a)]
        exact ⟨b.atEnd, b.nonempty, b.visitable, Nat.le_trans b.count hcnt, by rw [hout]; exact b.out⟩

theorem iterLoop_pending : ∀ (f : Nat) (it : NodeIt), it.stack ≠ [] → it.atEnd = false →
    (∀ G ∈ it.stack, Visitable G.node) → pendingCount it.stack < f →
    iterLoop f it = (pendingOut it.stack it.path).map toKV := by
  intro f
  induction f with
  | zero => intro it _ _ _ h; exact absurd h (Nat.not_lt_zero _)
  | succ f ih =>
    intro it hne he hok hf
    obtain ⟨F, S, hs⟩ := List.exists_cons_of_ne_nil hne
    rw [iterLoop_succ]
    rcases step_spec S F it hs he hok with ⟨h1, h2⟩ | ⟨h1, h2⟩
    · rw [h1, h2]; rfl
    · rw [h1, if_pos rfl, ih _ h2.nonempty h2.atEnd h2.visitable (by have := h2.count; omega), h2.out]

/-- `seek` with the empty key stops before it pushes the root: the root's path `[]` is already `≥` the key
    (`bytes.Compare(nil, nil) >= 0`).  So the first `Next` is the one that pushes it (`hn0` below). -/
theorem new_nil_start (root : Node) : NodeIt.new root [] = { root := root, stack := [], path := [], atEnd := false } := by
  simp [NodeIt.new, hexOfBytes, seekLoop, NodeIt.peek, keyGE, keyLE]

theorem iterMachine_full (t : Node) (ht : WFRoot t) : iterMachine t [] = iterFrom t [] := by
  rw [iterFrom_nil]
  unfold iterMachine
  rw [new_nil_start]
  have hn0 : (NodeIt.next { root := t, stack := [], path := [], atEnd := false })
      = ({ root := t, stack := [⟨t, 0, 0⟩], path := [], atEnd := false }, true) := by
    simp [NodeIt.next, NodeIt.peek, NodeIt.push]
  have hnv : ¬ ∃ b, t = .value b := by
    rintro ⟨b, rfl⟩
    rcases ht with h | h
    · cases h
    · exact not_WF_value b h
  have hcnt := belowCount_zero t
  rw [iterLoop_succ, hn0, if_pos rfl, iterLoop_pending _ _ (by simp) rfl
    (by intro G hG; simp at hG; subst hG; exact ht.imp id Or.inr) (by simp [pendingCount]; omega)]
  simp [emitOf, hasTerm, pendingOut, below_zero t hnv, prepend, toKV]

end Rangers.Trie
