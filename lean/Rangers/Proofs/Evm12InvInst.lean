import Rangers.Proofs.Evm12Logs
import Rangers.Proofs.Evm12Lemmas
/-! C12: the two invariants carried through frame trees by `run_inv`. -/
namespace Rangers.Model.Evm12

/-- the logs of the block are numbered by their position: `Log.Index` = running `logSize` at emission -/
def LogsIndexed (w : World) : Prop :=
  w.logSize = w.logs.length ∧ ∀ (i : Nat) (h : i < w.logs.length), (w.logs[i]).index = i

/-- `RevertToSnapshot` puts the block-wide log counter back (`addLogChange.undo`: `s.logSize--`, generated fact
    `add_log_undo_as_modelled`): the third assumption on `Env.rv`, beside `RevertRestoresObs` and
    `RevertKeepsTxContext` of `Model/Evm12Spec`; `logsIndexed_prim` alone needs it -/
def RevertRestoresLogSize (rv : World → World → World) : Prop :=
  ∀ saved cur, (rv saved cur).logSize = saved.logSize

theorem restore_restoresLogSize : RevertRestoresLogSize restore := fun _ _ => rfl

theorem LogsIndexed.of_same {w w' : World} (hw : LogsIndexed w) (h : SameLogs w w') : LogsIndexed w' := by
  unfold LogsIndexed
  rw [h.1, h.2.1]
  exact hw

theorem logsIndexed_prim (env : Env) (hrv : RevertRestoresObs env.rv) (hls : RevertRestoresLogSize env.rv) :
    PrimInv env LogsIndexed := by
  refine .of_sameLogs LogsIndexed.of_same (fun w a n t hw => ?_) (fun saved cur hs => ?_)
  · -- the new log sits at position `logs.length` and is stamped with `logSize`, which is that length
    obtain ⟨h1, h2⟩ := hw
    refine ⟨by simp [World.addLog, h1], ?_⟩
    intro i hi
    simp only [World.addLog, List.length_append, List.length_cons, List.length_nil] at hi
    by_cases hlt : i < w.logs.length
    · simp only [World.addLog, List.getElem_append_left hlt]
      exact h2 i hlt
    · have hie : i = w.logs.length := by omega
      subst hie
      simp [World.addLog, World.newLog, h1]
  · unfold LogsIndexed
    rw [hls saved cur, show (env.rv saved cur).logs = saved.logs from congrArg Obs.logs (hrv saved cur)]
    exact hs

/-- `Obs.WF` reads the existence map, nonces, code and storage only: for an access that writes other fields
    (here and in `wf_prim`) the statement about the new world unfolds to the one about the old -/
theorem wf_subBalance (w : World) (a : Addr) (v : Nat) (hw : (obs w).WF) : (obs (w.subBalance a v)).WF :=
  inv_ite (P := fun w => (obs w).WF) hw hw

theorem wf_of_write {w w' : World} {a : Addr} (ha : w.exists? a = true) (he : w'.exists? = w.exists?)
    (h : ∀ b, a ≠ b → w'.getNonce b = w.getNonce b ∧ w'.getCode b = w.getCode b
      ∧ ∀ k, w'.getState b k = w.getState b k)
    (hw : (obs w).WF) : (obs w').WF := by
  refine wf_of (fun b hb => ?_) hw
  have hb' : w.exists? b = false := he ▸ hb
  exact ⟨hb', h b (fun hab => by rw [hab, hb'] at ha; cases ha)⟩

theorem wf_prim (env : Env) (hrv : RevertRestoresObs env.rv) : PrimInv env (fun w => (obs w).WF) where
  setState w a k v hw :=
    wf_of_write (exists_touchNew_self w a) rfl
      (fun _ hne => ⟨rfl, rfl, fun _ => SMap.get_set_ne _ _ _ _ hne⟩) (wf_touchNew w a hw)
  setNonce w a n hw :=
    wf_of_write (exists_touchNew_self w a) rfl
      (fun _ hne => ⟨AMap.get_set_ne _ _ _ hne, rfl, fun _ => rfl⟩) (wf_touchNew w a hw)
  createAccount w a hw := wf_touchNew w a hw
  addBalance w a v hw := hw
  subBalance w a v hw := wf_subBalance w a v hw
  setCode w a c hw :=
    wf_of_write (exists_touchNew_self w a) rfl
      (fun _ hne => ⟨rfl, AMap.get_set_ne _ _ _ hne, fun _ => rfl⟩) (wf_touchNew w a hw)
  suicide w a hw := inv_ite (P := fun w => (obs w).WF) hw hw
  addLog w a n t hw := hw
  setTransient w a k v hw := hw
  addAccess w a hw := inv_ite (P := fun w => (obs w).WF) hw hw
  selfdestructRefund w a hw := inv_ite (P := fun w => (obs w).WF) hw hw
  stake w a n hw := by
    have h1 := wf_subBalance w a (oneRPG * n) hw
    unfold stakeEffect
    -- the world after `SubBalance` as a variable: `{ w1 with stake := _ }` mentions it once per field
    generalize w.subBalance a (oneRPG * n) = w1 at h1 ⊢
    exact inv_ite (P := fun w => (obs w).WF) h1 hw
  unstake w a n hw := by
    unfold unstakeEffect
    cases n with
    | none => exact inv_ite (P := fun w => (obs w).WF) hw hw
    | some n => exact inv_ite (P := fun w => (obs w).WF) (inv_ite (P := fun w => (obs w).WF) hw hw) hw
  revert saved cur hs := by
    show (obs (env.rv saved cur)).WF
    rw [hrv]; exact hs

end Rangers.Model.Evm12
