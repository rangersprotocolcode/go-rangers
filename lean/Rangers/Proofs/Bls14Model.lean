import Rangers.Model.Bls14G2
import Rangers.Proofs.Bls14Bytes
import Rangers.Proofs.Bls14Field
/-!
What the C14 statements use of the model's codec functions without unfolding them: the 32-byte fields of a
concatenation (`fieldAt_zero`, `fieldAt_succ`); `Unmarshal` with its exits merged into one (`g1Unmarshal_eq`, `g2Unmarshal_eq`:
after the length check the receiver holds the point the fields stand for, `g1Read` / `g2Read`, and the status says whether it
is on the curve); what `Deserialize` / `ByteToPublicKey` keep of its result; reducedness of GF(p²) results and of the
results of the point arithmetic; negation on representatives. No primality is needed here.
-/
namespace Rangers.Proofs.Bls14
open Rangers Rangers.Model.Bls14

/-- The `i`-th 32-byte field of `m`, as a number. -/
def fieldAt (m : Bytes) (i : Nat) : Nat := beToNat (slice m i)

theorem slice_length (m : Bytes) (i : Nat) (h : (i + 1) * 32 ≤ m.length) : (slice m i).length = 32 := by
  rw [slice, List.length_take, List.length_drop]
  exact Nat.min_eq_left (Nat.le_sub_of_add_le (by rwa [Nat.add_comm, ← Nat.succ_mul]))

theorem slice_zero (a m : Bytes) (la : a.length = 32) : slice (a ++ m) 0 = a :=
  List.take_left' la

theorem slice_succ (a m : Bytes) (i : Nat) (la : a.length = 32) : slice (a ++ m) (i + 1) = slice m i := by
  have e : (a ++ m).drop ((i + 1) * 32) = m.drop (i * 32) := by
    rw [Nat.succ_mul, Nat.add_comm, ← List.drop_drop, List.drop_left' la]
  exact congrArg (List.take 32) e

theorem fieldAt_zero (a m : Bytes) (la : a.length = 32) : fieldAt (a ++ m) 0 = beToNat a := by
  rw [fieldAt, slice_zero a m la]

theorem fieldAt_succ (a m : Bytes) (i : Nat) (la : a.length = 32) : fieldAt (a ++ m) (i + 1) = fieldAt m i := by
  rw [fieldAt, slice_succ a m i la, fieldAt]

theorem beFixed_fieldAt (m : Bytes) (i : Nat) (h : (i + 1) * 32 ≤ m.length) : beFixed 32 (fieldAt m i) = slice m i := by
  have := beFixed_beToNat (slice m i)
  rwa [slice_length m i h] at this

theorem beToNat_beFixed_mod {c : Nat} (h : c < P) : beToNat (beFixed 32 c) % P = c := by
  rw [beToNat_beFixed_of_lt 32 c (Nat.lt_trans h P_lt), Nat.mod_eq_of_lt h]

/-! On the wire a G1 point is a pair of coordinates and the pair `(0, 0)`, which is not on the curve, stands for
    infinity: `Marshal` writes it so, and `Unmarshal` reads it so before it looks at the curve equation. -/

/-- The coordinate pair `G1.Marshal` writes. -/
def coordsOf : Pt → Nat × Nat
  | .inf => (0, 0)
  | .aff x y => (x, y)

/-- The point `G1.Unmarshal` makes of two reduced coordinates. -/
def ptOfCoords (x y : Nat) : Pt := if x = 0 ∧ y = 0 then .inf else .aff x y

theorem g1Marshal_eq (q : Pt) : g1Marshal q = beFixed 32 (coordsOf q).1 ++ beFixed 32 (coordsOf q).2 := by
  cases q with
  | inf =>
    show List.replicate 64 0 = _
    rw [coordsOf, beFixed_zero, List.replicate_append_replicate]
  | aff x y => rfl

theorem g1_marshal_length (q : Pt) : (g1Marshal q).length = 64 := by
  rw [g1Marshal_eq, List.length_append, beFixed_length, beFixed_length]

theorem ptOfCoords_coordsOf (q : Pt) (hc : q.onCurve = true) : ptOfCoords (coordsOf q).1 (coordsOf q).2 = q := by
  cases q with
  | inf => rfl
  | aff x y =>
    refine if_neg fun hz => ?_
    rw [show x = 0 from hz.1, show y = 0 from hz.2] at hc
    revert hc
    decide

theorem coordsOf_ptOfCoords (x y : Nat) : coordsOf (ptOfCoords x y) = (x, y) := by
  unfold ptOfCoords
  split
  · next hz =>
    rw [hz.1, hz.2]
    rfl
  · rfl

theorem coordsOf_lt (q : Pt) (hr : q.reduced = true) : (coordsOf q).1 < P ∧ (coordsOf q).2 < P := by
  cases q with
  | inf => exact ⟨P_pos, P_pos⟩
  | aff x y => simpa [Pt.reduced, coordsOf] using hr

theorem ptOfCoords_reduced {x y : Nat} (hx : x < P) (hy : y < P) : (ptOfCoords x y).reduced = true := by
  unfold ptOfCoords
  split
  · rfl
  · simp [Pt.reduced, hx, hy]

/-- The point the first 64 bytes of `m` stand for. -/
def g1Read (m : Bytes) : Pt := ptOfCoords (fieldAt m 0 % P) (fieldAt m 1 % P)

/-- The three exits of `G1.Unmarshal` after the length check are one: the receiver gets the point of the two
    coordinates, the status says whether it is on the curve (infinity is, by definition of `Pt.onCurve`). -/
theorem g1Unmarshal_exits (x y : Nat) (rest : Bytes) :
    (if (x == 0 && y == 0) = true then ((.pt .inf : G1Val), UnmStatus.ok rest)
      else if onCurveXY x y = true then (.pt (.aff x y), .ok rest) else (.pt (.aff x y), .malformed)) =
    (.pt (ptOfCoords x y), if (ptOfCoords x y).onCurve = true then .ok rest else .malformed) := by
  unfold ptOfCoords
  simp only [Bool.and_eq_true, beq_iff_eq]
  split
  · rfl
  · exact (apply_ite (Prod.mk _) _ _ _).symm

/- The widths are `2 * NB` and `NB` of the model evaluated: the `rfl`s below fail when `numBytes` changes. -/
theorem g1Unmarshal_eq (recv : G1Val) (m : Bytes) :
    g1Unmarshal recv m =
      if m.length < 64 then (recv, .short)
      else (.pt (g1Read m), if (g1Read m).onCurve = true then .ok (m.drop 64) else .malformed) :=
  ite_congr rfl (fun _ => rfl) fun _ => g1Unmarshal_exits _ _ _

theorem g1Read_fields (a b rest : Bytes) (la : a.length = 32) (lb : b.length = 32) :
    g1Read (a ++ b ++ rest) = ptOfCoords (beToNat a % P) (beToNat b % P) := by
  rw [List.append_assoc, g1Read, fieldAt_succ a _ 0 la, fieldAt_zero a _ la, fieldAt_zero b _ lb]

theorem g1Unmarshal_fields (recv : G1Val) (a b rest : Bytes) (la : a.length = 32) (lb : b.length = 32) :
    g1Unmarshal recv (a ++ b ++ rest) =
      (.pt (ptOfCoords (beToNat a % P) (beToNat b % P)),
        if (ptOfCoords (beToNat a % P) (beToNat b % P)).onCurve = true then .ok rest else .malformed) := by
  have hl : (a ++ b).length = 64 := by rw [List.length_append, la, lb]
  have hn : ¬ (a ++ b ++ rest).length < 64 := by
    rw [List.length_append, hl]
    exact Nat.not_lt.2 (Nat.le_add_right 64 _)
  rw [g1Unmarshal_eq, if_neg hn, List.drop_left' hl, g1Read_fields a b rest la lb]

theorem g1Read_reduced (m : Bytes) : (g1Read m).reduced = true :=
  ptOfCoords_reduced (Nat.mod_lt _ P_pos) (Nat.mod_lt _ P_pos)

theorem g1Read_marshal_append (q : Pt) (rest : Bytes) (hc : q.onCurve = true) (hr : q.reduced = true) :
    g1Read (g1Marshal q ++ rest) = q := by
  rw [g1Marshal_eq, g1Read_fields _ _ _ (beFixed_length 32 _) (beFixed_length 32 _),
    beToNat_beFixed_mod (coordsOf_lt q hr).1, beToNat_beFixed_mod (coordsOf_lt q hr).2, ptOfCoords_coordsOf q hc]

theorem g1Marshal_g1Read (b : Bytes) (hl : b.length = 64) (hx : fieldAt b 0 < P) (hy : fieldAt b 1 < P) :
    g1Marshal (g1Read b) = b := by
  rw [g1Marshal_eq, g1Read, coordsOf_ptOfCoords, Nat.mod_eq_of_lt hx, Nat.mod_eq_of_lt hy,
    beFixed_fieldAt b 0 (by omega), beFixed_fieldAt b 1 (by omega)]
  show b.take 32 ++ (b.drop 32).take 32 = b
  rw [List.take_of_length_le (l := b.drop 32) (by rw [List.length_drop]; omega), List.take_append_drop]

theorem sig_isValid_pt (s : Pt) : Sig.isValid (.pt s) = if s.onCurve then .yes else .no := by
  simp [Sig.isValid, Sig.serialize, g1_marshal_length, g1IsValid]

/-- On the empty input (`Deserialize`'s one error) `Unmarshal` would not have touched the receiver either. -/
theorem Sig.deserialize_fst (s : Sig) (b : Bytes) : (Sig.deserialize s b).1 = (g1Unmarshal s b).1 := by
  unfold Sig.deserialize
  split
  · next h =>
    have h0 : b.length = 0 := by simpa using h
    rw [g1Unmarshal_eq, if_pos (by omega)]
  · rfl

theorem deserializeSign_eq (b : Bytes) : deserializeSign b = (g1Unmarshal .nil b).1 :=
  Sig.deserialize_fst .nil b

/-- The point `G2.Unmarshal` makes of two reduced coordinates in GF(p²). -/
def pt2OfCoords (x y : F2) : Pt2 := if (x.isZero && y.isZero) = true then .inf else .aff x y

/-- The point the first 128 bytes of `m` stand for. -/
def g2Read (m : Bytes) : Pt2 :=
  pt2OfCoords ⟨fieldAt m 0 % P, fieldAt m 1 % P⟩ ⟨fieldAt m 2 % P, fieldAt m 3 % P⟩

theorem g2Unmarshal_exits (x y : F2) (rest : Bytes) :
    (if (x.isZero && y.isZero) = true then ((.pt .inf : G2Val), UnmStatus.ok rest)
      else if onTwistXY x y = true then (.pt (.aff x y), .ok rest) else (.pt (.aff x y), .malformed)) =
    (.pt (pt2OfCoords x y), if (pt2OfCoords x y).onCurve = true then .ok rest else .malformed) := by
  unfold pt2OfCoords
  split
  · rfl
  · exact (apply_ite (Prod.mk _) _ _ _).symm

theorem g2Unmarshal_eq (recv : G2Val) (m : Bytes) :
    g2Unmarshal recv m =
      if m.length < 128 then ((match recv with | .nil => G2Val.pt .inf | r => r), .short)
      else (.pt (g2Read m), if (g2Read m).onCurve = true then .ok (m.drop 128) else .malformed) :=
  ite_congr rfl (fun _ => rfl) fun _ => g2Unmarshal_exits _ _ _

theorem pt2OfCoords_of_onTwist {x y : F2} (hc : onTwistXY x y = true) : pt2OfCoords x y = .aff x y := by
  refine if_neg fun hz => ?_
  simp only [F2.isZero, Bool.and_eq_true, beq_iff_eq] at hz
  obtain ⟨x0, x1⟩ := x
  obtain ⟨y0, y1⟩ := y
  obtain ⟨⟨rfl, rfl⟩, rfl, rfl⟩ := hz
  revert hc
  decide

theorem byteToPublicKey_of_ok {b rest : Bytes} {v : G2Val} (h : g2Unmarshal .nil b = (v, .ok rest)) :
    byteToPublicKey b = v := by
  unfold byteToPublicKey
  rw [h]

/-- Nested to the right and closed by `[]`: the shape `fieldAt_succ` / `fieldAt_zero` peel field by field. -/
theorem g2Marshal_aff (x y : F2) :
    g2Marshal (.aff x y) = beFixed 32 x.x ++ (beFixed 32 x.y ++ (beFixed 32 y.x ++ (beFixed 32 y.y ++ []))) := by
  simp [g2Marshal, NB, Generated.Bls14.numBytes]

theorem g2Unmarshal_marshal_append (recv : G2Val) (x y : F2) (rest : Bytes)
    (hr : x.x < P ∧ x.y < P ∧ y.x < P ∧ y.y < P) (hc : onTwistXY x y = true) :
    g2Unmarshal recv (g2Marshal (.aff x y) ++ rest) = (.pt (.aff x y), .ok rest) := by
  have hl : (g2Marshal (.aff x y)).length = 128 := by simp [g2Marshal_aff, beFixed_length]
  have hq : g2Read (g2Marshal (.aff x y) ++ rest) = .aff x y := by
    simp only [g2Read, g2Marshal_aff, List.append_assoc, fieldAt_succ, fieldAt_zero, beFixed_length, beToNat_beFixed_mod, hr]
    exact pt2OfCoords_of_onTwist hc
  rw [g2Unmarshal_eq, if_neg (by rw [List.length_append, hl]; omega), hq, if_pos (show (Pt2.aff x y).onCurve = true from hc),
    List.drop_left' hl]

theorem F2_ops_reduced (a b : F2) :
    (F2.add a b).isReduced = true ∧ (F2.sub a b).isReduced = true ∧ (F2.mul a b).isReduced = true ∧
    (F2.reduce a).isReduced = true := by
  simp [F2.isReduced, F2.add, F2.sub, F2.mul, F2.reduce, fadd_lt, fsub_lt, Nat.mod_lt _ P_pos]

theorem pt_neg_reduced (p : Pt) (hp : p.reduced = true) : p.neg.reduced = true := by
  cases p with
  | inf => rfl
  | aff x y =>
    simp only [Pt.reduced, Bool.and_eq_true, decide_eq_true_eq] at hp
    simp [Pt.neg, Pt.reduced, hp.1, fneg_lt]

theorem pt_double_reduced (p : Pt) : (Pt.double p).reduced = true := by
  cases p with
  | inf => rfl
  | aff x y =>
    rw [Pt.double, apply_ite Pt.reduced]
    simp [Pt.reduced, fsub_lt]

theorem pt_add_reduced (p q : Pt) (hp : p.reduced = true) (hq : q.reduced = true) :
    (Pt.add p q).reduced = true := by
  cases p with
  | inf => cases q <;> exact hq
  | aff x1 y1 =>
    cases q with
    | inf => exact hp
    | aff x2 y2 =>
      rw [Pt.add, apply_ite Pt.reduced, apply_ite Pt.reduced, pt_double_reduced]
      simp [Pt.reduced, fsub_lt]

theorem pt2_neg_reduced (p : Pt2) (hp : p.reduced = true) : p.neg.reduced = true := by
  cases p with
  | inf => rfl
  | aff x y =>
    simp only [Pt2.reduced, Bool.and_eq_true] at hp
    rw [Pt2.neg, Pt2.reduced, hp.1, Bool.true_and]
    simp [F2.isReduced, F2.neg, fneg_lt]

theorem pt2_double_reduced (p : Pt2) : (Pt2.double p).reduced = true := by
  cases p with
  | inf => rfl
  | aff x y =>
    rw [Pt2.double, apply_ite Pt2.reduced]
    simp [Pt2.reduced, F2_ops_reduced]

theorem pt2_add_reduced (p q : Pt2) (hp : p.reduced = true) (hq : q.reduced = true) :
    (Pt2.add p q).reduced = true := by
  cases p with
  | inf => cases q <;> exact hq
  | aff x1 y1 =>
    cases q with
    | inf => exact hp
    | aff x2 y2 =>
      rw [Pt2.add, apply_ite Pt2.reduced, apply_ite Pt2.reduced, pt2_double_reduced]
      simp [Pt2.reduced, F2_ops_reduced]

theorem eq_zero_of_eq_neg_mod {p r : Nat} (hodd : p % 2 = 1) (hr : r < p) (h : r = (p - r) % p) :
    r = 0 := by
  by_contra h0
  rw [Nat.mod_eq_of_lt (by omega)] at h
  omega

theorem fneg_fixed (a : Nat) (h : a % P = fneg a % P) : a % P = 0 := by
  unfold fneg at h
  rw [Nat.mod_mod] at h
  exact eq_zero_of_eq_neg_mod P_odd (Nat.mod_lt a P_pos) h

theorem sub_mul_sub_modEq {p r s : Nat} (hr : r ≤ p) (hs : s ≤ p) :
    (p - r) * (p - s) ≡ r * s [MOD p] := by
  have e1 : (p - r) * (p - s) + r * (p - s) = p * (p - s) := by
    rw [← Nat.add_mul, Nat.sub_add_cancel hr]
  have e2 : r * s + r * (p - s) = r * p := by rw [← Nat.mul_add, Nat.add_sub_cancel' hs]
  have m : (p - r) * (p - s) + r * (p - s) ≡ r * s + r * (p - s) [MOD p] := by
    rw [e1, e2]
    exact (Nat.modEq_zero_iff_dvd.mpr (Dvd.intro _ rfl)).trans
      (Nat.modEq_zero_iff_dvd.mpr (Dvd.intro_left _ rfl)).symm
  exact Nat.ModEq.add_right_cancel' _ m

theorem fmul_fneg_fneg (a b : Nat) : fmul (fneg a) (fneg b) = fmul a b := by
  have ha := Nat.le_of_lt (Nat.mod_lt a P_pos)
  have hb := Nat.le_of_lt (Nat.mod_lt b P_pos)
  unfold fmul fneg
  exact ((Nat.mod_modEq _ _).mul (Nat.mod_modEq _ _)).trans
    ((sub_mul_sub_modEq ha hb).trans ((Nat.mod_modEq _ _).mul (Nat.mod_modEq _ _)))

end Rangers.Proofs.Bls14
