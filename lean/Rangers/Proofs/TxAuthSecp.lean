import Rangers.Proofs.TxAuth
import Rangers.Proofs.BigEndian
/-! The secp256k1 decision layer (`libRecover`, `libVerify`): what an accepted signature must
satisfy, independent of the curve operations; `sign_components`: the r and s they read out of the
bytes of a `Sign`. -/
namespace Rangers.Model.TxAuth
open Rangers

theorem libVerify_spec (cr : Crypto) (pk msg sig : Bytes) :
    libVerify cr pk msg sig = true ↔
      (1 ≤ sigR sig ∧ sigR sig < secpN) ∧ (1 ≤ sigS sig ∧ sigS sig ≤ secpHalfN) ∧
      cr.verifyCore pk msg (sigR sig) (sigS sig) = true := by
  unfold libVerify
  rw [Bool.ite_then_false, Bool.ite_then_false, Bool.ite_then_false]
  generalize sigR sig = r
  generalize sigS sig = s
  constructor
  · rintro ⟨c1, c2, c3, h⟩
    exact ⟨⟨Nat.pos_of_ne_zero fun e => c3 (Or.inl e), Nat.lt_of_not_ge fun e => c1 (Or.inl e)⟩,
      ⟨Nat.pos_of_ne_zero fun e => c3 (Or.inr e), Nat.le_of_not_gt c2⟩, h⟩
  · rintro ⟨hr, hs, h⟩
    exact ⟨fun c => c.elim (Nat.not_le.2 hr.2) (Nat.not_le.2 (Nat.lt_of_le_of_lt hs.2 secpHalfN_lt_secpN)), Nat.not_lt.2 hs.2,
      fun c => c.elim (Nat.ne_of_gt hr.1) (Nat.ne_of_gt hs.1), h⟩

theorem libRecover_spec (cr : Crypto) (msg sig pk : Bytes) (h : libRecover cr msg sig = some pk) :
    (1 ≤ sigR sig ∧ sigR sig < secpN) ∧ (1 ≤ sigS sig ∧ sigS sig < secpN) ∧
      cr.recoverCore msg (sigR sig) (sigS sig) ((sig.drop 64).headD 0).toNat = some pk := by
  unfold libRecover at h
  rw [Option.ite_none_left_eq_some, Option.ite_none_left_eq_some] at h
  obtain ⟨c1, c2, h⟩ := h
  exact ⟨⟨Nat.pos_of_ne_zero fun e => c2 (Or.inl e), Nat.lt_of_not_ge fun e => c1 (Or.inl e)⟩,
    ⟨Nat.pos_of_ne_zero fun e => c2 (Or.inr e), Nat.lt_of_not_ge fun e => c1 (Or.inr e)⟩, h⟩

/-- N is odd, so `N − ⌊N/2⌋ > ⌊N/2⌋` -/
theorem twin_is_high {s : Nat} (h : s ≤ secpHalfN) : secpN - s > secpHalfN :=
  Nat.lt_of_lt_of_le (by decide : secpHalfN < secpN - secpHalfN) (Nat.sub_le_sub_left h secpN)

theorem padLeft_length_ge (n : Nat) (xs : Bytes) : n ≤ (padLeft n xs).length := by
  unfold padLeft
  rw [List.length_append, List.length_replicate]
  exact Nat.le_add_of_sub_le (Nat.le_refl _)

theorem sign_components (sg : Sign) (h : sg.bytes.length = 65) :
    sigR (sg.bytes.take 64) = sg.r ∧ sigS (sg.bytes.take 64) = sg.s ∧ sg.bytes.take 64 = sg.body := by
  have h1 := padLeft_length_ge 32 (natToBE sg.r)
  have h2 := padLeft_length_ge 32 (natToBE sg.s)
  have hb := Sign.body_length h
  have hb' : (padLeft 32 (natToBE sg.r)).length + (padLeft 32 (natToBE sg.s)).length = 64 := by
    simpa [Sign.body] using hb
  obtain ⟨l1, l2⟩ : (padLeft 32 (natToBE sg.r)).length = 32 ∧ (padLeft 32 (natToBE sg.s)).length = 32 := by
    omega
  have ht : sg.bytes.take 64 = sg.body := List.take_left' hb
  refine ⟨?_, ?_, ht⟩
  · rw [ht]; unfold sigR Sign.body
    rw [List.take_left' l1, beToNat_padLeft, beToNat_natToBE]
  · rw [ht]; unfold sigS Sign.body
    rw [List.drop_left' l1]
    have : (padLeft 32 (natToBE sg.s)).take 32 = padLeft 32 (natToBE sg.s) :=
      List.take_of_length_le (Nat.le_of_eq l2)
    rw [this, beToNat_padLeft, beToNat_natToBE]

end Rangers.Model.TxAuth
