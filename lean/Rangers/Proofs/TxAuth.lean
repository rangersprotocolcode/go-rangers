import Rangers.Model.TxAuth
/-! Core Lean only: the decimal renderings are injective; two concatenations over the same tags that differ in one
tag's part differ (`flatMap_eq_cancel`, for `ser`); what `secp256k1.RecoverPubkey` does with the last byte of a
65-byte signature. -/
namespace Rangers.Model.TxAuth
open Rangers

theorem digitByte_toNat (d : Nat) (h : d < 10) : (digitByte d).toNat = 48 + d := by
  unfold digitByte
  rw [UInt8.toNat_ofNat']
  exact Nat.mod_eq_of_lt (Nat.lt_trans (Nat.add_lt_add_left h 48) (by decide))

theorem div10_lt_fuel {f n : Nat} (h : n < f + 1) (h10 : ¬ n < 10) : n / 10 < f :=
  Nat.lt_of_lt_of_le
    (Nat.div_lt_self (Nat.lt_of_lt_of_le (by decide) (Nat.le_of_not_lt h10)) (by decide))
    (Nat.le_of_lt_succ h)

theorem valRev_decRev (fuel n : Nat) (h : n < fuel) : valRev (decRev fuel n) = n := by
  induction fuel generalizing n with
  | zero => cases h
  | succ f ih =>
    unfold decRev
    by_cases h10 : n < 10
    · rw [if_pos h10]
      show (digitByte n).toNat - 48 + 10 * 0 = n
      rw [digitByte_toNat n h10, Nat.add_sub_cancel_left]
      rfl
    · rw [if_neg h10]
      show (digitByte (n % 10)).toNat - 48 + 10 * valRev (decRev f (n / 10)) = n
      rw [digitByte_toNat _ (Nat.mod_lt _ (by decide)), Nat.add_sub_cancel_left, ih _ (div10_lt_fuel h h10),
        Nat.add_comm]
      exact Nat.div_add_mod n 10

theorem decRev_digits (fuel n : Nat) : ∀ b ∈ decRev fuel n, 48 ≤ b.toNat ∧ b.toNat ≤ 57 := by
  have digit : ∀ d, d < 10 → 48 ≤ (digitByte d).toNat ∧ (digitByte d).toNat ≤ 57 := fun d hd => by
    rw [digitByte_toNat d hd]
    exact ⟨Nat.le_add_right .., Nat.add_le_add_left (Nat.le_of_lt_succ hd) 48⟩
  induction fuel generalizing n with
  | zero => exact nofun
  | succ f ih =>
    intro b hb
    unfold decRev at hb
    by_cases h10 : n < 10
    · rw [if_pos h10] at hb
      rw [List.mem_singleton.1 hb]
      exact digit n h10
    · rw [if_neg h10] at hb
      rcases List.mem_cons.1 hb with hb | hb
      · rw [hb]
        exact digit _ (Nat.mod_lt _ (by decide))
      · exact ih _ b hb

theorem decimal_digits (n : Nat) : ∀ b ∈ decimal n, 48 ≤ b.toNat ∧ b.toNat ≤ 57 := by
  intro b hb
  unfold decimal at hb
  exact decRev_digits _ _ b (List.mem_reverse.1 hb)

theorem decimal_injective {a b : Nat} (h : decimal a = decimal b) : a = b := by
  unfold decimal at h
  have h' := List.reverse_inj.1 h
  have := congrArg valRev h'
  rwa [valRev_decRev _ _ (Nat.lt_succ_self a), valRev_decRev _ _ (Nat.lt_succ_self b)] at this

theorem decimalInt_injective {i j : Int} (h : decimalInt i = decimalInt j) : i = j := by
  have noMinus : ∀ n, (45 : UInt8) ∉ decimal n := fun n hm => absurd (decimal_digits n _ hm).1 (by decide)
  unfold decimalInt at h
  by_cases hi : i < 0 <;> by_cases hj : j < 0
  · rw [if_pos hi, if_pos hj] at h
    have hn := congrArg Int.ofNat (decimal_injective (List.cons.inj h).2)
    rw [Int.ofNat_eq_natCast, Int.ofNat_eq_natCast, Int.ofNat_natAbs_of_nonpos (Int.le_of_lt hi),
      Int.ofNat_natAbs_of_nonpos (Int.le_of_lt hj)] at hn
    exact Int.neg_inj.1 hn
  · rw [if_pos hi, if_neg hj] at h
    exact absurd (h ▸ List.mem_cons_self ..) (noMinus _)
  · rw [if_neg hi, if_pos hj] at h
    exact absurd (h ▸ List.mem_cons_self ..) (noMinus _)
  · rw [if_neg hi, if_neg hj] at h
    have hn := congrArg Int.ofNat (decimal_injective h)
    rwa [Int.ofNat_eq_natCast, Int.ofNat_eq_natCast, Int.natAbs_of_nonneg (Int.not_lt.1 hi),
      Int.natAbs_of_nonneg (Int.not_lt.1 hj)] at hn

theorem flatMap_agree {α β : Type} (f g : α → List β) (l : List α) (h : ∀ y ∈ l, f y = g y) :
    l.flatMap f = l.flatMap g :=
  congrArg List.flatten (List.map_congr_left h)

theorem flatMap_eq_cancel {α β : Type} (f g : α → List β) (x : α) (l : List α) (hnd : l.Nodup) (hx : x ∈ l)
    (hag : ∀ y ∈ l, y ≠ x → f y = g y) (heq : l.flatMap f = l.flatMap g) : f x = g x := by
  induction l with
  | nil => cases hx
  | cons y l ih =>
    obtain ⟨hyl, hnd⟩ := List.nodup_cons.1 hnd
    rw [List.flatMap_cons, List.flatMap_cons] at heq
    by_cases hy : y = x
    · subst hy
      rw [flatMap_agree f g l (fun z hz => hag z (List.mem_cons_of_mem _ hz) (fun hzy => hyl (hzy ▸ hz)))] at heq
      exact List.append_cancel_right heq
    · rw [hag y (List.mem_cons_self ..) hy] at heq
      exact ih hnd ((List.mem_cons.1 hx).resolve_left (Ne.symm hy))
        (fun z hz => hag z (List.mem_cons_of_mem _ hz)) (List.append_cancel_left heq)

theorem secpHalfN_lt_secpN : secpHalfN < secpN := by decide

def Sign.body (sg : Sign) : Bytes := padLeft 32 (natToBE sg.r) ++ padLeft 32 (natToBE sg.s)

theorem Sign.bytes_eq (sg : Sign) : sg.bytes = sg.body ++ [sg.recid] := rfl

theorem Sign.body_length {sg : Sign} (h : sg.bytes.length = 65) : sg.body.length = 64 := by
  rw [Sign.bytes_eq, List.length_append, List.length_singleton] at h
  exact Nat.succ.inj h

theorem u8_toNat_add (k c : UInt8) (h : k.toNat + c.toNat < 256) : (k + c).toNat = k.toNat + c.toNat := by
  rw [UInt8.toNat_add]; exact Nat.mod_eq_of_lt h

/-- the three tests of `checkSignature` (`> 26`, `-= 27`, `>= 4`) on a recovery id `k ≤ 3` and on `k + 27` -/
theorem recid_spellings (k : UInt8) (hk : k.toNat ≤ 3) :
    ¬ k > 26 ∧ ¬ k ≥ 4 ∧ k + 27 > 26 ∧ k + 27 - 27 = k := by
  have h27 : (k + 27).toNat = k.toNat + 27 := u8_toNat_add k 27 (Nat.add_lt_add_right (Nat.lt_of_le_of_lt hk (by decide)) 27)
  refine ⟨fun h => ?_, fun h => ?_, UInt8.lt_iff_toNat_lt.2 ?_, UInt8.add_sub_cancel k 27⟩
  · have : 26 < k.toNat := UInt8.lt_iff_toNat_lt.1 h
    exact absurd (Nat.lt_of_lt_of_le this hk) (by decide)
  · have : 4 ≤ k.toNat := UInt8.le_iff_toNat_le.1 h
    exact absurd (Nat.le_trans this hk) (by decide)
  · rw [h27]; exact Nat.lt_of_lt_of_le (by decide : 26 < 27) (Nat.le_add_left _ _)

theorem recoverPubkey_snoc (cr : Crypto) (msg body : Bytes) (v : UInt8) (hb : body.length = 64) :
    recoverPubkey cr msg (body ++ [v]) =
      if msg.length ≠ 32 then none
      else if (if v > 26 then v - 27 else v) ≥ 4 then none
      else libRecover cr msg (body ++ [if v > 26 then v - 27 else v]) := by
  unfold recoverPubkey
  have hl : (body ++ [v]).length = 65 := by simp [hb]
  have hd : (body ++ [v]).drop 64 = [v] := List.drop_left' hb
  have ht : (body ++ [v]).take 64 = body := List.take_left' hb
  simp only [hl, ne_eq, not_true_eq_false, ↓reduceIte, hd, List.headD_cons, ht]

theorem recoverPubkey_len (cr : Crypto) (msg sig pk : Bytes) (h : recoverPubkey cr msg sig = some pk) :
    sig.length = 65 := by
  by_cases h2 : sig.length = 65
  · exact h2
  · unfold recoverPubkey at h
    by_cases h1 : msg.length ≠ 32
    · rw [if_pos h1] at h; cases h
    · rw [if_neg h1, if_pos h2] at h; cases h

theorem recoverPubkey_recid (cr : Crypto) (msg body : Bytes) (k : UInt8) (hb : body.length = 64) (hk : k.toNat ≤ 3) :
    recoverPubkey cr msg (body ++ [k]) = (if msg.length ≠ 32 then none else libRecover cr msg (body ++ [k])) ∧
    recoverPubkey cr msg (body ++ [k + 27]) = (if msg.length ≠ 32 then none else libRecover cr msg (body ++ [k])) := by
  obtain ⟨a, b, c, d⟩ := recid_spellings k hk
  rw [recoverPubkey_snoc _ _ _ _ hb, recoverPubkey_snoc _ _ _ _ hb, if_neg a, if_pos c, d, if_neg b]
  exact ⟨rfl, rfl⟩

theorem recoverPubkey_alias (cr : Crypto) (msg body : Bytes) (v : UInt8) (hb : body.length = 64)
    (h1 : 27 ≤ v) (h2 : v ≤ 30) :
    recoverPubkey cr msg (body ++ [v - 27]) = recoverPubkey cr msg (body ++ [v]) := by
  have hk : (v - 27).toNat ≤ 3 := by
    rw [UInt8.toNat_sub_of_le _ _ h1]
    exact Nat.sub_le_of_le_add (UInt8.le_iff_toNat_le.1 h2)
  obtain ⟨e1, e2⟩ := recoverPubkey_recid cr msg body (v - 27) hb hk
  rw [UInt8.sub_add_cancel] at e2
  rw [e1, e2]

end Rangers.Model.TxAuth
