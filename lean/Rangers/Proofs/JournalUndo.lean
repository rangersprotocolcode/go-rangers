import Rangers.Proofs.JournalSim
/-! What the building blocks of the `undo` methods and of the ops (`markDirty`, `putObj`, `resolve`, `resolveNew`, the object
updates `setSlot`, `disarm`, `setSui`) do to `res`, the dirty set and the fields outside the objects.  A step that
stores an object is an `Upd`: the resolution of one address replaced, the rest of the view kept; the steps' lemmas produce it
(`Upd.putObj`, `Upd.markDirty`, `modify_live`), the introduction rules of the relations consume it (`Rel.upd`, `SimP.of_upd`).
In between, transient storage: what `tget` reads after a `tset` (`tget_tset`), the one field of `Frame` that is not an equation. -/
namespace Rangers.Proofs.Journal
open Rangers Rangers.Model.Journal

theorem sim_same_res {s t rs rt : ADB} (h : Sim s t) (hs : s.crashed = false)
    (frs : Frame rs s) (frt : Frame rt t) (crs : rs.crashed = false) (crt : rt.crashed = false)
    (hrs : ∀ b, res rs b = res s b) (hrt : ∀ b, res rt b = res t b) : Sim rs rt := by
  refine ⟨crs.trans crt.symm, fun _ => frs.trans ((h.frame hs).trans frt.symm), fun _ b => ?_⟩
  rw [hrs b, hrt b, frs.codes]; exact h.objs hs b

theorem crash_crashed (s : ADB) : (crash s).crashed = true := rfl

theorem Obj.get_set (o : Obj) (k k' : Key) (v : Val) (d : List (Key × Val)) :
    ({ o with cached := mset o.cached k v, dirty := d } : Obj).get k' = if k = k' then v else o.get k' := by
  simp only [Obj.get, mget_mset]
  by_cases h : k = k' <;> simp [h]

theorem frame_of_objs_only {s r : ADB} (h : r = { s with objs := r.objs, dirtySet := r.dirtySet, journal := r.journal }) :
    Frame r s := by
  rw [h]; exact .inner _

theorem markDirty_Frame (s : ADB) (a : Addr) (o : Obj) : Frame (markDirty s a o) s := by
  unfold markDirty; split <;> exact .inner _

theorem markDirty_crashed (s : ADB) (a : Addr) (o : Obj) : (markDirty s a o).crashed = s.crashed := by
  unfold markDirty; split <;> rfl

theorem markDirty_journal (s : ADB) (a : Addr) (o : Obj) : (markDirty s a o).journal = s.journal := by
  unfold markDirty; split <;> rfl

theorem markDirty_dirtySet (s : ADB) (a b : Addr) (o : Obj) :
    b ∈ (markDirty s a o).dirtySet ↔ (o.armed = true ∧ b = a) ∨ b ∈ s.dirtySet := by
  unfold markDirty
  by_cases h : o.armed = true
  · simp only [h, if_true, mem_sadd, true_and]
  · simp [h]

theorem live_not_deleted {s : ADB} {a : Addr} {o : Obj} (h : res s a = .live o) : o.deleted = false := by
  obtain ⟨_, _, _, hd, _⟩ := resolve_live h; exact hd

theorem putObj_Frame (s : ADB) (a : Addr) (o : Obj) : Frame (putObj s a o) s := .inner _

theorem res_putObj (s : ADB) (a b : Addr) (o : Obj) (hd : o.deleted = false) :
    res (putObj s a o) b = if a = b then Res.live o else res s b :=
  res_of_mset (s := s) (r := putObj s a o) rfl rfl hd b

/-- `accountObject.setData(k, v)` on a copy -/
def setSlot (o : Obj) (k : Key) (v : Val) : Obj :=
  { o with cached := mset o.cached k v, dirty := mset o.dirty k v }

def disarm (o : Obj) : Obj := { o with armed := false }
def setSui (o : Obj) (b : Bool) : Obj := { o with suicided := b }

/-- `r` is `s` with the resolution of `a` replaced by the live object `x`; crash flag and the fields outside the objects
    as in `s`.  What every step that stores an object does to the view the relations compare (the dirty set apart). -/
structure Upd (s r : ADB) (a : Addr) (x : Obj) : Prop where
  crashed : r.crashed = s.crashed
  frame : Frame r s
  res_eq : ∀ b, res r b = if a = b then Res.live x else res s b

theorem Upd.putObj (s : ADB) (a : Addr) {x : Obj} (hx : x.deleted = false) : Upd s (putObj s a x) a x :=
  ⟨rfl, putObj_Frame s a x, fun b => res_putObj s a b x hx⟩

theorem Upd.markDirty (s : ADB) (a : Addr) {x : Obj} (hx : x.deleted = false) :
    Upd s (markDirty s a x) a (disarm x) :=
  ⟨markDirty_crashed s a x, markDirty_Frame s a x, fun b => res_markDirty s a b x hx⟩

theorem Upd.trans {s r u : ADB} {a : Addr} {x y : Obj} (h : Upd s r a x) (h' : Upd r u a y) : Upd s u a y :=
  ⟨h'.crashed.trans h.crashed, h'.frame.trans h.frame, fun b => by
    rw [h'.res_eq b, h.res_eq b]; by_cases hab : a = b <;> simp [hab]⟩

theorem Upd.of_res {s s' r : ADB} {a : Addr} {x : Obj} (h : Upd s' r a x) (hc : s'.crashed = s.crashed) (F : Frame s' s)
    (hr : ∀ b, res s' b = res s b) : Upd s r a x :=
  ⟨h.crashed.trans hc, h.frame.trans F, fun b => by rw [h.res_eq b, hr b]⟩

theorem Upd.to_res {s r r' : ADB} {a : Addr} {x : Obj} (h : Upd s r a x) (hc : r'.crashed = r.crashed) (F : Frame r' r)
    (hr : ∀ b, res r' b = res r b) : Upd s r' a x :=
  ⟨hc.trans h.crashed, F.trans h.frame, fun b => by rw [hr b, h.res_eq b]⟩

theorem Upd.live {s r : ADB} {a : Addr} {x : Obj} (h : Upd s r a x) : res r a = .live x := by rw [h.res_eq a, if_pos rfl]

theorem Upd.live_at {s r : ADB} {a b : Addr} {x o : Obj} (h : Upd s r a x) (hb : res s b = .live o) :
    res r b = .live (if a = b then x else o) := by
  rw [h.res_eq b]; split
  · rfl
  · exact hb

theorem modify_live {s : ADB} {a : Addr} {o : Obj} (h : res s a = .live o) (f : Obj → Obj)
    (hf : (f o).deleted = false) :
    ∃ s1, resolve s a = (s1, some o) ∧ mget s1.objs a = some o ∧ Upd s (markDirty s1 a (f o)) a (disarm (f o)) ∧
      (∀ b, b ∈ (markDirty s1 a (f o)).dirtySet ↔ ((f o).armed = true ∧ b = a) ∨ b ∈ s.dirtySet) := by
  obtain ⟨s1, h1, h2, _, h4, h5⟩ := resolve_live h
  refine ⟨s1, h1, h2, (Upd.markDirty s1 a hf).of_res (by rw [h4]) (by rw [h4]; exact .inner _) h5, fun b => ?_⟩
  rw [markDirty_dirtySet, h4]

theorem isZero_toHash {v : Bytes} (h : isZero v = true) : toHash v = zeroHash := by
  have hv : ∀ x ∈ v, x = 0 := by
    intro x hx
    have := List.all_eq_true.mp h x hx
    simpa using this
  have hrep : v = List.replicate v.length 0 := List.eq_replicate_iff.mpr ⟨rfl, hv⟩
  unfold toHash zeroHash
  by_cases hl : v.length > 32
  · simp only [hl, if_true]
    rw [hrep]; simp only [List.length_replicate, List.drop_replicate]
    rw [Nat.sub_sub_self (Nat.le_of_lt hl)]
  · simp only [hl, if_false]
    rw [hrep]; simp only [List.length_replicate, List.replicate_append_replicate]
    rw [Nat.sub_add_cancel (Nat.le_of_not_gt hl)]

theorem toHash_nil : toHash [] = zeroHash := by simp [toHash, zeroHash]

theorem tget_tset (t : List (Addr × List (Hash × Hash))) (a a' : Addr) (k k' v : Hash) :
    tget (tset t a k v) a' k' = if a = a' ∧ k = k' then toHash v else tget t a' k' := by
  unfold tset
  by_cases hz : isZero v = true
  · simp only [hz, if_true]
    cases hm : mget t a with
    | none =>
      simp only
      by_cases h : a = a' ∧ k = k'
      · obtain ⟨rfl, rfl⟩ := h
        simp [tget, hm, isZero_toHash hz]
      · simp [h]
    | some m =>
      simp only
      by_cases he : (mdel m k).isEmpty = true
      · simp only [he, if_true]
        unfold tget
        by_cases haa : a = a'
        · subst haa
          simp only [mget_mdel_self, hm, true_and]
          have hnil : mdel m k = [] := List.isEmpty_iff.mp he
          by_cases hk : k = k'
          · simp [hk, isZero_toHash hz]
          · simp only [hk, if_false]
            have : mget m k' = none := by
              have := mget_mdel_ne m hk
              rw [hnil] at this; simpa using this.symm
            simp [this, toHash_nil]
        · simp [haa, mget_mdel_ne t haa]
      · simp only [he, Bool.false_eq_true, if_false]
        unfold tget
        by_cases haa : a = a'
        · subst haa
          simp only [mget_mset_self, hm, true_and]
          by_cases hk : k = k'
          · simp [hk, isZero_toHash hz, toHash_nil]
          · simp [hk, mget_mdel_ne m hk]
        · simp [haa, mget_mset_ne t _ haa]
  · simp only [hz, Bool.false_eq_true, if_false]
    cases hm : mget t a with
    | none =>
      simp only
      unfold tget
      by_cases haa : a = a'
      · subst haa
        simp only [mget_mset_self, hm, true_and]
        by_cases hk : k = k'
        · simp [hk, mget]
        · simp [hk, mget, toHash_nil]
      · simp [haa, mget_mset_ne t _ haa]
    | some m =>
      simp only
      unfold tget
      by_cases haa : a = a'
      · subst haa
        simp only [mget_mset_self, hm, true_and]
        by_cases hk : k = k'
        · simp [hk]
        · simp [hk, mget_mset_ne m _ hk]
      · simp [haa, mget_mset_ne t _ haa]

theorem resolveNew_live {s : ADB} {a : Addr} {o : Obj} (h : res s a = .live o) :
    resolveNew s a = resolve s a := by
  rw [res_def] at h
  unfold resolveNew resolve
  cases hm : mget s.objs a with
  | some o1 => rfl
  | none =>
    simp only [hm] at h ⊢
    cases ht : mget s.trie a with
    | none => simp [ht] at h
    | some l => rfl

theorem resolveNew_deleted {s : ADB} {a : Addr} (h : res s a = .deleted) : resolveNew s a = (s, none) := by
  rw [res_def] at h
  unfold resolveNew
  cases hm : mget s.objs a with
  | some o1 =>
    simp only [hm] at h ⊢
    by_cases hd : o1.deleted = true
    · simp [hd]
    · simp [hd] at h
  | none =>
    simp only [hm] at h
    split at h <;> cases h

theorem resolveNew_absent {s : ADB} {a : Addr} (h : res s a = .absent) :
    resolveNew s a = ({ s with objs := mset s.objs a Obj.fresh, dirtySet := sadd s.dirtySet a,
                                journal := s.journal ++ [Entry.create a] }, some Obj.fresh) := by
  obtain ⟨_, hm, ht⟩ := resolve_absent h
  unfold resolveNew
  simp [hm, ht]

theorem resolve_fields (s : ADB) (a : Addr) :
    (resolve s a).1 = { s with objs := (resolve s a).1.objs } := by
  unfold resolve; repeat' split
  all_goals rfl

theorem resolve_dirtySet (s : ADB) (a : Addr) : (resolve s a).1.dirtySet = s.dirtySet := by rw [resolve_fields]

end Rangers.Proofs.Journal
