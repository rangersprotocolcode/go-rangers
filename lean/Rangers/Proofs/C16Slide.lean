import Rangers.Model.VrfCurve
/-!
`slide` recomputed on a list, front to back. The loops of `slide` at position `i` read and write
only positions `≥ i`, so the digits below `i` can be set aside as a finished prefix and the rest
kept as a list whose head is digit `i`; every array access then becomes a step on the first few
cells. That is what makes `slideL` cheap for the kernel to evaluate: in `slide` every `r[k]!` and
`r.set! k` walks a 256-cell array.
-/
namespace Rangers.Proofs.C16Slide
open Rangers.Model.VrfCurve

def carryL : List Int → List Int
  | [] => []
  | x :: xs => if x = 0 then 1 :: xs else 0 :: carryL xs

/-- `slideInner i fuel b` on digit `i` (`h`) and the cells from position `i + b` on;
    returns the new digit `i` and the new cells -/
def innerL : Nat → Nat → Int → List Int → Int × List Int
  | 0, _, h, t => (h, t)
  | _ + 1, _, h, [] => (h, [])
  | fuel + 1, b, h, x :: xs =>
    if b > 6 then (h, x :: xs)
    else if x = 0 then
      let r := innerL fuel (b + 1) h xs
      (r.1, x :: r.2)
    else
      let sh : Int := x * 2 ^ b
      if h + sh ≤ 15 then
        let r := innerL fuel (b + 1) (h + sh) xs
        (r.1, 0 :: r.2)
      else if h - sh ≥ -15 then
        let r := innerL fuel (b + 1) (h - sh) (carryL xs)
        (r.1, 0 :: r.2)
      else (h, x :: xs)

def outerL : Nat → List Int → List Int
  | 0, t => t
  | _ + 1, [] => []
  | fuel + 1, h :: t =>
    if h ≠ 0 then
      let r := innerL 7 1 h t
      r.1 :: outerL fuel r.2
    else h :: outerL fuel t

def slideL (k : Nat) : List Int :=
  outerL 256 ((List.range 256).map (fun i => ((k / 2 ^ i % 2 : Nat) : Int)))

theorem get_at (pre suf : List Int) (x : Int) : (pre ++ x :: suf).toArray[pre.length]! = x := by
  simp

theorem set_at (pre suf : List Int) (x y : Int) :
    (pre ++ x :: suf).toArray.set! pre.length y = (pre ++ y :: suf).toArray := by
  simp

theorem carry_eq (pre suf : List Int) (fuel : Nat) (h : suf.length ≤ fuel) :
    slideCarry fuel pre.length (pre ++ suf).toArray = (pre ++ carryL suf).toArray := by
  induction suf generalizing pre fuel with
  | nil => cases fuel <;> simp [slideCarry, carryL]
  | cons x xs ih =>
    obtain ⟨fuel, rfl⟩ : ∃ f, fuel = f + 1 := ⟨fuel - 1, by simp at h; omega⟩
    have hlt : ¬ pre.length ≥ (pre ++ x :: xs).toArray.size := by simp
    rw [slideCarry, if_neg hlt, get_at, set_at, set_at, carryL]
    split
    · rfl
    · have := ih (pre ++ [0]) fuel (by simpa using h)
      simpa using this

/-- `mid`: the cells `i + 1 … i + b − 1` the loop has already passed -/
theorem inner_eq (pre mid suf : List Int) (fuel b : Nat) (h : Int) (hb : b = mid.length + 1) :
    slideInner pre.length fuel b (pre ++ h :: mid ++ suf).toArray
      = (pre ++ (innerL fuel b h suf).1 :: mid ++ (innerL fuel b h suf).2).toArray := by
  induction fuel generalizing mid suf b h with
  | zero => simp [slideInner, innerL]
  | succ fuel ih =>
    cases suf with
    | nil => simp [slideInner, innerL, hb]
    | cons x xs =>
      have hpos : ∀ h', pre.length + b = (pre ++ h' :: mid).length := by simp [hb]
      have hsz : ¬ pre.length + b ≥ (pre ++ h :: mid ++ x :: xs).toArray.size := by simp [hb]
      have hx : (pre ++ h :: mid ++ x :: xs).toArray[pre.length + b]! = x := by
        rw [hpos h]; exact get_at _ _ _
      have hh : (pre ++ h :: mid ++ x :: xs).toArray[pre.length]! = h := by
        rw [List.append_assoc]; exact get_at _ _ _
      have seth : ∀ y, (pre ++ h :: mid ++ x :: xs).toArray.set! pre.length y
          = (pre ++ y :: mid ++ x :: xs).toArray := by
        intro y; rw [List.append_assoc, List.append_assoc]; exact set_at _ _ _ _
      have next : ∀ h' y t, (pre ++ h' :: mid ++ y :: t) = pre ++ h' :: (mid ++ [y]) ++ t := by simp
      have hb' : ∀ y, b + 1 = (mid ++ [y]).length + 1 := by simp [hb]
      rw [slideInner, innerL, hx, hh]
      by_cases h6 : b > 6
      · simp [h6]
      simp only [h6, hsz, or_self, if_false]
      by_cases hx0 : x = 0
      · rw [if_pos hx0, if_pos hx0, next, ih _ xs (b + 1) h (hb' x)]; simp
      rw [if_neg hx0, if_neg hx0]
      by_cases hadd : h + x * 2 ^ b ≤ 15
      · rw [if_pos hadd, if_pos hadd, seth, hpos, set_at, next, ih _ xs (b + 1) _ (hb' 0)]; simp
      rw [if_neg hadd, if_neg hadd]
      by_cases hsub : h - x * 2 ^ b ≥ -15
      · have hc := carry_eq (pre ++ (h - x * 2 ^ b) :: mid) (x :: xs)
          (pre ++ h :: mid ++ x :: xs).toArray.size (by simp; omega)
        rw [if_pos hsub, if_pos hsub, seth, hpos (h - x * 2 ^ b), hc, carryL, if_neg hx0, next,
          ih _ _ (b + 1) _ (hb' 0)]
        simp
      · rw [if_neg hsub, if_neg hsub]

theorem outer_eq (pre suf : List Int) (fuel : Nat) :
    slideOuter fuel pre.length (pre ++ suf).toArray = (pre ++ outerL fuel suf).toArray := by
  induction fuel generalizing pre suf with
  | zero => rfl
  | succ fuel ih =>
    cases suf with
    | nil => simp [slideOuter, outerL]
    | cons h t =>
      have hsz : ¬ pre.length ≥ (pre ++ h :: t).toArray.size := by simp
      have step : ∀ h' t', (pre ++ h' :: t' : List Int) = pre ++ [h'] ++ t' := by simp
      have hlen : ∀ h', pre.length + 1 = (pre ++ [h']).length := by simp
      rw [slideOuter, if_neg hsz, get_at, outerL]
      split
      · rw [step h t, inner_eq pre [] t 7 1 h rfl, hlen, ih]; simp
      · rw [step, hlen, ih]; simp

theorem slide_eq_slideL (k : Nat) : slide k = slideL k := by
  have hbits : ∀ (n : Nat) (f : Nat → Int), (Array.range n).map f = ((List.range n).map f).toArray := by
    intro n f; apply Array.ext'; simp
  have h := outer_eq [] ((List.range 256).map (fun i => ((k / 2 ^ i % 2 : Nat) : Int))) 256
  rw [List.nil_append, List.nil_append, List.length_nil] at h
  rw [slide, hbits, h, List.toList_toArray, slideL]

end Rangers.Proofs.C16Slide
