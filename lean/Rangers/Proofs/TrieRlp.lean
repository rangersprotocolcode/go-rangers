import Rangers.Model.TrieDecode
import Rangers.Proofs.RLPFrame
/- RLP on the disk path.  `Model/TrieDecode.lean` transcribes the part of `storage/rlp/raw.go` that node.go uses
   (`readKind`, `readSize`, `Split`, …) with `Option` results; `Model/RLP.lean` transcribes the same functions with
   their error codes.  They are the same functions (`readKind_eq`, `rlpSplit_eq`), and the trie's `rlpHead`/`rlpString`/
   `rlpList` write what the RLP model's encoder writes, so that splitting an encoded item gives back its payload is
   `RLP.split_ok_iff` read through the bridge. -/
namespace Rangers.Trie
open Rangers

/-- the kinds of the two transcriptions of raw.go -/
def ofKind : RLP.Kind → RKind
  | .byte => .byte
  | .string => .string
  | .list => .list

theorem readSize_eq (b : Bytes) (slen : Nat) : readSize b slen = (RLP.readSize b slen).toOption := by
  unfold readSize RLP.readSize
  by_cases hl : b.length < slen
  · rw [if_pos hl, if_pos hl]; rfl
  · rw [if_neg hl, if_neg hl]
    cases b with
    | nil =>
      have h0 : beToNat (List.take slen ([] : Bytes)) < 56 ∨ ([] : Bytes).headD 0 = 0 := Or.inr rfl
      exact if_pos h0
    | cons b0 tl =>
      have hz : b0 = 0 ↔ b0.toNat = 0 := (UInt8.toNat_inj (b := 0)).symm
      show (if beToNat _ < 56 ∨ b0 = 0 then none else some _) = Except.toOption (if beToNat _ < 56 ∨ b0.toNat = 0 then _ else _)
      by_cases h : beToNat ((b0 :: tl).take slen) < 56 ∨ b0 = 0
      · rw [if_pos h, if_pos (h.imp id hz.1)]; rfl
      · rw [if_neg h, if_neg (fun h' => h (h'.imp id hz.2))]; rfl

theorem headLt128_iff (tl : Bytes) : RLP.headLt128 tl = true ↔ 0 < tl.length ∧ (tl.headD 0).toNat < 128 := by
  cases tl with
  | nil => simp [RLP.headLt128]
  | cons x xs => simp [RLP.headLt128]

theorem readKind_eq (buf : Bytes) :
    readKind buf = (RLP.readKind buf).toOption.map fun r => (ofKind r.1, r.2) := by
  cases buf with
  | nil => rfl
  | cons b tl =>
    -- the last step of both: the announced value must lie inside the buffer
    have hfit : ∀ (k : RLP.Kind) (ts cs : Nat),
        ((some (ofKind k, ts, cs) : Option (RKind × Nat × Nat)).bind fun r =>
          if (b :: tl).length - r.2.1 < r.2.2 then none else some r) =
        (Except.toOption (if cs > (b :: tl).length - ts then Except.error RLP.Err.valueTooLarge else .ok (k, ts, cs))).map
          fun r => (ofKind r.1, r.2) := by
      intro k ts cs
      by_cases h : (b :: tl).length - ts < cs
      · rw [if_pos h]; exact if_pos h
      · rw [if_neg h]; exact if_neg h
    unfold readKind RLP.readKind
    simp only
    by_cases c1 : b.toNat < 0x80
    · rw [if_pos c1, if_pos c1]; exact hfit .byte 0 1
    · rw [if_neg c1, if_neg c1]
      by_cases c2 : b.toNat < 0xb8
      · rw [if_pos c2, if_pos c2]
        by_cases hc : b.toNat - 0x80 = 1 ∧ RLP.headLt128 tl = true
        · rw [if_pos hc, if_pos ⟨hc.1, (headLt128_iff tl).1 hc.2⟩]; rfl
        · rw [if_neg hc, if_neg (fun h => hc ⟨h.1, (headLt128_iff tl).2 h.2⟩)]; exact hfit .string 1 (b.toNat - 0x80)
      · rw [if_neg c2, if_neg c2]
        by_cases c3 : b.toNat < 0xc0
        · rw [if_pos c3, if_pos c3, readSize_eq]
          cases RLP.readSize tl (b.toNat - 0xb7) with
          | error e => rfl
          | ok cs => exact hfit .string (b.toNat - 0xb7 + 1) cs
        · rw [if_neg c3, if_neg c3]
          by_cases c4 : b.toNat < 0xf8
          · rw [if_pos c4, if_pos c4]; exact hfit .list 1 (b.toNat - 0xc0)
          · rw [if_neg c4, if_neg c4, readSize_eq]
            cases RLP.readSize tl (b.toNat - 0xf7) with
            | error e => rfl
            | ok cs => exact hfit .list (b.toNat - 0xf7 + 1) cs

theorem rlpSplit_eq (b : Bytes) : rlpSplit b = (RLP.split b).toOption.map fun r => (ofKind r.1, r.2) := by
  unfold rlpSplit RLP.split
  rw [readKind_eq]
  cases RLP.readKind b <;> rfl

/-- `puthead` in the trie's transcription and in the RLP model: the large tag is the small one plus 55 -/
theorem rlpHead_eq (off n : Nat) : rlpHead off n = RLP.encHead off (off + 55) n := by
  unfold rlpHead RLP.encHead
  by_cases h : n < 56
  · rw [if_pos h, if_pos h]
  · rw [if_neg h, if_neg h, RLP.putint_eq (by omega), RLP.toBE_eq_natToBE]

theorem rlpString_eq (b : Bytes) : rlpString b = RLP.encString b := by
  cases b with
  | nil => exact congrArg (· ++ []) (rlpHead_eq 0x80 0)
  | cons x tl =>
    cases tl with
    | cons y ys => exact congrArg (· ++ x :: y :: ys) (rlpHead_eq 0x80 _)
    | nil =>
      show (if x < 0x80 then [x] else rlpHead 0x80 1 ++ [x]) = if x.toNat ≤ 0x7f then [x] else RLP.encHead 0x80 0xb7 1 ++ [x]
      rw [rlpHead_eq]
      by_cases hx : x < 0x80
      · rw [if_pos hx, if_pos (Nat.le_of_lt_succ (UInt8.lt_iff_toNat_lt.mp hx))]
      · rw [if_neg hx, if_neg (fun h => hx (UInt8.lt_iff_toNat_lt.mpr (Nat.lt_succ_of_le h)))]

theorem rlpList_eq (p : Bytes) : rlpList p = RLP.encListPayload p := by
  unfold rlpList RLP.encListPayload
  rw [rlpHead_eq]

theorem rlpSplit_item (isList : Bool) (payload rest : Bytes) (hlen : payload.length < 256 ^ 8) :
    ∃ k, rlpSplit ((if isList then rlpList payload else rlpString payload) ++ rest) = some (k, payload, rest) ∧
      (k = RKind.list ↔ isList = true) := by
  have h64 : payload.length < 2 ^ 64 := hlen
  rw [rlpSplit_eq]
  cases isList with
  | true =>
    rw [if_pos rfl, rlpList_eq, show RLP.encListPayload payload = RLP.frame .list payload from rfl,
      RLP.split_ok_iff.2 ⟨rfl, .of_ne (k := .list) nofun h64, nofun⟩]
    exact ⟨.list, rfl, by simp⟩
  | false =>
    obtain ⟨k, hk, hf, hc, he⟩ := RLP.encString_frame h64
    rw [if_neg nofun, rlpString_eq, he, RLP.split_ok_iff.2 ⟨rfl, hf, hc⟩]
    refine ⟨ofKind k, rfl, ?_⟩
    cases k with
    | list => exact absurd rfl hk
    | byte | string => simp [ofKind]

theorem countValues_succ (f : Nat) (b : Bytes) : countValues (f + 1) b =
    if b.isEmpty then some 0 else (rlpSplit b).bind fun r => (countValues f r.2.2).map (· + 1) := by
  rw [countValues]
  unfold rlpSplit
  cases readKind b <;> rfl

end Rangers.Trie
