import Rangers.Model.RLP
import Rangers.Proofs.BigEndian
/-! Integer lemmas for the RLP model: `beNat` / `toBE` are inverse on minimal byte strings. -/
namespace Rangers.RLP
open Rangers

theorem beNat_nil : beNat [] = 0 := rfl

theorem beNat_cons (x : UInt8) (xs : Bytes) : beNat (x :: xs) = x.toNat * 256 ^ xs.length + beNat xs :=
  beToNat_cons x xs

theorem beNat_append (a b : Bytes) : beNat (a ++ b) = beNat a * 256 ^ b.length + beNat b :=
  beToNat_append a b

theorem beNat_snoc (a : Bytes) (x : UInt8) : beNat (a ++ [x]) = beNat a * 256 + x.toNat :=
  beToNat_append_one a x

theorem beNat_lt (b : Bytes) : beNat b < 256 ^ b.length :=
  beToNat_lt b

theorem toBE_zero : toBE 0 = [] := rfl

/-- `toBE` (fuel-recursive, snoc) and `natToBE` (accumulator) write the same bytes; `beNat` is `beToNat` by definition. -/
theorem toBEf_eq_natToBE : ∀ (f n : Nat), n ≤ f → toBEf f n = natToBE n
  | 0, n, h => by rw [Nat.le_zero.1 h]; rfl
  | f + 1, n, h => by
    by_cases hn : n = 0
    · subst hn; rfl
    · rw [toBEf, if_neg hn, toBEf_eq_natToBE f (n / 256) (by omega), ← natToBE_step n hn]

theorem toBE_eq_natToBE (n : Nat) : toBE n = natToBE n :=
  toBEf_eq_natToBE n n (Nat.le_refl n)

theorem toBE_pos {n : Nat} (hn : n ≠ 0) : toBE n = toBE (n / 256) ++ [UInt8.ofNat (n % 256)] := by
  rw [toBE_eq_natToBE, toBE_eq_natToBE, natToBE_step n hn]

theorem beNat_toBE (n : Nat) : beNat (toBE n) = n :=
  (congrArg beToNat (toBE_eq_natToBE n)).trans (beToNat_natToBE n)

theorem toBE_length_le (k n : Nat) (h : n < 256 ^ k) : (toBE n).length ≤ k := by
  rw [toBE_eq_natToBE]
  exact (natToBE_length_le_iff k n).2 h

theorem toBE_length_pos {n : Nat} (hn : n ≠ 0) : 0 < (toBE n).length := by
  rw [toBE_pos hn]; simp

theorem toBE_head_ne_zero {n : Nat} {b0 : UInt8} {rest : Bytes} (h : toBE n = b0 :: rest) : b0.toNat ≠ 0 := by
  intro e
  have := natToBE_head_ne_zero n
  rw [← toBE_eq_natToBE, h] at this
  exact this (congrArg some ((UInt8.toNat_inj (b := 0)).1 e))

def Minimal : Bytes → Prop
  | [] => True
  | b0 :: _ => b0.toNat ≠ 0

theorem Minimal.head {b : Bytes} (h : Minimal b) : b.head? ≠ some 0 := by
  cases b with
  | nil => exact nofun
  | cons x xs => exact fun e => h (congrArg UInt8.toNat (Option.some.inj e))

theorem toBE_beNat (b : Bytes) (h : Minimal b) : toBE (beNat b) = b :=
  (toBE_eq_natToBE _).trans (natToBE_beToNat_of_head h.head)

theorem beNat_singleton (b : UInt8) : beNat [b] = b.toNat := by simp [beNat]

theorem toBE_byte {b : UInt8} (hb : b.toNat ≠ 0) : toBE b.toNat = [b] := by
  have := toBE_beNat [b] hb
  rwa [beNat_singleton] at this

theorem toBE_eq_singleton {n : Nat} {x : UInt8} (h : toBE n = [x]) : n = x.toNat ∧ x.toNat ≠ 0 :=
  ⟨by rw [← beNat_toBE n, h, beNat_singleton], toBE_head_ne_zero h⟩

theorem bigOfContent_ok_iff (c : Bytes) (n : Nat) : bigOfContent c = .ok n ↔ c = toBE n := by
  unfold bigOfContent
  constructor
  · intro h
    cases c with
    | nil => cases h; rfl
    | cons b0 tl =>
      simp only at h
      split at h
      · cases h
      · rename_i hb
        cases h
        exact (toBE_beNat (b0 :: tl) hb).symm
  · rintro rfl
    have hbe := beNat_toBE n
    cases hcc : toBE n with
    | nil => rw [hcc] at hbe; rw [← hbe]; rfl
    | cons b0 tl =>
      rw [hcc] at hbe
      simp only
      rw [if_neg (toBE_head_ne_zero hcc), hbe]

end Rangers.RLP
