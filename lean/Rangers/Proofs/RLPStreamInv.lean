import Rangers.Model.RLPStream
import Rangers.Proofs.RLPHead
/-! The list-bound / input-limit invariant `SInv` of `Stream` and its preservation by every method:
    each `*_inv` concludes `SInv` for the stream the method leaves, also on its error paths. -/
namespace Rangers.RLP
open Rangers

/-- `stackOK stack r`: every list position is inside its list, the unread part of the innermost
    list fits into the `r` bytes the input limit still allows, every list fits into what was
    left of its parent when it was entered.  The position of an enclosing list stands still while an
    inner list is read (`ListEnd` adds the inner size), so the enclosing lists are measured against
    the budget as it was when the inner list was entered: `r + p`. -/
def stackOK : List (Nat × Nat) → Nat → Prop
  | [], _ => True
  | (p, sz) :: rest, r =>
    p ≤ sz ∧ sz - p ≤ r ∧
    (match rest with | [] => True | (p', sz') :: _ => sz ≤ sz' - p') ∧
    stackOK rest (r + p)

/-- bytes the next read may take: rest of the innermost list, or of the input at top level -/
def avail (st : List (Nat × Nat)) (rem : Nat) : Nat :=
  match st with
  | [] => rem
  | (p, sz) :: _ => sz - p

/-- The invariant of a limited stream with declared input `L` (the limit given to `NewStream`, the
    length of the input where there is none: `newStream_inv`): the stack agrees with the budget
    `remaining`, reads stay within `L`, a `Kind` cached without error announces no more than the next
    read may take, and no `make` exceeds `L + 9`: `Bytes` allocates the announced size, `Raw` adds
    the at most 9 bytes of the header it rebuilds (`headsize_le`). -/
structure SInv (L : Nat) (s : Stream) : Prop where
  lim : s.limited = true
  stk : stackOK s.stack s.remaining
  rd : s.consumed + s.remaining ≤ L
  al : ∀ a ∈ s.allocs, a ≤ L + 9
  kd : ∀ k, s.kind = some k → s.kinderr = none → s.size ≤ avail s.stack s.remaining

theorem snd_ite {α σ : Type} {c : Prop} [Decidable c] (a b : α) (s : σ) : (if c then (a, s) else (b, s)).2 = s := by
  split <;> rfl

/-- the list stack after `n` bytes were read from the innermost list -/
def bump : List (Nat × Nat) → Nat → List (Nat × Nat)
  | [], _ => []
  | (p, sz) :: r, n => (p + n, sz) :: r

theorem stackOK_avail {st : List (Nat × Nat)} {r : Nat} (h : stackOK st r) : avail st r ≤ r := by
  cases st with
  | nil => exact Nat.le_refl _
  | cons t rest => obtain ⟨p, sz⟩ := t; exact h.2.1

theorem stackOK_bump {st : List (Nat × Nat)} {r n : Nat} (h : stackOK st r) (hn : n ≤ avail st r) :
    stackOK (bump st n) (r - n) := by
  cases st with
  | nil => trivial
  | cons t rest =>
    obtain ⟨p, sz⟩ := t
    obtain ⟨h1, h2, h3, h4⟩ := h
    simp only [avail] at hn
    refine ⟨by omega, by omega, ?_, ?_⟩
    · cases rest with
      | nil => trivial
      | cons t' r' => exact h3
    · rw [show r - n + (p + n) = r + p by omega]; exact h4

theorem willRead_eq {s : Stream} (n : Nat) (hl : s.limited = true) (hr : avail s.stack s.remaining ≤ s.remaining) :
    willRead s n =
      if n ≤ avail s.stack s.remaining then
        (none, { s with kind := none, stack := bump s.stack n, remaining := s.remaining - n })
      else (some (if s.stack = [] then .valueTooLarge else .elemTooLarge), { s with kind := none }) := by
  obtain ⟨inp, rem, lim, kind, size, bv, ke, stack, cons, al⟩ := s
  simp only at hl hr
  subst hl
  cases stack with
  | nil =>
    simp only [avail, willRead, willReadLimit, if_true, bump]
    by_cases hn : n ≤ rem
    · rw [if_pos hn, if_neg (Nat.not_lt.2 hn)]
    · rw [if_neg hn, if_pos (Nat.lt_of_not_le hn)]
  | cons t r =>
    obtain ⟨p, sz⟩ := t
    simp only [avail] at hr
    simp only [avail, willRead, willReadLimit, if_true, bump, reduceCtorEq, if_false]
    by_cases hn : n ≤ sz - p
    · rw [if_pos hn, if_neg (Nat.not_lt.2 hn), if_neg (Nat.not_lt.2 (Nat.le_trans hn hr))]
    · rw [if_neg hn, if_pos (Nat.lt_of_not_le hn)]

theorem SInv.rearm {L : Nat} {s : Stream} (h : SInv L s) : SInv L { s with kind := none } :=
  ⟨h.lim, h.stk, h.rd, h.al, nofun⟩

theorem SInv.read {L : Nat} {s : Stream} (hi : SInv L s) {n : Nat} (hn : n ≤ avail s.stack s.remaining)
    {m : Nat} (hm : m ≤ n) (inp' : Bytes) :
    SInv L { s with kind := none, stack := bump s.stack n, remaining := s.remaining - n,
                    inp := inp', consumed := s.consumed + m } :=
  have := stackOK_avail hi.stk
  have := hi.rd
  ⟨hi.lim, stackOK_bump hi.stk hn, by simp only; omega, hi.al, nofun⟩

theorem readByte_inv {L : Nat} {s : Stream} (hi : SInv L s) : SInv L (readByte s).2 := by
  unfold readByte
  rw [willRead_eq 1 hi.lim (stackOK_avail hi.stk)]
  by_cases hn : 1 ≤ avail s.stack s.remaining
  · rw [if_pos hn]
    simp only
    split
    · exact hi.read hn (Nat.zero_le 1) _
    · exact hi.read hn (Nat.le_refl 1) _
  · rw [if_neg hn]; exact hi.rearm

theorem readFull_inv {L : Nat} {s : Stream} (n : Nat) (hi : SInv L s) : SInv L (readFull s n).2 := by
  unfold readFull
  rw [willRead_eq n hi.lim (stackOK_avail hi.stk)]
  by_cases hn : n ≤ avail s.stack s.remaining
  · rw [if_pos hn]
    simp only
    split
    · exact hi.read hn (Nat.le_refl n) _
    · rename_i hlen
      exact hi.read hn (Nat.le_of_lt (Nat.lt_of_not_le hlen)) _
  · rw [if_neg hn]; exact hi.rearm

theorem readUint_inv {L : Nat} {s : Stream} (n : Nat) (hi : SInv L s) : SInv L (readUint s n).2 := by
  unfold readUint
  split
  · exact hi.rearm
  · split
    · have := readByte_inv hi
      cases hb : readByte s with
      | mk r s1 => rw [hb] at this; cases r <;> exact this
    · have := readFull_inv n hi
      cases hb : readFull s n with
      | mk r s1 =>
        rw [hb] at this
        cases r with
        | error e => exact this
        | ok bs =>
          cases bs with
          | nil => exact this
          | cons b0 tl => simp only; rw [snd_ite]; exact this

theorem readLongSize_inv {L : Nat} {s : Stream} (n : Nat) (hi : SInv L s) : SInv L (readLongSize s n).2 := by
  unfold readLongSize
  have := readUint_inv n hi
  cases hb : readUint s n with
  | mk r s1 =>
    rw [hb] at this
    cases r with
    | error e => exact this
    | ok v => simp only; rw [snd_ite]; exact this

theorem SInv.byteval {L : Nat} {s : Stream} (h : SInv L s) (b : UInt8) : SInv L { s with byteval := b } :=
  ⟨h.lim, h.stk, h.rd, h.al, h.kd⟩

theorem sReadKind_form {s s1 : Stream} {b : UInt8} (h : readByte s = (.ok b, s1)) :
    sReadKind s =
      match form b.toNat with
      | .byte => ((.byte, 0, none), { s1 with byteval := b })
      | .short k n => ((k, n, none), { s1 with byteval := 0 })
      | .long k m =>
        let r := readLongSize { s1 with byteval := 0 } m
        ((k, r.1.1, r.1.2), r.2) := by
  unfold form
  simp only [sReadKind, h]
  by_cases c1 : b.toNat < 0x80
  · simp only [if_pos c1]
  · by_cases c2 : b.toNat < 0xb8
    · simp only [if_neg c1, if_pos c2]
    · by_cases c3 : b.toNat < 0xc0
      · simp only [if_neg c1, if_neg c2, if_pos c3]
      · by_cases c4 : b.toNat < 0xf8
        · simp only [if_neg c1, if_neg c2, if_neg c3, if_pos c4]
        · simp only [if_neg c1, if_neg c2, if_neg c3, if_neg c4]

theorem sReadKind_inv {L : Nat} {s : Stream} (hi : SInv L s) : SInv L (sReadKind s).2 := by
  have hb := readByte_inv hi
  cases hr : readByte s with
  | mk r s1 =>
    rw [hr] at hb
    cases r with
    | error e => unfold sReadKind; rw [hr]; exact hb
    | ok b =>
      rw [sReadKind_form hr]
      cases form b.toNat with
      | byte => exact hb.byteval b
      | short k n => exact hb.byteval 0
      | long k m => exact readLongSize_inv m (hb.byteval 0)

theorem kindBoundErr_none {s : Stream} {size : Nat} (hl : s.limited = true)
    (h : kindBoundErr s size = none) : size ≤ avail s.stack s.remaining := by
  unfold kindBoundErr at h
  unfold avail
  cases hst : s.stack with
  | nil =>
    simp only [hst, hl, true_and] at h
    split at h
    · cases h
    · simp only; omega
  | cons t rest =>
    obtain ⟨p, sz⟩ := t
    simp only [hst] at h
    split at h
    · cases h
    · simp only; omega

theorem sKindFresh_inv {L : Nat} {s : Stream} (hi : SInv L s) (hk : s.kind = none) :
    SInv L (sKindFresh s).2 ∧
    (∀ k size, (sKindFresh s).1 = .ok (k, size) →
      size ≤ avail (sKindFresh s).2.stack (sKindFresh s).2.remaining) := by
  have h1 : SInv L { s with kinderr := none } :=
    ⟨hi.lim, hi.stk, hi.rd, hi.al, by intro k h; simp [hk] at h⟩
  unfold sKindFresh
  simp only
  by_cases he : atEnd s.stack = true
  · rw [if_pos he]
    exact ⟨h1, by intro k size h; cases h⟩
  · rw [if_neg he]
    have hr := sReadKind_inv h1
    cases hrk : sReadKind { s with kinderr := none } with
    | mk r s2 =>
      rw [hrk] at hr
      obtain ⟨k, size, err⟩ := r
      simp only at hr ⊢
      cases err with
      | some e =>
        simp only
        exact ⟨⟨hr.lim, hr.stk, hr.rd, hr.al, by intro k' _ h; cases h⟩, by intro k' sz h; cases h⟩
      | none =>
        simp only
        cases hb : kindBoundErr s2 size with
        | some e =>
          simp only
          exact ⟨⟨hr.lim, hr.stk, hr.rd, hr.al, by intro k' _ h; cases h⟩, by intro k' sz h; cases h⟩
        | none =>
          simp only
          have hf := kindBoundErr_none hr.lim hb
          refine ⟨⟨hr.lim, hr.stk, hr.rd, hr.al, fun _ _ _ => hf⟩, ?_⟩
          intro k' sz h
          injection h with h; injection h with _ h2
          subst h2
          exact hf

theorem sKind_inv {L : Nat} {s : Stream} (hi : SInv L s) :
    SInv L (sKind s).2 ∧
    (∀ k size, (sKind s).1 = .ok (k, size) →
      size ≤ avail (sKind s).2.stack (sKind s).2.remaining) := by
  unfold sKind
  cases hk : s.kind with
  | some k =>
    simp only
    refine ⟨hi, ?_⟩
    intro k' size h
    cases he : s.kinderr with
    | some e => rw [he] at h; cases h
    | none =>
      rw [he] at h
      injection h with h; injection h with h1 h2
      subst h2
      exact hi.kd k hk he
  | none => exact sKindFresh_inv hi hk

theorem SInv.alloc {L : Nat} {s : Stream} (h : SInv L s) {a : Nat} (ha : a ≤ L + 9) :
    SInv L { s with allocs := a :: s.allocs } := by
  refine ⟨h.lim, h.stk, h.rd, ?_, h.kd⟩
  intro x hx
  rcases List.mem_cons.1 hx with rfl | hx
  · exact ha
  · exact h.al x hx

theorem SInv.avail_le {L : Nat} {s : Stream} (h : SInv L s) : avail s.stack s.remaining ≤ L := by
  have := stackOK_avail h.stk
  have := h.rd
  omega

theorem sBytes_inv {L : Nat} {s : Stream} (hi : SInv L s) : SInv L (sBytes s).2 := by
  unfold sBytes
  have hk := sKind_inv hi
  cases hr : sKind s with
  | mk r s1 =>
    rw [hr] at hk
    cases r with
    | error e => exact hk.1
    | ok ks =>
      obtain ⟨k, size⟩ := ks
      simp only
      have hf := hk.2 k size rfl
      cases k with
      | byte => exact hk.1.rearm
      | list => exact hk.1
      | string =>
        simp only
        have ha := hk.1.alloc (a := size) (by have := hk.1.avail_le; omega)
        have := readFull_inv size ha
        cases hrf : readFull { s1 with allocs := size :: s1.allocs } size with
        | mk r2 s2 =>
          rw [hrf] at this
          cases r2 with
          | error e => exact this
          | ok b => simp only; rw [snd_ite]; exact this

theorem headsize_le {size : Nat} (h : size < 2 ^ 64) : headsize size ≤ 9 := by
  unfold headsize intsize
  split
  · omega
  · rename_i h56
    rw [putint_eq (by omega)]
    have := toBE_len_64 h
    omega

theorem sRaw_inv {L : Nat} {s : Stream} (hL : L < 2 ^ 64) (hi : SInv L s) : SInv L (sRaw s).2 := by
  unfold sRaw
  have hk := sKind_inv hi
  cases hr : sKind s with
  | mk r s1 =>
    rw [hr] at hk
    cases r with
    | error e => exact hk.1
    | ok ks =>
      obtain ⟨k, size⟩ := ks
      simp only
      have hf := hk.2 k size rfl
      have hsz := Nat.le_trans hf hk.1.avail_le
      have hh := headsize_le (show size < 2 ^ 64 by omega)
      have ha := hk.1.alloc (a := headsize size + size) (by omega)
      have hrf := readFull_inv size ha
      cases k with
      | byte => exact hk.1.rearm
      | list | string =>
        simp only
        cases hrr : readFull { s1 with allocs := (headsize size + size) :: s1.allocs } size with
        | mk r2 s2 =>
          rw [hrr] at hrf
          cases r2 with
          | error e => exact hrf
          | ok b => simp only; rw [snd_ite]; exact hrf

theorem sUint_inv {L : Nat} {s : Stream} (bits : Nat) (hi : SInv L s) : SInv L (sUint s bits).2 := by
  unfold sUint
  have hk := sKind_inv hi
  cases hr : sKind s with
  | mk r s1 =>
    rw [hr] at hk
    cases r with
    | error e => exact hk.1
    | ok ks =>
      obtain ⟨k, size⟩ := ks
      simp only
      cases k with
      | byte =>
        simp only
        split
        · exact hk.1
        · exact hk.1.rearm
      | list => exact hk.1
      | string =>
        simp only
        split
        · exact hk.1
        · have := readUint_inv size hk.1
          cases hru : readUint s1 size with
          | mk r2 s2 =>
            rw [hru] at this
            cases r2 with
            | error e => cases e <;> exact this
            | ok v => simp only; rw [snd_ite]; exact this

theorem sBool_inv {L : Nat} {s : Stream} (hi : SInv L s) : SInv L (sBool s).2 := by
  unfold sBool
  have := sUint_inv 8 hi
  cases hr : sUint s 8 with
  | mk r s1 =>
    rw [hr] at this
    cases r with
    | error e => exact this
    | ok n =>
      simp only
      split
      · exact this
      · rw [snd_ite]; exact this

theorem sList_inv {L : Nat} {s : Stream} (hi : SInv L s) : SInv L (sList s).2 := by
  unfold sList
  have hk := sKind_inv hi
  cases hr : sKind s with
  | mk r s1 =>
    rw [hr] at hk
    cases r with
    | error e => exact hk.1
    | ok ks =>
      obtain ⟨k, size⟩ := ks
      simp only
      have hf := hk.2 k size rfl
      split
      · exact hk.1
      · refine ⟨hk.1.lim, ?_, hk.1.rd, hk.1.al, by intro k' h; cases h⟩
        simp only [stackOK]
        have hle := Nat.le_trans hf (stackOK_avail hk.1.stk)
        refine ⟨Nat.zero_le _, by omega, ?_, by simpa using hk.1.stk⟩
        cases hst : s1.stack with
        | nil => trivial
        | cons t rest =>
          obtain ⟨p, sz⟩ := t
          simp only
          rw [hst] at hf
          exact hf

theorem sListEnd_inv {L : Nat} {s : Stream} (hi : SInv L s) : SInv L (sListEnd s).2 := by
  unfold sListEnd
  cases hst : s.stack with
  | nil => exact hi
  | cons t rest =>
    obtain ⟨p, sz⟩ := t
    simp only
    split
    · exact hi
    · rename_i hp
      have hp' : p = sz := by simpa using hp
      subst hp'
      have hs := hi.stk
      rw [hst] at hs
      simp only [stackOK] at hs
      refine ⟨hi.lim, ?_, hi.rd, hi.al, by intro k' h; cases h⟩
      cases rest with
      | nil => simp [stackOK]
      | cons t' r' =>
        obtain ⟨p', sz'⟩ := t'
        simp only [stackOK] at hs ⊢
        obtain ⟨_, _, hfit, hp1, hp2, hp3, hp4⟩ := hs
        refine ⟨by omega, by omega, hp3, ?_⟩
        have : s.remaining + (p' + p) = s.remaining + p + p' := by omega
        rw [this]; exact hp4

theorem sDecodeAny_inv {L : Nat} : ∀ f,
    (∀ s, SInv L s → SInv L (sDecodeAny f s).2) ∧ (∀ s, SInv L s → SInv L (sAnyElems f s).2) := by
  intro f
  induction f with
  | zero => exact ⟨by intro s h; simpa [sDecodeAny] using h, by intro s h; simpa [sAnyElems] using h⟩
  | succ f ih =>
    refine ⟨?_, ?_⟩
    · intro s hi
      rw [sDecodeAny]
      have hk := sKind_inv hi
      cases hr : sKind s with
      | mk r s1 =>
        rw [hr] at hk
        cases r with
        | error e => exact hk.1
        | ok ks =>
          obtain ⟨k, size⟩ := ks
          simp only
          split
          · have hl := sList_inv hk.1
            cases hrl : sList s1 with
            | mk r2 s2 =>
              rw [hrl] at hl
              cases r2 with
              | error e => exact hl
              | ok sz =>
                simp only
                split
                · have he := sListEnd_inv hl
                  cases hre : sListEnd s2 with
                  | mk r3 s3 => rw [hre] at he; cases r3 <;> exact he
                · have ha := ih.2 s2 hl
                  cases hra : sAnyElems f s2 with
                  | mk r3 s3 =>
                    rw [hra] at ha
                    cases r3 with
                    | error e => exact ha
                    | ok xs =>
                      simp only
                      have he := sListEnd_inv ha
                      cases hre : sListEnd s3 with
                      | mk r4 s4 => rw [hre] at he; cases r4 <;> exact he
          · have hb := sBytes_inv hk.1
            cases hrb : sBytes s1 with
            | mk r2 s2 => rw [hrb] at hb; cases r2 <;> exact hb
    · intro s hi
      rw [sAnyElems]
      have hd := ih.1 s hi
      cases hrd : sDecodeAny f s with
      | mk r s1 =>
        rw [hrd] at hd
        cases r with
        | error e =>
          cases e <;> exact hd
        | ok x =>
          simp only
          have ha := ih.2 s1 hd
          cases hra : sAnyElems f s1 with
          | mk r2 s2 => rw [hra] at ha; cases r2 <;> exact ha

theorem SOp_run_inv {L : Nat} (hL : L < 2 ^ 64) (op : SOp) {s : Stream} (hi : SInv L s) : SInv L (op.run s) := by
  cases op with
  | kind => exact (sKind_inv hi).1
  | bytes => exact sBytes_inv hi
  | raw => exact sRaw_inv hL hi
  | uint bits => exact sUint_inv bits hi
  | bool => exact sBool_inv hi
  | list => exact sList_inv hi
  | listEnd => exact sListEnd_inv hi
  | any => exact (sDecodeAny_inv _).1 s hi

theorem runOps_inv {L : Nat} (hL : L < 2 ^ 64) : ∀ (ops : List SOp) (s : Stream), SInv L s → SInv L (runOps ops s) := by
  intro ops
  induction ops with
  | nil => intro s h; exact h
  | cons op ops ih => intro s h; exact ih _ (SOp_run_inv hL op h)

theorem newStream_inv (b : Bytes) (limit : Nat) :
    SInv (if limit > 0 then limit else b.length) (newStream b limit) :=
  ⟨rfl, trivial, by simp [newStream], by intro a h; simp [newStream] at h, by intro k h; cases h⟩

theorem stackOK_pos_le : ∀ (stack : List (Nat × Nat)) (r : Nat), stackOK stack r → ∀ e ∈ stack, e.1 ≤ e.2 := by
  intro stack
  induction stack with
  | nil => intro r _ e he; cases he
  | cons t rest ih =>
    obtain ⟨p, sz⟩ := t
    intro r h e he
    simp only [stackOK] at h
    simp only [List.mem_cons] at he
    rcases he with he | he
    · subst he; exact h.1
    · exact ih _ h.2.2.2 e he

end Rangers.RLP
