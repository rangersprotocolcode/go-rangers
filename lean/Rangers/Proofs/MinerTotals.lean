import Rangers.Model.Miner
/-! C20: `GetProposerTotalStakeWithDetail` against its specification over the iterator's records: the call as a fold of
    `totalsStep`; the sum such a fold keeps is `foldl_fst_total` of `MinerSum`. -/
namespace Rangers.Miner

theorem mapPut_of_notin (l : List (Bytes × Nat)) (k : Bytes) (v : Nat) (h : k ∉ l.map Prod.fst) : mapPut l k v = (k, v) :: l := by
  unfold mapPut
  congr 1
  apply List.filter_eq_self.mpr
  intro e he
  have : e.1 ≠ k := fun x => h (by rw [← x]; exact List.mem_map_of_mem he)
  simpa using this

/-- The step `GetProposerTotalStakeWithDetail` takes on an active record. -/
def totalsStep (acc : Nat × List (Bytes × Nat)) (m : Miner) : Nat × List (Bytes × Nat) :=
  ((acc.1 + m.stake) % 2 ^ 64, mapPut acc.2 m.id m.stake)

theorem totalsFold_eq (ms : List Miner) (h : Nat) : totalsFold ms h = (ms.filter (active h)).foldl totalsStep (0, []) :=
  List.foldl_filter.symm

theorem totalsStep_snd_length (ms : List Miner) (acc : Nat × List (Bytes × Nat)) (hn : (ms.map (·.id)).Nodup)
    (hd : ∀ m ∈ ms, m.id ∉ acc.2.map Prod.fst) : (ms.foldl totalsStep acc).2.length = acc.2.length + ms.length := by
  induction ms generalizing acc with
  | nil => rfl
  | cons m ms ih =>
    have hnd := List.nodup_cons.mp hn
    have hput : (totalsStep acc m).2 = (m.id, m.stake) :: acc.2 := mapPut_of_notin acc.2 m.id m.stake (hd m (List.mem_cons_self ..))
    rw [List.foldl_cons, ih _ hnd.2, hput, List.length_cons, List.length_cons, Nat.add_right_comm, Nat.add_assoc]
    intro m' hm'
    rw [hput, List.map_cons, List.mem_cons, not_or]
    exact ⟨fun (e : m'.id = m.id) => hnd.1 (List.mem_map.mpr ⟨m', hm', e⟩), hd m' (List.mem_cons_of_mem _ hm')⟩

end Rangers.Miner
