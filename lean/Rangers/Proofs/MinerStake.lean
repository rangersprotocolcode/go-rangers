import Rangers.Proofs.MinerBasic
/-! C20: the stake slot — what each registry writer leaves in the stake slot of the record it writes; the lookups read
    `live` and `trie` only. -/
namespace Rangers.Miner

/-- The stake the registry of type `d` records for `id` (0 when there is no slot). -/
def stakeAt (cfg : Cfg) (st : State) (d : DbId) (id : Bytes) : Nat := u64 ((st.live d).get (slotStake cfg id))

/-- `j`'s stake slot is none of the record/account/status keys of `i`. -/
def Untouched (cfg : Cfg) (i j : Bytes) : Prop :=
  cfg.H j ≠ i ∧ cfg.H j ≠ cfg.H (cfg.H i) ∧ cfg.H j ≠ cfg.H (cfg.H (cfg.H i))

theorem u64_lt (b : Bytes) : u64 b < 2 ^ 64 := by
  unfold u64
  split
  · decide
  · have := beToNat_lt (b.take 8)
    have hl : (b.take 8).length = 8 := by simp; omega
    rw [hl] at this
    exact this

theorem stakeAt_lt (cfg : Cfg) (st : State) (d : DbId) (id : Bytes) : stakeAt cfg st d id < 2 ^ 64 := u64_lt _

theorem stakeAt_write (cfg : Cfg) (st : State) (d d' : DbId) (k v j : Bytes) :
    stakeAt cfg (st.write d k v) d' j = if d' = d ∧ slotStake cfg j = k then u64 v else stakeAt cfg st d' j := by
  unfold stakeAt
  rw [write_get]
  split <;> rfl

theorem stakeAt_of_live (cfg : Cfg) (st st' : State) (h : st'.live = st.live) (d : DbId) (j : Bytes) :
    stakeAt cfg st' d j = stakeAt cfg st d j := by unfold stakeAt; rw [h]

theorem stakeAt_updateMiner_self (cfg : Cfg) (st : State) (m : Miner) (oi : Option Info) (hu : Untouched cfg m.id m.id) :
    stakeAt cfg (updateMiner cfg st m oi) (dbOfType m.typ) m.id = m.stake % 2 ^ 64 := by
  unfold updateMiner
  simp only [stakeAt_write, slotStake, slotAcct, slotStatus, true_and, hu.2.1, hu.2.2, if_false, if_true, u64_u64be]

theorem stakeAt_removeMiner_self (cfg : Cfg) (st : State) (id acc : Bytes) (t l : Nat) (hu : Untouched cfg id id) :
    stakeAt cfg (removeMiner cfg st id acc t l) (dbOfType t) id = l % 2 ^ 64 := by
  unfold removeMiner
  split
  · rename_i h
    simp only [stakeAt_write, slotStake, slotAcct, slotStatus, true_and, hu.2.1, hu.2.2, if_false, if_true, u64_nil, h.1]
  · simp only [stakeAt_write, slotStake, slotStatus, true_and, hu.2.2, if_false, if_true, u64_u64be]

theorem stakeAt_refundCore_self (cfg : Cfg) (st : State) (src : Bytes) (m : Miner) (money : Nat) (hu : Untouched cfg m.id m.id) :
    stakeAt cfg (refundCore cfg st m.id src m money) (dbOfType m.typ) m.id = (m.stake - money) % 2 ^ 64 := by
  unfold refundCore
  split
  · exact stakeAt_removeMiner_self cfg _ _ _ _ _ hu
  · exact stakeAt_updateMiner_self cfg st { m with stake := m.stake - money } none hu

theorem getMinerById_congr (cfg : Cfg) (st st' : State) (h : st'.live = st.live) (d : DbId) (id : Bytes) :
    getMinerById cfg st' d id = getMinerById cfg st d id := by unfold getMinerById; rw [h]

theorem getMiner_congr (cfg : Cfg) (st st' : State) (h : st'.live = st.live) (id : Bytes) :
    getMiner cfg st' id = getMiner cfg st id := by
  unfold getMiner; rw [getMinerById_congr cfg st st' h, getMinerById_congr cfg st st' h]

theorem iter_congr (cfg : Cfg) (st st' : State) (h : st'.live = st.live) (ht : st'.trie = st.trie) (d : DbId) :
    iter cfg st' d = iter cfg st d := by
  unfold iter iterCurrent; rw [h, ht]

theorem byAccount_congr (cfg : Cfg) (st st' : State) (h : st'.live = st.live) (ht : st'.trie = st.trie) (a : Bytes) :
    byAccount cfg st' a = byAccount cfg st a := by
  unfold byAccount; rw [iter_congr cfg st st' h ht, iter_congr cfg st st' h ht]

end Rangers.Miner
