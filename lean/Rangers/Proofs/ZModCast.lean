import Mathlib.Data.ZMod.Basic
/-! Subtraction and negation in a prime field as the models compute them on reduced naturals (`(a + (p - b % p)) % p`,
    `(p - a % p) % p`: Bls14Field, G1, G2, VrfCurve), read in `ZMod p`. Sum and product need no lemma of their own:
    `ZMod.natCast_mod` with `Nat.cast_add` / `Nat.cast_mul`. The way back: the cast is injective on the residues below `p`,
    which is what the models hold. -/
namespace Rangers.ZModCast

theorem natCast_inj_of_lt {p a b : ℕ} (ha : a < p) (hb : b < p) (h : (a : ZMod p) = b) : a = b := by
  rwa [ZMod.natCast_eq_natCast_iff', Nat.mod_eq_of_lt ha, Nat.mod_eq_of_lt hb] at h

theorem natCast_ne_zero_of_lt {p : ℕ} (n : ℕ) (h0 : 0 < n) (hl : n < p) : (n : ZMod p) ≠ 0 := fun h =>
  Nat.ne_of_gt h0 (natCast_inj_of_lt hl (Nat.lt_trans h0 hl) (h.trans Nat.cast_zero.symm))

theorem neg_mod {p : ℕ} (hp : 0 < p) (a : ℕ) : (((p - a % p) % p : ℕ) : ZMod p) = -a := by
  rw [ZMod.natCast_mod, Nat.cast_sub (Nat.mod_lt _ hp).le, ZMod.natCast_self, ZMod.natCast_mod, zero_sub]

theorem sub_mod {p : ℕ} (hp : 0 < p) (a b : ℕ) : (((a + (p - b % p)) % p : ℕ) : ZMod p) = a - b := by
  rw [ZMod.natCast_mod, Nat.cast_add, ← ZMod.natCast_mod (p - b % p), neg_mod hp, sub_eq_add_neg]

end Rangers.ZModCast
