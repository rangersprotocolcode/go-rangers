import Rangers.Proofs.DecimalArith
/-! Helper lemmas for `Props/C18Aux.lean` (Float64ToBigInt, base-N numerals). -/
namespace Rangers.Decimal

/-- `B` is a variable: with the literal `10^18` in its place the kernel unfolds the product. `114 = 53 + 60 + 1` bits
    hold a float64 mantissa times `10^18` (`f64_mul_exact`); `±2000` is any bound far inside `minExp`/`maxExp` that the
    exponent of a float64 (`-1074 … 971`) meets. -/
theorem float64With_exact (neg : Bool) (m B : Nat) (e : Int) (hm : 0 < m) (hB : 0 < B)
    (hb : bitLen (m * B) ≤ 114) (he1 : -2000 ≤ e) (he2 : e ≤ 2000) :
    float64ToBigIntWith B (.fin neg m e) = .ok (toInt (.fin neg (m * B) e)) := by
  unfold float64ToBigIntWith
  dsimp only
  rw [mul_exact .nearestEven prec neg false m B e 0 hm hB (le_trans hb (by unfold prec; omega)) (by omega)
    (by omega), Bool.bne_false, Int.add_zero]

theorem f64_mul_exact (neg : Bool) (m : Nat) (e : Int) (hm : 0 < m) (hm2 : m ≤ 2 ^ 53)
    (he1 : -2000 ≤ e) (he2 : e ≤ 2000) :
    float64ToBigIntOf (.fin neg m e) = .ok (toInt (.fin neg (m * 1000000000000000000) e)) := by
  have hb : bitLen (m * 1000000000000000000) ≤ 114 := by
    apply bitLen_le_of_lt
    calc m * 1000000000000000000 ≤ 2 ^ 53 * 1000000000000000000 := Nat.mul_le_mul_right _ hm2
      _ < 2 ^ 114 := by decide +kernel
  exact float64With_exact neg m 1000000000000000000 e hm (by norm_num) hb he1 he2

/-- Value of a digit as `Nat.toDigits` writes them (`0-9`, then `a-z` from 10); the bases in use stop at 16. -/
def digVal36 (c : Char) : Nat := if c.isDigit then c.toNat - 48 else c.toNat - 87

/-- The number a base-`b` numeral spells, most significant digit first: the inverse that `baseN_roundtrip` states. -/
def ofBaseDigits (b : Nat) (l : Str) : Nat := l.foldl (fun a c => b * a + digVal36 c) 0

theorem digVal36_digitChar : ∀ d < 16, digVal36 (Nat.digitChar d) = d := by decide

end Rangers.Decimal
