import Rangers.Proofs.TrieLiveGet
import Rangers.Proofs.TrieDelete
/- `delete` on live tries (incl. resolution inside the branch reduction) refines `delete` on loaded tries. -/
namespace Rangers.Trie
open Rangers

theorem AbsR.isNil_eq {H : Bytes → Bytes} {st : Store} {child : Bool} {t : Node} {l : LNode}
    (h : AbsR H st child t l) : isNilL l = isNil t := by
  rcases h with h | h
  · cases t <;> cases l <;> simp_all [AbsL, isNilL, isNil]
  · rw [h.1]
    have := h.2.1
    cases t <;> simp_all [isNilL, isNil, WF]

theorem soleChildL_eq {H : Bytes → Bytes} {st : Store} {cs : List Node} {lcs : List LNode} (hls : AbsLs H st cs lcs) :
    soleChildL lcs = soleChild cs := by
  unfold soleChildL soleChild
  simp only [← hls.length_eq]
  have : (List.range cs.length).filter (fun i => !isNilL (lcs.getD i .nil))
       = (List.range cs.length).filter (fun i => !isNil (cs.getD i .nil)) := by
    apply List.filter_congr
    intro j hj
    rw [(hls.getD (List.mem_range.mp hj)).isNil_eq, List.getD_eq_getElem?_getD]
  rw [this]
  rfl

/-- `mergeShort` on live nodes; `delete` creates the merged node, so it carries `newFlag` -/
def mergeShortL (gen : Nat) (kk : Key) (child : LNode) : LNode :=
  match child with
  | .short ck cv _ => .short (kk ++ ck) cv (newFlag gen)
  | c => .short kk c (newFlag gen)

/-- `l` is what hangs below the short node, `cn` what it resolves to: only a short node is merged; anything else stays as
    it hangs, unresolved. -/
theorem AbsL_merge {H : Bytes → Bytes} {st : Store} (child : Bool) (gen : Nat) (kk : Key) {t : Node} {l cn : LNode}
    (hl : AbsR H st true t l) (hcn : AbsL H st true t cn) :
    AbsL H st child (mergeShort kk t)
      (match (generalizing := false) cn with
       | .short ck cv _ => .short (kk ++ ck) cv (newFlag gen)
       | _ => .short kk l (newFlag gen)) := by
  cases t with
  | nil =>
    rw [AbsL_nil.mp hcn]
    exact AbsL_short.mpr ⟨_, _, rfl, hl, flagOK_new H st child gen _⟩
  | value b =>
    rw [AbsL_value.mp hcn]
    exact AbsL_short.mpr ⟨_, _, rfl, hl, flagOK_new H st child gen _⟩
  | short ck cv =>
    obtain ⟨lcv, fl, rfl, hcv, _⟩ := AbsL_short.mp hcn
    exact AbsL_short.mpr ⟨lcv, _, rfl, hcv, flagOK_new H st child gen _⟩
  | full cs =>
    obtain ⟨lcs, fl, rfl, _, _⟩ := AbsL_full.mp hcn
    exact AbsL_short.mpr ⟨_, _, rfl, hl, flagOK_new H st child gen _⟩

theorem AbsL_mergeShort {H : Bytes → Bytes} {st : Store} (child : Bool) (gen : Nat) (kk : Key) {t2 : Node} {l2 : LNode}
    (h : AbsL H st true t2 l2) : AbsL H st child (mergeShort kk t2) (mergeShortL gen kk l2) := by
  have := AbsL_merge child gen kk (Or.inl h) h
  cases l2 <;> exact this

theorem resolveL_abs {H : Bytes → Bytes} {st : Store} {child : Bool} {t : Node} {l : LNode} (h : AbsR H st child t l)
    (gen : Nat) : ∃ cn, resolveL st gen l = some cn ∧ AbsL H st child t cn := by
  rcases h with hl | hh
  · refine ⟨l, ?_, hl⟩
    cases l with
    | hash h => cases t <;> simp [AbsL] at hl
    | _ => rfl
  · obtain ⟨l1, hr, hl1⟩ := resolve_hashOf hh gen
    exact ⟨l1, by rw [hh.1]; exact hr, hl1⟩

theorem reduceL_refines {H : Bytes → Bytes} {st : Store} (child : Bool) (gen : Nat) {cs' : List Node} {lcs' : List LNode}
    (hls : AbsLs H st cs' lcs') :
    ∃ l', reduceL st gen lcs' = some l' ∧ AbsL H st child (reduce cs') l' := by
  unfold reduceL reduce
  rw [soleChildL_eq hls]
  cases hs : soleChild cs' with
  | none => exact ⟨_, rfl, AbsL_full.mpr ⟨lcs', _, rfl, hls, flagOK_new H st child gen _⟩⟩
  | some pos =>
    have hc := hls.getD (soleChild_some hs).1
    by_cases h16 : pos = 16
    · subst h16
      simp only [bne_self_eq_false, Bool.false_eq_true, if_false]
      exact ⟨_, rfl, AbsL_short.mpr ⟨_, _, rfl, hc, flagOK_new H st child gen _⟩⟩
    · have hne16 : (pos != 16) = true := by simpa using h16
      simp only [hne16, if_true]
      obtain ⟨cn, hcn, habs⟩ := resolveL_abs hc gen
      rw [hcn]
      exact ⟨_, rfl, AbsL_merge child gen [pos] hc habs⟩

theorem mergeShortL_eq (gen : Nat) (kk : Key) (l2 : LNode) :
    (match l2 with
      | .short ck cv _ => (true, LNode.short (kk ++ ck) cv (newFlag gen))
      | child => (true, LNode.short kk child (newFlag gen))) = (true, mergeShortL gen kk l2) := by
  cases l2 <;> rfl

theorem deleteL_refines (H : Bytes → Bytes) (st : Store) (gen : Nat) {t : Node} {key : Key} (w : Walk t key) :
    ∀ child l f, AbsR H st child t l → 2 * key.length + 2 ≤ f →
      ∃ l', deleteL st gen f l key = some ((delete t key).1, l') ∧ AbsL H st child (delete t key).2 l' := by
  refine live_walk gen (P := fun t key child l f =>
    ∃ l', deleteL st gen f l key = some ((delete t key).1, l') ∧ AbsL H st child (delete t key).2 l') ?hash ?nil ?value ?miss ?ext ?slot w
  case hash =>
    intro t key child h l1 f _ hres hl1 ⟨l2, hg, habs2⟩
    simp only [deleteL, hres, Option.bind_some, hg, Option.map_some]
    cases hd : (delete t key).1 with
    | false => exact ⟨l1, rfl, by rw [delete_not_dirty _ _ hd]; exact hl1⟩
    | true => exact ⟨l2, rfl, habs2⟩
  case nil =>
    intro key child f
    exact ⟨.nil, by simp [deleteL, delete], by simp [delete]; exact AbsL_nil.mpr rfl⟩
  case value =>
    intro b child f
    exact ⟨.nil, by simp [deleteL, delete], by simp [delete]; exact AbsL_nil.mpr rfl⟩
  case miss =>
    intro p a kA b kB v child lv fl f hab _ _ hl _
    have hlt : prefixLen (p ++ b :: kB) (p ++ a :: kA) < (p ++ a :: kA).length := by
      rw [prefixLen_diverge p kA kB hab]; simp
    rw [delete_short_eq, if_pos hlt]
    simp only [deleteL, if_pos hlt]
    exact ⟨_, rfl, hl⟩
  case ext =>
    intro kk v r child lv fl f hne hl _ ⟨l2, hg, habs2⟩
    have hm : prefixLen (kk ++ r) kk = kk.length := prefixLen_append_self kk r
    rw [delete_short_eq]
    simp only [deleteL, hm, Nat.lt_irrefl, if_false, List.drop_left]
    by_cases hwhole : kk.length = (kk ++ r).length
    · simp only [hwhole, if_true]; exact ⟨_, rfl, AbsL_nil.mpr rfl⟩
    · simp only [hwhole, if_false]
      rw [hg]
      by_cases hd : (delete v r).1 = false
      · simp only [hd, if_true]
        exact ⟨_, by simp, hl⟩
      · have hd' : (delete v r).1 = true := by simpa using hd
        simp only [hd', Bool.true_eq_false, if_false, Option.map_some, Bool.not_true]
        refine ⟨mergeShortL gen kk l2, ?_, AbsL_mergeShort child gen kk habs2⟩
        rw [if_neg Bool.false_ne_true]
        exact congrArg some (mergeShortL_eq gen kk l2)
  case slot =>
    intro cs i r child lcs fl f hi hl hls _ ⟨l2, hg, habs2⟩
    have hil : i < lcs.length := hls.length_eq ▸ hi
    rw [delete_full_eq cs i r hi]
    simp only [deleteL, hil, if_true]
    rw [hg]
    have hls' := hls.set i (Or.inl habs2)
    generalize delete (cs[i]?.getD .nil) r = res at hls' ⊢
    obtain ⟨d, t'⟩ := res
    cases d with
    | false => exact ⟨_, rfl, hl⟩
    | true =>
      obtain ⟨l', hr, hla⟩ := reduceL_refines (H := H) (st := st) child gen hls'
      exact ⟨l', by simp [hr], hla⟩

end Rangers.Trie
