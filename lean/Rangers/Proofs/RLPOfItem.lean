import Rangers.Model.RLPTyped
import Rangers.Proofs.RLPItem
import Rangers.Proofs.RLPTypedRT
/-! Generic items as values of type `interface{}`: `ofItem`; such a value is well-formed (`WFV`) and normal (`norm`) in the
    sense of Proofs/RLPTypedRT, and written as the item is. -/
namespace Rangers.RLP
open Rangers

mutual
  /-- the Go value `DecodeBytes(b, &interface{})` produces for an item: `[]byte` / `[]interface{}` -/
  def ofItem : Item → Val
    | .str b => .bytes b
    | .list xs => .list (ofItems xs)
  def ofItems : List Item → List Val
    | [] => []
    | x :: xs => ofItem x :: ofItems xs
end

mutual
  theorem encT_any_ofItem (it : Item) : encT .any (ofItem it) = .ok (encode it) := by
    cases it with
    | str b => simp [ofItem, encT, encode]
    | list xs => simp [ofItem, encT, encode, encElems_any_ofItems xs]
  theorem encElems_any_ofItems (xs : List Item) : encElems .any (ofItems xs) = .ok (encodeList xs) := by
    cases xs with
    | nil => simp [ofItems, encElems, encodeList]
    | cons x xs => simp [ofItems, encElems, encodeList, encT_any_ofItem x, encElems_any_ofItems xs]
end

mutual
  theorem wfv_any_ofItem (it : Item) (h : it.sizeOK) : WFV .any (ofItem it) := by
    cases it with
    | str b => exact h
    | list xs =>
      refine ⟨wfvs_any_ofItems xs h.1, fun p hp => ?_⟩
      rw [encElems_any_ofItems xs] at hp
      cases hp
      exact h.2
  theorem wfvs_any_ofItems (xs : List Item) (h : Item.sizeOKs xs) : WFVs .any (ofItems xs) := by
    cases xs with
    | nil => trivial
    | cons x xs => exact ⟨wfv_any_ofItem x h.1, wfvs_any_ofItems xs h.2⟩
end

mutual
  theorem norm_any_ofItem (it : Item) : norm .any (ofItem it) = ofItem it := by
    cases it with
    | str b => simp [ofItem, norm]
    | list xs => simp [ofItem, norm, normL_any_ofItems xs]
  theorem normL_any_ofItems (xs : List Item) : normL .any (ofItems xs) = ofItems xs := by
    cases xs with
    | nil => simp [ofItems, normL]
    | cons x xs => simp [ofItems, normL, norm_any_ofItem x, normL_any_ofItems xs]
end

end Rangers.RLP
