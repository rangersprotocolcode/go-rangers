import Rangers.Proofs.TxAuth
import Rangers.Model.Decimal
/-!
The decimal renderings `ConvertTx` uses, tied to the model of C18 (`Model/Decimal.lean`, strings as
`List Char`, `Nat.toDigits`).  C07 works on bytes (Go strings are byte sequences); `charByte` is the
ASCII embedding.  The JSON frame (C09, `Model/Json.lean`) is tied in `Props/C07Conv.lean`.
-/
namespace Rangers.Model.TxAuth
open Rangers

def charByte (c : Char) : UInt8 := UInt8.ofNat c.toNat

theorem charByte_digitChar : ∀ k, k < 10 → charByte (Nat.digitChar k) = digitByte k := by decide

theorem decRev_reverse (f n : Nat) (h : n < f) : (decRev f n).reverse = (Nat.toDigits 10 n).map charByte := by
  induction f generalizing n with
  | zero => cases h
  | succ f ih =>
    rw [decRev, Nat.toDigits_eq_if (by decide)]
    by_cases h10 : n < 10
    · rw [if_pos h10, if_pos h10, List.reverse_singleton, List.map_singleton, charByte_digitChar n h10]
    · rw [if_neg h10, if_neg h10, List.reverse_cons, ih _ (div10_lt_fuel h h10), List.map_append, List.map_singleton,
        charByte_digitChar _ (Nat.mod_lt n (by decide))]

/-- `strconv.FormatUint` / `big.Int.String` of C07 is `Nat.toDigits 10` (what C18 and Lean's
    `Nat.repr` use), byte for character. -/
theorem decimal_eq_toDigits (n : Nat) : decimal n = (Nat.toDigits 10 n).map charByte :=
  decRev_reverse (n + 1) n (Nat.lt_succ_self n)

theorem bigIntToStr_eq_c18 (n : Nat) :
    bigIntToStr n = (Decimal.BigIntToStr (n : Int)).map charByte := by
  unfold bigIntToStr Decimal.BigIntToStr Decimal.bigIntToStr
  by_cases h0 : n = 0
  · subst h0
    simp
    rfl
  · have hz : ¬ ((n : Int) = 0) := fun h => h0 (Int.natCast_eq_zero.1 h)
    have hneg : ¬ ((n : Int) < 0) := Int.not_lt.2 (Int.natCast_nonneg n)
    have hp : ¬ ((18 : Int) < 0) := by decide
    have hna : (n : Int).natAbs = n := Int.natAbs_natCast n
    simp only [h0, ↓reduceIte, hz, hp, hneg, hna, List.nil_append,
      decimal_eq_toDigits, List.length_map]
    have h18 : ¬ ((18 : Nat) = 0) := by decide
    simp only [show (Int.toNat 18) = 18 from rfl, h18, ↓reduceIte]
    by_cases hl : (Nat.toDigits 10 n).length ≤ 18
    · simp only [hl, ↓reduceIte, List.map_cons, List.map_append, List.map_replicate, List.cons_append,
        List.nil_append]
      rfl
    · simp only [hl, ↓reduceIte, List.map_append, List.map_cons, List.map_take, List.map_drop]
      rfl

end Rangers.Model.TxAuth
