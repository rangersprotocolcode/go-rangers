import Rangers.Proofs.C13RecoverMap
import Mathlib.Data.List.Dedup
import Mathlib.Data.List.GetD
/-! `GroupSignGenerator`: whatever the arrival order, repeats and late arrivals, once `k` distinct
    honest members have been heard the stored group signature is the one `recoverSignature` gives on
    any `k` of them. Everything here is about an arbitrary point type `M`; what `recoverSignature`
    returns enters as the hypothesis `hrec`. The generator recovers when the map reaches exactly `k` entries, where
    `RecoverGroupSignature` draws nothing: of each `Choice` only the second map order `ord2` is read, and `Admissible`
    is not asked. -/
namespace Rangers.Proofs.C13
open Rangers.Model.Shamir

variable {M : Type}

theorem any_fst_beq (l : List (Nat × Option M)) (x : Nat) :
    l.any (fun e => e.1 == x) = true ↔ x ∈ l.map Prod.fst := by
  simp only [List.any_eq_true, beq_iff_eq, List.mem_map]

/-- Invariant of a generator with threshold `k` that is fed honest shares `sig id` of ids taken from
    a set `U`, after the ids `heard` have arrived: either it holds `t`, or it still waits, and then
    it has stored every id heard so far (once each) with its honest share. -/
structure GenInv (k : Nat) (sig : Nat → M) (t : M) (U : Nat → Prop) (heard : List Nat)
    (st : SignGen M) : Prop where
  hk : st.k = k
  cases : st.groupSign = some t ∨
    (st.groupSign = none ∧ st.witnesses.length < k ∧ (st.witnesses.map Prod.fst).Nodup ∧
      (∀ e ∈ st.witnesses, e.2 = some (sig e.1) ∧ U e.1) ∧ heard ⊆ st.witnesses.map Prod.fst)

theorem genInv_new (k : Nat) (hk0 : 0 < k) (sig : Nat → M) (t : M) (U : Nat → Prop) :
    GenInv k sig t U [] (SignGen.new k) :=
  ⟨rfl, Or.inr ⟨rfl, hk0, List.nodup_nil, fun _ h => absurd h List.not_mem_nil, List.nil_subset _⟩⟩

section step
variable (ops : Ops M) (r : Nat) (isValid : M → Bool) (k : Nat) (hk0 : 0 < k) (sig : Nat → M) (t : M)
  (hrec : RecoversTo ops r k sig t)
  (hval : isValid t = true)
  (U : Nat → Prop) (hU : ∀ x y, U x → U y → x % r = y % r → x = y)
include hk0 hrec hval hU

theorem addWitnessSign_inv {heard : List Nat} {st : SignGen M} (hinv : GenInv k sig t U heard st)
    (x : Nat) (hx : U x) (c : Choice (Nat × Option M)) (h2 : ∀ l, (c.ord2 l).Perm l) :
    ∃ st' add gen, addWitnessSign ops r isValid st x (some (sig x)) c = .ok (st', add, gen) ∧
      GenInv k sig t U (x :: heard) st' := by
  unfold addWitnessSign signRecovered
  rcases hinv.cases with hheld | ⟨hnone, hlen, hnd, hw, hh⟩
  · rw [hheld]
    simp only [hval, if_true]
    exact ⟨st, _, _, rfl, hinv.hk, Or.inl hheld⟩
  · rw [hnone]
    simp only [Bool.false_eq_true, if_false]
    by_cases hmem : st.witnesses.any (fun e => e.1 == x) = true
    · rw [if_pos hmem]
      exact ⟨st, _, _, rfl, hinv.hk,
        Or.inr ⟨hnone, hlen, hnd, hw, List.cons_subset.2 ⟨(any_fst_beq _ x).1 hmem, hh⟩⟩⟩
    · rw [if_neg hmem]
      have hxn : x ∉ st.witnesses.map Prod.fst := fun h => hmem ((any_fst_beq _ x).2 h)
      have hnd' : ((st.witnesses ++ [(x, some (sig x))]).map Prod.fst).Nodup := by
        rw [List.map_append, List.map_singleton]
        exact List.Nodup.append hnd (List.nodup_singleton x)
          (List.disjoint_singleton.2 hxn)
      have hw' : ∀ e ∈ st.witnesses ++ [(x, some (sig x))], e.2 = some (sig e.1) ∧ U e.1 := by
        intro e he
        rcases List.mem_append.1 he with he | he
        · exact hw e he
        · rw [List.mem_singleton.1 he]; exact ⟨rfl, hx⟩
      have hh' : x :: heard ⊆ (st.witnesses ++ [(x, some (sig x))]).map Prod.fst := by
        rw [List.map_append, List.map_singleton]
        exact List.cons_subset.2 ⟨List.mem_append_right _ (List.mem_singleton_self x),
          List.subset_append_of_subset_left _ hh⟩
      have hl : (st.witnesses ++ [(x, some (sig x))]).length = st.witnesses.length + 1 :=
        List.length_append
      by_cases hreach : st.k ≤ (st.witnesses ++ [(x, some (sig x))]).length
      · -- the `k` stored ids are distinct mod `r`: they are distinct and lie in `U`
        have hdist : IdsDistinct r ((st.witnesses ++ [(x, some (sig x))]).map Prod.fst) := by
          refine List.Nodup.map_on (fun y hy z hz hyz => ?_) hnd'
          obtain ⟨e, he, rfl⟩ := List.mem_map.1 hy
          obtain ⟨e', he', rfl⟩ := List.mem_map.1 hz
          exact hU _ _ (hw' e he).2 (hw' e' he').2 hyz
        have hlk : (st.witnesses ++ [(x, some (sig x))]).length = k := by have := hinv.hk; omega
        rw [if_pos hreach, hinv.hk,
          recoverGroupSignature_of_recoverWith ops r k hk0 sig t hrec _ hlk.ge hdist
            (fun e he => (hw' e he).1) c h2 fun h => absurd h (hlk ▸ Nat.lt_irrefl k)]
        exact ⟨_, _, _, rfl, rfl, Or.inl rfl⟩
      · rw [if_neg hreach]
        exact ⟨_, _, _, rfl, hinv.hk,
          Or.inr ⟨rfl, by have := hinv.hk; show (st.witnesses ++ _).length < k; omega, hnd', hw', hh'⟩⟩

theorem feed_inv : ∀ (arr : List (Nat × Option M × Choice (Nat × Option M))) (heard : List Nat)
    (st : SignGen M), GenInv k sig t U heard st →
    (∀ a ∈ arr, a.2.1 = some (sig a.1) ∧ (∀ l, (a.2.2.ord2 l).Perm l) ∧ U a.1) →
    ∃ st', feed ops r isValid st arr = .ok st' ∧
      GenInv k sig t U ((arr.map (·.1)).reverse ++ heard) st'
  | [], _, st, hinv, _ => ⟨st, rfl, hinv⟩
  | (x, sg, c) :: arr, heard, st, hinv, hhon => by
    obtain ⟨hsg, h2, hx⟩ := hhon _ List.mem_cons_self
    obtain rfl : sg = some (sig x) := hsg
    obtain ⟨st1, add, gen, hstep, hinv1⟩ :=
      addWitnessSign_inv ops r isValid k hk0 sig t hrec hval U hU hinv x hx c h2
    obtain ⟨st', hf, hinv'⟩ := feed_inv arr (x :: heard) st1 hinv1
      (fun a ha => hhon a (List.mem_cons_of_mem _ ha))
    refine ⟨st', ?_, ?_⟩
    · rw [feed, hstep]; exact hf
    · rwa [List.map_cons, List.reverse_cons, List.append_assoc, List.singleton_append]

end step

theorem feed_new_recovers (ops : Ops M) (r : Nat) (isValid : M → Bool) (k : Nat) (hk0 : 0 < k)
    (sig : Nat → M) (t : M)
    (hrec : RecoversTo ops r k sig t)
    (hval : isValid t = true)
    (arr : List (Nat × Option M × Choice (Nat × Option M)))
    (hhon : ∀ a ∈ arr, a.2.1 = some (sig a.1) ∧ ∀ l, (a.2.2.ord2 l).Perm l)
    (hmod : ∀ x ∈ arr.map (·.1), ∀ y ∈ arr.map (·.1), x % r = y % r → x = y)
    (hcount : k ≤ (arr.map (·.1)).dedup.length) :
    ∃ st, feed ops r isValid (SignGen.new k) arr = .ok st ∧ st.groupSign = some t := by
  obtain ⟨st, hf, hinv⟩ := feed_inv ops r isValid k hk0 sig t hrec hval (· ∈ arr.map (·.1))
    (fun x y hx hy => hmod x hx y hy) arr [] _ (genInv_new k hk0 sig t _)
    (fun a ha => ⟨(hhon a ha).1, (hhon a ha).2, List.mem_map_of_mem ha⟩)
  refine ⟨st, hf, hinv.cases.resolve_right ?_⟩
  rintro ⟨-, hlen, -, -, hh⟩
  have hsub : (arr.map (·.1)).dedup ⊆ st.witnesses.map Prod.fst := fun x hx =>
    hh (List.mem_append_left _ (List.mem_reverse.2 (List.mem_dedup.1 hx)))
  have := (List.subperm_of_subset (List.nodup_dedup _) hsub).length_le
  rw [List.length_map] at this
  omega

end Rangers.Proofs.C13
