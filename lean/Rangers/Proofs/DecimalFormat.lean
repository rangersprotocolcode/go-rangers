import Rangers.Proofs.DecimalScan
/-!
Shape of the strings `bigIntToStr` produces: `[-] first [ "." last ]` with
`|last| = precision` and `first ++ last` spelling `|n|` (possibly with leading zeros).
Hence: printing with `p` decimals and parsing at `d` decimals re-scales by `10^d / 10^p`,
truncated toward zero (`strToBigInt_bigIntToStr`), which is all the token conversions do.
-/
namespace Rangers.Decimal

theorem bigIntToStr_shape (n : Int) (p : Nat) :
    ∃ first last, bigIntToStr n (p : Int) =
        signStr (if n < 0 then some true else none) ++ plainBody first last (p != 0) ∧
      allDig first ∧ allDig last ∧ last.length = p ∧ first ≠ [] ∧
      ((p != 0) = false → last = []) ∧
      Nat.ofDigitChars 10 (first ++ last) 0 = n.natAbs := by
  have hnn : ¬ ((p : Int) < 0) := by omega
  have hdig := allDig_toDigits n.natAbs
  have hlenpos : 0 < (Nat.toDigits 10 n.natAbs).length := Nat.length_toDigits_pos
  have hsign : (if n < 0 then ['-'] else ([] : Str)) = signStr (if n < 0 then some true else none) := by
    split <;> rfl
  by_cases hl : (Nat.toDigits 10 n.natAbs).length ≤ p
  · refine ⟨['0'], List.replicate (p - (Nat.toDigits 10 n.natAbs).length) '0' ++ Nat.toDigits 10 n.natAbs,
      ?_, ?_, ?_, ?_, by simp, ?_, ?_⟩
    · have hp0 : p ≠ 0 := by omega
      unfold bigIntToStr plainBody
      simp only [hnn, if_false, Int.toNat_natCast, hl, if_true, hp0, hsign]
      simp [hp0]
    · intro c hc; simp at hc; subst hc; decide
    · exact allDig_append.mpr ⟨allDig_replicate_zero _, hdig⟩
    · simp; omega
    · intro h; have : p = 0 := by simpa using h
      omega
    · rw [List.cons_append, List.nil_append, Nat.ofDigitChars_cons, Nat.ofDigitChars_append,
        Nat.ofDigitChars_replicate_zero]
      simp
  · refine ⟨(Nat.toDigits 10 n.natAbs).take ((Nat.toDigits 10 n.natAbs).length - p),
      (Nat.toDigits 10 n.natAbs).drop ((Nat.toDigits 10 n.natAbs).length - p), ?_, ?_, ?_, ?_, ?_, ?_, ?_⟩
    · unfold bigIntToStr plainBody
      simp only [hnn, if_false, Int.toNat_natCast, hl, hsign]
      by_cases hp0 : p = 0
      · subst hp0; simp
      · simp [hp0]
    · intro c hc; exact hdig c (List.mem_of_mem_take hc)
    · intro c hc; exact hdig c (List.mem_of_mem_drop hc)
    · rw [List.length_drop]; omega
    · intro h
      have := congrArg List.length h
      rw [List.length_take] at this
      simp at this
      omega
    · intro h; have : p = 0 := by simpa using h
      subst this; simp
    · rw [List.take_append_drop]; exact Nat.ofDigitChars_ten_toDigits

theorem ofDigitChars_lt (ds : Str) (h : allDig ds) : Nat.ofDigitChars 10 ds 0 < 10 ^ ds.length := by
  induction ds using List.reverseRecOn with
  | nil => simp
  | append_singleton ds c ih =>
    obtain ⟨h1, h2⟩ := allDig_append.mp h
    have hv : c.toNat - '0'.toNat ≤ 9 := digVal_le_nine (h2 c (by simp))
    rw [Nat.ofDigitChars_append, Nat.ofDigitChars_cons, Nat.ofDigitChars_nil, List.length_append,
      List.length_singleton, Nat.pow_succ]
    have := ih h1
    omega

theorem digits_value_split (ip fp : Str) :
    Nat.ofDigitChars 10 (ip ++ fp) 0 =
      Nat.ofDigitChars 10 ip 0 * 10 ^ fp.length + Nat.ofDigitChars 10 fp 0 := by
  rw [Nat.ofDigitChars_append, Nat.ofDigitChars_eq_ofDigitChars_zero, Nat.mul_comm]

theorem signed_div_eq_tdiv (n : Int) (a b : Nat) :
    (if signNeg (if n < 0 then some true else none) then -((n.natAbs * a / b : ℕ) : Int)
      else ((n.natAbs * a / b : ℕ) : Int)) = (n * a).tdiv b := by
  rw [Int.ofNat_tdiv, Nat.cast_mul]
  by_cases h : n < 0
  · rw [if_pos h, show signNeg (some true) = true from rfl, if_pos rfl, ← Int.neg_tdiv, ← Int.neg_mul]
    congr 2; omega
  · rw [if_neg h, show signNeg none = false from rfl, if_neg Bool.false_ne_true]
    congr 2; omega

theorem strToBigInt_bigIntToStr (n : Int) (p d : Nat) (hp : p ≤ 248)
    (h : n.natAbs * 10 ^ (d - p) < 2 ^ 510) :
    strToBigInt (bigIntToStr n (p : Int)) (d : Int) = .ok ((n * 10 ^ d).tdiv (10 ^ p)) := by
  obtain ⟨first, last, hs, hd1, hd2, hlen, hne, hdot, hval⟩ := bigIntToStr_shape n p
  have := strToBigInt_plain (if n < 0 then some true else none) first last (p != 0) d hd1 hd2 hdot
    (fun h => hne (List.append_eq_nil_iff.mp h).1) (by omega) (by rw [hval, hlen]; exact h)
  rw [hval, hlen, signed_div_eq_tdiv] at this
  rw [hs, this]
  push_cast; rfl

/-- The statements about balances ask for `2^509`: a sum or difference of two such values, as `Props/C06Real` forms them
    for `AddFT`/`SubFT`, stays below the `2^510` up to which printing and parsing back is exact. Here each value goes
    through on its own. -/
theorem lt_two_pow_510 {x : Nat} (h : x < 2 ^ 509) : x < 2 ^ 510 :=
  lt_trans h (Nat.pow_lt_pow_right (by norm_num) (by norm_num))

theorem mul_pow_div_pow (N : Nat) {f d : Nat} (h : f ≤ d) : N * 10 ^ d / 10 ^ f = N * 10 ^ (d - f) := by
  obtain ⟨k, rfl⟩ := Nat.exists_eq_add_of_le h
  rw [Nat.add_sub_cancel_left, Nat.pow_add, Nat.mul_left_comm, Nat.mul_div_cancel_left _ (by positivity)]

theorem mul_pow_tdiv_pow (n : Int) {f d : Nat} (h : f ≤ d) :
    (n * 10 ^ d).tdiv (10 ^ f) = n * 10 ^ (d - f) := by
  obtain ⟨k, rfl⟩ := Nat.exists_eq_add_of_le h
  rw [Nat.add_sub_cancel_left, pow_add, mul_left_comm, Int.mul_tdiv_cancel_left _ (by positivity)]

theorem mul_pow_tdiv_pow_of_le (n : Int) {f d : Nat} (h : d ≤ f) :
    (n * 10 ^ d).tdiv (10 ^ f) = n.tdiv (10 ^ (f - d)) := by
  obtain ⟨k, rfl⟩ := Nat.exists_eq_add_of_le h
  rw [Nat.add_sub_cancel_left, pow_add, mul_comm ((10 : Int) ^ d),
    Int.mul_tdiv_mul_of_pos_left _ _ (by positivity)]

/-- the bounds are round numbers: the exponent range of `big.Float` allows `10^6` bits and `10^6` decimals, and far more -/
theorem parseFloat_bigIntToStr (n : Int) (p : Nat) (hn : bitLen n.natAbs ≤ 1000000) (hp : p ≤ 1000000) :
    ∃ t, parseFloat (bigIntToStr n (p : Int)) = some t := by
  obtain ⟨first, last, hs, hd1, hd2, hlen, hne, hdot, hval⟩ := bigIntToStr_shape n p
  obtain ⟨c, t, rfl⟩ := List.exists_cons_of_ne_nil hne
  have h := scanFloat_dec (if n < 0 then some true else none) (c :: t) last (p != 0) [] 0 hd1 hd2 hdot
    (List.cons_ne_nil _ _) stopsMant_nil scanExp_nil (by rw [hval]; omega) (by rw [hval]; omega)
  rw [hs, ← List.append_nil (plainBody _ _ _),
    parseFloat_eq_scanFloat _ c (mem_string_of_mem_digits _ _ last _ [] hdot c (List.mem_cons_self ..))
      (allDig_cons.mp hd1).1, h]
  exact ⟨_, rfl⟩

theorem bigIntToStr_intPart (n : Int) (p : Nat) (hp : p ≠ 0) :
    ∃ ds, allDig ds ∧ ds ≠ [] ∧
      (bigIntToStr n (p : Int)).takeWhile (· != '.') = (if n < 0 then ['-'] else []) ++ ds ∧
      Nat.ofDigitChars 10 ds 0 = n.natAbs / 10 ^ p := by
  obtain ⟨first, last, hs, hd1, hd2, hlen, hne, hdot, hval⟩ := bigIntToStr_shape n p
  refine ⟨first, hd1, hne, ?_, ?_⟩
  · have hpre : ∀ c ∈ (if n < 0 then ['-'] else ([] : Str)) ++ first, (c != '.') = true := by
      intro c hc
      rcases List.mem_append.mp hc with h | h
      · split at h
        · obtain rfl := List.mem_singleton.mp h; decide
        · cases h
      · simpa using isDig_ne_dot (hd1 c h)
    have hsign : signStr (if n < 0 then some true else none) = (if n < 0 then ['-'] else []) := by
      split <;> rfl
    rw [hs, hsign, plainBody, show (p != 0) = true by simpa using hp, if_pos rfl, ← List.append_assoc,
      List.takeWhile_append_of_pos hpre]
    simp
  · have hlast : Nat.ofDigitChars 10 last 0 < 10 ^ p := hlen ▸ ofDigitChars_lt last hd2
    rw [← hval, digits_value_split, hlen, Nat.add_comm, Nat.add_mul_div_right _ _ (by positivity),
      Nat.div_eq_of_lt hlast, Nat.zero_add]

end Rangers.Decimal
