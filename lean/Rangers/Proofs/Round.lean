import Rangers.Model.Round
/-! The signing-round model, without any assumption on the cryptographic oracle: the generators, the guards of `update`
and what happens behind them, `round2.Start`, the share-set invariant, how a property of the share state is carried
through every handler (`Kept`), and the bookkeeping of `round1.Start`. -/
namespace Rangers.Proofs.Round
open Rangers.Model.Round

variable {G : Type}

theorem has_eq_true_iff (g : Gen G) (id : Id) : g.has id = true ↔ id ∈ g.witness.map (·.1) := by
  simp [Gen.has, List.any_eq_true, List.mem_map]

theorem genGroupSign_witness (c : Crypto G) (g : Gen G) :
    (g.genGroupSign c).1.witness = g.witness ∧ (g.genGroupSign c).1.threshold = g.threshold := by
  unfold Gen.genGroupSign
  split <;> simp

theorem genGroupSign_snd (c : Crypto G) (g : Gen G) : (g.genGroupSign c).2 = true := by
  unfold Gen.genGroupSign
  split <;> simp

theorem addWitnessForce_cases (c : Crypto G) (g : Gen G) (id : Id) (s : G) :
    ((g.addWitnessForce c id s).2.1 = false ∧ (g.addWitnessForce c id s).1 = g) ∨
    ((g.addWitnessForce c id s).2.1 = true ∧ (g.addWitnessForce c id s).1.witness = g.witness ++ [(id, s)] ∧
      (g.addWitnessForce c id s).1.threshold = g.threshold ∧ g.has id = false) := by
  unfold Gen.addWitnessForce
  by_cases hh : g.has id = true
  · left; rw [if_pos hh]; exact ⟨rfl, rfl⟩
  · right
    have hh' : g.has id = false := by simpa using hh
    rw [if_neg hh]
    simp only []
    split
    · have := genGroupSign_witness c { g with witness := g.witness ++ [(id, s)] }
      exact ⟨rfl, this.1, this.2, hh'⟩
    · exact ⟨rfl, rfl, rfl, hh'⟩

theorem addWitnessSign_cases (c : Crypto G) (g : Gen G) (id : Id) (s : G) :
    ((g.addWitnessSign c id s).2.1 = false ∧ (g.addWitnessSign c id s).1 = g) ∨
    ((g.addWitnessSign c id s).2.1 = true ∧ (g.addWitnessSign c id s).1.witness = g.witness ++ [(id, s)] ∧
      (g.addWitnessSign c id s).1.threshold = g.threshold ∧ g.has id = false ∧ g.recovered c = false) := by
  unfold Gen.addWitnessSign
  by_cases hr : g.recovered c = true
  · left; rw [if_pos hr]; exact ⟨rfl, rfl⟩
  · have hr' : g.recovered c = false := by simpa using hr
    rw [if_neg hr]
    rcases addWitnessForce_cases c g id s with h | h
    · left; exact h
    · right; exact ⟨h.1, h.2.1, h.2.2.1, h.2.2.2, hr'⟩

theorem addWitnessSign_not_added (c : Crypto G) (g : Gen G) (id : Id) (s : G)
    (h : g.recovered c = true ∨ g.has id = true) : (g.addWitnessSign c id s).2.1 = false := by
  rcases addWitnessSign_cases c g id s with h1 | ⟨_, _, _, hh, hr⟩
  · exact h1.1
  · rw [hh, hr] at h; cases h <;> contradiction

theorem has_congr (g r : Gen G) (h : g.witness.map (·.1) = r.witness.map (·.1)) (id : Id) :
    g.has id = r.has id :=
  Bool.eq_iff_iff.mpr (by rw [has_eq_true_iff, has_eq_true_iff, h])

theorem addWitnessSign_has_mono (c : Crypto G) (g : Gen G) (id : Id) (s : G) (j : Id) (h : g.has j = true) :
    (g.addWitnessSign c id s).1.has j = true := by
  rcases addWitnessSign_cases c g id s with h1 | h1
  · rw [h1.2]; exact h
  · rw [has_eq_true_iff] at h ⊢
    rw [h1.2.1, List.map_append]
    exact List.mem_append_left _ h

theorem addWitnessSign_fresh (c : Crypto G) (g : Gen G) (id : Id) (s : G) (hn : g.groupSign = none)
    (hh : g.has id = false) (hlt : g.witness.length < g.threshold) :
    g.addWitnessSign c id s =
      ({ g with witness := g.witness ++ [(id, s)],
                groupSign := if g.witness.length + 1 = g.threshold
                  then some (c.recover (g.witness ++ [(id, s)])) else none },
        true, decide (g.witness.length + 1 = g.threshold)) := by
  have hr (w : List (Id × G)) : Gen.recovered c { g with witness := w } = false := by simp [Gen.recovered, hn]
  unfold Gen.addWitnessSign Gen.addWitnessForce
  rw [if_neg (by simp [hr g.witness]), if_neg (by simp [hh])]
  simp only [List.length_append, List.length_cons, List.length_nil]
  by_cases hk : g.witness.length + 1 = g.threshold
  · rw [if_pos (by omega), if_pos hk]
    unfold Gen.genGroupSign
    rw [if_neg (by simp [hr])]
    simp only [List.length_append, List.length_cons, List.length_nil]
    rw [if_neg (by omega), List.take_of_length_le (by simp; omega), decide_eq_true hk]
  · rw [if_neg (by omega), if_neg hk, decide_eq_false hk, ← hn]

/-- The message passes every guard `round1.Update` puts in front of the generators. -/
structure Accepts (c : Crypto G) (env : Env) (m : VMsg G) : Prop where
  shape : m.idShape ≠ .oversize
  absent : env.blockExists = false
  member : m.signer ∈ env.pkKnown
  bound : env.bindsHash = true → m.dataHash = env.hash
  nonZero : m.signerNonZero = true
  share : c.verify m.signer m.dataHash m.sig = true
  beaconNonNil : c.isNil m.rand = false
  beacon : c.verify m.signer env.prevRandom m.rand = true

/-- What `update` does with a message that passed its seven guards (`update_cases`): the part of `round1.Update`
from `gSignGenerator.AddWitnessSign` on. -/
def updateTail (c : Crypto G) (st : RState G) (m : VMsg G) : Step G :=
  let ga := st.gSign.addWitnessSign c m.signer m.sig
  if !ga.2.1 then ⟨st, false, .alreadyHad⟩
  else
    let ra := st.rSign.addWitnessSign c m.signer m.rand
    let st1 := { st with gSign := ga.1, rSign := ra.1 }
    if ra.2.1 && ga.2.2 && ra.2.2 then
      ⟨{ st1 with bhSignature := ga.1.groupSign, bhRandom := ra.1.groupSign, canProcessed := true },
        false, .recovered⟩
    else ⟨st1, false, .added⟩

section
variable (c : Crypto G) (env : Env) (st : RState G) (m : VMsg G)

theorem update_cases :
    (Accepts c env m ∧ update c env st m = updateTail c st m) ∨
    (¬ Accepts c env m ∧ (update c env st m).st = st ∧
      ((update c env st m).err = true → env.blockExists = true)) := by
  unfold update
  -- the guards are walked one by one with `rw`: `split` on the unfolded `update` is far dearer to check
  by_cases h1 : m.idShape = .oversize
  · rw [if_pos h1]; exact .inr ⟨fun a => a.shape h1, rfl, nofun⟩
  rw [if_neg h1]
  by_cases h2 : env.blockExists = true
  · rw [if_pos h2]; exact .inr ⟨fun a => by simp [a.absent] at h2, rfl, fun _ => h2⟩
  rw [if_neg h2]
  by_cases h3 : (!env.pkKnown.contains m.signer) = true
  · rw [if_pos h3]; exact .inr ⟨fun a => by simp [a.member] at h3, rfl, nofun⟩
  rw [if_neg h3]
  by_cases h4 : (env.bindsHash && m.dataHash != env.hash) = true
  · rw [if_pos h4]; simp only [Bool.and_eq_true, bne_iff_ne] at h4
    exact .inr ⟨fun a => h4.2 (a.bound h4.1), rfl, nofun⟩
  rw [if_neg h4]
  by_cases h5 : (!(m.signerNonZero && c.verify m.signer m.dataHash m.sig)) = true
  · rw [if_pos h5]; exact .inr ⟨fun a => by simp [a.nonZero, a.share] at h5, rfl, nofun⟩
  rw [if_neg h5]
  by_cases h6 : c.isNil m.rand = true
  · rw [if_pos h6]; exact .inr ⟨fun a => by simp [a.beaconNonNil] at h6, rfl, nofun⟩
  rw [if_neg h6]
  by_cases h7 : (!c.verify m.signer env.prevRandom m.rand) = true
  · rw [if_pos h7]; exact .inr ⟨fun a => by simp [a.beacon] at h7, rfl, nofun⟩
  rw [if_neg h7]
  have h5 : m.signerNonZero = true ∧ c.verify m.signer m.dataHash m.sig = true := by simpa using h5
  exact .inl ⟨⟨h1, by simpa using h2, by simpa using h3, fun hb => by simpa [hb] using h4, h5.1, h5.2,
    by simpa using h6, by simpa using h7⟩, rfl⟩

variable {c env m} in
theorem update_of_accepts (a : Accepts c env m) : update c env st m = updateTail c st m :=
  (update_cases c env st m).elim And.right fun h => absurd a h.1

variable {c env m} in
theorem update_rejected (h : ¬ Accepts c env m) : (update c env st m).st = st :=
  (update_cases c env st m).elim (fun h' => absurd h'.1 h) fun h' => h'.2.1

theorem updateTail_cases :
    ((st.gSign.addWitnessSign c m.signer m.sig).2.1 = false ∧ updateTail c st m = ⟨st, false, .alreadyHad⟩) ∨
    ((st.gSign.addWitnessSign c m.signer m.sig).2.1 = true ∧ ∃ cp s r o, o ≠ .panicked ∧ updateTail c st m =
      ⟨{ st with gSign := (st.gSign.addWitnessSign c m.signer m.sig).1,
                 rSign := (st.rSign.addWitnessSign c m.signer m.rand).1,
                 canProcessed := cp, bhSignature := s, bhRandom := r }, false, o⟩) := by
  by_cases h : (st.gSign.addWitnessSign c m.signer m.sig).2.1 = true
  · refine .inr ⟨h, ?_⟩
    by_cases h' : ((st.rSign.addWitnessSign c m.signer m.rand).2.1 && (st.gSign.addWitnessSign c m.signer m.sig).2.2 &&
        (st.rSign.addWitnessSign c m.signer m.rand).2.2) = true
    · refine ⟨true, (st.gSign.addWitnessSign c m.signer m.sig).1.groupSign,
        (st.rSign.addWitnessSign c m.signer m.rand).1.groupSign, .recovered, nofun, ?_⟩
      unfold updateTail
      simp only [h, h', Bool.not_true, Bool.false_eq_true, if_false, if_true]
    · refine ⟨st.canProcessed, st.bhSignature, st.bhRandom, .added, nofun, ?_⟩
      unfold updateTail
      simp only [h, h', Bool.not_true, Bool.false_eq_true, if_false]
  · have h : (st.gSign.addWitnessSign c m.signer m.sig).2.1 = false := by simpa using h
    refine .inl ⟨h, ?_⟩
    unfold updateTail
    simp only [h, Bool.not_false, if_true]

variable {c st m} in
theorem updateTail_refused (h : st.gSign.recovered c = true ∨ st.gSign.has m.signer = true) :
    updateTail c st m = ⟨st, false, .alreadyHad⟩ := by
  rcases updateTail_cases c st m with ⟨_, e⟩ | ⟨hadd, _⟩
  · exact e
  · rw [addWitnessSign_not_added c st.gSign m.signer m.sig h] at hadd; cases hadd

variable {c st m} in
theorem update_refused (h : st.gSign.recovered c = true ∨ st.gSign.has m.signer = true) :
    (update c env st m).st = st := by
  rcases update_cases c env st m with ⟨_, e⟩ | ⟨_, e, _⟩
  · rw [e, updateTail_refused h]
  · exact e

theorem updateTail_out : (updateTail c st m).out ≠ .panicked := by
  rcases updateTail_cases c st m with ⟨_, h⟩ | ⟨_, _, _, _, _, ho, h⟩
  · rw [h]; nofun
  · rw [h]; exact ho

theorem update_err_false (hex : env.blockExists = false) : (update c env st m).err = false := by
  rcases update_cases c env st m with ⟨_, h⟩ | ⟨_, _, h⟩
  · rw [h]
    rcases updateTail_cases c st m with ⟨_, h⟩ | ⟨_, _, _, _, _, _, h⟩ <;> rw [h]
  · cases he : (update c env st m).err
    · rfl
    · rw [h he] at hex; cases hex

theorem update_st_cases :
    (update c env st m).st = st ∨
    (Accepts c env m ∧ ∃ cp s r, (update c env st m).st =
      { st with gSign := (st.gSign.addWitnessSign c m.signer m.sig).1,
                rSign := (st.rSign.addWitnessSign c m.signer m.rand).1,
                canProcessed := cp, bhSignature := s, bhRandom := r }) := by
  rcases update_cases c env st m with ⟨a, h⟩ | ⟨_, h, _⟩
  · rw [h]
    rcases updateTail_cases c st m with ⟨_, h⟩ | ⟨_, cp, s, r, _, _, h⟩
    · rw [h]; exact .inl rfl
    · rw [h]; exact .inr ⟨a, cp, s, r, rfl⟩
  · exact .inl h

theorem update_frame :
    (update c env st m).st.finished = st.finished ∧ (update c env st m).st.processed = st.processed ∧
    (update c env st m).st.future = st.future ∧ (update c env st m).st.generated = st.generated ∧
    (update c env st m).st.started = st.started := by
  rcases update_st_cases c env st m with h | ⟨_, _, _, _, h⟩ <;> rw [h] <;> exact ⟨rfl, rfl, rfl, rfl, rfl⟩

theorem update_has_mono (j : Id) (h : st.gSign.has j = true) : (update c env st m).st.gSign.has j = true := by
  rcases update_st_cases c env st m with e | ⟨_, _, _, _, e⟩ <;> rw [e]
  · exact h
  · exact addWitnessSign_has_mono c st.gSign m.signer m.sig j h

theorem start2_cases :
    ((st.finished = true ∨ env.blockExists = true ∨ sigOk c env.hash st.bhSignature = false ∨
        sigOk c env.prevRandom st.bhRandom = false) ∧
      ∃ f, start2 c env st = ({ st with finished := f }, true)) ∨
    (st.finished = false ∧ env.blockExists = false ∧ sigOk c env.hash st.bhSignature = true ∧
      sigOk c env.prevRandom st.bhRandom = true ∧
      start2 c env st = ({ st with finished := true, generated := some (st.bhSignature, st.bhRandom) }, false)) := by
  unfold start2
  by_cases h1 : st.finished = true
  · rw [if_pos h1]; exact .inl ⟨.inl h1, st.finished, rfl⟩
  rw [if_neg h1]
  simp only []
  by_cases h2 : env.blockExists = true
  · rw [if_pos h2]; exact .inl ⟨.inr (.inl h2), true, rfl⟩
  rw [if_neg h2]
  by_cases h3 : (!sigOk c env.hash st.bhSignature) = true
  · rw [if_pos h3]; exact .inl ⟨.inr (.inr (.inl (by simpa using h3))), true, rfl⟩
  rw [if_neg h3]
  by_cases h4 : (!sigOk c env.prevRandom st.bhRandom) = true
  · rw [if_pos h4]; exact .inl ⟨.inr (.inr (.inr (by simpa using h4))), true, rfl⟩
  rw [if_neg h4]
  exact .inr ⟨by simpa using h1, by simpa using h2, by simpa using h3, by simpa using h4, rfl⟩

end

/-- The share set of a `groupSignGenerator` (its `witness` map) holds only shares of registered members that verify
over `d`, one per member. -/
structure GenOk (c : Crypto G) (env : Env) (d : Data) (g : Gen G) : Prop where
  valid : ∀ e ∈ g.witness, e.1 ∈ env.pkKnown ∧ c.verify e.1 d e.2 = true
  nodup : (g.witness.map (·.1)).Nodup

/-- Clause 1 of C15 as an invariant of the round state: `gSign` collects shares over `bh.Hash`, `rSign` over
`preBH.Random`. -/
structure Inv (c : Crypto G) (env : Env) (st : RState G) : Prop where
  g : GenOk c env env.hash st.gSign
  r : GenOk c env env.prevRandom st.rSign

theorem GenOk.new (c : Crypto G) (env : Env) (d : Data) (k : Nat) : GenOk c env d (Gen.new k : Gen G) :=
  ⟨by simp [Gen.new], by simp [Gen.new]⟩

theorem GenOk.add (c : Crypto G) (env : Env) (d : Data) (g : Gen G) (id : Id) (s : G)
    (h : GenOk c env d g) (hid : id ∈ env.pkKnown) (hv : c.verify id d s = true) :
    GenOk c env d (g.addWitnessSign c id s).1 := by
  rcases addWitnessSign_cases c g id s with h1 | h1
  · rw [h1.2]; exact h
  · obtain ⟨_, hw, _, hhas, _⟩ := h1
    constructor
    · intro e he
      rw [hw] at he
      rcases List.mem_append.mp he with he | he
      · exact h.valid e he
      · simp at he; subst he; exact ⟨hid, hv⟩
    · rw [hw, List.map_append, List.nodup_append]
      refine ⟨h.nodup, by simp, ?_⟩
      intro a ha b hb
      simp at hb
      subst hb
      intro hab
      subst hab
      have : g.has a = true := (has_eq_true_iff g a).mpr ha
      rw [hhas] at this
      exact Bool.noConfusion this

theorem contains_iff_mem (l : List Id) (a : Id) : l.contains a = true ↔ a ∈ l := by simp

/-- False without `hb`: the share is verified over `m.dataHash`, and only the binding check makes that the block hash
(`only_valid_shares_unbound_counterexample`). The handler runs with any answer `b` of the chain; `Inv` does not read it. -/
theorem update_inv (c : Crypto G) (env : Env) (hb : env.bindsHash = true) (b : Bool) (st : RState G) (m : VMsg G)
    (h : Inv c env st) : Inv c env (update c (env.withChain b) st m).st := by
  rcases update_st_cases c (env.withChain b) st m with h0 | ⟨a, _, _, _, h1⟩
  · rw [h0]; exact h
  · rw [h1]
    have hs : c.verify m.signer env.hash m.sig = true := a.bound hb ▸ a.share
    exact ⟨GenOk.add c env env.hash st.gSign m.signer m.sig h.g a.member hs,
      GenOk.add c env env.prevRandom st.rSign m.signer m.rand h.r a.member a.beacon⟩

/-- From `round1.Start` to `Proc.runX` only `update` and `start2` write the generators, `canProcessed`, the header
signatures and `generated`. A `P` that holds of the state `round1.Start` begins with (the generators it creates
included), survives those two and reads no other field is therefore kept by every handler. -/
structure Kept (c : Crypto G) (env : Env) (P : RState G → Prop) : Prop where
  init : ∀ processed future, P { (RState.init processed future : RState G) with
    gSign := Gen.new (groupK env.groupSize), rSign := Gen.new (groupK env.groupSize) }
  update : ∀ st m, P st → P (update c env st m).st
  start2 : ∀ st, P st → P (start2 c env st).1
  congr : ∀ st st', P st → st'.gSign = st.gSign → st'.rSign = st.rSign → st'.canProcessed = st.canProcessed →
    st'.bhSignature = st.bhSignature → st'.bhRandom = st.bhRandom → st'.generated = st.generated → P st'

theorem Inv.kept (c : Crypto G) (env : Env) (hb : env.bindsHash = true) (b : Bool) :
    Kept c (env.withChain b) (Inv c env) where
  init _ _ := ⟨GenOk.new c env _ _, GenOk.new c env _ _⟩
  update := update_inv c env hb b
  start2 st h := by
    rcases start2_cases c (env.withChain b) st with ⟨_, _, e⟩ | ⟨_, _, _, _, e⟩ <;> rw [e] <;> exact ⟨h.g, h.r⟩
  congr st st' h hg hr _ _ _ _ := ⟨hg ▸ h.g, hr ▸ h.r⟩

variable {c : Crypto G} {env : Env} {P : RState G → Prop}

/-- `env.withChain env.blockExists` is `env` by structure eta. -/
theorem Kept.plain (k : ∀ b, Kept c (env.withChain b) P) : Kept c env P := k env.blockExists

theorem startLoop_kept (hu : ∀ st m, P st → P (update c env st m).st) (ms : List (VMsg G)) :
    ∀ st : RState G, P st → P (startLoop c env st ms).1 := by
  induction ms with
  | nil => intro st h; exact h
  | cons m rest ih =>
    intro st h
    have hu := hu st m h
    unfold startLoop
    simp only []
    split
    · split
      · exact ih _ hu
      · exact hu
    split
    · exact hu
    · exact ih _ hu

theorem start1_kept (k : Kept c env P) (processed : List MsgId) (future : List (VMsg G)) :
    P (start1 c env (RState.init processed future)).1 := by
  unfold start1
  rw [if_neg (by simp [RState.init])]
  simp only []
  split
  · exact k.init processed future
  have hl := startLoop_kept k.update (RState.init processed future : RState G).future _ (k.init processed future)
  split
  · exact hl
  · exact k.congr _ _ hl rfl rfl rfl rfl rfl rfl

theorem advance_kept (k : Kept c env P) (p : Party G) (h : P p.rs) : P (advance c env p).rs := by
  unfold advance
  split
  · exact h
  · split
    · exact h
    rename_i hcp
    have hcp : true = p.rs.canProcessed := by simpa using hcp
    simp only []
    have h2 := k.start2 { p.rs with canProcessed := true, number := 2 } (k.congr _ _ h rfl rfl hcp rfl rfl rfl)
    split <;> exact h2
  · split <;> exact h

theorem partyUpdate_kept (k : Kept c env P) (p : Party G) (m : VMsg G) (h : P p.rs) :
    P (partyUpdate c env p m).1.rs := by
  unfold partyUpdate
  split
  · exact h
  · exact advance_kept k p h
  · split
    · exact advance_kept k p h
    have hu := k.update p.rs m h
    simp only []
    split
    · exact h
    split
    · exact hu
    · exact advance_kept k _ hu

/-- The test `round0.CanAccept` with `StoreMessage` (`storeRule`) and `round1.CanAccept` (`canAccept1`) share:
the message id was processed or is stored. -/
theorem idKnown_iff (processed : List MsgId) (stored : List (VMsg G)) (mid : MsgId) :
    (processed.contains mid || stored.any (fun f => f.mid == mid)) = true ↔
      mid ∈ processed ∨ mid ∈ stored.map (·.mid) := by
  simp [List.mem_map]

theorem canAccept1_eq_false_iff (st : RState G) (m : VMsg G) :
    canAccept1 st m = false ↔ m.mid ∈ st.processed ∨ m.mid ∈ st.future.map (·.mid) := by
  rw [← idKnown_iff, canAccept1, ← Bool.not_or, Bool.not_eq_false']

theorem settle_rs (pr : Proc G) : (settle pr).party.rs = pr.party.rs := by
  unfold settle
  split; · rfl
  split <;> rfl

theorem settle_idle (pr : Proc G) (h1 : pr.party.errPending = false) (h2 : pr.party.donePending = false) :
    settle pr = pr := by
  unfold settle
  rw [if_neg (by simp [h1]), if_neg (by simp [h2])]

theorem onVerify_skip (c : Crypto G) (env : Env) (pr : Proc G) (m : VMsg G)
    (h : m.blockHash = env.hash → pr.inManager = false) : ∃ s, (pr.onVerify c env m).1 = { pr with stray := s } := by
  unfold Proc.onVerify
  by_cases hf : (m.blockHash == env.hash) = true
  · rw [if_pos hf, if_neg (by simp [h (by simpa using hf)])]
    by_cases hd : pr.done = true
    · rw [if_pos hd]; exact ⟨pr.stray, rfl⟩
    · rw [if_neg hd]; exact ⟨_, rfl⟩
  · rw [if_neg hf]; exact ⟨_, rfl⟩

theorem onVerify_kept (k : Kept c env P) (pr : Proc G) (m : VMsg G) (h : P pr.party.rs) :
    P (pr.onVerify c env m).1.party.rs := by
  unfold Proc.onVerify
  split
  · split
    · simp only []
      rw [settle_rs]; exact partyUpdate_kept k pr.party m h
    · split <;> exact h
  · exact h

theorem deliver_kept (k : Kept c env P) (pr : Proc G) (w : Wire G) (h : P pr.party.rs) :
    P (pr.deliver c env w).1.party.rs := by
  unfold Proc.deliver
  split
  · exact h
  · exact onVerify_kept k pr _ h

theorem initWith_kept (k : Kept c env P) (processed : List MsgId) (future : List (VMsg G)) :
    P (Proc.initWith c env processed future).party.rs := by
  have h1 := start1_kept k processed future
  unfold Proc.initWith
  rw [settle_rs]
  unfold enter
  simp only []
  split
  · exact h1
  split
  · exact h1
  · exact advance_kept k _ h1

theorem runX_kept (k : ∀ b, Kept c (env.withChain b) P) (ws : List (Bool × Wire G)) :
    ∀ pr : Proc G, P pr.party.rs → P (Proc.runX c env pr ws).party.rs := by
  induction ws with
  | nil => intro pr h; exact h
  | cons bw rest ih => intro pr h; exact ih _ (deliver_kept (k bw.1) pr bw.2 h)

theorem startLoop_frame (c : Crypto G) (env : Env) (ms : List (VMsg G)) (st : RState G) :
    (startLoop c env st ms).1.finished = st.finished ∧ (startLoop c env st ms).1.processed = st.processed ∧
    (startLoop c env st ms).1.future = st.future :=
  startLoop_kept (P := fun s => s.finished = st.finished ∧ s.processed = st.processed ∧ s.future = st.future)
    (fun s m h => have f := update_frame c env s m; ⟨f.1.trans h.1, f.2.1.trans h.2.1, f.2.2.1.trans h.2.2⟩)
    ms st ⟨rfl, rfl, rfl⟩

theorem startLoop_err_false (c : Crypto G) (hex : env.blockExists = false) (ms : List (VMsg G)) :
    ∀ st : RState G, (startLoop c env st ms).2.1 = false := by
  induction ms with
  | nil => intro st; rfl
  | cons m rest ih =>
    intro st
    unfold startLoop
    simp only []
    split
    · split
      · exact ih _
      · rfl
    split
    · rename_i h; rw [update_err_false c env st m hex] at h; exact absurd h (by decide)
    · exact ih _

theorem start1_absent (c : Crypto G) (hex : env.blockExists = false) (st : RState G) (hs : st.started = false) :
    (start1 c env st).2.1 = false ∧ (start1 c env st).1.finished = st.finished ∧
    ∀ mid, (mid ∈ (start1 c env st).1.processed ∨ mid ∈ (start1 c env st).1.future.map (·.mid)) →
      mid ∈ st.processed ++ st.future.map (·.mid) := by
  have hfl := startLoop_frame c env st.future
    { st with gSign := Gen.new (groupK env.groupSize), rSign := Gen.new (groupK env.groupSize) }
  have herr := startLoop_err_false c hex st.future
    { st with gSign := Gen.new (groupK env.groupSize), rSign := Gen.new (groupK env.groupSize) }
  unfold start1
  rw [if_neg (by simp [hs])]
  simp only []
  generalize startLoop c env _ _ = r at hfl herr
  by_cases he : st.future.isEmpty = true
  · rw [if_pos he]; exact ⟨rfl, rfl, fun mid hm => List.mem_append.mpr hm⟩
  rw [if_neg he]
  by_cases hr : (r.2.1 || r.2.2) = true
  · rw [if_pos hr]
    refine ⟨herr, hfl.1, fun mid hm => ?_⟩
    rw [hfl.2.1, hfl.2.2] at hm
    exact List.mem_append.mpr hm
  · rw [if_neg hr]
    refine ⟨rfl, hfl.1, fun mid hm => ?_⟩
    rcases hm with hm | hm
    · exact hfl.2.1 ▸ hm
    · cases hm
end Rangers.Proofs.Round
