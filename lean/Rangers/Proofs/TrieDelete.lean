import Rangers.Proofs.TrieWalk
/- `delete`: its equations along the walk of the key, the short-node merge and the branch reduction, and what it does to content
   and minimal form (`delete_spec`, one induction on the walk). -/
namespace Rangers.Trie
open Rangers

/-- `delete` on a short node merges a short child into the parent -/
def mergeShort (kk : Key) (child : Node) : Node :=
  match child with
  | .short ck cv => .short (kk ++ ck) cv
  | c => .short kk c

/-- the branch reduction at the end of `delete` on a full node -/
def reduce (cs' : List Node) : Node :=
  match soleChild cs' with
  | some pos =>
    if pos != 16 then mergeShort [pos] (cs'[pos]?.getD .nil)
    else .short [pos] (cs'[pos]?.getD .nil)
  | none => .full cs'

theorem delete_short_eq (kk : Key) (v : Node) (key : Key) :
    delete (.short kk v) key =
      if prefixLen key kk < kk.length then (false, .short kk v)
      else if prefixLen key kk = key.length then (true, .nil)
      else if (delete v (key.drop kk.length)).1 = false then (false, .short kk v)
      else (true, mergeShort kk (delete v (key.drop kk.length)).2) := by
  simp only [delete, mergeShort, Bool.not_eq_true']
  split
  · rfl
  · split
    · rfl
    · split
      · rfl
      · generalize (delete v (key.drop kk.length)).2 = c
        cases c <;> rfl

theorem delete_full_eq (cs : List Node) (i : Nat) (r : Key) (hi : i < cs.length) :
    delete (.full cs) (i :: r) =
      if (delete (cs[i]?.getD .nil) r).1 = false then (false, .full cs)
      else (true, reduce (cs.set i (delete (cs[i]?.getD .nil) r).2)) := by
  simp only [delete, deleteAt_eq cs i r hi, reduce, mergeShort, Bool.not_eq_true', List.getD_eq_getElem?_getD]
  split
  · rfl
  · generalize cs.set i (delete (cs[i]?.getD .nil) r).2 = cs'
    cases soleChild cs' with
    | none => rfl
    | some pos =>
      dsimp only
      split
      · generalize cs'[pos]?.getD .nil = c
        cases c <;> rfl
      · rfl

theorem delete_not_dirty (n : Node) (k : Key) (h : (delete n k).1 = false) : (delete n k).2 = n := by
  cases n with
  | nil => simp [delete]
  | value b => simp [delete] at h
  | short kk v =>
    rw [delete_short_eq] at h ⊢
    split
    · rfl
    · split
      · rename_i h1 h2; rw [if_neg h1, if_pos h2] at h; simp at h
      · split
        · rfl
        · rename_i h1 h2 h3; rw [if_neg h1, if_neg h2, if_neg h3] at h; simp at h
  | full cs =>
    cases k with
    | nil => simp [delete]
    | cons x r =>
      by_cases hx : x < cs.length
      · rw [delete_full_eq _ _ _ hx] at h ⊢
        split
        · rfl
        · rename_i h1; rw [if_neg h1] at h; simp at h
      · simp [delete, deleteAt_oob cs x r (by omega)]

theorem soleChild_eq (cs : List Node) : soleChild cs = match occupied cs with | [p] => some p | _ => none := by
  unfold soleChild occupied
  simp only [List.getD_eq_getElem?_getD]
  rfl

theorem soleChild_some {cs : List Node} {p : Nat} (h : soleChild cs = some p) :
    p < cs.length ∧ cs[p]?.getD .nil ≠ .nil ∧ (∀ j, j ≠ p → cs[j]?.getD .nil = .nil) ∧ countNN cs = 1 := by
  rw [soleChild_eq] at h
  match ho : occupied cs, h with
  | [q], h =>
    cases h
    have hp := mem_occupied.mp (ho ▸ List.mem_cons_self : p ∈ occupied cs)
    refine ⟨hp.1, hp.2, fun j hj => ?_, by rw [← occupied_length, ho]; rfl⟩
    by_cases hjl : j < cs.length
    · exact Classical.byContradiction (fun hne => hj (by simpa [ho] using mem_occupied.mpr ⟨hjl, hne⟩))
    · simp [Nat.not_lt.mp hjl]

theorem soleChild_none {cs : List Node} (h : soleChild cs = none) : countNN cs ≠ 1 := by
  rw [soleChild_eq] at h
  intro h1
  rw [← occupied_length] at h1
  match ho : occupied cs, h, h1 with
  | [q], h, _ => simp at h

theorem delete_hit (kk : Key) (b : Bytes) : (delete (.short kk (.value b)) kk).2 = .nil := by
  have h := prefixLen_append_self kk []
  rw [List.append_nil] at h
  rw [delete_short_eq, if_neg (by omega), if_pos h]

theorem delete_miss (p : Key) {a b : Nat} (kA kB : Key) (v : Node) (hab : a ≠ b) :
    (delete (.short (p ++ a :: kA) v) (p ++ b :: kB)).2 = .short (p ++ a :: kA) v := by
  rw [delete_short_eq, if_pos (by rw [prefixLen_diverge p kA kB hab]; simp)]

theorem delete_ext (kk : Key) (cs : List Node) (r : Key) (hr : r ≠ []) :
    (delete (.short kk (.full cs)) (kk ++ r)).2 = mergeShort kk (delete (.full cs) r).2 := by
  have hl : kk.length ≠ (kk ++ r).length := by
    have := List.length_pos_iff.mpr hr
    simp only [List.length_append]; omega
  rw [delete_short_eq, prefixLen_append_self, if_neg (Nat.lt_irrefl _), if_neg hl, List.drop_left]
  split
  · rename_i hnd; rw [delete_not_dirty _ _ hnd]; rfl
  · rfl

theorem reduce_of_two {cs : List Node} (h : 2 ≤ countNN cs) : reduce cs = .full cs := by
  unfold reduce
  cases hs : soleChild cs with
  | none => rfl
  | some p => have := (soleChild_some hs).2.2.2; omega

theorem delete_slot {cs : List Node} (hwf : WF (.full cs)) {i : Nat} (hi : i < 17) (r : Key) :
    (delete (.full cs) (i :: r)).2 = reduce (cs.set i (delete (cs[i]?.getD .nil) r).2) := by
  obtain ⟨hlen, _, hcnt⟩ := (WF_full_iff cs).mp hwf
  rw [delete_full_eq cs i r (by omega)]
  split
  · rename_i hnd; rw [delete_not_dirty _ _ hnd, set_getD_self, reduce_of_two hcnt]
  · rfl

theorem delete_nil_key (c : Node) (hc : c = .nil ∨ ∃ b, c = .value b) : (delete c []).2 = .nil := by
  rcases hc with rfl | ⟨b, rfl⟩ <;> simp [delete]

theorem iter_mergeShort (kk : Key) (c : Node) : iter (mergeShort kk c) = iter (.short kk c) := by
  cases c with
  | short ck cv => exact (iter_short_short kk ck cv).symm
  | _ => rfl

theorem iter_reduce (cs' : List Node) : iter (reduce cs') = iter (.full cs') := by
  unfold reduce
  cases hs : soleChild cs' with
  | none => rfl
  | some pos =>
    rw [iter_full_single (soleChild_some hs).2.2.1]
    dsimp only
    split
    · exact iter_mergeShort _ _
    · rfl

theorem mergeShort_ne_nil (kk : Key) (c : Node) : mergeShort kk c ≠ .nil := by
  unfold mergeShort; split <;> simp

theorem reduce_ne_nil (cs' : List Node) : reduce cs' ≠ .nil := by
  unfold reduce
  split
  · split
    · exact mergeShort_ne_nil _ _
    · simp
  · simp

theorem WF_mergeShort (kk : Key) (c : Node) (hne : kk ≠ []) (hn : Nibs kk) (hc : WF c) : WF (mergeShort kk c) := by
  cases c with
  | nil => exact absurd hc not_WF_nil
  | value b => exact absurd hc (not_WF_value b)
  | full cs => exact WF_ext hne hn hc
  | short ck cv =>
    simp only [mergeShort]
    rcases (WF_short_iff ck cv).mp hc with ⟨b, rfl, hck, hb⟩ | ⟨cs, rfl, hcne, hcn, hfull⟩
    · exact WF_leaf ((validKey_append kk ck hck.ne_nil).mpr ⟨hn, hck⟩) hb
    · exact WF_ext (by simp [hne]) ((nibs_append _ _).mpr ⟨hn, hcn⟩) hfull

theorem WF_reduce {cs' : List Node} (hs' : SlotsOK cs') (hcnt : 1 ≤ countNN cs') : WF (reduce cs') := by
  obtain ⟨hlen, hslots⟩ := hs'
  unfold reduce
  cases hs : soleChild cs' with
  | none =>
    have := soleChild_none hs
    exact (WF_full_iff cs').mpr ⟨hlen, hslots, by omega⟩
  | some pos =>
    obtain ⟨hp, hne, _, _⟩ := soleChild_some hs
    have hsl := hslots pos (by omega)
    simp only
    by_cases h16 : pos = 16
    · subst h16
      rcases hsl with h | h
      · exact absurd h hne
      · simp only [if_true] at h
        obtain ⟨b, hb, hbne⟩ := h
        simp only [bne_self_eq_false, Bool.false_eq_true, if_false, hb]
        exact WF_leaf (by simp [ValidKey]) hbne
    · have : (pos != 16) = true := by simpa using h16
      simp only [this, if_true]
      rcases hsl with h | h
      · exact absurd h hne
      · simp only [h16, if_false] at h
        exact WF_mergeShort _ _ (by simp) (by intro y hy; simp at hy; omega) h

theorem delete_full_ne_nil (cs : List Node) (key : Key) : (delete (.full cs) key).2 ≠ .nil := by
  cases key with
  | nil => simp [delete]
  | cons i r =>
    by_cases hi : i < cs.length
    · rw [delete_full_eq cs i r hi]
      split
      · simp
      · exact reduce_ne_nil _
    · simp [delete, deleteAt_oob cs i r (by omega)]

theorem WF_reduce_set {cs : List Node} (hwf : WF (.full cs)) {i : Nat} (hi : i < 17) {c : Node} (hc : SlotOK i c) :
    WF (reduce (cs.set i c)) := by
  obtain ⟨hs, hcnt, _⟩ := slots_set hwf hi hc
  exact WF_reduce hs hcnt

theorem delete_spec {t : Node} {key : Key} (w : Walk t key) :
    Upd (delete t key).2 t key none ∧ WFRoot (delete t key).2 := by
  induction w with
  | nil key => rw [delete_nil]; exact ⟨.of_absent (content_nil _), Or.inl rfl⟩
  | value b hb =>
    rw [delete_nil_key _ (Or.inr ⟨b, rfl⟩)]
    exact ⟨fun k' => by rw [content_nil, content_value]; split <;> rfl, Or.inl rfl⟩
  | miss p a kA b kB v hwf hk hab =>
    rw [delete_miss p kA kB v hab]
    exact ⟨.of_absent (by rw [content_short, if_neg (not_prefix_of_diverge p kA kB hab)]), Or.inr hwf⟩
  | ext kk v r hwf hne hk w ih =>
    rcases w.below_short hwf hk with ⟨b, rfl, rfl, _, _⟩ | ⟨cs, rfl, hnib, _, hr⟩
    · rw [List.append_nil, delete_hit]
      exact ⟨fun k' => by rw [content_nil, content_leaf]; split <;> rfl, Or.inl rfl⟩
    · rw [delete_ext kk cs r hr.ne_nil]
      exact ⟨(ih.1.short kk).congr_left (iter_mergeShort kk _),
        Or.inr (WF_mergeShort _ _ hne hnib (ih.2.resolve_left (delete_full_ne_nil cs _)))⟩
  | slot cs i r hwf hi hk _ ih =>
    have hlen := ((WF_full_iff cs).mp hwf).1
    rw [delete_slot hwf hi]
    refine ⟨(Upd.slot (by omega) ih.1).congr_left (iter_reduce _), Or.inr (WF_reduce_set hwf hi ?_)⟩
    rcases (validKey_cons i r).mp hk with ⟨rfl, rfl⟩ | ⟨hi16, _⟩
    · exact Or.inl (delete_nil_key _ ((WF_full_value hwf).imp id (fun ⟨b, hb, _⟩ => ⟨b, hb⟩)))
    · exact .of_wfRoot hi16 ih.2

theorem delete_wf (t : Node) :
    ∀ key, WFRoot t → ValidKey key → WFRoot (delete t key).2 :=
  fun key ht hk => (delete_spec (walk_of_wf t key ht hk)).2

end Rangers.Trie
