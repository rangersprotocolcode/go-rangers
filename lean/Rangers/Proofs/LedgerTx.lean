import Rangers.Proofs.LedgerExec
/-! Transactions, transaction lists and blocks create no value (C06): `Flow` carried from frames up to `execBlock`. -/
namespace Rangers.Ledger

theorem processFeeWith_eq {fee : Nat} {b b' : Bal} {src : Addr} (h : processFeeWith fee b src = some b') :
    fee ≤ get b src ∧ b' = addBal (subBal b src fee).1 feeAccount fee := by
  simp only [processFeeWith, Option.ite_none_left_eq_some, Option.some.injEq] at h
  exact ⟨Nat.le_of_not_lt h.1, h.2.symm⟩

theorem processFeeWith_feePaid {fee : Nat} {b b' : Bal} {src : Addr} (h : processFeeWith fee b src = some b') :
    FeePaid src b b' := by
  obtain ⟨hle, rfl⟩ := processFeeWith_eq h
  exact .move b src fee hle

theorem transferBalance_total (b b' : Bal) (src tgt : Addr) (a : Amount)
    (h : transferBalance b src tgt a = some b') : total b' = total b := by
  cases a with
  | err => cases h
  | val v =>
    simp only [transferBalance, Option.ite_none_left_eq_some, Option.some.injEq] at h
    obtain ⟨hn, hb, rfl⟩ := h
    obtain ⟨n, rfl⟩ := Int.eq_ofNat_of_zero_le (Int.not_lt.mp hn)
    -- credit first, then debit: the debit succeeds because the credit cannot lower the source slot
    have hge : n ≤ get (addBal b tgt (n : Int)) src := by
      by_cases e : src = tgt
      · subst e; rw [get_addBal_same]; omega
      · rw [get_addBal_other _ _ _ _ e]; omega
    have h1 := (subBal_ok_of_le (addBal b tgt (n : Int)) src n hge).2.1
    have h2 := total_addBal b tgt n
    omega

theorem changeAssets_total (src : Addr) : ∀ (ts : List (Addr × Amount)) (b b' : Bal),
    changeAssets b src ts = some b' → total b' = total b := by
  intro ts
  induction ts with
  | nil => intro b b' h; cases h; rfl
  | cons p rest ih =>
    intro b b' h
    simp only [changeAssets] at h
    cases hb : transferBalance b src p.1 p.2 with
    | none => rw [hb] at h; cases h
    | some b1 =>
      rw [hb] at h
      rw [ih b1 b' h, transferBalance_total b b1 src p.1 p.2 hb]

theorem chargeGas_feePaid (b : Bal) (src : Addr) (g : Nat) : FeePaid src b (chargeGas b src g) :=
  .move b src _ (by split <;> omega)

theorem refundMove_total : ∀ (l : List (Addr × Nat)) (b : Bal),
    total (refundMove b l) = total b + (l.map (·.2)).sum := by
  intro l
  induction l with
  | nil => intro b; rfl
  | cons p r ih =>
    intro b
    simp only [refundMove, List.map_cons, List.sum_cons]
    rw [ih, total_addBal]; omega

theorem evmCallTop_flow (code : Code) (fuel : Nat) (origin addr : Addr) (v : Int) (s : St) :
    Flow 0 s (evmCallTop code true fuel origin addr v s).1 := by
  unfold evmCallTop
  refine Flow.ite_fst (fun _ => .refl s) (fun hg => ?_)
  have h := (flow_transfer s origin addr v (canTransfer_of_guard hg)).trans
    (exec_flow code origin fuel addr false (codeAt code addr) _)
  exact Flow.ite_fst (fun _ => h) (fun _ => Flow.same rfl)

theorem evmCreateTop_flow (code : Code) (fuel : Nat) (origin : Addr) (v : Int) (init : Script) (s : St) :
    Flow 0 s (evmCreateTop code true fuel origin v init s).1 := by
  unfold evmCreateTop
  refine Flow.ite_fst (fun _ => .refl s) (fun hg => ?_)
  have hf : Flow 0 s { s with fresh := s.fresh + 1 } := Flow.same rfl
  have h := (hf.trans (flow_transfer _ origin (freshAddr s.fresh) v (by simpa using hg))).trans
    (exec_flow code origin fuel (freshAddr s.fresh) false init _)
  exact Flow.ite_fst (fun _ => h) (fun _ => Flow.same rfl)

theorem contractExecute_flow (fl : Flags) (hj : fl.p002 = true) (code : Code) (fuel : Nat) (t : ContractTx) (raw : Nat)
    (v : Int) (s : St) : Flow 0 s (contractExecute fl code fuel t raw v s).1 := by
  have hr : Flow 0 s (match t.target with
      | none => evmCreateTop code true fuel t.src v t.init s
      | some a => evmCallTop code true fuel t.src a v s).1 := by
    cases t.target with
    | none => exact evmCreateTop_flow code fuel t.src v t.init s
    | some a => exact evmCallTop_flow code fuel t.src a v s
  unfold contractExecute
  rw [hj]
  refine Flow.ite_fst (fun _ => .refl s) (fun _ => Flow.ite_fst (fun _ => hr) (fun _ => ?_))
  exact hr.trans (Flow.same (chargeGas_feePaid _ _ _).total_eq)

theorem contractBefore_cases (fl : Flags) (b : Bal) (t : ContractTx) :
    (∃ st b', st ≠ .success ∧ FeePaid t.src b b' ∧ contractBefore fl b t = .inl (st, b')) ∨
    ∃ b1 raw v, processFeeWith (txFeeOf fl) b t.src = some b1 ∧ strToBigInt t.value = .val v ∧
      contractBefore fl b t = .inr (b1, raw, v) := by
  have hr : (if (t.eth && fl.p018) = true then Status.evicted else Status.failed) ≠ .success := by
    split <;> exact Status.noConfusion
  unfold contractBefore
  simp only
  by_cases h1 : (t.eth && !t.nonceOk) = true
  · rw [if_pos h1]; exact .inl ⟨_, _, hr, .refl _ _, rfl⟩
  rw [if_neg h1]
  cases hf : processFeeWith (txFeeOf fl) b t.src with
  | none => exact .inl ⟨_, _, hr, .refl _ _, rfl⟩
  | some b1 =>
    have fee := processFeeWith_feePaid hf
    simp only
    by_cases h2 : (!t.jsonOk) = true
    · rw [if_pos h2]; exact .inl ⟨_, _, Status.noConfusion, fee, rfl⟩
    rw [if_neg h2]
    cases parseGasLimit fl t.gasLimit with
    | none => exact .inl ⟨_, _, Status.noConfusion, fee, rfl⟩
    | some raw =>
      simp only
      cases hv : strToBigInt t.value with
      | err => exact .inl ⟨_, _, Status.noConfusion, fee, rfl⟩
      | val v =>
        simp only
        split
        · exact .inl ⟨_, _, Status.noConfusion, fee, rfl⟩
        · exact .inr ⟨b1, raw, v, rfl, rfl, rfl⟩

/-- A contract transaction that does not succeed: under journaled balance writes nothing happened but that fees were paid (the
    flat fee, a gas charge, both or neither: `FeePaid` is transitive) and CREATE addresses were used up. The gas charged to a
    failed transaction is whatever `context["gasUsed"]` holds, possibly left there by an earlier transaction of the block: the
    executor never clears it. -/
theorem execTx_contract_cases (fuel : Nat) (w : World) (t : ContractTx) :
    (execTx fuel w (.contract t)).1.fl = w.fl ∧ (execTx fuel w (.contract t)).1.ctx.pending = w.ctx.pending ∧
    (((execTx fuel w (.contract t)).2 ≠ .success ∧
        (w.fl.p002 = true → ∃ b fr, FeePaid t.src w.st.bal b ∧
          (execTx fuel w (.contract t)).1.st = { w.st with bal := b, fresh := fr })) ∨
     ∃ b1 raw v, processFeeWith (txFeeOf w.fl) w.st.bal t.src = some b1 ∧ strToBigInt t.value = .val v ∧
        (contractExecute w.fl w.code fuel t raw v { w.st with bal := b1 }).2.1 = true ∧
        (execTx fuel w (.contract t)).2 = .success ∧
        (execTx fuel w (.contract t)).1.st = (contractExecute w.fl w.code fuel t raw v { w.st with bal := b1 }).1) := by
  rcases contractBefore_cases w.fl w.st.bal t with ⟨st, b, hst, fee, h⟩ | ⟨b1, raw, v, hf, hv, h⟩
  · rw [execTx, h]; exact ⟨rfl, rfl, .inl ⟨hst, fun _ => ⟨b, _, fee, rfl⟩⟩⟩
  · rw [execTx, h]
    simp only
    generalize hr : contractExecute w.fl w.code fuel t raw v _ = r
    obtain ⟨s', ok, g⟩ := r
    cases ok
    · refine ⟨rfl, by cases g <;> rfl, .inl ⟨Status.noConfusion, fun hj => ?_⟩⟩
      rw [hj]
      refine ⟨_, s'.fresh, (processFeeWith_feePaid hf).trans ?_, rfl⟩
      have charged : ∀ g, FeePaid t.src b1 (if w.fl.p027 = true then deductGasFee b1 t.src g else b1) :=
        fun g => ite_cases (fun _ => chargeGas_feePaid b1 t.src g) (fun _ => .refl _ _)
      cases g with
      | some g => exact charged g
      | none =>
        cases w.ctx.gasUsed with
        | none => exact .refl _ _
        | some g => exact charged g
    · exact ⟨rfl, by cases g <;> rfl, .inr ⟨b1, raw, v, hf, hv, by rw [hr], rfl, by rw [hr]; rfl⟩⟩

theorem minerApply_debited {s s2 : St} {src : Addr} {id typ stake : Nat} {account : Addr} {keysOk : Bool}
    (h : minerApply s src id typ stake account keysOk = some s2) : Debited src (toWei stake) 0 s s2 := by
  simp only [minerApply, Option.ite_none_left_eq_some, Option.some.injEq, Option.isSome_iff_ne_none, ne_eq,
    Decidable.not_not] at h
  obtain ⟨_, _, _, hb, hn, _, rfl⟩ := h
  exact .mk _ (Nat.le_of_not_lt hb) (stakeSum_regSet_new s.reg _ hn)

theorem minerAdd_cases {s s2 : St} {src : Addr} {id delta : Nat} (h : minerAdd s src id delta = some s2) :
    s2 = s ∨ Debited src (toWei delta) 0 s s2 := by
  unfold minerAdd at h
  by_cases h0 : delta = 0
  · rw [if_pos h0] at h; exact .inl (Option.some.inj h).symm
  rw [if_neg h0] at h
  by_cases h1 : get s.bal src < toWei delta
  · rw [if_pos h1] at h; cases h
  rw [if_neg h1] at h
  cases hg : regGet s.reg id with
  | none => rw [hg] at h; cases h
  | some m => rw [hg] at h; cases h; exact .inr (.addStake s src delta (regGet_self hg) (Nat.le_of_not_lt h1))

theorem flow_minerAdd {s s2 : St} {src : Addr} {id delta : Nat} (h : minerAdd s src id delta = some s2) :
    Flow 0 s s2 := by
  rcases minerAdd_cases h with rfl | h
  · exact .refl s2
  · exact h.flow

theorem minerRefund_eq {code : Code} {s s2 : St} {src : Addr} {id : Nat} {amount : Option Nat} {signed : Bool}
    {pend : Escrow} (h : minerRefund code s src id amount signed = some (s2, pend)) :
    ∃ r', stakeSum r' + escrowTotal pend = stakeSum s.reg ∧ s2 = { s with reg := r' } := by
  unfold minerRefund at h
  by_cases hs : (!signed) = true
  · rw [if_pos hs] at h; cases h; exact ⟨s.reg, rfl, rfl⟩
  rw [if_neg hs] at h
  cases amount with
  | none => cases h
  | some a =>
    simp only at h
    cases hg : getRefundStake s.reg (hasCodeIn code) id src a with
    | none => rw [hg] at h; cases h
    | some p =>
      rw [hg] at h; cases h
      exact ⟨p.1, by rw [escrowTotal_single]; exact getRefundStake_sum _ _ _ _ _ _ _ _ hg, rfl⟩

theorem flow_minerRefund {code : Code} {s s2 : St} {src : Addr} {id : Nat} {amount : Option Nat} {signed : Bool}
    {pend : Escrow} (h : minerRefund code s src id amount signed = some (s2, pend)) :
    Flow (escrowTotal pend) s s2 := by
  obtain ⟨r', hr, rfl⟩ := minerRefund_eq h
  exact ⟨by simp only [held]; omega, Nat.le_refl _, Nat.le_refl _⟩

theorem stakeSum_setAccount {r : Reg} {m : MinerRec} (a : Addr) (h : regGet r m.id = some m) :
    stakeSum (regSet r { m with account := a }) = stakeSum r := by
  have := stakeSum_regSet r m { m with account := a } h
  simp only at this
  omega

theorem nodeTxWith_debited {fee : Nat} {s s2 : St} {src newAcct : Addr} {mainOk : Bool}
    (h : nodeTxWith fee s src newAcct mainOk = some s2) : Debited src fee fee s s2 := by
  unfold nodeTxWith at h
  by_cases h1 : get s.bal src < fee
  · rw [if_pos h1] at h; cases h
  rw [if_neg h1] at h
  cases hb : byAccount s.reg src with
  | none => rw [hb] at h; cases h
  | some m0 =>
    rw [hb] at h
    simp only at h
    cases hg : regGet s.reg m0.id with
    | none => rw [hg] at h; cases h
    | some m =>
      rw [hg] at h
      simp only [Option.ite_none_left_eq_some, Option.some.injEq] at h
      obtain ⟨_, rfl⟩ := h
      exact .mk _ (Nat.le_of_not_lt h1) (by rw [stakeSum_setAccount newAcct (regGet_self hg)])

theorem minerChange_eq {s s2 : St} {src : Addr} {id : Nat} {newAcct : Addr}
    (h : minerChange s src id newAcct = some s2) :
    ∃ m, regGet s.reg m.id = some m ∧ s2 = { s with reg := regSet s.reg { m with account := newAcct } } := by
  unfold minerChange at h
  cases hg : regGet s.reg id with
  | none => rw [hg] at h; cases h
  | some m =>
    rw [hg] at h
    simp only [Option.ite_none_left_eq_some, Option.some.injEq] at h
    exact ⟨m, regGet_self hg, h.2.2.2.symm⟩

theorem flow_minerChange {s s2 : St} {src : Addr} {id : Nat} {newAcct : Addr}
    (h : minerChange s src id newAcct = some s2) : Flow 0 s s2 := by
  obtain ⟨m, hg, rfl⟩ := minerChange_eq h
  exact ⟨by simp only [held, stakeSum_setAccount newAcct hg, Nat.add_zero], Nat.le_refl _, Nat.le_refl _⟩

theorem execTx_contract_flow (fuel : Nat) (w : World) (hj : w.fl.p002 = true) (t : ContractTx) :
    (execTx fuel w (.contract t)).1.fl = w.fl ∧ (execTx fuel w (.contract t)).1.ctx.pending = w.ctx.pending ∧
    Flow 0 w.st (execTx fuel w (.contract t)).1.st := by
  obtain ⟨hfl, hp, ⟨_, h⟩ | ⟨b1, raw, v, hf, _, _, _, hs⟩⟩ := execTx_contract_cases fuel w t
  · obtain ⟨b, fr, fee, hs⟩ := h hj
    rw [hs]; exact ⟨hfl, hp, Flow.same fee.total_eq⟩
  · rw [hs]
    exact ⟨hfl, hp, (Flow.same (processFeeWith_feePaid hf).total_eq).trans
      (contractExecute_flow w.fl hj w.code fuel t raw v _)⟩

/-- value debited by an OperatorNode transaction and credited to nobody -/
def nodeFeeBy : Tx → Status → Nat
  | .node _ _ _, .success => nodeFee
  | _, _ => 0

theorem nodeFeeBy_failed (tx : Tx) : nodeFeeBy tx .failed = 0 := by cases tx <;> rfl

/-- What `tx`, ending in `r`, did to the world `w`: the flags stay, the context only gains refunds, and no value is created
    when those refunds and the node fee are counted as leaving. -/
def TxFlow (w : World) (tx : Tx) (r : World × Status) : Prop :=
  r.1.fl = w.fl ∧ ∃ pend, r.1.ctx.pending = w.ctx.pending ++ pend ∧
    Flow (nodeFeeBy tx r.2 + escrowTotal pend) w.st r.1.st

theorem TxFlow.of_flow {w : World} {tx : Tx} {s' : St} {st : Status} (h0 : nodeFeeBy tx st = 0) (h : Flow 0 w.st s') :
    TxFlow w tx ({ w with st := s' }, st) :=
  ⟨rfl, [], (List.append_nil _).symm, by rw [h0]; exact h⟩

/-- Every transaction type but the contract ones starts with the flat fee (`baseFeeExecutor.BeforeExecute`). Each such
    branch of `execTx` unfolds to this `match`, so the lemma applies to `execTx fuel w (.apply …)` as it stands. -/
theorem TxFlow.fee_first {w : World} {tx : Tx} {src : Addr} {k : Bal → World × Status}
    (h : ∀ b1, Flow 0 w.st { w.st with bal := b1 } → TxFlow w tx (k b1)) :
    TxFlow w tx (match processFeeWith (txFeeOf w.fl) w.st.bal src with
      | none => (w, .failed)
      | some b1 => k b1) := by
  cases hf : processFeeWith (txFeeOf w.fl) w.st.bal src with
  | none => exact .of_flow (nodeFeeBy_failed tx) (.refl _)
  | some b1 => exact h b1 (Flow.same (processFeeWith_feePaid hf).total_eq)

theorem execTx_flow (fuel : Nat) (w : World) (hj : w.fl.p002 = true) (tx : Tx) : TxFlow w tx (execTx fuel w tx) := by
  cases tx with
  | operator src dataOk targets =>
    refine TxFlow.fee_first fun b1 fee => ?_
    by_cases hd : (!dataOk) = true
    · rw [if_pos hd]; exact .of_flow rfl fee
    rw [if_neg hd]
    cases hc : changeAssets b1 src targets with
    | none => rw [hj, if_pos rfl]; exact .of_flow rfl fee
    | some b2 => exact .of_flow rfl (fee.trans (Flow.same (changeAssets_total src targets b1 b2 hc)))
  | apply src id typ stake account keysOk =>
    refine TxFlow.fee_first fun b1 fee => ?_
    cases hm : minerApply { w.st with bal := b1 } src id typ stake account keysOk with
    | none => exact .of_flow rfl fee
    | some s2 => exact .of_flow rfl (fee.trans (minerApply_debited hm).flow)
  | addStake src id delta =>
    refine TxFlow.fee_first fun b1 fee => ?_
    cases hm : minerAdd { w.st with bal := b1 } src id delta with
    | none => exact .of_flow rfl fee
    | some s2 => exact .of_flow rfl (fee.trans (flow_minerAdd hm))
  | refund src id amount signed =>
    refine TxFlow.fee_first fun b1 fee => ?_
    cases hm : minerRefund w.code { w.st with bal := b1 } src id amount signed with
    | none => exact .of_flow rfl fee
    | some p => exact ⟨rfl, p.2, rfl, (Nat.zero_add _).symm ▸ fee.trans (flow_minerRefund hm)⟩
  | node src newAcct mainOk =>
    refine TxFlow.fee_first fun b1 fee => ?_
    cases hm : nodeTx { w.st with bal := b1 } src newAcct mainOk with
    | none => rw [hj, Bool.true_or, if_pos rfl]; exact .of_flow rfl fee
    | some s2 => exact ⟨rfl, [], (List.append_nil _).symm, fee.trans (nodeTxWith_debited hm).flow⟩
  | changeAccount src id newAcct =>
    refine TxFlow.fee_first fun b1 fee => ?_
    cases hm : minerChange { w.st with bal := b1 } src id newAcct with
    | none => exact .of_flow rfl fee
    | some s2 => exact .of_flow rfl (fee.trans (flow_minerChange hm))
  | contract t =>
    obtain ⟨hfl, hp, h⟩ := execTx_contract_flow fuel w hj t
    exact ⟨hfl, [], by rw [hp, List.append_nil], h⟩

theorem failed_contract_other (fuel : Nat) (w : World) (hj : w.fl.p002 = true) (t : ContractTx)
    (hf : (execTx fuel w (.contract t)).2 ≠ .success) (a : Addr) (h1 : a ≠ t.src) (h2 : a ≠ feeAccount) :
    get (execTx fuel w (.contract t)).1.st.bal a = get w.st.bal a := by
  obtain ⟨_, _, ⟨_, h⟩ | ⟨_, _, _, _, _, _, hst, _⟩⟩ := execTx_contract_cases fuel w t
  · obtain ⟨b, fr, fee, hs⟩ := h hj
    rw [hs]; exact fee.other a h1 h2
  · exact absurd hst hf

/-- node fees debited by a list of transactions with the given outcomes -/
def nodeFeeSum : List Tx → List Status → Nat
  | t :: ts, s :: ss => nodeFeeBy t s + nodeFeeSum ts ss
  | _, _ => 0

theorem execTxs_flow (fuel : Nat) : ∀ (txs : List Tx) (w : World), w.fl.p002 = true →
    ∃ pend, (execTxs fuel w txs).1.ctx.pending = w.ctx.pending ++ pend ∧
      Flow (nodeFeeSum txs (execTxs fuel w txs).2 + escrowTotal pend) w.st (execTxs fuel w txs).1.st := by
  intro txs
  induction txs with
  | nil => intro w _; exact ⟨[], (List.append_nil _).symm, .refl _⟩
  | cons t ts ih =>
    intro w hj
    obtain ⟨hfl, p1, hp1, h1⟩ := execTx_flow fuel w hj t
    obtain ⟨p2, hp2, h2⟩ := ih (execTx fuel w t).1 ((congrArg Flags.p002 hfl).trans hj)
    refine ⟨p1 ++ p2, by simp only [execTxs]; rw [hp2, hp1, List.append_assoc], ?_⟩
    have := h1.add h2
    simp only [execTxs, nodeFeeSum]
    exact ⟨by have := this.held_eq; rw [escrowTotal_append]; omega, this.burned_le, this.total_le⟩

theorem execTxs_burned (fuel : Nat) : ∀ (txs : List Tx) (w : World), w.fl.p002 = true →
    w.st.burned ≤ (execTxs fuel w txs).1.st.burned := by
  intro txs w hj
  obtain ⟨_, _, h⟩ := execTxs_flow fuel txs w hj
  exact h.burned_le

theorem execTxs_length (fuel : Nat) : ∀ (txs : List Tx) (w : World), (execTxs fuel w txs).2.length = txs.length := by
  intro txs
  induction txs with
  | nil => intro w; rfl
  | cons t ts ih => intro w; simp only [execTxs, List.length_cons, ih]

theorem escrow_split : ∀ (e : Escrow) (h : Nat),
    ((dueAt e h).map (·.2)).sum + escrowTotal (notDueAt e h) = escrowTotal e := by
  intro e h
  induction e with
  | nil => rfl
  | cons p r ih =>
    simp only [dueAt, notDueAt]
    by_cases c : p.1 = h
    · simp only [c, if_true, List.map_cons, List.sum_cons, escrowTotal]; omega
    · simp only [c, if_false, escrowTotal]; omega

theorem afterBlock_exact (b : Bal) (e : Escrow) (h : Nat) (added : Escrow) :
    total (afterBlock b e h added).1 = total b + ((dueAt (e ++ added) h).map (·.2)).sum ∧
    total (afterBlock b e h added).1 + escrowTotal (afterBlock b e h added).2
      = total b + escrowTotal e + escrowTotal added := by
  have h1 : total (afterBlock b e h added).1 = _ := refundMove_total (dueAt (e ++ added) h) b
  have h2 : _ + escrowTotal (afterBlock b e h added).2 = _ := escrow_split (e ++ added) h
  have h3 := escrowTotal_append e added
  exact ⟨h1, by omega⟩

theorem stakeSum_markVisible : ∀ r : Reg, stakeSum (markVisible r) = stakeSum r := by
  intro r
  induction r with
  | nil => rfl
  | cons m r ih => simp only [markVisible, stakeSum, ih]

theorem execBlock_held (fuel : Nat) (w : World) (hj : w.fl.p002 = true) (h : Nat) (txs : List Tx) (rewards : Escrow) :
    held (execBlock fuel w h txs rewards).1.st + nodeFeeSum txs (execBlock fuel w h txs rewards).2 + w.st.excess
      = held w.st + escrowTotal rewards + (execBlock fuel w h txs rewards).1.st.excess := by
  obtain ⟨pend, hp, hm⟩ := execTxs_flow fuel txs
    { w with ctx := { gasUsed := none, pending := [] }, st := { w.st with height := h, p014 := w.fl.p014 } } hj
  have hm := hm.held_eq
  simp only [execBlock, List.nil_append] at hp hm ⊢
  generalize execTxs fuel _ txs = r at hp hm ⊢
  have ha := (afterBlock_exact r.1.st.bal r.1.st.escrow h (pend ++ rewards)).2
  have hq := escrowTotal_append pend rewards
  rw [hp]
  simp only [held, stakeSum_markVisible] at hm ⊢
  omega

end Rangers.Ledger
