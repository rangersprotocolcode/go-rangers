import Rangers.Proofs.TrieEquations
import Rangers.Proofs.BigEndian
/- Lemmas about hex keys: `ValidKey`, `Nibs`, `prefixLen`; a byte as a pair of nibbles; `keybytesToHex` yields a valid key and `hexToKeybytes` inverts it. -/
namespace Rangers.Trie
open Rangers

theorem ValidKey.ne_nil {k : Key} (h : ValidKey k) : k ≠ [] := by
  intro h0; subst h0; exact h

theorem ValidKey.exists_cons {k : Key} (h : ValidKey k) : ∃ x r, k = x :: r :=
  List.exists_cons_of_ne_nil h.ne_nil

theorem validKey_cons (x : Nat) (r : Key) :
    ValidKey (x :: r) ↔ (x = 16 ∧ r = []) ∨ (x < 16 ∧ ValidKey r) := by
  cases r with
  | nil => simp [ValidKey]
  | cons y r => simp [ValidKey]

theorem validKey_iff (k : Key) : ValidKey k ↔ ∃ n, k = n ++ [16] ∧ Nibs n := by
  induction k with
  | nil => simp [ValidKey]
  | cons x r ih =>
    rw [validKey_cons, ih]
    constructor
    · rintro (⟨rfl, rfl⟩ | ⟨hx, n, rfl, hn⟩)
      · exact ⟨[], by simp, by simp [Nibs]⟩
      · refine ⟨x :: n, by simp, ?_⟩
        intro y hy
        cases hy with
        | head => exact hx
        | tail _ h => exact hn y h
    · rintro ⟨n, hn, hN⟩
      cases n with
      | nil => left; simp at hn; exact hn
      | cons y n =>
        right
        simp at hn
        obtain ⟨rfl, rfl⟩ := hn
        exact ⟨hN x (by simp), n, rfl, fun z hz => hN z (by simp [hz])⟩

theorem Nibs.nil : Nibs [] := by simp [Nibs]
theorem nibs_cons (x : Nat) (r : Key) : Nibs (x :: r) ↔ x < 16 ∧ Nibs r := List.forall_mem_cons
theorem nibs_append (a b : Key) : Nibs (a ++ b) ↔ Nibs a ∧ Nibs b := List.forall_mem_append
theorem Nibs.take {k : Key} (h : Nibs k) (n : Nat) : Nibs (k.take n) :=
  fun x hx => h x (List.mem_of_mem_take hx)
theorem Nibs.drop {k : Key} (h : Nibs k) (n : Nat) : Nibs (k.drop n) :=
  fun x hx => h x (List.mem_of_mem_drop hx)

theorem validKey_append (a b : Key) (hb : b ≠ []) : ValidKey (a ++ b) ↔ Nibs a ∧ ValidKey b := by
  induction a with
  | nil => simp [Nibs]
  | cons x a ih =>
    rw [List.cons_append, validKey_cons, nibs_cons, ih]
    constructor
    · rintro (⟨_, h⟩ | ⟨hx, ha, hb'⟩)
      · simp [hb] at h
      · exact ⟨⟨hx, ha⟩, hb'⟩
    · rintro ⟨⟨hx, ha⟩, hb'⟩
      exact Or.inr ⟨hx, ha, hb'⟩

theorem ValidKey.not_prefix_nibs {k kk : Key} (hk : ValidKey k) (hn : Nibs kk) : ¬ (k <+: kk) := by
  rintro ⟨s, rfl⟩
  obtain ⟨n, rfl, _⟩ := (validKey_iff _).mp hk
  have := hn 16 (by simp)
  omega

theorem ValidKey.of_append {kk r : Key} (hk : ValidKey (kk ++ r)) (hn : Nibs kk) : ValidKey r := by
  by_cases hr : r = []
  · subst hr
    rw [List.append_nil] at hk
    exact absurd (List.prefix_refl _) (hk.not_prefix_nibs hn)
  · exact ((validKey_append kk r hr).mp hk).2

theorem ValidKey.eq_of_prefix {k kk : Key} (hk : ValidKey k) (hkk : ValidKey kk) (hp : kk <+: k) : kk = k := by
  obtain ⟨s, rfl⟩ := hp
  by_cases hs : s = []
  · simp [hs]
  · exact absurd (List.prefix_refl _) (hkk.not_prefix_nibs ((validKey_append _ s hs).mp hk).1)

theorem ValidKey.le16 {k : Key} (hk : ValidKey k) : ∀ x ∈ k, x ≤ 16 := by
  obtain ⟨n, rfl, hn⟩ := (validKey_iff _).mp hk
  intro x hx
  simp only [List.mem_append, List.mem_singleton] at hx
  rcases hx with hx | rfl
  · exact Nat.le_of_lt (hn x hx)
  · exact Nat.le_refl _

theorem prefixLen_eq_right_iff (a b : Key) : prefixLen a b = b.length ↔ b <+: a := by
  induction a generalizing b with
  | nil =>
    cases b <;> simp [prefixLen]
  | cons x a ih =>
    cases b with
    | nil => simp [prefixLen]
    | cons y b =>
      simp only [prefixLen]
      split
      · rename_i h; subst h
        simp [ih b, List.cons_prefix_cons]
      · rename_i h
        simp only [List.cons_prefix_cons]
        constructor
        · intro h0; simp at h0
        · rintro ⟨h1, _⟩; exact absurd h1.symm h

theorem prefix_or_diverge (a b : Key) :
    b <+: a ∨ a <+: b ∨ ∃ p x ra y rb, a = p ++ x :: ra ∧ b = p ++ y :: rb ∧ x ≠ y := by
  induction a generalizing b with
  | nil => exact Or.inr (Or.inl List.nil_prefix)
  | cons x a ih =>
    cases b with
    | nil => exact Or.inl List.nil_prefix
    | cons y b =>
      by_cases hxy : x = y
      · subst hxy
        rcases ih b with h | h | ⟨p, x', ra, y', rb, rfl, rfl, hne⟩
        · exact Or.inl (List.cons_prefix_cons.mpr ⟨rfl, h⟩)
        · exact Or.inr (Or.inl (List.cons_prefix_cons.mpr ⟨rfl, h⟩))
        · exact Or.inr (Or.inr ⟨x :: p, x', ra, y', rb, rfl, rfl, hne⟩)
      · exact Or.inr (Or.inr ⟨[], x, a, y, b, rfl, rfl, hxy⟩)

theorem prefixLen_diverge (p : Key) {a b : Nat} (kA kB : Key) (hab : a ≠ b) :
    prefixLen (p ++ b :: kB) (p ++ a :: kA) = p.length := by
  induction p with
  | nil => simp [prefixLen, Ne.symm hab]
  | cons x p ih => simp [prefixLen, ih]

theorem not_prefix_of_diverge (p : Key) {a b : Nat} (kA kB : Key) (hab : a ≠ b) :
    ¬ (p ++ a :: kA <+: p ++ b :: kB) := by
  simp [List.prefix_append_right_inj, List.cons_prefix_cons, hab]

theorem prefixLen_append_self (kk r : Key) : prefixLen (kk ++ r) kk = kk.length :=
  (prefixLen_eq_right_iff _ _).mpr (List.prefix_append _ _)

/-- the positions at which the model functions read two keys that go apart after `p` -/
theorem diverge_index (p : Key) (c : Nat) (k : Key) :
    (p ++ c :: k).getD p.length 0 = c ∧ (p ++ c :: k).drop (p.length + 1) = k ∧ (p ++ c :: k).take p.length = p := by
  refine ⟨by simp [List.getD_eq_getElem?_getD], ?_, List.take_left' rfl⟩
  rw [List.append_cons, List.drop_left' (by simp)]

/-! `keybytesToHex` splits a byte `b` into `b / 16` and `b % 16`, `decodeNibbles` packs `a`, `b` into `a * 16 + b`: the facts
about one byte that the lemmas about keys and compact keys rest on (the splitting direction, `toNat_div16_lt`,
`toNat_mod16_lt`, `ofNat_div16_mod16`, stands in `Proofs/BigEndian.lean`). -/

theorem toNat_pack {a b : Nat} (ha : a < 16) (hb : b < 16) : (UInt8.ofNat (a * 16 + b)).toNat = a * 16 + b := by
  rw [UInt8.toNat_ofNat']; exact Nat.mod_eq_of_lt (by omega)

theorem hi_pack {a b : Nat} (ha : a < 16) (hb : b < 16) : (UInt8.ofNat (a * 16 + b)).toNat / 16 = a := by
  rw [toNat_pack ha hb, Nat.add_comm, Nat.add_mul_div_right _ _ (by decide), Nat.div_eq_of_lt hb, Nat.zero_add]

theorem lo_pack {a b : Nat} (ha : a < 16) (hb : b < 16) : (UInt8.ofNat (a * 16 + b)).toNat % 16 = b := by
  rw [toNat_pack ha hb, Nat.add_comm, Nat.add_mul_mod_self_right, Nat.mod_eq_of_lt hb]

theorem byte_eq_iff (b1 b2 : UInt8) :
    b1 = b2 ↔ b1.toNat / 16 = b2.toNat / 16 ∧ b1.toNat % 16 = b2.toNat % 16 := by
  rw [← UInt8.toNat_inj]
  refine ⟨fun h => by rw [h]; exact ⟨rfl, rfl⟩, fun ⟨h1, h2⟩ => ?_⟩
  rw [← Nat.div_add_mod b1.toNat 16, ← Nat.div_add_mod b2.toNat 16, h1, h2]

theorem byte_lt_iff (b1 b2 : UInt8) :
    b1 < b2 ↔ b1.toNat / 16 < b2.toNat / 16 ∨ (b1.toNat / 16 = b2.toNat / 16 ∧ b1.toNat % 16 < b2.toNat % 16) := by
  rw [UInt8.lt_iff_toNat_lt]; omega

theorem nibs_hexOfBytes (bs : Bytes) : Nibs (hexOfBytes bs) := by
  induction bs with
  | nil => simp [hexOfBytes, Nibs]
  | cons b bs ih => simp only [hexOfBytes, nibs_cons]; exact ⟨toNat_div16_lt b, toNat_mod16_lt b, ih⟩

theorem length_hexOfBytes (k : Bytes) : (hexOfBytes k).length = 2 * k.length := by
  induction k with
  | nil => rfl
  | cons b k ih => simp [hexOfBytes, ih]; omega

theorem validKey_keybytesToHex (bs : Bytes) : ValidKey (keybytesToHex bs) :=
  (validKey_iff _).mpr ⟨hexOfBytes bs, rfl, nibs_hexOfBytes bs⟩

theorem decodeNibbles_hexOfBytes (k : Bytes) : decodeNibbles (hexOfBytes k) = k := by
  induction k with
  | nil => simp [hexOfBytes, decodeNibbles]
  | cons b k ih => simp only [hexOfBytes, decodeNibbles, ih, ofNat_div16_mod16]

theorem hasTerm_append_16 (n : Key) : hasTerm (n ++ [16]) = true := by
  simp [hasTerm]

theorem hexToKeybytes_keybytesToHex (k : Bytes) : hexToKeybytes (keybytesToHex k) = k := by
  simp [hexToKeybytes, keybytesToHex, hasTerm_append_16, decodeNibbles_hexOfBytes]

theorem keybytesToHex_injective {a b : Bytes} (h : keybytesToHex a = keybytesToHex b) : a = b := by
  rw [← hexToKeybytes_keybytesToHex a, h, hexToKeybytes_keybytesToHex]

end Rangers.Trie
