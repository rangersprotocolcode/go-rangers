import Rangers.Proofs.TrieKeys
/- Hex-prefix (compact) encoding round trip. -/
namespace Rangers.Trie
open Rangers

theorem hexOfBytes_decodeNibbles : ∀ (n : Key), Nibs n → n.length % 2 = 0 → hexOfBytes (decodeNibbles n) = n
  | [], _, _ => by simp [decodeNibbles, hexOfBytes]
  | [a], _, he => by simp at he
  | a :: b :: n, hn, he => by
    obtain ⟨ha, hn⟩ := (nibs_cons _ _).mp hn
    obtain ⟨hb, hn⟩ := (nibs_cons _ _).mp hn
    simp only [decodeNibbles, hexOfBytes, hi_pack ha hb, lo_pack ha hb,
      hexOfBytes_decodeNibbles n hn ((Nat.add_mod_right n.length 2).symm.trans he)]

theorem hasTerm_nibs (n : Key) (hn : Nibs n) : hasTerm n = false := by
  unfold hasTerm
  cases h : n.getLast? with
  | none => rfl
  | some x =>
    have := hn x (List.mem_of_getLast? h)
    have : x ≠ 16 := by omega
    simp [this]

theorem compactToHex_cons (b : UInt8) (rest : Bytes) :
    compactToHex (b :: rest) =
      let base := b.toNat / 16 :: b.toNat % 16 :: (hexOfBytes rest ++ [16])
      let base := if b.toNat / 16 < 2 then base.dropLast else base
      let chop := 2 - b.toNat / 16 % 2
      if chop ≤ base.length then some (base.drop chop) else none := by
  simp [compactToHex, keybytesToHex, hexOfBytes]

theorem dropLast_cons1 (x t : Nat) (n : Key) : (x :: (n ++ [t])).dropLast = x :: n :=
  List.dropLast_concat (l₁ := x :: n)

/-- decoding a compact key whose first byte holds the flag nibble `f` (bit 0: odd length, `a` is then the first
    nibble of the path; bit 1: terminated) and whose other bytes hold the nibbles `r` -/
theorem compactToHex_pack {f a : Nat} (hf : f < 4) (ha : a < 16) (r : Key) (hr : Nibs r) (he : r.length % 2 = 0) :
    compactToHex (UInt8.ofNat (f * 16 + a) :: decodeNibbles r) =
      some ((if f % 2 = 1 then [a] else []) ++ r ++ (if 2 ≤ f then [16] else [])) := by
  rw [compactToHex_cons, hexOfBytes_decodeNibbles r hr he, hi_pack (by omega) ha, lo_pack (by omega) ha]
  match f, hf with
  | 0, _ => simp [dropLast_cons1]
  | 1, _ => simp [dropLast_cons1]
  | 2, _ => simp
  | 3, _ => simp

/-- the compact form of the nibble path `n`, terminated (`t`, flag 32) or not: the parity of the length and, if it
    is odd, the first nibble go into the first byte with the flag -/
def compactOf (t : Bool) (n : Key) : Bytes :=
  if n.length % 2 = 1 then UInt8.ofNat ((if t then 32 else 0) + 16 + n.headD 0) :: decodeNibbles n.tail
  else UInt8.ofNat (if t then 32 else 0) :: decodeNibbles n

theorem hexToCompact_nibs (n : Key) (hn : Nibs n) : hexToCompact n = compactOf false n := by
  simp [hexToCompact, compactOf, hasTerm_nibs n hn]

theorem hexToCompact_term (n : Key) : hexToCompact (n ++ [16]) = compactOf true n := by
  simp [hexToCompact, compactOf, hasTerm_append_16 n]

theorem compactToHex_compactOf (t : Bool) (n : Key) (hn : Nibs n) :
    compactToHex (compactOf t n) = some (if t then n ++ [16] else n) := by
  unfold compactOf
  by_cases hodd : n.length % 2 = 1
  · rw [if_pos hodd]
    obtain ⟨a, r, rfl⟩ : ∃ a r, n = a :: r := List.exists_cons_of_ne_nil (by rintro rfl; simp at hodd)
    obtain ⟨ha, hr⟩ := (nibs_cons a r).mp hn
    have her : r.length % 2 = 0 := by simp at hodd; omega
    cases t
    · exact (compactToHex_pack (f := 1) (by decide) ha r hr her).trans (by simp)
    · exact (compactToHex_pack (f := 3) (by decide) ha r hr her).trans (by simp)
  · rw [if_neg hodd]
    cases t
    · exact (compactToHex_pack (f := 0) (a := 0) (by decide) (by decide) n hn (by omega)).trans (by simp)
    · exact (compactToHex_pack (f := 2) (a := 0) (by decide) (by decide) n hn (by omega)).trans (by simp)

theorem compact_roundtrip_nibs (n : Key) (hn : Nibs n) : compactToHex (hexToCompact n) = some n := by
  rw [hexToCompact_nibs n hn]; exact compactToHex_compactOf false n hn

theorem compact_roundtrip_term (n : Key) (hn : Nibs n) : compactToHex (hexToCompact (n ++ [16])) = some (n ++ [16]) := by
  rw [hexToCompact_term n]; exact compactToHex_compactOf true n hn

end Rangers.Trie
