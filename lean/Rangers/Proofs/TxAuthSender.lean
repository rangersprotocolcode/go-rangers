import Rangers.Proofs.TxAuth
/-!
`eth_tx.recoverPlain` and `EIP155Signer.Sender`: the address of the recovered key (`pubAddr`)
and what a recovery that succeeds means, in both directions.
-/
namespace Rangers.Model.TxAuth
open Rangers

/-- The address `recoverPlain` derives from an uncompressed key: `Keccak256(pub[1:])[12:]`,
    copied into a 20-byte array. -/
def pubAddr (cr : Crypto) (pub : Bytes) : Bytes :=
  ((cr.keccak (pub.drop 1)).drop 12).take 20 ++
    List.replicate (20 - min 20 ((cr.keccak (pub.drop 1)).drop 12).length) 0

theorem recoverPlain_some_spec (cr : Crypto) (sh : Bytes) (r s : Nat) (vb : Int) (a : Bytes)
    (h : recoverPlain cr sh r s vb = some a) :
    ∃ (v : Nat) (pub : Bytes), (v = 0 ∨ v = 1) ∧ (1 ≤ r ∧ r < secpN) ∧ (1 ≤ s ∧ s ≤ secpHalfN) ∧
      recoverPubkeyEth cr sh (padLeft 32 (natToBE r) ++ padLeft 32 (natToBE s) ++ [UInt8.ofNat v]) = some pub ∧
      pub.head? = some 4 ∧ a = pubAddr cr pub := by
  revert h
  fun_cases recoverPlain cr sh r s vb
  · exact nofun
  · exact nofun
  · exact nofun
  · exact nofun
  · exact nofun
  · exact nofun
  · rename_i _ v c2 c3 c4 _ pk hrec h4 _
    rintro ⟨⟩
    obtain ⟨hr, _, hv⟩ := Decidable.not_not.1 c4
    exact ⟨v, pk, hv, ⟨Nat.le_of_not_lt fun h => c2 (Or.inl h), hr⟩,
      ⟨Nat.le_of_not_lt fun h => c2 (Or.inr h), Nat.le_of_not_lt c3⟩, hrec, Decidable.not_not.1 h4, rfl⟩

/-- `byte(V - 27)` on the uint64 of `V = 27 + k` is the recovery bit `k` -/
theorem recid_byte {k : Nat} (hk : k < 2) :
    ¬ 27 + k ≥ 256 ∧ ((27 + k) % 2 ^ 64 + 2 ^ 64 - 27) % 256 = k ∧ (k = 0 ∨ k = 1) := by
  match k, hk with
  | 0, _ => exact ⟨by decide, rfl, Or.inl rfl⟩
  | 1, _ => exact ⟨by decide, rfl, Or.inr rfl⟩

theorem recoverPlain_of_valid (cr : Crypto) (sh : Bytes) {r s k : Nat} {vb : Int} {pub : Bytes}
    (hr : 1 ≤ r ∧ r < secpN) (hs : 1 ≤ s ∧ s ≤ secpHalfN) (hk : k < 2) (hvb : vb.natAbs = 27 + k)
    (hrec : recoverPubkeyEth cr sh (padLeft 32 (natToBE r) ++ padLeft 32 (natToBE s) ++ [UInt8.ofNat k]) = some pub)
    (hpub : pub.head? = some 4) :
    recoverPlain cr sh r s vb = some (pubAddr cr pub) := by
  obtain ⟨k1, k2, k3⟩ := recid_byte hk
  unfold recoverPlain
  rw [hvb, if_neg k1]
  dsimp only
  rw [k2, if_neg (fun h => h.elim (Nat.not_lt.2 hr.1) (Nat.not_lt.2 hs.1)), if_neg (Nat.not_lt.2 hs.2),
    if_neg (not_not_intro ⟨hr.2, Nat.lt_of_le_of_lt hs.2 secpHalfN_lt_secpN, k3⟩), hrec]
  dsimp only
  rw [if_neg (not_not_intro hpub)]
  rfl

theorem isProtectedV_eq_false_iff (v : Nat) : isProtectedV v = false ↔ v = 27 ∨ v = 28 := by
  unfold isProtectedV
  by_cases hlt : v < 256
  · rw [if_pos hlt, decide_eq_false_iff_not]
    constructor
    · intro h
      by_cases h27 : v = 27
      · exact Or.inl h27
      · exact Or.inr (Decidable.not_not.1 fun h28 => h ⟨h27, h28⟩)
    · rintro (h | h) ⟨h27, h28⟩
      · exact h27 h
      · exact h28 h
  · rw [if_neg hlt]
    exact ⟨nofun, fun h => absurd (h.elim (fun e => e ▸ (by decide : 27 < 256)) (fun e => e ▸ (by decide : 28 < 256))) hlt⟩

theorem eip155_v_ne (c k : Nat) : ¬ (2 * c + 35 + k = 27 ∨ 2 * c + 35 + k = 28) := fun hv =>
  have h35 : 35 ≤ 2 * c + 35 + k := Nat.le_add_right_of_le (Nat.le_add_left _ _)
  hv.elim (fun e => absurd (e ▸ h35) (by decide)) (fun e => absurd (e ▸ h35) (by decide))

theorem isProtectedV_eip155 (c k : Nat) : isProtectedV (2 * c + 35 + k) = true := by
  cases hp : isProtectedV (2 * c + 35 + k)
  · exact absurd ((isProtectedV_eq_false_iff _).1 hp) (eip155_v_ne c k)
  · rfl

/-- No bound on `c`: the uint64 wrap-around in `deriveChainId` concerns `v < 35` only. -/
theorem deriveChainId_eip155 (c k : Nat) (hk : k < 2) : deriveChainId (2 * c + 35 + k) = c := by
  have h : (2 * c + 35 + k - 35) / 2 = c := by
    rw [Nat.add_right_comm, Nat.add_sub_cancel, Nat.mul_add_div (by decide), Nat.div_eq_of_lt hk]
    rfl
  unfold deriveChainId
  rw [if_neg (eip155_v_ne c k), if_pos (Nat.le_add_right_of_le (Nat.le_add_left _ _)), h, ite_self]

theorem ethSender_eq_some_iff (cr : Crypto) (c : Nat) (e : EthTx) (a : Bytes) :
    ethSender cr c e = some a ↔
      (isProtectedV e.v = false ∧
        recoverPlain cr (cr.keccak (sigPreimageHomestead e)) e.r e.s (Int.ofNat e.v) = some a) ∨
      (isProtectedV e.v = true ∧ deriveChainId e.v = c ∧
        recoverPlain cr (cr.keccak (sigPreimage155 c e)) e.r e.s
          (Int.ofNat e.v - Int.ofNat (2 * c) - 8) = some a) := by
  unfold ethSender
  cases isProtectedV e.v
  · simp
  · by_cases hc : deriveChainId e.v = c
    · simp [hc]
    · simp [hc]

theorem ethSender_some_recoverPlain {cr : Crypto} {c : Nat} {e : EthTx} {a : Bytes} (h : ethSender cr c e = some a) :
    ∃ sh vb, (sh = cr.keccak (sigPreimage155 c e) ∨ sh = cr.keccak (sigPreimageHomestead e)) ∧
      recoverPlain cr sh e.r e.s vb = some a := by
  rcases (ethSender_eq_some_iff cr c e a).1 h with ⟨_, hrp⟩ | ⟨_, _, hrp⟩
  · exact ⟨_, _, Or.inr rfl, hrp⟩
  · exact ⟨_, _, Or.inl rfl, hrp⟩

end Rangers.Model.TxAuth
