import Rangers.Model.RLPStream
import Rangers.Proofs.RLPItem
import Rangers.Proofs.RLPStreamInv
/-! Refinement of the `Stream` state machine to the slice decoders, on a `DecodeBytes`-style stream
    (limited, `remaining = len(inp)`): when the reader holds `frame k c ++ tail` and the innermost list
    (or the input limit) has room for the framed value, `Kind`/`Bytes`/`List` return what the slice
    parsers return on it and advance reader, list position and budget by exactly its bytes; generic
    decoding of `encode it ++ tail` returns `it`.  How far the visible window reaches beyond the value
    does not matter; the statements about windows (`Props/C08Refine`) are read off through
    `window_split`, `readHead_ok_iff` and `decItemF_ok_iff`. -/
namespace Rangers.RLP
open Rangers

/-- the part of the state that determines what reads return -/
structure Core (s : Stream) (inp : Bytes) (st : List (Nat × Nat)) : Prop where
  inp_eq : s.inp = inp
  rem : s.remaining = inp.length
  stk : s.stack = st
  lim : s.limited = true

theorem avail_bump (st : List (Nat × Nat)) (rem n : Nat) (h : n ≤ avail st rem) :
    avail (bump st n) (rem - n) = avail st rem - n := by
  cases st with
  | nil => simp [avail, bump]
  | cons t r => obtain ⟨p, sz⟩ := t; simp only [avail, bump] at h ⊢; omega

theorem bump_bump (st : List (Nat × Nat)) (a b : Nat) : bump (bump st a) b = bump st (a + b) := by
  cases st with
  | nil => rfl
  | cons t r => obtain ⟨p, sz⟩ := t; simp only [bump]; congr 2; omega

theorem bump_zero (st : List (Nat × Nat)) : bump st 0 = st := by
  cases st with
  | nil => rfl
  | cons t r => obtain ⟨p, sz⟩ := t; simp [bump]

/-- the stream after `n` more bytes have been read at an element boundary -/
def adv (s : Stream) (n : Nat) : Stream :=
  { s with kind := none, stack := bump s.stack n, remaining := s.remaining - n,
           inp := s.inp.drop n, consumed := s.consumed + n }

theorem adv_adv (s : Stream) (a b : Nat) : adv (adv s a) b = adv s (a + b) := by
  simp only [adv, bump_bump, List.drop_drop, Nat.sub_sub, Nat.add_assoc]

theorem Core.adv {s : Stream} {inp : Bytes} {st : List (Nat × Nat)} (hc : Core s inp st) (n : Nat) :
    Core (adv s n) (inp.drop n) (bump st n) :=
  ⟨by simp only [RLP.adv, hc.inp_eq], by simp only [RLP.adv, hc.rem, List.length_drop],
   by simp only [RLP.adv, hc.stk], hc.lim⟩

/-- room for `n` more bytes: inside the innermost list (the input limit at top level), and that list
    inside what the reader holds -/
def Room (st : List (Nat × Nat)) (len n : Nat) : Prop := n ≤ avail st len ∧ avail st len ≤ len

theorem Room.mono {st : List (Nat × Nat)} {len n m : Nat} (h : Room st len n) (hm : m ≤ n) : Room st len m :=
  ⟨Nat.le_trans hm h.1, h.2⟩

theorem Room.adv {st : List (Nat × Nat)} {len m n : Nat} (h : Room st len (m + n)) : Room (bump st m) (len - m) n := by
  have := avail_bump st len m (by have := h.1; omega)
  have := h.1
  have := h.2
  exact ⟨by omega, by omega⟩

theorem readFull_core {s : Stream} {inp : Bytes} {st : List (Nat × Nat)} (hc : Core s inp st) {n : Nat}
    (hr : Room st inp.length n) : readFull s n = (.ok (inp.take n), adv s n) := by
  have hw : willRead s n = (none, { s with kind := none, stack := bump s.stack n, remaining := s.remaining - n }) := by
    rw [willRead_eq n hc.lim (by rw [hc.stk, hc.rem]; exact hr.2), if_pos (by rw [hc.stk, hc.rem]; exact hr.1)]
  have hi : n ≤ s.inp.length := by rw [hc.inp_eq]; exact Nat.le_trans hr.1 hr.2
  simp only [readFull, hw, if_pos hi, ← hc.inp_eq]
  rfl

theorem readByte_core {s : Stream} {x : UInt8} {tl : Bytes} {st : List (Nat × Nat)} (hc : Core s (x :: tl) st)
    (hr : Room st (x :: tl).length 1) : readByte s = (.ok x, adv s 1) := by
  have hw : willRead s 1 = (none, { s with kind := none, stack := bump s.stack 1, remaining := s.remaining - 1 }) := by
    rw [willRead_eq 1 hc.lim (by rw [hc.stk, hc.rem]; exact hr.2), if_pos (by rw [hc.stk, hc.rem]; exact hr.1)]
  simp only [readByte, hw, hc.inp_eq, adv, List.drop_succ_cons, List.drop_zero]

theorem readLongSize_toBE {s : Stream} {tail : Bytes} {st : List (Nat × Nat)} {n : Nat}
    (hc : Core s (toBE n ++ tail) st) (h56 : 56 ≤ n) (hr : Room st (toBE n ++ tail).length (toBE n).length) :
    readLongSize s (toBE n).length = ((n, none), adv s (toBE n).length) := by
  have hlt : ¬ n < 56 := by omega
  have hpos := toBE_length_pos (show n ≠ 0 by omega)
  unfold readLongSize readUint
  rw [if_neg (by omega : ¬ (toBE n).length = 0)]
  cases hb : toBE n with
  | nil => rw [hb] at hpos; cases hpos
  | cons b0 rest =>
    rw [hb] at hc hr
    by_cases h1 : (b0 :: rest).length = 1
    · have : rest = [] := by simpa using h1
      subst this
      simp only [if_pos h1, readByte_core hc hr, ← (toBE_eq_singleton hb).1, if_neg hlt]
      rfl
    · simp only [if_neg h1, readFull_core hc hr, List.take_left' rfl, if_neg (toBE_head_ne_zero hb)]
      rw [← hb, beNat_toBE, if_neg hlt]

/-- header length actually consumed from the reader for a header `readHead` describes -/
def hdrLen (k : Kind) (ts : Nat) : Nat := if k = .byte then 1 else ts
/-- the size `Kind()` reports (0 for a single byte) -/
def kSize (k : Kind) (cs : Nat) : Nat := if k = .byte then 0 else cs

theorem hdrLen_of_ne {k : Kind} (h : k ≠ .byte) (ts : Nat) : hdrLen k ts = ts := if_neg h
theorem kSize_of_ne {k : Kind} (h : k ≠ .byte) (cs : Nat) : kSize k cs = cs := if_neg h

/-- the stream after `Kind()` has read and cached the header `(k, ts, cs)` whose first byte is `x` -/
def cached (s : Stream) (x : UInt8) (k : Kind) (ts cs : Nat) : Stream :=
  { adv s (hdrLen k ts) with byteval := if k = .byte then x else 0, kind := some k, size := kSize k cs, kinderr := none }

theorem Core.cached {s : Stream} {inp : Bytes} {st : List (Nat × Nat)} (hc : Core s inp st) (x : UInt8) (k : Kind)
    (ts cs : Nat) : Core (cached s x k ts cs) (inp.drop (hdrLen k ts)) (bump st (hdrLen k ts)) :=
  have := hc.adv (hdrLen k ts)
  ⟨this.inp_eq, this.rem, this.stk, this.lim⟩

theorem sKind_cached (s : Stream) (x : UInt8) (k : Kind) (ts cs : Nat) :
    sKind (cached s x k ts cs) = (.ok (k, kSize k cs), cached s x k ts cs) := rfl

theorem atEnd_false {st : List (Nat × Nat)} {rem : Nat} (h : 1 ≤ avail st rem) : atEnd st = false := by
  cases st with
  | nil => rfl
  | cons t r => obtain ⟨p, sz⟩ := t; simp only [avail] at h; simp only [atEnd, decide_eq_false_iff_not]; omega

theorem sReadKind_frame {s : Stream} {k : Kind} {c tail : Bytes} {st : List (Nat × Nat)}
    (hc : Core s (frame k c ++ tail) st) (hf : Framed k c)
    (hr : Room st (frame k c ++ tail).length ((frame k c).length - kSize k c.length)) :
    ∃ x ts, hdrLen k ts + kSize k c.length = (frame k c).length ∧ (k = .byte → c = [x]) ∧
      sReadKind s = ((k, kSize k c.length, none), { adv s (hdrLen k ts) with byteval := if k = .byte then x else 0 }) := by
  by_cases hk : k = .byte
  · subst hk
    obtain ⟨x, rfl, hx⟩ := hf.2 rfl
    refine ⟨x, 0, rfl, fun _ => rfl, ?_⟩
    rw [sReadKind_form (readByte_core hc hr), form_lt hx]
    rfl
  · rw [kSize_of_ne hk] at hr ⊢
    have hs := smallTag_lt k
    have hl := largeTag_lt k
    by_cases h56 : c.length < 56
    · have he : frame k c ++ tail = UInt8.ofNat (smallTag k + c.length) :: (c ++ tail) := by
        rw [frame_of_ne hk, encHead_small _ _ h56]; rfl
      have hfl : (frame k c).length = 1 + c.length := by
        rw [frame_of_ne hk, encHead_small _ _ h56]; simp only [List.length_append, List.length_singleton]
      rw [he] at hc hr
      refine ⟨0, 1, by rw [hdrLen_of_ne hk, hfl], fun h => absurd h hk, ?_⟩
      rw [sReadKind_form (readByte_core hc (hr.mono (by omega))), toNat_ofNat_lt (by omega), form_small hk h56,
        hdrLen_of_ne hk, if_neg hk]
    · have hL := toBE_len_64 hf.1
      have hpos : 0 < (toBE c.length).length := toBE_length_pos (by omega)
      have he : frame k c ++ tail =
          UInt8.ofNat (largeTag k + (toBE c.length).length) :: (toBE c.length ++ (c ++ tail)) := by
        rw [frame_of_ne hk, encHead_large _ _ (by omega)]; simp only [List.cons_append, List.append_assoc]
      have hfl : (frame k c).length = 1 + (toBE c.length).length + c.length := by
        rw [frame_of_ne hk, encHead_large _ _ (by omega)]
        simp only [List.length_append, List.length_cons]; omega
      rw [he] at hc hr
      rw [hfl, show 1 + (toBE c.length).length + c.length - c.length = 1 + (toBE c.length).length by omega] at hr
      have hc1 : Core { adv s 1 with byteval := 0 } (toBE c.length ++ (c ++ tail)) (bump st 1) :=
        have := hc.adv 1
        ⟨this.inp_eq, this.rem, this.stk, this.lim⟩
      refine ⟨0, 1 + (toBE c.length).length, by rw [hdrLen_of_ne hk, hfl], fun h => absurd h hk, ?_⟩
      rw [sReadKind_form (readByte_core hc (hr.mono (by omega))), toNat_ofNat_lt (by omega),
        form_large hk hpos hL, hdrLen_of_ne hk, if_neg hk]
      simp only [readLongSize_toBE hc1 (by omega) hr.adv]
      rw [← adv_adv s 1]
      rfl

theorem sKind_frame {s : Stream} {k : Kind} {c tail : Bytes} {st : List (Nat × Nat)}
    (hc : Core s (frame k c ++ tail) st) (hk : s.kind = none) (hf : Framed k c)
    (hr : Room st (frame k c ++ tail).length (frame k c).length) :
    ∃ x ts, hdrLen k ts + kSize k c.length = (frame k c).length ∧ (k = .byte → c = [x]) ∧
      sKind s = (.ok (k, kSize k c.length), cached s x k ts c.length) := by
  obtain ⟨inp, rem, lim, kind, size, bv, ke, stack, cons, al⟩ := s
  obtain ⟨h1, h2, h3, h4⟩ := hc
  simp only at hk h1 h2 h3 h4
  subst hk h1 h2 h3 h4
  have hpos := (frame_length hf).1
  obtain ⟨x, ts, hlen, hx, r1⟩ := sReadKind_frame
    (s := ⟨frame k c ++ tail, (frame k c ++ tail).length, true, none, size, bv, none, stack, cons, al⟩)
    ⟨rfl, rfl, rfl, rfl⟩ hf (hr.mono (Nat.sub_le _ _))
  refine ⟨x, ts, hlen, hx, ?_⟩
  have hb : kindBoundErr { adv ⟨frame k c ++ tail, (frame k c ++ tail).length, true, none, size, bv, none, stack, cons, al⟩
      (hdrLen k ts) with byteval := if k = .byte then x else 0 } (kSize k c.length) = none := by
    have := hr.1
    unfold kindBoundErr
    simp only [adv]
    cases stack with
    | nil =>
      simp only [bump, avail] at this ⊢
      rw [if_neg (by omega)]
    | cons t r =>
      obtain ⟨p, sz⟩ := t
      simp only [bump, avail] at this ⊢
      rw [if_neg (by omega)]
  simp only [sKind, sKindFresh, atEnd_false (Nat.le_trans hpos hr.1), Bool.false_eq_true, if_false, r1, hb]
  rfl

theorem sBytes_cached {s : Stream} {x : UInt8} {k : Kind} {ts cs : Nat}
    (h : sKind s = (.ok (k, kSize k cs), cached s x k ts cs)) : sBytes (cached s x k ts cs) = sBytes s := by
  unfold sBytes; rw [sKind_cached, h]

theorem sList_cached {s : Stream} {x : UInt8} {k : Kind} {ts cs : Nat}
    (h : sKind s = (.ok (k, kSize k cs), cached s x k ts cs)) : sList (cached s x k ts cs) = sList s := by
  unfold sList; rw [sKind_cached, h]

theorem sBytes_frame {s : Stream} {k : Kind} {c tail : Bytes} {st : List (Nat × Nat)}
    (hc : Core s (frame k c ++ tail) st) (hk : s.kind = none) (hf : Framed k c)
    (hr : Room st (frame k c ++ tail).length (frame k c).length) (hnl : k ≠ .list) (hcan : Canon k c) :
    ∃ s', sBytes s = (.ok c, s') ∧ Core s' tail (bump st (frame k c).length) ∧ s'.kind = none := by
  obtain ⟨x, ts, hlen, hx, k1⟩ := sKind_frame hc hk hf hr
  have hck := hc.cached x k ts c.length
  unfold sBytes
  rw [k1]
  cases k with
  | list => exact absurd rfl hnl
  | byte =>
    rw [hx rfl] at hck ⊢
    exact ⟨{ cached s x .byte ts 1 with kind := none }, rfl, ⟨hck.inp_eq, hck.rem, hck.stk, hck.lim⟩, rfl⟩
  | string =>
    have hts : hdrLen .string ts = ts := rfl
    have hks : kSize .string c.length = c.length := rfl
    rw [hts, hks] at hlen
    rw [hts] at hck
    have hfl : (frame .string c ++ tail).length = ts + (c ++ tail).length := by
      simp only [List.length_append] at hlen ⊢; omega
    rw [frame_drop (k := .string) nofun hlen] at hck
    have hc1 : Core { cached s x .string ts c.length with allocs := c.length :: (cached s x .string ts c.length).allocs }
        (c ++ tail) (bump st ts) := ⟨hck.inp_eq, hck.rem, hck.stk, hck.lim⟩
    have hroom : Room (bump st ts) (c ++ tail).length c.length := by
      rw [← hlen, hfl] at hr
      have := hr.adv
      rwa [Nat.add_sub_cancel_left] at this
    simp only [hks, readFull_core hc1 hroom, List.take_left' rfl, if_neg (fun h => hcan ⟨rfl, h⟩)]
    have := hc1.adv c.length
    rw [List.drop_left' rfl, bump_bump, hlen] at this
    exact ⟨_, rfl, this, rfl⟩

theorem sList_frame {s : Stream} {c tail : Bytes} {st : List (Nat × Nat)}
    (hc : Core s (frame .list c ++ tail) st) (hk : s.kind = none) (hf : Framed .list c)
    (hr : Room st (frame .list c ++ tail).length (frame .list c).length) :
    ∃ s' h, h + c.length = (frame .list c).length ∧ sList s = (.ok c.length, s') ∧
      Core s' (c ++ tail) ((0, c.length) :: bump st h) ∧ s'.kind = none := by
  obtain ⟨x, ts, hlen, _, k1⟩ := sKind_frame hc hk hf hr
  have hck := hc.cached x .list ts c.length
  change ts + c.length = _ at hlen
  rw [show hdrLen .list ts = ts from rfl, frame_drop (k := .list) nofun hlen] at hck
  unfold sList
  rw [k1]
  exact ⟨_, ts, hlen, rfl, ⟨hck.inp_eq, hck.rem, by simp only [hck.stk]; rfl, hck.lim⟩, rfl⟩

theorem sListEnd_ok {s : Stream} {inp : Bytes} {st : List (Nat × Nat)} {cs : Nat} (hc : Core s inp ((cs, cs) :: st)) :
    ∃ s', sListEnd s = (none, s') ∧ Core s' inp (bump st cs) ∧ s'.kind = none := by
  unfold sListEnd
  rw [hc.stk]
  simp only [ne_eq, not_true_eq_false, if_false]
  refine ⟨_, rfl, ⟨hc.inp_eq, hc.rem, ?_, hc.lim⟩, rfl⟩
  cases st with
  | nil => rfl
  | cons t r => obtain ⟨p, sz⟩ := t; rfl

theorem encodeList_eq_nil {xs : List Item} (h : encodeList xs = []) : xs = [] := by
  cases xs with
  | nil => rfl
  | cons x xs =>
    rw [encodeList] at h
    exact absurd (List.append_eq_nil_iff.1 h).1 (encode_ne_nil x)

/-- Generic decoding through the state machine reads back what the encoder wrote, at fuel `f + 1`
    (one more than the slice decoder needs): one value in front of any `tail` wherever there is room
    for it, and the elements that fill the innermost list. -/
def RefAt (f : Nat) : Prop :=
  (∀ (it : Item) (s : Stream) (tail : Bytes) (st : List (Nat × Nat)),
      Core s (encode it ++ tail) st → s.kind = none → it.sizeOK → fuelI it ≤ f →
      Room st (encode it ++ tail).length (encode it).length →
      ∃ s', sDecodeAny (f + 1) s = (.ok it, s') ∧ Core s' tail (bump st (encode it).length) ∧ s'.kind = none) ∧
  (∀ (xs : List Item) (s : Stream) (tail : Bytes) (p sz : Nat) (r : List (Nat × Nat)),
      Core s (encodeList xs ++ tail) ((p, sz) :: r) → s.kind = none → Item.sizeOKs xs → fuelL xs ≤ f →
      p + (encodeList xs).length = sz →
      ∃ s', sAnyElems (f + 1) s = (.ok xs, s') ∧ Core s' tail ((sz, sz) :: r) ∧ s'.kind = none)

theorem ref_zero : RefAt 0 :=
  ⟨fun it _ _ _ _ _ _ h => by cases it <;> simp [fuelI] at h, fun xs _ _ _ _ _ _ _ _ h => by cases xs <;> simp [fuelL] at h⟩

theorem ref_succ {f : Nat} (ih : RefAt f) : RefAt (f + 1) := by
  obtain ⟨ihA, ihB⟩ := ih
  refine ⟨?_, ?_⟩
  · intro it s tail st hc hk hok hf hr
    rw [sDecodeAny]
    cases it with
    | str b =>
      obtain ⟨k, hkl, hfr, hcan, he⟩ := encString_frame hok
      rw [encode_str, he] at hc hr
      obtain ⟨x, ts, _, _, k1⟩ := sKind_frame hc hk hfr hr
      obtain ⟨s2, y1, y2, y3⟩ := sBytes_frame hc hk hfr hr hkl hcan
      rw [encode_str, he]
      simp only [k1, if_neg hkl, sBytes_cached k1, y1]
      exact ⟨_, rfl, y2, y3⟩
    | list xs =>
      simp only [Item.sizeOK] at hok
      simp only [fuelI] at hf
      have hfr : Framed .list (encodeList xs) := .of_ne nofun hok.2
      rw [encode_list] at hc hr ⊢
      obtain ⟨x, ts, _, _, k1⟩ := sKind_frame hc hk hfr hr
      obtain ⟨s2, h, hlen, l1, l2, l3⟩ := sList_frame hc hk hfr hr
      simp only [k1, if_true, sList_cached k1, l1]
      by_cases hcs : (encodeList xs).length = 0
      · have hnil := List.length_eq_zero_iff.1 hcs
        rw [hcs] at l2 hlen
        rw [hnil, List.nil_append] at l2
        obtain ⟨s3, e1, e2, e3⟩ := sListEnd_ok l2
        rw [bump_bump, hlen] at e2
        simp only [if_pos hcs, e1]
        exact ⟨_, by rw [encodeList_eq_nil hnil], e2, e3⟩
      · obtain ⟨s3, b1, b2, b3⟩ := ihB xs s2 tail 0 _ _ l2 l3 hok.1 (by omega) (Nat.zero_add _)
        obtain ⟨s4, e1, e2, e3⟩ := sListEnd_ok b2
        rw [bump_bump, hlen] at e2
        simp only [if_neg hcs, b1, e1]
        exact ⟨_, rfl, e2, e3⟩
  · intro xs s tail p sz r hc hk hok hf hsz
    rw [sAnyElems]
    cases xs with
    | nil =>
      -- the list is used up: `Kind` answers EOL, the loop ends
      have hpe : p = sz := by simpa [encodeList] using hsz
      subst hpe
      have hkf : sKind s = (.error .eol, { s with kinderr := none }) := by
        simp only [sKind, hk, sKindFresh, hc.stk, atEnd, decide_true, if_true]
      rw [sDecodeAny, hkf]
      exact ⟨_, rfl, ⟨hc.inp_eq, hc.rem, hc.stk, hc.lim⟩, hk⟩
    | cons x xs' =>
      simp only [Item.sizeOKs] at hok
      simp only [fuelL] at hf
      rw [encodeList, List.append_assoc] at hc
      rw [encodeList, List.length_append] at hsz
      obtain ⟨s1, a1, a2, a3⟩ := ihA x s _ _ hc hk hok.1 (by omega)
        ⟨by simp only [avail]; omega, by simp only [avail, List.length_append]; omega⟩
      obtain ⟨s2, b1, b2, b3⟩ := ihB xs' s1 tail _ sz r a2 a3 hok.2 (by omega) (by omega)
      simp only [a1, b1]
      exact ⟨_, rfl, b2, b3⟩

theorem stream_refines : ∀ f, RefAt f := by
  intro f
  induction f with
  | zero => exact ref_zero
  | succ f ih => exact ref_succ ih

theorem window_split {inp W rest : Bytes} {st : List (Nat × Nat)} (hav : avail st inp.length ≤ inp.length)
    (hW : inp.take (avail st inp.length) = W ++ rest) :
    inp = W ++ (rest ++ inp.drop (avail st inp.length)) ∧
      Room st (W ++ (rest ++ inp.drop (avail st inp.length))).length W.length ∧
      W.length + rest.length = avail st inp.length ∧ inp.drop W.length = rest ++ inp.drop (avail st inp.length) := by
  have hinp : inp = W ++ (rest ++ inp.drop (avail st inp.length)) := by
    rw [← List.append_assoc, ← hW, List.take_append_drop]
  have hl := congrArg List.length hW
  rw [List.length_take, List.length_append, Nat.min_eq_left hav] at hl
  exact ⟨hinp, hinp ▸ ⟨by omega, hav⟩, hl.symm, (congrArg (List.drop W.length) hinp).trans (List.drop_left' rfl)⟩

end Rangers.RLP
