import Rangers.Model.WireEnvelope
import Rangers.Proofs.C09Wire
import Rangers.Proofs.C09Conv
/-! The protobuf-go reader reads back what the encoder wrote (`parseRawV2_encRaws`), and the layout of the frame
header (C09); the envelope's own theorems are in `Props/C09G.lean`. -/
namespace Rangers.Wire
open Rangers Rangers.Json

/-- A raw field protobuf-go can both write and read: field number 1 … 2^29−1. -/
def RawWF2 : Raw → Prop
  | .vint num v => 1 ≤ num ∧ num ≤ 536870911 ∧ v < 2 ^ 64
  | .len num b => 1 ≤ num ∧ num ≤ 536870911 ∧ b.length < 2 ^ 64
  | .other _ _ => False

def RawsWF2 (rs : List Raw) : Prop := ∀ r ∈ rs, RawWF2 r

theorem rawStepV2_enc (r : Raw) (rest : Bytes) (h : RawWF2 r) :
    rawStepV2 (encRaw r ++ rest) = some (r, rest) := by
  cases r with
  | vint num v =>
    obtain ⟨h1, h2, h3⟩ := h
    obtain ⟨e1, hd, hm⟩ := getVarint_tag num 0 (encVarint v ++ rest) (Nat.lt_of_le_of_lt h2 (by decide)) (by decide)
    rw [Nat.add_zero] at e1 hd hm
    have hz : ¬ (num = 0 ∨ num > 536870911) := not_or.mpr ⟨Nat.ne_of_gt h1, Nat.not_lt.mpr h2⟩
    simp only [encRaw, List.append_assoc, rawStepV2, e1, hd, hm, hz, if_false, getVarint_enc v rest h3]
  | len num b =>
    obtain ⟨h1, h2, h3⟩ := h
    obtain ⟨e1, hd, hm⟩ :=
      getVarint_tag num 2 (encVarint b.length ++ (b ++ rest)) (Nat.lt_of_le_of_lt h2 (by decide)) (by decide)
    have hz : ¬ (num = 0 ∨ num > 536870911) := not_or.mpr ⟨Nat.ne_of_gt h1, Nat.not_lt.mpr h2⟩
    have hl : ¬ ((b ++ rest).length < b.length) := Nat.not_lt.mpr (List.length_append ▸ Nat.le_add_right _ _)
    simp only [encRaw, List.append_assoc, rawStepV2, e1, hd, hm, hz, if_false,
      getVarint_enc b.length (b ++ rest) h3, hl, List.take_left', List.drop_left']
  | other _ _ => exact h.elim

theorem parseRawV2_encRaws (rs : List Raw) (h : RawsWF2 rs) : parseRawV2 (encRaws rs) = some rs :=
  fields_enc (fun _ => rfl) rfl (fun _ _ _ => rfl) rawStepV2_enc rs _ (Nat.lt_succ_self _) h

theorem RawsWF2_repLenR (n : Nat) (l : List Bytes) (h1 : 1 ≤ n) (h2 : n ≤ 536870911)
    (h : ∀ b ∈ l, b.length < 2 ^ 64) : RawsWF2 (repLenR n l) :=
  forall_mem_repLenR n l (fun b hb => ⟨h1, h2, h b hb⟩)

theorem method4_length (m : Bytes) : (method4 m).length = 4 := by
  unfold method4
  simp only [List.length_append, List.length_replicate, List.length_take]
  omega

theorem unloadMsg_layout (a b c d body : Bytes) (ha : a.length = 4) (hb : b.length = 8) (hc : c.length = 8)
    (hd : d.length = 8) :
    unloadMsg (a ++ (b ++ (c ++ (d ++ body)))) = (⟨some a, beToNat b, beToNat c, beToNat d⟩, some body) := by
  have hlen : ¬ (a ++ (b ++ (c ++ (d ++ body)))).length < 28 := by
    simp only [List.length_append, ha, hb, hc, hd]; omega
  have e1 : (a ++ (b ++ (c ++ (d ++ body)))).take 4 = a := List.take_left' ha
  have e2 : ((a ++ (b ++ (c ++ (d ++ body)))).drop 4).take 8 = b := by rw [List.drop_left' ha, List.take_left' hb]
  have e3 : ((a ++ (b ++ (c ++ (d ++ body)))).drop 12).take 8 = c := by
    rw [drop_add_append a _ 4 8 ha, List.drop_left' hb, List.take_left' hc]
  have e4 : ((a ++ (b ++ (c ++ (d ++ body)))).drop 20).take 8 = d := by
    rw [drop_add_append a _ 4 16 ha, drop_add_append b _ 8 8 hb, List.drop_left' hc, List.take_left' hd]
  have e5 : (a ++ (b ++ (c ++ (d ++ body)))).drop 28 = body := by
    rw [drop_add_append a _ 4 24 ha, drop_add_append b _ 8 16 hb, drop_add_append c _ 8 8 hc, List.drop_left' hd]
  rw [unloadMsg, if_neg hlen, e1, e2, e3, e4, e5]

end Rangers.Wire
