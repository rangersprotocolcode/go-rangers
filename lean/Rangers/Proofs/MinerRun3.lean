import Rangers.Proofs.MinerRun2
/-! C20, preservation: `runTx`, `endBlock` and the write to the key cache preserve the invariant and the conserved quantity; the side
    conditions of a history; a step leaves the stake of every `(registry, id)` other than its target alone. -/
namespace Rangers.Miner

/-- Below 2^53 tokens the debit of an application is the stake it records. -/
theorem apply_books {stake p : Nat} (hb : stake < 2 ^ 53) : wei * stake + p = wei * 0 + p + stakeWei stake := by
  rw [stakeWei_small _ hb, Nat.mul_zero, Nat.zero_add, Nat.add_comm]

/-- Below 2^53 tokens and without `uint64` wrap the debit of an added stake is what the recorded stake grows by. -/
theorem add_books {s delta p : Nat} (hb : delta < 2 ^ 53) (hnw : s + delta < 2 ^ 64) :
    wei * ((s + delta) % 2 ^ 64) + p = wei * s + p + stakeWei delta := by
  rw [Nat.mod_eq_of_lt hnw, stakeWei_small _ hb, Nat.mul_add, Nat.add_right_comm]

/-- What a refund takes from the stake is what it notes in the refund context. -/
theorem refund_books {s money p : Nat} (hle : money ≤ s) : wei * (s - money) + (p + money * wei) = wei * s + p + 0 := by
  rw [Nat.add_left_comm, Nat.mul_comm money, ← Nat.mul_add, Nat.sub_add_cancel hle, Nat.add_comm p]
  rfl

/-- An accepted transaction goes through `Moved.inv` with the `…_books` equation of its kind; a rejected one changed nothing
    or took the fee only. -/
theorem runTx_preserves (cfg : Cfg) (U : List Bytes) (st : State) (tx : Tx) (hc : CodecId cfg) (hraw : RawOK cfg)
    (hsome : CodecSome cfg) (hs : SepU cfg U) (hn : U.Nodup) (hinv : Inv cfg U st) (hok : TxOK cfg tx)
    (hside : TxSide cfg U st tx) :
    Inv cfg U (runTx cfg st tx).2 ∧ wealth cfg U (runTx cfg st tx).2 = wealth cfg U st := by
  by_cases hres : (runTx cfg st tx).1 = "ok"
  · have hrk := recKeyed_runTx cfg st tx hc hraw hok hinv.rk
    cases tx with
    | apply src id typ stake acct pk vrf =>
      obtain ⟨hfresh, _, hmv⟩ := runTx_apply_moved cfg st src id typ stake acct pk vrf hres
      refine hmv.inv U hs hn (.inl hsome) hinv hside.1 hrk hinv.pn hinv.a20.2 ?_
      rw [hinv.clean _ _ hside.1 hfresh]
      exact apply_books hside.2
    | add src id delta =>
      by_cases hd : delta = 0
      · subst hd
        exact inv_fee cfg U st _ _ hinv (runTx_add_zero cfg st src id hres)
      · obtain ⟨m, _, hst, hmv⟩ := runTx_add_moved cfg st src id delta hinv.rk hd hres
        refine hmv.inv U hs hn (.inl hsome) hinv hside.1 hrk hinv.pn hinv.a20.2 ?_
        rw [hst]
        exact add_books hside.2.1 (hside.2.2 _)
    | refund src id amount =>
      obtain ⟨m, _, _, hst, hle, hmv⟩ := runTx_refund_moved cfg st src id amount hinv.rk hres
      obtain ⟨hpn, hps, hp20⟩ := pendingAdd_noClash st.pending (st.height + refundDelay) src (refundMoney m amount * wei) hinv.pn
        (noClash_lookup _ _ hside.2.2)
      refine hmv.inv U hs hn (.inl hsome) hinv hside.1 hrk hpn (hp20 (·.length = 20) hside.2.1 hinv.a20.2) ?_
      rw [hps, ← hst]
      exact refund_books hle
    | chacc src id na =>
      obtain ⟨m, _, hst, _, hmv⟩ := runTx_chacc_moved cfg st src id na hinv.rk hres
      refine hmv.inv U hs hn (.inl hsome) hinv hside hrk hinv.pn hinv.a20.2 ?_
      rw [hst]
      rfl
    | bad k src => exact absurd hres (runTx_bad cfg st k src)
  · rcases runTx_fail cfg st tx hres with h | h
    · rw [h]; exact ⟨hinv, rfl⟩
    · exact inv_fee cfg U st _ _ hinv h

/-- The block end moves the refund context into the escrow (`escrowAddAll_escTotal`) and what is due from the escrow to the
    balances (`checkAndMove_total`); the registries are not touched. -/
theorem endBlock_preserves (cfg : Cfg) (U : List Bytes) (st : State) (n : Nat) (hinv : Inv cfg U st) :
    Inv cfg U (endBlock st n) ∧ wealth cfg U (endBlock st n) = wealth cfg U st := by
  have hA := escrowAddAll_escTotal st st.pending
  have hAk := escrowAddAll_keys st st.pending hinv.a20.1 hinv.a20.2
  have hlive : (endBlock st n).live = st.live := endBlock_live st n
  have he : endBlock st n = { checkAndMove (escrowAddAll st st.pending) (escrowAddAll st st.pending).height with
      trie := (checkAndMove (escrowAddAll st st.pending) (escrowAddAll st st.pending).height).live, pending := [], height := n } := rfl
  -- the two intermediate states as variables: with the terms written out every later step carries them along
  generalize escrowAddAll st st.pending = s1 at hA hAk he
  have hC := checkAndMove_total s1 s1.height hAk
  have hCk := checkAndMove_keys s1 s1.height hAk
  generalize checkAndMove s1 s1.height = s2 at hC hCk he
  have hb0 : balTotal s1 = balTotal st := balTotal_of_bal _ _ hA.2
  refine ⟨⟨recKeyed_of_live cfg st _ hlive hinv.rk, clean_of_live cfg U st _ hlive hinv.clean, ?_, ?_⟩, ?_⟩
  · rw [he]; exact List.nodup_nil
  · rw [he]; exact ⟨hCk, nofun⟩
  · unfold wealth
    rw [stakeTotal_of_live cfg U st _ hlive, he]
    show balTotal s2 + _ + 0 + escTotal s2 = _
    omega

theorem pkAfter_preserves (cfg : Cfg) (U : List Bytes) (tx : Tx) (r : String × State) (hinv : Inv cfg U r.2) :
    Inv cfg U (pkAfter tx r).2 ∧ wealth cfg U (pkAfter tx r).2 = wealth cfg U r.2 := by
  obtain ⟨pk, e⟩ := (pkAfter_eq tx r).2
  rw [e]
  exact inv_wealth_congr cfg U r.2 _ rfl rfl rfl rfl hinv

/-- Side conditions of a whole history, checked step by step along the run. -/
def RunSide (cfg : Cfg) (U : List Bytes) : State → List Op → Prop
  | _, [] => True
  | st, .tx t :: ops => TxOK cfg t ∧ TxSide cfg U st t ∧ RunSide cfg U (pkAfter t (runTx cfg st t)).2 ops
  | st, .endBlock n :: ops => RunSide cfg U (endBlock st n) ops

theorem run_cons (cfg : Cfg) (st : State) (o : Op) (ops : List Op) : run cfg st (o :: ops) = run cfg (step cfg st o) ops := rfl

theorem stakeAt_genesis (cfg : Cfg) (h : Nat) (bal : List (Bytes × Nat)) (d : DbId) (j : Bytes) :
    stakeAt cfg { State.empty h with bal := bal } d j = 0 := rfl

theorem inv_genesis (cfg : Cfg) (U : List Bytes) (h : Nat) (bal : List (Bytes × Nat)) :
    Inv cfg U { State.empty h with bal := bal } :=
  ⟨recKeyed_empty cfg _ (fun _ => rfl), fun d j _ _ => stakeAt_genesis cfg h bal d j, List.nodup_nil, nofun, nofun⟩

theorem txSide_target {cfg : Cfg} {U : List Bytes} {st : State} {tx : Tx} (hside : TxSide cfg U st tx)
    (hok : (runTx cfg st tx).1 = "ok") : txTarget tx ∈ U := by
  cases tx with
  | apply => exact hside.1
  | add => exact hside.1
  | refund => exact hside.1
  | chacc => exact hside
  | bad k src => exact absurd hok (runTx_bad cfg st k src)

theorem stakeAt_runTx_frame (cfg : Cfg) (U : List Bytes) (st : State) (tx : Tx) (hs : SepU cfg U) (hr : RecKeyed cfg st)
    (hside : TxSide cfg U st tx) (d : DbId) (j : Bytes) (hj : j ∈ U) (hne : ¬ (d = txDb cfg st tx ∧ j = txTarget tx)) :
    stakeAt cfg (runTx cfg st tx).2 d j = stakeAt cfg st d j := by
  by_cases hres : (runTx cfg st tx).1 = "ok"
  · exact (sep_frame cfg U st _ _ _ hs (txSide_target hside hres) (runTx_onlyKeys cfg st tx hr) d j hj hne).2
  · exact stakeAt_of_live cfg st _ (runTx_fail_live cfg st tx hres) d j

theorem stakeTotal_genesis (cfg : Cfg) (U : List Bytes) (h : Nat) (bal : List (Bytes × Nat)) :
    stakeTotal cfg { State.empty h with bal := bal } U = 0 := by
  have hsum : ∀ d, (U.map (stakeAt cfg { State.empty h with bal := bal } d)).sum = 0 := by
    intro d
    induction U with
    | nil => rfl
    | cons a U ih => rw [List.map_cons, List.sum_cons, stakeAt_genesis, ih]
  unfold stakeTotal
  rw [hsum, hsum, hsum]

end Rangers.Miner
