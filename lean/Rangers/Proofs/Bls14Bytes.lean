import Rangers.Model.Bls14G1
import Rangers.Proofs.BigEndian
/-! Fixed-width big-endian byte strings (`beFixed`), on top of `Proofs/BigEndian.lean`. Core Lean only. -/
namespace Rangers.Proofs.Bls14
open Rangers Rangers.Model.Bls14

theorem beToNat_nil : beToNat [] = 0 := rfl

theorem beFixed_length (w n : Nat) : (beFixed w n).length = w := by
  induction w generalizing n with
  | zero => rfl
  | succ w ih => simp [beFixed, ih]

theorem beToNat_beFixed (w n : Nat) : beToNat (beFixed w n) = n % 256 ^ w := by
  induction w generalizing n with
  | zero => simp [beFixed, beToNat, Nat.mod_one]
  | succ w ih =>
    rw [beFixed, beToNat_append_one, ih, toNat_ofNat_mod, Nat.pow_succ', Nat.mod_mul]
    omega

theorem beToNat_beFixed_of_lt (w n : Nat) (h : n < 256 ^ w) : beToNat (beFixed w n) = n := by
  rw [beToNat_beFixed, Nat.mod_eq_of_lt h]

theorem beFixed_beToNat (bs : Bytes) : beFixed bs.length (beToNat bs) = bs :=
  beToNat_inj (beFixed_length _ _) (by rw [beToNat_beFixed, Nat.mod_eq_of_lt (beToNat_lt bs)])

theorem beFixed_eq_iff (w a b : Nat) : beFixed w a = beFixed w b ↔ a % 256 ^ w = b % 256 ^ w := by
  constructor
  · intro h
    rw [← beToNat_beFixed, h, beToNat_beFixed]
  · intro h
    exact beToNat_inj (by rw [beFixed_length, beFixed_length]) (by rw [beToNat_beFixed, beToNat_beFixed, h])

theorem beFixed_zero (w : Nat) : beFixed w 0 = List.replicate w 0 :=
  beToNat_inj (by rw [beFixed_length, List.length_replicate])
    (by rw [beToNat_beFixed, Nat.zero_mod, beToNat_replicate_zero])

theorem beFixed_inj (w a b : Nat) (ha : a < 256 ^ w) (hb : b < 256 ^ w)
    (h : beFixed w a = beFixed w b) : a = b := by
  have := congrArg beToNat h
  rwa [beToNat_beFixed_of_lt w a ha, beToNat_beFixed_of_lt w b hb] at this

end Rangers.Proofs.Bls14
