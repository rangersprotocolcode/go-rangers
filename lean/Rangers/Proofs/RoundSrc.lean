import Rangers.Model.Round
import Rangers.Generated.C15Facts
/-! `FromSource`: the translator's `bindsHash` fact, hypothesis of the C15 theorems that depend on the binding check;
and `leadEnv`, `leadMsg`, the witness of their `…_unbound_counterexample`s. The `Props/C15*` modules state their
theorems with these and do not all import `Props/C15`. -/
namespace Rangers.Props.C15
open Rangers.Model.Round
open Rangers.Generated

def FromSource (env : Env) : Prop := env.bindsHash = C15Facts.bindsHash

theorem fromSource_binds {env : Env} (h : FromSource env) : env.bindsHash = true := by
  rw [h]; decide

/-- The witness replayed on the implementation (corpus/C15/lead-declared-other.script):
group of 3 (k = 2), member 0 sends its valid share over another hash (tag 2) and says so in `dataHash`. -/
def leadEnv : Env :=
  { hash := 0, prevRandom := 1, groupSize := 3, pkKnown := [0, 1, 2], blockExists := false, bindsHash := false }

def leadMsg : VMsg Sym :=
  { mid := 0, blockHash := 0, signer := 0, idShape := .ok, signerNonZero := true, dataHash := 2,
    sig := .share 0 2, rand := .share 0 1 }

end Rangers.Props.C15
