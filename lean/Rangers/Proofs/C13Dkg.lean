import Rangers.Proofs.C13Aggregate
import Rangers.Proofs.C13Poly
/-! The DKG: member keys are evaluations of the sum polynomial `groupPoly` and the group secret is its
    value at `0`, so the member keys are a `k`-sharing of the group secret (`sharing_dkg`). -/
namespace Rangers.Proofs.C13
open Polynomial Rangers.Model.Shamir

variable {r : Nat}

noncomputable def groupPoly (r : Nat) (dealers : List (List Nat)) : (ZMod r)[X] :=
  (dealers.map (fun cs => polyOf (castList r cs))).sum

theorem eval_groupPoly (dealers : List (List Nat)) (x : ZMod r) :
    (groupPoly r dealers).eval x = (dealers.map (fun cs => (polyOf (castList r cs)).eval x)).sum := by
  unfold groupPoly
  induction dealers with
  | nil => simp
  | cons cs ds ih => simp [eval_add, ih]

theorem degree_groupPoly_lt (dealers : List (List Nat)) (k : Nat)
    (hlen : ∀ cs ∈ dealers, cs.length ≤ k) : (groupPoly r dealers).degree < k := by
  unfold groupPoly
  induction dealers with
  | nil => simp only [List.map_nil, List.sum_nil, degree_zero]; exact WithBot.bot_lt_coe k
  | cons cs ds ih =>
    simp only [List.map_cons, List.sum_cons]
    refine lt_of_le_of_lt (degree_add_le _ _) (max_lt ?_ ?_)
    · exact degree_polyOf_castList_lt r cs k (hlen cs List.mem_cons_self)
    · exact ih (fun cs' h => hlen cs' (by simp [h]))

theorem memberKey_eq (dealers : List (List Nat)) (x : Nat) (hd : dealers ≠ []) (hne : ∀ cs ∈ dealers, cs ≠ []) :
    memberKey r dealers x = some ((dealers.map fun cs => (shareSeckey r cs x).getD 0).sum % r) := by
  rw [memberKey, mapM_eq_some_map _ _ dealers fun cs h => shareSeckey_eq_getD r cs x (hne cs h)]
  exact aggregateSeckeys_eq_sum r _ fun h => hd (List.map_eq_nil_iff.1 h)

theorem memberKey_getD_eval (dealers : List (List Nat)) (hd : dealers ≠ [])
    (hne : ∀ cs ∈ dealers, cs ≠ []) (x : Nat) :
    (((memberKey r dealers x).getD 0 : Nat) : ZMod r) = (groupPoly r dealers).eval (x : ZMod r) := by
  rw [memberKey_eq dealers x hd hne, Option.getD_some, ZMod.natCast_mod, Nat.cast_list_sum, List.map_map,
    eval_groupPoly]
  exact congrArg _ (List.map_congr_left fun cs h => shareSeckey_getD_eval r cs (hne cs h) x)

theorem groupSecret_eq (dealers : List (List Nat)) (hd : dealers ≠ []) :
    groupSecret r dealers = some ((dealers.map fun cs => cs.headD 0).sum % r) :=
  aggregateSeckeys_eq_sum r _ fun h => hd (List.map_eq_nil_iff.1 h)

theorem groupSecret_eval (dealers : List (List Nat)) (g : Nat) (h : groupSecret r dealers = some g) :
    (g : ZMod r) = (groupPoly r dealers).eval 0 := by
  have hd : dealers ≠ [] := by rintro rfl; cases h
  rw [groupSecret_eq dealers hd, Option.some.injEq] at h
  rw [← h, ZMod.natCast_mod, Nat.cast_list_sum, List.map_map, eval_groupPoly]
  exact congrArg _ (List.map_congr_left fun cs _ => (eval_zero_polyOf_castList r cs).symm)

theorem sharing_dkg (dealers : List (List Nat)) (k : Nat) (hne : dealers ≠ [])
    (hk : ∀ cs ∈ dealers, cs ≠ [] ∧ cs.length ≤ k) (gsk : Nat) (hg : groupSecret r dealers = some gsk) :
    Sharing r k (fun x => (memberKey r dealers x).getD 0) gsk :=
  ⟨_, degree_groupPoly_lt dealers k fun cs h => (hk cs h).2,
    memberKey_getD_eval dealers hne fun cs h => (hk cs h).1, groupSecret_eval dealers gsk hg⟩

end Rangers.Proofs.C13
