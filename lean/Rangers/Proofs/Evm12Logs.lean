import Rangers.Model.Evm12Spec
import Rangers.Proofs.Evm12Inv
/-! C12: execution only appends logs stamped with the current transaction hash (or reverts to an earlier
such state): `LogsExtend w0 ·` is an invariant in the sense of `PrimInv`. -/
namespace Rangers.Model.Evm12

def SameLogs (w w' : World) : Prop :=
  w'.logs = w.logs ∧ w'.logSize = w.logSize ∧ w'.thash = w.thash ∧ w'.txIndex = w.txIndex

theorem SameLogs.refl (w : World) : SameLogs w w := ⟨rfl, rfl, rfl, rfl⟩

theorem SameLogs.ite {c : Prop} [Decidable c] {w a b : World} (ha : SameLogs w a) (hb : SameLogs w b) :
    SameLogs w (if c then a else b) :=
  inv_ite (P := SameLogs w) ha hb

theorem World.same_touchNew (w : World) (a : Addr) : SameLogs w (w.touchNew a) :=
  .ite (.refl w) ⟨rfl, rfl, rfl, rfl⟩

theorem World.same_subBalance (w : World) (a : Addr) (v : Nat) : SameLogs w (w.subBalance a v) :=
  .ite (.refl w) ⟨rfl, rfl, rfl, rfl⟩

theorem unstakeEffect_same (env : Env) (self : Addr) (amount : Option Nat) (w : World) :
    SameLogs w (unstakeEffect env self amount w) := by
  unfold unstakeEffect
  cases amount with
  | none => exact .ite ⟨rfl, rfl, rfl, rfl⟩ (.refl w)
  | some n => exact .ite (.ite (.refl w) ⟨rfl, rfl, rfl, rfl⟩) (.refl w)

theorem PrimInv.of_sameLogs {env : Env} {P : World → Prop} (same : ∀ {w w'}, P w → SameLogs w w' → P w')
    (addLog : ∀ w a n t, P w → P (w.addLog a n t)) (revert : ∀ saved cur, P saved → P (env.rv saved cur)) :
    PrimInv env P where
  setState w a _ _ h := same h (w.same_touchNew a)
  setNonce w a _ h := same h (w.same_touchNew a)
  createAccount w a h := same h (w.same_touchNew a)
  addBalance _ _ _ h := same h ⟨rfl, rfl, rfl, rfl⟩
  subBalance w a v h := same h (w.same_subBalance a v)
  setCode w a _ h := same h (w.same_touchNew a)
  suicide w _ h := same h (.ite ⟨rfl, rfl, rfl, rfl⟩ (.refl w))
  addLog := addLog
  setTransient _ _ _ _ h := same h ⟨rfl, rfl, rfl, rfl⟩
  addAccess w _ h := same h (.ite (.refl w) ⟨rfl, rfl, rfl, rfl⟩)
  selfdestructRefund w _ h := same h (.ite (.refl w) ⟨rfl, rfl, rfl, rfl⟩)
  stake w a n h := same h (.ite (w.same_subBalance a (oneRPG * n)) (.refl w))
  unstake w a n h := same h (unstakeEffect_same env a n w)
  revert := revert

theorem LogsExtend.refl (w : World) : LogsExtend w w := ⟨rfl, rfl, [], by simp, by simp⟩

theorem LogsExtend.trans {a b c : World} (h1 : LogsExtend a b) (h2 : LogsExtend b c) : LogsExtend a c := by
  obtain ⟨t1, i1, n1, l1, p1⟩ := h1
  obtain ⟨t2, i2, n2, l2, p2⟩ := h2
  refine ⟨t2.trans t1, i2.trans i1, n1 ++ n2, by rw [l2, l1, List.append_assoc], ?_⟩
  intro l hl
  rcases List.mem_append.mp hl with h | h
  · exact p1 l h
  · rw [← t1]; exact p2 l h

theorem LogsExtend.same_right {a b c : World} (h1 : LogsExtend a b) (h2 : SameLogs b c) : LogsExtend a c :=
  h1.trans ⟨h2.2.2.1, h2.2.2.2, [], by simp [h2.1], by simp⟩

theorem World.extend_addLog (w : World) (a : Addr) (n t : Nat) : LogsExtend w (w.addLog a n t) :=
  ⟨rfl, rfl, [w.newLog a n t], rfl, by simp [newLog]⟩

theorem LogsExtend.revert {rv : World → World → World} (hrv : RevertRestoresObs rv)
    (hk : RevertKeepsTxContext rv) {w saved : World} (cur : World) (h : LogsExtend w saved) :
    LogsExtend w (rv saved cur) := by
  obtain ⟨t, i, new, hl, hnew⟩ := h
  have h1 : (rv saved cur).logs = saved.logs := congrArg Obs.logs (hrv saved cur)
  exact ⟨(hk saved cur).1.trans t, (hk saved cur).2.trans i, new, h1.trans hl, hnew⟩

theorem LogsExtend.logs_eq {w w' : World} (h : LogsExtend w w') (hfresh : w.getLogs w.thash = []) :
    w'.logs = w.logs ++ w'.getLogs w.thash ∧ ∀ l ∈ w'.getLogs w.thash, l.txh = w.thash := by
  obtain ⟨_, _, new, hl, hnew⟩ := h
  have hf : w'.getLogs w.thash = new := by
    unfold World.getLogs at hfresh ⊢
    rw [hl, List.filter_append, hfresh, List.nil_append]
    exact List.filter_eq_self.mpr (fun l hlm => by simp [hnew l hlm])
  rw [hf]
  exact ⟨hl, hnew⟩

theorem LogsExtend.getLogs_other {w w' : World} (h : LogsExtend w w') {th : Nat} (hne : th ≠ w.thash) :
    w'.getLogs th = w.getLogs th := by
  obtain ⟨_, _, new, hl, hnew⟩ := h
  have hn : new.filter (fun l => l.txh == th) = [] :=
    List.filter_eq_nil_iff.mpr (fun l hlm => by simp [hnew l hlm, Ne.symm hne])
  unfold World.getLogs
  rw [hl, List.filter_append, hn, List.append_nil]

theorem logsExtend_prim (env : Env) (hrv : RevertRestoresObs env.rv) (hkc : RevertKeepsTxContext env.rv)
    (w0 : World) : PrimInv env (LogsExtend w0) :=
  .of_sameLogs LogsExtend.same_right (fun w a n t h => h.trans (w.extend_addLog a n t))
    (fun _ cur h => h.revert hrv hkc cur)

theorem run_extend (env : Env) (hrv : RevertRestoresObs env.rv) (hkc : RevertKeepsTxContext env.rv)
    (f : Frame) (depth : Nat) (ro : Bool) (self : Addr) (w : World) (clogs : List Log) (tr : List Event) :
    LogsExtend w (run env depth ro self w clogs tr f).world :=
  run_inv (logsExtend_prim env hrv hkc w) f depth ro self w clogs tr (.refl w)

theorem execTx_extend (cfg : Cfg) (h13 : cfg.p013 = true) (rv : World → World → World)
    (hrv : RevertRestoresObs rv) (hkc : RevertKeepsTxContext rv) (i : Nat) (w : World) (tx : Tx) :
    LogsExtend (prepare w tx.hash i) (execTx cfg rv i w tx).1 := by
  unfold execTx
  simp only [h13, ↓reduceIte]
  exact txBody_inv cfg rv tx (logsExtend_prim _ hrv hkc _) _ (.refl _)

end Rangers.Model.Evm12
