import Rangers.Model.Json
import Rangers.Proofs.BigEndian
/-! `decReqIds (encReqIds r) = r` for every canonical RequestIds map, and what `decReqIds` returns is canonical,
`mapEsc` or `opaque` (C09). -/
namespace Rangers.Json
open Rangers

theorem lt_pow_succ {b : Nat} (hb : 1 < b) (n : Nat) : n < b ^ (n + 1) :=
  Nat.lt_of_lt_of_le (Nat.lt_pow_self hb) (Nat.pow_le_pow_right (Nat.lt_trans Nat.zero_lt_one hb) (Nat.le_succ n))

theorem div_lt_pow {b n f : Nat} (h : n < b ^ (f + 1)) : n / b < b ^ f :=
  Nat.div_lt_of_lt_mul (by rw [Nat.mul_comm, ← Nat.pow_succ]; exact h)

theorem digit_toNat (k : Nat) (h : k < 10) : (UInt8.ofNat (48 + k)).toNat = 48 + k :=
  toNat_ofNat_lt (Nat.lt_of_lt_of_le (Nat.add_lt_add_left h 48) (by decide))

theorem parseDigits_digit (k : Nat) (h : k < 10) (rest : Bytes) (acc : Nat) :
    parseDigits (UInt8.ofNat (48 + k) :: rest) acc = parseDigits rest (acc * 10 + k) := by
  rw [parseDigits, digit_toNat k h,
    if_pos ⟨Nat.le_add_right 48 k, Nat.add_le_add_left (Nat.le_of_lt_succ h) 48⟩, Nat.add_sub_cancel_left]

theorem parseDigits_decNatF (f n : Nat) (h : n < 10 ^ f) (acc : Nat) (rest : Bytes) :
    parseDigits (decNatF f n ++ rest) acc = parseDigits rest (acc * 10 ^ (decNatF f n).length + n) := by
  fun_induction decNatF f n generalizing rest
  · rw [Nat.lt_one_iff.mp h]; exact congrArg (parseDigits rest) (Nat.mul_one acc).symm
  next hn => exact (parseDigits_digit _ hn rest acc).trans (by rw [List.length_singleton, Nat.pow_one])
  next f n hn ih =>
    rw [List.append_assoc, ih (div_lt_pow h), List.singleton_append,
      parseDigits_digit (n % 10) (Nat.mod_lt _ (by decide)), List.length_append, List.length_singleton, Nat.pow_succ,
      Nat.add_mul, Nat.add_assoc, Nat.div_add_mod' n 10, Nat.mul_assoc]

theorem decNatF_head (f n : Nat) (h1 : 1 ≤ n) (h2 : n < 10 ^ f) :
    ∃ b tl, decNatF f n = b :: tl ∧ 49 ≤ b.toNat ∧ b.toNat ≤ 57 := by
  fun_induction decNatF f n
  · exact absurd (Nat.lt_one_iff.mp h2) (Nat.ne_of_gt h1)
  next n hn =>
    refine ⟨_, [], rfl, ?_⟩
    rw [digit_toNat n hn]
    exact ⟨Nat.add_le_add_left h1 48, Nat.add_le_add_left (Nat.le_of_lt_succ hn) 48⟩
  next f n hn ih =>
    obtain ⟨b, tl, e, hb⟩ := ih ((Nat.le_div_iff_mul_le (by decide)).mpr (Nat.not_lt.mp hn)) (div_lt_pow h2)
    exact ⟨b, tl ++ [UInt8.ofNat (48 + n % 10)], by rw [e, List.cons_append], hb⟩

def NonDigitHead : Bytes → Prop
  | [] => True
  | c :: _ => ¬ (48 ≤ c.toNat ∧ c.toNat ≤ 57)

theorem parseDigits_stop (rest : Bytes) (acc : Nat) (h : NonDigitHead rest) : parseDigits rest acc = (acc, rest) := by
  cases rest with
  | nil => rfl
  | cons c r => simp only [NonDigitHead] at h; simp only [parseDigits, h, if_false]

theorem parseNum_decNat (v : Nat) (rest : Bytes) (hv : v < 2 ^ 64) (hr : NonDigitHead rest) :
    parseNum (decNat v ++ rest) = some (v, rest) := by
  by_cases h0 : v = 0
  · subst h0
    have : decNat 0 = [48] := by decide
    rw [this]
    cases rest with
    | nil => simp [parseNum]
    | cons c r =>
      simp only [NonDigitHead] at hr
      simp [parseNum, hr]
  · obtain ⟨b, tl, e, hb1, hb2⟩ := decNatF_head (v + 1) v (Nat.pos_of_ne_zero h0) (lt_pow_succ (by decide) v)
    have hall := parseDigits_decNatF (v + 1) v (lt_pow_succ (by decide) v) 0 rest
    rw [parseDigits_stop rest _ hr] at hall
    unfold decNat
    rw [e] at hall ⊢
    simp only [List.cons_append] at hall ⊢
    have hne : ¬ (b = 48) := by intro h; rw [h] at hb1; revert hb1; decide
    simp only [parseNum, hne, if_false, hb1, hb2, and_self, if_true, hall]
    simp only [Nat.zero_mul, Nat.zero_add]
    have : v < 18446744073709551616 := by simpa using hv
    simp [this]

theorem parseKey_quote (k rest : Bytes) (h : ∀ b ∈ k, safeKeyByte b = true) :
    parseKey (k ++ [34] ++ rest) = some (k, rest) := by
  induction k with
  | nil => simp [parseKey]
  | cons b k ih =>
    have hb := h b (by simp)
    have hne : ¬ (b = 34) := by
      intro e; rw [e] at hb; revert hb; decide
    simp only [List.cons_append, parseKey, hne, if_false, hb, if_true]
    have := ih (fun x hx => h x (by simp [hx]))
    simp only [List.append_assoc] at this ⊢
    simp only [List.cons_append, List.nil_append] at this ⊢
    rw [this]

/-- key bytes JSON writes verbatim, values that are uint64. -/
def EntryOK (kv : Bytes × Nat) : Prop := (∀ b ∈ kv.1, safeKeyByte b = true) ∧ kv.2 < 2 ^ 64

theorem nonDigit_125 (r : Bytes) : NonDigitHead (125 :: r) := by simp [NonDigitHead]
theorem nonDigit_44 (r : Bytes) : NonDigitHead (44 :: r) := by simp [NonDigitHead]

theorem parseEntries_entry (k : Bytes) (v f : Nat) (acc : List (Bytes × Nat)) (T : Bytes) (hk : EntryOK (k, v))
    (hT : NonDigitHead T) :
    parseEntries (f + 1) (quote k ++ [58] ++ decNat v ++ T) acc =
      match (generalizing := false) T with
      | [125] => some (insertKV k v acc)
      | 44 :: r4 => parseEntries f r4 (insertKV k v acc)
      | _ => none := by
  have e : quote k ++ [58] ++ decNat v ++ T = 34 :: (k ++ [34] ++ (58 :: (decNat v ++ T))) := by
    simp only [quote, List.append_assoc, List.cons_append, List.nil_append]
  rw [e, parseEntries]
  simp only [parseKey_quote k _ hk.1, parseNum_decNat v T hk.2 hT]
  rfl

/-- With the fuel `decReqIds` supplies, one more than the input's length: an entry takes at least one byte. -/
theorem parseEntries_enc : ∀ (kvs : List (Bytes × Nat)) (kv : Bytes × Nat) (f : Nat) (acc : List (Bytes × Nat)),
    (commaSep (encKVs (kv :: kvs)) ++ [125]).length < f → EntryOK kv → (∀ e ∈ kvs, EntryOK e) →
    parseEntries f (commaSep (encKVs (kv :: kvs)) ++ [125]) acc =
      some ((kv :: kvs).foldl (fun a e => insertKV e.1 e.2 a) acc) := by
  intro kvs
  induction kvs with
  | nil =>
    intro kv f acc hf hk _
    cases f with
    | zero => omega
    | succ f =>
      obtain ⟨k, v⟩ := kv
      exact parseEntries_entry k v f acc [125] hk (nonDigit_125 _)
  | cons kv2 kvs ih =>
    intro kv f acc hf hk hall
    cases f with
    | zero => omega
    | succ f =>
      obtain ⟨k, v⟩ := kv
      have hsplit : commaSep (encKVs ((k, v) :: kv2 :: kvs)) ++ [125] =
          quote k ++ [58] ++ decNat v ++ 44 :: (commaSep (encKVs (kv2 :: kvs)) ++ [125]) := by
        obtain ⟨k2, v2⟩ := kv2
        simp only [encKVs, commaSep, List.append_assoc, List.cons_append, List.nil_append]
      rw [hsplit] at hf ⊢
      have hrest := ih kv2 f (insertKV k v acc) (by simp only [List.length_append, List.length_cons] at hf ⊢; omega)
        (hall kv2 (by simp)) (fun e he => hall e (by simp [he]))
      exact (parseEntries_entry k v f acc _ hk (nonDigit_44 _)).trans hrest

/-- `bytesLt` decides the lexicographic order of the library, so its order laws are the library's. -/
theorem bytesLt_iff : ∀ (a b : Bytes), bytesLt a b = true ↔ a < b
  | [], [] => by simp [bytesLt]
  | [], _ :: _ => by simp [bytesLt]
  | _ :: _, [] => by simp [bytesLt]
  | x :: a, y :: b => by
    simp only [bytesLt, List.cons_lt_cons_iff, ← bytesLt_iff a b, ← UInt8.lt_iff_toNat_lt]
    by_cases h1 : x < y
    · simp [h1]
    · by_cases h2 : y < x
      · have : x ≠ y := fun e => h1 (e ▸ h2)
        simp [h1, h2, this]
      · have : x = y := UInt8.le_antisymm (UInt8.not_lt.mp h2) (UInt8.not_lt.mp h1)
        simp [this]

theorem bytesLt_irrefl (a : Bytes) : bytesLt a a = false :=
  Bool.eq_false_iff.mpr fun h => List.lt_irrefl a ((bytesLt_iff a a).mp h)

theorem bytesLt_asymm (a b : Bytes) (h : bytesLt a b = true) : bytesLt b a = false :=
  Bool.eq_false_iff.mpr fun h' => List.lt_asymm ((bytesLt_iff a b).mp h) ((bytesLt_iff b a).mp h')

theorem bytesLt_trans (a b c : Bytes) (h1 : bytesLt a b = true) (h2 : bytesLt b c = true) : bytesLt a c = true :=
  (bytesLt_iff a c).mpr (List.lt_trans ((bytesLt_iff a b).mp h1) ((bytesLt_iff b c).mp h2))

theorem bytesLt_total (a b : Bytes) (h : bytesLt a b = false) (hne : a ≠ b) : bytesLt b a = true :=
  (bytesLt_iff b a).mpr ((List.le_iff_lt_or_eq.mp (fun h' => Bool.eq_false_iff.mp h ((bytesLt_iff a b).mpr h'))).resolve_right
    (fun e => hne e.symm))

theorem insertKV_append (k : Bytes) (v : Nat) (acc : List (Bytes × Nat))
    (h : ∀ e ∈ acc, bytesLt e.1 k = true) : insertKV k v acc = acc ++ [(k, v)] := by
  induction acc with
  | nil => rfl
  | cons e acc ih =>
    obtain ⟨k', v'⟩ := e
    have hlt : bytesLt k' k = true := h (k', v') (by simp)
    have h1 : bytesLt k k' = false := bytesLt_asymm k' k hlt
    have h2 : ¬ (k = k') := by
      intro e; subst e; rw [bytesLt_irrefl] at hlt; cases hlt
    simp only [insertKV, h1, h2, if_false, List.cons_append, Bool.false_eq_true]
    rw [ih (fun e he => h e (by simp [he]))]

/-- strictly increasing keys (byte-wise), the order `json.Marshal` writes and a Go map cannot violate. -/
def SortedKeys : List (Bytes × Nat) → Prop
  | [] => True
  | e :: rest => (∀ x ∈ rest, bytesLt e.1 x.1 = true) ∧ SortedKeys rest

theorem foldl_insert_sorted : ∀ (kvs acc : List (Bytes × Nat)),
    (∀ a ∈ acc, ∀ x ∈ kvs, bytesLt a.1 x.1 = true) → SortedKeys kvs →
    kvs.foldl (fun a e => insertKV e.1 e.2 a) acc = acc ++ kvs := by
  intro kvs
  induction kvs with
  | nil => intro acc _ _; simp
  | cons e kvs ih =>
    intro acc hacc hs
    simp only [List.foldl_cons]
    rw [insertKV_append e.1 e.2 acc (fun a ha => hacc a ha e (by simp))]
    rw [ih (acc ++ [(e.1, e.2)]) ?_ hs.2]
    · simp
    · intro a ha x hx
      rcases List.mem_append.mp ha with ha | ha
      · exact hacc a ha x (by simp [hx])
      · simp only [List.mem_singleton] at ha
        subst ha
        exact hs.1 x hx

/-- The RequestIds values the model treats exactly: nil, or a map with strictly increasing
    verbatim keys and uint64 values. -/
def ReqIdsCanon : ReqIds → Prop
  | .nil => True
  | .map kvs => SortedKeys kvs ∧ ∀ e ∈ kvs, EntryOK e
  | .mapEsc _ => False
  | .opaque _ => False

theorem decReqIds_brace (rest : Bytes) (kvs : List (Bytes × Nat))
    (hp : parseEntries (rest.length + 1) rest [] = some kvs) : decReqIds (123 :: rest) = .map kvs := by
  have h1 : ¬ (123 :: rest = [] ∨ 123 :: rest = jsonNull) := fun h =>
    h.elim (List.cons_ne_nil _ _) fun e =>
      absurd (congrArg List.head? e) (show some (123 : UInt8) ≠ List.head? jsonNull by decide)
  by_cases h2 : 123 :: rest = [123, 125]
  · -- `{}` is answered before the entry parser runs, which would reject it
    cases (List.cons.inj h2).2
    exact absurd (Option.isSome_of_eq_some hp) (by decide)
  · rw [decReqIds, if_neg h1, if_neg h2]
    simp only [hp]

theorem decReqIds_encReqIds (r : ReqIds) (h : ReqIdsCanon r) : decReqIds (encReqIds r) = r := by
  rcases r with _ | kvs | kvs' | raw
  · decide
  · obtain ⟨hs, hok⟩ := h
    cases kvs with
    | nil => decide
    | cons kv kvs =>
      have hp := parseEntries_enc kvs kv _ [] (Nat.lt_succ_self _) (hok kv List.mem_cons_self)
        (fun e he => hok e (List.mem_cons_of_mem _ he))
      rw [foldl_insert_sorted (kv :: kvs) [] (fun _ ha => nomatch ha) hs] at hp
      exact decReqIds_brace (commaSep (encKVs (kv :: kvs)) ++ [125]) _ hp
  · exact h.elim
  · exact h.elim

theorem mem_insertKV (k : Bytes) (v : Nat) (l : List (Bytes × Nat)) (e : Bytes × Nat)
    (h : e ∈ insertKV k v l) : e = (k, v) ∨ e ∈ l := by
  fun_induction insertKV k v l
  · exact Or.inl (List.mem_singleton.mp h)
  · exact List.mem_cons.mp h
  · exact (List.mem_cons.mp h).imp_right (List.mem_cons_of_mem _)
  next ih =>
    rcases List.mem_cons.mp h with h | h
    · exact Or.inr (h ▸ List.mem_cons_self)
    · exact (ih h).imp_right (List.mem_cons_of_mem _)

theorem insertKV_sorted (k : Bytes) (v : Nat) (l : List (Bytes × Nat)) (hs : SortedKeys l) :
    SortedKeys (insertKV k v l) := by
  fun_induction insertKV k v l
  · exact And.intro (fun _ hx => nomatch hx) trivial
  next hlt =>
    exact And.intro (List.forall_mem_cons.mpr ⟨hlt, fun x hx => bytesLt_trans _ _ _ hlt (hs.1 x hx)⟩) hs
  · exact hs
  next hlt hne ih =>
    refine And.intro (fun x hx => ?_) (ih hs.2)
    rcases mem_insertKV _ _ _ x hx with rfl | hx
    · exact bytesLt_total _ _ (Bool.eq_false_iff.mpr hlt) hne
    · exact hs.1 x hx

theorem insertKV_canon (k : Bytes) (v : Nat) (acc : List (Bytes × Nat)) (hs : SortedKeys acc)
    (hok : ∀ e ∈ acc, EntryOK e) (hent : EntryOK (k, v)) :
    SortedKeys (insertKV k v acc) ∧ ∀ e ∈ insertKV k v acc, EntryOK e :=
  ⟨insertKV_sorted k v acc hs, fun e he => (mem_insertKV k v acc e he).elim (fun h => h ▸ hent) (hok e)⟩

theorem parseKey_safe (bs k r : Bytes) (h : parseKey bs = some (k, r)) : ∀ b ∈ k, safeKeyByte b = true := by
  revert h
  fun_induction parseKey bs generalizing k r <;> intro h <;> cases h
  · exact fun _ hb => nomatch hb
  next hs _ _ hk ih => exact List.forall_mem_cons.mpr ⟨hs, ih _ _ hk⟩

theorem parseNum_lt (bs : Bytes) (v : Nat) (r : Bytes) (h : parseNum bs = some (v, r)) : v < 2 ^ 64 := by
  revert h
  -- `parseNum` succeeds with `0` (twice) or with a value it has just compared with 2^64
  fun_cases parseNum bs <;> intro h <;> cases h
  · decide
  · decide
  · assumption

theorem parseEntries_canon (f : Nat) (bs : Bytes) (acc res : List (Bytes × Nat))
    (hs : SortedKeys acc) (hok : ∀ e ∈ acc, EntryOK e) (h : parseEntries f bs acc = some res) :
    SortedKeys res ∧ ∀ e ∈ res, EntryOK e := by
  revert h
  -- every failing branch goes by `cases h`; the two that succeed have just read a safe key and a uint64
  fun_induction parseEntries f bs acc generalizing res <;> intro h <;> try cases h
  next hk hn =>
    exact insertKV_canon _ _ _ hs hok ⟨parseKey_safe _ _ _ hk, parseNum_lt _ _ _ hn⟩
  next hk hn ih =>
    have c := insertKV_canon _ _ _ hs hok ⟨parseKey_safe _ _ _ hk, parseNum_lt _ _ _ hn⟩
    exact ih _ c.1 c.2 h

/-- Whatever `decReqIds` returns is canonical unless it is `opaque` (bytes outside the modelled class)
    or `mapEsc` (keys written with escapes / non-ASCII: executed and compared, not covered by the theorem). -/
theorem decReqIds_canon (raw : Bytes) :
    (∃ r, decReqIds raw = .opaque r) ∨ (∃ kvs, decReqIds raw = .mapEsc kvs) ∨ ReqIdsCanon (decReqIds raw) := by
  fun_cases decReqIds raw
  · exact Or.inr (Or.inr trivial)
  · exact Or.inr (Or.inr ⟨trivial, fun _ he => nomatch he⟩)
  · exact Or.inr (Or.inr (parseEntries_canon _ _ [] _ trivial (fun _ he => nomatch he) ‹_›))
  · exact Or.inr (Or.inl ⟨_, rfl⟩)
  · exact Or.inl ⟨_, rfl⟩
  · exact Or.inl ⟨_, rfl⟩

end Rangers.Json
