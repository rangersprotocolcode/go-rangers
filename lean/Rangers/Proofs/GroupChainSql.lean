import Rangers.Proofs.GroupChainInv
/-! A failing statement on the sqlite mirror never damages the chain itself: `save`/`remove` have
finished their store and memory updates when they `panic`, so the operation is merely cut after a
completed step. -/
namespace Rangers.Model.GroupChain
open Rangers

theorem saveS_core (c : Chain) (g : Group) (f : SqlFault) : SameCore (saveS c g f).1 (save c g) := by
  unfold saveS; split <;> exact ⟨rfl, rfl, rfl⟩

theorem removeS_core (c : Chain) (g : Group) (f : SqlFault) :
    SameCore (removeS c g f).2.1 (remove c g).2 ∧
      ((removeS c g f).2.2 = false → (removeS c g f).2.1 = (remove c g).2) := by
  unfold removeS remove
  cases getGroupById c.disk g.pre with
  | none => exact ⟨⟨rfl, rfl, rfl⟩, fun _ => rfl⟩
  | some p =>
    dsimp only
    split
    · exact ⟨⟨rfl, rfl, rfl⟩, nofun⟩
    · exact ⟨⟨rfl, rfl, rfl⟩, fun _ => rfl⟩

theorem rmLoop_of_le {h t : Nat} (c : Chain) (ht : t ≤ h) : rmLoop h t c = c := by
  cases t with
  | zero => rfl
  | succ t => rw [rmLoop, if_neg (Nat.not_lt.mpr ht)]

/-- The loop cut by a panicking delete is the uncut loop down to a higher ancestor `h'`. The middle clause
    serves the induction: it gives `h' < t + 1` in the step. -/
theorem rmLoopS_cut (h : Nat) (f : SqlFault) : ∀ (t : Nat) (c : Chain),
    ∃ h', h ≤ h' ∧ (h' = h ∨ h' < t) ∧ SameCore (rmLoopS h f t c).1 (rmLoop h' t c) := by
  intro t
  induction t with
  | zero => intro c; exact ⟨h, Nat.le_refl h, .inl rfl, rfl, rfl, rfl⟩
  | succ t ih =>
    intro c
    rw [rmLoopS]
    by_cases hh : t + 1 > h
    · rw [if_pos hh]
      cases hg : getGroupByHeight c.disk (t + 1) with
      | none =>
        obtain ⟨h', h1, h2, h3⟩ := ih c
        have ht : h' < t + 1 := h2.elim (· ▸ hh) Nat.lt_succ_of_lt
        refine ⟨h', h1, h2.imp_right Nat.lt_succ_of_lt, ?_⟩
        rw [rmLoop, if_pos ht, hg]; exact h3
      | some g =>
        dsimp only
        obtain ⟨hc, hd⟩ := removeS_core c g f
        by_cases hp : (removeS c g f).2.2 = true
        · refine ⟨t, Nat.le_of_lt_succ hh, .inr (Nat.lt_succ_self t), ?_⟩
          rw [if_pos hp, rmLoop, if_pos (Nat.lt_succ_self t), hg]
          dsimp only
          rw [rmLoop_of_le _ (Nat.le_refl t)]; exact hc
        · obtain ⟨h', h1, h2, h3⟩ := ih (remove c g).2
          have ht : h' < t + 1 := h2.elim (· ▸ hh) Nat.lt_succ_of_lt
          refine ⟨h', h1, h2.imp_right Nat.lt_succ_of_lt, ?_⟩
          rw [if_neg hp, hd (Bool.eq_false_iff.mpr hp), rmLoop, if_pos ht, hg]; exact h3
    · exact ⟨h, Nat.le_refl h, .inl rfl, by rw [if_neg hh, rmLoop, if_neg hh]; exact ⟨rfl, rfl, rfl⟩⟩

end Rangers.Model.GroupChain
