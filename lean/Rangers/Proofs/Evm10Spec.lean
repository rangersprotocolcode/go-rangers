import Rangers.Model.Evm10Word
/-!
C10 — specification-side vocabulary (written from the Yellow Paper, independent of the
model, of which only the abbreviation `Word = BitVec 256` is taken) and the bridging lemmas to the
`BitVec` library notions used in the proofs.
-/
namespace Rangers.Proofs.Evm10
open Rangers Rangers.Model.Evm10 Rangers.Model.Evm10.U256

/-- The signed reading of a word: "treated as two's complement signed 256-bit integers"
(Yellow Paper, Appendix H.2, SDIV/SMOD/SLT/SGT/SAR). -/
def sval (x : Word) : Int :=
  if x.toNat < 2 ^ 255 then (x.toNat : Int) else (x.toNat : Int) - 2 ^ 256

theorem sval_eq_toInt (x : Word) : sval x = x.toInt := by
  unfold sval
  rw [BitVec.toInt_eq_toNat_cond]
  have : (2:Nat) ^ 256 = 2 * 2 ^ 255 := by omega
  by_cases h : x.toNat < 2 ^ 255
  · have h' : 2 * x.toNat < 2 ^ 256 := by omega
    simp [h, h']
  · have h' : ¬ 2 * x.toNat < 2 ^ 256 := by omega
    simp only [h, h', if_false]
    norm_cast

theorem sval_zero_iff (x : Word) : sval x = 0 ↔ x = 0#256 := by
  rw [sval_eq_toInt]
  constructor
  · intro h
    have := BitVec.toInt_inj.1 (show x.toInt = (0#256 : BitVec 256).toInt by simpa using h)
    exact this
  · intro h; subst h; simp

end Rangers.Proofs.Evm10
