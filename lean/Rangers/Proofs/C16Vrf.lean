import Mathlib.Tactic.Abel
import Mathlib.Algebra.Group.Basic
import Rangers.Model.Vrf
import Rangers.Proofs.C16Bytes
/-! Lemmas about `proveWith`/`verifyWith` for any interface that satisfies the group laws.

Trap: the import list is part of `Lawful`. Which Mathlib modules are loaded decides how `2 ^ 256` in
`L_le` elaborates (`Monoid.toNPow ℕ` or `instPowNat`), so dropping an import that no proof needs changes
the structure. -/
namespace Rangers.Proofs.C16Vrf
open Rangers Rangers.Model Rangers.Model.Vrf Rangers.Proofs.C16Bytes

/-- What the theorems assume of the interface: the operations are those of a
    commutative group written additively, `B := smulBase 1` and every
    hash-to-curve output are killed by `L`, and the point codec round-trips.
    For `ed25519Ops` this is the group law of edwards25519 (trusted base). -/
structure Lawful {P : Type} [AddCommGroup P] (o : Ops P) : Prop where
  sub_eq : ∀ a b, o.sub a b = a - b
  smul_eq : ∀ (k : Nat) a, o.smul k a = k • a
  smulBase_eq : ∀ k : Nat, o.smulBase k = k • o.smulBase 1
  L_pos : 0 < o.L
  L_le : o.L ≤ 2 ^ 256
  base_torsion : o.L • o.smulBase 1 = 0
  h2c_torsion : ∀ m pk, o.L • o.decodeLax (o.hashToCurve m pk) = 0
  encode_len : ∀ a, (o.encode a).length = 32
  hash_len : ∀ a b c d, (o.hashPoints a b c d).length = 16
  decode_encode : ∀ a, o.decodeStrict (o.encode a) = some a
  decodeLax_encode : ∀ a, o.decodeLax (o.encode a) = a

/-- The decision `ECVRFVerify` takes once the three slices are cut out. -/
def verifyParts {P : Type} (o : Ops P) (pk m gb cb sb : Bytes) : Except Err Bool :=
  match o.decodeStrict gb with
  | none => .error .decode
  | some gamma =>
    let c := leNat cb
    let s := leNat sb % o.L
    let hP := o.decodeLax (o.hashToCurve m pk)
    let y := o.decodeLax (VrfCurve.fit 32 pk)
    let u := o.sub (o.smulBase s) (o.smul c y)
    let v := o.sub (o.smul s hP) (o.smul c gamma)
    .ok (o.hashPoints hP gamma u v == cb)

theorem slices_of_len {pi : Bytes} (h : proveSize ≤ pi.length) :
    slices pi = some (pi.take 32, (pi.drop 32).take 16, (pi.drop 48).take 32) := by
  have : ¬ pi.length < proveSize := by omega
  simp [slices, this]

theorem verifyWith_eq_parts {P : Type} (o : Ops P) (pk pi m : Bytes) :
    verifyWith o pk pi m =
      verifyParts o pk m ((tryZeroPadding pi).take 32) (((tryZeroPadding pi).drop 32).take 16)
        (((tryZeroPadding pi).drop 48).take 32) := by
  unfold verifyWith verifyParts
  simp only [slices_of_len (pad_length_ge pi)]
  rfl

theorem verifyWith_transport {P : Type} (o : Ops P) (pk pi m : Bytes) (h : pi.length ≤ proveSize) :
    verifyWith o pk (ofBig (toBig pi)) m = verifyWith o pk pi m := by
  rw [verifyWith_eq_parts, verifyWith_eq_parts o pk pi, pad_ofBig_toBig_le pi h]

theorem verifyWith_append {P : Type} (o : Ops P) (pk m gb cb sb junk : Bytes)
    (hg : gb.length = 32) (hc : cb.length = 16) (hs : sb.length = 32) :
    verifyWith o pk (gb ++ cb ++ sb ++ junk) m = verifyParts o pk m gb cb sb := by
  rw [verifyWith_eq_parts]
  have hl : proveSize ≤ (gb ++ cb ++ sb ++ junk).length := by
    simp [proveSize, hg, hc, hs]; omega
  rw [pad_of_len_ge _ hl]
  have e1 : (gb ++ cb ++ sb ++ junk).take 32 = gb := by
    rw [List.append_assoc, List.append_assoc]
    exact List.take_left' hg
  have e2 : ((gb ++ cb ++ sb ++ junk).drop 32).take 16 = cb := by
    rw [List.append_assoc, List.append_assoc, List.drop_left' hg]
    exact List.take_left' hc
  have e3 : ((gb ++ cb ++ sb ++ junk).drop 48).take 32 = sb := by
    have : (gb ++ cb).length = 48 := by simp [hg, hc]
    rw [List.append_assoc (gb ++ cb), List.drop_left' this]
    exact List.take_left' hs
  rw [e1, e2, e3]

theorem verifyWith_three {P : Type} (o : Ops P) (pk m gb cb sb : Bytes)
    (hg : gb.length = 32) (hc : cb.length = 16) (hs : sb.length = 32) :
    verifyWith o pk (gb ++ cb ++ sb) m = verifyParts o pk m gb cb sb := by
  have h := verifyWith_append o pk m gb cb sb [] hg hc hs
  rwa [List.append_nil] at h

theorem leToNat_natToLE (n v : Nat) (h : v < 256 ^ n) :
    VrfCurve.leToNat (VrfCurve.natToLE n v) = v := by
  induction n generalizing v with
  | zero => simp [VrfCurve.natToLE, VrfCurve.leToNat] at *; omega
  | succ n ih =>
    have hv : v / 256 < 256 ^ n := by
      rw [Nat.pow_succ] at h
      exact Nat.div_lt_of_lt_mul (by rw [Nat.mul_comm]; exact h)
    have := ih (v / 256) hv
    simp only [VrfCurve.natToLE, VrfCurve.leToNat, List.foldr_cons] at *
    rw [this]
    have : (UInt8.ofNat (v % 256)).toNat = v % 256 := by
      simp [UInt8.toNat_ofNat']
    rw [this]
    omega

theorem natToLE_length (n v : Nat) : (VrfCurve.natToLE n v).length = n := by
  induction n generalizing v with
  | zero => simp [VrfCurve.natToLE]
  | succ n ih => simp [VrfCurve.natToLE, ih]

theorem fit_of_len (n : Nat) (bs : Bytes) (h : bs.length = n) : VrfCurve.fit n bs = bs := by
  subst h
  simp [VrfCurve.fit]

section Algebra
variable {P : Type} [AddCommGroup P]

/-- The verifier recomputes the prover's commitment. -/
theorem commit_recovered (L c x k : Nat) (A : P) (hA : L • A = 0) :
    ((c * x + k) % L) • A - c • (x • A) = k • A := by
  rw [← nsmul_eq_mod_nsmul _ hA, add_nsmul, mul_nsmul', add_sub_cancel_left]

end Algebra

/-- the point `H = hash_to_curve(m, pk)` both sides compute -/
def hPt {P : Type} (o : Ops P) (m pk : Bytes) : P := o.decodeLax (o.hashToCurve m pk)

/-- challenge for a commitment made with nonce `k` and a claimed `gamma` -/
def chal {P : Type} (o : Ops P) (m pk : Bytes) (gamma : P) (k : Nat) : Bytes :=
  o.hashPoints (hPt o m pk) gamma (o.smulBase k) (o.smul k (hPt o m pk))

/-- response `s = c·x + k mod L`, 32 bytes little endian -/
def respond {P : Type} (o : Ops P) (cb : Bytes) (x k : Nat) : Bytes :=
  natLE 32 ((leNat cb * x + k) % o.L)

theorem chal_length {P : Type} [AddCommGroup P] {o : Ops P} (law : Lawful o) (m pk : Bytes) (gamma : P)
    (k : Nat) : (chal o m pk gamma k).length = 16 := law.hash_len _ _ _ _

theorem respond_length {P : Type} (o : Ops P) (cb : Bytes) (x k : Nat) : (respond o cb x k).length = 32 :=
  natToLE_length _ _

/-- the proof `ECVRFProve` assembles from secret scalar `x` and nonce `k` -/
def honestProof {P : Type} (o : Ops P) (m pk : Bytes) (x k : Nat) : Bytes :=
  o.encode (o.smul x (hPt o m pk)) ++ chal o m pk (o.smul x (hPt o m pk)) k ++
    respond o (chal o m pk (o.smul x (hPt o m pk)) k) x k

theorem proveWith_ok {P : Type} {o : Ops P} {sk m pi : Bytes} (h : proveWith o sk m = .ok pi) :
    sk.length = 64 ∧
      pi = honestProof o m (sk.drop 32) (o.expandSecret sk).1
        (o.nonce (o.expandSecret sk).2 (o.hashToCurve m (sk.drop 32))) := by
  unfold proveWith at h
  split at h
  · cases h
  · rename_i hlen
    simp only [] at h
    split at h
    · cases h
    · injection h with h
      exact ⟨by simpa using hlen, h.symm⟩

/-- The two length facts and not `Lawful o`: `C16Sha.prove_length` applies this to `ed25519Ops`, where no `Lawful` is
    at hand. -/
theorem honestProof_length {P : Type} {o : Ops P} (henc : ∀ a, (o.encode a).length = 32)
    (hhash : ∀ a b c d, (o.hashPoints a b c d).length = 16) (m pk : Bytes) (x k : Nat) :
    (honestProof o m pk x k).length = proveSize := by
  simp [honestProof, chal, henc, hhash, respond_length, proveSize]

theorem leNat_respond {P : Type} [AddCommGroup P] (o : Ops P) (law : Lawful o) (cb : Bytes) (x k : Nat) :
    leNat (respond o cb x k) % o.L = (leNat cb * x + k) % o.L := by
  have hlt : (leNat cb * x + k) % o.L < 256 ^ 32 := by
    have h1 : (leNat cb * x + k) % o.L < o.L := Nat.mod_lt _ law.L_pos
    have h2 : o.L ≤ 2 ^ 256 := law.L_le
    have h3 : (256 : Nat) ^ 32 = 2 ^ 256 := by decide
    omega
  unfold leNat at hlt
  unfold respond leNat natLE
  rw [leToNat_natToLE 32 _ hlt, Nat.mod_mod]

/-- A prover who knows `x` may add to `x·H` any point `T` that the challenge
    annihilates: the proof still verifies. `T = 0` is the honest prover. -/
theorem verifyParts_shifted {P : Type} [AddCommGroup P] (o : Ops P) (law : Lawful o)
    (pk m : Bytes) (x k : Nat) (T : P)
    (hlen : pk.length = 32) (hpk : pk = o.encode (o.smulBase x))
    (hT : leNat (chal o m pk (o.smul x (hPt o m pk) + T) k) • T = 0) :
    verifyParts o pk m (o.encode (o.smul x (hPt o m pk) + T))
      (chal o m pk (o.smul x (hPt o m pk) + T) k)
      (respond o (chal o m pk (o.smul x (hPt o m pk) + T) k) x k) = .ok true := by
  unfold verifyParts
  rw [law.decode_encode]
  simp only []
  rw [leNat_respond o law, fit_of_len 32 pk hlen]
  have hy : o.decodeLax pk = o.smulBase x := by rw [hpk, law.decodeLax_encode]
  rw [hy]
  generalize hc : chal o m pk (o.smul x (hPt o m pk) + T) k = cb at hT ⊢
  have hU : o.sub (o.smulBase ((leNat cb * x + k) % o.L)) (o.smul (leNat cb) (o.smulBase x)) = o.smulBase k := by
    rw [law.sub_eq, law.smul_eq, law.smulBase_eq ((leNat cb * x + k) % o.L), law.smulBase_eq x, law.smulBase_eq k]
    exact commit_recovered o.L (leNat cb) x k _ law.base_torsion
  have hV : o.sub (o.smul ((leNat cb * x + k) % o.L) (o.decodeLax (o.hashToCurve m pk)))
      (o.smul (leNat cb) (o.smul x (hPt o m pk) + T)) = o.smul k (hPt o m pk) := by
    rw [law.sub_eq, law.smul_eq, law.smul_eq (leNat cb), law.smul_eq x, law.smul_eq k, nsmul_add, hT, add_zero]
    exact commit_recovered o.L (leNat cb) x k _ (law.h2c_torsion m pk)
  rw [hU, hV]
  have : o.hashPoints (o.decodeLax (o.hashToCurve m pk)) (o.smul x (hPt o m pk) + T) (o.smulBase k)
      (o.smul k (hPt o m pk)) = cb := hc
  rw [this]
  simp

theorem outputOf_append (gb cb sb : Bytes) (hg : gb.length = 32) (hc : cb.length = 16)
    (hs : sb.length = 32) : outputOf (gb ++ cb ++ sb) = gb := by
  unfold outputOf
  rw [pad_of_len_ge _ (by simp [proveSize, hg, hc, hs]), List.append_assoc]
  exact List.take_left' hg

end Rangers.Proofs.C16Vrf
