import Rangers.Proofs.MinerView
import Rangers.Proofs.MinerEnd
/-! C20, what the run theorems are stated in: the global invariant `Inv`, the conserved quantity `wealth` and the side conditions `TxSide` of a transaction; the fee
    keeps both; what `UpdateMiner` and `RemoveMiner` leave in the record slot. -/
namespace Rangers.Miner

/-- Encoded records are non-empty and decode (assumed of `encoding/json`). -/
def CodecSome (cfg : Cfg) : Prop := ∀ i : Info, i.typ < 256 → cfg.enc i ≠ [] ∧ (cfg.dec (cfg.enc i)).isSome

/-- What the run theorems carry from state to state (`inv_genesis`: an empty registry has it). `rk`: records sit under their
    own id in the registry of their type. `clean`: an id of `U` of which a registry has no record has stake 0 there. `pn`:
    the refund context lists each release height once. `a20`: the accounts in the escrow and in the refund context are
    20-byte addresses: for those `CheckAndMove` clears the very entry it pays out. -/
structure Inv (cfg : Cfg) (U : List Bytes) (st : State) : Prop where
  rk : RecKeyed cfg st
  clean : Clean cfg U st
  pn : (st.pending.map Prod.fst).Nodup
  a20 : A20 st

/-- liquid + locked (all registries, all ids of the universe) + recorded for refund + escrowed. -/
def wealth (cfg : Cfg) (U : List Bytes) (st : State) : Nat :=
  balTotal st + wei * stakeTotal cfg st U + pendingSum st.pending + escTotal st

/-- `DbId` has three values. `demo_runSide` (`Props/C20B`) decides the `∀ d` clause of `TxSide` with this. -/
instance (p : DbId → Prop) [DecidablePred p] : Decidable (∀ d, p d) :=
  if h1 : p .val then
    if h2 : p .prop then
      if h3 : p .zero then isTrue (by intro d; cases d <;> assumption)
      else isFalse (fun h => h3 (h _))
    else isFalse (fun h => h2 (h _))
  else isFalse (fun h => h1 (h _))

/-- The block's refund list for the release height is new, or already holds the account. -/
def noClash (st : State) (src : Bytes) : Bool :=
  match st.pending.lookup (st.height + refundDelay) with
  | none => true
  | some l => l.any (fun e => e.1 = src)

theorem noClash_lookup (st : State) (src : Bytes) (h : noClash st src = true) :
    ∀ l, st.pending.lookup (st.height + refundDelay) = some l → l.any (fun e => e.1 = src) = true := by
  intro l hl
  unfold noClash at h
  rw [hl] at h
  exact h

/-- Side conditions under which a transaction conserves: ids in the universe, the `float64`/`uint64`
    bounds, 20-byte refund account, and the refund context for the release height either new or
    already holding the account (otherwise the executor drops the entry). -/
def TxSide (cfg : Cfg) (U : List Bytes) (st : State) : Tx → Prop
  | .apply _ id _ stake _ _ _ => id ∈ U ∧ stake < 2 ^ 53
  | .add _ id delta => id ∈ U ∧ delta < 2 ^ 53 ∧ ∀ d, stakeAt cfg st d id + delta < 2 ^ 64
  | .refund src id _ => id ∈ U ∧ src.length = 20 ∧ noClash st src = true
  | .chacc _ id _ => id ∈ U
  | .bad _ _ => True

theorem inv_wealth_burn (cfg : Cfg) (U : List Bytes) (st st' : State) (burn : Nat) (hl : st'.live = st.live)
    (hb : balTotal st' + burn = balTotal st) (hp : st'.pending = st.pending) (he : st'.escrow = st.escrow) (hinv : Inv cfg U st) :
    Inv cfg U st' ∧ wealth cfg U st' + burn = wealth cfg U st := by
  refine ⟨⟨recKeyed_of_live cfg st st' hl hinv.rk, clean_of_live cfg U st st' hl hinv.clean, by rw [hp]; exact hinv.pn,
    by unfold A20; rw [he, hp]; exact hinv.a20⟩, ?_⟩
  unfold wealth
  rw [← hb, stakeTotal_of_live cfg U st st' hl, hp, escTotal_of_escrow st st' he, Nat.add_right_comm _ (escTotal _),
    Nat.add_right_comm _ (pendingSum _), Nat.add_right_comm _ (wei * _)]

theorem inv_wealth_congr (cfg : Cfg) (U : List Bytes) (st st' : State) (hl : st'.live = st.live) (hb : balTotal st' = balTotal st)
    (hp : st'.pending = st.pending) (he : st'.escrow = st.escrow) (hinv : Inv cfg U st) :
    Inv cfg U st' ∧ wealth cfg U st' = wealth cfg U st :=
  inv_wealth_burn cfg U st st' 0 hl hb hp he hinv

theorem inv_fee (cfg : Cfg) (U : List Bytes) (st st1 : State) (src : Bytes) (hinv : Inv cfg U st)
    (hf : processFee st src = some st1) : Inv cfg U st1 ∧ wealth cfg U st1 = wealth cfg U st :=
  have hl := processFee_live st st1 src hf
  inv_wealth_congr cfg U st st1 hl.1 (balTotal_processFee st st1 src hf) hl.2.2.1 hl.2.2.2.1 hinv

theorem dbOfType_of_minStake {t ms : Nat} (h : minStake t = some ms) : dbOfType t = .val ∨ dbOfType t = .prop := by
  unfold minStake at h
  by_cases h1 : t = typeProposer
  · right; rw [h1]; decide
  · by_cases h0 : t = typeValidator
    · left; rw [h0]; decide
    · rw [if_neg h1, if_neg h0] at h; cases h

theorem keys_ne (cfg : Cfg) (i : Bytes) (h : (keysOf cfg i).Nodup) :
    i ≠ cfg.H i ∧ i ≠ cfg.H (cfg.H i) ∧ i ≠ cfg.H (cfg.H (cfg.H i)) := by
  simp only [keysOf, List.nodup_cons, List.mem_cons, List.not_mem_nil, or_false, not_or] at h
  exact ⟨h.1.1, h.1.2.1, h.1.2.2⟩

theorem updateMiner_none_rec (cfg : Cfg) (st : State) (m : Miner) (hk : (keysOf cfg m.id).Nodup) (d : DbId) :
    ((updateMiner cfg st m none).live d).get m.id = (st.live d).get m.id := by
  obtain ⟨h1, h2, h3⟩ := keys_ne cfg m.id hk
  unfold updateMiner
  simp only [write_get, slotStake, slotAcct, slotStatus, h1, h2, h3, and_false, if_false]

theorem updateMiner_some_rec (cfg : Cfg) (st : State) (m : Miner) (info : Info) (hk : (keysOf cfg m.id).Nodup) :
    ((updateMiner cfg st m (some info)).live (dbOfType m.typ)).get m.id = cfg.enc info := by
  obtain ⟨h1, h2, h3⟩ := keys_ne cfg m.id hk
  unfold updateMiner
  simp only [write_get, slotStake, slotAcct, slotStatus, h1, h2, h3, and_false, if_false, true_and, if_true]

theorem removeMiner_target (cfg : Cfg) (st : State) (id acc : Bytes) (t l : Nat) (hk : (keysOf cfg id).Nodup)
    (hp : getMinerById cfg st (dbOfType t) id ≠ none) :
    getMinerById cfg (removeMiner cfg st id acc t l) (dbOfType t) id = none →
      stakeAt cfg (removeMiner cfg st id acc t l) (dbOfType t) id = 0 := by
  intro hnone
  have hs := stakeAt_removeMiner_self cfg st id acc t l (untouched_self cfg id hk)
  by_cases hc : l = 0 ∧ ¬ st.isContract (toAddr acc)
  · rw [hs, hc.1]
  · exfalso
    have he : removeMiner cfg st id acc t l =
        (st.write (dbOfType t) (slotStake cfg id) (u64be l)).write (dbOfType t) (slotStatus cfg id) [UInt8.ofNat statusAbort] := by
      unfold removeMiner; rw [if_neg hc]
    rw [he] at hnone
    obtain ⟨h1, _, h3⟩ := keys_ne cfg id hk
    refine present_of_rec cfg st _ (dbOfType t) id ?_ hp hnone
    simp only [write_get, slotStake, slotStatus, h1, h3, and_false, if_false]

end Rangers.Miner
