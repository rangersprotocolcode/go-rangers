import Rangers.Proofs.TrieLiveDefs
import Rangers.Proofs.TrieStore
import Rangers.Proofs.TrieCompact
import Rangers.Proofs.TrieWalk
/- Resolution of hash nodes; the induction along the walk of a key on the live side (`live_walk`), which `tryGet`, `insert` and
   `delete` on live tries share; `tryGet`. -/
namespace Rangers.Trie
open Rangers

theorem Stored.child_short {H : Bytes → Bytes} {st : Store} {k : Key} {v : Node} (h : Stored H st (.short k v)) :
    Stored H st v := fun e he => h e (storeOf_child_short H false k v e he)

theorem Stored.child_full {H : Bytes → Bytes} {st : Store} {cs : List Node} (h : Stored H st (.full cs))
    {c : Node} (hc : c ∈ cs) : Stored H st c := fun e he => h e (storeOf_child_full H false cs c hc e he)

theorem Stored.self {H : Bytes → Bytes} {st : Store} {t : Node} (h : Stored H st t) (hwf : WF t)
    (hbig : 32 ≤ (enc H t).length) : st.lookup (H (enc H t)) = some (collapse H t) :=
  h _ (self_mem_storeOf H false t hwf (Or.inr hbig))

/-- `hA` is `expandNode_collapse` at `t` -/
theorem expandNode_refOf {H : Bytes → Bytes} {st : Store} {t : Node} (hwf : WF t) (hst : Stored H st t)
    (hA : ∀ gen hh child, FlagOK H st child { hash := hh, gen := gen, dirty := false } t →
      ∃ l, expandNode gen hh (collapse H t) = some l ∧ AbsL H st child t l) :
    ∀ gen, ∃ l, expandNode gen none (refOf H t) = some l ∧ AbsR H st true t l := by
  intro gen
  rw [refOf_of_ne_nil H _ hwf.ne_nil]
  split
  · rename_i hsmall
    obtain ⟨l, hl, habs⟩ := hA gen none true (flagOK_embedded gen hst hsmall)
    exact ⟨l, hl, Or.inl habs⟩
  · rename_i hbig
    have hbig' : 32 ≤ (enc H t).length := by omega
    exact ⟨_, rfl, Or.inr ⟨rfl, hwf, fun _ => hbig', hst, hst.self hwf hbig'⟩⟩

theorem expandNode_collapse (H : Bytes → Bytes) (st : Store) : ∀ t, WF t → Stored H st t →
    ∀ gen hh child, FlagOK H st child { hash := hh, gen := gen, dirty := false } t →
      ∃ l, expandNode gen hh (collapse H t) = some l ∧ AbsL H st child t l := by
  apply WF_induct
  case leaf =>
    intro kk b hkk _ hst gen hh child hfl
    obtain ⟨n, rfl, hn⟩ := (validKey_iff kk).mp hkk
    rw [collapse_leaf]
    exact ⟨.short (n ++ [16]) (.value b) { hash := hh, gen := gen, dirty := false },
      by simp [expandNode, compact_roundtrip_term n hn], AbsL_short.mpr ⟨_, _, rfl, AbsR_value.mpr rfl, hfl⟩⟩
  case ext =>
    intro kk cs _ hnib hfull ih hst gen hh child hfl
    obtain ⟨l', hl', habs⟩ := expandNode_refOf hfull hst.child_short (ih hst.child_short) gen
    rw [collapse_ext]
    exact ⟨.short kk l' { hash := hh, gen := gen, dirty := false },
      by simp [expandNode, compact_roundtrip_nibs kk hnib, hl'], AbsL_short.mpr ⟨_, _, rfl, habs, hfl⟩⟩
  case full =>
    intro cs hwf ih hst gen hh child hfl
    have hlen := ((WF_full_iff cs).mp hwf).1
    rw [collapse_full H cs]
    have hkids : ∀ (xs : List Node), (∀ x ∈ xs, x = .nil ∨ (x ∈ cs ∧ WF x)) →
        ∃ ls, expandNodeL gen (xs.map (refOf H)) = some ls ∧ AbsLs H st xs ls := by
      intro xs
      induction xs with
      | nil => intro _; exact ⟨[], rfl, trivial⟩
      | cons x xs ihx =>
        intro hx
        obtain ⟨ls, hls, hpt⟩ := ihx (fun y hy => hx y (by simp [hy]))
        obtain ⟨l, hl, habs⟩ : ∃ l, expandNode gen none (refOf H x) = some l ∧ AbsR H st true x l := by
          rcases hx x (by simp) with rfl | ⟨hmem, hwfx⟩
          · exact ⟨.nil, rfl, AbsR_nil.mpr rfl⟩
          · exact expandNode_refOf hwfx (hst.child_full hmem) (ih x hmem hwfx (hst.child_full hmem)) gen
        exact ⟨l :: ls, by simp [expandNodeL, hl, hls], AbsLs_cons.mpr ⟨habs, hpt⟩⟩
    obtain ⟨ls, hls, hpt⟩ := hkids (cs.take 16) (WF_full_kids hwf)
    have hslot : AbsLs H st [cs[16]?.getD .nil]
        [if (valueBytes (cs[16]?.getD .nil)).isEmpty then LNode.nil else .value (valueBytes (cs[16]?.getD .nil))] := by
      rcases WF_full_value hwf with h | ⟨b, hb, hbne⟩
      · rw [h]; exact AbsLs_cons.mpr ⟨AbsR_nil.mpr rfl, trivial⟩
      · rw [hb]
        simp only [valueBytes, List.isEmpty_eq_false_iff.mpr hbne]
        exact AbsLs_cons.mpr ⟨AbsR_value.mpr rfl, trivial⟩
    have hall := AbsLs_append hpt hslot
    rw [← full_eq_kids_append hlen] at hall
    exact ⟨_, by simp only [expandNode, hls, Option.map_some], AbsL_full.mpr ⟨_, _, rfl, hall, hfl⟩⟩

theorem resolve_hashOf {H : Bytes → Bytes} {st : Store} {child : Bool} {t : Node} {l : LNode}
    (h : HashOf H st child t l) (gen : Nat) :
    ∃ l', resolveHash st gen (H (enc H t)) = some l' ∧ AbsL H st child t l' := by
  obtain ⟨_, hwf, hbig, hst, hlk⟩ := h
  have hfl : FlagOK H st child { hash := some (H (enc H t)), gen := gen, dirty := false } t := by
    refine ⟨fun x hx => ?_, fun _ => ⟨hst, hlk⟩⟩
    simp only [Option.some.injEq] at hx
    subst hx
    exact ⟨rfl, hbig⟩
  obtain ⟨l', hl', habs⟩ := expandNode_collapse H st t hwf hst gen _ child hfl
  exact ⟨l', by simp [resolveHash, hlk, hl'], habs⟩

theorem FlagOK.setGen {H : Bytes → Bytes} {st : Store} {child : Bool} {fl : Flag} {t : Node} (g : Nat)
    (h : FlagOK H st child fl t) : FlagOK H st child { fl with gen := g } t := h

theorem Walk.key_ne_nil {t : Node} {key : Key} (w : Walk t key) (hwf : WF t) : key ≠ [] := by
  cases w with
  | nil => exact absurd hwf not_WF_nil
  | value b _ => exact absurd hwf (not_WF_value b)
  | miss => simp
  | ext kk v r _ hne => simp [hne]
  | slot => simp

/-- induction along the walk of a key on the live side: an unloaded node is resolved first (one unit of fuel), then the
    loaded node is taken apart (one more), and the child the key goes on to is related again; `2 * |key| + 2` suffices -/
theorem live_walk {H : Bytes → Bytes} {st : Store} (gen : Nat) {P : Node → Key → Bool → LNode → Nat → Prop}
    (hash : ∀ {t key child h l1 f}, key ≠ [] → resolveHash st gen h = some l1 → AbsL H st child t l1 →
      P t key child l1 f → P t key child (.hash h) (f + 1))
    (nil : ∀ key child f, P .nil key child .nil (f + 1))
    (value : ∀ b child f, P (.value b) [] child (.value b) (f + 1))
    (miss : ∀ p {a} kA {b} kB {v child lv fl} f, a ≠ b → a < 17 → b < 17 →
      AbsL H st child (.short (p ++ a :: kA) v) (.short (p ++ a :: kA) lv fl) → AbsR H st true v lv →
      P (.short (p ++ a :: kA) v) (p ++ b :: kB) child (.short (p ++ a :: kA) lv fl) (f + 1))
    (ext : ∀ {kk v} r {child lv fl f}, kk ≠ [] → AbsL H st child (.short kk v) (.short kk lv fl) →
      FlagOK H st child fl (.short kk v) → P v r true lv f → P (.short kk v) (kk ++ r) child (.short kk lv fl) (f + 1))
    (slot : ∀ {cs i} r {child lcs fl f}, i < cs.length → AbsL H st child (.full cs) (.full lcs fl) → AbsLs H st cs lcs →
      FlagOK H st child fl (.full cs) → P (cs[i]?.getD .nil) r true (lcs.getD i .nil) f →
      P (.full cs) (i :: r) child (.full lcs fl) (f + 1))
    {t : Node} {key : Key} (w : Walk t key) :
    ∀ child l f, AbsR H st child t l → 2 * key.length + 2 ≤ f → P t key child l f := by
  have lift : ∀ {t key}, Walk t key → (∀ child l f, AbsL H st child t l → 2 * key.length + 1 ≤ f → P t key child l f) →
      ∀ child l f, AbsR H st child t l → 2 * key.length + 2 ≤ f → P t key child l f := by
    intro t key w hL child l f habs hf
    rcases habs with hl | hh
    · exact hL child l f hl (by omega)
    · obtain ⟨l1, hres, hl1⟩ := resolve_hashOf hh gen
      obtain ⟨f', rfl, hf'⟩ := fuel_succ hf
      rw [hh.1]
      exact hash (w.key_ne_nil hh.2.1) hres hl1 (hL child l1 f' hl1 hf')
  refine lift w ?_
  induction w with
  | nil key =>
    intro child l f hl hf
    obtain ⟨f', rfl, -⟩ := fuel_succ hf
    rw [AbsL_nil.mp hl]; exact nil key child f'
  | value b _ =>
    intro child l f hl hf
    obtain ⟨f', rfl, -⟩ := fuel_succ hf
    rw [AbsL_value.mp hl]; exact value b child f'
  | miss p a kA b kB v _ _ hab ha hb =>
    intro child l f hl hf
    obtain ⟨lv, fl, rfl, hv, hfl⟩ := AbsL_short.mp hl
    obtain ⟨f', rfl, -⟩ := fuel_succ hf
    exact miss p kA kB f' hab ha hb hl hv
  | ext kk v r _ hne _ w ih =>
    intro child l f hl hf
    obtain ⟨lv, fl, rfl, hv, hfl⟩ := AbsL_short.mp hl
    obtain ⟨f', rfl, hf'⟩ := fuel_succ hf
    have := List.length_pos_iff.mpr hne
    rw [List.length_append] at hf'
    exact ext r hne hl hfl (lift w ih true lv f' hv (by omega))
  | slot cs i r hwf hi _ w ih =>
    intro child l f hl hf
    obtain ⟨lcs, fl, rfl, hls, hfl⟩ := AbsL_full.mp hl
    obtain ⟨f', rfl, hf'⟩ := fuel_succ hf
    have hi : i < cs.length := by rw [((WF_full_iff cs).mp hwf).1]; exact hi
    rw [List.length_cons] at hf'
    exact slot r hi hl hls hfl (lift w ih true _ f' (hls.getD hi) (by omega))

theorem getL_refines (H : Bytes → Bytes) (st : Store) (gen : Nat) {t : Node} {key : Key} (w : Walk t key) :
    ∀ child l f, AbsR H st child t l → 2 * key.length + 2 ≤ f →
      ∃ l' dr, getL st gen f l key = some (get t key, l', dr) ∧ AbsR H st child t l' := by
  refine live_walk gen (P := fun t key child l f =>
    ∃ l' dr, getL st gen f l key = some (get t key, l', dr) ∧ AbsR H st child t l') ?hash ?nil ?value ?miss ?ext ?slot w
  case hash =>
    intro t key child h l1 f _ hres _ ⟨l2, dr, hg, habs2⟩
    exact ⟨l2, true, by simp [getL, hres, hg], habs2⟩
  case nil =>
    intro key child f
    exact ⟨.nil, false, by simp [getL], AbsR_nil.mpr rfl⟩
  case value =>
    intro b child f
    exact ⟨_, false, by simp [getL], AbsR_value.mpr rfl⟩
  case miss =>
    intro p a kA b kB v child lv fl f hab _ _ hl _
    have hp := not_prefix_of_diverge p kA kB hab
    rw [get_short, if_neg hp]
    simp only [getL, prefix_cond_iff, if_neg hp]
    exact ⟨_, false, rfl, Or.inl hl⟩
  case ext =>
    intro kk v r child lv fl f _ hl hfl ⟨l2, dr, hg, habs2⟩
    have hp := List.prefix_append kk r
    rw [get_short, if_pos hp, List.drop_left]
    simp only [getL, prefix_cond_iff, if_pos hp, List.drop_left]
    rw [hg]
    cases dr with
    | false => exact ⟨_, false, by simp, Or.inl hl⟩
    | true => exact ⟨_, true, by simp, Or.inl (AbsL_short.mpr ⟨l2, _, rfl, habs2, hfl.setGen gen⟩)⟩
  case slot =>
    intro cs i r child lcs fl f hi hl hls hfl ⟨l2, dr, hg, habs2⟩
    have hil : i < lcs.length := hls.length_eq ▸ hi
    rw [get_full_cons]
    simp only [getL, hil, if_true]
    rw [hg]
    cases dr with
    | false => exact ⟨_, false, by simp, Or.inl hl⟩
    | true =>
      refine ⟨_, true, by simp, Or.inl (AbsL_full.mpr ⟨lcs.set i l2, _, rfl, ?_, hfl.setGen gen⟩)⟩
      have := hls.set i habs2
      rwa [set_getD_self] at this

end Rangers.Trie
