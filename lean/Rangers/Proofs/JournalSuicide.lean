import Rangers.Proofs.JournalSteps
/-! `Rev` for `Suicide`, at the relation of the observations (`SimP ObjSim False`), under the side condition that the
balance slot holds canonical (minimal big-endian) bytes — without it `suicideChange.undo` rewrites the slot (known finding).
In front: the projections of `disarm`, `setSui`, `setSlot` (`JournalUndo`) as `simp` lemmas; `revAt_suicideCore` compares
objects built from the three, field by field. -/
namespace Rangers.Proofs.Journal
open Rangers Rangers.Model.Journal

theorem resolveNew_inmap {x : ADB} {a : Addr} {o : Obj} (h : mget x.objs a = some o) (hd : o.deleted = false) :
    resolveNew x a = (x, some o) := by simp [resolveNew, h, hd]

theorem mget_putObj (x : ADB) (a b : Addr) (o : Obj) :
    mget (putObj x a o).objs b = if a = b then some o else mget x.objs b := by
  simp [putObj, mget_mset]

@[simp] theorem disarm_nonce (o : Obj) : (disarm o).nonce = o.nonce := rfl
@[simp] theorem disarm_codeHash (o : Obj) : (disarm o).codeHash = o.codeHash := rfl
@[simp] theorem disarm_suicided (o : Obj) : (disarm o).suicided = o.suicided := rfl
@[simp] theorem disarm_deleted (o : Obj) : (disarm o).deleted = o.deleted := rfl
@[simp] theorem disarm_get (o : Obj) (k : Key) : (disarm o).get k = o.get k := rfl
@[simp] theorem disarm_codeOf (cs) (o : Obj) : codeOf cs (disarm o) = codeOf cs o := rfl
@[simp] theorem setSui_nonce (o : Obj) (b : Bool) : (setSui o b).nonce = o.nonce := rfl
@[simp] theorem setSui_codeHash (o : Obj) (b : Bool) : (setSui o b).codeHash = o.codeHash := rfl
@[simp] theorem setSui_suicided (o : Obj) (b : Bool) : (setSui o b).suicided = b := rfl
@[simp] theorem setSui_deleted (o : Obj) (b : Bool) : (setSui o b).deleted = o.deleted := rfl
@[simp] theorem setSui_get (o : Obj) (b : Bool) (k : Key) : (setSui o b).get k = o.get k := rfl
@[simp] theorem setSui_codeOf (cs) (o : Obj) (b : Bool) : codeOf cs (setSui o b) = codeOf cs o := rfl
@[simp] theorem setSlot_nonce (o : Obj) (k : Key) (v : Val) : (setSlot o k v).nonce = o.nonce := rfl
@[simp] theorem setSlot_codeHash (o : Obj) (k : Key) (v : Val) : (setSlot o k v).codeHash = o.codeHash := rfl
@[simp] theorem setSlot_suicided (o : Obj) (k : Key) (v : Val) : (setSlot o k v).suicided = o.suicided := rfl
@[simp] theorem setSlot_deleted (o : Obj) (k : Key) (v : Val) : (setSlot o k v).deleted = o.deleted := rfl
@[simp] theorem setSlot_codeOf (cs) (o : Obj) (k : Key) (v : Val) : codeOf cs (setSlot o k v) = codeOf cs o := rfl

section
variable (c : Cfg)

/-- the part of `Suicide` after `GetBalance`: journal entry, flag, zero the balance slot.  Forward and undo are four
    updates of the view, `a` and the token contract in turn; `a` may be the token contract itself -/
theorem revAt_suicideCore {x : ADB} {a : Addr} {o3 ot : Obj} {bal : Nat} (ha : At x a o3) (ht : At x c.tok ot)
    (hcanon : ot.get (c.balKey a) = natToBE bal) :
    JournalG.Rev c (SimP ObjSim False) x
      (setBalanceRaw c (markDirty { x with journal := x.journal ++ [Entry.suicide a o3.suicided bal] } a (setSui o3 true)) a 0) := by
  generalize hx1 : markDirty { x with journal := x.journal ++ [Entry.suicide a o3.suicided bal] } a (setSui o3 true) = x1
  have u1 : Upd x x1 a (disarm (setSui o3 true)) :=
    hx1 ▸ (Upd.markDirty _ a (x := setSui o3 true) ha.nodel).of_res rfl (.inner x) (res_congr rfl rfl)
  have f1 : x1.journal = x.journal ++ [Entry.suicide a o3.suicided bal] ∧ x1.revisions = x.revisions ∧ x1.nextRev = x.nextRev := by
    rw [← hx1, markDirty_fields]; exact ⟨rfl, rfl, rfl⟩
  obtain ⟨u2, _, f2⟩ := setBalanceRaw_live c a 0 (u1.live_at ht.res)
  refine .of_eq _ rfl ha.live [Entry.suicide a o3.suicided bal] (by rw [f2]; exact f1.1) (by rw [f2]; exact f1.2.1)
    (by rw [f2]; exact f1.2.2) fun hc => ?_
  rw [undoAll_singleton]
  obtain ⟨m, em, u3, _⟩ := undo_suicide_live c hc (u2.live_at u1.live) o3.suicided bal
  rw [em]
  obtain ⟨u4, _, _⟩ := setBalanceRaw_live c a bal (u3.live_at u2.live)
  have F : Frame (setBalanceRaw c m a bal) x := u4.frame.trans (u3.frame.trans (u2.frame.trans u1.frame))
  refine ⟨u4.crashed.trans (u3.crashed.trans (u2.crashed.trans u1.crashed)), fun _ => ⟨F, fun b => ?_, False.elim⟩⟩
  rw [u4.res_eq b, u3.res_eq b, u2.res_eq b, u1.res_eq b, F.codes]
  -- the balance slot was zeroed and written back with the value recorded, which is what `GetData` answered: `objSim_slot`
  by_cases hat : a = c.tok
  · -- one object plays both roles
    subst hat
    obtain rfl : o3 = ot := by have := ha.cached; rw [ht.cached] at this; exact (Option.some.inj this).symm
    simp only [↓reduceIte]
    by_cases hb : c.tok = b
    · subst hb
      rw [if_pos rfl, ha.res]
      refine .live ⟨by simp, by simp, by simp, fun k' => ?_, by simp⟩
      simp only [disarm_get, setSui_get, get_setSlot]
      by_cases hk : c.balKey c.tok = k'
      · subst hk; simp [hcanon]
      · simp [hk]
    · simp only [hb, if_false]; exact .refl (ObjSim.refl _) _
  · simp only [if_neg hat, if_neg (Ne.symm hat)]
    by_cases hb : c.tok = b
    · subst hb
      rw [if_pos rfl, ht.res, ← hcanon]
      exact .live (objSim_slot _ ot _ _)
    · simp only [hb, if_false]
      by_cases hab : a = b
      · subst hab
        rw [if_pos rfl, ha.res]
        exact .live ⟨by simp, by simp, by simp, fun _ => by simp, by simp⟩
      · simp only [hab, if_false]; exact .refl (ObjSim.refl _) _

theorem resolveNew_objs_ne (s : ADB) {p b : Addr} (h : p ≠ b) : mget (resolveNew s p).1.objs b = mget s.objs b := by
  unfold resolveNew
  split
  · split <;> rfl
  · split
    · exact mget_mset_ne _ _ h
    · exact mget_mset_ne _ _ h

theorem getBalance_objs {s1 : ADB} (a : Addr) {a' : Addr} {o : Obj} (h : At s1 a' o) (hnc : (getBalance c s1 a).1.crashed = false) :
    ∃ o3, At (getBalance c s1 a).1 a' o3 ∧ o3.suicided = o.suicided := by
  revert hnc
  unfold getBalance
  rw [if_neg (by simp [h.live])]
  split
  next s1' hrn => exact fun hnc => by cases hnc
  next s1' otk hrn =>
    intro _
    obtain ⟨hat, _⟩ := resolveNew_some hrn h.live
    show ∃ o3, At (readAt s1' c.tok (c.balKey a)).1 a' o3 ∧ _
    by_cases hta : c.tok = a'
    · subst hta
      -- the token contract itself: it was already cached, so resolveNew returned it unchanged
      rw [resolveNew_inmap h.cached h.nodel] at hrn
      simp only [Prod.mk.injEq, Option.some.injEq] at hrn
      obtain ⟨rfl, rfl⟩ := hrn
      exact ⟨_, hat.readAt _, by rw [Obj.read_fst_other]⟩
    · -- other addresses are untouched by resolveNew on the token contract
      have hkeep := resolveNew_objs_ne s1 hta
      rw [hrn] at hkeep
      rw [(readAt_eq (c.balKey a) hat.cached).1]
      exact ⟨o, ⟨hat.live, by rw [mget_putObj, if_neg hta]; exact hkeep.trans h.cached, h.nodel⟩, rfl⟩

/-- the balance slot of `a` holds minimal big-endian bytes when `Suicide(a)` reads it -/
def SuicideOk (s : ADB) (a : Addr) : Prop :=
  match mget (getBalance c (resolve s a).1 a).1.objs c.tok with
  | some ot => ot.get (c.balKey a) = natToBE (beToNat (ot.get (c.balKey a)))
  | none => True

instance (s : ADB) (a : Addr) : Decidable (SuicideOk c s a) := by
  unfold SuicideOk; split <;> infer_instance

theorem revAt_suicide (s : ADB) (a : Addr) (hok : SuicideOk c s a) : JournalG.Rev c (SimP ObjSim False) s (suicide c s a).1 := by
  have hR := relOk_SimP closed_objSim c
  by_cases hs : s.crashed = true
  · rw [suicide, if_pos hs]; exact .refl hR s
  rw [suicide, if_neg hs]
  split
  next s1 hrn => exact congrArg Prod.fst hrn ▸ JournalG.revAt_resolve closed_objSim c s a
  next s1 o hrn =>
    refine .afterResolve closed_objSim c hs hrn fun hat _ => ?_
    obtain ⟨h1, post⟩ := JournalG.revAt_getBalance JournalG.absorbs_objSim c s1 a False.elim
    have hkeep := getBalance_objs c a hat
    split
    next s2 bal hgb =>
    simp only [hgb] at h1 post hkeep
    split
    · exact h1
    next hc =>
    have hc : s2.crashed = false := by simpa using hc
    obtain ⟨ot, _, htok, hbal⟩ := post hc
    obtain ⟨o3, ha3, hsu⟩ := hkeep hc
    simp only [SuicideOk, hrn, hgb, htok.cached] at hok
    simp only [ha3.cached]
    rw [← hsu]
    exact h1.trans hR (revAt_suicideCore c ha3 htok (by rw [hbal, ← Obj.read_fst_get ot (c.balKey a) (c.balKey a)]; exact hok))

end
end Rangers.Proofs.Journal
