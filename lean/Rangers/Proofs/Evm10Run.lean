import Rangers.Proofs.Evm10Step
/-!
C10 — composition: a run over pure stack instructions (arithmetic, comparison, bitwise, shifts,
PUSH/DUP/SWAP/POP/JUMPDEST) is the fold of the per-opcode word functions over the decoded code.
-/
namespace Rangers.Proofs.Evm10
open Rangers Rangers.Model.Evm10 Rangers.Model.Evm10.U256

theorem applyPure_facts {e : Exec} {code : Bytes} {pc : Nat} {st st' : List Word}
    (h : applyPure e code pc st = some st') : expectedMem e = .none ∧ isOther e = false := by
  cases e <;> first | exact ⟨rfl, rfl⟩ | cases h

theorem step_pure {H : Bytes → Bytes} {t : Table} {p : GasParams} {f f' : Frame}
    (ht : tableOK t = true) (hs : step H t p f = .next f') {info : OpInfo}
    (hget : t.get (getOp f.code f.pc) = some info) (hj : info.jumps = false) {st' : List Word}
    (hp : applyPure info.exec f.code f.pc f.stack = some st') :
    f'.stack = st' ∧ f'.pc = f.pc + 1 + pushWidth info.exec ∧ f'.mem = f.mem ∧ f'.code = f.code := by
  obtain ⟨info', gas2, last, ms, f1, res, hget', _, _, hms, hex, rfl⟩ := step_next_decomp hs
  obtain rfl : info = info' := Option.some.inj (hget.symm.trans hget')
  obtain ⟨hmem, hoth⟩ := applyPure_facts hp
  have hme : info.memSize = .none := by
    rcases slotOK_cases (slotOK_of_get ht hget) with ⟨h, _⟩ | ⟨_, h, _⟩
    · rw [hoth] at h; cases h
    · rw [h, hmem]
  obtain rfl : ms = 0 := by
    rcases hms with ⟨_, h0⟩ | ⟨sz, h1, _⟩
    · exact h0
    · rw [hme] at h1; cases h1
  rw [execOp_pure H info.exec (preExec f gas2 last 0) st' hp] at hex
  injection hex with h1 _
  subst h1
  rw [postExec_eq, hj]
  exact ⟨rfl, Nat.add_right_comm _ _ _, rfl, rfl⟩

/-- `k` interpreter steps that continue -/
inductive StepsTo (H : Bytes → Bytes) (t : Table) (p : GasParams) : Nat → Frame → Frame → Prop
  | zero (f : Frame) : StepsTo H t p 0 f f
  | succ {k : Nat} {f f1 f2 : Frame} : step H t p f = .next f1 → StepsTo H t p k f1 f2 →
      StepsTo H t p (k + 1) f f2

/-- the specification-side fold: decode the instruction at `pc` through the table, apply its
word function to the stack, move to the next instruction; `none` as soon as an instruction is
not a pure stack instruction (or lacks operands) -/
def specFold (t : Table) (code : Bytes) : Nat → Nat → List Word → Option (Nat × List Word)
  | 0, pc, st => some (pc, st)
  | k + 1, pc, st =>
    match t.get (getOp code pc) with
    | some info =>
      if info.jumps then none
      else
        match applyPure info.exec code pc st with
        | some st' => specFold t code k (pc + 1 + pushWidth info.exec) st'
        | none => none
    | none => none

theorem stepsTo_specFold {H : Bytes → Bytes} {t : Table} {p : GasParams} (ht : tableOK t = true)
    {k : Nat} {f fk : Frame} (hst : StepsTo H t p k f fk) :
    ∀ r, specFold t f.code k f.pc f.stack = some r →
      fk.pc = r.1 ∧ fk.stack = r.2 ∧ fk.mem = f.mem ∧ fk.code = f.code := by
  induction hst with
  | zero f => intro r h; simp [specFold] at h; subst h; exact ⟨rfl, rfl, rfl, rfl⟩
  | @succ k f f1 f2 hs _ ih =>
    intro r h
    simp only [specFold] at h
    split at h
    · rename_i info hget
      split at h
      · simp at h
      · rename_i hj
        split at h
        · rename_i st' hp
          have hj' : info.jumps = false := by simpa using hj
          obtain ⟨a, b, c, d⟩ := step_pure ht hs hget hj' hp
          have := ih r (by rw [d, b, a]; exact h)
          obtain ⟨x, y, z, w⟩ := this
          exact ⟨x, y, by rw [z, c], by rw [w, d]⟩
        · simp at h
    · simp at h

/-- executable form of `StepsTo` (for concrete examples) -/
def iterSteps (H : Bytes → Bytes) (t : Table) (p : GasParams) : Nat → Frame → Option Frame
  | 0, f => some f
  | k + 1, f => match step H t p f with
    | .next f1 => iterSteps H t p k f1
    | _ => none

theorem stepsTo_of_iter {H : Bytes → Bytes} {t : Table} {p : GasParams} :
    ∀ (k : Nat) (f fk : Frame), iterSteps H t p k f = some fk → StepsTo H t p k f fk := by
  intro k
  induction k with
  | zero => intro f fk h; simp [iterSteps] at h; subst h; exact StepsTo.zero f
  | succ k ih =>
    intro f fk h
    simp only [iterSteps] at h
    split at h
    · rename_i f1 hs
      exact StepsTo.succ hs (ih f1 fk h)
    · simp at h

theorem run_of_stepsTo {H : Bytes → Bytes} {t : Table} {p : GasParams} {k : Nat} {f fk : Frame}
    (hst : StepsTo H t p k f fk) (n : Nat) : run H t p (k + n) f = run H t p n fk := by
  induction hst with
  | zero f => simp
  | @succ k f f1 f2 hs _ ih =>
    have : k + 1 + n = (k + n) + 1 := by omega
    rw [this, run, hs]
    exact ih

end Rangers.Proofs.Evm10
