import Mathlib.Algebra.Polynomial.Eval.Defs
import Mathlib.Algebra.Polynomial.Degree.Lemmas
import Mathlib.Algebra.Polynomial.BigOperators
import Mathlib.Data.ZMod.Basic
import Rangers.Model.Shamir
/-! Sharing side: `ShareSeckey` is the evaluation in `ZMod r` of `polyOf` of its coefficient list (`shareSeckey_spec`).
    `Sharing` is the one thing the recovery side is told about what was dealt. -/
namespace Rangers.Proofs.C13
open Polynomial Rangers.Model.Shamir

variable {F : Type} [CommRing F]

noncomputable def polyOf : List F → F[X]
  | [] => 0
  | c :: cs => C c + X * polyOf cs

@[simp] theorem polyOf_nil : polyOf ([] : List F) = 0 := rfl
@[simp] theorem polyOf_cons (c : F) (cs : List F) : polyOf (c :: cs) = C c + X * polyOf cs := rfl

theorem eval_polyOf_cons (x c : F) (cs : List F) :
    (polyOf (c :: cs)).eval x = c + x * (polyOf cs).eval x := by simp

theorem coeff_polyOf (cs : List F) (n : Nat) : (polyOf cs).coeff n = cs.getD n 0 := by
  induction cs generalizing n with
  | nil => simp
  | cons c cs ih =>
    cases n with
    | zero => simp
    | succ n => simp [coeff_C_succ, ih]

theorem degree_polyOf_lt (cs : List F) : (polyOf cs).degree < cs.length := by
  rw [degree_lt_iff_coeff_zero]
  intro m hm
  rw [coeff_polyOf]
  have : cs.length ≤ m := by exact_mod_cast hm
  simp [List.getD, List.getElem?_eq_none this]

theorem eval_zero_polyOf (cs : List F) : (polyOf cs).eval 0 = cs.headD 0 := by
  cases cs <;> simp

theorem eval_polyOf_append (x : F) (l l' : List F) :
    (polyOf (l ++ l')).eval x = (polyOf l).eval x + x ^ l.length * (polyOf l').eval x := by
  induction l with
  | nil => simp
  | cons c cs ih => simp [ih, pow_succ]; ring

def castList (r : Nat) (cs : List Nat) : List (ZMod r) := List.map (Nat.cast : Nat → ZMod r) cs

theorem eval_zero_polyOf_castList (r : Nat) (cs : List Nat) :
    (polyOf (castList r cs)).eval 0 = ((cs.headD 0 : Nat) : ZMod r) := by
  rw [eval_zero_polyOf]; cases cs <;> simp [castList]

theorem degree_polyOf_castList_lt (r : Nat) (cs : List Nat) (k : Nat) (h : cs.length ≤ k) :
    (polyOf (castList r cs)).degree < k :=
  lt_of_lt_of_le (degree_polyOf_lt _) (by rw [castList, List.length_map]; exact_mod_cast h)

/-- The loop of `ShareSeckey`, from the top coefficient `a` down, read as a fold from the right: that is
    `polyOf`'s own recursion (stated for `foldl` with an accumulator it would need a factor `x ^ length`). -/
theorem horner_foldr (r x a : Nat) (l : List Nat) :
    ((l.foldr (fun c acc => (acc * x + c) % r) a : Nat) : ZMod r) =
      (polyOf (castList r (l ++ [a]))).eval (x : ZMod r) := by
  induction l with
  | nil => simp [castList]
  | cons c l ih =>
    rw [List.foldr_cons, ZMod.natCast_mod, Nat.cast_add, Nat.cast_mul, ih]
    simp only [castList, List.cons_append, List.map_cons, eval_polyOf_cons]
    ring

theorem shareSeckey_spec (r : Nat) (cs : List Nat) (x : Nat) (h : cs ≠ []) :
    ∃ v, shareSeckey r cs x = some v ∧ (v : ZMod r) = (polyOf (castList r cs)).eval (x : ZMod r) ∧ (0 < r → v < r) := by
  unfold shareSeckey
  split
  · rename_i hrev; exact absurd (List.reverse_eq_nil_iff.1 hrev) h
  · rename_i top rest hrev
    refine ⟨_, rfl, ?_, Nat.mod_lt _⟩
    rw [ZMod.natCast_mod, ← List.reverse_reverse cs, hrev, List.reverse_cons, ← horner_foldr, List.foldr_reverse]

theorem shareSeckey_eq_getD (r : Nat) (cs : List Nat) (x : Nat) (h : cs ≠ []) :
    shareSeckey r cs x = some ((shareSeckey r cs x).getD 0) := by
  obtain ⟨v, hv, -⟩ := shareSeckey_spec r cs x h
  rw [hv]; rfl

theorem shareSeckey_getD_eval (r : Nat) (cs : List Nat) (hcs : cs ≠ []) (x : Nat) :
    (((shareSeckey r cs x).getD 0 : Nat) : ZMod r) = (polyOf (castList r cs)).eval (x : ZMod r) := by
  obtain ⟨v, hv, he, -⟩ := shareSeckey_spec r cs x hcs
  rw [hv]; exact he

theorem mapM_eq_some_map {α β : Type} (f : α → Option β) (g : α → β) : ∀ (l : List α),
    (∀ a ∈ l, f a = some (g a)) → l.mapM f = some (l.map g)
  | [], _ => rfl
  | a :: l, h => by
    rw [List.mapM_cons, h a List.mem_cons_self, mapM_eq_some_map f g l fun b hb => h b (List.mem_cons_of_mem _ hb)]
    rfl

/-- `s` shares `g0` with threshold `k` modulo `r`: read in `ZMod r`, the shares `s x` are the values of one
    polynomial of degree `< k`, and `g0` is its value at `0`. -/
def Sharing (r k : Nat) (s : Nat → Nat) (g0 : Nat) : Prop :=
  ∃ f : (ZMod r)[X], f.degree < k ∧ (∀ x : Nat, (s x : ZMod r) = f.eval (x : ZMod r)) ∧ (g0 : ZMod r) = f.eval 0

theorem sharing_shareSeckey (r : Nat) (cs : List Nat) (hcs : cs ≠ []) (k : Nat) (hk : cs.length ≤ k) :
    Sharing r k (fun x => (shareSeckey r cs x).getD 0) (cs.headD 0) :=
  ⟨_, degree_polyOf_castList_lt r cs k hk, shareSeckey_getD_eval r cs hcs, (eval_zero_polyOf_castList r cs).symm⟩

end Rangers.Proofs.C13
