import Rangers.Proofs.RLPTypedRT
/-! Lossless direction for the typed coders: `decT` reads back what `encT` wrote (`typed_complete`).
    Not the converse of `typed_sound`: that speaks of the types without `rlp:"nil"` (`Ty.plain`), this
    of the values `WFV` admits, and the answer is the value up to `norm`. -/
namespace Rangers.RLP
open Rangers

theorem decT_nil_not_ok {f : Nat} {ty : Ty} {v : Val} {rest : Bytes} : decT f ty [] ≠ .ok (v, rest) := by
  intro h
  have := decT_shorter h
  simp at this

theorem wfv_raw {b : Bytes} (h : WFV .raw (.bytes b)) : ∃ k c, b = frame k c ∧ Framed k c := by
  obtain ⟨k, ts, cs, hk, hl⟩ := h
  have := cut_ok_iff.1 (show cut b = .ok (k, (b.drop ts).take cs, b.drop (ts + cs)) by unfold cut; rw [hk]; rfl)
  rw [hl, List.drop_length, List.append_nil] at this
  exact ⟨k, _, this⟩

theorem frame_append_ne_nil {k : Kind} {c : Bytes} (h : Framed k c) (rest : Bytes) : frame k c ++ rest ≠ [] := by
  intro he
  have := (frame_length h).1
  rw [List.append_eq_nil_iff.1 he |>.1] at this
  cases this

theorem encElems_cons_ok {e : Ty} {v : Val} {vs : List Val} {p : Bytes} (h : encElems e (v :: vs) = .ok p) :
    ∃ a p', encT e v = .ok a ∧ encElems e vs = .ok p' ∧ p = a ++ p' := by
  rw [encElems_cons] at h
  obtain ⟨a, ha, h⟩ := bind_ok_iff.1 h
  obtain ⟨p', hp, h⟩ := bind_ok_iff.1 h
  cases h
  exact ⟨a, p', ha, hp, rfl⟩

theorem encFields_cons_ok {tag : Tag} {ty : Ty} {fs : List (Tag × Ty)} {v : Val} {vs : List Val} {p : Bytes}
    (ht : tag ≠ .tail) (h : encFields ((tag, ty) :: fs) (v :: vs) = .ok p) :
    ∃ a p', encT ty v = .ok a ∧ encFields fs vs = .ok p' ∧ p = a ++ p' := by
  rw [encFields_cons ht] at h
  obtain ⟨a, ha, h⟩ := bind_ok_iff.1 h
  obtain ⟨p', hp, h⟩ := bind_ok_iff.1 h
  cases h
  exact ⟨a, p', ha, hp, rfl⟩

theorem decElems_step {f : Nat} {e : Ty} {c rest : Bytes} {v : Val} (h : decT f e c = .ok (v, rest)) :
    decElems (f + 1) e c = (decElems f e rest).bind fun vs => .ok (v :: vs) := by
  cases c with
  | nil => exact absurd h decT_nil_not_ok
  | cons x xs => rw [decElems_cons, h]; rfl

theorem decArr_step {f n : Nat} {e : Ty} {c rest : Bytes} {v : Val} (h : decT f e c = .ok (v, rest)) :
    decArr (f + 1) e (n + 1) c = (decArr f e n rest).bind fun vs => .ok (v :: vs) := by
  cases c with
  | nil => exact absurd h decT_nil_not_ok
  | cons x xs => rw [decArr_cons, h]; rfl

theorem decFields_step {f : Nat} {ty : Ty} {fs : List (Tag × Ty)} {c rest : Bytes} {v : Val}
    (h : decT f ty c = .ok (v, rest)) :
    decFields (f + 1) ((.none, ty) :: fs) c = (decFields f fs rest).bind fun vs => .ok (v :: vs) := by
  cases c with
  | nil => exact absurd h decT_nil_not_ok
  | cons x xs => rw [decFields_none, h]; rfl

def CompleteAt (f : Nat) : Prop :=
  (∀ ty v enc rest, WFV ty v → encT ty v = .ok enc → vfuel v + anyExtra ty ≤ f →
      decT f ty (enc ++ rest) = .ok (norm ty v, rest)) ∧
  (∀ e vs p, WFVs e vs → encElems e vs = .ok p → efuel vs ≤ f → decElems f e p = .ok (normL e vs)) ∧
  (∀ e vs p, WFVs e vs → encElems e vs = .ok p → efuel vs ≤ f → decArr f e vs.length p = .ok (normL e vs)) ∧
  (∀ fs vs p, WFF fs vs → encFields fs vs = .ok p → efuel vs ≤ f → decFields f fs p = .ok (normF fs vs))

theorem complete_zero : CompleteAt 0 := by
  refine ⟨?_, ?_, ?_, ?_⟩
  · intro ty v enc rest _ _ hf; have := vfuel_pos v; omega
  · intro e vs p _ _ hf; have := efuel_pos vs; omega
  · intro e vs p _ _ hf; have := efuel_pos vs; omega
  · intro fs vs p _ _ hf; have := efuel_pos vs; omega

theorem leaf_complete {ty : Ty} (hl : ty.leaf = true) {v : Val} {enc : Bytes} (rest : Bytes) (f : Nat)
    (hwf : WFV ty v) (henc : encT ty v = .ok enc) : decT (f + 1) ty (enc ++ rest) = .ok (norm ty v, rest) := by
  cases ty with
  | uint bits =>
    cases v with
    | num n =>
      rw [encT_uint, if_pos hwf.2] at henc
      cases henc
      rw [decT_uint, uintOf_complete bits n rest hwf.1 hwf.2]
      rfl
    | _ => cases hwf
  | big =>
    have hbig : ∀ n, (toBE n).length < 2 ^ 64 →
        decT (f + 1) .big (encString (toBE n) ++ rest) = .ok (.num n, rest) := by
      intro n hn
      rw [decT_big, bytesOf_ok_iff.2 ⟨rfl, hn⟩]
      show (bigOfContent (toBE n)).bind _ = _
      rw [(bigOfContent_ok_iff _ n).2 rfl]
      rfl
    cases v with
    | num n => cases henc; rw [encBig_eq_encString]; exact hbig n hwf
    | nil => cases henc; exact hbig 0 (by decide)
    | _ => cases hwf
  | bool =>
    cases v with
    | bool b =>
      cases henc
      rw [decT_bool]
      cases b with
      | true => exact congrArg (Except.bind · _) (uintOf_complete 8 1 rest (Or.inl rfl) (by decide))
      | false => exact congrArg (Except.bind · _) (uintOf_complete 8 0 rest (Or.inl rfl) (by decide))
    | _ => cases hwf
  | str =>
    cases v with
    | bytes b => cases henc; rw [decT_str, bytesOf_ok_iff.2 ⟨rfl, hwf⟩]; rfl
    | _ => cases hwf
  | bytes =>
    cases v with
    | bytes b => cases henc; rw [decT_bytes, bytesOf_ok_iff.2 ⟨rfl, hwf⟩]; rfl
    | _ => cases hwf
  | barr n =>
    cases v with
    | bytes b =>
      obtain ⟨hlen, hn⟩ := hwf
      rw [encT_barr, if_pos hlen] at henc
      cases henc
      exact decT_barr_ok_iff.2 ⟨b, bytesOf_ok_iff.2 ⟨rfl, by omega⟩, hlen, rfl⟩
    | _ => cases hwf
  | raw =>
    cases v with
    | bytes b =>
      obtain ⟨k, c, rfl, hf⟩ := wfv_raw hwf
      cases henc
      exact decT_raw_ok_iff.2 ⟨k, c, rfl, hf, rfl⟩
    | _ => cases hwf
  | _ => cases hl

theorem complete_succ_T {f : Nat} (ih : CompleteAt f) :
    ∀ ty v enc rest, WFV ty v → encT ty v = .ok enc → vfuel v + anyExtra ty ≤ f + 1 →
      decT (f + 1) ty (enc ++ rest) = .ok (norm ty v, rest) := by
  obtain ⟨ihT, ihE, ihA, ihF⟩ := ih
  intro ty v enc rest hwf henc hf
  cases ty with
  | any =>
    simp only [anyExtra] at hf
    -- `decodeInterface` looks at the kind and hands the same buffer to the slice or the bytes decoder
    have hany : ∀ {k : Kind} {c : Bytes} {ty' : Ty} {w : Val}, Framed k c → (k = .list → ty' = .slice .any) →
        (k ≠ .list → ty' = .bytes) → decT f ty' (frame k c ++ rest) = .ok (w, rest) →
        decT (f + 1) .any (frame k c ++ rest) = .ok (w, rest) := by
      intro k c ty' w hfr h1 h2 hd
      rw [decT_any, cut_ok_iff.2 ⟨rfl, hfr⟩]
      cases k with
      | list => rw [← h1 rfl]; exact hd
      | byte | string => rw [← h2 nofun]; exact hd
    cases v with
    | bytes b =>
      cases henc
      obtain ⟨k, hk, hfr, _, he⟩ := encString_frame hwf
      have hb := ihT .bytes (.bytes b) (encString b) rest hwf rfl (by simp only [vfuel, anyExtra] at hf ⊢; omega)
      rw [he] at hb ⊢
      exact hany hfr (fun h => absurd h hk) (fun _ => rfl) hb
    | list vs =>
      have hb := ihT (.slice .any) (.list vs) enc rest hwf henc (by simp only [anyExtra] at hf ⊢; omega)
      obtain ⟨p, hp, h⟩ := bind_ok_iff.1 ((encT_slice .any vs).symm.trans henc)
      cases h
      exact hany (k := .list) (.of_ne nofun (hwf.2 p hp)) (fun _ => rfl) (fun h => absurd rfl h) hb
    | nil =>
      cases henc
      have hb := ihT (.slice .any) (.list []) [0xc0] rest ⟨trivial, fun p hp => by cases hp; decide⟩ rfl
        (by simp only [vfuel, efuel, anyExtra] at hf ⊢; omega)
      exact hany (k := .list) (c := []) (.of_ne nofun (by decide)) (fun _ => rfl) (fun h => absurd rfl h) hb
    | _ => cases hwf
  | slice e =>
    cases v with
    | list vs =>
      rw [encT_slice] at henc
      obtain ⟨p, hp, h⟩ := bind_ok_iff.1 henc
      cases h
      rw [decT_slice]
      exact onList_ok_iff.2 ⟨p, _, rfl, hwf.2 p hp,
        ihE e vs p hwf.1 hp (by simp only [vfuel, anyExtra] at hf; omega), rfl⟩
    | _ => cases hwf
  | arr n e =>
    cases v with
    | list vs =>
      obtain ⟨hlen, hw, hpay⟩ := hwf
      rw [encT_arr, if_pos hlen] at henc
      obtain ⟨p, hp, h⟩ := bind_ok_iff.1 henc
      cases h
      rw [decT_arr, ← hlen]
      exact onList_ok_iff.2 ⟨p, _, rfl, hpay p hp, ihA e vs p hw hp (by simp only [vfuel, anyExtra] at hf; omega), rfl⟩
    | _ => cases hwf
  | struct fs =>
    cases v with
    | list vs =>
      rw [encT_struct] at henc
      obtain ⟨p, hp, h⟩ := bind_ok_iff.1 henc
      cases h
      rw [decT_struct]
      exact onList_ok_iff.2 ⟨p, _, rfl, hwf.2 p hp,
        ihF fs vs p hwf.1 hp (by simp only [vfuel, anyExtra] at hf; omega), rfl⟩
    | _ => cases hwf
  | ptr e =>
    have hax := anyExtra_le e
    cases v with
    | some v' =>
      rw [encT_ptr_some] at henc
      rw [decT_ptr, ihT e v' enc rest hwf henc (by simp only [vfuel, anyExtra] at hf; omega)]
      rfl
    | nil =>
      cases henc
      obtain ⟨h1, h2, h3, h4⟩ := nil_as_zero hwf.1 hwf.2
      rw [decT_ptr, ihT e (zeroVal e) (nilEnc e) rest h1 h2 (by simp only [vfuel, anyExtra] at hf; omega), h3]
      rfl
    | _ => cases hwf
  | _ => exact leaf_complete rfl rest f hwf henc

theorem complete_succ_E {f : Nat} (ih : CompleteAt f) :
    ∀ e vs p, WFVs e vs → encElems e vs = .ok p → efuel vs ≤ f + 1 → decElems (f + 1) e p = .ok (normL e vs) := by
  obtain ⟨ihT, ihE, _, _⟩ := ih
  intro e vs p hwf henc hf
  cases vs with
  | nil => cases henc; rfl
  | cons v vs' =>
    obtain ⟨a, p', ha, hp, rfl⟩ := encElems_cons_ok henc
    simp only [efuel] at hf
    have hax := anyExtra_le e
    rw [decElems_step (ihT e v a p' hwf.1 ha (by omega)), ihE e vs' p' hwf.2 hp (by omega)]
    rfl

theorem complete_succ_A {f : Nat} (ih : CompleteAt f) :
    ∀ e vs p, WFVs e vs → encElems e vs = .ok p → efuel vs ≤ f + 1 → decArr (f + 1) e vs.length p = .ok (normL e vs) := by
  obtain ⟨ihT, _, ihA, _⟩ := ih
  intro e vs p hwf henc hf
  cases vs with
  | nil => cases henc; rfl
  | cons v vs' =>
    obtain ⟨a, p', ha, hp, rfl⟩ := encElems_cons_ok henc
    simp only [efuel] at hf
    have hax := anyExtra_le e
    rw [List.length_cons, decArr_step (ihT e v a p' hwf.1 ha (by omega)), ihA e vs' p' hwf.2 hp (by omega)]
    rfl

theorem complete_succ_F {f : Nat} (ih : CompleteAt f) :
    ∀ fs vs p, WFF fs vs → encFields fs vs = .ok p → efuel vs ≤ f + 1 → decFields (f + 1) fs p = .ok (normF fs vs) := by
  obtain ⟨ihT, ihE, _, ihF⟩ := ih
  intro fs vs p hwf henc hf
  cases fs with
  | nil =>
    cases vs with
    | nil => cases henc; rfl
    | cons _ _ => cases hwf
  | cons fld fs' =>
    obtain ⟨tag, ty⟩ := fld
    cases tag with
    | none =>
      cases vs with
      | nil => cases hwf
      | cons v vs' =>
        obtain ⟨a, p', ha, hp, rfl⟩ := encFields_cons_ok (tag := .none) nofun henc
        simp only [efuel] at hf
        have hax := anyExtra_le ty
        rw [decFields_step (ihT ty v a p' hwf.1 ha (by omega)), ihF fs' vs' p' hwf.2 hp (by omega)]
        rfl
    | tail =>
      cases ty with
      | slice e =>
        cases fs' with
        | nil =>
          cases vs with
          | nil => cases hwf
          | cons v vs' =>
            cases vs' with
            | cons _ _ => cases v <;> exact hwf.elim
            | nil =>
              cases v with
              | list ws =>
                rw [encFields_tail] at henc
                simp only [efuel, vfuel] at hf
                rw [decFields_tail, ihE e ws p hwf henc (by omega)]
                rfl
              | _ => exact hwf.elim
        | cons _ _ => cases vs <;> exact hwf.elim
      | _ => cases vs <;> exact hwf.elim
    | nilOK =>
      cases ty with
      | ptr e =>
        cases vs with
        | nil => exact hwf.elim
        | cons v vs' =>
          simp only [efuel] at hf
          obtain ⟨a, p', ha, hp, rfl⟩ := encFields_cons_ok (tag := .nilOK) nofun henc
          cases v with
          | nil =>
            have h2 := ihF fs' vs' p' hwf.2 hp (by omega)
            -- `nilEnc e` is the empty string or the empty list
            have hk : ∃ k, k ≠ .byte ∧ a = frame k [] := by
              cases ha
              rcases hwf.1 with he | he
              · exact ⟨.string, nofun, he⟩
              · exact ⟨.list, nofun, he⟩
            obtain ⟨k, hkb, rfl⟩ := hk
            have hfr : Framed k [] := .of_ne hkb (by decide)
            rw [decFields_nilOK _ _ _ (frame_append_ne_nil hfr p'), cut_ok_iff.2 ⟨rfl, hfr⟩]
            show (if ([] = [] ∧ k ≠ .byte) then _ else _) = _
            rw [if_pos ⟨rfl, hkb⟩]
            show (decFields f fs' p').bind _ = _
            rw [h2]
            rfl
          | some v' =>
            obtain ⟨hw, hne, hwr⟩ := hwf
            simp only [vfuel] at hf
            have hax := anyExtra_le e
            have h1 := ihT e v' a p' hw ha (by omega)
            have h2 := ihF fs' vs' p' hwr hp (by omega)
            -- the element's encoding is one framed value, and not an empty string or list
            obtain ⟨k, c, hb, hfr⟩ := decT_consumes _ _ _ _ _ h1
            have hcond : ¬ (c = [] ∧ k ≠ .byte) := by
              rintro ⟨rfl, hkb⟩
              have hak : a = frame k [] := List.append_cancel_right hb
              cases k with
              | byte => exact hkb rfl
              | string => exact (hne a ha).1 hak
              | list => exact (hne a ha).2 hak
            rw [hb] at h1 ⊢
            rw [decFields_nilOK _ _ _ (frame_append_ne_nil hfr p'), cut_ok_iff.2 ⟨rfl, hfr⟩]
            show (if (c = [] ∧ k ≠ .byte) then _ else _) = _
            rw [if_neg hcond, h1]
            show (decFields f fs' p').bind _ = _
            rw [h2]
            rfl
          | _ => exact hwf.elim
      | _ => cases vs <;> exact hwf.elim

theorem typed_complete : ∀ f, CompleteAt f := by
  intro f
  induction f with
  | zero => exact complete_zero
  | succ f ih => exact ⟨complete_succ_T ih, complete_succ_E ih, complete_succ_A ih, complete_succ_F ih⟩

end Rangers.RLP
