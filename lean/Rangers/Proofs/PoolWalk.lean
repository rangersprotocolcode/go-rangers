import Rangers.Model.Pool
/-! Lemmas about the nonce walk (`checkNonce`). -/
namespace Rangers.Pool

theorem nmGet_nmSet_same (m : NonceMap) (s : Bytes) (v : Nat) : nmGet (nmSet m s v) s = some v := by
  induction m with
  | nil => simp [nmSet, nmGet]
  | cons p r ih =>
    obtain ⟨k, w⟩ := p
    by_cases hk : k = s
    · simp [nmSet, nmGet, hk]
    · simp [nmSet, nmGet, hk, ih]

theorem nmGet_nmSet_other (m : NonceMap) {s s' : Bytes} (v : Nat) (h : s' ≠ s) : nmGet (nmSet m s v) s' = nmGet m s' := by
  induction m with
  | nil => simp [nmSet, nmGet, Ne.symm h]
  | cons p r ih =>
    obtain ⟨k, w⟩ := p
    by_cases hk : k = s
    · subst hk; simp [nmSet, nmGet, Ne.symm h]
    · by_cases hk' : k = s'
      · subst hk'; simp [nmSet, nmGet, h]
      · simp [nmSet, nmGet, hk, hk', ih]

theorem expectedOf_set_same (σ : Nat → Nat) (m : NonceMap) (s : Bytes) (v : Nat) :
    expectedOf σ (nmSet m s v) s = v := by simp [expectedOf, nmGet_nmSet_same]

theorem expectedOf_set_other (σ : Nat → Nat) (m : NonceMap) {s s' : Bytes} (v : Nat) (h : s' ≠ s) :
    expectedOf σ (nmSet m s v) s' = expectedOf σ m s' := by simp [expectedOf, nmGet_nmSet_other m v h]

theorem expectedOf_set_self (σ : Nat → Nat) (m : NonceMap) (s s' : Bytes) :
    expectedOf σ (nmSet m s (expectedOf σ m s)) s' = expectedOf σ m s' := by
  by_cases h : s' = s
  · subst h; rw [expectedOf_set_same]
  · rw [expectedOf_set_other σ m _ h]

theorem walk_nil (σ : Nat → Nat) (k : Nat) (m : NonceMap) : walk σ k m [] = [] := by
  cases k <;> rfl

theorem walk_cons (σ : Nat → Nat) (k : Nat) (m : NonceMap) (t : Tx) (ts : List Tx) : ∃ m',
    (∀ s, expectedOf σ m' s =
      if t.req = 0 ∧ t.src = s ∧ t.nonce = expectedOf σ m s then (expectedOf σ m s + 1) % u64 else expectedOf σ m s) ∧
    ((t.req = 0 ∧ expectedOf σ m t.src < t.nonce ∧ walk σ (k + 1) m (t :: ts) = walk σ (k + 1) m' ts) ∨
     ((t.req = 0 → t.nonce ≤ expectedOf σ m t.src) ∧ walk σ (k + 1) m (t :: ts) = t :: walk σ k m' ts)) := by
  rw [walk]
  by_cases h0 : t.req = 0
  · rw [if_pos h0]
    by_cases hlt : expectedOf σ m t.src < t.nonce
    · refine ⟨_, fun s => ?_, Or.inl ⟨h0, hlt, if_pos hlt⟩⟩
      rw [expectedOf_set_self, if_neg]
      rintro ⟨_, rfl, e⟩; exact Nat.ne_of_gt hlt e
    · by_cases heq : expectedOf σ m t.src = t.nonce
      · refine ⟨nmSet (nmSet m t.src (expectedOf σ m t.src)) t.src ((expectedOf σ m t.src + 1) % u64), fun s => ?_,
          Or.inr ⟨fun _ => Nat.le_of_not_lt hlt, by rw [if_neg hlt, if_pos heq]⟩⟩
        by_cases hs : t.src = s
        · subst hs; rw [expectedOf_set_same, if_pos ⟨h0, rfl, heq.symm⟩]
        · rw [expectedOf_set_other _ _ _ (Ne.symm hs), expectedOf_set_self, if_neg (fun h => hs h.2.1)]
      · refine ⟨nmSet m t.src (expectedOf σ m t.src), fun s => ?_,
          Or.inr ⟨fun _ => Nat.le_of_not_lt hlt, by rw [if_neg hlt, if_neg heq]⟩⟩
        rw [expectedOf_set_self, if_neg]
        rintro ⟨_, rfl, e⟩; exact heq e.symm
  · exact ⟨m, fun s => (if_neg (fun h => h0 h.1)).symm, Or.inr ⟨fun h => absurd h h0, if_neg h0⟩⟩

theorem walk_sublist (σ : Nat → Nat) : ∀ (l : List Tx) (k : Nat) (m : NonceMap), (walk σ k m l).Sublist l
  | [], k, m => by rw [walk_nil]; exact List.Sublist.slnil
  | t :: ts, 0, m => List.nil_sublist _
  | t :: ts, k + 1, m => by
    obtain ⟨m', _, ⟨_, _, e⟩ | ⟨_, e⟩⟩ := walk_cons σ k m t ts
    · rw [e]; exact (walk_sublist σ ts _ _).cons _
    · rw [e]; exact (walk_sublist σ ts _ _).cons_cons _

theorem walk_length_le (σ : Nat → Nat) : ∀ (l : List Tx) (k : Nat) (m : NonceMap), (walk σ k m l).length ≤ k
  | [], k, m => by rw [walk_nil]; exact Nat.zero_le _
  | t :: ts, 0, m => Nat.le_refl _
  | t :: ts, k + 1, m => by
    obtain ⟨m', _, ⟨_, _, e⟩ | ⟨_, e⟩⟩ := walk_cons σ k m t ts
    · rw [e]; exact walk_length_le σ ts _ _
    · rw [e]; exact Nat.succ_le_succ (walk_length_le σ ts _ _)

/-- the nonce the walk expects of sender `s` once it has placed `pre`, starting from the expectation `e`: one up (in
`uint64`) for each nonce-checked transaction of `s` in `pre` that carried the nonce expected at its turn -/
def expAfter (s : Bytes) : Nat → List Tx → Nat
  | e, [] => e
  | e, t :: ts =>
    if t.req = 0 ∧ t.src = s then
      if t.nonce = e then expAfter s ((e + 1) % u64) ts else expAfter s e ts
    else expAfter s e ts

/-- how many transactions of `pre` moved that expectation -/
def inSeqCount (s : Bytes) : Nat → List Tx → Nat
  | _, [] => 0
  | e, t :: ts =>
    if t.req = 0 ∧ t.src = s then
      if t.nonce = e then 1 + inSeqCount s ((e + 1) % u64) ts else inSeqCount s e ts
    else inSeqCount s e ts

theorem expAfter_le (s : Bytes) : ∀ (pre : List Tx) (e : Nat), expAfter s e pre ≤ e + inSeqCount s e pre
  | [], e => Nat.le_refl _
  | t :: ts, e => by
    rw [expAfter, inSeqCount]
    by_cases h1 : t.req = 0 ∧ t.src = s
    · rw [if_pos h1, if_pos h1]
      by_cases h2 : t.nonce = e
      · rw [if_pos h2, if_pos h2, ← Nat.add_assoc]
        exact Nat.le_trans (expAfter_le s ts _) (Nat.add_le_add_right (Nat.mod_le _ _) _)
      · rw [if_neg h2, if_neg h2]; exact expAfter_le s ts e
    · rw [if_neg h1, if_neg h1]; exact expAfter_le s ts e

theorem expAfter_cons (s : Bytes) (e : Nat) (t : Tx) (ts : List Tx) :
    expAfter s e (t :: ts) = expAfter s (if t.req = 0 ∧ t.src = s ∧ t.nonce = e then (e + 1) % u64 else e) ts := by
  rw [expAfter]
  by_cases h1 : t.req = 0 ∧ t.src = s
  · rw [if_pos h1]
    by_cases h2 : t.nonce = e
    · rw [if_pos h2, if_pos ⟨h1.1, h1.2, h2⟩]
    · rw [if_neg h2, if_neg (fun h => h2 h.2.2)]
  · rw [if_neg h1, if_neg (fun h => h1 ⟨h.1, h.2.1⟩)]

theorem walk_not_ahead (σ : Nat → Nat) :
    ∀ (l : List Tx) (k : Nat) (m : NonceMap) (pre post : List Tx) (t : Tx),
      walk σ k m l = pre ++ t :: post → t.req = 0 → t.nonce ≤ expAfter t.src (expectedOf σ m t.src) pre
  | [], k, m, pre, post, t, h, _ => by
    rw [walk_nil] at h
    exact absurd h.symm (List.append_ne_nil_of_right_ne_nil _ (List.cons_ne_nil _ _))
  | t0 :: ts, 0, m, pre, post, t, h, _ => absurd h.symm (List.append_ne_nil_of_right_ne_nil _ (List.cons_ne_nil _ _))
  | t0 :: ts, k + 1, m, pre, post, t, h, ht => by
    obtain ⟨m', hm', ⟨_, hlt, e⟩ | ⟨hle, e⟩⟩ := walk_cons σ k m t0 ts
    · have ih := walk_not_ahead σ ts _ m' pre post t (e ▸ h) ht
      rw [hm', if_neg] at ih
      · exact ih
      · rintro ⟨_, hs, e'⟩; rw [← hs] at e'; exact Nat.ne_of_gt hlt e'
    · rw [e] at h
      cases pre with
      | nil => obtain ⟨rfl, _⟩ := List.cons.inj h; exact hle ht
      | cons p pre' =>
        obtain ⟨rfl, h'⟩ := List.cons.inj h
        have ih := walk_not_ahead σ ts k m' pre' post t h' ht
        rw [hm'] at ih
        rw [expAfter_cons]; exact ih

end Rangers.Pool
