import Rangers.Model.TxAuthBase
import Rangers.Props.C08
/-!
The RLP layer of C07 on top of C08's theorems: the payload codec of a wrapped Ethereum
transaction is `RLP.decodeBytes` / `RLP.encode` (lossless and canonical by
`Props.C08.decodeBytes_encode`, `decodeBytes_canonical`) plus the typing `txOfItem`, whose
integer fields are canonical by `Props.C08.integers_canonical` / `big_integers_canonical`.
-/
namespace Rangers.Model.TxAuth
open Rangers Rangers.RLP

theorem okOpt_eq_some {α : Type} {x : Except Err α} {a : α} : okOpt x = some a ↔ x = .ok a := by
  cases x with
  | error _ => exact ⟨nofun, nofun⟩
  | ok b => exact ⟨fun h => congrArg _ (Option.some.inj h), fun h => congrArg _ (Except.ok.inj h)⟩

theorem okOpt_uint_iff (c : Bytes) (n : Nat) :
    okOpt (uintOfContent 64 c) = some n ↔ c = toBE n ∧ n < 2 ^ 64 := by
  rw [okOpt_eq_some, Props.C08.integers_canonical]
  exact ⟨fun ⟨hc, hl⟩ => ⟨hc, lt_of_toBE_len (hc ▸ hl)⟩, fun ⟨hc, hn⟩ => ⟨hc, hc ▸ toBE_len_64 hn⟩⟩

theorem okOpt_big_iff (c : Bytes) (n : Nat) : okOpt (bigOfContent c) = some n ↔ c = toBE n :=
  okOpt_eq_some.trans (Props.C08.big_integers_canonical c n)

/-- what a payload produced by an Ethereum wallet satisfies: 64-bit nonce and gas,
    20-byte recipient (or none), all payload sizes below 2^64 -/
structure WfEthTx (e : EthTx) : Prop where
  nonce : e.nonce < 2 ^ 64
  gas : e.gas < 2 ^ 64
  to : ∀ a, e.to = some a → a.length = 20
  size : (itemOfTx e).sizeOK

/-- the second item the typing maps to a contract creation: recipient written as the empty *list* -/
def itemOfTxAlt (e : EthTx) : Item :=
  .list [.str (toBE e.nonce), .str (toBE e.price), .str (toBE e.gas), .list [],
         .str (toBE e.value), .str e.data, .str (toBE e.v), .str (toBE e.r), .str (toBE e.s)]

/-- the nine items of `eth_tx.txdata` with the recipient item left open: `itemOfTx e` is
    `txItem e (toItem e.to)`, `itemOfTxAlt e` is `txItem e (.list [])` -/
def txItem (e : EthTx) (to : Item) : Item :=
  .list [.str (toBE e.nonce), .str (toBE e.price), .str (toBE e.gas), to,
         .str (toBE e.value), .str e.data, .str (toBE e.v), .str (toBE e.r), .str (toBE e.s)]

theorem toOfItem_eq_some_iff (it : Item) (to : Option Bytes) :
    toOfItem it = some to ↔
      (it = toItem to ∧ ∀ a, to = some a → a.length = 20) ∨ (it = .list [] ∧ to = none) := by
  fun_cases toOfItem it
  · -- the empty string reads as no recipient
    constructor
    · intro h
      cases h
      exact Or.inl ⟨rfl, nofun⟩
    · rintro (⟨h, hl⟩ | ⟨h, _⟩)
      · cases to with
        | none => rfl
        | some b =>
          cases h
          exact absurd (hl _ rfl) (by decide)
      · cases h
  · -- so does the empty list
    constructor
    · intro h
      cases h
      exact Or.inr ⟨rfl, rfl⟩
    · rintro (⟨h, _⟩ | ⟨_, h⟩)
      · cases to
        · cases h
        · cases h
      · rw [h]
  · -- a non-empty string of 20 bytes is the recipient
    rename_i a hne hl
    constructor
    · intro h
      cases h
      refine Or.inl ⟨rfl, fun b hb => ?_⟩
      cases hb
      exact hl
    · rintro (⟨h, _⟩ | ⟨h, _⟩)
      · cases to with
        | none =>
          cases h
          exact absurd rfl hne
        | some b =>
          cases h
          rfl
      · cases h
  · -- a non-empty string of another length is refused
    rename_i a hne hl
    refine ⟨nofun, ?_⟩
    rintro (⟨h, hl'⟩ | ⟨h, _⟩)
    · cases to with
      | none =>
        cases h
        exact absurd rfl hne
      | some b =>
        cases h
        exact absurd (hl' _ rfl) hl
    · cases h
  · -- and so is a non-empty list
    rename_i xs hne
    refine ⟨nofun, ?_⟩
    rintro (⟨h, _⟩ | ⟨h, _⟩)
    · cases to
      · cases h
      · cases h
    · cases h
      exact absurd rfl hne

/-- The typing of the nine items, read backwards: the integers are canonical (C08), so the item
    is determined by the transaction up to the spelling of the recipient. -/
theorem txOfItem_eq_some_iff (it : Item) (e : EthTx) :
    txOfItem it = some e ↔
      e.nonce < 2 ^ 64 ∧ e.gas < 2 ^ 64 ∧ ∃ to, toOfItem to = some e.to ∧ it = txItem e to := by
  constructor
  · fun_cases txOfItem it
    · rename_i h8 h7 h6 h5 h4 h3 h2 h1
      rintro ⟨⟩
      obtain ⟨e1, hn⟩ := (okOpt_uint_iff _ _).1 h1
      obtain ⟨e3, hg⟩ := (okOpt_uint_iff _ _).1 h3
      rw [e1, (okOpt_big_iff _ _).1 h2, e3, (okOpt_big_iff _ _).1 h5, (okOpt_big_iff _ _).1 h6,
        (okOpt_big_iff _ _).1 h7, (okOpt_big_iff _ _).1 h8]
      exact ⟨hn, hg, _, h4, rfl⟩
    · exact nofun
    · exact nofun
  · rintro ⟨hn, hg, to, hto, rfl⟩
    simp only [txItem, txOfItem, (okOpt_uint_iff _ _).2 ⟨rfl, hn⟩, (okOpt_uint_iff _ _).2 ⟨rfl, hg⟩,
      fun n => (okOpt_big_iff _ n).2 rfl, hto]

theorem txOfItem_itemOfTx (e : EthTx) (wf : WfEthTx e) : txOfItem (itemOfTx e) = some e :=
  (txOfItem_eq_some_iff _ e).2 ⟨wf.nonce, wf.gas, toItem e.to,
    (toOfItem_eq_some_iff _ _).2 (Or.inl ⟨rfl, wf.to⟩), rfl⟩

theorem decodeTx_encodeTx (e : EthTx) (wf : WfEthTx e) : decodeTx (encodeTx e) = some e := by
  unfold decodeTx encodeTx
  rw [Props.C08.decodeBytes_encode _ wf.size]
  exact txOfItem_itemOfTx e wf

theorem encodeTx_ne_nil (e : EthTx) : encodeTx e ≠ [] := encode_ne_nil _

theorem txOfItem_itemOfTxAlt (e : EthTx) (wf : WfEthTx e) (hto : e.to = none) :
    txOfItem (itemOfTxAlt e) = some e :=
  (txOfItem_eq_some_iff _ e).2 ⟨wf.nonce, wf.gas, .list [], hto ▸ rfl, rfl⟩

/-- The typing has exactly the preimages C08's finding `noncanon:nil-ptr-empty-kind`
    predicts for `eth_tx.txdata`: the item the encoder writes, or — for a contract
    creation — the same item with the recipient written as the empty list. -/
theorem txOfItem_preimages (it : Item) (e : EthTx) (h : txOfItem it = some e) :
    it = itemOfTx e ∨ (e.to = none ∧ it = itemOfTxAlt e) := by
  obtain ⟨_, _, to, hto, rfl⟩ := (txOfItem_eq_some_iff it e).1 h
  rcases (toOfItem_eq_some_iff _ _).1 hto with ⟨rfl, _⟩ | ⟨rfl, hn⟩
  · exact Or.inl rfl
  · exact Or.inr ⟨hn, rfl⟩

theorem txOfItem_wf_fields (it : Item) (e : EthTx) (h : txOfItem it = some e) :
    e.nonce < 2 ^ 64 ∧ e.gas < 2 ^ 64 ∧ ∀ a, e.to = some a → a.length = 20 := by
  obtain ⟨hn, hg, to, hto, _⟩ := (txOfItem_eq_some_iff it e).1 h
  refine ⟨hn, hg, ?_⟩
  rcases (toOfItem_eq_some_iff _ _).1 hto with ⟨_, hl⟩ | ⟨_, hnone⟩
  · exact hl
  · rw [hnone]; exact nofun

theorem encodeList_append (xs ys : List Item) : encodeList (xs ++ ys) = encodeList xs ++ encodeList ys := by
  induction xs with
  | nil => rfl
  | cons x xs ih => rw [List.cons_append, encodeList, encodeList, ih, List.append_assoc]

theorem encode_list_ne_of_elem (pre post : List Item) (x y : Item)
    (hl : (encode x).length = (encode y).length) (hne : encode x ≠ encode y) :
    encode (.list (pre ++ x :: post)) ≠ encode (.list (pre ++ y :: post)) := by
  intro h
  -- equal payload lengths give equal list headers; the rest cancels
  simp only [encode, encListPayload, encodeList_append, encodeList, List.length_append, hl] at h
  exact hne (List.append_cancel_right (List.append_cancel_left (List.append_cancel_left h)))

/-- they differ in the recipient byte, 0x80 / 0xc0 -/
theorem encode_alt_ne (e : EthTx) (hto : e.to = none) : encode (itemOfTxAlt e) ≠ encode (itemOfTx e) := by
  have h : itemOfTx e = txItem e (.str []) := by rw [itemOfTx, coreItems, hto]; rfl
  rw [h]
  exact encode_list_ne_of_elem [.str (toBE e.nonce), .str (toBE e.price), .str (toBE e.gas)]
    [.str (toBE e.value), .str e.data, .str (toBE e.v), .str (toBE e.r), .str (toBE e.s)]
    (.list []) (.str []) rfl (by decide)

end Rangers.Model.TxAuth
