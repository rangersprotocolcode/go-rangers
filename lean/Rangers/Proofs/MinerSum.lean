import Rangers.Proofs.MinerBasic
/-! C20: sums — point updates of a sum over a duplicate-free list, totals of shadowing association lists (balances,
    escrow), the balance of an address list, the refunds recorded in the block context.  Also `f64_small`, `stakeWei_small`
    (the `float64` debit of a stake below `2^53` is exact; for `MinerRun3`) and `foldl_fst_total` (a running total mod `M` in a
    fold): the sum in `totals_agree_total` of `Props/C20`, where `totalsFold_eq` of `MinerTotals` supplies the fold, and in
    `validatorsStake_fold` of `Props/C20D`. -/
namespace Rangers.Miner

section assoc
variable {K : Type} [BEq K] [LawfulBEq K] [DecidableEq K]

/-- `dedup` of the model (`dedup_eq_adedup`) at any key type: the totals below run over addresses (balances) and over
    pairs of height and address (escrow). -/
def adedup : List K → List K
  | [] => []
  | a :: l => if a ∈ l then adedup l else a :: adedup l

omit [DecidableEq K] in
theorem mem_adedup (a : K) (l : List K) : a ∈ adedup l ↔ a ∈ l := by
  induction l with
  | nil => simp [adedup]
  | cons b l ih =>
    unfold adedup
    by_cases hb : b ∈ l
    · simp only [hb, if_true, ih, List.mem_cons]
      constructor
      · intro h; exact Or.inr h
      · rintro (h | h)
        · subst h; exact hb
        · exact h
    · simp [hb, ih]

omit [DecidableEq K] in
theorem nodup_adedup (l : List K) : (adedup l).Nodup := by
  induction l with
  | nil => simp [adedup]
  | cons b l ih =>
    unfold adedup
    by_cases hb : b ∈ l
    · simp [hb, ih]
    · simp [hb, ih, mem_adedup]

/-- Value of a key in a shadowing association list (absent = 0). -/
def aget (l : List (K × Nat)) (k : K) : Nat := (l.lookup k).getD 0

theorem aget_cons (l : List (K × Nat)) (k q : K) (n : Nat) : aget ((k, n) :: l) q = if q = k then n else aget l q :=
  lookup_cons_getD l k q n 0

omit [DecidableEq K] in
theorem aget_of_notin (l : List (K × Nat)) (k : K) (h : k ∉ l.map Prod.fst) : aget l k = 0 :=
  lookup_getD_of_notin l k 0 h

/-- Sum of the current values over all keys. -/
def atotal (l : List (K × Nat)) : Nat := ((adedup (l.map Prod.fst)).map (aget l)).sum

omit [BEq K] [LawfulBEq K] in
theorem sum_point (ks : List K) (f g : K → Nat) (k : K) (hk : k ∈ ks) (hn : ks.Nodup) (hfg : ∀ q ∈ ks, q ≠ k → f q = g q) :
    (ks.map f).sum + g k = (ks.map g).sum + f k := by
  induction ks with
  | nil => cases hk
  | cons a ks ih =>
    have hnd := List.nodup_cons.mp hn
    by_cases ha : a = k
    · subst ha
      have hrest : ks.map f = ks.map g := by
        apply List.map_congr_left
        intro q hq
        exact hfg q (List.mem_cons_of_mem _ hq) (fun e => hnd.1 (e ▸ hq))
      simp only [List.map_cons, List.sum_cons, hrest]
      rw [Nat.add_right_comm, Nat.add_comm (f a), Nat.add_right_comm]
    · have hk' : k ∈ ks := by
        rcases List.mem_cons.mp hk with e | e
        · exact absurd e.symm ha
        · exact e
      have := ih hk' hnd.2 (fun q hq hne => hfg q (List.mem_cons_of_mem _ hq) hne)
      have hfa := hfg a (List.mem_cons_self ..) ha
      simp only [List.map_cons, List.sum_cons, hfa]
      rw [Nat.add_assoc, this, Nat.add_assoc]

theorem atotal_cons (l : List (K × Nat)) (k : K) (n : Nat) : atotal ((k, n) :: l) + aget l k = atotal l + n := by
  unfold atotal
  simp only [List.map_cons, adedup]
  by_cases hk : k ∈ l.map Prod.fst
  · simp only [hk, if_true]
    have := sum_point (adedup (l.map Prod.fst)) (aget ((k, n) :: l)) (aget l) k ((mem_adedup _ _).mpr hk) (nodup_adedup _)
      (fun q _ hne => by rw [aget_cons, if_neg hne])
    rw [aget_cons, if_pos rfl] at this
    exact this
  · simp only [hk, if_false, List.map_cons, List.sum_cons]
    rw [aget_cons, if_pos rfl, aget_of_notin l k hk]
    have : ((adedup (l.map Prod.fst)).map (aget ((k, n) :: l))).sum = ((adedup (l.map Prod.fst)).map (aget l)).sum := by
      refine congrArg List.sum (List.map_congr_left fun q hq => ?_)
      have : q ≠ k := fun e => hk (e ▸ (mem_adedup _ _).mp hq)
      rw [aget_cons, if_neg this]
    rw [this, Nat.add_zero, Nat.add_comm]

end assoc

/-- All liquid tokens. -/
def balTotal (st : State) : Nat := atotal st.bal
/-- All tokens held in the per-height escrow accounts. -/
def escTotal (st : State) : Nat := atotal st.escrow

theorem balOf_eq_aget (st : State) (a : Bytes) : st.balOf a = aget st.bal a := rfl
theorem escOf_eq_aget (st : State) (h : Nat) (a : Bytes) : st.escOf h a = aget st.escrow (h, a) := rfl

/-- Point update of a total `T` whose entry `b` becomes `b - n` resp. `b + n`. -/
theorem total_sub {T T' b n : Nat} (h : T' + b = T + (b - n)) (hle : n ≤ b) : T' + n = T := by omega

theorem total_add {T T' b n : Nat} (h : T' + b = T + (b + n)) : T' = T + n := by omega

/-- `μ` counts liquid tokens and sees the addresses `sees`: it reads the balances only, and a balance written for an
    address it sees shows in it. The total of all balances and the balance of an address list are both such counts, so
    what is proved of a tally about the balances a transaction moves holds of either. -/
structure Tally (μ : State → Nat) (sees : Bytes → Prop) : Prop where
  of_bal : ∀ st st' : State, st'.bal = st.bal → μ st' = μ st
  setBal : ∀ (st : State) a n, sees a → μ (st.setBal a n) + st.balOf a = μ st + n

theorem Tally.subBal {μ : State → Nat} {sees : Bytes → Prop} (h : Tally μ sees) (st : State) {a : Bytes} (n : Nat) (ha : sees a)
    (hle : n ≤ st.balOf a) : μ (st.subBal a n) + n = μ st :=
  total_sub (h.setBal st a (st.balOf a - n) ha) hle

theorem Tally.addBal {μ : State → Nat} {sees : Bytes → Prop} (h : Tally μ sees) (st : State) {a : Bytes} (n : Nat) (ha : sees a) :
    μ (st.addBal a n) = μ st + n :=
  total_add (h.setBal st a (st.balOf a + n) ha)

theorem Tally.processFee {μ : State → Nat} {sees : Bytes → Prop} (h : Tally μ sees) {st st1 : State} {src : Bytes}
    (hp : sees (feePayer src)) (hf : sees feeAccount) (hfee : processFee st src = some st1) : μ st1 = μ st := by
  obtain ⟨hge, rfl⟩ := processFee_eq hfee
  rw [h.addBal _ _ hf, h.subBal st fee hp hge]

theorem balTotal_setBal (st : State) (a : Bytes) (n : Nat) : balTotal (st.setBal a n) + st.balOf a = balTotal st + n :=
  atotal_cons st.bal a n

theorem escTotal_setEsc (st : State) (h : Nat) (a : Bytes) (n : Nat) : escTotal (st.setEsc h a n) + st.escOf h a = escTotal st + n :=
  atotal_cons st.escrow (h, a) n

theorem balTotal_of_bal (st st' : State) (h : st'.bal = st.bal) : balTotal st' = balTotal st := by unfold balTotal; rw [h]
theorem escTotal_of_escrow (st st' : State) (h : st'.escrow = st.escrow) : escTotal st' = escTotal st := by unfold escTotal; rw [h]

theorem tally_balTotal (sees : Bytes → Prop) : Tally balTotal sees :=
  ⟨balTotal_of_bal, fun st a n _ => balTotal_setBal st a n⟩

theorem balTotal_subBal (st : State) (a : Bytes) (n : Nat) (h : n ≤ st.balOf a) : balTotal (st.subBal a n) + n = balTotal st :=
  (tally_balTotal fun _ => True).subBal st n trivial h

theorem balTotal_addBal (st : State) (a : Bytes) (n : Nat) : balTotal (st.addBal a n) = balTotal st + n :=
  (tally_balTotal fun _ => True).addBal st n trivial

theorem balTotal_processFee (st st1 : State) (src : Bytes) (h : processFee st src = some st1) : balTotal st1 = balTotal st :=
  (tally_balTotal fun _ => True).processFee trivial trivial h

theorem foldl_sum {σ α : Type} (q : σ → Nat) (g : α → Nat) (f : σ → α → σ) (l : List α) (s : σ)
    (hstep : ∀ s a, a ∈ l → q (f s a) = q s + g a) : q (l.foldl f s) = q s + (l.map g).sum := by
  induction l generalizing s with
  | nil => rfl
  | cons a l ih =>
    rw [List.foldl_cons, ih _ (fun s b hb => hstep s b (List.mem_cons_of_mem _ hb)), hstep s a (List.mem_cons_self ..),
      List.map_cons, List.sum_cons, Nat.add_assoc]

theorem escrowAddList_eq_foldl (st : State) (h : Nat) (l : List (Bytes × Nat)) :
    escrowAddList st h l = l.foldl (fun s e => s.escAdd h e.1 e.2) st := by
  induction l generalizing st with
  | nil => rfl
  | cons e l ih => obtain ⟨a, v⟩ := e; exact ih _

theorem escrowAddAll_eq_foldl (st : State) (p : List (Nat × List (Bytes × Nat))) :
    escrowAddAll st p = p.foldl (fun s q => escrowAddList s q.1 q.2) st := by
  induction p generalizing st with
  | nil => rfl
  | cons q p ih => obtain ⟨h, l⟩ := q; exact ih _

theorem foldl_fst_total {α β : Type} (l : List α) (f : α → Nat) (M : Nat) (hM : 0 < M) (step : Nat × β → α → Nat × β)
    (hstep : ∀ acc x, acc.1 < M → (step acc x).1 = (acc.1 + f x) % M) (acc : Nat × β) (hacc : acc.1 < M) :
    (l.foldl step acc).1 = (acc.1 + (l.map f).sum) % M := by
  induction l generalizing acc with
  | nil => exact (Nat.mod_eq_of_lt hacc).symm
  | cons x l ih =>
    rw [List.foldl_cons, ih _ (by rw [hstep _ _ hacc]; exact Nat.mod_lt _ hM), hstep _ _ hacc, List.map_cons, List.sum_cons,
      Nat.mod_add_mod, Nat.add_assoc]

/-- Sum of the balances of a list of addresses. -/
def balSum (st : State) (A : List Bytes) : Nat := (A.map st.balOf).sum

theorem balSum_setBal (st : State) (a : Bytes) (n : Nat) (A : List Bytes) (h : a ∈ A) (hn : A.Nodup) :
    balSum (st.setBal a n) A + st.balOf a = balSum st A + n := by
  have := sum_point A (st.setBal a n).balOf st.balOf a h hn (fun q _ hq => by rw [balOf_setBal, if_neg hq])
  rw [balOf_setBal, if_pos rfl] at this
  exact this

theorem balSum_of_bal (st st' : State) (h : st'.bal = st.bal) (A : List Bytes) : balSum st' A = balSum st A := by
  unfold balSum State.balOf; rw [h]

theorem tally_balSum {A : List Bytes} (hn : A.Nodup) : Tally (balSum · A) (· ∈ A) :=
  ⟨fun st st' h => balSum_of_bal st st' h A, fun st a n ha => balSum_setBal st a n A ha hn⟩

theorem f64_small (n : Nat) (h : n < 2 ^ 53) : f64 n = n := by simp [f64, h]

theorem stakeWei_small (n : Nat) (h : n < 2 ^ 53) : stakeWei n = wei * n := by
  unfold stakeWei; rw [f64_small _ h, Nat.mul_comm]

/-- Total of the refunds recorded in `context["refund"]`. -/
def pendingSum (p : List (Nat × List (Bytes × Nat))) : Nat := (p.map (fun e => (e.2.map Prod.snd).sum)).sum

theorem bump_sum (l : List (Bytes × Nat)) (a : Bytes) (v : Nat) (h : l.any (fun e => e.1 = a) = true) :
    ((bump l a v).map Prod.snd).sum = (l.map Prod.snd).sum + v := by
  induction l with
  | nil => simp at h
  | cons e l ih =>
    unfold bump
    by_cases he : e.1 = a
    · simp only [he, if_true, List.map_cons, List.sum_cons]; exact Nat.add_right_comm _ _ _
    · simp only [he, if_false, List.map_cons, List.sum_cons]
      have : l.any (fun e => e.1 = a) = true := by simpa [he] using h
      rw [ih this]; exact (Nat.add_assoc _ _ _).symm

theorem bump_keys (l : List (Bytes × Nat)) (a : Bytes) (v : Nat) : (bump l a v).map Prod.fst = l.map Prod.fst := by
  induction l with
  | nil => rfl
  | cons x l ih =>
    unfold bump
    split
    · rfl
    · rw [List.map_cons, List.map_cons, ih]

/-- `hc`: the height is new or its list already holds the account; otherwise the executor's append goes to a copy and is
    lost. -/
theorem pendingAdd_noClash (p : List (Nat × List (Bytes × Nat))) (h : Nat) (a : Bytes) (v : Nat)
    (hn : (p.map Prod.fst).Nodup) (hc : ∀ l, p.lookup h = some l → l.any (fun e => e.1 = a) = true) :
    ((pendingAdd p h a v).map Prod.fst).Nodup ∧ pendingSum (pendingAdd p h a v) = pendingSum p + v ∧
    ∀ P : Bytes → Prop, P a → (∀ q ∈ p, ∀ e ∈ q.2, P e.1) → ∀ q ∈ pendingAdd p h a v, ∀ e ∈ q.2, P e.1 := by
  unfold pendingAdd
  cases hl : p.lookup h with
  | none =>
    refine ⟨List.nodup_cons.mpr ⟨fun hm => ?_, hn⟩, ?_, fun P ha hp q hq => ?_⟩
    · obtain ⟨e, he, rfl⟩ := List.mem_map.mp hm
      exact absurd rfl (bne_iff_ne.mp (List.lookup_eq_none_iff.mp hl e he))
    · simp only [pendingSum, List.map_cons, List.sum_cons, List.map_nil, List.sum_nil, Nat.add_zero]
      exact Nat.add_comm _ _
    · rcases List.mem_cons.mp hq with rfl | hq
      · intro e he; rw [List.mem_singleton.mp he]; exact ha
      · exact hp q hq
  | some l =>
    have hany := hc l hl
    simp only [hany, if_true]
    -- the list of `h` is the only entry with that height: everything else is left alone
    obtain ⟨l₁, l₂, rfl, h₁⟩ := List.lookup_eq_some_iff.mp hl
    rw [List.map_append, List.map_cons] at hn
    obtain ⟨_, hn₂, _⟩ := List.nodup_append.mp hn
    have hF : (l₁ ++ (h, l) :: l₂).map (fun e => if e.1 = h then (e.1, bump e.2 a v) else e) = l₁ ++ (h, bump l a v) :: l₂ := by
      rw [List.map_append, List.map_cons, if_pos rfl]
      congr 1
      · exact (List.map_congr_left (fun e he => if_neg (fun c => bne_iff_ne.mp (h₁ e he) c.symm))).trans (List.map_id' _)
      · congr 1
        exact (List.map_congr_left (fun e he => if_neg (fun (c : e.1 = h) =>
          (List.nodup_cons.mp hn₂).1 (List.mem_map.mpr ⟨e, he, c⟩)))).trans (List.map_id' _)
    rw [hF]
    refine ⟨?_, ?_, fun P _ hp q hq e he => ?_⟩
    · rw [List.map_append, List.map_cons]; exact hn
    · simp only [pendingSum, List.map_append, List.map_cons, List.sum_append, List.sum_cons, bump_sum _ _ _ hany]
      simp only [Nat.add_assoc, Nat.add_comm v]
    · rcases List.mem_append.mp hq with hq | hq
      · exact hp q (List.mem_append_left _ hq) e he
      · rcases List.mem_cons.mp hq with rfl | hq
        · obtain ⟨x, hx, hxe⟩ := List.mem_map.mp (bump_keys l a v ▸ List.mem_map_of_mem he : e.1 ∈ l.map Prod.fst)
          exact hxe ▸ hp (h, l) (List.mem_append_right _ (List.mem_cons_self ..)) x hx
        · exact hp q (List.mem_append_right _ (List.mem_cons_of_mem _ hq)) e he

end Rangers.Miner
