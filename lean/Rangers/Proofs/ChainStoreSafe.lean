import Rangers.Proofs.ChainStoreWeight
/-!
What `St.arm` (a live process with a given write budget) leaves as it was (`arm_*`); a rejected block leaves the disk
untouched (`Guard`, `addCore_guarded`), and the sync fork switch keeps the invariant (`forkSwitch_post`).
-/
namespace Rangers.Proofs.ChainStore
open Rangers.Model.ChainStore

theorem arm_disk (s : St) (b : Option Nat) : (s.arm b).disk = s.disk := rfl
theorem arm_mem (s : St) (b : Option Nat) : (s.arm b).mem = s.mem := rfl
theorem arm_alive (s : St) (b : Option Nat) : (s.arm b).crashed = false := rfl
theorem arm_safe (s : St) : Safe (s.arm none) := ⟨rfl, rfl⟩

/-- the condition under which `addBlockOnChain` touches the store: the block extends the head, or its parent is on the
    chain and it wins the fork choice (`WinsFork`, written out) -/
def Guard (s : St) (b : Block) : Prop :=
  b.pre = s.mem.latest.hash ∨
  (∃ anc, s.disk.blocks b.pre = some anc ∧
    (b.totalQN > s.mem.latest.totalQN ∨
     (b.totalQN = s.mem.latest.totalQN ∧ ∃ ln, s.lookupHeight (anc.height + 1) = some ln ∧ pvGreater ln b = false)))

theorem addCore_guarded (fuel : Nat) (s : St) (b : Block) (hg : ¬ Guard s b) :
    (addCore fuel s b).1.disk = s.disk := by
  cases fuel with
  | zero => rfl
  | succ fuel =>
    refine addCore_cases (motive := fun r => r.1.disk = s.disk) fuel s b (fun _ => rfl) (fun _ _ _ => verify_disk s b) ?_ ?_
    · intro _ _ hpre
      exact absurd (Or.inl hpre) hg
    · intro anc _ _ _ hanc hw
      exact absurd (Or.inr ⟨anc, hanc, hw⟩) hg

theorem forkAdd_post {T : Nat → Option Block} (vt : ValidTree T) (fuel : Nat) :
    ∀ (bs : List Block) (s : St) (c : List Block), s.crashed = false → Inv T s.disk s.mem c →
      (∀ b ∈ bs, T b.hash = some b) → Post T (forkAdd fuel s bs) := by
  intro bs
  induction bs with
  | nil => intro s c ha inv _; exact Out.alive ha ⟨c, inv⟩
  | cons b bs ih =>
    intro s c ha inv hT
    have hp := addBlock_post vt fuel s b c ha inv (hT b (List.mem_cons_self ..))
    refine forkAdd_cases fuel s b bs (fun _ => ?_) hp
    refine Out.bind hp (Reach.refl.forkAdd fuel bs) ?_ (fun _ r => r)
    intro ha' ⟨c', inv'⟩
    exact ih _ c' ha' inv' (fun b' hb' => hT b' (List.mem_cons_of_mem _ hb'))

theorem forkSwitch_post {T : Nat → Option Block} (vt : ValidTree T) (fuel : Nat) (s : St) (anc : Block)
    (bs : List Block) (c : List Block) (ha : s.crashed = false) (inv : Inv T s.disk s.mem c)
    (hT : ∀ b ∈ bs, T b.hash = some b) : Post T (forkSwitch fuel s anc bs) := by
  unfold forkSwitch
  refine Out.bind (removeFrom_spec anc ha inv) (Reach.refl.forkAdd fuel bs) ?_ (fun _ r => r)
  intro ha' p
  obtain ⟨c', inv'⟩ := p
  exact forkAdd_post vt fuel bs _ c' ha' inv' hT

end Rangers.Proofs.ChainStore
