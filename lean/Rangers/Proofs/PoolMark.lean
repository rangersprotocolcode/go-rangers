import Rangers.Proofs.PoolInv
/-! `MarkExecuted` of the pool model: the receipt loop with its mid-loop batch writes and crash points, and what a
call does to the pending and executed sets. -/
namespace Rangers.Pool

theorem findTx_some {txs : List Tx} {h i : Nat} {t : Tx} (hf : findTx txs h i = some t) : t ∈ txs ∧ t.hash = h := by
  have hfind : ∀ {u}, txs.find? (fun t => t.hash == h) = some u → u ∈ txs ∧ u.hash = h :=
    fun hu => ⟨List.mem_of_find?_eq_some hu, by simpa using List.find?_some hu⟩
  unfold findTx at hf
  split at hf
  · rename_i u hi
    split at hf
    · rename_i e; cases hf; exact ⟨List.mem_of_getElem? hi, e⟩
    · exact hfind hf
  · exact hfind hf

theorem findTx_none {txs : List Tx} {h i : Nat} (hf : findTx txs h i = none) : ¬ ∃ t ∈ txs, t.hash = h := by
  rintro ⟨t, ht, e⟩
  have hfind : txs.find? (fun t => t.hash == h) ≠ none := fun hn => by
    have := List.find?_eq_none.mp hn t ht
    simp [e] at this
  unfold findTx at hf
  split at hf
  · split at hf
    · cases hf
    · exact hfind hf
  · exact hfind hf

/-- The records put — those waiting in the batch before, then the receipts in order — split into `W`, written to the
store, `B`, still waiting in the batch, and `D`, not reached. The loop ends `ok` having reached every receipt, or at a crash
point, or in the panic at the first receipt without transaction, whose record then waits in the batch. -/
def LoopEnds (txs : List Tx) (c : Option Nat) (s : Pool) (rs : List (Nat × Nat)) (out : Pool × List Nat × MarkRes) : Prop :=
  ∃ W B D, puts s.batch ++ rs = W ++ B ++ D ∧ Written s out.1 W B ∧
    (out.2.2 = .ok ∧ D = [] ∧ Covered (rs.map (·.1)) txs ∨ out.2.2 = .crash ∧ c ≠ none ∨
      out.2.2 = .panic ∧ ¬ Covered (rs.map (·.1)) txs)

theorem LoopEnds.stop {txs : List Tx} {c : Option Nat} {s : Pool} {h z : Nat} {rs : List (Nat × Nat)} (v : Option Tx) (ws : List Nat)
    {r : MarkRes} (hr : r = .crash ∧ c ≠ none ∨ r = .panic ∧ ¬ ∃ t ∈ txs, t.hash = h) :
    LoopEnds txs c s ((h, z) :: rs) (s.put (.putTx h v z), ws, r) :=
  ⟨[], puts s.batch ++ [(h, z)], rs, (List.append_assoc _ [(h, z)] _).symm, (Written.refl s).put _,
    Or.inr (hr.imp_right (And.imp_right (mt (fun hc => (covered_cons.mp hc).1))))⟩

theorem LoopEnds.cons {txs : List Tx} {c : Option Nat} {s s₂ : Pool} {h z : Nat} {rs W₀ B₀ : List (Nat × Nat)}
    {out : Pool × List Nat × MarkRes} (w₂ : Written s s₂ W₀ B₀) (e₀ : W₀ ++ B₀ = puts s.batch ++ [(h, z)])
    (hcov : ∃ t ∈ txs, t.hash = h) (hl : LoopEnds txs c s₂ rs out) : LoopEnds txs c s ((h, z) :: rs) out := by
  obtain ⟨W, B, D, e, w, hr⟩ := hl
  refine ⟨W₀ ++ W, B, D, ?_, w₂.trans w, ?_⟩
  · rw [w₂.waiting] at e
    show puts s.batch ++ ([(h, z)] ++ rs) = _
    rw [← List.append_assoc, ← e₀, List.append_assoc, e]
    simp only [List.append_assoc]
  · exact hr.imp (And.imp_right (And.imp_right (fun hc => covered_cons.mpr ⟨hcov, hc⟩)))
      (Or.imp_right (And.imp_right (mt (fun hc => (covered_cons.mp hc).2))))

theorem markLoop_spec {txs : List Tx} (c : Option Nat) (rs : List (Nat × Nat)) (i : Nat) (ws : List Nat) (s : Pool) :
    LoopEnds txs c s rs (markLoop txs c rs i ws s) := by
  fun_induction markLoop txs c rs i ws s with
  | case1 i ws s => exact ⟨[], puts s.batch, [], rfl, Written.refl s, Or.inl ⟨rfl, rfl, fun _ h => nomatch h⟩⟩
  | case2 h z rs i ws s hf => exact LoopEnds.stop none ws (Or.inr ⟨rfl, findTx_none hf⟩)
  | case3 h z rs i ws s t hf s1 hb hc => exact LoopEnds.stop (some t) ws (Or.inl ⟨rfl, fun e => by rw [e] at hc; cases hc⟩)
  | case4 h z rs i ws s t hf s1 hb hc ih =>
    exact LoopEnds.cons (((Written.refl s).put (.putTx h (some t) z)).flush.refreshGate t) (List.append_nil _) ⟨t, findTx_some hf⟩ ih
  | case5 h z rs i ws s t hf s1 hb ih =>
    exact LoopEnds.cons (((Written.refl s).put (.putTx h (some t) z)).refreshGate t) rfl ⟨t, findTx_some hf⟩ ih

theorem markLoop_res {txs : List Tx} (rs : List (Nat × Nat)) (i : Nat) (ws : List Nat) (s : Pool) :
    (markLoop txs none rs i ws s).2.2 = .ok ↔ Covered (rs.map (·.1)) txs := by
  obtain ⟨_, _, _, _, _, hr | hr | hr⟩ := markLoop_spec none rs i ws s
  · exact iff_of_true hr.1 hr.2.2
  · exact absurd rfl hr.2
  · rw [hr.1]; exact iff_of_false (by decide) hr.2

theorem markExecutedZ_loop (s : Pool) {rs : List (Nat × Nat)} (txs : List Tx) (evicted : List Nat) (c : Option Nat) (hr : rs ≠ []) :
    ∃ s₁ ws r, markLoop txs c rs 0 [] s = (s₁, ws, r) ∧ LoopEnds txs c s rs (s₁, ws, r) ∧
      ((s.markExecutedZ rs txs evicted c).2.2 = .ok ∧ r = .ok ∧ (s.markExecutedZ rs txs evicted c).1 =
          ((if bsize s₁.batch > 0 then s₁.flush else s₁).evictAll evicted).removeHashes (rs.map (·.1) ++ evicted) ∨
       (s.markExecutedZ rs txs evicted c).2.2 ≠ .ok ∧ (s.markExecutedZ rs txs evicted c).1 = s₁ ∧
          ((s.markExecutedZ rs txs evicted c).2.2 = r ∨ c ≠ none)) := by
  have sp := markLoop_spec (txs := txs) c rs 0 [] s
  fun_cases Pool.markExecutedZ s rs txs evicted c with
  | case1 h => exact absurd h hr
  | case2 _ s₁ ws hl hb hc =>
    -- the loop ended `ok` and the process dies before the last write: the one case where call and loop end differently
    exact ⟨s₁, ws, _, hl, hl ▸ sp, Or.inr ⟨(fun e => nomatch e), rfl, Or.inr (fun e => by rw [e] at hc; cases hc)⟩⟩
  | case3 _ s₁ ws hl hb hc => exact ⟨s₁, ws, _, hl, hl ▸ sp, Or.inl ⟨rfl, rfl, by rw [if_pos hb]⟩⟩
  | case4 _ s₁ ws hl hb => exact ⟨s₁, ws, _, hl, hl ▸ sp, Or.inl ⟨rfl, rfl, by rw [if_neg hb]⟩⟩
  | case5 _ s₁ ws r hne hl => exact ⟨s₁, ws, r, hl, hl ▸ sp, Or.inr ⟨fun e => hne e, rfl, Or.inl rfl⟩⟩

theorem markExecutedZ_nil (s : Pool) (txs : List Tx) (evicted : List Nat) (c : Option Nat) :
    s.markExecutedZ [] txs evicted c = ((s.evictAll evicted).removeHashes evicted, [], .ok) := rfl

theorem markExecutedZ_res {s : Pool} {rs : List (Nat × Nat)} {txs : List Tx} {evicted : List Nat} :
    (s.markExecutedZ rs txs evicted none).2.2 = .ok ↔ Covered (rs.map (·.1)) txs := by
  by_cases hr : rs = []
  · subst hr; rw [markExecutedZ_nil]; exact iff_of_true rfl (fun _ h => nomatch h)
  · obtain ⟨s₁, ws, r, hl, _, ⟨ho, rfl, _⟩ | ⟨hne, _, he | he⟩⟩ := markExecutedZ_loop s txs evicted none hr
    · rw [ho, ← markLoop_res rs 0 [] s, hl]
    · rw [he] at hne ⊢; rw [← markLoop_res rs 0 [] s, hl]
    · exact absurd rfl he

theorem markExecutedZ_written {s : Pool} {rs : List (Nat × Nat)} {txs : List Tx} (evicted : List Nat)
    (hb : GateOnly s.batch) (hc : Covered (rs.map (·.1)) txs) (hz : ∀ p ∈ rs, 0 < p.2) :
    ∃ s₂ ws, s.markExecutedZ rs txs evicted none =
        ((s₂.evictAll evicted).removeHashes (rs.map (·.1) ++ evicted), ws, .ok) ∧ Written s s₂ rs [] := by
  have hP := gateOnly_iff.mp hb
  by_cases hr : rs = []
  · subst hr
    exact ⟨s, [], markExecutedZ_nil .., hP ▸ Written.refl s⟩
  · have hok : (s.markExecutedZ rs txs evicted none).2.2 = .ok := markExecutedZ_res.mpr hc
    obtain ⟨s₁, ws, r, _, ⟨W, B, D, e, w, hro⟩, ⟨_, _, he⟩ | ⟨hne, _⟩⟩ := markExecutedZ_loop s txs evicted none hr
    · obtain ⟨_, rfl, _⟩ : r = .ok ∧ D = [] ∧ _ := hro.elim id (fun h => h.elim (fun h => absurd rfl h.2) (fun h => absurd hc h.2))
      rw [hP, List.nil_append, List.append_nil] at e
      refine ⟨_, _, Prod.ext he (Prod.ext rfl hok), ?_⟩
      rw [e]
      split
      · exact w.flush
      · -- no last write: the batch is empty, as what waits in it are records of this block, none of them empty
        have hB : B = [] := w.waiting ▸ puts_nil_of_bsize (Nat.eq_zero_of_not_pos (by assumption))
          (fun p hp => hz p (e ▸ List.mem_append_right W (w.waiting ▸ hp)))
        subst hB
        rw [List.append_nil]; exact w
    · exact absurd hok hne

theorem markExecutedZ_crash {s : Pool} {rs : List (Nat × Nat)} {txs : List Tx} {evicted : List Nat} {k : Nat}
    (hb : GateOnly s.batch) (hd : s.detached = false)
    {s' : Pool} {ws : List Nat} (h : s.markExecutedZ rs txs evicted (some k) = (s', ws, .crash)) :
    s'.pending = s.pending ∧ s'.evicted = s.evicted ∧
      ∃ n, n ≤ rs.length ∧ ∀ x, x ∈ s'.execHashes ↔ x ∈ s.execHashes ∨ x ∈ (rs.take n).map (·.1) := by
  have hr : rs ≠ [] := fun e => by subst e; rw [markExecutedZ_nil] at h; cases h
  obtain ⟨s₁, ws₁, r, _, ⟨W, B, D, e, w, _⟩, hcase⟩ := markExecutedZ_loop s txs evicted (some k) hr
  rw [h] at hcase
  obtain ⟨_, rfl, _⟩ : _ ∧ s' = s₁ ∧ _ := hcase.elim (fun h => nomatch h.1) id
  rw [gateOnly_iff.mp hb, List.nil_append, List.append_assoc] at e
  have hW : rs.take W.length = W := by rw [e, List.take_left']; rfl
  refine ⟨w.pending, w.evicted, W.length, ?_, fun x => by rw [hW]; exact w.exec hd x⟩
  have := congrArg List.length e
  rw [List.length_append] at this
  exact this ▸ Nat.le_add_right _ _

/-- What a `MarkExecuted` call that ended `ok` made of a state satisfying the invariant. -/
structure Marked (s s' : Pool) (receipts evicted : List Nat) : Prop where
  hashes : s'.hashes = s.hashes.filter (fun h => !(receipts ++ evicted).contains h)
  exec : ∀ k, k ∈ s'.execHashes ↔ k ∈ s.execHashes ∨ k ∈ receipts
  limit : s'.limit = s.limit
  inv : Inv s'

theorem markExecutedZ_ok {s : Pool} {rs : List (Nat × Nat)} {txs : List Tx} (evicted : List Nat)
    (hi : Inv s) (hc : Covered (rs.map (·.1)) txs) (hz : ∀ p ∈ rs, 0 < p.2) :
    ∃ s' ws, s.markExecutedZ rs txs evicted none = (s', ws, .ok) ∧ Marked s s' (rs.map (·.1)) evicted := by
  obtain ⟨s₂, ws, he, w⟩ := markExecutedZ_written evicted hi.batch hc hz
  have hh : ((s₂.evictAll evicted).removeHashes (rs.map (·.1) ++ evicted)).hashes =
      s.hashes.filter (fun h => !(rs.map (·.1) ++ evicted).contains h) := by
    rw [hashes_removeHashes]
    show (s₂.pending.map _).filter _ = _
    rw [w.pending]; rfl
  refine ⟨_, ws, he, hh, w.exec hi.attached, w.limit, hh ▸ hi.nodup.sublist List.filter_sublist, fun h hm => ?_,
    gateOnly_iff.mpr w.waiting, w.detached.trans hi.attached⟩
  -- what stays pending was pending, so not executed before, and is no receipt of this block
  rw [hh, mem_filter_not_contains] at hm
  show h ∉ s₂.execHashes
  rw [w.exec hi.attached]
  rintro (h1 | h1)
  · exact hi.disjoint h hm.1 h1
  · exact hm.2 (List.mem_append_left _ h1)

theorem markExecuted_snd (s : Pool) (receipts : List Nat) (txs : List Tx) (evicted : List Nat) :
    (s.markExecuted receipts txs evicted).2 =
      ((s.markExecutedZ (receipts.map (fun h => (h, 1))) txs evicted none).2.2 != .ok) := rfl

theorem map_fst_unit_sizes (receipts : List Nat) : (receipts.map (fun h => (h, 1))).map (·.1) = receipts := by
  rw [List.map_map]; exact List.map_id' receipts

theorem unit_sizes_pos (receipts : List Nat) : ∀ p ∈ receipts.map (fun h => (h, 1)), 0 < p.2 :=
  fun p hp => by obtain ⟨_, _, rfl⟩ := List.mem_map.mp hp; exact Nat.one_pos

theorem markExecuted_ok {s : Pool} {receipts : List Nat} {txs : List Tx} (evicted : List Nat)
    (hi : Inv s) (hc : Covered receipts txs) : Marked s (s.markExecuted receipts txs evicted).1 receipts evicted := by
  have hm := map_fst_unit_sizes receipts
  obtain ⟨s', ws, he, h⟩ := markExecutedZ_ok (rs := receipts.map (fun h => (h, 1))) (txs := txs) evicted hi
    (by rw [hm]; exact hc) (unit_sizes_pos receipts)
  rw [hm] at h
  unfold Pool.markExecuted; rw [he]; exact h

end Rangers.Pool
