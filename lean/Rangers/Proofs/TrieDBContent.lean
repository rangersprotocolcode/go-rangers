import Rangers.Proofs.TrieDBInv
import Rangers.Model.TrieStore
/-!
Bridge between the C03 node-cache model (`Rangers.Model.TrieDB`, hashes and
reference structure only) and the C02 trie content model (`Rangers.Trie`:
collapsed nodes `CNode`, `expand` = `resolveHash`/`expandNode` with every
reference followed).

`κ : Bytes → Hash` names a 32-byte hash in the abstract model, `blobOf h` is
*the* blob with hash `h` ("a hash names one blob": collision freedom among the
stored nodes, here a function).  A reader of an abstract store `get` sees the
collapsed node `blobOf h` under `h` iff `get (κ h)` is present.
-/
namespace Rangers.Model.TrieDB
open Rangers Rangers.Trie

/-- what is stored under a hash: a collapsed trie node or a raw blob (code) -/
inductive Blob where
  | node (c : Trie.CNode)
  | raw (b : Bytes)

mutual
/-- the hash references a reader follows inside a collapsed node (through embedded children) -/
def refsC : Trie.CNode → List Bytes
  | .empty => []
  | .hashRef h => [h]
  | .leaf _ _ => []
  | .ext _ c => refsC c
  | .branch cs _ => refsCL cs
def refsCL : List Trie.CNode → List Bytes
  | [] => []
  | c :: cs => refsC c ++ refsCL cs
end

theorem mem_refsCL {cs : List Trie.CNode} {c : Trie.CNode} (hc : c ∈ cs) {r : Bytes} (hr : r ∈ refsC c) :
    r ∈ refsCL cs := by
  induction cs with
  | nil => simp at hc
  | cons x xs ih =>
    simp only [refsCL, List.mem_append]
    rcases List.mem_cons.mp hc with h | h
    · subst h; exact Or.inl hr
    · exact Or.inr (ih h)

/-- `Trie.expand` over a lookup function instead of an association list -/
def expandF (get : Bytes → Option Trie.CNode) : Nat → Trie.CNode → Option Trie.Node
  | 0, _ => none
  | _ + 1, .empty => some .nil
  | f + 1, .hashRef h => (get h).bind (expandF get f)
  | _ + 1, .leaf ck v => (compactToHex ck).map (fun k => .short k (.value v))
  | f + 1, .ext ck c => (compactToHex ck).bind (fun k => (expandF get f c).map (fun c' => .short k c'))
  | f + 1, .branch cs v =>
    (cs.mapM (expandF get f)).map (fun cs' => .full (cs' ++ [if v.isEmpty then Trie.Node.nil else .value v]))

theorem expand_eq_expandF (st : List (Bytes × Trie.CNode)) :
    ∀ (f : Nat) (c : Trie.CNode), Trie.expand st f c = expandF (fun h => st.lookup h) f c := by
  intro f
  induction f with
  | zero => exact fun _ => rfl
  | succ f ih =>
    have e : Trie.expand st f = expandF (fun h => st.lookup h) f := funext ih
    intro c
    cases c with
    | empty => rfl
    | leaf ck v => rfl
    | hashRef h => show (st.lookup h).bind (Trie.expand st f) = _; rw [e]; rfl
    | ext ck c =>
      show (compactToHex ck).bind (fun k => (Trie.expand st f c).map (fun c' => Trie.Node.short k c')) = _
      rw [e]; rfl
    | branch cs v =>
      show (cs.mapM (Trie.expand st f)).map (fun cs' => Trie.Node.full
        (cs' ++ [if v.isEmpty then Trie.Node.nil else .value v])) = _
      rw [e]; rfl

theorem mapM_eq_allSome {α β : Type} (g : α → Option β) (l : List α) : l.mapM g = allSome (l.map g) := by
  induction l with
  | nil => rfl
  | cons x xs ih =>
    rw [List.mapM_cons, ih, List.map_cons]
    cases g x with
    | none => rfl
    | some a => rw [allSome_some_cons]; cases allSome (xs.map g) <;> rfl

/-- `view_transfer` (`Proofs/TrieDB.lean`) for the reader `expandF`: `G` is closed under `refsC`. -/
theorem expandF_transfer (get get' : Bytes → Option Trie.CNode) (G : Bytes → Prop)
    (hstep : ∀ h, G h → ∀ cn, get h = some cn → get' h = some cn ∧ ∀ r ∈ refsC cn, G r) :
    ∀ (f : Nat) (c : Trie.CNode) (t : Trie.Node), (∀ r ∈ refsC c, G r) →
      expandF get f c = some t → expandF get' f c = some t := by
  intro f
  induction f with
  | zero => exact fun _ _ _ h => nomatch h
  | succ f ih =>
    intro c t hg h
    cases c with
    | empty => exact h
    | leaf ck v => exact h
    | hashRef x =>
      obtain ⟨cn, hx, ht⟩ := Option.bind_eq_some_iff.mp (show (get x).bind (expandF get f) = some t from h)
      obtain ⟨h1, h2⟩ := hstep x (hg x (List.mem_singleton_self x)) cn hx
      exact Option.bind_eq_some_iff.mpr ⟨cn, h1, ih cn t h2 ht⟩
    | ext ck c =>
      obtain ⟨k, hk, hc⟩ := Option.bind_eq_some_iff.mp
        (show (compactToHex ck).bind (fun k => (expandF get f c).map (fun c' => .short k c')) = some t from h)
      obtain ⟨c', hc', rfl⟩ := Option.map_eq_some_iff.mp hc
      exact Option.bind_eq_some_iff.mpr ⟨k, hk, Option.map_eq_some_iff.mpr ⟨c', ih c c' hg hc', rfl⟩⟩
    | branch cs v =>
      obtain ⟨ts, hm, rfl⟩ := Option.map_eq_some_iff.mp
        (show (cs.mapM (expandF get f)).map (fun cs' => Trie.Node.full
          (cs' ++ [if v.isEmpty then Trie.Node.nil else .value v])) = some t from h)
      rw [mapM_eq_allSome] at hm
      refine Option.map_eq_some_iff.mpr ⟨ts, ?_, rfl⟩
      rw [mapM_eq_allSome]
      exact allSome_map_congr _ _ cs ts hm fun x hx t' ht' => ih x t' (fun r hr => hg r (mem_refsCL hx hr)) ht'

/-- the collapsed node a reader finds under hash `h` in the abstract store `get` -/
def cget (κ : Bytes → Hash) (blobOf : Bytes → Blob) (get : Hash → Option DNode) (h : Bytes) : Option Trie.CNode :=
  match get (κ h) with
  | none => none
  | some _ => match blobOf h with
    | .node c => some c
    | .raw _ => none

/-- the raw blob (contract code) a reader finds under `h` -/
def rawget (κ : Bytes → Hash) (blobOf : Bytes → Blob) (get : Hash → Option DNode) (h : Bytes) : Option Bytes :=
  match get (κ h) with
  | none => none
  | some _ => match blobOf h with
    | .node _ => none
    | .raw b => some b

/-- the abstract `need` of a stored node covers the references of its real content
    (what the harness's node describer is tied to deliver). -/
def NeedOk (κ : Bytes → Hash) (blobOf : Bytes → Blob) (get : Hash → Option DNode) : Prop :=
  ∀ h dn cn, get (κ h) = some dn → blobOf h = .node cn → ∀ r ∈ refsC cn, κ r ∈ dn.need

theorem cget_eq_some {κ : Bytes → Hash} {blobOf : Bytes → Blob} {get : Hash → Option DNode} {h : Bytes}
    {cn : Trie.CNode} : cget κ blobOf get h = some cn ↔ (get (κ h)).isSome = true ∧ blobOf h = .node cn := by
  unfold cget
  cases get (κ h) with
  | none => exact ⟨nofun, fun e => nomatch e.1⟩
  | some dn =>
    cases blobOf h with
    | node c => exact ⟨fun e => ⟨rfl, congrArg _ (Option.some.inj e)⟩, fun e => congrArg _ (Blob.node.inj e.2)⟩
    | raw b => exact ⟨nofun, fun e => nomatch e.2⟩

theorem rawget_eq_some {κ : Bytes → Hash} {blobOf : Bytes → Blob} {get : Hash → Option DNode} {h b : Bytes} :
    rawget κ blobOf get h = some b ↔ (get (κ h)).isSome = true ∧ blobOf h = .raw b := by
  unfold rawget
  cases get (κ h) with
  | none => exact ⟨nofun, fun e => nomatch e.1⟩
  | some dn =>
    cases blobOf h with
    | node c => exact ⟨nofun, fun e => nomatch e.2⟩
    | raw b' => exact ⟨fun e => ⟨rfl, congrArg _ (Option.some.inj e)⟩, fun e => congrArg _ (Blob.raw.inj e.2)⟩

/-- `expandF_transfer` from the live database to the disk after the Puts `ws`, with `G` = "on that disk":
    `written_disk_agrees_with_live` is the step, `NeedOk` turns `refsC` into `need`. -/
theorem commit_content_transfer {κ : Bytes → Hash} {blobOf : Bytes → Blob} {s : St} {root : Hash}
    {ws : List Hash} (hi : Inv s) (hneed : NeedOk κ blobOf (liveLookup s))
    (g : GoodTrace s.cache s.disk root ws) :
    ∀ (f : Nat) (c : Trie.CNode) (t : Trie.Node), (∀ r ∈ refsC c, Has (applyWrites s.cache s.disk ws) (κ r)) →
      expandF (cget κ blobOf (liveLookup s)) f c = some t →
      expandF (cget κ blobOf (diskGet (applyWrites s.cache s.disk ws))) f c = some t := by
  refine expandF_transfer _ _ (fun h => Has (applyWrites s.cache s.disk ws) (κ h)) fun h hg cn hcn => ?_
  obtain ⟨hs, hb⟩ := cget_eq_some.mp hcn
  obtain ⟨dn, hl⟩ := Option.isSome_iff_exists.mp hs
  obtain ⟨h1, h2⟩ := written_disk_agrees_with_live hi g (κ h) hg dn hl
  exact ⟨cget_eq_some.mpr ⟨Option.isSome_of_eq_some h1, hb⟩, fun r hr => h2 (κ r) (hneed h dn cn hl hb r hr)⟩

/-- reachable from `root` through the `need` lists of what the live database (cache, then disk) answers -/
inductive LiveReach (s : St) (root : Hash) : Hash → Prop where
  | root : (liveLookup s root).isSome = true → LiveReach s root root
  | step {k r : Hash} {dn : DNode} : LiveReach s root k → liveLookup s k = some dn → r ∈ dn.need → LiveReach s root r

theorem reach_on_disk {s : St} {root : Hash} {ws : List Hash} (hi : Inv s)
    (g : GoodTrace s.cache s.disk root ws) {k : Hash} (hr : LiveReach s root k) :
    Has (applyWrites s.cache s.disk ws) k := by
  induction hr with
  | root hroot => exact root_on_disk g hroot
  | step _ hl hr ih => exact (written_disk_agrees_with_live hi g _ ih _ hl).2 _ hr

end Rangers.Model.TrieDB
