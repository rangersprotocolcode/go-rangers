import Rangers.Proofs.JournalRevert
/-! `Rev` for the six ops that do not touch account objects (refund counter, logs, access list, transient storage):
for every `SimP P D` with `P` closed, since object cache and dirty set come back literally.  In front: the lengths of
`toHash` and `tget` (a transient slot comes back through `toHash`), the side conditions `AddLogOk`, `AddSlotOk` of the two ops
whose undo is not exact on every state, and what `addSlot`/`deleteSlot` compute. -/
namespace Rangers.Proofs.Journal
open Rangers Rangers.Model.Journal

theorem toHash_length (b : Bytes) : (toHash b).length = 32 := by
  unfold toHash; split
  · rename_i h; rw [List.length_drop]; exact Nat.sub_sub_self (Nat.le_of_lt h)
  · rename_i h; rw [List.length_append, List.length_replicate]; exact Nat.sub_add_cancel (Nat.le_of_not_gt h)

theorem toHash_idem (b : Bytes) : toHash (toHash b) = toHash b := by
  have h := toHash_length b
  generalize toHash b = x at h
  simp [toHash, h]

theorem zeroHash_length : zeroHash.length = 32 := by simp [zeroHash]

theorem tget_length (t : List (Addr × List (Hash × Hash))) (a : Addr) (k : Hash) : (tget t a k).length = 32 := by
  unfold tget; split
  · exact zeroHash_length
  · exact toHash_length _

theorem toHash_of_length {b : Bytes} (h : b.length = 32) : toHash b = b := by simp [toHash, h]

/-- representable log counter, and no tx hash is mapped to an empty log list (the package deletes the key instead) -/
def AddLogOk (s : ADB) : Prop := s.logSize + 1 < U64 ∧ mget s.logs s.thash ≠ some []

instance (s : ADB) : Decidable (AddLogOk s) := by unfold AddLogOk; infer_instance

/-- a slot set that is about to be extended is not empty (`DeleteSlot` would otherwise truncate `slots`) -/
def AddSlotOk (s : ADB) (a : Addr) : Prop :=
  match mget s.al.addrs a with
  | none => True
  | some idx =>
    idx < 0 ∨ (match s.al.slots[idx.toNat]? with
      | some m => m ≠ []
      | none => True)

instance (s : ADB) (a : Addr) : Decidable (AddSlotOk s a) := by
  unfold AddSlotOk; split
  · infer_instance
  · apply instDecidableOr (dq := ?_); split <;> infer_instance

theorem al_ext {x y : AccessList} (h1 : x.addrs = y.addrs) (h2 : x.slots = y.slots) : x = y := by
  cases x; cases y; simp_all

theorem addSlot_step {s : ADB} (hs : s.crashed = false) {a : Addr} {slot : Hash} {al : AccessList} {am sm : Bool}
    (hadd : s.al.addSlot a slot = some (al, am, sm)) :
    addSlotToAccessList s a slot =
      { s with al := al, journal := (if sm then (if am then s.journal ++ [Entry.alAddr a] else s.journal) ++ [Entry.alSlot a slot]
                                      else if am then s.journal ++ [Entry.alAddr a] else s.journal) } := by
  simp [addSlotToAccessList, hs, hadd]

theorem deleteSlot_fresh (al : AccessList) (a : Addr) (slot : Hash) :
    AccessList.deleteSlot { addrs := mset al.addrs a (Int.ofNat al.slots.length), slots := al.slots ++ [[slot]] } a slot =
      some { addrs := mset al.addrs a (-1), slots := al.slots } := by
  simp [AccessList.deleteSlot, sdel, List.take_left', mset_mset]

end Rangers.Proofs.Journal

namespace Rangers.Proofs.JournalG
open Rangers Rangers.Model.Journal Rangers.Proofs.Journal

variable {P : List (Hash × Bytes) → Obj → Obj → Prop} {D : Prop} (hP : ∀ cs, Closed (P cs) D) (c : Cfg)
include hP

theorem revAt_addRefund (s : ADB) (g : Nat) : Rev c (SimP P D) s (addRefund s g) := by
  by_cases hs : s.crashed = true
  · exact .of_fix (relOk_SimP hP c) (if_pos hs)
  have hs : s.crashed = false := by simpa using hs
  refine .of_eq { s with journal := s.journal ++ [Entry.refund s.refund], refund := (s.refund + g) % U64 }
    (by simp [addRefund, hs]) hs [Entry.refund s.refund] rfl rfl rfl (fun hc => ?_)
  rw [undoAll_singleton, undo_refund c hc]
  exact .of_view hP rfl rfl rfl (.inner s)

theorem revAt_subRefund (s : ADB) (g : Nat) : Rev c (SimP P D) s (subRefund s g) := by
  by_cases hs : s.crashed = true
  · exact .of_fix (relOk_SimP hP c) (if_pos hs)
  have hs : s.crashed = false := by simpa using hs
  by_cases hg : g > s.refund
  · exact .of_eq (crash { s with journal := s.journal ++ [Entry.refund s.refund] }) (by simp [subRefund, hs, hg]) hs
      [Entry.refund s.refund] rfl rfl rfl (fun hc => by cases hc)
  · refine .of_eq { s with journal := s.journal ++ [Entry.refund s.refund], refund := s.refund - g }
      (by simp [subRefund, hs, hg]) hs [Entry.refund s.refund] rfl rfl rfl (fun hc => ?_)
    rw [undoAll_singleton, undo_refund c hc]
    exact .of_view hP rfl rfl rfl (.inner s)

theorem revAt_tset (s : ADB) (a : Addr) (k v : Hash) : Rev c (SimP P D) s (setTransientState s a k v) := by
  by_cases hs : s.crashed = true
  · exact .of_fix (relOk_SimP hP c) (if_pos hs)
  have hs : s.crashed = false := by simpa using hs
  by_cases hv : tget s.transient a k = v
  · exact .of_fix (relOk_SimP hP c) (by simp [setTransientState, hs, hv])
  refine .of_eq { s with journal := s.journal ++ [Entry.transient a k (tget s.transient a k)],
                         transient := tset s.transient a k v }
    (by simp [setTransientState, hs, hv]) hs [Entry.transient a k (tget s.transient a k)] rfl rfl rfl (fun hc => ?_)
  rw [undoAll_singleton, undo_transient c hc]
  refine .of_view hP rfl rfl rfl ⟨rfl, rfl, rfl, rfl, rfl, rfl, fun a' k' => ?_, rfl, rfl, rfl⟩
  simp only [tget_tset]
  by_cases h : a = a' ∧ k = k'
  · obtain ⟨rfl, rfl⟩ := h
    simp [toHash_of_length (tget_length _ _ _)]
  · simp [h]

theorem revAt_alAddr (s : ADB) (a : Addr) : Rev c (SimP P D) s (addAddressToAccessList s a) := by
  by_cases hs : s.crashed = true
  · exact .of_fix (relOk_SimP hP c) (if_pos hs)
  have hs : s.crashed = false := by simpa using hs
  cases hm : mget s.al.addrs a with
  | some i =>
    exact .of_fix (relOk_SimP hP c) (by simp [addAddressToAccessList, hs, AccessList.addAddress, hm])
  | none =>
    refine .of_eq { s with al := { s.al with addrs := mset s.al.addrs a (-1) }, journal := s.journal ++ [Entry.alAddr a] }
      (by simp [addAddressToAccessList, hs, AccessList.addAddress, hm]) hs [Entry.alAddr a] rfl rfl rfl (fun hc => ?_)
    rw [undoAll_singleton, undo_alAddr c hc]
    refine .of_view hP rfl rfl rfl ⟨rfl, rfl, rfl, rfl, rfl, ?_, fun _ _ => rfl, rfl, rfl, rfl⟩
    simp only [AccessList.deleteAddress, mdel_mset_fresh _ _ _ hm]

theorem revAt_addLog (s : ADB) (a : Addr) (t d : Bytes) (hok : AddLogOk s) : Rev c (SimP P D) s (addLog s a t d) := by
  by_cases hs : s.crashed = true
  · exact .of_fix (relOk_SimP hP c) (if_pos hs)
  have hs : s.crashed = false := by simpa using hs
  obtain ⟨hsz, hne⟩ := hok
  refine .of_eq _ (if_neg (by simp [hs])) hs [Entry.addLog s.thash] rfl rfl rfl (fun hc => ?_)
  rw [undoAll_singleton, undo_addLog c hc]
  have hmod : (s.logSize + 1) % U64 = s.logSize + 1 := Nat.mod_eq_of_lt hsz
  have hback : (s.logSize + 1 + U64 - 1) % U64 = s.logSize := by
    rw [Nat.add_right_comm, Nat.add_sub_cancel, Nat.add_mod_right]; exact Nat.mod_eq_of_lt (Nat.lt_of_succ_lt hsz)
  simp only [mget_mset_self, Option.getD_some, hmod, hback]
  cases hold : mget s.logs s.thash with
  | none =>
    simp only [Option.getD_none, List.nil_append, mdel_mset_fresh _ _ _ hold]
    exact .of_view hP rfl rfl rfl (.inner s)
  | some l =>
    cases l with
    | nil => exact absurd hold hne
    | cons x xs =>
      simp only [Option.getD_some]
      cases xs with
      | nil =>
        simp only [List.cons_append, List.nil_append, List.dropLast, mset_mset, mset_same _ _ _ hold]
        exact .of_view hP rfl rfl rfl (.inner s)
      | cons y ys =>
        have hdl : ∀ r : LogRec, (x :: y :: (ys ++ [r])).dropLast = x :: y :: ys := by
          intro r; simp [List.dropLast]
        simp only [List.cons_append, hdl, mset_mset, mset_same _ _ _ hold]
        exact .of_view hP rfl rfl rfl (.inner s)

theorem revAt_alSlot (s : ADB) (a : Addr) (slot : Hash) (hok : AddSlotOk s a) :
    Rev c (SimP P D) s (addSlotToAccessList s a slot) := by
  by_cases hs : s.crashed = true
  · exact .of_fix (relOk_SimP hP c) (if_pos hs)
  have hs : s.crashed = false := by simpa using hs
  have panic : s.al.addSlot a slot = none → Rev c (SimP P D) s (addSlotToAccessList s a slot) := fun hadd =>
    .of_eq (crash s) (by simp [addSlotToAccessList, hs, hadd]) hs [] (by simp [crash]) rfl rfl (fun hc => by cases hc)
  cases hm : mget s.al.addrs a with
  | none =>
    -- address and slot are new: two entries
    have hadd : s.al.addSlot a slot = some ({ addrs := mset s.al.addrs a (Int.ofNat s.al.slots.length), slots := s.al.slots ++ [[slot]] }, true, true) := by
      simp [AccessList.addSlot, hm]
    refine .of_eq _ (addSlot_step hs hadd) hs [Entry.alAddr a, Entry.alSlot a slot] (by simp) rfl rfl (fun hc => ?_)
    rw [show ∀ u, undoAll c u [Entry.alAddr a, Entry.alSlot a slot] = undo c (undo c u (Entry.alSlot a slot)) (Entry.alAddr a) from fun _ => rfl,
      undo_alSlot c hc]
    simp only [deleteSlot_fresh]
    rw [undo_alAddr c]
    · refine .of_view hP rfl rfl rfl ⟨rfl, rfl, rfl, rfl, rfl, ?_, fun _ _ => rfl, rfl, rfl, rfl⟩
      simp only [AccessList.deleteAddress, mdel_mset_fresh _ _ _ hm]
    · exact hc
  | some idx =>
    by_cases hneg : idx = -1
    · subst hneg
      have hadd : s.al.addSlot a slot = some ({ addrs := mset s.al.addrs a (Int.ofNat s.al.slots.length), slots := s.al.slots ++ [[slot]] }, false, true) := by
        simp [AccessList.addSlot, hm]
      refine .of_eq _ (addSlot_step hs hadd) hs [Entry.alSlot a slot] rfl rfl rfl (fun hc => ?_)
      rw [undoAll_singleton, undo_alSlot c hc]
      simp only [deleteSlot_fresh, mset_same _ _ _ hm]
      exact .of_view hP rfl rfl rfl (.inner s)
    · by_cases hlt : idx < 0
      · exact panic (by simp [AccessList.addSlot, hm, hneg, hlt])
      · cases hsl : s.al.slots[idx.toNat]? with
        | none => exact panic (by simp [AccessList.addSlot, hm, hneg, hlt, hsl])
        | some m =>
          by_cases hin : slot ∈ m
          · have hadd : s.al.addSlot a slot = some (s.al, false, false) := by simp [AccessList.addSlot, hm, hneg, hlt, hsl, hin]
            exact .of_fix (relOk_SimP hP c) (addSlot_step hs hadd)
          · have hne : m ≠ [] := by
              have := hok
              unfold AddSlotOk at this
              rw [hm] at this
              rcases this with h | h
              · exact absurd h hlt
              · rw [hsl] at h; exact h
            have hadd : s.al.addSlot a slot = some ({ s.al with slots := s.al.slots.set idx.toNat (m ++ [slot]) }, false, true) := by
              simp [AccessList.addSlot, hm, hneg, hlt, hsl, hin]
            refine .of_eq _ (addSlot_step hs hadd) hs [Entry.alSlot a slot] rfl rfl rfl (fun hc => ?_)
            rw [undoAll_singleton, undo_alSlot c hc]
            obtain ⟨hil, hget⟩ := List.getElem?_eq_some_iff.mp hsl
            have hdel : AccessList.deleteSlot { s.al with slots := s.al.slots.set idx.toNat (m ++ [slot]) } a slot = some s.al := by
              have hme : m.isEmpty = false := by
                cases m with
                | nil => exact absurd rfl hne
                | cons _ _ => rfl
              simp only [AccessList.deleteSlot, hm, hlt, if_false, List.getElem?_set_self hil, Bool.false_eq_true,
                sdel_append_self m slot hin, List.set_set, hme]
              congr 1
              refine al_ext (x := { addrs := s.al.addrs, slots := s.al.slots.set idx.toNat m }) (y := s.al) rfl ?_
              show s.al.slots.set idx.toNat m = s.al.slots
              rw [← hget, List.set_getElem_self]
            simp only [hdel]
            exact .of_view hP rfl rfl rfl (.inner s)

end Rangers.Proofs.JournalG
