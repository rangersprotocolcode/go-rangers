import Rangers.Model.Evm10Ops
import Rangers.Proofs.BigEndian
/-!
C10 — the memory operations of memory.go: when they succeed, what memory contains afterwards, that
lengths are kept; the 32-byte big-endian round trip, zero-filled `getData`, PUSH right-padding.
Every write is a `splice` of the list; `Patch` says the same byte by byte through `getD · 0`, and the
memory-content theorems of `Props/C10M` are `Patch` written out.
-/
namespace Rangers.Proofs.Evm10
open Rangers Rangers.Model.Evm10 Rangers.Model.Evm10.U256

theorem resize_length (m : Bytes) (n : Nat) : (Mem.resize m n).length = max m.length n := by
  unfold Mem.resize
  split
  · simp; omega
  · omega

theorem getPtr_eq {m : Bytes} {off size : Nat} (h : size = 0 ∨ off + size ≤ m.length) :
    Mem.getPtr m off size = some ((m.drop off).take size) := by
  unfold Mem.getPtr
  by_cases h0 : size = 0
  · rw [if_pos h0, h0, List.take_zero]
  · rw [if_neg h0, if_pos (by omega), if_pos (by omega)]

theorem getPtr_ne_none (m : Bytes) (off size : Nat) (h : size = 0 ∨ off + size ≤ m.length) :
    Mem.getPtr m off size ≠ none := by
  rw [getPtr_eq h]; nofun

theorem set_ne_none (m : Bytes) (off size : Nat) (v : Bytes) (h : size = 0 ∨ off + size ≤ m.length) :
    Mem.set m off size v ≠ none := by
  unfold Mem.set
  split
  · nofun
  · rw [if_neg (by omega)]; nofun

theorem set32_ne_none (m : Bytes) (off : Nat) (v : Word) (h : off + 32 ≤ m.length) :
    Mem.set32 m off v ≠ none := by
  unfold Mem.set32
  rw [if_neg (by omega)]; nofun

theorem setByte_ne_none (m : Bytes) (off : Nat) (b : UInt8) (h : off + 1 ≤ m.length) :
    Mem.setByte m off b ≠ none := by
  unfold Mem.setByte
  rw [if_pos (by omega)]; nofun

theorem copy_ne_none (m : Bytes) (dst src len : Nat)
    (h : len = 0 ∨ (src + len ≤ m.length ∧ dst ≤ m.length)) : Mem.copy m dst src len ≠ none := by
  unfold Mem.copy
  split
  · nofun
  · rw [if_neg (by omega)]; nofun

/-- overwrite `m[off .. off+v.length)` with `v`: the shape every memory write has -/
def splice (m : Bytes) (off : Nat) (v : Bytes) : Bytes := m.take off ++ v ++ m.drop (off + v.length)

theorem splice_length (m : Bytes) (off : Nat) (v : Bytes) (h : off + v.length ≤ m.length) :
    (splice m off v).length = m.length := by
  simp [splice]; omega

theorem splice_getD (m : Bytes) (off : Nat) (v : Bytes) (h : off + v.length ≤ m.length) (j : Nat) :
    (splice m off v).getD j 0 =
      if off ≤ j ∧ j < off + v.length then v.getD (j - off) 0 else m.getD j 0 := by
  have hto : (m.take off).length = off := List.length_take_of_le (Nat.le_trans (Nat.le_add_right _ _) h)
  simp only [splice, List.getD_eq_getElem?_getD, List.getElem?_append, List.length_append, hto,
    List.getElem?_drop]
  by_cases h1 : j < off
  · rw [if_pos (by omega), if_pos h1, if_neg (by omega), List.getElem?_take_of_lt h1]
  · by_cases h2 : j < off + v.length
    · rw [if_pos h2, if_neg h1, if_pos ⟨by omega, h2⟩]
    · rw [if_neg h2, if_neg (by omega)]
      congr 2; omega

theorem splice_take (m : Bytes) (off : Nat) (v : Bytes) (h : off ≤ m.length) :
    (splice m off v).take off = m.take off := by
  have hto : (m.take off).length = off := List.length_take_of_le h
  rw [splice, List.append_assoc, List.take_append_of_le_length (by omega), List.take_of_length_le (by omega)]

theorem splice_drop (m : Bytes) (off : Nat) (v : Bytes) (h : off ≤ m.length) :
    (splice m off v).drop (off + v.length) = m.drop (off + v.length) := by
  have hl : (m.take off ++ v).length = off + v.length := by
    rw [List.length_append, List.length_take_of_le h]
  rw [splice, ← hl, List.drop_left]

theorem splice_mid (m : Bytes) (off : Nat) (v : Bytes) (h : off ≤ m.length) :
    ((splice m off v).drop off).take v.length = v := by
  have hto : (m.take off).length = off := List.length_take_of_le h
  rw [splice, List.append_assoc, List.drop_append_of_le_length (by omega), List.drop_of_length_le (by omega),
    List.nil_append, List.take_left']
  rfl

theorem beToNat_bytes (k : Nat) : ∀ n : Nat,
    beToNat ((List.range k).map (fun i => UInt8.ofNat ((n >>> (8 * (k - 1 - i))) % 256))) =
      n % 2 ^ (8 * k) := by
  induction k with
  | zero => intro n; simp [beToNat, Nat.mod_one]
  | succ k ih =>
    intro n
    rw [List.range_succ, List.map_append, List.map_singleton, beToNat_append_one]
    have hmap : (List.range k).map (fun i => UInt8.ofNat ((n >>> (8 * (k + 1 - 1 - i))) % 256)) =
        (List.range k).map (fun i => UInt8.ofNat (((n >>> 8) >>> (8 * (k - 1 - i))) % 256)) := by
      apply List.map_congr_left
      intro i hi
      have hi' : i < k := List.mem_range.1 hi
      rw [← Nat.shiftRight_add]
      congr 3; omega
    rw [hmap, ih (n >>> 8)]
    have h0 : (8 * (k + 1 - 1 - k)) = 0 := by omega
    rw [h0, Nat.shiftRight_zero]
    rw [toNat_ofNat_mod, Nat.shiftRight_eq_div_pow]
    have : 2 ^ (8 * (k + 1)) = 2 ^ 8 * 2 ^ (8 * k) := by rw [← Nat.pow_add]; congr 1; omega
    rw [this, Nat.mod_mul]
    omega

theorem setBytes_toBytes32 (v : Word) : setBytes (toBytes32 v) = v := by
  unfold setBytes toBytes32 byteAt
  have := beToNat_bytes 32 v.toNat
  simp only [show 32 - 1 = 31 by rfl, show 8 * 32 = 256 by rfl] at this
  rw [this]
  apply BitVec.eq_of_toNat_eq
  simp [ofNat, Nat.mod_eq_of_lt v.isLt]

theorem toBytes32_length (v : Word) : (toBytes32 v).length = 32 := by simp [toBytes32]

theorem set32_eq_some {m m' : Bytes} {off : Nat} {v : Word} (h : Mem.set32 m off v = some m') :
    m' = splice m off (toBytes32 v) ∧ off + 32 ≤ m.length := by
  unfold Mem.set32 at h
  split at h
  · simp at h
  · simp only [Option.some.injEq] at h
    refine ⟨?_, by omega⟩
    rw [← h, splice, toBytes32_length]

theorem rightPad_length (bs : Bytes) (l : Nat) (h : bs.length ≤ l) : (rightPad bs l).length = l := by
  unfold rightPad
  split
  · omega
  · simp; omega

theorem getD_oob (l : Bytes) (j : Nat) (h : l.length ≤ j) : l.getD j 0 = 0 := by
  simp only [List.getD_eq_getElem?_getD]
  rw [List.getElem?_eq_none h]; rfl

theorem getD_take_drop (l : Bytes) (s k i : Nat) :
    ((l.drop s).take k).getD i 0 = if i < k then l.getD (s + i) 0 else 0 := by
  simp only [List.getD_eq_getElem?_getD, List.getElem?_take, List.getElem?_drop]
  split <;> rfl

theorem rightPad_getD (bs : Bytes) (l i : Nat) : (rightPad bs l).getD i 0 = bs.getD i 0 := by
  unfold rightPad
  split
  · rfl
  · by_cases hi : i < bs.length
    · simp only [List.getD_eq_getElem?_getD]
      rw [List.getElem?_append_left hi]
    · rw [getD_oob bs i (by omega)]
      simp only [List.getD_eq_getElem?_getD]
      rw [List.getElem?_append_right (by omega)]
      simp only [List.getElem?_replicate]
      split <;> rfl

/-- `getData` clamps start and end to the data; `drop` and `take` do that by themselves -/
theorem getData_eq (data : Bytes) (start size : Nat) :
    getData data start size = rightPad ((data.drop start).take size) size := by
  unfold getData
  dsimp only
  congr 1
  by_cases hs : start > data.length
  · rw [if_pos hs, List.drop_of_length_le (Nat.le_refl _), List.drop_of_length_le (Nat.le_of_lt hs),
      List.take_nil, List.take_nil]
  · rw [if_neg hs, List.take_eq_take_iff, List.length_drop]
    split <;> omega

theorem getData_length (data : Bytes) (start size : Nat) : (getData data start size).length = size := by
  rw [getData_eq]
  exact rightPad_length _ _ (List.length_take_le _ _)

theorem getData_getD (data : Bytes) (start size i : Nat) (hi : i < size) :
    (getData data start size).getD i 0 = data.getD (start + i) 0 := by
  rw [getData_eq, rightPad_getD, getD_take_drop, if_pos hi]

/-- the n bytes PUSHn pushes: the code bytes after the opcode, zero beyond the end of the code -/
def pushBytes (code : Bytes) (pc n : Nat) : Bytes :=
  (List.range n).map (fun i => code.getD (pc + 1 + i) 0)

theorem pushBytes_length (code : Bytes) (pc n : Nat) : (pushBytes code pc n).length = n := by
  simp [pushBytes]

theorem pushBytes_getD (code : Bytes) (pc n i : Nat) (hi : i < n) :
    (pushBytes code pc n).getD i 0 = code.getD (pc + 1 + i) 0 := by
  simp [pushBytes, List.getD_eq_getElem?_getD, List.getElem?_range hi]

theorem ext_getD (a b : Bytes) (hl : a.length = b.length)
    (h : ∀ i, a.getD i 0 = b.getD i 0) : a = b := by
  apply List.ext_getElem hl
  intro i h1 h2
  have := h i
  simp only [List.getD_eq_getElem?_getD, List.getElem?_eq_getElem h1, List.getElem?_eq_getElem h2,
    Option.getD_some] at this
  exact this

theorem pushValue_eq_getData (code : Bytes) (pc n : Nat) :
    pushValue code pc n = setBytes (getData code (pc + 1) n) := by
  have h1 : (if pc + 1 < code.length then pc + 1 else code.length) =
      (if pc + 1 > code.length then code.length else pc + 1) := by split <;> split <;> omega
  have h2 : ∀ s, (if s + n < code.length then s + n else code.length) =
      (if s + n > code.length then code.length else s + n) := by intro s; split <;> split <;> omega
  simp only [pushValue, getData, h1, h2]

theorem pushValue_eq (code : Bytes) (pc n : Nat) :
    pushValue code pc n = setBytes (pushBytes code pc n) := by
  rw [pushValue_eq_getData]
  congr 1
  apply ext_getD
  · rw [getData_length, pushBytes_length]
  · intro i
    by_cases hi : i < n
    · rw [getData_getD _ _ _ _ hi, pushBytes_getD _ _ _ _ hi]
    · rw [getD_oob _ _ (by rw [getData_length]; omega), getD_oob _ _ (by rw [pushBytes_length]; omega)]

/-- `m'` is `m` with the `n` bytes from `off` on replaced by `g 0, …, g (n - 1)` -/
def Patch (m m' : Bytes) (off n : Nat) (g : Nat → UInt8) : Prop :=
  m'.length = m.length ∧ ∀ j, m'.getD j 0 = if off ≤ j ∧ j < off + n then g (j - off) else m.getD j 0

theorem Patch.congr {m m' : Bytes} {off n : Nat} {g g' : Nat → UInt8} (h : Patch m m' off n g)
    (hg : ∀ i, i < n → g i = g' i) : Patch m m' off n g' := by
  refine ⟨h.1, fun j => ?_⟩
  rw [h.2 j]
  by_cases hj : off ≤ j ∧ j < off + n
  · rw [if_pos hj, if_pos hj, hg _ (by omega)]
  · rw [if_neg hj, if_neg hj]

theorem Patch.none (m : Bytes) (off : Nat) (g : Nat → UInt8) : Patch m m off 0 g :=
  ⟨rfl, fun _ => (if_neg (by omega)).symm⟩

theorem splice_patch (m : Bytes) (off : Nat) (v : Bytes) (h : off + v.length ≤ m.length) :
    Patch m (splice m off v) off v.length (v.getD · 0) :=
  ⟨splice_length m off v h, splice_getD m off v h⟩

theorem set32_patch {m m' : Bytes} {off : Nat} {v : Word} (h : Mem.set32 m off v = some m') :
    Patch m m' off 32 ((toBytes32 v).getD · 0) := by
  obtain ⟨rfl, hb⟩ := set32_eq_some h
  have := splice_patch m off (toBytes32 v) (by rw [toBytes32_length]; exact hb)
  rwa [toBytes32_length] at this

theorem setByte_patch {m m' : Bytes} {off : Nat} {b : UInt8} (h : Mem.setByte m off b = some m') :
    Patch m m' off 1 (fun _ => b) := by
  unfold Mem.setByte at h
  split at h
  · cases h
    exact (splice_patch m off [b] (by assumption)).congr fun i hi => by rw [Nat.lt_one_iff.1 hi]; rfl
  · cases h

theorem set_patch {m m' v : Bytes} {off size : Nat} (h : Mem.set m off size v = some m') :
    Patch m m' off (min size v.length) (v.getD · 0) := by
  unfold Mem.set at h
  split at h
  · cases h
    rw [‹size = 0›, Nat.zero_min]
    exact Patch.none m off _
  · split at h
    · cases h
    · cases h
      have := splice_patch m off (v.take size) (by rw [List.length_take]; omega)
      rw [List.length_take] at this
      refine this.congr fun i hi => ?_
      simp only [List.getD_eq_getElem?_getD, List.getElem?_take]
      rw [if_pos (by omega)]

/-- Go's `copy` is cut short by the destination: `min len (len(store) - dst)` bytes are written -/
theorem copy_patch {m m' : Bytes} {dst src len : Nat} (h : Mem.copy m dst src len = some m') :
    Patch m m' dst (min len (m.length - dst)) (fun i => m.getD (src + i) 0) := by
  unfold Mem.copy at h
  split at h
  · cases h
    rw [‹len = 0›, Nat.zero_min]
    exact Patch.none _ dst _
  · split at h
    · cases h
    · cases h
      rw [List.take_take, Nat.min_comm]
      have hlen : ((m.drop src).take (min len (m.length - dst))).length = min len (m.length - dst) := by
        rw [List.length_take, List.length_drop]
        exact Nat.min_eq_left (Nat.le_trans (Nat.min_le_left _ _) (by omega))
      have := splice_patch m dst _
        (by rw [hlen]; exact Nat.le_trans (Nat.add_le_add_left (Nat.min_le_right _ _) _) (by omega))
      rw [hlen] at this
      exact this.congr fun i hi => by rw [getD_take_drop, if_pos hi]

theorem set_getD (m m' v : Bytes) (off size : Nat) (h : Mem.set m off size v = some m') (j : Nat) :
    m'.getD j 0 = if off ≤ j ∧ j < off + min size v.length then v.getD (j - off) 0 else m.getD j 0 :=
  (set_patch h).2 j

theorem set32_length {m m' : Bytes} {off : Nat} {v : Word} (h : Mem.set32 m off v = some m') :
    m'.length = m.length := (set32_patch h).1

theorem setByte_length {m m' : Bytes} {off : Nat} {b : UInt8} (h : Mem.setByte m off b = some m') :
    m'.length = m.length := (setByte_patch h).1

theorem set_length {m m' : Bytes} {off size : Nat} {v : Bytes} (h : Mem.set m off size v = some m') :
    m'.length = m.length := (set_patch h).1

theorem copy_length {m m' : Bytes} {dst src len : Nat} (h : Mem.copy m dst src len = some m') :
    m'.length = m.length := (copy_patch h).1

end Rangers.Proofs.Evm10
