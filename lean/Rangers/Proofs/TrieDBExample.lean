import Rangers.Proofs.TrieDBInv
/-! A concrete reachable history used by the non-vacuity examples of Props/C03.lean, C03Fuel.lean and C03Head.lean: two
storage-trie leaves `1`, `2` under the storage root `3` and a code blob `4` (`exS4`), then the account-trie node `5` holding an
account leaf with storage root `3` and code hash `4` (`exS5`).  A cache entry is `(hash, ⟨size, tag, inner, ext, need⟩)`; the
disk is empty, `emptyData = emptyCode = 0`. -/
namespace Rangers.Props.C03
open Rangers.Model.TrieDB

def exS4 : St :=
  ⟨[(4, ⟨30, 14, [], [], []⟩), (3, ⟨20, 13, [1, 2], [], [1, 2]⟩), (2, ⟨6, 12, [], [], []⟩), (1, ⟨5, 11, [], [], []⟩)], []⟩

def exS5 : St :=
  ⟨[(5, ⟨40, 15, [], [3, 4], [3, 4]⟩), (4, ⟨30, 14, [], [], []⟩), (3, ⟨20, 13, [1, 2], [], [1, 2]⟩),
    (2, ⟨6, 12, [], [], []⟩), (1, ⟨5, 11, [], [], []⟩)], []⟩

theorem storeOk_fresh {eD eC : Hash} {c : Cache} {h : Hash} {n : CNode} {leaf : Option (Hash × Hash)}
    (hext : n.ext = [])
    (hneed : ∀ r ∈ n.need, Has c r ∧ (r ∈ n.inner ∨
      ∃ root code, leaf = some (root, code) ∧ ((r = root ∧ root ≠ eD) ∨ (r = code ∧ code ≠ eC)))) :
    StoreOk eD eC ⟨c, []⟩ h n leaf :=
  ⟨hext, nofun, fun r hr => Or.inr (hneed r hr)⟩

theorem exS4_reach : Reach 0 0 exS4 :=
  .step (.store 4 ⟨30, 14, [], [], []⟩ none)
    (.step (.store 3 ⟨20, 13, [1, 2], [], [1, 2]⟩ none)
      (.step (.store 2 ⟨6, 12, [], [], []⟩ none)
        (.step (.store 1 ⟨5, 11, [], [], []⟩ none) .init (storeOk_fresh rfl nofun) rfl)
        (storeOk_fresh rfl nofun) rfl)
      (storeOk_fresh rfl fun r hr => ⟨by revert r; decide, Or.inl hr⟩) rfl)
    (storeOk_fresh rfl nofun) rfl

/-- the account-leaf holder `5` is stored with its leaf callback: `StoreOk` holds
    because `3` and `4` are cached and are the root/code the callback receives. -/
theorem exS5_reach : Reach 0 0 exS5 :=
  .step (.store 5 ⟨40, 15, [], [], [3, 4]⟩ (some (3, 4))) exS4_reach
    (storeOk_fresh rfl fun r hr => by
      rcases hr with _ | ⟨_, _ | ⟨_, hr⟩⟩
      · exact ⟨by decide, Or.inr ⟨3, 4, rfl, Or.inl ⟨rfl, by decide⟩⟩⟩
      · exact ⟨by decide, Or.inr ⟨3, 4, rfl, Or.inr ⟨rfl, by decide⟩⟩⟩
      · cases hr) rfl

end Rangers.Props.C03
