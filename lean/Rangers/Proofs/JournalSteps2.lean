import Rangers.Proofs.JournalSteps
import Rangers.Proofs.JournalSteps3
/-! `Rev` for the object ops the root theorem does not cover — touch / FT ops, SetCode, GetCode, SetStorage,
AddERC20Binding — at the relation of the observations, `SimP ObjSim False` (= `Sim`). -/
namespace Rangers.Proofs.Journal
open Rangers Rangers.Model.Journal

theorem codeOf_cache (cs : List (Hash × Bytes)) (o : Obj) : codeOf cs { o with code := codeOf cs o } = codeOf cs o := by
  unfold codeOf
  cases h : o.code with
  | some cd => simp
  | none => simp only; split <;> simp_all

theorem loadCode_eq {s : ADB} {a : Addr} {o : Obj} (hm : mget s.objs a = some o) :
    (loadCode s a).1 = putObj s a { o with code := codeOf s.codes o } ∧ (loadCode s a).2 = codeOf s.codes o := by
  simp [loadCode, hm, codeLookup_eq]

end Rangers.Proofs.Journal

namespace Rangers.Proofs.JournalG
open Rangers Rangers.Model.Journal Rangers.Proofs.Journal

variable (c : Cfg)

theorem revAt_touch {s : ADB} {a : Addr} {o : Obj} (h : At s a o) : Rev c (SimP ObjSim False) s (touch s a) := by
  have hres := h.res
  obtain ⟨hs, hm, hd⟩ := h
  generalize hr : markDirty { s with journal := s.journal ++ [Entry.touch a o.touched (!o.armed)] } a { o with touched := true } = r
  have hu : Upd s r a (disarm { o with touched := true }) :=
    hr ▸ (Upd.markDirty _ a (x := { o with touched := true }) hd).of_res rfl (.inner s) (res_congr rfl rfl)
  refine .of_eq r (by simp [touch, hm, hr]) hs [Entry.touch a o.touched (!o.armed)] (by rw [← hr, markDirty_journal])
    (by rw [← hr, markDirty_fields]) (by rw [← hr, markDirty_fields]) fun hc => ?_
  rw [undoAll_singleton]
  -- `ObjSim` looks at neither `touched` nor `armed`: whether the undo acts or not, the object that comes back is related
  by_cases hg : (!o.touched && decide (a ≠ c.ripemd)) = true
  · exact .of_upd closed_objSim (hu.trans (undo_touch_live c hc hu.live _ _ hg).1) hres ⟨rfl, rfl, rfl, fun _ => rfl, rfl⟩ False.elim
  · rw [undo_touch c hc, if_neg hg]
    exact .of_upd closed_objSim hu hres ⟨rfl, rfl, rfl, fun _ => rfl, rfl⟩ False.elim

theorem revAt_readAt' {s : ADB} {a : Addr} {o : Obj} (k : Key) (h : At s a o) :
    ∃ s2 v, readAt s a k = (s2, v) ∧ Rev c (SimP ObjSim False) s s2 ∧ At s2 a (o.read k).1 :=
  ⟨_, _, rfl, revAt_readAt absorbs_objSim c k h False.elim, h.readAt k⟩

theorem revAt_addFT (s : ADB) (a : Addr) (k : Key) (n : Nat) : Rev c (SimP ObjSim False) s (addFT s a k n) := by
  have hR := relOk_SimP closed_objSim c
  by_cases hs : s.crashed = true
  · rw [addFT, if_pos hs]; exact .refl hR s
  rw [addFT, if_neg hs]
  split
  next s1 hrn => exact (Rev.ofNil closed_objSim c hrn).crash
  next s1 o hrn =>
    refine .afterNew closed_objSim c hs hrn False.elim fun hat _ => ?_
    split
    · split
      · exact revAt_touch c hat
      · exact .refl hR s1
    · obtain ⟨s2, v, e, hrd, hat2⟩ := revAt_readAt' c k hat
      rw [e]
      dsimp only
      rw [if_neg (by simp [hat2.live])]
      exact hrd.trans hR (revAt_setDataJ absorbs_objSim c k _ hat2 False.elim)

theorem revAt_subFT (s : ADB) (a : Addr) (k : Key) (n : Nat) : Rev c (SimP ObjSim False) s (subFT s a k n).1 := by
  have hR := relOk_SimP closed_objSim c
  by_cases hs : s.crashed = true
  · rw [subFT, if_pos hs]; exact .refl hR s
  rw [subFT, if_neg hs]
  split
  next s1 hrn => exact (Rev.ofNil closed_objSim c hrn).crash
  next s1 o hrn =>
    refine .afterNew closed_objSim c hs hrn False.elim fun hat _ => ?_
    obtain ⟨s2, v, e, hrd, hat2⟩ := revAt_readAt' c k hat
    rw [e]
    dsimp only
    rw [if_neg (by simp [hat2.live])]
    split
    · exact hrd
    split
    · exact hrd
    · exact hrd.trans hR (revAt_setDataJ absorbs_objSim c k _ hat2 False.elim)

theorem revAt_setFT (s : ADB) (a : Addr) (k : Key) (n : Nat) : Rev c (SimP ObjSim False) s (setFT s a k n) := by
  by_cases hs : s.crashed = true
  · rw [setFT, if_pos hs]; exact .refl (relOk_SimP closed_objSim c) s
  rw [setFT, if_neg hs]
  split
  next s1 hrn => exact (Rev.ofNil closed_objSim c hrn).crash
  next s1 o hrn =>
    exact .afterNew closed_objSim c hs hrn False.elim fun hat _ => revAt_setDataJ absorbs_objSim c _ _ hat False.elim

theorem revAt_getFT (s : ADB) (a : Addr) (k : Key) : Rev c (SimP ObjSim False) s (getFT s a k).1 := by
  by_cases hs : s.crashed = true
  · rw [getFT, if_pos hs]; exact .refl (relOk_SimP closed_objSim c) s
  rw [getFT, if_neg hs]
  split
  next s1 hrn => exact (Rev.ofNil closed_objSim c hrn).crash
  next s1 o hrn =>
    exact .afterNew closed_objSim c hs hrn False.elim fun hat _ => revAt_readAt absorbs_objSim c k hat False.elim

theorem revAt_loadCode {s : ADB} {a : Addr} {o : Obj} (h : At s a o) : Rev c (SimP ObjSim False) s (loadCode s a).1 := by
  rw [(loadCode_eq h.cached).1]
  exact revAt_put closed_objSim c h _ h.nodel ⟨rfl, rfl, rfl, fun _ => rfl, codeOf_cache _ _⟩

/-- `SetCode`; the recorded previous hash goes through `BytesToHash`, so it must be a 32-byte hash -/
theorem revAt_setCode (s : ADB) (a : Addr) (code : Bytes) (h : Hash)
    (hlen : ∀ s1 o, resolveNew s a = (s1, some o) → o.codeHash.length = 32) :
    Rev c (SimP ObjSim False) s (setCode s a code h) := by
  have hR := relOk_SimP closed_objSim c
  by_cases hs : s.crashed = true
  · rw [setCode, if_pos hs]; exact .refl hR s
  rw [setCode, if_neg hs]
  split
  next s1 hrn => exact .ofNil closed_objSim c hrn
  next s1 o hrn =>
    refine .afterNew closed_objSim c hs hrn False.elim fun hat _ => ?_
    have hl := hlen s1 o hrn
    obtain ⟨l1, l2⟩ := loadCode_eq hat.cached
    have hat2 : At (loadCode s1 a).1 a { o with code := codeOf s1.codes o } := l1 ▸ hat.put hat.nodel
    show Rev c (SimP ObjSim False) s1 (match mget (loadCode s1 a).1.objs a with
      | none => crash (loadCode s1 a).1
      | some o' => setCodeRaw { (loadCode s1 a).1 with journal := (loadCode s1 a).1.journal ++ [Entry.code a (loadCode s1 a).2 o'.codeHash] } a h (some code))
    rw [hat2.cached, l2]
    exact (revAt_loadCode c hat).trans hR (revAt_modify closed_objSim c (Entry.code a (codeOf s1.codes o) o.codeHash)
      (fun x => { x with code := some code, codeHash := h, dirtyCode := true })
      (fun x => { x with code := codeOf s1.codes o, codeHash := toHash o.codeHash, dirtyCode := true })
      hat2 False.elim (fun _ => ⟨rfl, rfl⟩) (fun _ => ⟨rfl, rfl⟩) (fun _ hr => undo_code c hr a _ _)
      ⟨rfl, toHash_of_length hl, rfl, fun _ => rfl, by simp only [disarm, toHash_of_length hl]; rfl⟩)

theorem revAt_qCode (s : ADB) (a : Addr) : Rev c (SimP ObjSim False) s (getCode s a).1 := by
  by_cases hs : s.crashed = true
  · rw [getCode, if_pos hs]; exact .refl (relOk_SimP closed_objSim c) s
  rw [getCode, if_neg hs]
  split
  next s1 hrn => exact congrArg Prod.fst hrn ▸ revAt_resolve closed_objSim c s a
  next s1 o hrn => exact .afterResolve closed_objSim c hs hrn fun hat _ => revAt_loadCode c hat

omit c in
theorem setDataJ_keeps {s : ADB} {a : Addr} (k : Key) (v : Val) (h : ∃ o, At s a o) : ∃ o, At (setDataJ s a k v) a o := by
  obtain ⟨o, h⟩ := h
  have h1 := h.readAt k
  rw [setDataJ_eq k v h.live h.cached]
  split
  · exact ⟨_, h1⟩
  · simp only [setDataRaw, h1.cached]
    exact ⟨disarm (setSlot (o.read k).1 k v), by rw [markDirty_crashed]; exact h1.live, by rw [markDirty_objs]; exact mget_mset_self _ _ _, h1.nodel⟩

theorem revAt_setStorage (s : ADB) (a : Addr) (kvs : List (Key × Val)) : Rev c (SimP ObjSim False) s (setStorage s a kvs) := by
  by_cases hs : s.crashed = true
  · rw [setStorage, if_pos hs]; exact .refl (relOk_SimP closed_objSim c) s
  rw [setStorage, if_neg hs]
  split
  next s1 hrn =>
    split
    · exact .ofNil closed_objSim c hrn
    · exact (Rev.ofNil closed_objSim c hrn).crash
  next s1 o hrn =>
    exact .afterNew closed_objSim c hs hrn False.elim fun hat _ =>
      Rev.foldl (relOk_SimP closed_objSim c) (fun acc (p : Key × Val) => setDataJ acc a p.1 p.2) (fun x => ∃ o, At x a o)
        (fun _ p h => ⟨revAt_setDataJ absorbs_objSim c p.1 p.2 h.choose_spec False.elim, setDataJ_keeps p.1 p.2 h⟩) kvs s1 ⟨o, hat⟩

theorem revAt_addBinding (s : ADB) (bind contract : Addr) (pos dec : Nat) :
    Rev c (SimP ObjSim False) s (addERC20Binding s bind contract pos dec).1 := by
  have hR := relOk_SimP closed_objSim c
  have hA := absorbs_objSim
  by_cases hs : s.crashed = true
  · rw [addERC20Binding, if_pos hs]; exact .refl hR s
  rw [addERC20Binding, if_neg hs]
  have h0 : Rev c (SimP ObjSim False) s (exist s bind).1 := revAt_resolveOnly hA.closed c s bind _ _ _
  split
  next s1 he => rw [he] at h0; exact h0
  next s1 he =>
    rw [he] at h0
    exact ((h0.trans hR (revAt_setData hA c _ bind [0x63] contract False.elim)).trans hR
      (revAt_setData hA c _ bind [0x70] (u64BE pos) False.elim)).trans hR (revAt_setData hA c _ bind [0x64] (u64BE dec) False.elim)

end Rangers.Proofs.JournalG
