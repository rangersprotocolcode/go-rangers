import Rangers.Proofs.TrieLiveDefs
import Rangers.Proofs.TrieEncC
/- `hasher.hash` / `store` on live tries: the reference equals the loaded model's, flags stay truthful, the store stays sound (no-collision hypothesis). -/
namespace Rangers.Trie
open Rangers

/-- **no collision among the nodes of the universe `U`** (the nodes that occur in the history under
    consideration — a finite set; a global version would be unsatisfiable for a 32-byte hash):
    two minimal-form nodes of `U` whose encodings hash alike collapse alike.  Equal collapsed forms, not equal nodes, is what
    keeps the store sound when `dbInsert` finds the hash taken (`dbInsert_sound`); it follows if `fun t => H (enc H t)` is injective on `U`. -/
def NoColl (H : Bytes → Bytes) (U : Node → Prop) : Prop :=
  ∀ a b, U a → U b → WF a → WF b → H (enc H a) = H (enc H b) → collapse H a = collapse H b

/-- no entry of the store sits under the hash of a minimal-form node of `U` and holds anything but that node's collapsed form:
    `resolveHash` cannot bring back the wrong node.  `dbInsert` keeps this under `NoColl`. -/
def StoreSound (H : Bytes → Bytes) (U : Node → Prop) (st : Store) : Prop :=
  ∀ h c, st.lookup h = some c → ∀ t, U t → WF t → h = H (enc H t) → c = collapse H t

/-- `U` holds the children of its nodes, so the recursion of the hasher stays inside it -/
def ClosedU (U : Node → Prop) : Prop :=
  (∀ k v, U (.short k v) → U v) ∧ (∀ cs, U (.full cs) → ∀ c ∈ cs, U c)

variable {U : Node → Prop}

theorem lookup_dbInsert (st : Store) (h : Bytes) (c : CNode) (x : Bytes) :
    (dbInsert st h c).lookup x = (st.lookup x).or (if x = h then some c else none) := by
  unfold dbInsert
  by_cases hsome : (st.lookup h).isSome
  · rw [if_pos hsome]
    by_cases hx : x = h
    · obtain ⟨y, hy⟩ := Option.isSome_iff_exists.mp hsome
      rw [hx, hy]; rfl
    · rw [if_neg hx, Option.or_none]
  · rw [if_neg hsome, List.lookup_append]
    by_cases hx : x = h
    · simp [hx]
    · simp [hx, List.lookup_cons, beq_false_of_ne hx]

theorem dbInsert_extends (st : Store) (h : Bytes) (c : CNode) : Extends st (dbInsert st h c) := by
  intro x y hxy
  rw [lookup_dbInsert, hxy]; rfl

theorem dbInsert_lookup {H : Bytes → Bytes} {st : Store} (hs : StoreSound H U st) {t : Node} (hU : U t) (hwf : WF t) :
    (dbInsert st (H (enc H t)) (collapse H t)).lookup (H (enc H t)) = some (collapse H t) := by
  rw [lookup_dbInsert, if_pos rfl]
  cases hl : st.lookup (H (enc H t)) with
  | none => rfl
  | some c => rw [hs _ _ hl t hU hwf rfl]; rfl

theorem dbInsert_sound {H : Bytes → Bytes} (hnc : NoColl H U) {st : Store} (hs : StoreSound H U st) {t : Node} (hU : U t) (hwf : WF t) :
    StoreSound H U (dbInsert st (H (enc H t)) (collapse H t)) := by
  intro h c hl t' hU' hwf' hh
  rw [lookup_dbInsert] at hl
  cases hold : st.lookup h with
  | some c' =>
    rw [hold] at hl
    exact hs h c (hold.trans hl) t' hU' hwf' hh
  | none =>
    rw [hold, Option.none_or] at hl
    by_cases hx : h = H (enc H t)
    · rw [if_pos hx, Option.some.injEq] at hl
      rw [← hl]
      exact hnc t t' hU hU' hwf hwf' (hx ▸ hh)
    · rw [if_neg hx] at hl; cases hl

theorem stored_iff (H : Bytes → Bytes) (st : Store) (t : Node) (hwf : WF t) :
    Stored H st t ↔ (32 ≤ (enc H t).length → st.lookup (H (enc H t)) = some (collapse H t)) ∧
      ∀ e ∈ kidsStore H t, st.lookup e.1 = some e.2 := by
  simp only [Stored, mem_storeOf H false t hwf, Bool.false_eq_true, false_or]
  constructor
  · intro h
    exact ⟨fun hbig => h _ (Or.inl ⟨hbig, rfl⟩), fun e he => h e (Or.inr he)⟩
  · rintro ⟨h1, h2⟩ e (⟨hbig, rfl⟩ | he)
    · exact h1 hbig
    · exact h2 e he

theorem refOf_big {H : Bytes → Bytes} {t : Node} (hwf : WF t) (hbig : 32 ≤ (enc H t).length) :
    refOf H t = .hashRef (H (enc H t)) := by
  rw [refOf_of_ne_nil H t hwf.ne_nil]
  have : ¬ (enc H t).length < 32 := by omega
  simp [this]

theorem hashRef_eq {H : Bytes → Bytes} {child : Bool} {t : Node} (hwf : WF t)
    (hbig : child = true → 32 ≤ (enc H t).length) :
    CNode.hashRef (H (enc H t)) = (if child = true then refOf H t else .hashRef (H (enc H t))) := by
  cases child with
  | false => rfl
  | true => rw [if_pos rfl, refOf_big hwf (hbig rfl)]

/-- what one call of `hasher.hash` on the live node for `t` must deliver; `r` = (reference for the parent, replacement for the
    node, store).  In this order: the reference is the loaded model's (`refOf` for a child, the hash for the root); the
    replacement stands for `t` over the store returned; that store answers all that `st` answered; it is sound; with a database
    (`Commit`) all of `t` is in it, the root under its hash too; without one (`Hash`) it is `st`. -/
def HashSpec (H : Bytes → Bytes) (U : Node → Prop) (st : Store) (withDb child : Bool) (t : Node) (r : CNode × LNode × Store) : Prop :=
  r.1 = (if child then refOf H t else .hashRef (H (enc H t))) ∧
  AbsR H r.2.2 child t r.2.1 ∧ Extends st r.2.2 ∧ StoreSound H U r.2.2 ∧
  (withDb = true → Stored H r.2.2 t ∧ (child = false → r.2.2.lookup (H (enc H t)) = some (collapse H t))) ∧
  (withDb = false → r.2.2 = st)

/-- `hasher.store` finishes a node whose children are done: `st1` is the store they left, `mk` rebuilds the live node
    around them with the flags `store` hands back.  `hnodb`: without a database a node with a cached hash does not get here,
    `cacheHit` has answered (`cacheHit_spec`, second part); `hk`, `h0`: what hashing the children did to the store, the last two
    parts of their `HashSpec`. -/
theorem store_step {H : Bytes → Bytes} (hnc : NoColl H U) {t : Node} (hU : U t) (hwf : WF t) (child withDb : Bool) (fl : Flag)
    {st0 st1 : Store} (hext : Extends st0 st1) (hfl : FlagOK H st0 child fl t) (hs : StoreSound H U st1)
    (hnodb : withDb = false → fl.hash = none)
    (hk : withDb = true → ∀ e ∈ kidsStore H t, st1.lookup e.1 = some e.2) (h0 : withDb = false → st1 = st0)
    (mk : Flag → LNode) (hmk : ∀ st2 fl2, Extends st1 st2 → FlagOK H st2 child fl2 t → AbsL H st2 child t (mk fl2)) :
    let s := storeL H withDb (!child) fl.hash (collapse H t) st1
    HashSpec H U st0 withDb child t (s.1, mk (hashedFlag withDb fl s.2.1), s.2.2) := by
  have henc := encC_collapse H t hwf
  have hne : t ≠ .nil := hwf.ne_nil
  simp only [storeL, henc, Bool.not_not]
  by_cases hsmall : ((enc H t).length < 32 ∧ child = true)
  · obtain ⟨hsm, hch⟩ := hsmall
    subst hch
    have hcond : (decide ((enc H t).length < 32) && true) = true := by simp [hsm]
    simp only [hcond, if_true]
    have hst : withDb = true → Stored H st1 t := fun hw => (stored_iff H st1 t hwf).mpr ⟨fun hb => by omega, hk hw⟩
    refine ⟨by rw [refOf_of_ne_nil H t hne]; simp [hsm], Or.inl (hmk _ _ (Extends.refl _) ?_), hext, hs,
      fun hw => ⟨hst hw, fun h => by cases h⟩, h0⟩
    refine ⟨fun x hx => by simp [hashedFlag] at hx, fun hd => ?_⟩
    simp only [hashedFlag] at hd ⊢
    cases hw : withDb with
    | true => exact ⟨hst hw, trivial, hsm⟩
    | false =>
      rw [hw] at hd
      simp only [Bool.false_eq_true, if_false] at hd
      exact ⟨(hfl.2 hd).1.mono hext, trivial, hsm⟩
  · have hcond : (decide ((enc H t).length < 32) && child) = false := by
      cases child with
      | false => exact Bool.and_false _
      | true => simpa using hsmall
    simp only [hcond, Bool.false_eq_true, if_false]
    have hbig : child = true → 32 ≤ (enc H t).length := by
      intro hc; subst hc
      simp only [and_true, Nat.not_lt] at hsmall; exact hsmall
    have hh : fl.hash.getD (H (enc H t)) = H (enc H t) := by
      cases hf : fl.hash with
      | none => rfl
      | some h0 => exact (hfl.1 h0 hf).1
    rw [hh]
    have hC1 := hashRef_eq hwf hbig
    have hhash : ∀ x, (hashedFlag withDb fl (some (H (enc H t)))).hash = some x →
        x = H (enc H t) ∧ (child = true → 32 ≤ (enc H t).length) := by
      intro x hx
      simp only [hashedFlag, Option.some.injEq] at hx
      subst hx; exact ⟨rfl, hbig⟩
    cases hw : withDb with
    | false =>
      simp only [Bool.false_eq_true, if_false]
      refine ⟨hC1, Or.inl (hmk _ _ (Extends.refl _) ⟨hw ▸ hhash, fun hd => ?_⟩), hext, hs, (by simp), fun _ => h0 hw⟩
      simp only [hashedFlag, Bool.false_eq_true, if_false] at hd
      have := (hfl.2 hd).2
      rw [hnodb hw] at this
      exact absurd this.2 (by have := hbig this.1; omega)
    | true =>
      simp only [if_true]
      have hext2 := dbInsert_extends st1 (H (enc H t)) (collapse H t)
      have hlk := dbInsert_lookup hs hU hwf
      have hst : Stored H (dbInsert st1 (H (enc H t)) (collapse H t)) t :=
        (stored_iff H _ t hwf).mpr ⟨fun _ => hlk, fun e he => hext2 _ _ (hk hw e he)⟩
      exact ⟨hC1, Or.inl (hmk _ _ hext2 ⟨hw ▸ hhash, fun _ => ⟨hst, hlk⟩⟩), hext.trans hext2, dbInsert_sound hnc hs hU hwf,
        fun _ => ⟨hst, fun _ => hlk⟩, fun h => by cases h⟩

theorem cacheHit_spec {H : Bytes → Bytes} {st : Store} {child : Bool} {t : Node} {l : LNode} {fl : Flag}
    (gen limit : Nat) (withDb : Bool) (hwf : WF t) (hs : StoreSound H U st)
    (hl : AbsL H st child t l) (hfl : FlagOK H st child fl t) :
    (∀ r, cacheHit gen limit withDb fl l st = some r → HashSpec H U st withDb child t r) ∧
    (cacheHit gen limit withDb fl l st = none → withDb = false → fl.hash = none) := by
  unfold cacheHit
  cases hh : fl.hash with
  | none => simp
  | some h =>
    obtain ⟨hheq, hbig⟩ := hfl.1 h hh
    have hC1 : CNode.hashRef h = (if child = true then refOf H t else .hashRef (H (enc H t))) :=
      hheq ▸ hashRef_eq hwf hbig
    cases hw : withDb with
    | false =>
      simp only [Bool.not_false, if_true, Option.some.injEq]
      refine ⟨fun r hr => ?_, fun h0 => by cases h0⟩
      subst hr
      exact ⟨hC1, Or.inl hl, Extends.refl _, hs, (fun h0 => by cases h0), fun _ => rfl⟩
    | true =>
      simp only [Bool.not_true, Bool.false_eq_true, if_false]
      refine ⟨fun r hr => ?_, fun _ h0 => by cases h0⟩
      have hclean : fl.dirty = false → Stored H st t ∧ st.lookup h = some (collapse H t) := by
        intro hd
        have := hfl.2 hd
        rw [hh] at this
        exact this
      split at hr
      · rename_i hun
        have hd : fl.dirty = false := by
          unfold canUnload at hun
          exact (Bool.not_eq_true' _).mp ((Bool.and_eq_true _ _).mp hun).1
        simp only [Option.some.injEq] at hr
        subst hr
        obtain ⟨hst, hlk⟩ := hclean hd
        refine ⟨hC1, Or.inr ⟨by rw [hheq], hwf, hbig, hst, hheq ▸ hlk⟩, Extends.refl _, hs,
          fun _ => ⟨hst, fun _ => hheq ▸ hlk⟩, fun h0 => by cases h0⟩
      · split at hr
        · rename_i hnd
          have hd : fl.dirty = false := by simpa using hnd
          simp only [Option.some.injEq] at hr
          subst hr
          obtain ⟨hst, hlk⟩ := hclean hd
          exact ⟨hC1, Or.inl hl, Extends.refl _, hs, fun _ => ⟨hst, fun _ => hheq ▸ hlk⟩, fun h0 => by cases h0⟩
        · cases hr

theorem stored_nil (H : Bytes → Bytes) (st : Store) : Stored H st .nil := by
  intro e he; simp [storeOf] at he
theorem stored_value (H : Bytes → Bytes) (st : Store) (b : Bytes) : Stored H st (.value b) := by
  intro e he; simp [storeOf] at he

theorem hashLs_of_le (H : Bytes → Bytes) (gen limit : Nat) (withDb : Bool) (lcs : List LNode) (s : Nat) (st : Store)
    (hs : 16 ≤ s) : hashLs H gen limit withDb lcs s st = ([], lcs, st) := by
  induction lcs generalizing s with
  | nil => rfl
  | cons l ls ih => rw [hashLs, if_neg (by omega), ih (s + 1) (by omega)]

/-- `hashChildren` on the slots of a full node; the six parts are those of `HashSpec`, for the list.  `ih` is `hashL_spec` at the
    children. -/
theorem hashLs_spec (H : Bytes → Bytes) (gen limit : Nat) (withDb : Bool) (cs : List Node) (hUcs : ∀ c ∈ cs, U c)
    (ih : ∀ c ∈ cs, WF c → U c → ∀ l st, StoreSound H U st → AbsR H st true c l →
      HashSpec H U st withDb true c (hashL H gen limit withDb l false st)) :
    ∀ (lcs : List LNode) (s : Nat) (st : Store), s + cs.length = 17 → AbsLs H st cs lcs → WFslots cs s →
      StoreSound H U st →
      let r := hashLs H gen limit withDb lcs s st
      r.1 = collapseL H cs s ∧ AbsLs H r.2.2 cs r.2.1 ∧ Extends st r.2.2 ∧ StoreSound H U r.2.2 ∧
      (withDb = true → ∀ e ∈ storeOfL H cs, r.2.2.lookup e.1 = some e.2) ∧
      (withDb = false → r.2.2 = st) := by
  induction cs with
  | nil =>
    intro lcs s st _ habs _ hs
    cases lcs with
    | nil => exact ⟨rfl, habs, Extends.refl _, hs, fun _ e he => (List.not_mem_nil he).elim, fun _ => rfl⟩
    | cons _ _ => simp [AbsLs] at habs
  | cons c cs ihl =>
    intro lcs s st hs17 habs hslots hs
    cases lcs with
    | nil => simp [AbsLs] at habs
    | cons l ls =>
      obtain ⟨h0, hrest⟩ := AbsLs_cons.mp habs
      obtain ⟨hsl0, hslr⟩ := hslots
      simp only [List.length_cons] at hs17
      by_cases hs16 : s < 16
      · have hspec : HashSpec H U st withDb true c (hashL H gen limit withDb l false st) := by
          rcases hsl0 with rfl | hw
          · rw [AbsR_nil.mp h0]
            exact ⟨rfl, AbsR_nil.mpr rfl, Extends.refl _, hs, fun _ => ⟨stored_nil H _, fun h => by cases h⟩, fun _ => rfl⟩
          · rw [if_neg (by omega)] at hw
            exact ih c (by simp) hw (hUcs c (by simp)) l st hs h0
        obtain ⟨cref, cabs, cext, csound, cdb, cnodb⟩ := hspec
        obtain ⟨rref, rabs, rext, rsound, rdb, rnodb⟩ :=
          ihl (fun c' hc' => hUcs c' (by simp [hc'])) (fun c' hc' => ih c' (by simp [hc']))
            ls (s + 1) _ (by omega) (hrest.mono cext) hslr csound
        simp only [hashLs, hs16, if_true]
        refine ⟨?_, AbsLs_cons.mpr ⟨AbsR.mono H rext cabs, rabs⟩, cext.trans rext, rsound, fun hw e he => ?_, fun hw => ?_⟩
        · rw [collapseL_cons, if_pos hs16, rref, cref]; rfl
        · rcases List.mem_append.mp he with he | he
          · exact (cdb hw).1.mono rext e he
          · exact rdb hw e he
        · rw [rnodb hw, cnodb hw]
      · -- the value slot is copied; it holds nothing that is stored
        have hcs : cs = [] := List.eq_nil_of_length_eq_zero (by omega)
        subst hcs
        rw [hashLs_of_le _ _ _ _ _ _ _ (by omega), collapseL_cons, if_neg hs16]
        refine ⟨rfl, habs, Extends.refl _, hs, fun _ e he => ?_, fun _ => rfl⟩
        rw [if_pos (by omega)] at hsl0
        rcases hsl0 with rfl | ⟨b, rfl, _⟩ <;> simp [storeOfL, storeOf] at he

theorem hashSpec_unloaded {H : Bytes → Bytes} {st : Store} {child : Bool} {t : Node} {l : LNode} (withDb : Bool)
    (hs : StoreSound H U st) (hh : HashOf H st child t l) :
    HashSpec H U st withDb child t (.hashRef (H (enc H t)), l, st) :=
  ⟨hashRef_eq hh.2.1 hh.2.2.1, Or.inr hh, Extends.refl _, hs, fun _ => ⟨hh.2.2.2.1, fun _ => hh.2.2.2.2⟩, fun _ => rfl⟩

/-- `hasher.hash` is forced exactly at the root: `force = !child`.  A cached hash answers at once (`cacheHit_spec`) and an
    unloaded node stands for itself (`hashSpec_unloaded`); otherwise the children are hashed and `store_step` finishes the node. -/
theorem hashL_spec {H : Bytes → Bytes} (hnc : NoColl H U) (hcl : ClosedU U) (gen limit : Nat) (withDb : Bool) (t : Node) :
    WF t → U t → ∀ child l st, StoreSound H U st → AbsR H st child t l →
      HashSpec H U st withDb child t (hashL H gen limit withDb l (!child) st) := by
  induction t using Node.induct with
  | hnil => intro h; exact absurd h not_WF_nil
  | hval b => intro h; exact absurd h (not_WF_value b)
  | hshort kk v ih =>
    intro hwf hU child l st hs habs
    rcases habs with hl | hh
    · obtain ⟨lv, fl, rfl, hv, hfl⟩ := AbsL_short.mp hl
      obtain ⟨hhit, hmiss⟩ := cacheHit_spec gen limit withDb hwf hs hl hfl
      simp only [hashL]
      cases hc : cacheHit gen limit withDb fl (.short kk lv fl) st with
      | some r => exact hhit r hc
      | none =>
        simp only []  -- the `match` on `none`
        have hnodb := hmiss hc
        have hkid : ∃ c : CNode × LNode × Store,
            shortKid (hexToCompact kk) lv (hashL H gen limit withDb lv false st) = c ∧
            c.1 = collapse H (.short kk v) ∧ AbsR H c.2.2 true v c.2.1 ∧ Extends st c.2.2 ∧ StoreSound H U c.2.2 ∧
            (withDb = true → Stored H c.2.2 v) ∧ (withDb = false → c.2.2 = st) := by
          rcases (WF_short_iff kk v).mp hwf with ⟨b, rfl, hkk, hb⟩ | ⟨cs, rfl, hne, hnib, hfull⟩
          · obtain rfl := AbsR_value.mp hv
            exact ⟨(.leaf (hexToCompact kk) b, .value b, st), rfl, (collapse_leaf H kk b).symm, AbsR_value.mpr rfl,
              Extends.refl _, hs, fun _ => stored_value H _ b, fun _ => rfl⟩
          · have q : HashSpec H U st withDb true (.full cs) (hashL H gen limit withDb lv false st) :=
              ih hfull (hcl.1 _ _ hU) true lv st hs hv
            obtain ⟨vref, vabs, vext, vsound, vdb, vnodb⟩ := q
            have hsk : shortKid (hexToCompact kk) lv (hashL H gen limit withDb lv false st)
                = (.ext (hexToCompact kk) (hashL H gen limit withDb lv false st).1,
                   (hashL H gen limit withDb lv false st).2.1, (hashL H gen limit withDb lv false st).2.2) := by
              cases lv with
              | value b =>
                rcases hv with h | h
                · simp [AbsL] at h
                · cases h.1
              | _ => rfl
            refine ⟨_, hsk, ?_, vabs, vext, vsound, fun hw => (vdb hw).1, vnodb⟩
            simp only [vref, if_true, collapse_ext]
        obtain ⟨c, hceq, cref, cabs, cext, csound, cdb, cnodb⟩ := hkid
        rw [hceq, cref]
        exact store_step hnc hU hwf child withDb fl cext hfl csound hnodb
          (fun hw e he => (cdb hw) e (by simpa [kidsStore] using he)) cnodb
          (fun fl2 => .short kk c.2.1 fl2) (fun st2 fl2 he hf => AbsL_short.mpr ⟨c.2.1, _, rfl, AbsR.mono H he cabs, hf⟩)
    · obtain rfl := hh.1
      exact hashSpec_unloaded withDb hs hh
  | hfull cs ih =>
    intro hwf hU child l st hs habs
    obtain ⟨hlen17, hslots, hcnt⟩ := (WF_full_iff cs).mp hwf
    rcases habs with hl | hh
    · obtain ⟨lcs, fl, rfl, hls, hfl⟩ := AbsL_full.mp hl
      obtain ⟨hhit, hmiss⟩ := cacheHit_spec gen limit withDb hwf hs hl hfl
      simp only [hashL]
      cases hc : cacheHit gen limit withDb fl (.full lcs fl) st with
      | some r => exact hhit r hc
      | none =>
        simp only []  -- the `match` on `none`
        have hnodb := hmiss hc
        obtain ⟨kref, kabs, kext, ksound, kdb, knodb⟩ := hashLs_spec H gen limit withDb cs (hcl.2 cs hU)
          (fun c hc hw hu l st hs ha => ih c hc hw hu true l st hs ha)
          lcs 0 st (by omega) hls hwf.2.1 hs
        have hv : valueBytesL (lcs.getD 16 .nil) = valueBytes (cs.getD 16 .nil) := by
          have h16 := hls.getD (i := 16) (by omega)
          rw [List.getD_eq_getElem?_getD (l := cs)]
          rcases hslots 16 (by omega) with h | ⟨b, hb, _⟩
          · rw [h] at h16 ⊢; rw [AbsR_nil.mp h16]; rfl
          · rw [hb] at h16 ⊢; rw [AbsR_value.mp h16]; rfl
        have hcol : CNode.branch (hashLs H gen limit withDb lcs 0 st).1 (valueBytesL (lcs.getD 16 .nil))
            = collapse H (.full cs) := by
          rw [kref, hv, collapse]
        rw [hcol]
        clear hcol kref
        -- only what hashing the children delivered matters from here on; left in place, the unifier walks these terms at every step
        generalize hashLs H gen limit withDb lcs 0 st = r at kabs kext ksound kdb knodb ⊢
        exact store_step hnc hU hwf child withDb fl kext hfl ksound hnodb kdb knodb
          (fun fl2 => .full r.2.1 fl2) (fun st2 fl2 he hf => AbsL_full.mpr ⟨_, _, rfl, kabs.mono he, hf⟩)
    · obtain rfl := hh.1
      exact hashSpec_unloaded withDb hs hh

end Rangers.Trie
