import Rangers.Model.TrieMachine
import Rangers.Proofs.TrieLiveInsert
import Rangers.Proofs.TrieLiveDelete
import Rangers.Proofs.TrieLiveHash
import Rangers.Proofs.TrieDecode
import Rangers.Proofs.TrieReload
/- Simulation: every operation of the live-trie machine observes what the loaded machine observes. -/
namespace Rangers.Trie
open Rangers

/-- the simulation relation between the live machine (`lstep`, what the driver runs) and the loaded one (`nstep`): the live
    root stands for `t`, which is empty or in minimal form, over the trie's node database, and that database is sound -/
structure Sim (H : Bytes → Bytes) (U : Node → Prop) (lt : LTrie) (t : Node) : Prop where
  wf : WFRoot t
  abs : AbsR H lt.db false t lt.root
  sound : StoreSound H U lt.db

/-- what is assumed of the hash function **on the universe `U` of nodes that occur** (closed under
    children): no collision among their encodings, none of them hashes to one of the two constants
    `NewTrie` treats as "empty trie", digests are 32 bytes.  (For all nodes at once this would be
    unsatisfiable by a 32-byte hash; for the finitely many nodes of a history it is the usual
    collision-freeness assumption, and `Props.C02Live` exhibits a history and a hash satisfying it.) -/
structure HashOK (H : Bytes → Bytes) (U : Node → Prop) : Prop where
  nocoll : NoColl H U
  closed : ClosedU U
  noconst : ∀ t, U t → WF t → H (enc H t) ≠ emptyRoot ∧ H (enc H t) ≠ List.replicate 32 0
  len32 : ∀ x, (H x).length = 32

theorem sim_empty (H : Bytes → Bytes) (U : Node → Prop) : Sim H U LTrie.empty .nil :=
  ⟨Or.inl rfl, AbsR_nil.mpr rfl, fun h c hl => by simp [LTrie.empty] at hl⟩

variable {U : Node → Prop}

theorem root_nil_iff {H : Bytes → Bytes} {lt : LTrie} {t : Node} (h : Sim H U lt t) : lt.root = .nil ↔ t = .nil := by
  have := h.abs.isNil_eq
  constructor
  · intro h0; rw [h0] at this; exact (isNil_iff t).mp (by simpa [isNilL] using this.symm)
  · intro h0; rw [h0] at this
    cases hr : lt.root <;> simp_all [isNilL, isNil]

theorem sim_hashL {H : Bytes → Bytes} (hok : HashOK H U) {lt : LTrie} {t : Node} (h : Sim H U lt t) (hwf : WF t) (hU : U t)
    (withDb : Bool) :
    let r := hashL H lt.gen lt.limit withDb lt.root true lt.db
    refHash r.1 = rootHash H t ∧ AbsR H r.2.2 false t r.2.1 ∧ StoreSound H U r.2.2 ∧
    (withDb = false → r.2.2 = lt.db) ∧
    (withDb = true → Stored H r.2.2 t ∧ r.2.2.lookup (H (enc H t)) = some (collapse H t)) := by
  have hs := hashL_spec hok.nocoll hok.closed lt.gen lt.limit withDb t hwf hU false lt.root lt.db h.sound h.abs
  simp only [Bool.not_false] at hs
  obtain ⟨href, habs, _, hsound, hdb, hnodb⟩ := hs
  refine ⟨?_, habs, hsound, hnodb, fun hw => ⟨(hdb hw).1, (hdb hw).2 rfl⟩⟩
  rw [href, rootHash_of_ne_nil H t hwf.ne_nil]
  simp [refHash]

theorem sim_hash {H : Bytes → Bytes} (hok : HashOK H U) {lt : LTrie} {t : Node} (h : Sim H U lt t) (hU : U t) :
    (lt.hash H).1 = rootHash H t ∧ Sim H U (lt.hash H).2 t := by
  rcases h.wf with rfl | hwf
  · have hr := (root_nil_iff h).mpr rfl
    simp only [LTrie.hash, hr]
    exact ⟨rfl, h⟩
  · have hne : lt.root ≠ .nil := fun h0 => hwf.ne_nil ((root_nil_iff h).mp h0)
    obtain ⟨href, habs, _, hsame, _⟩ := sim_hashL hok h hwf hU false
    have heq : lt.hash H = (refHash (hashL H lt.gen lt.limit false lt.root true lt.db).1,
        { lt with root := (hashL H lt.gen lt.limit false lt.root true lt.db).2.1 }) := by
      unfold LTrie.hash
      cases hr : lt.root with
      | nil => exact absurd hr hne
      | _ => rfl
    rw [heq]
    refine ⟨href, ⟨Or.inr hwf, ?_, h.sound⟩⟩
    have := hsame rfl
    simp only [] at this ⊢  -- the field `db` of the updated record
    rw [this] at habs
    exact habs

theorem sim_commit {H : Bytes → Bytes} (hok : HashOK H U) {lt : LTrie} {t : Node} (h : Sim H U lt t) (hU : U t) :
    (lt.commit H).1 = rootHash H t ∧ Sim H U (lt.commit H).2 t ∧
    (WF t → (lt.commit H).2.db.lookup (H (enc H t)) = some (collapse H t) ∧ Stored H (lt.commit H).2.db t) := by
  rcases h.wf with rfl | hwf
  · have hr := (root_nil_iff h).mpr rfl
    simp only [LTrie.commit, hr]
    refine ⟨rfl, ⟨Or.inl rfl, ?_, h.sound⟩, fun hw => absurd hw not_WF_nil⟩
    exact AbsR_nil.mpr rfl
  · have hne : lt.root ≠ .nil := fun h0 => hwf.ne_nil ((root_nil_iff h).mp h0)
    obtain ⟨href, habs, hsound, _, hdb⟩ := sim_hashL hok h hwf hU true
    have heq : lt.commit H = (refHash (hashL H lt.gen lt.limit true lt.root true lt.db).1,
        { lt with root := (hashL H lt.gen lt.limit true lt.root true lt.db).2.1,
                  db := (hashL H lt.gen lt.limit true lt.root true lt.db).2.2,
                  gen := (lt.gen + 1) % 65536 }) := by
      unfold LTrie.commit
      cases hr : lt.root with
      | nil => exact absurd hr hne
      | _ => rfl
    rw [heq]
    exact ⟨href, ⟨Or.inr hwf, habs, hsound⟩, fun _ => ⟨(hdb rfl).2, (hdb rfl).1⟩⟩

theorem sim_reopen {H : Bytes → Bytes} (hok : HashOK H U) {lt : LTrie} {t : Node} (h : Sim H U lt t) (hU : U t) :
    (lt.reopen H).2 = .root (rootHash H t) ∧ Sim H U (lt.reopen H).1 t := by
  obtain ⟨c1, c2, c3⟩ := sim_commit hok h hU
  unfold LTrie.reopen
  simp only []  -- the `let` of `reopen`
  rcases h.wf with rfl | hwf
  · have : (lt.commit H).1 = emptyRoot := by rw [c1]; rfl
    simp only [LTrie.open, this, beq_self_eq_true, Bool.true_or, if_true]
    exact ⟨rfl, ⟨Or.inl rfl, AbsR_nil.mpr rfl, c2.sound⟩⟩
  · obtain ⟨hlk, hst⟩ := c3 hwf
    have hrh : (lt.commit H).1 = H (enc H t) := by rw [c1, rootHash_of_ne_nil H t hwf.ne_nil]
    obtain ⟨hn1, hn2⟩ := hok.noconst t hU hwf
    have e1 : (H (enc H t) == emptyRoot) = false := beq_false_of_ne hn1
    have e2 : (H (enc H t) == List.replicate 32 0) = false := beq_false_of_ne hn2
    have hho : HashOf H (lt.commit H).2.db false t (.hash (H (enc H t))) :=
      ⟨rfl, hwf, (fun h0 => by cases h0), hst, hlk⟩
    obtain ⟨n, hres, habs⟩ := resolve_hashOf hho 0
    simp only [LTrie.open, hrh, e1, e2, Bool.or_self, Bool.false_eq_true, if_false, hres, Option.map_some]
    exact ⟨by rw [rootHash_of_ne_nil H t hwf.ne_nil], ⟨Or.inr hwf, Or.inl habs, c2.sound⟩⟩

theorem sim_reopenDisk {H : Bytes → Bytes} (hok : HashOK H U) {lt : LTrie} {t : Node} (h : Sim H U lt t) (hU : U t)
    (hsz : (enc H t).length < 256 ^ 8) :
    (lt.reopenDisk H).2 = .root (rootHash H t) ∧ Sim H U (lt.reopenDisk H).1 t := by
  obtain ⟨c1, c2, c3⟩ := sim_commit hok h hU
  have hmem := sim_reopen hok h hU
  unfold LTrie.reopenDisk
  unfold LTrie.reopen at hmem
  simp only [] at hmem ⊢  -- the `let` of `reopen` and `reopenDisk`
  rcases h.wf with rfl | hwf
  · have : (lt.commit H).1 = emptyRoot := by rw [c1]; rfl
    simp only [LTrie.openDisk, this, beq_self_eq_true, Bool.true_or, if_true]
    exact ⟨rfl, ⟨Or.inl rfl, AbsR_nil.mpr rfl, c2.sound⟩⟩
  · obtain ⟨hlk, _⟩ := c3 hwf
    have hrh : (lt.commit H).1 = H (enc H t) := by rw [c1, rootHash_of_ne_nil H t hwf.ne_nil]
    have heq := resolveHashDisk_eq H hok.len32 (lt.commit H).2.db 0 t hwf hsz _ hlk
    have : LTrie.openDisk (lt.commit H).2.db (lt.commit H).1 = LTrie.open (lt.commit H).2.db (lt.commit H).1 := by
      simp only [LTrie.openDisk, LTrie.open, hrh, heq]
    rw [this]; exact hmem

theorem fuelFor_ok (k : Key) : 2 * k.length + 2 ≤ fuelFor k := by unfold fuelFor; omega

/-- what a step of the live machine asks of the loaded trie it stands for: the trie lies in the universe of the hash
    hypothesis, the iteration fuel covers its height, its root blob is shorter than 2^64 bytes -/
structure Admits (H : Bytes → Bytes) (U : Node → Prop) (F : Nat) (t : Node) : Prop where
  occurs : U t
  fuel : 2 * height t + 2 ≤ F
  size : (enc H t).length < 256 ^ 8

theorem sim_step {H : Bytes → Bytes} (hok : HashOK H U) (F : Nat) {lt : LTrie} {t : Node} (h : Sim H U lt t)
    (ha : Admits H U F t) (op : Op) :
    (lstep H F lt op).2 = (nstep H t op).2 ∧ Sim H U (lstep H F lt op).1 (nstep H t op).1 := by
  obtain ⟨hU, hF, hsz⟩ := ha
  have hdel : ∀ k, ∃ lt', lt.remove k = some lt' ∧ Sim H U lt' (remove t k) := by
    intro k
    obtain ⟨l', hd, habs⟩ := deleteL_refines H lt.db lt.gen
      (walk_of_wf t _ h.wf (validKey_keybytesToHex k)) false lt.root _ h.abs (fuelFor_ok _)
    exact ⟨{ lt with root := l' }, by simp [LTrie.remove, hd],
      ⟨delete_wf t _ h.wf (validKey_keybytesToHex k), Or.inl habs, h.sound⟩⟩
  cases op with
  | upd k v =>
    simp only [lstep, nstep]
    by_cases hv : v = []
    · subst hv
      obtain ⟨lt', hr, hs⟩ := hdel k
      have hu : lt.update k [] = some lt' := by simpa [LTrie.update, LTrie.remove] using hr
      have hn : update t k [] = remove t k := by simp [update, remove]
      rw [hu, hn]; exact ⟨rfl, hs⟩
    · have hlen : (v.length != 0) = true := by simpa using hv
      obtain ⟨l', hd, habs⟩ := insertL_refines H lt.db lt.gen v
        (walk_of_wf t _ h.wf (validKey_keybytesToHex k)) false lt.root _ h.abs (fuelFor_ok _)
      have hu : lt.update k v = some { lt with root := l' } := by simp [LTrie.update, hlen, hd]
      have hn : update t k v = (insert t (keybytesToHex k) (.value v)).2 := by simp [update, hlen]
      rw [hu, hn]
      exact ⟨rfl, ⟨Or.inr (insert_wf v hv t _ h.wf (validKey_keybytesToHex k)), Or.inl habs, h.sound⟩⟩
  | del k =>
    simp only [lstep, nstep]
    obtain ⟨lt', hr, hs⟩ := hdel k
    rw [hr]; exact ⟨rfl, hs⟩
  | get k =>
    simp only [lstep, nstep]
    obtain ⟨l', dr, hg, habs⟩ := getL_refines H lt.db lt.gen
      (walk_of_wf t _ h.wf (validKey_keybytesToHex k)) false lt.root _ h.abs (fuelFor_ok _)
    simp only [LTrie.get, hg, Option.map_some, lookup]
    refine ⟨trivial, ?_⟩
    cases dr with
    | false => exact h
    | true => exact ⟨h.wf, habs, h.sound⟩
  | hash =>
    simp only [lstep, nstep]
    obtain ⟨h1, h2⟩ := sim_hash hok h hU
    exact ⟨by rw [h1], h2⟩
  | commit =>
    simp only [lstep, nstep]
    obtain ⟨h1, h2, _⟩ := sim_commit hok h hU
    exact ⟨by rw [h1], h2⟩
  | reopen => simp only [lstep, nstep]; exact sim_reopen hok h hU
  | dbcommit => simp only [lstep, nstep]; exact sim_reopenDisk hok h hU hsz
  | cachelimit n => simp only [lstep, nstep]; exact ⟨trivial, ⟨h.wf, h.abs, h.sound⟩⟩
  | iter start =>
    simp only [lstep, nstep]
    obtain ⟨_, h2⟩ := sim_hash hok h hU
    rw [expandFull_abs H _ t (h2.wf.imp id Or.inr) false _ F h2.abs hF]
    exact ⟨rfl, h2⟩

end Rangers.Trie
