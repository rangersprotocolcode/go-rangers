import Rangers.Proofs.Pratt
/-!
A Pratt certificate for p = 2^255 − 19, computed with sympy: the primes above 100 in the factorisation
tree of p − 1, each with a primitive root and the factorisation of its predecessor, p first. One kernel
evaluation of `check` runs every Lucas step.
-/
namespace Rangers.Proofs.C16PrattCert
open Rangers.Proofs.Pratt

def cert25519 : List Line :=
  [⟨57896044618658097711785492504343953926634992332820282019728792003956564819949, 2, [2, 2, 3, 65147, 74058212732561358302231226437062788676166966415465897661863160754340907]⟩,
   ⟨74058212732561358302231226437062788676166966415465897661863160754340907, 2, [2, 3, 353, 57467, 132049, 1923133, 31757755568855353, 75445702479781427272750846543864801]⟩,
   ⟨75445702479781427272750846543864801, 7, [2, 2, 2, 2, 2, 3, 3, 5, 5, 75707, 72106336199, 1919519569386763]⟩,
   ⟨72106336199, 7, [2, 13, 2773320623]⟩,
   ⟨2773320623, 5, [2, 2437, 569003]⟩,
   ⟨569003, 2, [2, 7, 97, 419]⟩,
   ⟨419, 2, [2, 11, 19]⟩,
   ⟨2437, 2, [2, 2, 3, 7, 29]⟩,
   ⟨1919519569386763, 2, [2, 3, 7, 19, 47, 47, 127, 8574133]⟩,
   ⟨8574133, 2, [2, 2, 3, 7, 103, 991]⟩,
   ⟨991, 6, [2, 3, 3, 5, 11]⟩,
   ⟨103, 5, [2, 3, 17]⟩,
   ⟨127, 3, [2, 3, 3, 7]⟩,
   ⟨75707, 2, [2, 37853]⟩,
   ⟨37853, 2, [2, 2, 9463]⟩,
   ⟨9463, 3, [2, 3, 19, 83]⟩,
   ⟨31757755568855353, 10, [2, 2, 2, 3, 31, 107, 223, 4153, 430751]⟩,
   ⟨430751, 17, [2, 5, 5, 5, 1723]⟩,
   ⟨1723, 3, [2, 3, 7, 41]⟩,
   ⟨4153, 5, [2, 2, 2, 3, 173]⟩,
   ⟨173, 2, [2, 2, 43]⟩,
   ⟨223, 3, [2, 3, 37]⟩,
   ⟨107, 2, [2, 53]⟩,
   ⟨1923133, 2, [2, 2, 3, 43, 3727]⟩,
   ⟨3727, 3, [2, 3, 3, 3, 3, 23]⟩,
   ⟨132049, 26, [2, 2, 2, 2, 3, 3, 7, 131]⟩,
   ⟨131, 2, [2, 5, 13]⟩,
   ⟨57467, 2, [2, 59, 487]⟩,
   ⟨487, 3, [2, 3, 3, 3, 3, 3]⟩,
   ⟨353, 3, [2, 2, 2, 2, 2, 11]⟩,
   ⟨65147, 2, [2, 32573]⟩,
   ⟨32573, 2, [2, 2, 17, 479]⟩,
   ⟨479, 13, [2, 239]⟩,
   ⟨239, 7, [2, 7, 17]⟩]

theorem cert25519_ok : check cert25519 = true := by decide +kernel

theorem cert25519_prime :
    Nat.Prime 57896044618658097711785492504343953926634992332820282019728792003956564819949 :=
  check_sound cert25519 cert25519_ok _ List.mem_cons_self

end Rangers.Proofs.C16PrattCert
