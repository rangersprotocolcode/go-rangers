import Rangers.Model.Evm11Interp
/-!
C11 — one iteration of the interpreter loop: what the part up to `execute` (`stepPre`) and `execute` itself
(`execOp`) may answer, each as one case characterisation; then the iteration as a function of its own (`iter`),
which `runLoop` and the guarded loop of `Props/C11F.lean` both repeat.  `reqGas` (the gas a `Req` forwards) is declared
here because `InvokeOk` speaks of it, and in the namespace `Rangers.Props.C11C` because the theorems of `Props/C11C.lean`
about nested frames (`callee_returns_at_most`, `invoke_gas`) are stated with it under that name.
-/
namespace Rangers.Props.C11C
open Rangers.Evm11

def reqGas : Req → Nat
  | .call _ _ _ _ gas _ _ _ => gas
  | .create _ _ _ gas => gas
  | .authcall _ _ _ _ gas _ _ => gas

end Rangers.Props.C11C

namespace Rangers.Proofs.Evm11
open Rangers.Evm11 Rangers.Props.C11C

theorem useGas_spec {gas cost g' : Nat} (h : useGas gas cost = some g') : g' + cost = gas := by
  unfold useGas at h
  split at h
  · cases h
  · cases h; omega

theorem writeBytes_size (d : BA) (off : Nat) (val : BA) (n : Nat) : (writeBytes d off val n).size = d.size := by
  unfold writeBytes
  generalize List.range n = l
  induction l generalizing d with
  | nil => rfl
  | cons i t ih => simp only [List.foldl_cons]; rw [ih]; exact Array.size_setIfInBounds ..

theorem memWrite_size (m : Mem) (off size : Nat) (val : BA) : (memWrite m off size val).size = m.size := by
  simp [memWrite, Mem.size, writeBytes_size]

theorem memWrite_last (m : Mem) (off size : Nat) (val : BA) : (memWrite m off size val).lastGasCost = m.lastGasCost := rfl

/-- What `execute` leaves when it returns normally: as many words to push as `Exec.pushes` says of the operation; a
    memory of the same size (`execute` writes into it, only the loop resizes) whose `lastGasCost` is untouched. -/
structure UpdOk (e : Exec) (fr : Frame) (u : Upd) : Prop where
  push : u.push.length = e.pushes
  size : u.mem.size = fr.mem.size
  last : u.mem.lastGasCost = fr.mem.lastGasCost

/-- What an operation that starts a frame asks for. `d` is what `execute` itself takes off the frame's gas: CREATE /
    CREATE2 all but one 64th of it, the call family nothing (its gas function has charged the forwarded gas already).
    The callee gets `reqGas r`: that `d`, or `cgt` (Go's `callGasTemp`, set by the gas function) plus the 2300 stipend
    where CALL / CALLCODE carry a value. -/
def InvokeOk (e : Exec) (fr : Frame) (args : List Word) (cgt : Nat) (r : Req) (d : Nat) : Prop :=
  match e with
  | .create | .create2 => d = wsub fr.gas (fr.gas / 64) ∧ reqGas r = d
  | .call .call | .call .callcode => d = 0 ∧ reqGas r = if args.getD 2 0 ≠ 0 then wadd cgt 2300 else cgt
  | .call _ | .authcall => d = 0 ∧ reqGas r = cgt
  | _ => False

/-- The three answers of `execOp` (`operation.execute`): a normal return, a fault other than the model's `outOfFuel`,
    a request for a nested frame. -/
inductive ExecOk (e : Exec) (fr : Frame) (args : List Word) (cgt : Nat) : ExecOut → Prop
  | upd {u : Upd} (h : UpdOk e fr u) : ExecOk e fr args cgt (.upd u)
  | fault {f : Fault} {g : Global} (h : f ≠ .outOfFuel) : ExecOk e fr args cgt (.fault f g)
  | invoke {r : Req} {d : Nat} {g : Global} (h : InvokeOk e fr args cgt r d) : ExecOk e fr args cgt (.invoke r d g)

theorem ExecOk.write {e : Exec} {fr : Frame} {args : List Word} {cgt : Nat} {p : List Word} {off size : Nat}
    {val : BA} {pc : Nat} {g : Global} {res : BA} {au : Option Nat} (push : p.length = e.pushes) :
    ExecOk e fr args cgt (.upd ⟨p, memWrite fr.mem off size val, pc, g, res, au⟩) :=
  .upd ⟨push, memWrite_size .., rfl⟩

theorem ExecOk.ite {e : Exec} {fr : Frame} {args : List Word} {cgt : Nat} {c : Prop} [Decidable c] {a b : ExecOut}
    (ha : ExecOk e fr args cgt a) (hb : ExecOk e fr args cgt b) : ExecOk e fr args cgt (if c then a else b) := by
  split <;> assumption

/-- Puts the branch of `execOp` for the opcode at hand in place of the application (`arg 5`: the `ExecOut` of a goal
    `ExecOk e fr args cgt _`). `whnf` selects the branch directly; unfolding by `simp` would first instantiate every
    branch. -/
macro "exec_branch" : tactic => `(tactic| (conv => arg 5; whnf))

theorem execOp_ok (cx : Ctx) (ro : Bool) (e : Exec) (fr : Frame) (args : List Word) (g : Global) (cgt : Nat) :
    ExecOk e fr args cgt (execOp cx ro e fr args g cgt) := by
  cases e with
  | unknown => exact .fault nofun
  | dup n =>
    show ExecOk _ _ _ _ (if n = 0 ∨ args.length ≠ n then _ else _)
    split
    · exact .fault nofun
    · exact .upd ⟨by simp only [List.length_cons, Exec.pushes]; omega, rfl, rfl⟩
  | swap n =>
    exec_branch
    split
    · exact .fault nofun
    · split
      · exact .fault nofun
      · refine .upd ⟨?_, rfl, rfl⟩
        simp only [List.length_cons, List.length_append, List.length_take, List.length_nil, Exec.pushes]
        omega
  | create | create2 =>
    exec_branch
    split
    -- not `rfl` for the second part: the kernel would unfold `wsub` before `reqGas`
    · exact .invoke (And.intro rfl (by rw [reqGas]))
    · exact .fault nofun
  | call k =>
    cases k <;> exec_branch <;> split <;> first | exact .fault nofun | exact .invoke (And.intro rfl rfl)
  | copy o =>
    cases o <;> exec_branch <;> (try dsimp only) <;> (repeat' split) <;>
      first | exact .fault nofun | exact .write rfl
  | mstore | mstore8 | extcodecopy =>
    exec_branch
    try dsimp only
    repeat' split
    all_goals first | exact .fault nofun | exact .write rfl
  | auth =>
    exec_branch
    split
    -- the `.ite`s follow AUTH's nest of `if`s (fewer than 128 bytes given, signature values out of range, recovered
    -- address not the authority); every leaf pushes one word and leaves the memory alone
    · exact .ite (.upd ⟨rfl, rfl, rfl⟩) (.ite (.upd ⟨rfl, rfl, rfl⟩) (.ite (.upd ⟨rfl, rfl, rfl⟩) (.upd ⟨rfl, rfl, rfl⟩)))
    · exact .fault nofun
  | authcall =>
    exec_branch
    split
    · refine .ite (.upd ⟨rfl, rfl, rfl⟩) ?_
      split
      · exact .upd ⟨rfl, rfl, rfl⟩
      · dsimp only
        split
        · exact .fault nofun
        · exact .ite (.write rfl) (.ite (.write rfl) (.invoke (And.intro rfl rfl)))
    · exact .fault nofun
  | _ =>
    exec_branch
    try dsimp only
    repeat' split
    all_goals first | exact .fault nofun | exact .upd ⟨rfl, rfl, rfl⟩

theorem execOp_upd {cx : Ctx} {ro : Bool} {e : Exec} {fr : Frame} {args : List Word} {g : Global} {cgt : Nat}
    {u : Upd} (h : execOp cx ro e fr args g cgt = .upd u) : UpdOk e fr u := by
  have := execOp_ok cx ro e fr args g cgt
  rw [h] at this
  cases this with | upd hu => exact hu

theorem execOp_fault {cx : Ctx} {ro : Bool} {e : Exec} {fr : Frame} {args : List Word} {g : Global} {cgt : Nat}
    {f : Fault} {g' : Global} (h : execOp cx ro e fr args g cgt = .fault f g') : f ≠ .outOfFuel := by
  have := execOp_ok cx ro e fr args g cgt
  rw [h] at this
  cases this with | fault hf => exact hf

theorem execOp_invoke {cx : Ctx} {ro : Bool} {e : Exec} {fr : Frame} {args : List Word} {g : Global} {cgt : Nat}
    {r : Req} {d : Nat} {g' : Global} (h : execOp cx ro e fr args g cgt = .invoke r d g') :
    InvokeOk e fr args cgt r d := by
  have := execOp_ok cx ro e fr args g cgt
  rw [h] at this
  cases this with | invoke hi => exact hi

theorem InvokeOk.cases {e : Exec} {fr : Frame} {args : List Word} {cgt : Nat} {r : Req} {d : Nat}
    (hi : InvokeOk e fr args cgt r d) :
    ((e = .create ∨ e = .create2) ∧ d = wsub fr.gas (fr.gas / 64) ∧ reqGas r = d) ∨
    (∃ k, e = .call k ∧ d = 0 ∧
      (reqGas r = cgt ∨ (reqGas r = wadd cgt 2300 ∧ (k = .call ∨ k = .callcode) ∧ args.getD 2 0 ≠ 0))) ∨
    (e = .authcall ∧ d = 0 ∧ reqGas r = cgt) := by
  cases e with
  | create => exact .inl ⟨.inl rfl, hi⟩
  | create2 => exact .inl ⟨.inr rfl, hi⟩
  | authcall => exact .inr (.inr ⟨rfl, hi⟩)
  | call k =>
    refine .inr (.inl ⟨k, rfl, ?_⟩)
    cases k with
    | call =>
      obtain ⟨hd, hr⟩ := hi
      by_cases hv : args.getD 2 0 ≠ 0
      · exact ⟨hd, .inr ⟨by rw [hr, if_pos hv], .inl rfl, hv⟩⟩
      · exact ⟨hd, .inl (by rw [hr, if_neg hv])⟩
    | callcode =>
      obtain ⟨hd, hr⟩ := hi
      by_cases hv : args.getD 2 0 ≠ 0
      · exact ⟨hd, .inr ⟨by rw [hr, if_pos hv], .inr rfl, hv⟩⟩
      · exact ⟨hd, .inl (by rw [hr, if_neg hv])⟩
    | delegatecall => exact ⟨hi.1, .inl hi.2⟩
    | staticcall => exact ⟨hi.1, .inl hi.2⟩
  | _ => exact False.elim hi

theorem InvokeOk.shape {e : Exec} {fr : Frame} {args : List Word} {cgt : Nat} {r : Req} {d : Nat}
    (hi : InvokeOk e fr args cgt r d) : e.pushes = 1 ∧ 3 ≤ e.pops := by
  rcases hi.cases with ⟨he | he, _⟩ | ⟨k, he, _⟩ | ⟨he, _⟩
  all_goals subst he
  · exact ⟨rfl, by decide⟩
  · exact ⟨rfl, by decide⟩
  · cases k <;> exact ⟨rfl, by decide⟩
  · exact ⟨rfl, by decide⟩

/-- What holds when `stepPre` (the iteration of `EVMInterpreter.Run` up to `execute`) lets the operation through: `info`
    is the table entry of the opcode at `pc`, the stack is within its bounds, and `fr1` is `fr` with the constant and
    the dynamic gas paid, the memory resized and the arguments `args` popped. -/
structure PreOk (cx : Ctx) (fr : Frame) (g : Global) (info : OpInfo) (fr1 : Frame) (args : List Word)
    (g1 : Global) (cgt : Nat) : Prop where
  entry : cx.table.getD (fr.code.getD fr.pc 0).toNat none = some info
  minOk : info.minStack ≤ fr.stack.length
  maxOk : fr.stack.length ≤ info.maxStack
  /-- the gas function succeeded on the gas left after the constant part; `fr1` has paid both; its memory is the one the
      gas function returned, resized; `memorySize` is the answer of the memory-size function rounded up to words, 0
      where the entry has none -/
  dyn : ∃ memorySize cost m', dynGas cx.gc info.dyn fr.stack fr.mem memorySize (fr.gas - info.constGas) fr.self g
          = .ok cost m' g1 cgt ∧ fr1.gas + info.constGas + cost = fr.gas ∧
          fr1.mem = (if memorySize > 0 then m'.resize memorySize else m') ∧
          (match memSizeFn info.mem fr.stack with
            | none => memorySize = 0
            | some (sz, ov) => ov = false ∧ memorySize = 32 * toWordSize sz ∧ 32 * toWordSize sz < 2 ^ 64)
  stack : fr1.stack = fr.stack.drop info.exec.pops
  argsEq : args = fr.stack.take info.exec.pops
  untouched : fr1.code = fr.code ∧ fr1.pc = fr.pc ∧ fr1.self = fr.self ∧ fr1.isCode = fr.isCode

/-- What `stepPre` may answer: one of the errors the loop raises before `execute` (`desync`: the oracle tape did not
    hold the answer a gas function asked for), or `PreOk` together with what the read-only test has then excluded. -/
def PreSpec (cx : Ctx) (ro : Bool) (fr : Frame) (g : Global) : PreOut → Prop
  | .fault e _ =>
    e = .invalidOpCode ∨ e = .stackUnderflow ∨ e = .stackOverflow ∨ e = .writeProtection ∨
    e = .outOfGas ∨ e = .gasUintOverflow ∨ (∃ k, e = .desync k)
  | .ok info fr1 args g1 cgt =>
    PreOk cx fr g info fr1 args g1 cgt ∧
    (ro = true → info.writes = false ∧ ¬ ((fr.code.getD fr.pc 0).toNat = 0xf1 ∧ back fr.stack 2 ≠ 0))

theorem stepPre_spec (cx : Ctx) (ro : Bool) (fr : Frame) (g : Global) : PreSpec cx ro fr g (stepPre cx ro fr g) := by
  unfold stepPre
  simp only
  split
  · exact .inl rfl
  rename_i info hent
  by_cases hmin : fr.stack.length < info.minStack
  · rw [if_pos hmin]; exact .inr (.inl rfl)
  rw [if_neg hmin]
  by_cases hmax : fr.stack.length > info.maxStack
  · rw [if_pos hmax]; exact .inr (.inr (.inl rfl))
  rw [if_neg hmax]
  by_cases hro : ro = true ∧ (info.writes = true ∨ (fr.code.getD fr.pc 0).toNat = 0xf1 ∧ back fr.stack 2 ≠ 0)
  · rw [if_pos hro]; exact .inr (.inr (.inr (.inl rfl)))
  rw [if_neg hro]
  split
  · exact .inr (.inr (.inr (.inr (.inl rfl))))
  rename_i gas1 hg1
  have hc := useGas_spec hg1
  split
  · exact .inr (.inr (.inr (.inr (.inr (.inl rfl)))))
  rename_i memorySize hms
  split
  · exact .inr (.inr (.inr (.inr (.inr (.inr ⟨_, rfl⟩)))))
  · exact .inr (.inr (.inr (.inr (.inl rfl))))
  rename_i cost m' g' cgt hdyn
  split
  · exact .inr (.inr (.inr (.inr (.inl rfl))))
  rename_i gas2 hg2
  have hc2 := useGas_spec hg2
  have hgas1 : gas1 = fr.gas - info.constGas := by omega
  refine ⟨⟨hent, by omega, by omega, ⟨memorySize, cost, m', hgas1 ▸ hdyn, ?_, rfl, ?_⟩, rfl, rfl, ⟨rfl, rfl, rfl, rfl⟩⟩, ?_⟩
  · simp only; omega
  · cases hmf : memSizeFn info.mem fr.stack with
    | none =>
      simp only [hmf] at hms
      cases hms; rfl
    | some p =>
      obtain ⟨sz, ov⟩ := p
      simp only [hmf] at hms ⊢
      by_cases hov : ov = true
      · rw [if_pos hov] at hms; cases hms
      rw [if_neg hov] at hms
      by_cases hov2 : (safeMul (toWordSize sz) 32).2 = true
      · rw [if_pos hov2] at hms; cases hms
      rw [if_neg hov2] at hms
      cases hms
      simp only [safeMul, wmul, ge_iff_le, decide_eq_true_eq, Nat.not_le] at hov2 ⊢
      exact ⟨Bool.eq_false_iff.mpr hov, by omega, by omega⟩
  · intro hr
    subst hr
    simp only [true_and, not_or] at hro
    exact ⟨by simpa using hro.1, hro.2⟩

theorem stepPre_ok {cx : Ctx} {ro : Bool} {fr : Frame} {g : Global} {info : OpInfo} {fr1 : Frame}
    {args : List Word} {g1 : Global} {cgt : Nat}
    (h : stepPre cx ro fr g = .ok info fr1 args g1 cgt) : PreOk cx fr g info fr1 args g1 cgt := by
  have := stepPre_spec cx ro fr g
  rw [h] at this
  exact this.1

/-- One iteration of the loop of `EVMInterpreter.Run` up to the point where `finishStep` takes over: the frame has
    ended with a result, or `execute` (or a nested frame) has returned and left the frame `fr2`. -/
inductive Iter
  | done (r : RunRes)
  | fin (info : OpInfo) (fr2 : Frame) (res : BA) (g2 : Global)

/-- The body of `runLoop` with the rest of the loop left out; `run` is the runner of nested frames. -/
def iter (cx : Ctx) (run : Runner) (depth : Nat) (ro : Bool) (fr : Frame) (g : Global) : Iter :=
  match stepPre cx ro fr (g.observe depth fr.stack.length) with
  | .fault e g' => .done ⟨#[], some e, fr.gas, g'⟩
  | .ok info fr1 args g1 cgt =>
    match execOp cx ro info.exec fr1 args g1 cgt with
    | .fault e g2 => .done ⟨#[], some e, fr1.gas, g2⟩
    | .upd u =>
      .fin info { fr1 with stack := u.push ++ fr1.stack, mem := u.mem, pc := u.pc, authorized := u.authorized } u.res u.g
    | .invoke req deduct g2 =>
      let fr2 := { fr1 with gas := fr1.gas - deduct }
      let cr := doInvoke cx run depth ro fr2 req g2
      if isAbortErr cr.err then .done ⟨#[], cr.err, fr2.gas, cr.g⟩
      else .fin info (resume fr2 req cr).1 (resume fr2 req cr).2 cr.g

theorem runLoop_succ (cx : Ctx) (fuel depth : Nat) (ro : Bool) (fr : Frame) (g : Global) :
    runLoop cx (fuel + 1) depth ro fr g =
      match iter cx (runLoop cx fuel) depth ro fr g with
      | .done r => r
      | .fin info fr2 res g2 => finishStep info (runLoop cx fuel depth ro) fr2 res g2 := by
  rw [runLoop, iter]
  cases stepPre cx ro fr (g.observe depth fr.stack.length) with
  | fault e g' => rfl
  | ok info fr1 args g1 cgt =>
    dsimp only
    cases execOp cx ro info.exec fr1 args g1 cgt with
    | fault e g2 => rfl
    | upd u => rfl
    | invoke req deduct g2 =>
      dsimp only
      split <;> rfl

end Rangers.Proofs.Evm11
