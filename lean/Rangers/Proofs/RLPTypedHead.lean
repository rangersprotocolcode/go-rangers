import Rangers.Model.RLPTyped
import Rangers.Proofs.RLPFrame
import Rangers.Proofs.RLPBase
/-! The typed slice coders step by step: `Stream.Bytes()` on a slice, and every decoder and writer of
    `Model/RLPTyped.lean` as a `bind` of its parts (`Proofs/RLPBind.lean`). -/
namespace Rangers.RLP
open Rangers

/-- `Stream.Bytes()` on kind and content -/
def bytesOfCut : Kind → Bytes → Except Err Bytes
  | .list, _ => .error .expectedString
  | .byte, c => .ok c
  | .string, c => if c.length = 1 ∧ headLt128 c = true then .error .canonSize else .ok c

theorem bytesOfCut_ok_iff {k : Kind} {c c' : Bytes} : bytesOfCut k c = .ok c' ↔ k ≠ .list ∧ Canon k c ∧ c' = c := by
  cases k with
  | list => exact ⟨nofun, fun h => absurd rfl h.1⟩
  | byte => exact ⟨fun h => by cases h; exact ⟨nofun, nofun, rfl⟩, fun h => by rw [h.2.2]; rfl⟩
  | string =>
    show (if c.length = 1 ∧ headLt128 c = true then _ else _) = _ ↔ _
    unfold Canon
    by_cases hc : c.length = 1 ∧ headLt128 c = true
    · rw [if_pos hc]; exact ⟨nofun, fun h => absurd ⟨rfl, hc⟩ h.2.1⟩
    · rw [if_neg hc]; exact ⟨fun h => by cases h; exact ⟨nofun, fun h => hc h.2, rfl⟩, fun h => by rw [h.2.2]⟩

theorem bytesOf_eq (buf : Bytes) : bytesOf buf = onCut buf bytesOfCut := by
  rw [onCut_head]
  unfold bytesOf
  cases hk : readHead buf with
  | error e => rfl
  | ok h =>
    obtain ⟨k, ts, cs⟩ := h
    cases k
    · rfl
    · simp only [bytesOfCut, ite_bind, cut_content hk]; rfl
    · rfl

theorem bytesOf_ok_iff {buf c rest : Bytes} :
    bytesOf buf = .ok (c, rest) ↔ buf = encString c ++ rest ∧ c.length < 2 ^ 64 := by
  rw [bytesOf_eq, onCut_ok_iff]
  constructor
  · rintro ⟨k, c', rfl, hf, h⟩
    obtain ⟨hk, hc, rfl⟩ := bytesOfCut_ok_iff.1 h
    exact ⟨by rw [frame_encString hf hk hc], hf.1⟩
  · rintro ⟨rfl, hb⟩
    obtain ⟨k, hk, hf, hc, he⟩ := encString_frame hb
    exact ⟨k, c, by rw [he], hf, bytesOfCut_ok_iff.2 ⟨hk, hc, rfl⟩⟩

/-- the content of a list handed to `inner`: the slice, array and struct decoders -/
def listOf (inner : Bytes → Except Err (List Val)) : Kind → Bytes → Except Err Val
  | .list, c => (inner c).bind fun vs => .ok (.list vs)
  | _, _ => .error .expectedList

/-- a list header, then `inner` on the list's content -/
def onList (buf : Bytes) (inner : Bytes → Except Err (List Val)) : Except Err (Val × Bytes) :=
  onCut buf (listOf inner)

/-- one value, then `k` on what follows it: the step of the element and field loops -/
def thenRest (x : Except Err (Val × Bytes)) (k : Bytes → Except Err (List Val)) : Except Err (List Val) :=
  x.bind fun r => (k r.2).bind fun vs => .ok (r.1 :: vs)

theorem onList_ok_iff {buf rest : Bytes} {inner : Bytes → Except Err (List Val)} {v : Val} :
    onList buf inner = .ok (v, rest) ↔
      ∃ p vs, buf = encListPayload p ++ rest ∧ p.length < 2 ^ 64 ∧ inner p = .ok vs ∧ v = .list vs := by
  unfold onList
  rw [onCut_ok_iff]
  constructor
  · rintro ⟨k, c, hb, hf, h⟩
    cases k with
    | list =>
      obtain ⟨vs, hi, h⟩ := bind_ok_iff.1 h
      cases h
      exact ⟨c, vs, hb, hf.1, hi, rfl⟩
    | _ => cases h
  · rintro ⟨p, vs, hb, hp, hi, rfl⟩
    exact ⟨.list, p, hb, .of_ne nofun hp, bind_ok_iff.2 ⟨vs, hi, rfl⟩⟩

theorem onList_ne_fuel {buf : Bytes} {inner : Bytes → Except Err (List Val)}
    (h : ∀ c : Bytes, c.length + 1 ≤ buf.length → inner c ≠ .error .fuel) : onList buf inner ≠ .error .fuel := by
  refine onCut_ne_fuel fun k c rest hb hf => ?_
  cases k with
  | list =>
    have := (frame_length hf).2 nofun
    refine bind_ne_fuel (h c ?_) (fun _ _ => nofun)
    rw [hb, List.length_append]; omega
  | _ => nofun

theorem onList_stable {buf : Bytes} {inner inner' : Bytes → Except Err (List Val)}
    (h : ∀ c, Stable (inner c) (inner' c)) : Stable (onList buf inner) (onList buf inner') := by
  refine onCut_stable fun k c => ?_
  cases k with
  | list => exact bind_stable (h c) (fun _ _ _ => rfl)
  | _ => exact fun _ => rfl

theorem thenRest_ok_iff {x : Except Err (Val × Bytes)} {k : Bytes → Except Err (List Val)} {vs : List Val} :
    thenRest x k = .ok vs ↔ ∃ v rest vs', x = .ok (v, rest) ∧ k rest = .ok vs' ∧ vs = v :: vs' := by
  unfold thenRest
  rw [bind_ok_iff]
  constructor
  · rintro ⟨⟨v, rest⟩, hx, h⟩
    obtain ⟨vs', hk, h⟩ := bind_ok_iff.1 h
    cases h
    exact ⟨v, rest, vs', hx, hk, rfl⟩
  · rintro ⟨v, rest, vs', hx, hk, rfl⟩
    exact ⟨_, hx, bind_ok_iff.2 ⟨vs', hk, rfl⟩⟩

theorem thenRest_ne_fuel {x : Except Err (Val × Bytes)} {k : Bytes → Except Err (List Val)}
    (hx : x ≠ .error .fuel) (hk : ∀ v rest, x = .ok (v, rest) → k rest ≠ .error .fuel) :
    thenRest x k ≠ .error .fuel :=
  bind_ne_fuel hx fun r hr => bind_ne_fuel (hk r.1 r.2 hr) (fun _ _ => nofun)

theorem thenRest_stable {x y : Except Err (Val × Bytes)} {k l : Bytes → Except Err (List Val)}
    (hx : Stable x y) (hk : ∀ c, Stable (k c) (l c)) : Stable (thenRest x k) (thenRest y l) :=
  bind_stable hx fun _ _ => bind_stable (hk _) (fun _ _ _ => rfl)

theorem decT_any (f : Nat) (buf : Bytes) : decT (f + 1) .any buf =
    (cut buf).bind fun r =>
      match r.1 with
      | .list => decT f (.slice .any) buf
      | _ => decT f .bytes buf := by
  rw [decT]
  unfold cut
  cases readHead buf with
  | error er => rfl
  | ok h => obtain ⟨k, ts, cs⟩ := h; cases k <;> rfl

theorem decT_ptr (f : Nat) (e : Ty) (buf : Bytes) :
    decT (f + 1) (.ptr e) buf = (decT f e buf).bind fun r => .ok (.some r.1, r.2) := by
  rw [decT]
  cases decT f e buf <;> rfl

theorem onList_eq (buf : Bytes) (inner : Bytes → Except Err (List Val)) : onList buf inner =
    match readHead buf with
    | .error e => .error e
    | .ok (k, ts, cs) =>
      match k with
      | .list =>
        match inner ((buf.drop ts).take cs) with
        | .error e => .error e
        | .ok vs => .ok (.list vs, buf.drop (ts + cs))
      | _ => .error .expectedList := by
  unfold onList
  rw [onCut_head]
  cases readHead buf with
  | error er => rfl
  | ok h =>
    obtain ⟨k, ts, cs⟩ := h
    cases k <;> try rfl
    simp only [listOf]
    cases inner (List.take cs (List.drop ts buf)) <;> rfl

theorem decT_slice (f : Nat) (e : Ty) (buf : Bytes) : decT (f + 1) (.slice e) buf = onList buf (decElems f e) := by
  rw [decT, onList_eq]
  rfl

theorem decT_arr (f n : Nat) (e : Ty) (buf : Bytes) : decT (f + 1) (.arr n e) buf = onList buf (decArr f e n) := by
  rw [decT, onList_eq]
  rfl

theorem decT_struct (f : Nat) (fs : List (Tag × Ty)) (buf : Bytes) :
    decT (f + 1) (.struct fs) buf = onList buf (decFields f fs) := by
  rw [decT, onList_eq]
  rfl

theorem decT_uint (f bits : Nat) (buf : Bytes) :
    decT (f + 1) (.uint bits) buf = (uintOf bits buf).bind fun r => .ok (.num r.1, r.2) := by
  rw [decT]
  cases uintOf bits buf <;> rfl

theorem decT_bool (f : Nat) (buf : Bytes) : decT (f + 1) .bool buf =
    (uintOf 8 buf).bind fun r =>
      if r.1 = 0 then .ok (.bool false, r.2) else if r.1 = 1 then .ok (.bool true, r.2) else .error .badBool := by
  rw [decT]
  cases uintOf 8 buf <;> rfl

theorem decT_big (f : Nat) (buf : Bytes) : decT (f + 1) .big buf =
    (bytesOf buf).bind fun r => (bigOfContent r.1).bind fun n => .ok (.num n, r.2) := by
  rw [decT]
  cases bytesOf buf with
  | error e => rfl
  | ok r => simp only [Except.bind]; cases bigOfContent r.1 <;> rfl

theorem decT_str (f : Nat) (buf : Bytes) :
    decT (f + 1) .str buf = (bytesOf buf).bind fun r => .ok (.bytes r.1, r.2) := by
  rw [decT]
  cases bytesOf buf <;> rfl

theorem decT_bytes (f : Nat) (buf : Bytes) :
    decT (f + 1) .bytes buf = (bytesOf buf).bind fun r => .ok (.bytes r.1, r.2) := by
  rw [decT]
  cases bytesOf buf <;> rfl

theorem decT_raw (f : Nat) (buf : Bytes) :
    decT (f + 1) .raw buf = onCut buf fun k c => .ok (.bytes (frame k c)) := by
  rw [decT, onCut_head]
  cases hk : readHead buf with
  | error e => rfl
  | ok h =>
    obtain ⟨k, ts, cs⟩ := h
    cases k
    · rfl
    · simp only [frame, cut_content hk]; rfl
    · simp only [frame, cut_content hk]; rfl

theorem decT_barr (f n : Nat) (buf : Bytes) : decT (f + 1) (.barr n) buf =
    onCut buf fun k c =>
      match k with
      | .list => .error .expectedString
      | .byte => if n = 0 then .error .strTooLong else if n > 1 then .error .strTooShort else .ok (.bytes c)
      | .string =>
        if n < c.length then .error .strTooLong else if n > c.length then .error .strTooShort
        else if c.length = 1 ∧ headLt128 c = true then .error .canonSize else .ok (.bytes c) := by
  rw [decT, onCut_head]
  cases hk : readHead buf with
  | error e => rfl
  | ok h =>
    obtain ⟨k, ts, cs⟩ := h
    cases k
    · simp only [ite_bind]; rfl
    · simp only [ite_bind, cut_content hk]; rfl
    · rfl

/-- the types whose decoder does not recurse -/
def Ty.leaf : Ty → Bool
  | .any | .slice _ | .arr _ _ | .ptr _ | .struct _ => false
  | _ => true

theorem thenRest_eq (x : Except Err (Val × Bytes)) (k : Bytes → Except Err (List Val)) : thenRest x k =
    match x with
    | .error er => .error er
    | .ok (v, rest) =>
      match k rest with
      | .error er => .error er
      | .ok vs => .ok (v :: vs) := by
  unfold thenRest
  cases x with
  | error er => rfl
  | ok r =>
    simp only [Except.bind]
    cases k r.2 <;> rfl

theorem decElems_cons (f : Nat) (e : Ty) (x : UInt8) (xs : Bytes) :
    decElems (f + 1) e (x :: xs) = thenRest (decT f e (x :: xs)) (decElems f e) := by
  rw [decElems, thenRest_eq]
  rfl

theorem decArr_cons (f n : Nat) (e : Ty) (x : UInt8) (xs : Bytes) :
    decArr (f + 1) e (n + 1) (x :: xs) = thenRest (decT f e (x :: xs)) (decArr f e n) := by
  rw [decArr, thenRest_eq]
  rfl

theorem decFields_none (f : Nat) (ty : Ty) (fs : List (Tag × Ty)) (x : UInt8) (xs : Bytes) :
    decFields (f + 1) ((.none, ty) :: fs) (x :: xs) = thenRest (decT f ty (x :: xs)) (decFields f fs) := by
  rw [decFields, thenRest_eq]
  rfl

theorem decFields_tail (f : Nat) (e : Ty) (c : Bytes) :
    decFields (f + 1) [(.tail, .slice e)] c = (decElems f e c).bind fun vs => .ok [.list vs] := by
  rw [decFields]
  cases decElems f e c <;> rfl

theorem decFields_nilOK (f : Nat) (e : Ty) (fs : List (Tag × Ty)) {c : Bytes} (hc : c ≠ []) :
    decFields (f + 1) ((.nilOK, .ptr e) :: fs) c =
      (cut c).bind fun r =>
        if r.2.1 = [] ∧ r.1 ≠ .byte then (decFields f fs r.2.2).bind fun vs => .ok (.nil :: vs)
        else thenRest ((decT f e c).bind fun r => .ok (.some r.1, r.2)) (decFields f fs) := by
  cases c with
  | nil => exact absurd rfl hc
  | cons x xs =>
    rw [decFields]
    unfold cut
    cases hk : readHead (x :: xs) with
    | error er => rfl
    | ok h =>
      obtain ⟨k, ts, cs⟩ := h
      have h0 : ((x :: xs).drop ts).take cs = [] ↔ cs = 0 := by rw [← List.length_eq_zero_iff, cut_content hk]
      simp only [Except.bind, h0]
      split
      · rename_i hc
        rw [hc.1, Nat.add_zero]
        cases decFields f fs (List.drop ts (x :: xs)) <;> rfl
      · rw [thenRest_eq]
        cases decT f e (x :: xs) <;> rfl

theorem encT_uint (bits n : Nat) :
    encT (.uint bits) (.num n) = if n < 2 ^ bits then .ok (encUint n) else .error .badValue := by rw [encT]

theorem encT_barr (n : Nat) (b : Bytes) :
    encT (.barr n) (.bytes b) = if b.length = n then .ok (encString b) else .error .badValue := by rw [encT]

theorem encT_slice (e : Ty) (vs : List Val) :
    encT (.slice e) (.list vs) = (encElems e vs).bind fun p => .ok (encListPayload p) := by
  rw [encT]; cases encElems e vs <;> rfl

theorem encT_arr (n : Nat) (e : Ty) (vs : List Val) : encT (.arr n e) (.list vs) =
    if vs.length = n then (encElems e vs).bind fun p => .ok (encListPayload p) else .error .badValue := by
  rw [encT]; cases encElems e vs <;> rfl

theorem encT_struct (fs : List (Tag × Ty)) (vs : List Val) :
    encT (.struct fs) (.list vs) = (encFields fs vs).bind fun p => .ok (encListPayload p) := by
  rw [encT]; cases encFields fs vs <;> rfl

theorem encElems_cons (e : Ty) (v : Val) (vs : List Val) :
    encElems e (v :: vs) = (encT e v).bind fun a => (encElems e vs).bind fun b => .ok (a ++ b) := by
  rw [encElems]
  cases encT e v with
  | error er => rfl
  | ok a => simp only [Except.bind]; cases encElems e vs <;> rfl

theorem encFields_tail (e : Ty) (vs : List Val) : encFields [(.tail, .slice e)] [.list vs] = encElems e vs := by
  rw [encFields]

theorem encFields_cons {tag : Tag} (ht : tag ≠ .tail) (ty : Ty) (fs : List (Tag × Ty)) (v : Val) (vs : List Val) :
    encFields ((tag, ty) :: fs) (v :: vs) = (encT ty v).bind fun a => (encFields fs vs).bind fun b => .ok (a ++ b) := by
  have h : encFields ((tag, ty) :: fs) (v :: vs) = match encT ty v with
      | .error er => .error er
      | .ok a => match encFields fs vs with
        | .error er => .error er
        | .ok b => .ok (a ++ b) := by
    cases tag with
    | tail => exact absurd rfl ht
    | none | nilOK => simp only [encFields]; rfl
  rw [h]
  cases encT ty v with
  | error er => rfl
  | ok a => simp only [Except.bind]; cases encFields fs vs <;> rfl

theorem decodeTy_ok_iff {ty : Ty} {b : Bytes} {v : Val} :
    decodeTy ty b = .ok v ↔ decT (typedFuel ty b) ty b = .ok (v, []) := by
  unfold decodeTy
  cases decT (typedFuel ty b) ty b with
  | error e => exact ⟨nofun, nofun⟩
  | ok r =>
    obtain ⟨v', rest⟩ := r
    cases rest with
    | nil => exact ⟨fun h => by cases h; rfl, fun h => by cases h; rfl⟩
    | cons x xs => exact ⟨nofun, nofun⟩

end Rangers.RLP
