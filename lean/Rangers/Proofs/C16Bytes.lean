import Rangers.Proofs.BigEndian
import Rangers.Model.Vrf
/-! What `big.Int.SetBytes/Bytes` (`natToBE`/`beToNat`) does to a byte string
    (`stripZeros`), and `tryZeroPadding` as `padLeft`, so that header transport is uniqueness of positional
    notation (`Proofs/BigEndian`). Core Lean only. -/
namespace Rangers.Proofs.C16Bytes
open Rangers Rangers.Model.Vrf

theorem stripZeros_head (bs : Bytes) : (stripZeros bs).head? ≠ some 0 := by
  induction bs with
  | nil => exact nofun
  | cons a rest ih =>
    rw [stripZeros]
    by_cases ha : a = 0
    · rwa [if_pos ha]
    · rw [if_neg ha]
      exact fun h => ha (Option.some.inj h)

theorem beToNat_stripZeros (bs : Bytes) : beToNat (stripZeros bs) = beToNat bs := by
  induction bs with
  | nil => rfl
  | cons a rest ih =>
    rw [stripZeros]
    by_cases ha : a = 0
    · rw [if_pos ha, ih, ha, beToNat_zero_cons]
    · rw [if_neg ha]

theorem natToBE_beToNat (bs : Bytes) : natToBE (beToNat bs) = stripZeros bs := by
  rw [← beToNat_stripZeros, natToBE_beToNat_of_head (stripZeros_head bs)]

theorem pad_eq_padLeft (pi : Bytes) : tryZeroPadding pi = padLeft proveSize pi := by
  unfold tryZeroPadding padLeft
  split
  · rename_i h
    rw [Nat.sub_eq_zero_of_le h]
    rfl
  · rfl

theorem pad_of_len_ge (pi : Bytes) (h : proveSize ≤ pi.length) : tryZeroPadding pi = pi := by
  rw [pad_eq_padLeft, padLeft, Nat.sub_eq_zero_of_le h]
  rfl

theorem pad_length_ge (pi : Bytes) : proveSize ≤ (tryZeroPadding pi).length := by
  rw [pad_eq_padLeft, padLeft, List.length_append, List.length_replicate]
  omega

/-- Padding forgets exactly what the header's big integer forgets: a value of at most `ProveSize` bytes is read back
    (`ProveValue.Bytes()`, then `tryZeroPadding`) as the same padded string — two strings of 80 bytes with one value.
    For a longer value with a leading zero byte this fails. -/
theorem pad_ofBig_toBig_le (pi : Bytes) (h : pi.length ≤ proveSize) :
    tryZeroPadding (ofBig (toBig pi)) = tryZeroPadding pi := by
  have hlen : (natToBE (beToNat pi)).length ≤ proveSize :=
    (natToBE_length_le_iff _ _).2 (Nat.lt_of_lt_of_le (beToNat_lt pi) (Nat.pow_le_pow_right (by decide) h))
  rw [pad_eq_padLeft, pad_eq_padLeft, ofBig, toBig]
  apply beToNat_inj
  · rw [padLeft_length _ _ hlen, padLeft_length _ _ h]
  · rw [beToNat_padLeft, beToNat_padLeft, beToNat_natToBE]

theorem outputOf_ofBig_toBig (pi : Bytes) (h : pi.length ≤ proveSize) : outputOf (ofBig (toBig pi)) = outputOf pi := by
  unfold outputOf
  rw [pad_ofBig_toBig_le pi h]

theorem pad_ofBig_toBig (pi : Bytes) (h : pi.length = proveSize) : tryZeroPadding (ofBig (toBig pi)) = pi := by
  rw [pad_ofBig_toBig_le pi (Nat.le_of_eq h), pad_of_len_ge pi (Nat.le_of_eq h.symm)]

theorem pad_transport (pi : Bytes) (h : pi.length = proveSize) : tryZeroPadding (transport pi) = pi := by
  rw [transport, ← natToBE_beToNat]
  exact pad_ofBig_toBig pi h

end Rangers.Proofs.C16Bytes
