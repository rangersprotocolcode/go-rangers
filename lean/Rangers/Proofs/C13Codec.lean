import Rangers.Model.IdKey
import Rangers.Proofs.BigEndian
import Rangers.Proofs.C13G1Bridge
/-! The id ↔ map-key round trip: the width of `ID.Serialize` and
    `parseHexAux` on the hex text of a byte string. The `Signature.Serialize` / `Deserialize` round trip
    on valid points, read off the codec of the C14 model through `Proofs/C13G1Bridge.lean` (no primality needed). -/
namespace Rangers.Proofs.C13
open Rangers Rangers.Model.IdKey

theorem padLeft32_length (x : Nat) (hx : x < 2 ^ 256) : (padLeft 32 (natToBE x)).length = 32 :=
  padLeft_length 32 _ ((natToBE_length_le_32 x).2 hx)

theorem parseHexAux_byte (acc : Nat) (b : UInt8) (rest : List Char) :
    parseHexAux acc (hexCharsOfByte b ++ rest) = parseHexAux (acc * 256 + b.toNat) rest := by
  simp only [hexCharsOfByte, List.cons_append, List.nil_append, parseHexAux, hexVal_hi, hexVal_lo]
  congr 1
  omega

theorem parseHexAux_hexChars (bs : Bytes) : ∀ acc : Nat,
    parseHexAux acc (hexChars bs) = some (bs.foldl (fun a b => a * 256 + b.toNat) acc) := by
  induction bs with
  | nil => intro acc; rfl
  | cons b bs ih =>
    intro acc
    simp only [hexChars, List.flatMap_cons, List.foldl_cons]
    rw [parseHexAux_byte]
    exact ih _

end Rangers.Proofs.C13

namespace Rangers.Proofs.C13G1
open Rangers Rangers.Model Rangers.Model.Bls14 Rangers.Proofs.Bls14 Rangers.Proofs.C13 Rangers.Generated

theorem sign_roundtrip (q : G1.Point) (hv : Valid1 q) :
    G1.deserializeSign bnCurve (G1.serializeSign (some q)) = some q := by
  have hm : G1.serializeSign (some q) = g1Marshal (φ q) ++ [] := by
    rw [List.append_nil, ← marshal_models_agree _ hv.2, conv_φ]
    rfl
  rw [deserializeSign_models_agree, hm, g1Read_marshal_append _ _ hv.1 hv.2, conv_φ, List.append_nil,
    if_neg (by rw [g1_marshal_length]; decide)]

end Rangers.Proofs.C13G1
