import Rangers.Proofs.TrieRlp
import Rangers.Proofs.TrieEncC
/- The disk path.  `decodeNode` on the RLP blob of a collapsed node gives what `expandNode` makes of that node, for every
   collapsed node of the shape the hasher emits (`DecOK`; a statement about `CNode`s, no trie in it); the collapsed form of
   a minimal-form trie has that shape, so resolving from disk and from the memory cache agree. -/
namespace Rangers.Trie
open Rangers

theorem length_rlpList_gt (p : Bytes) : p.length < (rlpList p).length := by
  unfold rlpList rlpHead
  split <;> simp <;> omega

theorem length_rlpString_ge (b : Bytes) : b.length ≤ (rlpString b).length := by
  unfold rlpString
  split
  · split <;> simp [rlpHead]
  · simp

theorem length_rlpString_pos (b : Bytes) : 0 < (rlpString b).length := by
  unfold rlpString
  split
  · split <;> simp [rlpHead]
  · unfold rlpHead; split <;> simp

/-- an item of an RLP list, given as (is it a list?, payload) -/
def encItem (i : Bool × Bytes) : Bytes := if i.1 then rlpList i.2 else rlpString i.2

theorem length_encItem_pos (i : Bool × Bytes) : 0 < (encItem i).length := by
  unfold encItem
  split
  · have := length_rlpList_gt i.2; omega
  · exact length_rlpString_pos i.2

theorem length_encItem_ge (i : Bool × Bytes) : i.2.length ≤ (encItem i).length := by
  unfold encItem
  split
  · have := length_rlpList_gt i.2; omega
  · exact length_rlpString_ge i.2

theorem countValues_item (i : Bool × Bytes) (rest : Bytes) (hlen : i.2.length < 256 ^ 8) (f : Nat) :
    countValues (f + 1) (encItem i ++ rest) = (countValues f rest).map (· + 1) := by
  obtain ⟨k, h1, _⟩ := rlpSplit_item i.1 i.2 rest hlen
  have hne : (encItem i ++ rest).isEmpty = false :=
    List.isEmpty_eq_false_iff.mpr (List.append_ne_nil_of_left_ne_nil (List.ne_nil_of_length_pos (length_encItem_pos i)) _)
  have h1 : rlpSplit (encItem i ++ rest) = some (k, i.2, rest) := h1
  rw [countValues_succ, hne, h1]
  rfl

theorem countValues_items (items : List (Bool × Bytes)) (rest : Bytes) (f : Nat)
    (hb : ∀ i ∈ items, i.2.length < 256 ^ 8) :
    countValues (f + items.length) (items.flatMap encItem ++ rest) = (countValues f rest).map (· + items.length) := by
  induction items with
  | nil => simp
  | cons i items ih =>
    have h1 := countValues_item i (items.flatMap encItem ++ rest) (hb i (by simp)) (f + items.length)
    simp only [List.flatMap_cons, List.append_assoc, List.length_cons]
    rw [← Nat.add_assoc, h1, ih (fun j hj => hb j (by simp [hj]))]
    cases countValues f rest <;> simp; omega

theorem countValues_exact (items : List (Bool × Bytes)) (hb : ∀ i ∈ items, i.2.length < 256 ^ 8) :
    countValues (items.flatMap encItem).length (items.flatMap encItem) = some items.length := by
  have hlen : items.length ≤ (items.flatMap encItem).length := by
    induction items with
    | nil => simp
    | cons i items ih =>
      have := ih (fun j hj => hb j (by simp [hj]))
      have := length_encItem_pos i
      simp only [List.flatMap_cons, List.length_append, List.length_cons]; omega
  obtain ⟨d, hd⟩ : ∃ d, (items.flatMap encItem).length = d + items.length := ⟨_, (Nat.sub_add_cancel hlen).symm⟩
  have := countValues_items items [] d hb
  rw [List.append_nil] at this
  rw [hd, this]
  cases d <;> simp [countValues]

theorem rlpSplit_string (b rest : Bytes) (hlen : b.length < 256 ^ 8) :
    ∃ k, rlpSplit (rlpString b ++ rest) = some (k, b, rest) ∧ (k == RKind.list) = false := by
  obtain ⟨k, h1, h2⟩ := rlpSplit_item false b rest hlen
  refine ⟨k, h1, ?_⟩
  cases k
  · rfl
  · rfl
  · simp at h2

theorem rlpSplit_list (p rest : Bytes) (hlen : p.length < 256 ^ 8) :
    rlpSplit (rlpList p ++ rest) = some (RKind.list, p, rest) := by
  obtain ⟨k, h1, h2⟩ := rlpSplit_item true p rest hlen
  rw [if_pos rfl, h2.mpr rfl] at h1
  exact h1

theorem splitString_item (b rest : Bytes) (hlen : b.length < 256 ^ 8) :
    splitString (rlpString b ++ rest) = some (b, rest) := by
  obtain ⟨k, h1, hk⟩ := rlpSplit_string b rest hlen
  simp [splitString, h1, hk]

theorem splitList_item (p rest : Bytes) (hlen : p.length < 256 ^ 8) :
    splitList (rlpList p ++ rest) = some (p, rest) := by
  have e : (RKind.list == RKind.list) = true := rfl
  simp [splitList, rlpSplit_list p rest hlen, e]

/-- what the RLP list of a collapsed node contains: `encC c = rlpList (payloadC c)` for a node of its own (`encC_eq_rlpList`) -/
def payloadC : CNode → Bytes
  | .leaf ck v => rlpString ck ++ rlpString v
  | .ext ck c => rlpString ck ++ encC c
  | .branch cs v => encC.encCL cs ++ (if v.isEmpty then [0x80] else rlpString v)
  | _ => []

/-- a child reference as an item: an empty slot and a hash are strings, an embedded node is a list -/
def refItem (r : CNode) : Bool × Bytes :=
  match r with
  | .empty => (false, [])
  | .hashRef h => (false, h)
  | c => (true, payloadC c)

theorem rlpString_nil : rlpString [] = [0x80] := by simp [rlpString, rlpHead]

theorem encItem_refItem (r : CNode) : encItem (refItem r) = encC r := by
  cases r <;> simp [refItem, encItem, encC, payloadC, rlpString_nil]

theorem valItem_eq (v : Bytes) : (if v.isEmpty then [0x80] else rlpString v) = encItem (false, v) := by
  cases v <;> simp [encItem, rlpString_nil]

theorem CNode.induct {P : CNode → Prop} (hempty : P .empty) (hhash : ∀ h, P (.hashRef h)) (hleaf : ∀ ck v, P (.leaf ck v))
    (hext : ∀ ck c, P c → P (.ext ck c)) (hbranch : ∀ cs v, (∀ c ∈ cs, P c) → P (.branch cs v)) : ∀ c, P c := by
  intro c
  exact CNode.rec (motive_1 := P) (motive_2 := fun cs => ∀ c ∈ cs, P c)
    hempty hhash hleaf (fun ck c ih => hext ck c ih) (fun cs v ih => hbranch cs v ih)
    (by intro c hc; cases hc)
    (fun c cs ihc ihcs => by
      intro x hx
      cases hx with
      | head => exact ihc
      | tail _ h => exact ihcs x h) c

/-- a node of its own (an RLP list), as opposed to an empty slot or a hash reference (RLP strings) -/
def CNode.isNode : CNode → Bool
  | .empty => false
  | .hashRef _ => false
  | _ => true

/-- what `decodeRef` accepts where a child is expected: a string item, or an embedded node of at most 32 bytes -/
def Embeds (c : CNode) : Prop := c.isNode = true → (encC c).length ≤ 32

mutual
/-- the collapsed nodes `decodeNode` / `decodeRef` turn back into what `expandNode` makes of them: the key tells leaf
    from extension, hash references are 32 bytes long, a full node has 16 children, children are embedded only when small -/
def DecOK : CNode → Prop
  | .empty => True
  | .hashRef h => h.length = 32
  | .leaf ck _ => ∀ k, compactToHex ck = some k → hasTerm k = true
  | .ext ck c => (∀ k, compactToHex ck = some k → hasTerm k = false) ∧ Embeds c ∧ DecOK c
  | .branch cs _ => cs.length = 16 ∧ DecOKs cs
def DecOKs : List CNode → Prop
  | [] => True
  | c :: cs => (Embeds c ∧ DecOK c) ∧ DecOKs cs
end

theorem DecOKs_iff (cs : List CNode) : DecOKs cs ↔ ∀ c ∈ cs, Embeds c ∧ DecOK c := by
  induction cs with
  | nil => simp [DecOKs]
  | cons c cs ih => simp [DecOKs, ih]

/-- the items of the RLP list a node is written as -/
def itemsC : CNode → List (Bool × Bytes)
  | .leaf ck v => [(false, ck), (false, v)]
  | .ext ck c => [(false, ck), refItem c]
  | .branch cs v => cs.map refItem ++ [(false, v)]
  | _ => []

theorem payloadC_eq_items (c : CNode) : payloadC c = (itemsC c).flatMap encItem := by
  cases c with
  | empty => rfl
  | hashRef _ => rfl
  | leaf ck v => simp [payloadC, itemsC, encItem]
  | ext ck c => simp only [payloadC, itemsC, List.flatMap_cons, List.flatMap_nil, List.append_nil, encItem_refItem]; rfl
  | branch cs v =>
    simp only [payloadC, itemsC, encCL_eq_flatMap, List.flatMap_append, List.flatMap_map, encItem_refItem, valItem_eq,
      List.flatMap_cons, List.flatMap_nil, List.append_nil]

theorem encC_eq_rlpList {c : CNode} (h : c.isNode = true) : encC c = rlpList (payloadC c) := by
  cases c with
  | empty => cases h
  | hashRef _ => cases h
  | _ => simp [encC, payloadC]

/-- the first steps of `decodeNode` on the blob of a node; every item is shorter than the blob, which is what the fuel bound
    below lives on -/
theorem blob_split {c : CNode} (h : c.isNode = true) (hsz : (encC c).length < 256 ^ 8) (rest : Bytes) :
    (encC c ++ rest).isEmpty = false ∧ splitList (encC c ++ rest) = some (payloadC c, rest) ∧
    countValues (payloadC c).length (payloadC c) = some (itemsC c).length ∧
    ∀ i ∈ itemsC c, i.2.length < 256 ^ 8 ∧ (encItem i).length + 1 ≤ (encC c).length := by
  have hl := encC_eq_rlpList h
  have hpl := length_rlpList_gt (payloadC c)
  rw [← hl] at hpl
  have hb : ∀ i ∈ itemsC c, i.2.length < 256 ^ 8 ∧ (encItem i).length + 1 ≤ (encC c).length := by
    intro i hi
    have h1 : (encItem i).length ≤ ((itemsC c).flatMap encItem).length :=
      (List.sublist_flatten_of_mem (List.mem_map_of_mem hi)).length_le
    have h2 := length_encItem_ge i
    rw [← payloadC_eq_items] at h1
    omega
  refine ⟨?_, ?_, ?_, hb⟩
  · cases he : encC c with
    | nil => rw [he] at hpl; exact absurd hpl (Nat.not_lt_zero _)
    | cons _ _ => rfl
  · rw [hl]; exact splitList_item _ _ (by omega)
  · rw [payloadC_eq_items]; exact countValues_exact _ (fun i hi => (hb i hi).1)

/-- `hD` is `decodeNode_encC` at `r`.  The fuel `20 * length + 20`: one level of nesting costs at most 18 units (`decodeNode` 1,
    the loop `decodeRefs` up to 16 to reach the last child, `decodeRef` 1), and an embedded node is at least one byte shorter than
    the blob around it (`blob_split`), so 20 units a byte cover it; `+ 21` here and `+ rs.length` in `decodeRefs_encC` are the
    units of `decodeRef` and of the loop. -/
theorem decodeRef_encC (gen : Nat) (r : CNode) (hok : DecOK r) (hemb : Embeds r)
    (hD : r.isNode = true → ∀ f rest, 20 * (encC r).length + 20 ≤ f →
      decodeNode gen f none (encC r ++ rest) = expandNode gen none r) :
    ∀ f rest, 20 * (encC r).length + 21 ≤ f →
      decodeRef gen f (encC r ++ rest) = (expandNode gen none r).map (fun n => (n, rest)) := by
  intro f rest hf
  obtain ⟨f', rfl, hf'⟩ := fuel_succ hf
  by_cases hn : r.isNode = true
  · -- an embedded node: a list item of at most 32 bytes
    have h32 := hemb hn
    have hl := encC_eq_rlpList hn
    have hp : (payloadC r).length < 256 ^ 8 := by
      have h1 := length_rlpList_gt (payloadC r)
      rw [← hl] at h1
      have : (32 : Nat) < 256 ^ 8 := by decide
      omega
    have hsp := rlpSplit_list (payloadC r) rest hp
    rw [← hl] at hsp
    have hsz : ¬ ((encC r ++ rest).length - rest.length > 32) := by
      simp only [List.length_append]; omega
    have hk : (RKind.list == RKind.list) = true := rfl
    simp only [decodeRef, hsp, Option.bind_some, hk, if_true, hsz, if_false]
    rw [hD hn f' rest (by omega)]
  · cases r with
    | empty =>
      obtain ⟨k, h1, hk⟩ := rlpSplit_string [] rest (by simp)
      have h1 : rlpSplit (128 :: rest) = some (k, [], rest) := by rw [rlpString_nil] at h1; exact h1
      simp [encC, decodeRef, h1, hk, expandNode]
    | hashRef h =>
      have hlen32 : h.length = 32 := hok
      obtain ⟨k, h1, hk⟩ := rlpSplit_string h rest (by rw [hlen32]; decide)
      have hne : h ≠ [] := by intro h0; rw [h0] at hlen32; simp at hlen32
      simp [encC, decodeRef, h1, hk, hlen32, expandNode, hne]
    | leaf _ _ => exact absurd rfl hn
    | ext _ _ => exact absurd rfl hn
    | branch _ _ => exact absurd rfl hn

theorem decodeRefs_encC (gen : Nat) (rs : List CNode)
    (hR : ∀ r ∈ rs, ∀ f rest, 20 * (encC r).length + 21 ≤ f →
      decodeRef gen f (encC r ++ rest) = (expandNode gen none r).map (fun n => (n, rest))) :
    ∀ f rest, (∀ r ∈ rs, 20 * (encC r).length + 21 + rs.length ≤ f) → rs.length + 1 ≤ f →
      decodeRefs gen f rs.length (encC.encCL rs ++ rest) = (expandNodeL gen rs).map (fun ls => (ls, rest)) := by
  induction rs with
  | nil =>
    intro f rest _ hf
    obtain ⟨f', rfl, hf'⟩ := fuel_succ hf
    simp [decodeRefs, expandNodeL, encC.encCL]
  | cons r rs ih =>
    intro f rest hb hf
    obtain ⟨f', rfl, hf'⟩ := fuel_succ hf
    simp only [List.length_cons] at hb hf
    simp only [encC.encCL, List.append_assoc, List.length_cons, decodeRefs, expandNodeL]
    rw [hR r (by simp) f' _ (by have := hb r (by simp); omega)]
    cases hx : expandNode gen none r with
    | none => simp
    | some l =>
      simp only [Option.map_some, Option.bind_some]
      rw [ih (fun y hy => hR y (by simp [hy])) f' rest
        (fun y hy => by have := hb y (by simp [hy]); omega) (by omega)]
      cases expandNodeL gen rs <;> simp

theorem decodeNode_encC (gen : Nat) (c : CNode) :
    DecOK c → c.isNode = true → (encC c).length < 256 ^ 8 → ∀ hh f rest, 20 * (encC c).length + 20 ≤ f →
      decodeNode gen f hh (encC c ++ rest) = expandNode gen hh c := by
  induction c using CNode.induct with
  | hempty => intro _ h; cases h
  | hhash h => intro _ h; cases h
  | hleaf ck v =>
    intro hok _ hsz hh f rest hf
    obtain ⟨f', rfl, hf'⟩ := fuel_succ hf
    obtain ⟨hne, hsl, hcv, hb⟩ := blob_split (c := .leaf ck v) rfl hsz rest
    have hck := (hb (false, ck) (by simp [itemsC])).1
    have hv := (hb (false, v) (by simp [itemsC])).1
    have hsv := splitString_item v [] hv
    rw [List.append_nil] at hsv
    have hcv : countValues (payloadC (.leaf ck v)).length (payloadC (.leaf ck v)) = some 2 := hcv
    simp only [decodeNode, hne, Bool.false_eq_true, if_false, hsl, Option.bind_some, hcv, if_true]
    simp only [payloadC, splitString_item _ _ hck, hsv, Option.bind_some, expandNode]
    cases hk : compactToHex ck with
    | none => rfl
    | some k => simp [hok k hk]
  | hext ck r ih =>
    intro hok _ hsz hh f rest hf
    obtain ⟨hterm, hemb, hokr⟩ := hok
    obtain ⟨f', rfl, hf'⟩ := fuel_succ hf
    obtain ⟨hne, hsl, hcv, hb⟩ := blob_split (c := .ext ck r) rfl hsz rest
    have hck := (hb (false, ck) (by simp [itemsC])).1
    have hr := (hb (refItem r) (by simp [itemsC])).2
    rw [encItem_refItem] at hr
    have hR := decodeRef_encC gen r hokr hemb (fun hn f rest hf => ih hokr hn (by omega) none f rest hf) f' [] (by omega)
    rw [List.append_nil] at hR
    have hcv : countValues (payloadC (.ext ck r)).length (payloadC (.ext ck r)) = some 2 := hcv
    simp only [decodeNode, hne, Bool.false_eq_true, if_false, hsl, Option.bind_some, hcv, if_true]
    simp only [payloadC, splitString_item _ _ hck, hR, Option.bind_some, expandNode]
    cases hk : compactToHex ck with
    | none => rfl
    | some k =>
      simp only [Option.bind_some, hterm k hk, Bool.false_eq_true, if_false]
      cases expandNode gen none r <;> rfl
  | hbranch cs v ih =>
    intro hok _ hsz hh f rest hf
    obtain ⟨h16, hoks⟩ := hok
    obtain ⟨f', rfl, hf'⟩ := fuel_succ hf
    obtain ⟨hne, hsl, hcv, hb⟩ := blob_split (c := .branch cs v) rfl hsz rest
    have hv := (hb (false, v) (by simp [itemsC])).1
    have hlen : ∀ r ∈ cs, (encC r).length + 1 ≤ (encC (.branch cs v)).length := by
      intro r hr
      have := (hb (refItem r) (List.mem_append_left _ (List.mem_map_of_mem hr))).2
      rw [encItem_refItem] at this
      exact this
    have hRs : ∀ r ∈ cs, ∀ f rest, 20 * (encC r).length + 21 ≤ f →
        decodeRef gen f (encC r ++ rest) = (expandNode gen none r).map (fun n => (n, rest)) := by
      intro r hr
      obtain ⟨hemb, hokr⟩ := (DecOKs_iff cs).mp hoks r hr
      have := hlen r hr
      exact decodeRef_encC gen r hokr hemb (fun hn f rest hf => ih r hr hokr hn (by omega) none f rest hf)
    have hdr := decodeRefs_encC gen cs hRs f' (if v.isEmpty then [0x80] else rlpString v)
      (fun r hr => by have := hlen r hr; omega) (by omega)
    rw [h16] at hdr
    have hsv : splitString (if v.isEmpty then [0x80] else rlpString v) = some (v, []) := by
      have := splitString_item v [] hv
      rw [List.append_nil] at this
      rw [valItem_eq]; exact this
    have hcv : countValues (payloadC (.branch cs v)).length (payloadC (.branch cs v)) = some 17 := by
      rw [hcv]; simp [itemsC, h16]
    simp only [decodeNode, hne, Bool.false_eq_true, if_false, hsl, Option.bind_some, hcv, (by decide : ¬ (17 : Nat) = 2),
      if_true]
    simp only [payloadC, hdr, expandNode]
    cases expandNodeL gen cs with
    | none => rfl
    | some ls =>
      simp only [Option.map_some, Option.bind_some, hsv]
      cases v <;> simp

theorem refOf_decOK {H : Bytes → Bytes} (h32 : ∀ x, (H x).length = 32) {t : Node} (hwf : WF t)
    (hA : DecOK (collapse H t)) : Embeds (refOf H t) ∧ DecOK (refOf H t) := by
  rw [refOf_of_ne_nil H t hwf.ne_nil]
  by_cases hsmall : (enc H t).length < 32
  · rw [if_pos hsmall]
    exact ⟨fun _ => by rw [encC_collapse H t hwf]; omega, hA⟩
  · rw [if_neg hsmall]
    exact ⟨fun h => Bool.noConfusion h, h32 _⟩

theorem collapse_decOK (H : Bytes → Bytes) (h32 : ∀ x, (H x).length = 32) :
    ∀ t, WF t → DecOK (collapse H t) ∧ (collapse H t).isNode = true := by
  apply WF_induct
  case leaf =>
    intro kk b hkk _
    obtain ⟨n, rfl, hn⟩ := (validKey_iff kk).mp hkk
    rw [collapse_leaf]
    refine ⟨fun k hk => ?_, rfl⟩
    rw [compact_roundtrip_term n hn, Option.some.injEq] at hk
    rw [← hk, hasTerm_append_16]
  case ext =>
    intro kk cs _ hnib hfull ih
    rw [collapse_ext]
    refine ⟨⟨fun k hk => ?_, refOf_decOK h32 hfull ih.1⟩, rfl⟩
    rw [compact_roundtrip_nibs kk hnib, Option.some.injEq] at hk
    rw [← hk, hasTerm_nibs kk hnib]
  case full =>
    intro cs hwf ih
    have hlen := ((WF_full_iff cs).mp hwf).1
    rw [collapse_full H cs]
    refine ⟨⟨by simp [hlen], (DecOKs_iff _).mpr (fun r hr => ?_)⟩, rfl⟩
    obtain ⟨x, hx, rfl⟩ := List.mem_map.mp hr
    rcases WF_full_kids hwf x hx with rfl | ⟨hm, hw⟩
    · exact ⟨fun h => Bool.noConfusion h, trivial⟩
    · exact refOf_decOK h32 hw (ih x hm hw).1

theorem decodeNode_collapse (H : Bytes → Bytes) (h32 : ∀ x, (H x).length = 32) (gen : Nat) (t : Node)
    (hwf : WF t) (hsz : (enc H t).length < 256 ^ 8) (hh : Option Bytes) (f : Nat) (rest : Bytes)
    (hf : 20 * (enc H t).length + 20 ≤ f) :
    decodeNode gen f hh (encC (collapse H t) ++ rest) = expandNode gen hh (collapse H t) := by
  obtain ⟨hok, hn⟩ := collapse_decOK H h32 t hwf
  have henc := encC_collapse H t hwf
  exact decodeNode_encC gen _ hok hn (by rw [henc]; exact hsz) hh f rest (by rw [henc]; exact hf)

theorem resolveHashDisk_eq (H : Bytes → Bytes) (h32 : ∀ x, (H x).length = 32) (st : Store) (gen : Nat)
    (t : Node) (hwf : WF t) (hsz : (enc H t).length < 256 ^ 8) (h : Bytes)
    (hlk : st.lookup h = some (collapse H t)) :
    resolveHashDisk st gen h = resolveHash st gen h := by
  have henc := encC_collapse H t hwf
  have := decodeNode_collapse H h32 gen t hwf hsz (some h) (20 * (enc H t).length + 20) [] (Nat.le_refl _)
  rw [List.append_nil, henc] at this
  simp only [resolveHashDisk, resolveHash, hlk, Option.bind_some, henc, this]

end Rangers.Trie
