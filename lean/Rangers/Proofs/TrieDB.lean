import Rangers.Model.TrieDB
import Rangers.Proofs.Lookup
/-!
Specification predicates and helper lemmas for the C03 theorems about
`Rangers.Model.TrieDB`.  Core Lean only.
-/
namespace Rangers.Model.TrieDB

abbrev Has {β : Type} (l : List (Hash × β)) (h : Hash) : Prop := (l.lookup h).isSome = true

/-- every hash a stored node needs is stored.  Weaker than `AllRes`: a reference cycle is closed and resolves
    nothing (`Props.C03.closed_alone_insufficient`).  The invariant `Inv` carries `AllRes`, from which `Closed`
    follows (`allRes_closed`). -/
def Closed (d : Disk) : Prop :=
  ∀ h n, d.lookup h = some n → ∀ r ∈ n.need, Has d r

/-- `h` can be read completely from `d` alone.  A finite derivation: a store
    with a reference cycle resolves nothing on the cycle. -/
inductive Resolvable (d : Disk) : Hash → Prop where
  | node (h : Hash) (n : DNode) : d.lookup h = some n → (∀ r ∈ n.need, Resolvable d r) → Resolvable d h

/-- "every root whose top node is present on disk is fully resolvable". -/
def AllRes (d : Disk) : Prop := ∀ h, Has d h → Resolvable d h

/-- every hash a cached node needs is on disk already, or is a cached child the
    commit walk will descend into. -/
def CacheInv (c : Cache) (d : Disk) : Prop :=
  ∀ h n, c.lookup h = some n → ∀ r ∈ n.need, Has d r ∨ (r ∈ n.childs ∧ Has c r)

/-- a hash names one blob: what is cached under `h` is what is on disk under `h`
    (Keccak collision freedom, as a hypothesis). -/
def Consistent (c : Cache) (d : Disk) : Prop :=
  ∀ h n dn, c.lookup h = some n → d.lookup h = some dn → dn = n.toD

def Extends (d d' : Disk) : Prop := ∀ h dn, d.lookup h = some dn → d'.lookup h = some dn

/-- the post-order property of a Put sequence: whatever a written node needs is
    on disk already or was written earlier in the sequence. -/
def Post (c : Cache) (d : Disk) : List Hash → List Hash → Prop
  | _, [] => True
  | seen, x :: xs =>
    (∀ n, c.lookup x = some n → ∀ r ∈ n.need, Has d r ∨ r ∈ seen) ∧ Post c d (x :: seen) xs

theorem has_of_lookup {β : Type} {l : List (Hash × β)} {h : Hash} {n : β} (e : l.lookup h = some n) : Has l h :=
  Option.isSome_of_eq_some e

theorem lookup_of_has {β : Type} {l : List (Hash × β)} {h : Hash} (e : Has l h) : ∃ n, l.lookup h = some n :=
  Option.isSome_iff_exists.mp e

theorem not_has_of_lookup {β : Type} {l : List (Hash × β)} {h : Hash} (e : l.lookup h = none) : ¬ Has l h := by
  unfold Has
  rw [e]
  exact Bool.false_ne_true

theorem has_cons {β : Type} {k r : Hash} {b : β} {l : List (Hash × β)} : Has ((k, b) :: l) r ↔ r = k ∨ Has l r := by
  unfold Has
  rw [lookup_cons_eq]
  by_cases h : r = k
  · rw [if_pos h]; exact ⟨fun _ => Or.inl h, fun _ => rfl⟩
  · rw [if_neg h]; exact ⟨Or.inr, fun o => o.resolve_left h⟩

theorem lookup_mem {β : Type} {l : List (Hash × β)} {h : Hash} {n : β} (e : l.lookup h = some n) : (h, n) ∈ l := by
  obtain ⟨_, _, rfl, _⟩ := List.lookup_eq_some_iff.mp e
  exact List.mem_append_right _ List.mem_cons_self

inductive All2 {α β : Type} (R : α → β → Prop) : List α → List β → Prop where
  | nil : All2 R [] []
  | cons {a : α} {b : β} {as : List α} {bs : List β} : R a b → All2 R as bs → All2 R (a :: as) (b :: bs)

theorem All2.imp {α β : Type} {R S : α → β → Prop} {l : List α} {ts : List β}
    (h : All2 R l ts) (hi : ∀ a b, a ∈ l → R a b → S a b) : All2 S l ts := by
  induction h with
  | nil => exact All2.nil
  | cons hr _ ih =>
    exact All2.cons (hi _ _ List.mem_cons_self hr) (ih fun a b ha => hi a b (List.mem_cons_of_mem _ ha))

theorem allSome_some_cons {α : Type} (a : α) (os : List (Option α)) :
    allSome (some a :: os) = (allSome os).map (a :: ·) := by
  rw [allSome]
  cases allSome os <;> rfl

theorem allSome_map_eq_some {α β : Type} {g : α → Option β} {l : List α} {ts : List β} :
    allSome (l.map g) = some ts ↔ All2 (fun x t => g x = some t) l ts := by
  constructor
  · intro h
    induction l generalizing ts with
    | nil => cases h; exact All2.nil
    | cons x xs ih =>
      rw [List.map_cons] at h
      cases hx : g x with
      | none => rw [hx] at h; cases h
      | some a =>
        rw [hx, allSome_some_cons] at h
        obtain ⟨as, has, rfl⟩ := Option.map_eq_some_iff.mp h
        exact All2.cons hx (ih has)
  · intro h
    induction h with
    | nil => rfl
    | cons hr _ ih => rw [List.map_cons, hr, allSome_some_cons, ih]; rfl

theorem allSome_map_congr {α β : Type} (g g' : α → Option β) (l : List α) (ts : List β)
    (h : allSome (l.map g) = some ts) (hc : ∀ x ∈ l, ∀ t, g x = some t → g' x = some t) :
    allSome (l.map g') = some ts :=
  allSome_map_eq_some.mpr ((allSome_map_eq_some.mp h).imp fun a b ha hab => hc a ha b hab)

theorem post_mono {c : Cache} {d : Disk} : ∀ (ws seen seen' : List Hash),
    (∀ x ∈ seen, x ∈ seen') → Post c d seen ws → Post c d seen' ws := by
  intro ws
  induction ws with
  | nil => exact fun _ _ _ _ => trivial
  | cons x xs ih =>
    exact fun seen seen' hs hp => ⟨fun n hn r hr => (hp.1 n hn r hr).imp_right (hs r),
      ih (x :: seen) (x :: seen') (fun _ hy => (List.mem_cons.mp hy).elim
        (fun e => e ▸ List.mem_cons_self) (fun m => List.mem_cons_of_mem _ (hs _ m))) hp.2⟩

theorem post_append {c : Cache} {d : Disk} (a b : List Hash) : ∀ (seen : List Hash),
    Post c d seen (a ++ b) ↔ Post c d seen a ∧ Post c d (a.reverse ++ seen) b := by
  induction a with
  | nil => exact fun seen => ⟨fun h => ⟨trivial, h⟩, fun h => h.2⟩
  | cons x a ih =>
    intro seen
    show _ ∧ Post c d (x :: seen) (a ++ b) ↔ (_ ∧ Post c d (x :: seen) a) ∧ _
    rw [ih (x :: seen), List.reverse_cons, List.append_assoc, and_assoc]
    rfl

theorem post_prefix {c : Cache} {d : Disk} {seen p ws : List Hash} (hp : p <+: ws) (h : Post c d seen ws) :
    Post c d seen p := by
  obtain ⟨t, rfl⟩ := hp
  exact ((post_append p t seen).mp h).1

theorem walk_zero (c : Cache) (h : Hash) : walk c 0 h = none := rfl

theorem walk_uncached {c : Cache} {h : Hash} (hl : c.lookup h = none) (f : Nat) : walk c (f + 1) h = some [] := by
  rw [walk, hl]

theorem walk_cached {c : Cache} {h : Hash} {n : CNode} (hl : c.lookup h = some n) (f : Nat) :
    walk c (f + 1) h = (allSome (n.childs.map (walk c f))).map (·.flatten ++ [h]) := by
  rw [walk, hl]
  dsimp only
  cases allSome (n.childs.map (walk c f)) <;> rfl

def ChildClosed (c : Cache) (t : List Hash) : Prop :=
  ∀ x ∈ t, ∀ n, c.lookup x = some n → ∀ r ∈ n.childs, Has c r → r ∈ t

/-- What is known of a Put sequence `t` of `commit(x)` when `CacheInv c d` holds, whatever child order each visit
    took (`walksN_good`): only cached nodes are written (`cached`), `x` itself is if it is cached (`top`), and what a
    written node needs is on disk or was written before it (`post`).  `prefix_induct` consumes `cached` and `post`,
    `root_on_disk` consumes `top`.  `closed` (every cached child of a written node is written too) is carried by the
    construction; no theorem of `Props/C03*.lean` uses it. -/
structure GoodTrace (c : Cache) (d : Disk) (x : Hash) (t : List Hash) : Prop where
  cached : ∀ y ∈ t, Has c y
  top : Has c x → x ∈ t
  post : ∀ seen, Post c d seen t
  closed : ChildClosed c t

theorem childClosed_append {c : Cache} {a b : List Hash} (ha : ChildClosed c a) (hb : ChildClosed c b) :
    ChildClosed c (a ++ b) := fun x hx n hn r hr hc =>
  (List.mem_append.mp hx).elim (fun h => List.mem_append_left _ (ha x h n hn r hr hc))
    (fun h => List.mem_append_right _ (hb x h n hn r hr hc))

theorem good_flatten {c : Cache} {d : Disk} {l : List Hash} {ts : List (List Hash)}
    (h : All2 (GoodTrace c d) l ts) :
    (∀ y ∈ ts.flatten, Has c y) ∧ (∀ r ∈ l, Has c r → r ∈ ts.flatten) ∧
    (∀ seen, Post c d seen ts.flatten) ∧ ChildClosed c ts.flatten := by
  induction h with
  | nil => exact ⟨nofun, nofun, fun _ => trivial, nofun⟩
  | @cons a b as bs hg _ ih =>
    obtain ⟨i1, i2, i3, i4⟩ := ih
    rw [List.flatten_cons]
    refine ⟨fun y hy => (List.mem_append.mp hy).elim (hg.cached y) (i1 y), fun r hr hc => ?_,
      fun seen => (post_append b bs.flatten seen).mpr ⟨hg.post seen, i3 _⟩, childClosed_append hg.closed i4⟩
    rcases List.mem_cons.mp hr with rfl | h
    · exact List.mem_append_left _ (hg.top hc)
    · exact List.mem_append_right _ (i2 r h hc)

/-- The Put sequences `commit(h)` can produce when **every visit** of a node
    iterates its external children in an order of its own (Go randomises map
    iteration per `range` statement, so a node reached twice in one commit may
    be walked in two different orders).  `f` bounds the recursion depth. -/
def WalksN (c : Cache) : Nat → Hash → List Hash → Prop
  | 0, _, _ => False
  | f + 1, h, ws =>
    match c.lookup h with
    | none => ws = []
    | some n => ∃ ks ts, (∀ x, x ∈ ks ↔ x ∈ n.ext) ∧ All2 (WalksN c f) (ks ++ n.inner) ts ∧ ws = ts.flatten ++ [h]

theorem walksN_uncached {c : Cache} {h : Hash} (hl : c.lookup h = none) (f : Nat) (ws : List Hash) :
    WalksN c (f + 1) h ws ↔ ws = [] := by
  rw [WalksN, hl]

theorem walksN_cached {c : Cache} {h : Hash} {n : CNode} (hl : c.lookup h = some n) (f : Nat) (ws : List Hash) :
    WalksN c (f + 1) h ws ↔
      ∃ ks ts, (∀ x, x ∈ ks ↔ x ∈ n.ext) ∧ All2 (WalksN c f) (ks ++ n.inner) ts ∧ ws = ts.flatten ++ [h] := by
  rw [WalksN, hl]

theorem goodTrace_visit {c : Cache} {d : Disk} (hinv : CacheInv c d) {h : Hash} {n : CNode}
    (hl : c.lookup h = some n) {kids : List Hash} (hmem : ∀ r ∈ n.childs, r ∈ kids) {ts : List (List Hash)}
    (hall : All2 (GoodTrace c d) kids ts) : GoodTrace c d h (ts.flatten ++ [h]) := by
  obtain ⟨g1, g2, g3, g4⟩ := good_flatten hall
  have hkid : ∀ r ∈ n.childs, Has c r → r ∈ ts.flatten := fun r hr => g2 r (hmem r hr)
  refine ⟨fun y hy => ?_, fun _ => List.mem_append_right _ (List.mem_singleton_self h), fun seen => ?_,
    fun x hx n' hn' r hr hc => List.mem_append_left _ ?_⟩
  · rcases List.mem_append.mp hy with hy | hy
    · exact g1 y hy
    · exact List.mem_singleton.mp hy ▸ has_of_lookup hl
  · refine (post_append _ _ seen).mpr ⟨g3 seen, fun n' hn' r hr => ?_, trivial⟩
    cases hl.symm.trans hn'
    exact (hinv h n hl r hr).imp_right fun hc =>
      List.mem_append_left _ (List.mem_reverse.mpr (hkid r hc.1 hc.2))
  · rcases List.mem_append.mp hx with hx | hx
    · exact g4 x hx n' hn' r hr hc
    · cases List.mem_singleton.mp hx
      cases hl.symm.trans hn'
      exact hkid r hr hc

theorem walksN_good (c : Cache) (d : Disk) (hinv : CacheInv c d) :
    ∀ (f : Nat) (h : Hash) (ws : List Hash), WalksN c f h ws → GoodTrace c d h ws := by
  intro f
  induction f with
  | zero => exact fun _ _ hw => hw.elim
  | succ f ih =>
    intro h ws hw
    cases hl : c.lookup h with
    | none =>
      cases (walksN_uncached hl f ws).mp hw
      exact ⟨nofun, fun hh => absurd hh (not_has_of_lookup hl), fun _ => trivial, nofun⟩
    | some n =>
      obtain ⟨ks, ts, hks, hall, rfl⟩ := (walksN_cached hl f ws).mp hw
      refine goodTrace_visit hinv hl (fun r hr => ?_) (hall.imp fun a b _ hab => ih a b hab)
      exact List.mem_append.mpr ((List.mem_append.mp hr).imp_left (hks r).mpr)

theorem walk_walksN (c : Cache) : ∀ (f : Nat) (h : Hash) (ws : List Hash), walk c f h = some ws → WalksN c f h ws := by
  intro f
  induction f with
  | zero => exact fun _ _ hw => nomatch hw
  | succ f ih =>
    intro h ws hw
    cases hl : c.lookup h with
    | none =>
      rw [walk_uncached hl] at hw
      cases hw
      exact (walksN_uncached hl f []).mpr rfl
    | some n =>
      rw [walk_cached hl] at hw
      obtain ⟨ts, ha, rfl⟩ := Option.map_eq_some_iff.mp hw
      exact (walksN_cached hl f _).mpr
        ⟨n.ext, ts, fun _ => Iff.rfl, (allSome_map_eq_some.mp ha).imp fun a b _ hab => ih a b hab, rfl⟩

theorem walk_good (c : Cache) (d : Disk) (hinv : CacheInv c d) (f : Nat) (h : Hash) (ws : List Hash)
    (hw : walk c f h = some ws) : GoodTrace c d h ws :=
  walksN_good c d hinv f h ws (walk_walksN c f h ws hw)

theorem walk_fuel_mono (c : Cache) : ∀ (f : Nat) (h : Hash) (ws : List Hash),
    walk c f h = some ws → walk c (f + 1) h = some ws := by
  intro f
  induction f with
  | zero => exact fun _ _ hw => nomatch hw
  | succ f ih =>
    intro h ws hw
    cases hl : c.lookup h with
    | none => rw [walk_uncached hl] at hw ⊢; exact hw
    | some n =>
      rw [walk_cached hl] at hw ⊢
      obtain ⟨ts, ha, rfl⟩ := Option.map_eq_some_iff.mp hw
      rw [allSome_map_congr _ _ _ ts ha fun x _ t ht => ih x t ht]
      rfl

theorem extends_refl (d : Disk) : Extends d d := fun _ _ h => h

theorem extends_trans {a b c : Disk} (h1 : Extends a b) (h2 : Extends b c) : Extends a c :=
  fun h dn e => h2 h dn (h1 h dn e)

theorem extends_has {d d' : Disk} (he : Extends d d') {r : Hash} (h : Has d r) : Has d' r := by
  obtain ⟨n, hn⟩ := lookup_of_has h
  exact has_of_lookup (he r n hn)

theorem resolvable_extends {d d' : Disk} (he : Extends d d') {k : Hash} (h : Resolvable d k) : Resolvable d' k := by
  induction h with
  | node h n hl _ ih => exact Resolvable.node h n (he h n hl) ih

theorem allRes_closed {d : Disk} (h : AllRes d) : Closed d := by
  intro x n hx r hr
  cases h x (has_of_lookup hx) with
  | node _ n' hl hs =>
    cases hx.symm.trans hl
    cases hs r hr with
    | node _ m hm _ => exact has_of_lookup hm

theorem putNode_cached {c : Cache} {d : Disk} {x : Hash} {n : CNode} (hx : c.lookup x = some n) :
    putNode c d x = (x, n.toD) :: d := by rw [putNode, hx]

theorem putNode_uncached {c : Cache} {d : Disk} {x : Hash} (hx : c.lookup x = none) :
    putNode c d x = d := by rw [putNode, hx]

theorem putNode_has_self {c : Cache} {d : Disk} {x : Hash} {n : CNode} (hx : c.lookup x = some n) :
    (putNode c d x).lookup x = some n.toD := by
  rw [putNode_cached hx, List.lookup_cons_self]

theorem putNode_lookup_ne {c : Cache} {d : Disk} {x h : Hash} (hk : h ≠ x) : (putNode c d x).lookup h = d.lookup h := by
  cases hx : c.lookup x with
  | none => rw [putNode_uncached hx]
  | some n => rw [putNode_cached hx, lookup_cons_ne hk]

theorem putNode_has_mono {c : Cache} {d : Disk} (x : Hash) {r : Hash} (h : Has d r) : Has (putNode c d x) r := by
  cases hx : c.lookup x with
  | none => rw [putNode_uncached hx]; exact h
  | some n => rw [putNode_cached hx]; exact has_cons.mpr (Or.inr h)

theorem putNode_extends {c : Cache} {d : Disk} (hc : Consistent c d) (x : Hash) : Extends d (putNode c d x) := by
  intro h dn hd
  by_cases hk : h = x
  · subst hk
    cases hx : c.lookup h with
    | none => rw [putNode_uncached hx]; exact hd
    | some n => rw [putNode_has_self hx, hc h n dn hx hd]
  · rw [putNode_lookup_ne hk]; exact hd

theorem putNode_consistent {c : Cache} {d : Disk} (hc : Consistent c d) (x : Hash) : Consistent c (putNode c d x) := by
  intro h m dn hm hd
  by_cases hk : h = x
  · subst hk
    rw [putNode_has_self hm] at hd
    cases hd
    rfl
  · rw [putNode_lookup_ne hk] at hd
    exact hc h m dn hm hd

theorem putNode_allRes {c : Cache} {d : Disk} (ha : AllRes d) (hc : Consistent c d) {x : Hash} {n : CNode}
    (hx : c.lookup x = some n) (hn : ∀ r ∈ n.need, Has d r) : AllRes (putNode c d x) := by
  have he := putNode_extends hc x
  intro h hh
  by_cases hk : h = x
  · subst hk
    exact Resolvable.node h n.toD (putNode_has_self hx) fun r hr => resolvable_extends he (ha r (hn r hr))
  · unfold Has at hh
    rw [putNode_lookup_ne hk] at hh
    exact resolvable_extends he (ha h hh)

theorem putNode_closed {c : Cache} {d : Disk} (hcl : Closed d) {x : Hash} {n : CNode}
    (hx : c.lookup x = some n) (hn : ∀ r ∈ n.need, Has d r) : Closed (putNode c d x) := by
  intro h m hm r hr
  apply putNode_has_mono
  by_cases hk : h = x
  · subst hk
    rw [putNode_has_self hx] at hm
    cases hm
    exact hn r hr
  · rw [putNode_lookup_ne hk] at hm
    exact hcl h m hm r hr

theorem applyWrites_nil (c : Cache) (d : Disk) : applyWrites c d [] = d := rfl

theorem applyWrites_append (c : Cache) (d : Disk) (a b : List Hash) :
    applyWrites c d (a ++ b) = applyWrites c (applyWrites c d a) b :=
  List.foldl_append

theorem writes_extends {c : Cache} (ws : List Hash) : ∀ (d : Disk), Consistent c d →
    Extends d (applyWrites c d ws) ∧ Consistent c (applyWrites c d ws) := by
  induction ws with
  | nil => exact fun d hc => ⟨extends_refl d, hc⟩
  | cons x xs ih =>
    intro d hc
    have ⟨h1, h2⟩ := ih (putNode c d x) (putNode_consistent hc x)
    exact ⟨extends_trans (putNode_extends hc x) h1, h2⟩

theorem writes_lookup {c : Cache} {x : Hash} {n : CNode} (hx : c.lookup x = some n) (ws : List Hash) :
    ∀ (d : Disk), (x ∈ ws ∨ d.lookup x = some n.toD) → (applyWrites c d ws).lookup x = some n.toD := by
  induction ws with
  | nil => exact fun d h => h.elim nofun id
  | cons y ys ih =>
    intro d h
    refine ih (putNode c d y) ?_
    by_cases hy : x = y
    · subst hy; exact Or.inr (putNode_has_self hx)
    · rw [putNode_lookup_ne hy]
      exact h.imp_left fun hm => (List.mem_cons.mp hm).resolve_left hy

theorem writes_uncached {c : Cache} {h : Hash} (hc : c.lookup h = none) (ws : List Hash) :
    ∀ (d : Disk), (applyWrites c d ws).lookup h = d.lookup h := by
  induction ws with
  | nil => exact fun _ => rfl
  | cons x xs ih =>
    intro d
    refine (ih (putNode c d x)).trans ?_
    by_cases hx : h = x
    · rw [putNode_uncached (hx ▸ hc)]
    · exact putNode_lookup_ne hx

theorem live_cached {s : St} {h : Hash} {n : CNode} (hl : s.cache.lookup h = some n) :
    liveLookup s h = some n.toD := by
  rw [liveLookup, hl]

theorem live_uncached {s : St} {h : Hash} (hl : s.cache.lookup h = none) : liveLookup s h = s.disk.lookup h := by
  rw [liveLookup, hl]

theorem writes_sub_live {c : Cache} {d : Disk} (hcs : Consistent c d) (ws : List Hash) {h : Hash} {dn : DNode}
    (hd : (applyWrites c d ws).lookup h = some dn) : liveLookup ⟨c, d⟩ h = some dn := by
  cases hc : c.lookup h with
  | some n => rw [live_cached hc, (writes_extends ws d hcs).2 h n dn hc hd]
  | none => rw [live_uncached hc, ← writes_uncached hc ws d]; exact hd

/-- A property `P` of the disk that a single Put keeps whenever the written node's needs are on disk
    holds after a whole post-order Put sequence.  The core of C03: `P` = "every stored hash is fully
    resolvable", `P` = "closed". -/
theorem writes_induct {c : Cache} {d : Disk} {P : Disk → Prop}
    (hstep : ∀ d' x n, P d' → c.lookup x = some n → (∀ r ∈ n.need, Has d' r) → P (putNode c d' x))
    (ws : List Hash) : ∀ (seen : List Hash) (d' : Disk), P d' → (∀ r, Has d r → Has d' r) →
      (∀ r ∈ seen, Has d' r) → (∀ x ∈ ws, Has c x) → Post c d seen ws → P (applyWrites c d' ws) := by
  induction ws with
  | nil => exact fun _ _ hP _ _ _ _ => hP
  | cons x xs ih =>
    intro seen d' hP hd hs hcached hpost
    obtain ⟨n, hn⟩ := lookup_of_has (hcached x List.mem_cons_self)
    refine ih (x :: seen) (putNode c d' x)
      (hstep d' x n hP hn fun r hr => (hpost.1 n hn r hr).elim (hd r) (hs r))
      (fun r hr => putNode_has_mono x (hd r hr)) (fun r hr => ?_)
      (fun y hy => hcached y (List.mem_cons_of_mem _ hy)) hpost.2
    rcases List.mem_cons.mp hr with rfl | h
    · exact has_of_lookup (putNode_has_self hn)
    · exact putNode_has_mono x (hs r h)

theorem GoodTrace.prefix_induct {c : Cache} {d : Disk} {x : Hash} {ws : List Hash} (g : GoodTrace c d x ws)
    {P : Disk → Prop}
    (hstep : ∀ d' x n, P d' → c.lookup x = some n → (∀ r ∈ n.need, Has d' r) → P (putNode c d' x))
    (hP : P d) {p : List Hash} (hp : p <+: ws) : P (applyWrites c d p) :=
  writes_induct hstep p [] d hP (fun _ h => h) nofun (fun y hy => g.cached y (hp.subset hy))
    (post_prefix hp (g.post []))

theorem GoodTrace.prefix_closed {c : Cache} {d : Disk} {x : Hash} {ws : List Hash} (g : GoodTrace c d x ws)
    (hcl : Closed d) {p : List Hash} (hp : p <+: ws) : Closed (applyWrites c d p) :=
  g.prefix_induct (fun _ _ _ h hx hn => putNode_closed h hx hn) hcl hp

theorem GoodTrace.prefix_allRes {c : Cache} {d : Disk} {x : Hash} {ws : List Hash} (g : GoodTrace c d x ws)
    (ha : AllRes d) (hcs : Consistent c d) {p : List Hash} (hp : p <+: ws) : AllRes (applyWrites c d p) :=
  (g.prefix_induct (P := fun d' => AllRes d' ∧ Consistent c d')
    (fun _ x _ h hx hn => ⟨putNode_allRes h.1 h.2 hx hn, putNode_consistent h.2 x⟩) ⟨ha, hcs⟩ hp).1

theorem splitBatches_flatten (c : Cache) (ws : List Hash) : ∀ (cur : List Hash) (sz : Nat),
    (splitBatches c ws cur sz).flatten = cur.reverse ++ ws := by
  induction ws with
  | nil => intro cur sz; rw [splitBatches, List.flatten_singleton, List.append_nil]
  | cons h rest ih =>
    intro cur sz
    rw [splitBatches]
    split
    · rw [List.flatten_cons, ih, List.reverse_cons, List.append_assoc]; rfl
    · rw [ih, List.reverse_cons, List.append_assoc]; rfl

theorem batches_flatten (c : Cache) (ws : List Hash) : (splitBatches c ws [] 0).flatten = ws :=
  splitBatches_flatten c ws [] 0

theorem commitLoop_eq (c : Cache) (ws : List Hash) : ∀ (b : BatchSt) (acc : List (List Hash)),
    commitLoop c ws b acc = acc ++ splitBatches c ws b.items.reverse b.size := by
  induction ws with
  | nil => intro b acc; rw [commitLoop, splitBatches, List.reverse_reverse]
  | cons h rest ih =>
    intro b acc
    have hr : (b.put c h).items.reverse = h :: b.items.reverse := List.reverse_concat
    rw [commitLoop, splitBatches]
    show (if flushNow (b.size + sizeOf c h) = true then _ else _) = _
    split
    · rw [ih, List.append_assoc, ← hr, List.reverse_reverse]; rfl
    · rw [ih, hr]; rfl

theorem applyBatches_eq (c : Cache) (d : Disk) (bs : List (List Hash)) :
    applyBatches c d bs = applyWrites c d bs.flatten :=
  List.foldl_flatten.symm

theorem take_batches_prefix (c : Cache) (ws : List Hash) (j : Nat) :
    ((splitBatches c ws [] 0).take j).flatten <+: ws := by
  conv => rhs; rw [← batches_flatten c ws, ← List.take_append_drop j (splitBatches c ws [] 0), List.flatten_append]
  exact List.prefix_append _ _

/-- acyclicity of a hash-addressed store, as a rank function. -/
def Ranked (d : Disk) : Prop :=
  ∃ rank : Hash → Nat, ∀ h n, d.lookup h = some n → ∀ r ∈ n.need, rank r < rank h

theorem res_and_ok {a b : Res} : Res.and a b = .ok ↔ a = .ok ∧ b = .ok := by
  cases a <;> cases b <;> decide

theorem res_and_missing {a b : Res} : Res.and a b = .missing ↔ a = .missing ∨ b = .missing := by
  cases a <;> cases b <;> decide

theorem res_and_fuel {a b : Res} : Res.and a b = .fuel → a = .fuel ∨ b = .fuel := by
  cases a <;> cases b <;> decide

theorem res_all_ok (l : List Res) : Res.all l = .ok ↔ ∀ x ∈ l, x = .ok := by
  induction l with
  | nil => exact ⟨fun _ => nofun, fun _ => rfl⟩
  | cons r rs ih => rw [Res.all, res_and_ok, ih, List.forall_mem_cons]

theorem res_all_missing (l : List Res) : Res.all l = .missing ↔ ∃ x ∈ l, x = .missing := by
  induction l with
  | nil => exact ⟨nofun, nofun⟩
  | cons r rs ih => simp only [Res.all, res_and_missing, ih, List.mem_cons, exists_eq_or_imp]

theorem res_all_fuel (l : List Res) : Res.all l = .fuel → ∃ x ∈ l, x = .fuel := by
  induction l with
  | nil => exact nofun
  | cons r rs ih =>
    intro h
    rcases res_and_fuel h with e | h'
    · exact ⟨r, List.mem_cons_self, e⟩
    · obtain ⟨x, hx, e⟩ := ih h'
      exact ⟨x, List.mem_cons_of_mem _ hx, e⟩

theorem resolve_missing {get : Hash → Option DNode} {h : Hash} (hl : get h = none) (f : Nat) :
    resolve get (f + 1) h = .missing := by
  rw [resolve, hl]

theorem resolve_present {get : Hash → Option DNode} {h : Hash} {n : DNode} (hl : get h = some n) (f : Nat) :
    resolve get (f + 1) h = Res.all (n.need.map (resolve get f)) := by
  rw [resolve, hl]

theorem resolve_ok_sound (d : Disk) : ∀ (f : Nat) (h : Hash), resolve (diskGet d) f h = .ok → Resolvable d h := by
  intro f
  induction f with
  | zero => exact fun _ hh => nomatch hh
  | succ f ih =>
    intro h hh
    cases hl : diskGet d h with
    | none => rw [resolve_missing hl] at hh; cases hh
    | some n =>
      rw [resolve_present hl] at hh
      exact Resolvable.node h n hl fun r hr => ih r ((res_all_ok _).mp hh _ (List.mem_map_of_mem hr))

theorem resolve_missing_sound (d : Disk) : ∀ (f : Nat) (h : Hash), resolve (diskGet d) f h = .missing → ¬ Resolvable d h := by
  intro f
  induction f with
  | zero => exact fun _ hh => nomatch hh
  | succ f ih =>
    intro h hh hres
    cases hres with
    | node _ n hl hs =>
      rw [resolve_present (get := diskGet d) hl] at hh
      obtain ⟨x, hx, hxm⟩ := (res_all_missing _).mp hh
      obtain ⟨r, hr, rfl⟩ := List.mem_map.mp hx
      exact ih r hxm (hs r hr)

theorem view_missing {get : Hash → Option DNode} {h : Hash} (hl : get h = none) (f : Nat) :
    view get (f + 1) h = none := by
  rw [view, hl]

theorem view_present {get : Hash → Option DNode} {h : Hash} {n : DNode} (hl : get h = some n) (f : Nat) :
    view get (f + 1) h = (allSome (n.need.map (view get f))).map fun vs =>
      vs.foldl (fun acc v => (acc.1 + v.1, acc.2 + v.2)) (1, n.tag) := by
  rw [view, hl]
  dsimp only
  cases allSome (n.need.map (view get f)) <;> rfl

/-- `expandF_transfer` (`Proofs/TrieDBContent.lean`) is the same statement, with the same induction on the fuel, for the
    reader `expandF` of trie content. -/
theorem view_transfer (get get' : Hash → Option DNode) (G : Hash → Prop)
    (hstep : ∀ h, G h → ∀ n, get h = some n → get' h = some n ∧ ∀ r ∈ n.need, G r) :
    ∀ (f : Nat) (h : Hash) (v : Nat × Nat), G h → view get f h = some v → view get' f h = some v := by
  intro f
  induction f with
  | zero => exact fun _ _ _ hv => nomatch hv
  | succ f ih =>
    intro h v hg hv
    cases hl : get h with
    | none => rw [view_missing hl] at hv; cases hv
    | some n =>
      obtain ⟨h1, h2⟩ := hstep h hg n hl
      rw [view_present hl] at hv
      obtain ⟨vs, ha, rfl⟩ := Option.map_eq_some_iff.mp hv
      rw [view_present h1, allSome_map_congr _ _ _ vs ha fun x hx t ht => ih x t (h2 x hx) ht]
      rfl

end Rangers.Model.TrieDB
