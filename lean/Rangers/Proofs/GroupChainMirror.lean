import Rangers.Proofs.GroupChainRun
/-!
The sqlite `groupIndex` mirror (`middleware/mysql/group_index.go`: `InsertGroup` in `save`,
`DeleteGroup` in `remove`, `CountGroups`/`refreshCache` at start-up) holds exactly the ids of
the listed groups — as long as no operation is cut by a crash.
-/
namespace Rangers.Model.GroupChain
open Rangers

def MirrorRep (l : List Group) (c : Chain) : Prop := c.mirror.Perm (l.map (·.id))

theorem MirrorRep.length {l c} (h : MirrorRep l c) : c.mirror.length = l.length := by
  have := h.length_eq; simpa using this

theorem mirror_save {l : List Group} {c : Chain} (h : MirrorRep l c) (g : Group)
    (hfresh : ∀ x ∈ l, x.id ≠ g.id) : MirrorRep (l ++ [stamped l.length g]) (save c g) := by
  have hnm : g.id ∉ c.mirror := fun hm => by
    obtain ⟨x, hx, e⟩ := List.mem_map.mp (h.mem_iff.mp hm)
    exact hfresh x hx e
  rw [MirrorRep, List.map_append, save, mirrorInsert, if_neg hnm]
  exact (List.Perm.cons _ h).trans (List.perm_append_singleton _ _).symm

theorem mirror_remove {l : List Group} {g : Group} {c : Chain} (r : Rep (l ++ [g]) c) (hl : l ≠ [])
    (h : MirrorRep (l ++ [g]) c) : MirrorRep l (remove c c.last).2 := by
  obtain ⟨p, _, hlast, hget⟩ := r.pre_last hl
  have hfresh := fresh_of_nodup (List.map_append ▸ r.nodup)
  have hf : ((l ++ [g]).map (·.id)).filter (fun x => decide (x ≠ g.id)) = l.map (·.id) := by
    rw [List.map_append, List.filter_append, List.filter_eq_self.mpr, List.map_singleton,
      List.filter_cons_of_neg (by simp), List.filter_nil, List.append_nil]
    intro a ha
    obtain ⟨x, hx, rfl⟩ := List.mem_map.mp ha
    exact decide_eq_true (hfresh x hx)
  rw [hlast, remove_of_pre hget, MirrorRep, ← hf]
  exact h.filter _

theorem mirror_restart {l : List Group} {c c' : Chain} (gen : List Group) (r : Rep l c) (h : MirrorRep l c)
    (hr : restart c.disk c.mirror gen = some (.alive c')) : MirrorRep l c' := by
  rw [restart_eq r, refreshCache, if_pos h.length] at hr
  cases hr
  exact h

theorem SideInv.mirror : SideInv MirrorRep :=
  ⟨fun g _ h hfresh => mirror_save h g hfresh, mirror_remove, mirror_restart⟩

theorem mirror_init {gs : List Group} (ok : GenesisOK gs) :
    ∃ c, restart [] [] gs = some (.alive c) ∧ Rep (stampFrom 0 gs) c ∧ MirrorRep (stampFrom 0 gs) c := by
  cases gs with
  | nil => exact absurd rfl ok.ne
  | cons g0 rest => exact boot_fresh_keeps SideInv.mirror ok [] [] (fun _ _ => rfl) (List.Perm.refl _)

end Rangers.Model.GroupChain
