import Mathlib.Tactic.Linarith
import Mathlib.Tactic.Zify
import Mathlib.Tactic.Ring
import Rangers.Model.Qn
import Rangers.Proofs.BitLen
import Rangers.Proofs.BigEndian
/-! Arithmetic lemmas about the float64 rounding model and `calQn`.  The theorems of `Props/C16Qn` turn on the last two:
    `accepted_ratio_bound` (a VRF value `vn` accepted against the stake ratio `s` has `vn / max256` at most `capRatio s`, whose
    numerator is positive), for the range of the quality number, and `validateProve_congr` (`validateProve` reads the proof only
    through `outputOf`, the height only through its side of the threshold), for its transport. -/
namespace Rangers.Proofs.C16Qn
open Rangers Rangers.Model Rangers.Model.Qn

theorem bitLen_le_of_lt (n k : Nat) (h : n < 2 ^ k) : bitLen n ≤ k := BitLen.le_iff.2 h

theorem lt_pow_bitLen (n : Nat) : n < 2 ^ bitLen n := BitLen.le_iff.1 (Nat.le_refl _)

theorem pow_bitLen_le (n : Nat) (hn : n ≠ 0) : 2 ^ (bitLen n - 1) ≤ n :=
  BitLen.lt_iff.1 (Nat.sub_one_lt (Nat.ne_of_gt (BitLen.lt_iff.2 (Nat.pos_of_ne_zero hn))))

theorem roundNat53_of_lt (n : Nat) (h : n < 2 ^ 53) : roundNat53 n = n := by
  unfold roundNat53
  simp [bitLen_le_of_lt n 53 h]

theorem divRoundEven_le (x b M : Nat) (hb : 0 < b) (h : x ≤ M * b) : divRoundEven x b ≤ M := by
  unfold divRoundEven
  have hq : x / b ≤ M := Nat.div_le_of_le_mul (by rw [Nat.mul_comm]; exact h)
  simp only []
  split
  · -- rounding up: then x / b < M, otherwise the remainder would be 0
    rename_i hup
    by_contra hcon
    have heq : x / b = M := by omega
    have hdm := Nat.div_add_mod x b
    rw [heq, Nat.mul_comm] at hdm
    have hr : x % b = 0 := by omega
    rcases hup with h1 | ⟨h1, _⟩ <;> omega
  · exact hq

theorem binExp_le (a b k : Nat) (ha : a ≠ 0) (hk : (k : Int) ≤ binExp a b) : b * 2 ^ k ≤ a := by
  unfold binExp at hk
  simp only [] at hk
  have h1 := pow_bitLen_le a ha
  have h2 := lt_pow_bitLen b
  have hla : 1 ≤ bitLen a := by
    unfold bitLen; simp [ha]
  -- the fallback bound: k ≤ e0 - 1
  have low : (k : Int) ≤ (bitLen a : Int) - (bitLen b : Int) - 1 → b * 2 ^ k ≤ a := by
    intro hk1
    have hk' : k + bitLen b ≤ bitLen a - 1 := by omega
    calc b * 2 ^ k ≤ 2 ^ bitLen b * 2 ^ k := Nat.mul_le_mul_right _ (Nat.le_of_lt h2)
      _ = 2 ^ (k + bitLen b) := by rw [← Nat.pow_add, Nat.add_comm]
      _ ≤ 2 ^ (bitLen a - 1) := Nat.pow_le_pow_right (by decide) hk'
      _ ≤ a := h1
  split at hk
  · split at hk
    · -- exponent not lowered: the comparison in `binExp` held
      rename_i he0 hge
      rw [decide_eq_true_eq] at hge
      have hk' : k ≤ ((bitLen a : Int) - (bitLen b : Int)).toNat := by omega
      exact Nat.le_trans (Nat.mul_le_mul_left _ (Nat.pow_le_pow_right (by decide) hk')) hge
    · exact low hk
  · -- negative exponent: no natural `k` lies below it
    exfalso
    split at hk <;> omega

theorem floorFloat_le (a b N fl : Nat) (hb : 0 < b) (hN : N < 2 ^ 53) (hab : a ≤ N * b)
    (h : floorFloat a b = some fl) : fl ≤ N := by
  unfold floorFloat at h
  split at h
  · injection h with h; omega
  · rename_i ha
    simp only [] at h
    split at h
    · cases h
    · split at h
      · rename_i hsh
        injection h with h
        subst h
        apply Nat.div_le_of_le_mul
        apply divRoundEven_le _ _ _ hb
        calc a * 2 ^ (52 - binExp a b).toNat ≤ N * b * 2 ^ (52 - binExp a b).toNat :=
              Nat.mul_le_mul_right _ hab
          _ = 2 ^ (52 - binExp a b).toNat * N * b := by ring
      · rename_i hsh
        exfalso
        have h53 : ((53 : Nat) : Int) ≤ binExp a b := by omega
        have := binExp_le a b 53 ha h53
        have : N * b < 2 ^ 53 * b := Nat.mul_lt_mul_of_pos_right hN hb
        rw [Nat.mul_comm b] at *
        omega


/-- The exact ratio is at most `maxQN` (`hle`: `v ≤ s`); the float step can add at most one. -/
theorem calQnCore_range (P : Params) (hmax : P.maxQN < 2 ^ 52) (v s : Frac) (q : Nat)
    (hvd : 0 < v.den) (hs : 0 < s.num)
    (hle : v.num.toNat * s.den ≤ v.den * s.num.natAbs)
    (h : calQnCore P v s = .val q) : 1 ≤ q ∧ q ≤ P.maxQN + 1 := by
  have hm : P.maxQN ≠ 0 := by
    intro hm; simp [calQnCore, hm] at h
  have hs0 : s.num ≠ 0 := by omega
  simp only [calQnCore, hm, hs0, hs, if_false, if_true] at h
  by_cases hrn : v.num.toNat * s.den * P.maxQN = 0
  · rw [if_pos hrn] at h
    injection h with h; omega
  rw [if_neg hrn] at h
  cases hfl : floorFloat (v.num.toNat * s.den * P.maxQN) (v.den * s.num.natAbs) with
  | none => rw [hfl] at h; cases h
  | some fl =>
    rw [hfl] at h
    have hb : 0 < v.den * s.num.natAbs := Nat.mul_pos hvd (by omega)
    have hab : v.num.toNat * s.den * P.maxQN ≤ P.maxQN * (v.den * s.num.natAbs) := by
      rw [Nat.mul_comm]
      exact Nat.mul_le_mul_left _ hle
    have hflN := floorFloat_le _ _ P.maxQN fl hb (by omega) hab hfl
    have hlt : fl + 1 < 2 ^ 53 := by
      have : (2 : Nat) ^ 53 = 2 * 2 ^ 52 := by decide
      omega
    simp only [roundNat53_of_lt _ hlt] at h
    by_cases h64 : fl + 1 < two64
    · rw [if_pos h64] at h
      injection h with h; omega
    · rw [if_neg h64] at h; cases h

theorem div_succ_le_of_lt_mul (rn rd N : Nat) (h : rn < N * rd) : rn / rd + 1 ≤ N := by
  have : rn / rd < N := Nat.div_lt_of_lt_mul (by rw [Nat.mul_comm]; exact h)
  omega

theorem value_le_max (prove : Bytes) : beToNat (prove.take 32) ≤ max256 := by
  have h := beToNat_lt (prove.take 32)
  have hl : (prove.take 32).length ≤ 32 := by simp
  have : 256 ^ (prove.take 32).length ≤ 256 ^ 32 := Nat.pow_le_pow_right (by decide) hl
  have e : (256 : Nat) ^ 32 = max256 + 1 := by decide
  omega

theorem accepted_lt (vn : Nat) (s : Frac) (hpos : 0 < s.num) (hok : Frac.lt ⟨vn, max256⟩ s = true) :
    vn * s.den < max256 * s.num.natAbs := by
  simp only [Frac.lt, decide_eq_true_eq] at hok
  have : ((vn * s.den : Nat) : Int) < ((max256 * s.num.natAbs : Nat) : Int) := by
    push_cast
    rw [abs_of_pos hpos, Int.mul_comm (max256 : Int)]
    exact hok
  exact_mod_cast this

theorem accepted_ratio_bound (vn : Nat) (s : Frac) (hv : vn ≤ max256)
    (hok : Frac.lt ⟨vn, max256⟩ s = true) :
    0 < (capRatio s).num ∧
      vn * (capRatio s).den ≤ max256 * (capRatio s).num.natAbs := by
  unfold capRatio
  split
  · simp; exact hv
  · have hsn : 0 < s.num := by
      -- a non-positive numerator cannot exceed the non-negative value ratio
      simp only [Frac.lt, decide_eq_true_eq] at hok
      by_contra hcon
      have : s.num * (max256 : Int) ≤ 0 := Int.mul_nonpos_of_nonpos_of_nonneg (by omega) (by omega)
      have : (0 : Int) ≤ (vn : Int) * (s.den : Int) := by positivity
      omega
    exact ⟨hsn, Nat.le_of_lt (accepted_lt vn s hsn hok)⟩

theorem validateProve_congr (P : Params) (thr : Nat) (pv pv' : Bytes) (h h' w t : Nat)
    (hout : Vrf.outputOf pv = Vrf.outputOf pv') (hside : w ≠ 0 → (h > thr ↔ h' > thr)) :
    validateProve P thr pv h w t = validateProve P thr pv' h' w t := by
  unfold Vrf.outputOf at hout
  simp only [validateProve, calcVrfValueRatio, hout, and_congr_right hside]

end Rangers.Proofs.C16Qn
