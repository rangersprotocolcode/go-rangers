import Mathlib.Algebra.QuadraticAlgebra.Basic
import Mathlib.NumberTheory.SumTwoSquares
import Rangers.Model.Bls14G2
import Rangers.Proofs.Bls14Curve
import Rangers.Proofs.Bls14Model
import Rangers.Proofs.Bls14ShortCurve
/-!
The model's G2 arithmetic IS the group law of the twist `y² = x³ + 3/ξ` over GF(p²) =
`QuadraticAlgebra (ZMod p) (-1) 0` (a field because `p ≡ 3 (mod 4)`), in Mathlib's
`WeierstrassCurve.Affine.Point`. In particular the twist is closed under `Pt2.add / double / neg / mul`.
-/
namespace Rangers.Proofs.Bls14
open Rangers Rangers.Model.Bls14

variable [hp : Fact (Nat.Prime P)]

/-- −1 is not a square mod p (p ≡ 3 mod 4): `i² = −1` defines a field. -/
instance negOneNonSquare : Fact (∀ r : F, r ^ 2 ≠ (-1 : F) + (0 : F) * r) := ⟨by
  intro r h
  have h' : r ^ 2 = -1 := by simpa using h
  have : IsSquare (-1 : F) := ⟨r, by rw [← h']; ring⟩
  have := ZMod.exists_sq_eq_neg_one_iff.mp this
  exact this P_mod4⟩

abbrev K := QuadraticAlgebra F (-1) 0

/-- Meaning of a model GF(p²) element `x·i + y`. -/
def k2 (a : F2) : K := ⟨(a.y : F), (a.x : F)⟩

theorem k2_add (a b : F2) : k2 (F2.add a b) = k2 a + k2 b := by
  ext <;> exact cast_fadd _ _
theorem k2_sub (a b : F2) : k2 (F2.sub a b) = k2 a - k2 b := by
  ext <;> exact cast_fsub _ _
theorem k2_neg (a : F2) : k2 (F2.neg a) = -k2 a := by
  ext <;> exact cast_fneg _
theorem k2_mul (a b : F2) : k2 (F2.mul a b) = k2 a * k2 b := by
  ext
  · simp only [k2, F2.mul, cast_fsub, cast_fmul, QuadraticAlgebra.re_mul]; ring
  · simp only [k2, F2.mul, cast_fadd, cast_fmul, QuadraticAlgebra.im_mul]; ring
theorem k2_sq (a : F2) : k2 (F2.sq a) = k2 a ^ 2 := by rw [F2.sq, k2_mul, pow_two]
theorem k2_reduce (a : F2) : k2 (F2.reduce a) = k2 a := by
  ext <;> exact ZMod.natCast_mod _ P
theorem k2_ofNat (n : ℕ) : k2 (F2.ofNat n) = (n : K) := by
  ext
  · rw [QuadraticAlgebra.re_natCast]; exact ZMod.natCast_mod n P
  · rw [QuadraticAlgebra.im_natCast]; exact Nat.cast_zero

theorem k2_inv (a : F2) : k2 (F2.inv a) = (k2 a)⁻¹ := by
  have hn : QuadraticAlgebra.norm (k2 a) = (a.x : F) * a.x + (a.y : F) * a.y := by
    rw [QuadraticAlgebra.norm_def]; simp only [k2]; ring
  rw [QuadraticAlgebra.inv_def, hn]
  ext
  · simp only [k2, F2.inv, cast_fmul, cast_finv, cast_fadd, QuadraticAlgebra.re_smul,
      QuadraticAlgebra.re_star, smul_eq_mul]
    ring
  · simp only [k2, F2.inv, cast_fmul, cast_fneg, cast_finv, cast_fadd, QuadraticAlgebra.im_smul,
      QuadraticAlgebra.im_star, smul_eq_mul]
    ring

theorem k2_eq_k2_iff (a b : F2) : k2 a = k2 b ↔ (a.x : F) = b.x ∧ (a.y : F) = b.y :=
  QuadraticAlgebra.ext_iff.trans and_comm

theorem k2_eq_zero_iff (a : F2) : k2 a = 0 ↔ (a.x : F) = 0 ∧ (a.y : F) = 0 :=
  QuadraticAlgebra.ext_iff.trans and_comm

theorem k2_eq_iff (a b : F2) : F2.reduce a = F2.reduce b ↔ k2 a = k2 b := by
  rw [k2_eq_k2_iff, ZMod.natCast_eq_natCast_iff', ZMod.natCast_eq_natCast_iff', F2.reduce, F2.reduce, F2.mk.injEq]

/-- `y² = x³ + b'`, `b' = 3/ξ` (`twistB`). -/
def W2 : WeierstrassCurve.Affine K := { a₁ := 0, a₂ := 0, a₃ := 0, a₄ := 0, a₆ := k2 twistB }

theorem W2_short : Short W2 := ⟨rfl, rfl, rfl, rfl⟩

theorem natCastK_ne_zero (n : ℕ) (h0 : 0 < n) (hl : n < P) : (n : K) ≠ 0 :=
  fun h => ZModCast.natCast_ne_zero_of_lt n h0 hl (congrArg QuadraticAlgebra.re h)

theorem k2_twistB_ne_zero : k2 twistB ≠ 0 :=
  fun h => ZModCast.natCast_ne_zero_of_lt _ (by decide) (by decide) ((k2_eq_zero_iff twistB).mp h).2

theorem W2_Δ_ne_zero : W2.Δ ≠ 0 := by
  rw [W2_short.Δ, neg_ne_zero]
  refine mul_ne_zero ?_ (pow_ne_zero _ k2_twistB_ne_zero)
  rw [← Nat.cast_ofNat (R := K)]
  exact natCastK_ne_zero 432 (by decide) (by decide)

theorem F2_eq_of_k2 (a b : F2) (ha : a.isReduced = true) (hb : b.isReduced = true)
    (h : k2 a = k2 b) : a = b := by
  simp only [F2.isReduced, Bool.and_eq_true, decide_eq_true_eq] at ha hb
  rw [k2_eq_k2_iff] at h
  cases a; cases b
  exact congrArg₂ F2.mk (ZModCast.natCast_inj_of_lt ha.1 hb.1 h.1) (ZModCast.natCast_inj_of_lt ha.2 hb.2 h.2)

theorem onTwistXY_iff (x y : F2) : onTwistXY x y = true ↔ W2.Equation (k2 x) (k2 y) := by
  rw [W2_short.equation_iff, pow_succ (k2 x) 2, ← k2_sq, ← k2_sq, ← k2_mul,
    show W2.a₆ = k2 (F2.reduce twistB) from (k2_reduce twistB).symm, ← k2_add, onTwistXY, beq_iff_eq]
  exact ⟨congrArg k2, F2_eq_of_k2 _ _ (F2_ops_reduced y y).2.2.1 (F2_ops_reduced _ _).1⟩

theorem nonsing2 {X Y : K} (h : W2.Equation X Y) : W2.Nonsingular X Y :=
  (WeierstrassCurve.Affine.equation_iff_nonsingular_of_Δ_ne_zero W2_Δ_ne_zero).mp h

open Classical in
noncomputable def ι₂ : Pt2 → W2.Point
  | .inf => 0
  | .aff x y => if h : W2.Equation (k2 x) (k2 y) then .some _ _ (nonsing2 h) else 0

def Valid2 (q : Pt2) : Prop := q.onCurve = true ∧ q.reduced = true

theorem isZero_reduce_iff (a : F2) : (F2.reduce a).isZero = true ↔ k2 a = 0 := by
  rw [k2_eq_zero_iff, ZMod.natCast_eq_zero_iff, ZMod.natCast_eq_zero_iff, Nat.dvd_iff_mod_eq_zero, Nat.dvd_iff_mod_eq_zero,
    F2.isZero, F2.reduce, Bool.and_eq_true, beq_iff_eq, beq_iff_eq]

theorem beq_reduce_iff (a b : F2) : (F2.reduce a == F2.reduce b) = true ↔ k2 a = k2 b := by
  rw [beq_iff_eq]; exact k2_eq_iff a b

def pt2Aff : Pt2 → Option (K × K)
  | .inf => none
  | .aff x y => some (k2 x, k2 y)

theorem ι₂_eq (p : Pt2) : ι₂ p = pointOf W2_Δ_ne_zero (pt2Aff p) := by
  cases p <;> rfl

theorem onCurve2_iff (p : Pt2) : p.onCurve = true ↔ OnF W2 (pt2Aff p) := by
  cases p with
  | inf => exact ⟨fun _ => trivial, fun _ => rfl⟩
  | aff x y => exact onTwistXY_iff x y

theorem pt2Aff_inj (p q : Pt2) (hp' : p.reduced = true) (hq : q.reduced = true)
    (h : pt2Aff p = pt2Aff q) : p = q := by
  cases p with
  | inf => cases q with
    | inf => rfl
    | aff x y => cases h
  | aff x y => cases q with
    | inf => cases h
    | aff x' y' =>
      simp only [Pt2.reduced, Bool.and_eq_true] at hp' hq
      simp only [pt2Aff, Option.some.injEq, Prod.mk.injEq] at h
      rw [F2_eq_of_k2 x x' hp'.1 hq.1 h.1, F2_eq_of_k2 y y' hp'.2 hq.2 h.2]

theorem pt2Neg_aff (p : Pt2) : pt2Aff p.neg = negF (pt2Aff p) := by
  cases p with
  | inf => rfl
  | aff x y => simp only [Pt2.neg, pt2Aff, negF, k2_neg]

theorem pt2Double_aff (p : Pt2) : pt2Aff (Pt2.double p) = doubleF (pt2Aff p) := by
  cases p with
  | inf => rfl
  | aff x y =>
    rw [Pt2.double, apply_ite pt2Aff]
    simp only [pt2Aff, doubleF, isZero_reduce_iff, lineF, k2_sub, k2_mul, k2_sq, k2_inv, k2_add, k2_ofNat,
      Nat.cast_ofNat, div_eq_mul_inv, two_mul]

theorem pt2Add_aff (p q : Pt2) : pt2Aff (Pt2.add p q) = addF (pt2Aff p) (pt2Aff q) := by
  cases p with
  | inf => cases q <;> rfl
  | aff x1 y1 =>
    cases q with
    | inf => rfl
    | aff x2 y2 =>
      rw [Pt2.add, apply_ite pt2Aff, apply_ite pt2Aff, pt2Double_aff]
      simp only [pt2Aff, addF, beq_reduce_iff, lineF, k2_sub, k2_mul, k2_sq, k2_inv, div_eq_mul_inv]

theorem ι₂_inj (a b : Pt2) (ha : Valid2 a) (hb : Valid2 b) (h : ι₂ a = ι₂ b) : a = b := by
  rw [ι₂_eq, ι₂_eq] at h
  exact pt2Aff_inj a b ha.2 hb.2
    (pointOf_inj W2_Δ_ne_zero ((onCurve2_iff a).mp ha.1) ((onCurve2_iff b).mp hb.1) h)

theorem ι₂_neg (a : Pt2) (ha : Valid2 a) : Valid2 a.neg ∧ ι₂ a.neg = -ι₂ a := by
  have g := pointOf_neg W2_short W2_Δ_ne_zero ((onCurve2_iff a).mp ha.1)
  rw [← pt2Neg_aff, ← ι₂_eq, ← ι₂_eq, ← onCurve2_iff] at g
  exact ⟨⟨g.1, pt2_neg_reduced a ha.2⟩, g.2⟩

theorem ι₂_double (a : Pt2) (ha : Valid2 a) : Valid2 a.double ∧ ι₂ a.double = ι₂ a + ι₂ a := by
  have g := pointOf_double W2_short W2_Δ_ne_zero ((onCurve2_iff a).mp ha.1)
  rw [← pt2Double_aff, ← ι₂_eq, ← ι₂_eq, ← onCurve2_iff] at g
  exact ⟨⟨g.1, pt2_double_reduced a⟩, g.2⟩

theorem ι₂_add (a b : Pt2) (ha : Valid2 a) (hb : Valid2 b) :
    Valid2 (a.add b) ∧ ι₂ (a.add b) = ι₂ a + ι₂ b := by
  have g := pointOf_add W2_short W2_Δ_ne_zero ((onCurve2_iff a).mp ha.1) ((onCurve2_iff b).mp hb.1)
  rw [← pt2Add_aff, ← ι₂_eq, ← ι₂_eq, ← ι₂_eq, ← onCurve2_iff] at g
  exact ⟨⟨g.1, pt2_add_reduced a b ha.2 hb.2⟩, g.2⟩

theorem ι₂_mul (a : Pt2) (ha : Valid2 a) (k : ℕ) (hk : k < 2 ^ 512) :
    Valid2 (Pt2.mul a k) ∧ ι₂ (Pt2.mul a k) = k • ι₂ a := by
  unfold Pt2.mul
  rw [List.foldl_reverse]
  have := foldr_double_add ι₂ Valid2 Pt2.double Pt2.add .inf a ⟨⟨rfl, rfl⟩, rfl⟩ ι₂_double
    (fun s hs => ι₂_add s a hs ha) (bitsLE 512 k)
  rwa [ofBitsLE_bitsLE 512 k hk] at this

end Rangers.Proofs.Bls14
