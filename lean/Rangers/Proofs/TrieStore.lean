import Rangers.Model.TrieStore
import Rangers.Proofs.TrieWF
/- The collapsed form of a node and the store entries a commit writes for it, slot by slot; stores without two entries for one hash. -/
namespace Rangers.Trie
open Rangers

/-- no two entries of the store have one hash and different nodes: `NodeDatabase.insert` keeps the first entry for a hash, so
    only then does every entry a commit writes come back on lookup (`lookup_functional`) -/
def Functional (st : List (Bytes × CNode)) : Prop := ∀ e1 ∈ st, ∀ e2 ∈ st, e1.1 = e2.1 → e1.2 = e2.2

theorem lookup_functional {st : List (Bytes × CNode)} (hf : Functional st) {h : Bytes} {x : CNode}
    (hm : (h, x) ∈ st) : st.lookup h = some x := by
  cases hl : st.lookup h with
  | none => exact absurd (List.lookup_eq_none_iff.mp hl _ hm) (by simp)
  | some y =>
    obtain ⟨l₁, l₂, rfl, _⟩ := List.lookup_eq_some_iff.mp hl
    exact congrArg some (hf (h, y) (List.mem_append_right _ List.mem_cons_self) (h, x) hm rfl)

/-- how a child is referenced from its collapsed parent -/
def refOf (H : Bytes → Bytes) (c : Node) : CNode :=
  match c with
  | .nil => .empty
  | c => if (enc H c).length < 32 then collapse H c else .hashRef (H (enc H c))

theorem refOf_nil (H : Bytes → Bytes) : refOf H .nil = .empty := rfl
theorem refOf_of_ne_nil (H : Bytes → Bytes) (c : Node) (h : c ≠ .nil) :
    refOf H c = if (enc H c).length < 32 then collapse H c else .hashRef (H (enc H c)) := by
  cases c <;> first | exact absurd rfl h | rfl

theorem collapse_leaf (H : Bytes → Bytes) (k : Key) (b : Bytes) :
    collapse H (.short k (.value b)) = .leaf (hexToCompact k) b := by simp [collapse]

theorem collapse_ext (H : Bytes → Bytes) (k : Key) (cs : List Node) :
    collapse H (.short k (.full cs)) = .ext (hexToCompact k) (refOf H (.full cs)) := by simp [collapse, refOf]

theorem collapseL_cons (H : Bytes → Bytes) (c : Node) (cs : List Node) (i : Nat) :
    collapseL H (c :: cs) i = if i < 16 then refOf H c :: collapseL H cs (i + 1) else [] := by
  cases c <;> simp [collapseL, refOf]

theorem collapseL_eq (H : Bytes → Bytes) (cs : List Node) (s : Nat) :
    collapseL H cs s = (cs.take (16 - s)).map (refOf H) := by
  induction cs generalizing s with
  | nil => simp [collapseL]
  | cons c cs ih =>
    rw [collapseL_cons]
    by_cases hs : s < 16
    · have h2 : 16 - s = (16 - (s + 1)) + 1 := by omega
      rw [if_pos hs, h2, List.take_succ_cons, List.map_cons, ih (s + 1)]
    · have h2 : 16 - s = 0 := by omega
      rw [if_neg hs, h2]; simp

theorem collapse_full (H : Bytes → Bytes) (cs : List Node) :
    collapse H (.full cs) = .branch ((cs.take 16).map (refOf H)) (valueBytes (cs[16]?.getD .nil)) := by
  simp only [collapse, collapseL_eq H cs 0, Nat.sub_zero, List.getD_eq_getElem?_getD]

/-- the entries below (not at) a node -/
def kidsStore (H : Bytes → Bytes) : Node → List (Bytes × CNode)
  | .short _ v => storeOf H false v
  | .full cs => storeOfL H cs
  | _ => []

theorem mem_storeOf (H : Bytes → Bytes) (b : Bool) (c : Node) (hwf : WF c) (e : Bytes × CNode) :
    e ∈ storeOf H b c ↔
      ((b = true ∨ 32 ≤ (enc H c).length) ∧ e = (H (enc H c), collapse H c)) ∨ e ∈ kidsStore H c := by
  have hite : ∀ (x : Bytes × CNode) (n : Nat), e ∈ (if (b || decide (32 ≤ n)) = true then [x] else []) ↔
      (b = true ∨ 32 ≤ n) ∧ e = x := by
    intro x n
    simp only [Bool.or_eq_true, decide_eq_true_eq]
    split
    · rename_i h; simp [h]
    · rename_i h; simp [h]
  cases c with
  | nil => exact absurd hwf not_WF_nil
  | value v => exact absurd hwf (not_WF_value v)
  | short k v => simp only [storeOf, kidsStore, List.mem_append, hite]
  | full cs => simp only [storeOf, kidsStore, List.mem_append, hite]

theorem mem_storeOfL_iff (H : Bytes → Bytes) (cs : List Node) (e : Bytes × CNode) :
    e ∈ storeOfL H cs ↔ ∃ c ∈ cs, e ∈ storeOf H false c := by
  induction cs with
  | nil => simp [storeOfL]
  | cons x cs ih => simp only [storeOfL, List.mem_append, ih, List.mem_cons, exists_eq_or_imp]

theorem storeOf_false_subset_true (H : Bytes → Bytes) (t : Node) (hwf : WF t) :
    ∀ e ∈ storeOf H false t, e ∈ storeOf H true t := fun e he =>
  (mem_storeOf H true t hwf e).mpr (((mem_storeOf H false t hwf e).mp he).imp (fun h => ⟨Or.inl rfl, h.2⟩) id)

theorem self_mem_storeOf (H : Bytes → Bytes) (b : Bool) (t : Node) (ht : WF t)
    (hbig : b = true ∨ 32 ≤ (enc H t).length) : (H (enc H t), collapse H t) ∈ storeOf H b t :=
  (mem_storeOf H b t ht _).mpr (Or.inl ⟨hbig, rfl⟩)

theorem storeOf_child_short (H : Bytes → Bytes) (b : Bool) (k : Key) (v : Node) :
    ∀ e ∈ storeOf H false v, e ∈ storeOf H b (.short k v) := by
  intro e he; simp only [storeOf, List.mem_append]; right; exact he

theorem storeOf_child_full (H : Bytes → Bytes) (b : Bool) (cs : List Node) (c : Node) (hc : c ∈ cs) :
    ∀ e ∈ storeOf H false c, e ∈ storeOf H b (.full cs) := by
  intro e he; simp only [storeOf, List.mem_append]; right; exact (mem_storeOfL_iff H cs e).mpr ⟨c, hc, he⟩

end Rangers.Trie
