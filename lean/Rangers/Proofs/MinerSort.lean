import Rangers.Model.MinerRefundHeight
/-! C20: the two insertion functions of the model (`insertKey` under the trie iterator's key order, `insertNat` under
    `sort.Sort(DismissHeightList)`) are core's `List.merge` of a one-element list, so that what core proves of `merge`
    (`merge_perm_append`, `pairwise_merge`) holds of them. Core Lean only. -/
namespace Rangers.Miner

theorem insertKey_eq_merge (k : Bytes) (l : List Bytes) : insertKey k l = List.merge [k] l bytesLe := by
  induction l with
  | nil => exact (List.merge_right ..).symm
  | cons b l ih =>
    rw [List.cons_merge_cons, List.nil_merge, ← ih]
    rfl

theorem insertNat_eq_merge (k : Nat) (l : List Nat) : insertNat k l = List.merge [k] l (fun a b => a ≤ b) := by
  induction l with
  | nil => exact (List.merge_right ..).symm
  | cons b l ih =>
    rw [List.cons_merge_cons, List.nil_merge, ← ih]
    simp only [insertNat, decide_eq_true_eq]

end Rangers.Miner
