import Rangers.Proofs.JournalUndoEqns
/-! The nested snapshot/revert argument, for an arbitrary relation `R` on states that is reflexive,
transitive, respected by every `undo` and blind to journal bookkeeping (`RelOk`): if every op of a run
only appends journal entries whose undo gives back an `R`-related state (`RevAt`; as a relation between the state
before and the state after: `Rev`, in which the per-op lemmas are stated), then reverting to
*any* still-valid snapshot, through any nesting of snapshots and reverts, gives back a state `R`-related
to the one the snapshot was taken in (`revert_rel_generic`).  Used with `Sim` (`JournalRevert`, observations)
and with the finer `SimR` (`JournalRootRel`, root clause).

Several notions of the `Journal*` modules come in pairs: one in which the theorems of `Props/C04*` are stated, written
out at `Sim` or `SimR`, and a general one on which the reasoning is done.  Each pair has one bridge; nothing is proved twice.

  in the statements of `Props/C04*`          reasoned about                               bridge
  `Journal.RevAt c f s`                      `JournalG.RevAt c Sim f s`                   `RevAt.toG`, `RevAt.ofG` (same fields)
  `JournalG.RevAt c R f s`                   `JournalG.Rev c R s (f s)`                   `RevAt.of_rev` (same fields)
  `Journal.Inv c s G`                        `JournalG.Inv c Sim s G`                     the same body: each passes for the other
  `ResRel cs`, `XRes`                        `ResP (ObjSim cs)`, `ResP XObj`              `ResRel.toP`/`.ofP`, `XRes.toP`/`.ofP`
  `Sim`                                      `SimP ObjSim False`                          `simP_sim`
  `SimR`                                     `SimP (ObjSim ∧ XObj) True`                  `simP_simR`
  `revert_sim_generic`                       `revert_rel_generic` at `relOk_Sim`          one line

The per-op lemmas `revAt_<op>` (`JournalOps`, `JournalSteps*`, `JournalSuicide`) conclude `Rev c (SimP P D) s t`; `RevAt.ofP` and
`RevAt.toSimR` take them to `Journal.RevAt` and to `JournalG.RevAt c SimR`, which is what `step_revAt`, `step_revAtR` of the Props
files need.

Two namespaces; the definitions that `Props/C04*` mention are spread over both.  `Rangers.Proofs.JournalG` holds the
nesting argument over `R` (second half of this file), the `revAt_<op>` lemmas except the two of `JournalSuicide`, and what
surrounds the relation of the root theorem (`Fx`, `XObj`, `Absorbs`, `SimR`, `LeafEq`, `EndOk`, most side conditions of
`StepOkR`); `Rangers.Proofs.Journal` holds the rest.
`RevAt` and `Inv` exist in both under the same short name, so nothing in `Journal` opens `JournalG`: a file with declarations
of both kinds closes the first namespace and starts the second (which opens the first) half-way, and `Props/C04` opens
`JournalG` only inside `step_revAt`. -/
namespace Rangers.Proofs.Journal
open Rangers Rangers.Model.Journal

/-- ids strictly increasing and below `nextRev`, journal indices within the journal and non-decreasing -/
structure RevsOk (s : ADB) : Prop where
  ids : s.revisions.Pairwise (fun r r' => r.1 < r'.1)
  idx : s.revisions.Pairwise (fun r r' => r.2 ≤ r'.2)
  below : ∀ r ∈ s.revisions, r.1 < s.nextRev ∧ r.2 ≤ s.journal.length

theorem RevsOk.of_nil {s : ADB} (h : s.revisions = []) : RevsOk s :=
  ⟨h ▸ .nil, h ▸ .nil, fun r hr => by rw [h] at hr; cases hr⟩

theorem RevsOk.mono {s : ADB} (ok : RevsOk s) {k i : Nat} {r' r : Nat × Nat} (hk : s.revisions[k]? = some r')
    (hi : s.revisions[i]? = some r) (hki : k < i) : r'.1 < r.1 ∧ r'.2 ≤ r.2 := by
  obtain ⟨hk', rfl⟩ := List.getElem?_eq_some_iff.mp hk
  obtain ⟨hi', rfl⟩ := List.getElem?_eq_some_iff.mp hi
  exact ⟨List.pairwise_iff_getElem.mp ok.ids k i hk' hi' hki, List.pairwise_iff_getElem.mp ok.idx k i hk' hi' hki⟩

theorem snapshot_eq {s : ADB} (hc : s.crashed = false) :
    snapshot s = ({ s with revisions := s.revisions ++ [(s.nextRev, s.journal.length)], nextRev := s.nextRev + 1 }, s.nextRev) := by
  simp [snapshot, hc]

theorem RevsOk.snapshot {s : ADB} (ok : RevsOk s) :
    RevsOk { s with revisions := s.revisions ++ [(s.nextRev, s.journal.length)], nextRev := s.nextRev + 1 } := by
  refine ⟨List.pairwise_append.mpr ⟨ok.ids, List.pairwise_singleton _ _, fun r hr r' hr' => ?_⟩,
    List.pairwise_append.mpr ⟨ok.idx, List.pairwise_singleton _ _, fun r hr r' hr' => ?_⟩, fun r hr => ?_⟩
  · rw [List.mem_singleton.mp hr']; exact (ok.below r hr).1
  · rw [List.mem_singleton.mp hr']; exact (ok.below r hr).2
  · rcases List.mem_append.mp hr with hr | hr
    · exact ⟨Nat.lt_succ_of_lt (ok.below r hr).1, (ok.below r hr).2⟩
    · rw [List.mem_singleton.mp hr]; exact ⟨Nat.lt_succ_self _, Nat.le_refl _⟩

theorem getElem?_concat_cases {α β : Type} {l : List α} {m : List β} (hl : m.length = l.length) (x : α) (y : β)
    {i : Nat} {a : α} (h : (l ++ [x])[i]? = some a) :
    (l[i]? = some a ∧ (m ++ [y])[i]? = m[i]?) ∨ (a = x ∧ (m ++ [y])[i]? = some y) := by
  by_cases hlt : i < l.length
  · rw [List.getElem?_append_left hlt] at h
    exact .inl ⟨h, List.getElem?_append_left (hl ▸ hlt)⟩
  · have hi : i = l.length := by
      have := (List.getElem?_eq_some_iff.mp h).1
      simp only [List.length_append, List.length_singleton] at this
      exact Nat.le_antisymm (Nat.le_of_lt_succ this) (Nat.not_lt.mp hlt)
    subst hi
    rw [List.getElem?_concat_length] at h
    exact .inr ⟨(Option.some.inj h).symm, by rw [← hl]; exact List.getElem?_concat_length⟩

theorem findRev_spec (revs : List (Nat × Nat)) (hs : revs.Pairwise (fun r r' => r.1 < r'.1)) (off : Nat)
    (i : Nat) (r : Nat × Nat) (hi : revs[i]? = some r) : findRev revs r.1 off = some (off + i, r.1, r.2) := by
  induction revs generalizing off i with
  | nil => simp at hi
  | cons x t ih =>
    obtain ⟨xi, xj⟩ := x
    cases i with
    | zero =>
      simp only [List.getElem?_cons_zero, Option.some.injEq] at hi
      subst hi
      simp [findRev]
    | succ i =>
      simp only [List.getElem?_cons_succ] at hi
      have hlt : xi < r.1 := (List.pairwise_cons.mp hs).1 r (List.mem_of_getElem? hi)
      simp only [findRev, Nat.not_le.mpr hlt, if_false]
      rw [ih (List.pairwise_cons.mp hs).2 (off + 1) i hi, Nat.add_assoc, Nat.add_comm 1 i]

theorem findRev_some {revs : List (Nat × Nat)} {id off i rid j : Nat} (h : findRev revs id off = some (i, rid, j)) :
    off ≤ i ∧ revs[i - off]? = some (rid, j) := by
  induction revs generalizing off with
  | nil => simp [findRev] at h
  | cons x t ih =>
    obtain ⟨xi, xj⟩ := x
    simp only [findRev] at h
    split at h
    · simp only [Option.some.injEq, Prod.mk.injEq] at h
      obtain ⟨rfl, rfl, rfl⟩ := h
      simp
    · obtain ⟨h1, h2⟩ := ih h
      refine ⟨Nat.le_of_succ_le h1, ?_⟩
      rw [← Nat.succ_pred_eq_of_pos (Nat.sub_pos_of_lt h1), List.getElem?_cons_succ]; exact h2

theorem revert_valid (c : Cfg) {s : ADB} {id : Nat} (hc : s.crashed = false) (h : (revert c s id).crashed = false) :
    ∃ (i j : Nat), s.revisions[i]? = some (id, j) := by
  unfold revert at h
  simp only [hc, Bool.false_eq_true, if_false] at h
  cases hf : findRev s.revisions id 0 with
  | none => simp [hf, crash] at h
  | some x =>
    obtain ⟨i, rid, j⟩ := x
    simp only [hf] at h
    by_cases hr : rid = id
    · subst hr
      exact ⟨i - 0, j, (findRev_some hf).2⟩
    · simp [hr, crash] at h

theorem revert_at (c : Cfg) {s : ADB} (hc : s.crashed = false) (ok : RevsOk s) {i : Nat} {r : Nat × Nat}
    (hi : s.revisions[i]? = some r) :
    revert c s r.1 =
      (if (undoAll c s (s.journal.drop r.2)).crashed then undoAll c s (s.journal.drop r.2)
       else { undoAll c s (s.journal.drop r.2) with journal := s.journal.take r.2, revisions := s.revisions.take i }) := by
  unfold revert
  simp only [hc, Bool.false_eq_true, if_false]
  rw [findRev_spec s.revisions ok.ids 0 i r hi]
  simp

theorem revert_at_ok (c : Cfg) {s : ADB} (hc : s.crashed = false) (ok : RevsOk s) {i : Nat} {r : Nat × Nat}
    (hi : s.revisions[i]? = some r) (hnc : (revert c s r.1).crashed = false) :
    (undoAll c s (s.journal.drop r.2)).crashed = false ∧
    revert c s r.1 = { undoAll c s (s.journal.drop r.2) with journal := s.journal.take r.2, revisions := s.revisions.take i } := by
  rw [revert_at c hc ok hi] at hnc ⊢
  cases h : (undoAll c s (s.journal.drop r.2)).crashed with
  | false => exact ⟨rfl, by simp⟩
  | true => simp [h] at hnc

/-- the ghost of the snapshot with id `id` is `g0` wherever that id still sits on the stack.  By stack position and not by
    id, since `G` runs parallel to `s.revisions`: an inner revert `take`s both, and the final revert finds the position of
    `id` again with `findRev` -/
def Track (id : Nat) (g0 : ADB) (s : ADB) (G : List ADB) : Prop :=
  id < s.nextRev ∧ ∀ (i : Nat) (r : Nat × Nat), s.revisions[i]? = some r → r.1 = id → G[i]? = some g0

theorem Track.snapshot {id : Nat} {g0 s : ADB} {G : List ADB} (hl : G.length = s.revisions.length) (tr : Track id g0 s G)
    (g : ADB) :
    Track id g0 { s with revisions := s.revisions ++ [(s.nextRev, s.journal.length)], nextRev := s.nextRev + 1 } (G ++ [g]) := by
  refine ⟨Nat.lt_succ_of_lt tr.1, fun i r hi hid => ?_⟩
  rcases getElem?_concat_cases hl _ g hi with ⟨hi', e⟩ | ⟨rfl, _⟩
  · rw [e]; exact tr.2 i r hi' hid
  · exact absurd hid (Nat.ne_of_gt tr.1)

theorem Track.take {id : Nat} {g0 s u : ADB} {G : List ADB} (tr : Track id g0 s G) (i : Nat)
    (hr : u.revisions = s.revisions.take i) (hn : u.nextRev = s.nextRev) : Track id g0 u (G.take i) := by
  refine ⟨hn ▸ tr.1, fun k r hk hid => ?_⟩
  rw [hr, List.getElem?_take] at hk
  rw [List.getElem?_take]
  split at hk
  · rename_i hki; rw [if_pos hki]; exact tr.2 k r hk hid
  · cases hk

theorem Track.same {id : Nat} {g0 s u : ADB} {G : List ADB} (tr : Track id g0 s G)
    (hr : u.revisions = s.revisions) (hn : u.nextRev = s.nextRev) : Track id g0 u G :=
  ⟨hn ▸ tr.1, fun i r hi => tr.2 i r (hr ▸ hi)⟩

/-- side conditions of a run: `P s op` must hold in the state each op is executed in -/
def RunOk (P : ADB → Op → Prop) (c : Cfg) : ADB → List Op → Prop
  | _, [] => True
  | s, op :: ops => P s op ∧ RunOk P c (step c s op) ops

end Rangers.Proofs.Journal

namespace Rangers.Proofs.JournalG
open Rangers Rangers.Model.Journal Rangers.Proofs.Journal

/-- what the nesting argument asks of `R`; `book`: `R` does not look at journal, revision stack and `nextRev`, the three
    fields `snapshot` and `revert` write besides running `undo` -/
structure RelOk (c : Cfg) (R : ADB → ADB → Prop) : Prop where
  refl : ∀ s, R s s
  trans : ∀ {s t u}, R s t → R t u → R s u
  undo_congr : ∀ {s t} (e : Entry), R s t → R (undo c s e) (undo c t e)
  book : ∀ (u : ADB) (j : List Entry) (rv : List (Nat × Nat)) (n : Nat), R { u with journal := j, revisions := rv, nextRev := n } u

theorem undoAllG {c : Cfg} {R : ADB → ADB → Prop} (hR : RelOk c R) (es : List Entry) {s t : ADB} (h : R s t) :
    R (undoAll c s es) (undoAll c t es) := by
  unfold undoAll
  generalize es.reverse = l
  induction l generalizing s t with
  | nil => exact h
  | cons e l ih => exact ih (hR.undo_congr e h)

variable {c : Cfg} {R : ADB → ADB → Prop}

/-- `Rev c R s (f s)` (`RevAt.of_rev`) for one non-snapshot op `f`; the hypothesis on the ops in `revert_rel_generic` is
    stated with it -/
structure RevAt (c : Cfg) (R : ADB → ADB → Prop) (f : ADB → ADB) (s : ADB) : Prop where
  sticky : s.crashed = true → (f s).crashed = true
  revs : (f s).revisions = s.revisions
  nextRev : (f s).nextRev = s.nextRev
  inv : ∃ E, (f s).journal = s.journal ++ E ∧ ((f s).crashed = false → R (undoAll c (f s) E) s)

/-- `t` is `s` after a step that only appends journal entries whose undo gives back `s` up to `R`; the revision stack
    is untouched and a crash is sticky.  The per-op lemmas are stated with `Rev`, so that a composite op is followed branch
    by branch through the states it goes through. -/
structure Rev (c : Cfg) (R : ADB → ADB → Prop) (s t : ADB) : Prop where
  sticky : s.crashed = true → t.crashed = true
  revs : t.revisions = s.revisions
  nextRev : t.nextRev = s.nextRev
  inv : ∃ E, t.journal = s.journal ++ E ∧ (t.crashed = false → R (undoAll c t E) s)

theorem RevAt.of_rev {f : ADB → ADB} {s : ADB} (h : Rev c R s (f s)) : RevAt c R f s := ⟨h.sticky, h.revs, h.nextRev, h.inv⟩

theorem Rev.refl (hR : RelOk c R) (s : ADB) : Rev c R s s :=
  ⟨id, rfl, rfl, [], (List.append_nil _).symm, fun _ => hR.refl s⟩

theorem Rev.of_fix {s t : ADB} (hR : RelOk c R) (h : t = s) : Rev c R s t := h ▸ .refl hR s

theorem Rev.live {s t : ADB} (h : Rev c R s t) (hc : t.crashed = false) : s.crashed = false := by
  cases hs : s.crashed with
  | false => rfl
  | true => rw [h.sticky hs] at hc; cases hc

theorem RevAt.live {f : ADB → ADB} {s : ADB} (h : RevAt c R f s) (hc : (f s).crashed = false) : s.crashed = false :=
  Rev.live ⟨h.sticky, h.revs, h.nextRev, h.inv⟩ hc

/-- `Rev c R s t` uses `R` only in the form `R _ s`, so the implication is asked at `s` alone -/
theorem Rev.mono {R' : ADB → ADB → Prop} {s t : ADB} (h : ∀ u, R u s → R' u s) (hr : Rev c R s t) : Rev c R' s t :=
  ⟨hr.sticky, hr.revs, hr.nextRev, hr.inv.imp fun _ hE => ⟨hE.1, fun hc => h _ (hE.2 hc)⟩⟩

theorem Rev.trans {s t u : ADB} (hR : RelOk c R) (h : Rev c R s t) (h' : Rev c R t u) : Rev c R s u := by
  refine ⟨fun hs => h'.sticky (h.sticky hs), h'.revs.trans h.revs, h'.nextRev.trans h.nextRev, ?_⟩
  obtain ⟨E1, j1, i1⟩ := h.inv
  obtain ⟨E2, j2, i2⟩ := h'.inv
  refine ⟨E1 ++ E2, by rw [j2, j1, List.append_assoc], fun hc => ?_⟩
  rw [undoAll_append]
  exact hR.trans (undoAllG hR E1 (i2 hc)) (i1 (h'.live hc))

theorem Rev.rel {s t : ADB} (h : Rev c R s t) (hj : t.journal = s.journal) (hc : t.crashed = false) : R t s := by
  obtain ⟨E, hE, hr⟩ := h.inv
  rw [hj] at hE
  rw [List.self_eq_append_right.mp hE] at hr
  exact hr hc

theorem Rev.of_rel {s t : ADB} (hst : s.crashed = true → t.crashed = true) (hr : t.revisions = s.revisions)
    (hn : t.nextRev = s.nextRev) (hj : t.journal = s.journal) (h : t.crashed = false → R t s) : Rev c R s t :=
  ⟨hst, hr, hn, [], by simp [hj], h⟩

theorem Rev.of_eq {s t : ADB} (t' : ADB) (hf : t = t') (hs : s.crashed = false) (E : List Entry)
    (hj : t'.journal = s.journal ++ E) (hr : t'.revisions = s.revisions) (hn : t'.nextRev = s.nextRev)
    (h : t'.crashed = false → R (undoAll c t' E) s) : Rev c R s t :=
  hf ▸ ⟨fun hc => absurd (hs.symm.trans hc) (by simp), hr, hn, E, hj, h⟩

theorem Rev.crash {s t : ADB} (h : Rev c R s t) : Rev c R s (crash t) :=
  ⟨fun _ => rfl, h.revs, h.nextRev, h.inv.imp fun _ hE => ⟨hE.1, fun hc => by cases hc⟩⟩

theorem Rev.foldl (hR : RelOk c R) {β : Type} (g : ADB → β → ADB) (Q : ADB → Prop)
    (hg : ∀ s b, Q s → Rev c R s (g s b) ∧ Q (g s b)) (l : List β) (s : ADB) (hs : Q s) : Rev c R s (l.foldl g s) := by
  induction l generalizing s with
  | nil => exact .refl hR s
  | cons b l ih => exact (hg s b hs).1.trans hR (ih _ (hg s b hs).2)

/-- `G` lists, per valid revision, the exact state in which that snapshot was taken.  A ghost the induction over the run
    carries, no restriction on `s`: `R` being reflexive, the list of the states `undoAll c s (s.journal.drop r.2)`, `r` over
    `s.revisions`, always does -/
def Inv (c : Cfg) (R : ADB → ADB → Prop) (s : ADB) (G : List ADB) : Prop :=
  G.length = s.revisions.length ∧
  ∀ (i : Nat) (r : Nat × Nat) (g : ADB), s.revisions[i]? = some r → G[i]? = some g →
    s.crashed = false → R (undoAll c s (s.journal.drop r.2)) g

theorem Inv.of_nil {s : ADB} (h : s.revisions = []) : Inv c R s [] :=
  ⟨by rw [h]; rfl, fun i r g hi => by rw [h] at hi; cases hi⟩

theorem Inv.revert {s : ADB} {G : List ADB} (hR : RelOk c R) (hc : s.crashed = false) (ok : RevsOk s) (inv : Inv c R s G)
    {i : Nat} {r : Nat × Nat} (hi : s.revisions[i]? = some r) (hnc : (revert c s r.1).crashed = false) :
    (∃ g, G[i]? = some g ∧ R (revert c s r.1) g) ∧ Inv c R (revert c s r.1) (G.take i) ∧ RevsOk (revert c s r.1)
      ∧ (revert c s r.1).revisions = s.revisions.take i ∧ (revert c s r.1).nextRev = s.nextRev := by
  obtain ⟨hs1, hform⟩ := revert_at_ok c hc ok hi hnc
  have hnr : (undoAll c s (s.journal.drop r.2)).nextRev = s.nextRev := undoAll_nextRev c s _
  generalize hdef : undoAll c s (s.journal.drop r.2) = s1 at hs1 hnr hform
  rw [hform]
  have hrj : r.2 ≤ s.journal.length := (ok.below r (List.mem_of_getElem? hi)).2
  have hilt : i < s.revisions.length := (List.getElem?_eq_some_iff.mp hi).1
  -- revisions below position `i` point into the part of the journal that is kept
  have hkeep : ∀ k r', (s.revisions.take i)[k]? = some r' → k < i ∧ s.revisions[k]? = some r' ∧ r'.2 ≤ r.2 := by
    intro k r' hk
    rw [List.getElem?_take] at hk
    split at hk
    · rename_i hki; exact ⟨hki, hk, (ok.mono hk hi hki).2⟩
    · cases hk
  refine ⟨?_, ⟨by simp [inv.1], fun k r' g hk hg _ => ?_⟩, ⟨ok.ids.sublist (List.take_sublist _ _),
    ok.idx.sublist (List.take_sublist _ _), fun r' hr' => ?_⟩, rfl, hnr⟩
  · obtain ⟨g, hg⟩ : ∃ g, G[i]? = some g := ⟨G[i]'(inv.1 ▸ hilt), List.getElem?_eq_getElem _⟩
    exact ⟨g, hg, hR.trans (hR.book _ _ _ _) (hdef ▸ inv.2 i r g hi hg hc)⟩
  · obtain ⟨hki, hk', hle⟩ := hkeep k r' hk
    rw [List.getElem?_take, if_pos hki] at hg
    -- the kept journal from `r'.2` on, followed by the part already undone, is the old journal from `r'.2` on
    have hsplit : s.journal.drop r'.2 = (s.journal.take r.2).drop r'.2 ++ s.journal.drop r.2 := by
      rw [← List.drop_append_of_le_length (by rw [List.length_take]; exact Nat.le_min.mpr ⟨hle, Nat.le_trans hle hrj⟩), List.take_append_drop]
    have hold := inv.2 k r' g hk' hg hc
    rw [hsplit, undoAll_append, hdef] at hold
    exact hR.trans (undoAllG hR _ (hR.book _ _ _ _)) hold
  · obtain ⟨k, hk⟩ := List.getElem?_of_mem hr'
    obtain ⟨_, hk', hle⟩ := hkeep k r' hk
    refine ⟨by rw [hnr]; exact (ok.below r' (List.mem_of_getElem? hk')).1, ?_⟩
    show r'.2 ≤ (s.journal.take r.2).length
    rw [List.length_take]; exact Nat.le_min.mpr ⟨hle, Nat.le_trans hle hrj⟩

theorem Inv.op {f : ADB → ADB} {s : ADB} {G : List ADB} (hR : RelOk c R) (h : RevAt c R f s) (ok : RevsOk s) (inv : Inv c R s G) :
    Inv c R (f s) G ∧ RevsOk (f s) := by
  obtain ⟨E, hj, hE⟩ := h.inv
  refine ⟨⟨by rw [h.revs]; exact inv.1, ?_⟩, ⟨by rw [h.revs]; exact ok.ids, by rw [h.revs]; exact ok.idx, ?_⟩⟩
  · intro i r g hi hg hc
    rw [h.revs] at hi
    have hle : r.2 ≤ s.journal.length := (ok.below r (List.mem_of_getElem? hi)).2
    rw [hj, List.drop_append_of_le_length hle, undoAll_append]
    exact hR.trans (undoAllG hR _ (hE hc)) (inv.2 i r g hi hg (h.live hc))
  · intro r hr
    rw [h.revs] at hr
    refine ⟨by rw [h.nextRev]; exact (ok.below r hr).1, ?_⟩
    rw [hj, List.length_append]; exact Nat.le_trans (ok.below r hr).2 (Nat.le_add_right _ _)

theorem Inv.snapshot {s : ADB} {G : List ADB} (hR : RelOk c R) (hc : s.crashed = false) (ok : RevsOk s) (inv : Inv c R s G) :
    Inv c R (snapshot s).1 (G ++ [(snapshot s).1]) ∧ RevsOk (snapshot s).1 := by
  rw [snapshot_eq hc]
  refine ⟨⟨by simp [inv.1], fun i r g hi hg _ => ?_⟩, ok.snapshot⟩
  rcases getElem?_concat_cases inv.1 _ _ hi with ⟨hi', e⟩ | ⟨rfl, e⟩
  · rw [e] at hg
    exact hR.trans (undoAllG hR _ (hR.book s _ _ _)) (inv.2 i r g hi' hg hc)
  · rw [e] at hg
    cases hg
    simp only [List.drop_length]
    exact hR.refl _

section main
variable (P : ADB → Op → Prop)
variable (hP : ∀ s op, P s op → op ≠ Op.snapshot → (∀ id, op ≠ Op.revert id) → RevAt c R (fun x => step c x op) s)

include hP in
theorem step_sticky {s : ADB} {op : Op} (hp : P s op) (hs : s.crashed = true) : (step c s op).crashed = true := by
  by_cases h1 : op = Op.snapshot
  · subst h1; show (Model.Journal.snapshot s).1.crashed = true; rw [Model.Journal.snapshot, if_pos hs]; exact hs
  by_cases h2 : ∃ id, op = Op.revert id
  · obtain ⟨id, rfl⟩ := h2; show (revert c s id).crashed = true; rw [revert, if_pos hs]; exact hs
  · exact (hP s op hp h1 (fun id h => h2 ⟨id, h⟩)).sticky hs

include hP in
theorem run_sticky (ops : List Op) {s : ADB} (hr : RunOk P c s ops) (hs : s.crashed = true) : (run c s ops).crashed = true := by
  induction ops generalizing s with
  | nil => exact hs
  | cons op ops ih => exact ih hr.2 (step_sticky P hP hr.1 hs)

include hP in
theorem run_inv (hR : RelOk c R) {id : Nat} {g0 : ADB} (ops : List Op) {s : ADB} {G : List ADB} (hr : RunOk P c s ops)
    (inv : Inv c R s G) (ok : RevsOk s) (tr : Track id g0 s G) (hnc : (run c s ops).crashed = false) :
    ∃ G', Inv c R (run c s ops) G' ∧ RevsOk (run c s ops) ∧ Track id g0 (run c s ops) G' := by
  induction ops generalizing s G with
  | nil => exact ⟨G, inv, ok, tr⟩
  | cons op ops ih =>
    obtain ⟨hp, hr'⟩ := hr
    have hs' : (step c s op).crashed = false := by
      cases h : (step c s op).crashed with
      | false => rfl
      | true => rw [show run c s (op :: ops) = run c (step c s op) ops from rfl, run_sticky P hP ops hr' h] at hnc; cases hnc
    have hs : s.crashed = false := by
      cases h : s.crashed with
      | false => rfl
      | true => rw [step_sticky P hP hp h] at hs'; cases hs'
    by_cases h1 : op = Op.snapshot
    · subst h1
      obtain ⟨i1, o1⟩ := Inv.snapshot hR hs ok inv
      refine ih hr' i1 o1 ?_ hnc
      show Track id g0 (Model.Journal.snapshot s).1 _
      rw [snapshot_eq hs]
      exact tr.snapshot inv.1 _
    by_cases h2 : ∃ rid, op = Op.revert rid
    · obtain ⟨rid, rfl⟩ := h2
      obtain ⟨i, j, hi⟩ := revert_valid c hs hs'
      obtain ⟨_, i1, o1, hrev, hnr⟩ := Inv.revert hR hs ok inv hi hs'
      exact ih hr' i1 o1 (tr.take i hrev hnr) hnc
    · have hra := hP s op hp h1 (fun id h => h2 ⟨id, h⟩)
      obtain ⟨i1, o1⟩ := Inv.op hR hra ok inv
      exact ih hr' i1 o1 (tr.same hra.revs hra.nextRev) hnc

include hP in
theorem revert_rel_generic (hR : RelOk c R) {s : ADB} {G : List ADB} (ops : List Op) (hs : s.crashed = false) (ok : RevsOk s) (inv : Inv c R s G)
    (hr : RunOk P c (snapshot s).1 ops)
    (hnc : (revert c (run c (snapshot s).1 ops) (snapshot s).2).crashed = false) :
    R (revert c (run c (snapshot s).1 ops) (snapshot s).2) s := by
  obtain ⟨i0, o0⟩ := Inv.snapshot hR hs ok inv
  have tr0 : Track s.nextRev (snapshot s).1 (snapshot s).1 (G ++ [(snapshot s).1]) := by
    rw [snapshot_eq hs]
    refine ⟨Nat.lt_succ_self _, fun i r hi hid => ?_⟩
    rcases getElem?_concat_cases inv.1 _ _ hi with ⟨hi', _⟩ | ⟨_, e⟩
    · exact absurd hid (Nat.ne_of_lt (ok.below r (List.mem_of_getElem? hi')).1)
    · exact e
  rw [show (snapshot s).2 = s.nextRev by rw [snapshot_eq hs]] at hnc ⊢
  have hs1 : (run c (snapshot s).1 ops).crashed = false := by
    cases h : (run c (snapshot s).1 ops).crashed with
    | false => rfl
    | true => simp [revert, h] at hnc
  obtain ⟨G', i1, o1, tr1⟩ := run_inv P hP hR ops hr i0 o0 tr0 hs1
  obtain ⟨i, j, hi⟩ := revert_valid c hs1 hnc
  obtain ⟨⟨g, hg, hsim⟩, _⟩ := Inv.revert hR hs1 o1 i1 hi hnc
  rw [tr1.2 i (s.nextRev, j) hi rfl] at hg
  cases hg
  refine hR.trans hsim ?_
  rw [snapshot_eq hs]
  exact hR.book s _ _ _

end main

end Rangers.Proofs.JournalG
