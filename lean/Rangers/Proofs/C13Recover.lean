import Mathlib.Algebra.Module.Basic
import Rangers.Proofs.C13Lagrange
/-! `recoverSignature` on the shares `s(x)·h` of a sharing `s` of `g₀` (`Sharing`) returns `g₀·h`, for every
    point type whose operations are those of a `ZMod r`-module when read through a meaning map
    (`OpsSim`): the module itself with lawful operations, or executable points such as `Model.G1`. The
    points only contribute "the loop computes `(Σ δ_t · s(x_t))·h`" (`recoverWith_mul`, any ids, any
    modulus); that this scalar is `g₀` is `lagrangeCoeffs_interpolate`. The selection logic of
    `RecoverGroupSignature` only ever feeds the loop such shares. -/
namespace Rangers.Proofs.C13
open Rangers.Model.Shamir

variable {r : Nat} {G : Type} [AddCommGroup G] [Module (ZMod r) G]

/-- What is assumed of the point operations: they are the operations of a `ZMod r`-module
    (`bn256.G1`, `G2` with `Add`/`ScalarMult`; sampled by the harness, not proved: a hypothesis of `Props/C13.lean`.
    For the executable G1 of the driver `g1_sim` of `Proofs/C13G1Recover.lean` stands in its place). -/
structure LawfulOps (r : Nat) {G : Type} [AddCommGroup G] [Module (ZMod r) G] (ops : Ops G) : Prop where
  add_eq : ∀ a b, ops.add a b = a + b
  mul_eq : ∀ (g : G) (k : Nat), ops.mul g k = (k : ZMod r) • g

/-- The executable operations `ops` on a point type `M` are, on valid points and read through the
    meaning map `μ`, the operations of the `ZMod r`-module `G`; `μ` is injective on valid points. -/
structure OpsSim (r : Nat) {M G : Type} [AddCommGroup G] [Module (ZMod r) G]
    (ops : Ops M) (valid : M → Prop) (μ : M → G) : Prop where
  add : ∀ a b, valid a → valid b → valid (ops.add a b) ∧ μ (ops.add a b) = μ a + μ b
  mul : ∀ a k, valid a → valid (ops.mul a k) ∧ μ (ops.mul a k) = (k : ZMod r) • μ a
  inj : ∀ a b, valid a → valid b → μ a = μ b → a = b

theorem LawfulOps.sim {ops : Ops G} (h : LawfulOps r ops) : OpsSim r ops (fun _ => True) id :=
  ⟨fun a b _ _ => ⟨trivial, h.add_eq a b⟩, fun a k _ => ⟨trivial, h.mul_eq a k⟩, fun _ _ _ _ e => e⟩

omit [AddCommGroup G] [Module (ZMod r) G] in
theorem recoverWith_eq (ops : Ops G) (ids : List Nat) (sigs : List G) (hl : sigs.length = ids.length) :
    recoverWith ops r ids sigs = .ok (accumulate ops none (lagrangeCoeffs r ids) sigs) := by
  unfold recoverWith
  rw [hl, if_neg (Nat.lt_irrefl _), List.take_length]

/-- All that the selection logic and the sign generator use of `recoverSignature`, for any point type. -/
def RecoversTo {M : Type} (ops : Ops M) (r k : Nat) (sig : Nat → M) (t : M) : Prop :=
  ∀ ids : List Nat, ids.length = k → IdsDistinct r ids →
    recoverWith ops r ids (ids.map sig) = .ok (some t)

section sim
variable {M : Type} {ops : Ops M} {valid : M → Prop} {μ : M → G} (hsim : OpsSim r ops valid μ)
include hsim

theorem accumulate_some (ds : List Nat) : ∀ (ss : List M) (a : M), valid a → (∀ s ∈ ss, valid s) →
    ∃ x, accumulate ops (some a) ds ss = some x ∧ valid x ∧
      μ x = μ a + (List.zipWith (fun (d : Nat) (s : M) => (d : ZMod r) • μ s) ds ss).sum := by
  induction ds with
  | nil => exact fun ss a ha _ => ⟨a, rfl, ha, by rw [List.zipWith_nil_left, List.sum_nil, add_zero]⟩
  | cons d ds ih =>
    intro ss a ha hss
    cases ss with
    | nil => exact ⟨a, rfl, ha, by rw [List.zipWith_nil_right, List.sum_nil, add_zero]⟩
    | cons s ss =>
      obtain ⟨hv, hm⟩ := hsim.mul s d (hss s List.mem_cons_self)
      obtain ⟨hv2, hm2⟩ := hsim.add a _ ha hv
      obtain ⟨x, hx, hxv, hxm⟩ := ih ss _ hv2 fun t ht => hss t (List.mem_cons_of_mem _ ht)
      exact ⟨x, hx, hxv, by rw [hxm, hm2, hm, List.zipWith_cons_cons, List.sum_cons, add_assoc]⟩

theorem accumulate_none (ds : List Nat) (ss : List M) (hd : ds ≠ []) (hs : ss ≠ [])
    (hss : ∀ s ∈ ss, valid s) :
    ∃ x, accumulate ops none ds ss = some x ∧ valid x ∧
      μ x = (List.zipWith (fun (d : Nat) (s : M) => (d : ZMod r) • μ s) ds ss).sum := by
  obtain ⟨d, ds, rfl⟩ := List.exists_cons_of_ne_nil hd
  obtain ⟨s, ss, rfl⟩ := List.exists_cons_of_ne_nil hs
  obtain ⟨hv, hm⟩ := hsim.mul s d (hss s List.mem_cons_self)
  obtain ⟨x, hx, hxv, hxm⟩ := accumulate_some hsim ds ss _ hv fun t ht => hss t (List.mem_cons_of_mem _ ht)
  exact ⟨x, hx, hxv, by rw [hxm, hm, List.zipWith_cons_cons, List.sum_cons]⟩

theorem recoverWith_mul (ids : List Nat) (hne : ids ≠ []) (s : Nat → Nat) (h : M) (hh : valid h) (g : Nat)
    (hg : (g : ZMod r) =
      (List.zipWith (fun (d x : Nat) => (d : ZMod r) * (s x : ZMod r)) (lagrangeCoeffs r ids) ids).sum) :
    recoverWith ops r ids (ids.map (fun x => ops.mul h (s x))) = .ok (some (ops.mul h g)) := by
  have hcl := lagrangeCoeffs_length (r := r) ids
  obtain ⟨x, hx, hxv, hxm⟩ := accumulate_none hsim (lagrangeCoeffs r ids) (ids.map fun x => ops.mul h (s x))
    (fun h0 => hne (List.length_eq_zero_iff.1 (by rw [← hcl, h0]; rfl)))
    (fun h0 => hne (List.map_eq_nil_iff.1 h0))
    (fun t ht => by obtain ⟨x, _, rfl⟩ := List.mem_map.1 ht; exact (hsim.mul h _ hh).1)
  obtain ⟨hgv, hgm⟩ := hsim.mul h g hh
  rw [recoverWith_eq ops ids _ (List.length_map _), hx]
  -- the loop's result and `g·h` are valid points with the same meaning
  congr 2
  refine hsim.inj x _ hxv hgv ?_
  have hterm : (fun (d x : Nat) => (d : ZMod r) • μ (ops.mul h (s x))) =
      fun (d x : Nat) => ((d : ZMod r) * (s x : ZMod r)) • μ h := by
    funext d x; rw [(hsim.mul h _ hh).2, mul_smul]
  rw [hxm, hgm, List.zipWith_map_right, hterm, hg, List.sum_smul, List.map_zipWith]

theorem recoverWith_poly [Fact r.Prime] (ids : List Nat) (hne : ids ≠ []) (hd : IdsDistinct r ids)
    {s : Nat → Nat} {g0 : Nat} (hsh : Sharing r ids.length s g0) (h : M) (hh : valid h) :
    recoverWith ops r ids (ids.map (fun x => ops.mul h (s x))) = .ok (some (ops.mul h g0)) :=
  recoverWith_mul hsim ids hne s h hh g0 (lagrangeCoeffs_interpolate ids hd hsh).symm

theorem recoversTo_poly [Fact r.Prime] (k : Nat) (hk0 : 0 < k)
    {s : Nat → Nat} {g0 : Nat} (hsh : Sharing r k s g0) (h : M) (hh : valid h) :
    RecoversTo ops r k (fun x => ops.mul h (s x)) (ops.mul h g0) := fun ids hlen hids =>
  recoverWith_poly hsim ids (List.ne_nil_of_length_pos (hlen ▸ hk0)) hids (hlen ▸ hsh) h hh

end sim

end Rangers.Proofs.C13
