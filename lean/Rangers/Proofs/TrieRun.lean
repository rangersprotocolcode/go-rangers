import Rangers.Proofs.TrieInsert
import Rangers.Proofs.TrieDelete
import Rangers.Proofs.TrieCanon
/- Histories: the trie after any op sequence represents the map the history defines, and is its only minimal-form representation.
   `setAt` is the map update of one step of a history. -/
namespace Rangers.Trie
open Rangers

/-- `m` with `k` mapped to `x`: what a write (`x = some v`) and a delete or empty write (`x = none`) do to the
    map a history defines (`specStep`) -/
def setAt (m : Bytes → Option Bytes) (k : Bytes) (x : Option Bytes) : Bytes → Option Bytes :=
  fun k' => if k' = k then x else m k'

theorem setAt_comm (m : Bytes → Option Bytes) {k₁ k₂ : Bytes} (x₁ x₂ : Option Bytes) (hne : k₁ ≠ k₂) :
    setAt (setAt m k₁ x₁) k₂ x₂ = setAt (setAt m k₂ x₂) k₁ x₁ := by
  funext k
  unfold setAt
  by_cases h1 : k = k₁
  · rw [if_neg (h1 ▸ hne), if_pos h1, if_pos h1]
  · rw [if_neg h1, if_neg h1]

theorem setAt_setAt (m : Bytes → Option Bytes) (k : Bytes) (x₁ x₂ : Option Bytes) :
    setAt (setAt m k x₁) k x₂ = setAt m k x₂ := by
  funext k'
  unfold setAt
  by_cases h : k' = k
  · rw [if_pos h, if_pos h]
  · rw [if_neg h, if_neg h, if_neg h]

theorem setAt_self (m : Bytes → Option Bytes) (k : Bytes) : setAt m k (m k) = m := by
  funext k'
  unfold setAt
  by_cases h : k' = k
  · rw [if_pos h, h]
  · rw [if_neg h]

/-- the trie `t` holds exactly the map `m`: it is empty or in minimal form, the path of a byte key leads to the value `m`
    gives it, and no other path leads to a value (`only`: nothing sits under a path that is not `keybytesToHex` of a key) -/
structure Represents (t : Node) (m : Bytes → Option Bytes) : Prop where
  wf : WFRoot t
  agree : ∀ k, content t (keybytesToHex k) = m k
  only : ∀ κ, (∀ k, κ ≠ keybytesToHex k) → content t κ = none

theorem Represents.content_eq_some {t : Node} {m : Bytes → Option Bytes} (h : Represents t m) {κ : Key} {v : Bytes} :
    content t κ = some v ↔ ∃ k, κ = keybytesToHex k ∧ m k = some v := by
  constructor
  · intro hc
    by_cases hk : ∃ k, κ = keybytesToHex k
    · obtain ⟨k, rfl⟩ := hk
      exact ⟨k, rfl, by rw [← h.agree]; exact hc⟩
    · rw [h.only κ (fun k hk' => hk ⟨k, hk'⟩)] at hc; cases hc
  · rintro ⟨k, rfl, hm⟩
    rw [h.agree]; exact hm

theorem Represents.mem_iter {t : Node} {m : Bytes → Option Bytes} (h : Represents t m) {e : Key × Bytes} :
    e ∈ iter t ↔ ∃ k, e.1 = keybytesToHex k ∧ m k = some e.2 :=
  content_eq_some_iff_mem.symm.trans h.content_eq_some

theorem represents_empty : Represents .nil (fun _ => none) :=
  ⟨Or.inl rfl, fun _ => by simp, fun _ _ => by simp⟩

theorem Represents.upd {t t' : Node} {m : Bytes → Option Bytes} (h : Represents t m) (k : Bytes) {x : Option Bytes}
    (hwf : WFRoot t') (hu : Upd t' t (keybytesToHex k) x) :
    Represents t' (setAt m k x) := by
  refine ⟨hwf, fun k' => ?_, fun κ hκ => ?_⟩
  · rw [hu, h.agree, setAt]
    by_cases hkk : k' = k
    · rw [if_pos hkk, if_pos (congrArg keybytesToHex hkk)]
    · rw [if_neg hkk, if_neg (fun h0 => hkk (keybytesToHex_injective h0))]
  · rw [hu, if_neg (hκ k), h.only κ hκ]

theorem represents_delete {t : Node} {m : Bytes → Option Bytes} (h : Represents t m) (k : Bytes) :
    Represents (delete t (keybytesToHex k)).2 (setAt m k none) :=
  have s := delete_spec (walk_of_wf t _ h.wf (validKey_keybytesToHex k))
  h.upd k s.2 s.1

theorem represents_applyOp {t : Node} {m : Bytes → Option Bytes} (h : Represents t m) (op : Op) :
    Represents (applyOp t op) (specStep m op) := by
  cases op with
  | upd k v =>
    have hk := validKey_keybytesToHex k
    show Represents (update t k v) (setAt m k (if v = [] then none else some v))
    unfold update
    by_cases hv : v = []
    · subst hv; exact represents_delete h k
    · have : (v.length != 0) = true := by
        simp only [bne_iff_ne, ne_eq, List.length_eq_zero_iff]; exact hv
      rw [if_pos this, if_neg hv]
      have s := insert_spec v (walk_of_wf t _ h.wf hk)
      exact h.upd k (Or.inr (s.2 hv hk)) s.1
  | del k => exact represents_delete h k
  | _ => exact h

theorem represents_foldl (ops : List Op) {t : Node} {m : Bytes → Option Bytes} (h : Represents t m) :
    Represents (ops.foldl applyOp t) (ops.foldl specStep m) := by
  induction ops generalizing t m with
  | nil => exact h
  | cons op ops ih => exact ih (represents_applyOp h op)

theorem represents_run (ops : List Op) : Represents (run ops) (finalMap ops) :=
  represents_foldl ops represents_empty

theorem represents_unique {a b : Node} {m : Bytes → Option Bytes} (ha : Represents a m) (hb : Represents b m) : a = b :=
  wf_unique_iter a b ha.wf hb.wf
    (sorted_eq_of_mem_iff (sortedKeys_iter a) (sortedKeys_iter b) (fun e => by rw [ha.mem_iter, hb.mem_iter]))

end Rangers.Trie
