import Mathlib.Algebra.Module.ZMod
import Rangers.Proofs.C13G1Law
import Rangers.Proofs.C13Recover
import Rangers.Proofs.C13Pratt
/-! The executable `Model.G1` operations the driver runs, at the parameters of the code, simulate the
    `ZMod r`-module `E(F_p)` (`g1_sim`), so the recovery theorems of `Proofs/C13Recover.lean` and
    `Proofs/C13Dkg.lean` apply to them. Hypotheses left: `p` prime, and every curve point is killed by `r`. -/
namespace Rangers.Proofs.C13G1
open Polynomial Rangers Rangers.Model Rangers.Model.Shamir Rangers.Model.Bls14 Rangers.Proofs.Bls14
open Rangers.Proofs.C13 Rangers.Generated

/-- The point operations of the driver (`Drive.C13.ops`). -/
def g1ops : Ops G1.Point := ⟨G1.add bnCurve, G1.mul bnCurve⟩

/-- For the `[Fact r.Prime]` of the recovery theorems at `r = Bn256.order` in `Props/C13G1.lean`, which does not import
    `Props/C13Prime.lean` and its instance of the same fact. -/
instance orderPrimeFact : Fact (Nat.Prime Bn256.order) :=
  ⟨Rangers.Proofs.C13Pratt.bn256_order_prime⟩

variable [hp : Fact (Nat.Prime P)]

/-- "G1 has order r": the group of the curve `y² = x³ + 3` over `F_p` is killed by `r = bn256.Order`
    (equivalently `#E(F_p) = r`, `r` being prime). Not proved (point counting); sampled by the
    searcher (`r·P = O` on random points). -/
def CurveKilledByOrder : Prop := ∀ a : W.Point, Bn256.order • a = 0

/-- `W.Point` has no `Module (ZMod r)` structure of its own: the one meant is made from the hypothesis
    (`AddCommGroup.zmodModule`: a group killed by `r` is a `ZMod r`-module), hence the explicit instance argument. -/
theorem g1_sim (hexp : CurveKilledByOrder) :
    @OpsSim Bn256.order G1.Point W.Point _ (AddCommGroup.zmodModule hexp) g1ops Valid1 μ := by
  let := AddCommGroup.zmodModule hexp
  refine ⟨fun a b ha hb => g1_add_law a b ha hb, fun a k ha => ?_, μ_inj⟩
  obtain ⟨hv, hm⟩ := g1_mul_law a ha k
  exact ⟨hv, by rw [show g1ops.mul a k = G1.mul bnCurve a k from rfl, hm, Nat.cast_smul_eq_nsmul]⟩

end Rangers.Proofs.C13G1
