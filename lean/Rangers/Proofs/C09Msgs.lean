import Rangers.Proofs.C09Fields
/-! Per-message wire round trips for C09 (`decodeX (encodeX p) = some p`): each message is a field list in tag
order (`C09Fields`), so every getter reads its field back. -/
namespace Rangers.Wire
open Rangers

def OptI32OK (o : Option Nat) : Prop := ∀ v, o = some v → v < 2 ^ 32

theorem RawsWF_append (a b : List Raw) : RawsWF (a ++ b) ↔ RawsWF a ∧ RawsWF b := by
  unfold RawsWF
  constructor
  · intro h
    exact ⟨fun r hr => h r (by simp [hr]), fun r hr => h r (by simp [hr])⟩
  · rintro ⟨ha, hb⟩ r hr
    rcases List.mem_append.mp hr with h | h
    · exact ha r h
    · exact hb r h

theorem RawWF_len (n : Nat) (b : Bytes) (h1 : 1 ≤ n) (h2 : n < 2 ^ 61) (h3 : b.length < 2 ^ 64) :
    RawWF (.len n b) := ⟨h1, h2, h3⟩

theorem RawsWF_repLenR (n : Nat) (l : List Bytes) (h1 : 1 ≤ n) (h2 : n < 2 ^ 61)
    (h : ∀ b ∈ l, b.length < 2 ^ 64) : RawsWF (repLenR n l) :=
  forall_mem_repLenR n l (fun b hb => ⟨h1, h2, h b hb⟩)

theorem map_trunc_sext (o : Option Nat) (h : OptI32OK o) : (o.map sext32).map trunc32 = o := by
  cases o with
  | none => rfl
  | some v => simp [trunc_sext v (h v rfl)]

theorem mapM'_map_map {α β γ : Type} (f : α → Option β) (g : γ → α) (k : γ → β) (l : List γ)
    (h : ∀ c ∈ l, f (g c) = some (k c)) : mapM' f (l.map g) = some (l.map k) := by
  induction l with
  | nil => rfl
  | cons c l ih =>
    simp only [List.map_cons, mapM', h c List.mem_cons_self, ih (fun x hx => h x (List.mem_cons_of_mem _ hx))]

theorem mapM'_map {α β : Type} (f : α → Option β) (g : β → α) (l : List β)
    (h : ∀ b ∈ l, f (g b) = some b) : mapM' f (l.map g) = some l :=
  (mapM'_map_map f g id l h).trans (congrArg some (List.map_id l))

theorem flat_single {α : Type} (l : List α) : flat [l] = l := by simp [flat]

theorem mergedChunks_single (req : List Raw → Bool) (rs : List Raw) (hwf : RawsWF rs) (hreq : req rs = true) :
    mergedChunks req [encRaws rs] = some rs := by
  simp only [mergedChunks, mapM', parseRaw_encRaws rs hwf, hreq, if_true, flat_single]

def fieldsOfTx (p : PbTx) : List Fld :=
  [.optLen 1 p.data, .optVint 2 p.nonce, .optLen 3 p.source, .optLen 4 p.target, .optVint 5 (p.type.map sext32),
   .optLen 6 p.hash, .optLen 7 p.extraData, .optVint 8 (p.extraDataType.map sext32), .optLen 9 p.sign,
   .optLen 10 p.time, .optVint 11 p.requestId, .optLen 12 p.socketRequestId, .optLen 13 p.subTransactions,
   .optLen 14 p.subHash, .optLen 15 p.chainId]

theorem txOfRaws_rawsOfTx (p : PbTx) (h1 : OptI32OK p.type) (h2 : OptI32OK p.extraDataType) :
    txOfRaws (rawsOfTx p) = p := by
  have h : ReadAll (rawsOfTx p) (fieldsOfTx p) := fields_read (fieldsOfTx p) rfl
  simp only [fieldsOfTx, ReadAll, Fld.ReadBy] at h
  -- the two int32 fields come back through `trunc32 ∘ sext32`
  simp only [txOfRaws, h, map_trunc_sext _ h1, map_trunc_sext _ h2]

/-- What `encTx` emits fits the 64-bit framing, the int32 fields are int32 and the required `Type` is present. -/
def PbTxWF (p : PbTx) : Prop :=
  RawsWF (rawsOfTx p) ∧ OptI32OK p.type ∧ OptI32OK p.extraDataType ∧ p.type.isSome

theorem decTx_encTx (p : PbTx) (h : PbTxWF p) : decTx (encTx p) = some p := by
  obtain ⟨hwf, h1, h2, ht⟩ := h
  have e := txOfRaws_rawsOfTx p h1 h2
  -- the required `Type` is present among the raw fields because it came back
  have hreq : ∀ rs, txOfRaws rs = p → txReq rs = true :=
    fun rs hrs => Option.isSome_map.symm.trans ((congrArg (·.type.isSome) hrs).trans ht)
  simp only [decTx, encTx, parseRaw_encRaws _ hwf, hreq _ e, if_true, e]

theorem decTxSlice_encTxSlice (ps : List PbTx)
    (hlen : ∀ p ∈ ps, (encTx p).length < 2 ^ 64)
    (h : ∀ p ∈ ps, PbTxWF p) : decTxSlice (encTxSlice ps) = some ps := by
  have hwf : RawsWF (repLenR 1 (ps.map encTx)) :=
    RawsWF_repLenR 1 _ (by decide) (by decide) (fun b hb => by
      obtain ⟨p, hp, rfl⟩ := List.mem_map.mp hb
      exact hlen p hp)
  simp only [decTxSlice, encTxSlice, parseRaw_encRaws _ hwf, allLen_repLenR, if_true]
  exact mapM'_map decTx encTx ps (fun p hp => decTx_encTx p (h p hp))

def fieldsOfTxHash (t : PbTxHash) : List Fld := [.optLen 1 t.hash, .optLen 2 t.subHash]

theorem txHashOfRaws_raws (t : PbTxHash) : txHashOfRaws (rawsOfTxHash t) = t := by
  have h : ReadAll (rawsOfTxHash t) (fieldsOfTxHash t) := fields_read (fieldsOfTxHash t) rfl
  simp only [fieldsOfTxHash, ReadAll, Fld.ReadBy] at h
  simp only [txHashOfRaws, h]

theorem decTxHash_enc (t : PbTxHash) (h : RawsWF (rawsOfTxHash t)) :
    decTxHash (encRaws (rawsOfTxHash t)) = some t := by
  simp only [decTxHash, parseRaw_encRaws _ h, txHashOfRaws_raws]

/-- Everything `encHeader` emits, at every nesting level, fits the 64-bit framing. -/
def PbHeaderWF (p : PbHeader) : Prop :=
  RawsWF (rawsOfHeader p) ∧ (∀ t ∈ p.transactions, RawsWF (rawsOfTxHash t)) ∧
  (∀ hs, p.evictedTxs = some hs → RawsWF (repLenR 1 hs))

def fieldsOfHeader (p : PbHeader) : List Fld :=
  [.optLen 1 p.hash, .optVint 2 p.height, .optLen 3 p.preHash, .optLen 4 p.preTime, .optLen 5 p.proveValue,
   .optVint 6 p.totalQN, .optLen 7 p.curTime, .optLen 8 p.castor, .optLen 9 p.groupId, .optLen 10 p.signature,
   .optVint 11 p.nonce, .repLen 12 (p.transactions.map (fun t => encRaws (rawsOfTxHash t))), .optLen 13 p.txTree,
   .optLen 14 p.receiptTree, .optLen 15 p.stateTree, .optLen 16 p.extraData, .optLen 17 p.random,
   .optLen 18 p.proveRoot, .optLen 19 (p.evictedTxs.map (fun hs => encRaws (repLenR 1 hs))),
   .optLen 20 p.requestIds]

theorem headerOfRaws_raws (p : PbHeader) (h : PbHeaderWF p) : headerOfRaws (rawsOfHeader p) = some p := by
  obtain ⟨_, htx, hev⟩ := h
  have g : ReadAll (rawsOfHeader p) (fieldsOfHeader p) := fields_read (fieldsOfHeader p) rfl
  simp only [fieldsOfHeader, ReadAll, Fld.ReadBy] at g
  have hm : mapM' decTxHash (p.transactions.map (fun t => encRaws (rawsOfTxHash t))) = some p.transactions :=
    mapM'_map decTxHash _ p.transactions (fun t ht => decTxHash_enc t (htx t ht))
  simp only [headerOfRaws, g, hm]
  -- `EvictedTxs` is decoded from its chunk
  cases hev' : p.evictedTxs with
  | none => simp only [Option.map_none, Option.toList_none]; rw [← hev']
  | some hs =>
    simp only [Option.map_some, Option.toList_some, mergedChunks_single (fun _ => true) _ (hev hs hev') rfl,
      hashesOfRaws, allLen_repLenR, if_true]
    rw [← hev']

theorem decHeader_encHeader (p : PbHeader) (h : PbHeaderWF p) : decHeader (encHeader p) = some p := by
  simp only [decHeader, encHeader, parseRaw_encRaws _ h.1, headerOfRaws_raws p h]

def fieldsOfGroupHeader (g : PbGroupHeader) : List Fld :=
  [.optLen 1 g.hash, .optLen 2 g.parent, .optLen 3 g.preGroup, .optLen 4 g.createBlockHash, .optLen 5 g.beginTime,
   .optLen 6 g.memberRoot, .optVint 7 g.createHeight, .optLen 8 g.extends_]

theorem groupHeaderOfRaws_raws (g : PbGroupHeader) : groupHeaderOfRaws (rawsOfGroupHeader g) = g := by
  have h : ReadAll (rawsOfGroupHeader g) (fieldsOfGroupHeader g) := fields_read (fieldsOfGroupHeader g) rfl
  simp only [fieldsOfGroupHeader, ReadAll, Fld.ReadBy] at h
  simp only [groupHeaderOfRaws, h]

theorem groupHeaderReq_of (g : PbGroupHeader) (h1 : g.memberRoot.isSome) (h2 : g.createHeight.isSome)
    (rs : List Raw) (e : groupHeaderOfRaws rs = g) : groupHeaderReq rs = true :=
  Bool.and_eq_true_iff.mpr ⟨(congrArg (·.memberRoot.isSome) e).trans h1, (congrArg (·.createHeight.isSome) e).trans h2⟩

def PbGroupWF (p : PbGroup) : Prop :=
  RawsWF (rawsOfGroup p) ∧
  ∃ g, p.header = some g ∧ RawsWF (rawsOfGroupHeader g) ∧ g.memberRoot.isSome ∧ g.createHeight.isSome

def fieldsOfGroup (p : PbGroup) : List Fld :=
  [.optLen 1 (p.header.map (fun h => encRaws (rawsOfGroupHeader h))), .optLen 2 p.id, .optLen 3 p.pubKey,
   .optLen 4 p.signature, .repLen 5 p.members, .optVint 6 p.groupHeight]

theorem decGroup_encGroup (p : PbGroup) (h : PbGroupWF p) : decGroup (encGroup p) = some p := by
  obtain ⟨hwf, g, hg, hgwf, hmr, hch⟩ := h
  have l : ReadAll (rawsOfGroup p) (fieldsOfGroup p) := fields_read (fieldsOfGroup p) rfl
  simp only [fieldsOfGroup, ReadAll, Fld.ReadBy, hg, Option.map_some, Option.toList_some] at l
  simp only [decGroup, encGroup, parseRaw_encRaws _ hwf, groupReq, hasLen, l, Option.isSome_some, if_true,
    mergedChunks_single _ _ hgwf (groupHeaderReq_of g hmr hch _ (groupHeaderOfRaws_raws g)), groupHeaderOfRaws_raws]
  rw [← hg]

def PbBlockWF (p : PbBlock) : Prop :=
  RawsWF (rawsOfBlock p) ∧ (∃ h, p.header = some h ∧ PbHeaderWF h) ∧
  ∀ t ∈ p.transactions, RawsWF (rawsOfTx t) ∧ OptI32OK t.type ∧ OptI32OK t.extraDataType ∧ t.type.isSome

def fieldsOfBlock (p : PbBlock) : List Fld :=
  [.optLen 1 (p.header.map encHeader), .repLen 2 (p.transactions.map encTx)]

theorem decBlock_encBlock (p : PbBlock) (h : PbBlockWF p) : decBlock (encBlock p) = some p := by
  obtain ⟨hwf, ⟨ph, hph, hphwf⟩, htx⟩ := h
  have l : ReadAll (rawsOfBlock p) (fieldsOfBlock p) := fields_read (fieldsOfBlock p) rfl
  simp only [fieldsOfBlock, ReadAll, Fld.ReadBy, hph, Option.map_some, Option.toList_some] at l
  have ht : mapM' decTx (p.transactions.map encTx) = some p.transactions :=
    mapM'_map decTx encTx _ (fun t ht => decTx_encTx t (htx t ht))
  simp only [decBlock, encBlock, parseRaw_encRaws _ hwf, blockReq, hasLen, l, Option.isSome_some, if_true, encHeader,
    mergedChunks_single (fun _ => true) _ hphwf.1 rfl, headerOfRaws_raws ph hphwf, ht]
  rw [← hph]

end Rangers.Wire
