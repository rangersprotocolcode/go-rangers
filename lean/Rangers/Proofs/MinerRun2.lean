import Rangers.Proofs.MinerRun
/-! C20, one accepted transaction: what it moves. All accepted transactions have one shape — the live registry changes at
    the keys of one `(registry, id)`, a balance is debited or the refund context grows — and `Moved` says so once, for
    any tally of the balances and relative to the state before the fee. The step theorems of Props/C20 read their sums
    and stakes off it; with the invariant in hand (`Moved.inv`) it carries `Inv` and `wealth`. -/
namespace Rangers.Miner

/-- `st'` is `st` after an accepted transaction on the target `(d, i)`.
    `keys`: the live registry changed at the slots of `(d, i)` at most.
    `stake`: the target's stake reads `s'` (when the stake key of `i` is none of its other keys).
    `kept`: if afterwards no record of `i` is found in `d`, then `s' = 0`, so that no stake is left behind without a record.
    This needs distinct keys and a reason to find a record: one was there before, or (for the record an application
    writes) encoded records decode.
    `tally`: `paid` wei left the balances of (some of) the addresses `ps`, in every tally that sees them.
    `pending`, `escrow`: the refund context became `P`, the escrow is as it was. -/
structure Moved (cfg : Cfg) (st st' : State) (d : DbId) (i : Bytes) (ps : List Bytes) (paid s' : Nat)
    (P : List (Nat × List (Bytes × Nat))) : Prop where
  keys : OnlyKeys cfg st st' d i
  stake : Untouched cfg i i → stakeAt cfg st' d i = s'
  kept : (keysOf cfg i).Nodup → CodecSome cfg ∨ getMinerById cfg st d i ≠ none → getMinerById cfg st' d i = none → s' = 0
  tally : ∀ μ sees, Tally μ sees → (∀ a ∈ ps, sees a) → μ st' + paid = μ st
  pending : st'.pending = P
  escrow : st'.escrow = st.escrow

section
variable {cfg : Cfg} {st st' : State} {d : DbId} {i : Bytes} {ps : List Bytes} {paid s' : Nat}
  {P : List (Nat × List (Bytes × Nat))}

/-- Name `μ` at a call whose goal mentions `runTx`: left to unification, `?μ st'` unfolds the transaction. -/
theorem Moved.conserves (h : Moved cfg st st' d i ps paid s' P) (hu : Untouched cfg i i) {μ : State → Nat}
    {sees : Bytes → Prop} (hμ : Tally μ sees) (hps : ∀ a ∈ ps, sees a)
    (hsum : wei * s' + pendingSum P = wei * stakeAt cfg st d i + pendingSum st.pending + paid) :
    μ st' + wei * stakeAt cfg st' d i + pendingSum st'.pending = μ st + wei * stakeAt cfg st d i + pendingSum st.pending := by
  rw [h.stake hu, h.pending, ← h.tally μ sees hμ hps, Nat.add_assoc, hsum, Nat.add_assoc (μ st'), Nat.add_assoc (μ st'),
    Nat.add_comm _ paid, Nat.add_assoc paid]

theorem Moved.after_fee {st1 : State} {src : Bytes} (h : Moved cfg st1 st' d i ps paid s' P)
    (hfee : processFee st src = some st1) : Moved cfg st st' d i (feePayer src :: feeAccount :: ps) paid s' P :=
  have hl := processFee_live st st1 src hfee
  ⟨fun d q hq => (h.keys d q hq).trans (by rw [hl.1]), h.stake, getMinerById_congr cfg st st1 hl.1 d i ▸ h.kept,
    fun μ sees hμ hps => (h.tally μ sees hμ (fun a ha => hps a (.tail _ (.tail _ ha)))).trans
      (hμ.processFee (hps _ (.head _)) (hps _ (.tail _ (.head _))) hfee),
    h.pending, h.escrow.trans hl.2.2.2.1⟩

/-- `hsum`: new stake and context = old stake and context + what was paid. `Clean` at the target is `kept`; elsewhere
    nothing changed (`clean_step`), and the total stake moved at the target only (`stakeTotal_point`). -/
theorem Moved.inv (h : Moved cfg st st' d i ps paid s' P) (U : List Bytes) (hs : SepU cfg U)
    (hn : U.Nodup) (hrec : CodecSome cfg ∨ getMinerById cfg st d i ≠ none) (hinv : Inv cfg U st) (hi : i ∈ U) (hrk : RecKeyed cfg st')
    (hpn : (P.map Prod.fst).Nodup) (h20 : ∀ q ∈ P, ∀ e ∈ q.2, e.1.length = 20)
    (hsum : wei * s' + pendingSum P = wei * stakeAt cfg st d i + pendingSum st.pending + paid) :
    Inv cfg U st' ∧ wealth cfg U st' = wealth cfg U st := by
  have hu := sep_untouched cfg U hs i i hi hi
  refine ⟨⟨hrk, clean_step cfg U st st' d i hs hi hinv.clean h.keys
    (fun hnone => (h.stake hu).trans (h.kept (hs.1 i hi) hrec hnone)), h.pending ▸ hpn,
    fun e he => hinv.a20.1 e (h.escrow ▸ he), h.pending ▸ h20⟩, ?_⟩
  have hc := h.conserves hu (tally_balTotal fun _ => True) (fun _ _ => trivial) hsum
  have hpt := congrArg (wei * ·) (stakeTotal_point cfg U st st' d i hs hn hi h.keys)
  simp only [Nat.mul_add] at hpt
  unfold wealth
  rw [escTotal_of_escrow st st' h.escrow]
  generalize balTotal st' = b' at hc ⊢
  generalize wei * stakeTotal cfg st' U = t' at hpt ⊢
  omega

end

theorem updateMiner_none_present (cfg : Cfg) (st s0 : State) (m : Miner) (d : DbId) (hk : (keysOf cfg m.id).Nodup)
    (hl : s0.live = st.live) (hp : getMinerById cfg st d m.id ≠ none) :
    getMinerById cfg (updateMiner cfg s0 m none) d m.id ≠ none :=
  present_of_rec cfg st _ d m.id (by rw [updateMiner_none_rec cfg s0 m hk d, hl]) hp

/-- `s0`: a copy of `st` from whose balances `paid` wei were taken; `hkept`: `UpdateMiner` writes a record, or one was
    there. Covers application, added stake, change of account and the operator-node transaction. -/
theorem updateMiner_moved (cfg : Cfg) (st s0 : State) (m : Miner) (oi : Option Info) (ps : List Bytes) (paid : Nat)
    (hl : s0.live = st.live) (hp : s0.pending = st.pending) (he : s0.escrow = st.escrow)
    (hb : ∀ μ sees, Tally μ sees → (∀ a ∈ ps, sees a) → μ s0 + paid = μ st)
    (hkept : (keysOf cfg m.id).Nodup → CodecSome cfg ∨ getMinerById cfg st (dbOfType m.typ) m.id ≠ none →
      getMinerById cfg (updateMiner cfg s0 m oi) (dbOfType m.typ) m.id ≠ none) :
    Moved cfg st (updateMiner cfg s0 m oi) (dbOfType m.typ) m.id ps paid (m.stake % 2 ^ 64) st.pending :=
  have hw := updateMiner_writes cfg s0 m oi
  have hf := hw.fields
  ⟨hw.onlyKeys hl, stakeAt_updateMiner_self cfg s0 m oi,
    fun hk hrec hnone => absurd hnone (hkept hk hrec),
    fun μ sees hμ hps => (congrArg (· + paid) (hμ.of_bal _ _ hf.1)).trans (hb μ sees hμ hps), hf.2.1.trans hp,
    hf.2.2.1.trans he⟩

theorem refundCore_kept (cfg : Cfg) (st : State) (src : Bytes) (m : Miner) (money : Nat) (hk : (keysOf cfg m.id).Nodup)
    (hpres : getMinerById cfg st (dbOfType m.typ) m.id ≠ none) :
    getMinerById cfg (refundCore cfg st m.id src m money) (dbOfType m.typ) m.id = none →
      stakeAt cfg (refundCore cfg st m.id src m money) (dbOfType m.typ) m.id = 0 := by
  unfold refundCore
  split
  · exact removeMiner_target cfg st m.id src m.typ (m.stake - money) hk hpres
  · exact fun hnn => absurd hnn (updateMiner_none_present cfg st st { m with stake := m.stake - money } _ hk rfl hpres)

theorem refundApply_moved (cfg : Cfg) (st : State) (src : Bytes) (m : Miner) (money : Nat)
    (hpres : getMinerById cfg st (dbOfType m.typ) m.id ≠ none) :
    Moved cfg st (refundApply cfg st m.id src m money) (dbOfType m.typ) m.id [] 0 ((m.stake - money) % 2 ^ 64)
      (pendingAdd st.pending (st.height + refundDelay) m.account (money * wei)) := by
  obtain ⟨hbal, hpend, hesc, hheight, _⟩ := (refundCore_writes cfg st src m money).fields
  have hkeys := (refundCore_writes cfg st src m money).onlyKeys rfl
  have hstake := stakeAt_refundCore_self cfg st src m money
  have hkept := fun hk => refundCore_kept cfg st src m money hk hpres
  show Moved cfg st { refundCore cfg st m.id src m money with
    pending := pendingAdd (refundCore cfg st m.id src m money).pending ((refundCore cfg st m.id src m money).height + refundDelay)
      m.account (money * wei) } _ _ _ _ _ _
  -- the registry part as a variable: nothing below depends on what `GetRefundStake` wrote
  generalize refundCore cfg st m.id src m money = s1 at hbal hpend hesc hheight hkeys hstake hkept
  exact ⟨hkeys, hstake, fun hk _ hnone => hstake (untouched_self cfg _ hk) ▸ hkept hk hnone, fun μ _ hμ _ => hμ.of_bal _ _ hbal,
    by rw [hpend, hheight], hesc⟩

theorem runTx_apply_moved (cfg : Cfg) (st : State) (src id : Bytes) (typ stake : Nat) (acct pk vrf : Bytes)
    (hok : (runTx cfg st (.apply src id typ stake acct pk vrf)).1 = "ok") :
    getMinerById cfg st (dbOfType typ) id = none ∧ byAccount cfg st (if isEmptySlice acct then src else acct) = none ∧
    Moved cfg st (runTx cfg st (.apply src id typ stake acct pk vrf)).2 (dbOfType typ) id
      [feePayer src, feeAccount, toAddr src] (stakeWei stake) stake st.pending := by
  obtain ⟨st1, hfee, hacc⟩ := runTx_ok cfg st _ hok
  have hl := processFee_live st st1 _ hfee
  generalize (runTx cfg st _).2 = st' at hacc ⊢
  cases hacc with
  | apply h0 h1 _ hms _ _ hle hpr hv hacct =>
    have hfresh : getMinerById cfg st1 (dbOfType typ) id = none := by
      rcases dbOfType_of_minStake hms with e | e
      · exact e ▸ hv
      · exact e ▸ hpr
    let info : Info := { id := id, pk := pk, vrf := vrf, applyHeight := st1.height + heightAfterStake, typ := typ }
    let m : Miner := { id := id, typ := typ, stake := stake, status := statusNormal, applyHeight := info.applyHeight,
                       account := if isEmptySlice acct then src else acct }
    have hmv := updateMiner_moved cfg st1 (st1.subBal (toAddr src) (stakeWei stake)) m (some info) [toAddr src]
      (stakeWei stake) rfl rfl rfl (fun μ _ hμ hps => hμ.subBal st1 _ (hps _ (.head _)) hle) (fun hk hrec hnone => by
        rcases hrec with hsome | hwas
        · have := (getMinerById_isSome cfg _ (dbOfType typ) id).mpr
            (by rw [updateMiner_some_rec cfg (st1.subBal (toAddr src) (stakeWei stake)) m info hk]
                exact hsome info (Nat.lt_succ_of_le h0))
          rw [hnone] at this; cases this
        · exact hwas hfresh)
    rw [show stake % 2 ^ 64 = stake from Nat.mod_eq_of_lt (Nat.lt_succ_of_le h1), hl.2.2.1] at hmv
    exact ⟨getMinerById_congr cfg st st1 hl.1 _ _ ▸ hfresh, byAccount_congr cfg st st1 hl.1 hl.2.1 _ ▸ hacct, hmv.after_fee hfee⟩

theorem runTx_add_moved (cfg : Cfg) (st : State) (src id : Bytes) (delta : Nat) (hr : RecKeyed cfg st) (hd : delta ≠ 0)
    (hok : (runTx cfg st (.add src id delta)).1 = "ok") :
    ∃ m, getMiner cfg st id = some m ∧ m.stake = stakeAt cfg st (dbOfType m.typ) id ∧
      Moved cfg st (runTx cfg st (.add src id delta)).2 (dbOfType m.typ) id [feePayer src, feeAccount, toAddr src]
        (stakeWei delta) ((m.stake + delta) % 2 ^ 64) st.pending := by
  obtain ⟨st1, hfee, hacc⟩ := runTx_ok cfg st _ hok
  have hl := processFee_live st st1 _ hfee
  generalize (runTx cfg st _).2 = st' at hacc ⊢
  cases hacc with
  | addZero => exact absurd rfl hd
  | @add _ _ _ m _ _ hm hle =>
    obtain ⟨hbyid, rfl, _, _, hstake⟩ := getMiner_some cfg st1 id m (recKeyed_of_live cfg st st1 hl.1 hr) hm
    have hmv := updateMiner_moved cfg st1 (st1.subBal (toAddr src) (stakeWei delta))
      { m with stake := (m.stake + delta) % 2 ^ 64,
               status := if reactivates m.typ ((m.stake + delta) % 2 ^ 64) then statusNormal else m.status } none
      [toAddr src] (stakeWei delta) rfl rfl rfl (fun μ _ hμ hps => hμ.subBal st1 _ (hps _ (.head _)) hle)
      (fun hk _ => updateMiner_none_present cfg st1 _ { m with stake := _, status := _ } _ hk rfl (by rw [hbyid]; nofun))
    rw [Nat.mod_mod, hl.2.2.1] at hmv
    exact ⟨m, by rw [← getMiner_congr cfg st st1 hl.1]; exact hm, by rw [← stakeAt_of_live cfg st st1 hl.1]; exact hstake,
      hmv.after_fee hfee⟩

theorem runTx_refund_moved (cfg : Cfg) (st : State) (src id : Bytes) (amount : Nat) (hr : RecKeyed cfg st)
    (hok : (runTx cfg st (.refund src id amount)).1 = "ok") :
    ∃ m, getMiner cfg st id = some m ∧ m.account = src ∧ m.stake = stakeAt cfg st (dbOfType m.typ) id ∧
      refundMoney m amount ≤ m.stake ∧
      Moved cfg st (runTx cfg st (.refund src id amount)).2 (dbOfType m.typ) id [feePayer src, feeAccount] 0
        (m.stake - refundMoney m amount)
        (pendingAdd st.pending (st.height + refundDelay) src (refundMoney m amount * wei)) := by
  obtain ⟨st1, hfee, hacc⟩ := runTx_ok cfg st _ hok
  have hl := processFee_live st st1 _ hfee
  generalize (runTx cfg st _).2 = st' at hacc ⊢
  cases hacc with
  | @refund _ _ _ m hm hsrc hle =>
    obtain ⟨hbyid, rfl, _, _, hstake⟩ := getMiner_some cfg st1 id m (recKeyed_of_live cfg st st1 hl.1 hr) hm
    have hst : m.stake = stakeAt cfg st (dbOfType m.typ) m.id := by rw [← stakeAt_of_live cfg st st1 hl.1]; exact hstake
    have hmv := refundApply_moved cfg st1 src m (refundMoney m amount) (by rw [hbyid]; nofun)
    rw [Nat.mod_eq_of_lt (Nat.lt_of_le_of_lt (Nat.sub_le _ _) (hst ▸ stakeAt_lt cfg st (dbOfType m.typ) m.id)),
      hl.2.2.1, hl.2.2.2.2.2, hsrc] at hmv
    exact ⟨m, by rw [← getMiner_congr cfg st st1 hl.1]; exact hm, hsrc, hst, hle, hmv.after_fee hfee⟩

theorem runTx_chacc_moved (cfg : Cfg) (st : State) (src id na : Bytes) (hr : RecKeyed cfg st)
    (hok : (runTx cfg st (.chacc src id na)).1 = "ok") :
    ∃ m, getMiner cfg st id = some m ∧ m.stake = stakeAt cfg st (dbOfType m.typ) id ∧ byAccount cfg st na = none ∧
      Moved cfg st (runTx cfg st (.chacc src id na)).2 (dbOfType m.typ) id [feePayer src, feeAccount] 0 m.stake st.pending := by
  obtain ⟨st1, hfee, hacc⟩ := runTx_ok cfg st _ hok
  have hl := processFee_live st st1 _ hfee
  generalize (runTx cfg st _).2 = st' at hacc ⊢
  cases hacc with
  | @chacc _ _ _ m hm _ _ hacct =>
    obtain ⟨hbyid, rfl, _, _, hstake⟩ := getMiner_some cfg st1 id m (recKeyed_of_live cfg st st1 hl.1 hr) hm
    have hst : m.stake = stakeAt cfg st (dbOfType m.typ) m.id := by rw [← stakeAt_of_live cfg st st1 hl.1]; exact hstake
    have hmv := updateMiner_moved cfg st1 st1 { m with account := na } none [] 0 rfl rfl rfl (fun _ _ _ _ => rfl)
      (fun hk _ => updateMiner_none_present cfg st1 st1 { m with account := na } _ hk rfl (by rw [hbyid]; nofun))
    rw [show m.stake % 2 ^ 64 = m.stake from Nat.mod_eq_of_lt (hst ▸ stakeAt_lt cfg st (dbOfType m.typ) m.id),
      hl.2.2.1] at hmv
    exact ⟨m, by rw [← getMiner_congr cfg st st1 hl.1]; exact hm, hst, byAccount_congr cfg st st1 hl.1 hl.2.1 _ ▸ hacct,
      hmv.after_fee hfee⟩

theorem runTx_onlyKeys (cfg : Cfg) (st : State) (tx : Tx) (hr : RecKeyed cfg st) :
    OnlyKeys cfg st (runTx cfg st tx).2 (txDb cfg st tx) (txTarget tx) := by
  by_cases hok : (runTx cfg st tx).1 = "ok"
  · cases tx with
    | apply src id typ stake acct pk vrf =>
      exact (runTx_apply_moved cfg st src id typ stake acct pk vrf hok).2.2.keys
    | add src id delta =>
      by_cases hd : delta = 0
      · subst hd
        exact onlyKeys_refl cfg st _ _ _ (processFee_live st _ _ (runTx_add_zero cfg st src id hok)).1
      · obtain ⟨m, hm, _, hmv⟩ := runTx_add_moved cfg st src id delta hr hd hok
        simp only [txDb, hm]
        exact hmv.keys
    | refund src id amount =>
      obtain ⟨m, hm, _, _, _, hmv⟩ := runTx_refund_moved cfg st src id amount hr hok
      simp only [txDb, hm]
      exact hmv.keys
    | chacc src id na =>
      obtain ⟨m, hm, _, _, hmv⟩ := runTx_chacc_moved cfg st src id na hr hok
      simp only [txDb, hm]
      exact hmv.keys
    | bad k src => exact absurd hok (runTx_bad cfg st k src)
  · exact onlyKeys_refl cfg st _ _ _ (runTx_fail_live cfg st tx hok)

theorem chacc_preserves (cfg : Cfg) (U : List Bytes) (st : State) (id na : Bytes) (m : Miner)
    (hs : SepU cfg U) (hn : U.Nodup) (hinv : Inv cfg U st) (hid : id ∈ U) (hm : getMiner cfg st id = some m)
    (hrk' : RecKeyed cfg (updateMiner cfg st { m with account := na } none)) :
    Inv cfg U (updateMiner cfg st { m with account := na } none) ∧
      wealth cfg U (updateMiner cfg st { m with account := na } none) = wealth cfg U st := by
  obtain ⟨hbyid, rfl, _, _, hstake⟩ := getMiner_some cfg st id m hinv.rk hm
  have hst : stakeAt cfg st (dbOfType m.typ) m.id = m.stake := hstake.symm
  have hmv := updateMiner_moved cfg st st { m with account := na } none [] 0 rfl rfl rfl (fun _ _ _ _ => rfl)
    (fun hk _ => updateMiner_none_present cfg st st { m with account := na } _ hk rfl (by rw [hbyid]; nofun))
  refine hmv.inv U hs hn (.inr (by rw [hbyid]; nofun)) hinv hid hrk' hinv.pn hinv.a20.2 ?_
  show wei * (m.stake % 2 ^ 64) + _ = _
  rw [hst, Nat.mod_eq_of_lt (hst ▸ stakeAt_lt cfg st _ _)]
  rfl

end Rangers.Miner
