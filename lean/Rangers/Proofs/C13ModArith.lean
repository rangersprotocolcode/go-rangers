import Mathlib.Data.ZMod.Basic
import Mathlib.FieldTheory.Finite.Basic
import Rangers.Model.ModArith
/-! Correctness of the executable extended Euclid / `modInverse` in `ZMod`. -/
namespace Rangers.Proofs.C13
open Rangers.Model.ModArith

theorem emod_cast (n : Nat) [NeZero n] (z : Int) : ((emod z n : Nat) : ZMod n) = (z : ZMod n) := by
  unfold emod
  have hn : (n : Int) ≠ 0 := by exact_mod_cast NeZero.ne n
  have h0 : 0 ≤ z % (n : Int) := Int.emod_nonneg z hn
  have : ((Int.toNat (z % (n : Int)) : Nat) : Int) = z % (n : Int) := Int.toNat_of_nonneg h0
  have h2 : (((Int.toNat (z % (n : Int)) : Nat) : Int) : ZMod n) = ((z % (n : Int) : Int) : ZMod n) := by rw [this]
  rw [Int.cast_natCast] at h2
  rw [h2, ZMod.intCast_mod]

theorem emod_lt (n : Nat) (hn : 0 < n) (z : Int) : emod z n < n := by
  unfold emod
  have hn' : (n : Int) ≠ 0 := by omega
  have h0 : 0 ≤ z % (n : Int) := Int.emod_nonneg z hn'
  have h1 : z % (n : Int) < n := Int.emod_lt_of_pos z (by omega)
  omega

theorem xgcdAux_spec (n : Nat) (a : ZMod n) :
    ∀ (fuel r0 r1 : Nat) (s0 s1 : Int), r1 < fuel →
      (r0 : ZMod n) = (s0 : ZMod n) * a → (r1 : ZMod n) = (s1 : ZMod n) * a →
      ((xgcdAux fuel r0 r1 s0 s1).1 = Nat.gcd r0 r1 ∧
       (((xgcdAux fuel r0 r1 s0 s1).1 : Nat) : ZMod n) = (((xgcdAux fuel r0 r1 s0 s1).2 : Int) : ZMod n) * a) := by
  intro fuel
  induction fuel with
  | zero => intro r0 r1 s0 s1 h; omega
  | succ fuel ih =>
    intro r0 r1 s0 s1 hf h0 h1
    unfold xgcdAux
    by_cases hz : r1 = 0
    · subst hz; simp [h0]
    · simp only [hz, if_false]
      have hlt : r0 % r1 < fuel := by
        have := Nat.mod_lt r0 (Nat.pos_of_ne_zero hz); omega
      have hinv : ((r0 % r1 : Nat) : ZMod n) = ((s0 - ((r0 / r1 : Nat) : Int) * s1 : Int) : ZMod n) * a := by
        have hdm : r0 % r1 + r1 * (r0 / r1) = r0 := Nat.mod_add_div r0 r1
        have : ((r0 % r1 : Nat) : ZMod n) = (r0 : ZMod n) - (r1 : ZMod n) * ((r0 / r1 : Nat) : ZMod n) := by
          have h := congrArg (fun x : Nat => (x : ZMod n)) hdm
          simp only [Nat.cast_add, Nat.cast_mul] at h
          rw [← h]; ring
        rw [this, h0, h1]
        have hc : (((r0 / r1 : Nat) : Int) : ZMod n) = ((r0 / r1 : Nat) : ZMod n) := Int.cast_natCast _
        rw [Int.cast_sub, Int.cast_mul, hc]; ring
      obtain ⟨hg, hs⟩ := ih r1 (r0 % r1) s1 (s0 - ((r0 / r1 : Nat) : Int) * s1) hlt h1 hinv
      refine ⟨?_, hs⟩
      rw [hg, Nat.gcd_comm r0 r1, Nat.gcd_rec r1 r0, Nat.gcd_comm]

theorem xgcd_spec (a n : Nat) :
    (xgcd a n).1 = Nat.gcd n a ∧ (((xgcd a n).1 : Nat) : ZMod n) = (((xgcd a n).2 : Int) : ZMod n) * (a : ZMod n) := by
  unfold xgcd
  exact xgcdAux_spec n (a : ZMod n) (a + 1) n a 0 1 (by omega) (by simp) (by simp)

theorem modInverse_of_coprime {n : Nat} [NeZero n] (a : Nat) (h : Nat.Coprime a n) :
    ∃ v, modInverse a n = some v ∧ (v : ZMod n) * a = 1 ∧ v < n := by
  obtain ⟨hg, hs⟩ := xgcd_spec a n
  rw [Nat.gcd_comm, h.gcd_eq_one] at hg
  refine ⟨emod (xgcd a n).2 n, by rw [modInverse, if_pos hg], ?_, emod_lt n (Nat.pos_of_ne_zero (NeZero.ne n)) _⟩
  rw [emod_cast, ← hs, hg, Nat.cast_one]

theorem modInverse_some {p : Nat} [Fact p.Prime] (a : Nat) (ha : (a : ZMod p) ≠ 0) :
    ∃ v, modInverse a p = some v ∧ (v : ZMod p) = (a : ZMod p)⁻¹ ∧ v < p := by
  have hp : p.Prime := Fact.out
  have : NeZero p := ⟨hp.ne_zero⟩
  obtain ⟨v, hv, hva, hlt⟩ := modInverse_of_coprime a
    ((Nat.Prime.coprime_iff_not_dvd hp).2 fun hd => ha ((ZMod.natCast_eq_zero_iff a p).2 hd)).symm
  exact ⟨v, hv, eq_inv_of_mul_eq_one_left hva, hlt⟩

theorem modInverse_none {p : Nat} [Fact p.Prime] (a : Nat) (ha : (a : ZMod p) = 0) :
    modInverse a p = none := by
  have hp : p.Prime := Fact.out
  obtain ⟨hg, _⟩ := xgcd_spec a p
  have hd : p ∣ a := (ZMod.natCast_eq_zero_iff a p).1 ha
  have : Nat.gcd p a = p := Nat.gcd_eq_left hd
  unfold modInverse
  simp [hg, this, hp.ne_one]

end Rangers.Proofs.C13
