import Rangers.Basic.Hex
/-! Big-endian byte strings as positional notation in base 256: what `beToNat`, `natToBE` and `padLeft` of
    `Basic/Hex.lean` (the model of `big.Int.SetBytes`/`Bytes`) do, for the proofs of every property that reads or
    writes an integer; and `hexVal?` after `hexDigit`. Core Lean only. -/
namespace Rangers

theorem toNat_ofNat_lt {n : Nat} (h : n < 256) : (UInt8.ofNat n).toNat = n :=
  UInt8.toNat_ofNat_of_lt' h

theorem toNat_ofNat_mod (n : Nat) : (UInt8.ofNat (n % 256)).toNat = n % 256 :=
  toNat_ofNat_lt (Nat.mod_lt _ (by decide))

theorem foldl_radix {α : Type} (B : Nat) (f : α → Nat) (ds : List α) (a : Nat) :
    ds.foldl (fun acc d => acc * B + f d) a = a * B ^ ds.length + ds.foldl (fun acc d => acc * B + f d) 0 := by
  induction ds generalizing a with
  | nil => simp
  | cons d ds ih =>
    simp only [List.foldl_cons, List.length_cons]
    rw [ih, ih (0 * B + f d), Nat.pow_succ, Nat.zero_mul, Nat.zero_add, Nat.add_mul, Nat.mul_assoc,
      Nat.mul_comm B, Nat.add_assoc]

theorem beToNat_foldl (bs : Bytes) (a : Nat) :
    bs.foldl (fun acc b => acc * 256 + b.toNat) a = a * 256 ^ bs.length + beToNat bs :=
  foldl_radix 256 UInt8.toNat bs a

theorem beToNat_append_one (bs : Bytes) (b : UInt8) :
    beToNat (bs ++ [b]) = beToNat bs * 256 + b.toNat := by
  simp [beToNat, List.foldl_append]

theorem beToNat_cons (b : UInt8) (bs : Bytes) :
    beToNat (b :: bs) = b.toNat * 256 ^ bs.length + beToNat bs := by
  simp only [beToNat, List.foldl_cons, Nat.zero_mul, Nat.zero_add]
  exact beToNat_foldl bs b.toNat

theorem beToNat_append (a b : Bytes) :
    beToNat (a ++ b) = beToNat a * 256 ^ b.length + beToNat b := by
  simp only [beToNat, List.foldl_append]
  exact beToNat_foldl b _

theorem beToNat_lt (bs : Bytes) : beToNat bs < 256 ^ bs.length := by
  rw [← bs.reverse_reverse]
  induction bs.reverse with
  | nil => exact Nat.one_pos
  | cons b r ih =>
    rw [List.reverse_cons, beToNat_append_one, List.length_append, List.length_singleton, Nat.pow_succ]
    have := b.toNat_lt
    omega

theorem beToNat_snoc_div (bs : Bytes) (b : UInt8) : beToNat (bs ++ [b]) / 256 = beToNat bs := by
  rw [beToNat_append_one, Nat.add_comm, Nat.add_mul_div_right _ _ (by decide), Nat.div_eq_of_lt b.toNat_lt, Nat.zero_add]

theorem beToNat_snoc_mod (bs : Bytes) (b : UInt8) : beToNat (bs ++ [b]) % 256 = b.toNat := by
  rw [beToNat_append_one, Nat.mul_add_mod_self_right, Nat.mod_eq_of_lt b.toNat_lt]

/-- Uniqueness of positional notation, from the low-order end: the last digit is the value `% 256`, the digits before it
    read the value `/ 256`. -/
theorem beToNat_reverse_inj : ∀ {r s : Bytes}, r.length = s.length → beToNat r.reverse = beToNat s.reverse → r = s
  | [], [], _, _ => rfl
  | x :: r, y :: s, hl, hv => by
    rw [List.reverse_cons, List.reverse_cons] at hv
    have hd := congrArg (· / 256) hv
    have hm := congrArg (· % 256) hv
    simp only [beToNat_snoc_div, beToNat_snoc_mod] at hd hm
    rw [UInt8.toNat_inj.1 hm, beToNat_reverse_inj (Nat.succ.inj hl) hd]

/-- Every round trip `bytes → integer → bytes` below and in the modules on top is this, with the length and the value
    of what was written. -/
theorem beToNat_inj {a b : Bytes} (hl : a.length = b.length) (hv : beToNat a = beToNat b) : a = b :=
  List.reverse_inj.1 (beToNat_reverse_inj (by rw [List.length_reverse, List.length_reverse, hl])
    (by rw [List.reverse_reverse, List.reverse_reverse, hv]))

/-- Leading zero bytes are dropped by `SetBytes` (the only place they are dropped). -/
theorem beToNat_zero_cons (l : Bytes) : beToNat (0 :: l) = beToNat l := rfl

theorem beToNat_replicate_zero (k : Nat) : beToNat (List.replicate k 0) = 0 := by
  induction k with
  | zero => rfl
  | succ k ih => rw [List.replicate_succ, beToNat_zero_cons, ih]

theorem beToNat_zeros_append (k : Nat) (bs : Bytes) : beToNat (List.replicate k 0 ++ bs) = beToNat bs := by
  rw [beToNat_append, beToNat_replicate_zero, Nat.zero_mul, Nat.zero_add]

theorem beToNat_padLeft (k : Nat) (bs : Bytes) : beToNat (padLeft k bs) = beToNat bs :=
  beToNat_zeros_append _ bs

theorem padLeft_length (k : Nat) (bs : Bytes) (h : bs.length ≤ k) : (padLeft k bs).length = k := by
  simp [padLeft]; omega

theorem natToBE_zero : natToBE 0 = [] := rfl

theorem natToBE_go_eq (f n : Nat) (acc : Bytes) (h : n < f) : natToBE.go f n acc = natToBE n ++ acc := by
  induction f using Nat.strongRecOn generalizing n acc with
  | _ f ih =>
    cases f with
    | zero => cases h
    | succ f =>
      cases n with
      | zero => rfl
      | succ m =>
        have hlt : (m + 1) / 256 < m + 1 := Nat.div_lt_self (Nat.succ_pos m) (by decide)
        unfold natToBE
        rw [natToBE.go, if_neg (Nat.succ_ne_zero m), natToBE.go, if_neg (Nat.succ_ne_zero m),
          ih f (Nat.lt_succ_self f) _ _ (Nat.lt_of_lt_of_le hlt (Nat.le_of_lt_succ h)),
          ih (m + 1) h _ [_] hlt, List.append_assoc]
        rfl

theorem natToBE_step (n : Nat) (hn : n ≠ 0) :
    natToBE n = natToBE (n / 256) ++ [UInt8.ofNat (n % 256)] := by
  cases n with
  | zero => exact absurd rfl hn
  | succ m =>
    show natToBE.go (m + 1 + 1) (m + 1) [] = _
    rw [natToBE.go, if_neg hn]
    exact natToBE_go_eq _ _ _ (Nat.div_lt_self (Nat.succ_pos m) (by decide))

theorem natToBE_eq_nil (n : Nat) : natToBE n = [] ↔ n = 0 := by
  constructor
  · intro h
    by_cases hn : n = 0
    · exact hn
    · rw [natToBE_step n hn] at h
      simp at h
  · intro h
    rw [h, natToBE_zero]

/-- `new(big.Int).SetBytes(v.Bytes()) = v`. -/
theorem beToNat_natToBE (n : Nat) : beToNat (natToBE n) = n := by
  induction n using Nat.strongRecOn with
  | _ n ih =>
    by_cases hn : n = 0
    · rw [hn]; rfl
    · rw [natToBE_step n hn, beToNat_append_one, ih _ (Nat.div_lt_self (Nat.pos_of_ne_zero hn) (by decide)),
        toNat_ofNat_mod]
      exact Nat.div_add_mod' n 256

theorem natToBE_length_le_iff : ∀ (w x : Nat), (natToBE x).length ≤ w ↔ x < 256 ^ w
  | w, 0 => iff_of_true (Nat.zero_le w) (Nat.pow_pos (by decide))
  | 0, x + 1 => by rw [natToBE_step _ (Nat.succ_ne_zero x)]; simp
  | w + 1, x + 1 => by
    rw [natToBE_step _ (Nat.succ_ne_zero x), List.length_append, List.length_singleton,
      Nat.add_le_add_iff_right, natToBE_length_le_iff w, Nat.div_lt_iff_lt_mul (by omega), Nat.pow_succ]

theorem padLeft_natToBE_beToNat (bs : Bytes) : padLeft bs.length (natToBE (beToNat bs)) = bs :=
  beToNat_inj (padLeft_length _ _ ((natToBE_length_le_iff _ _).2 (beToNat_lt bs)))
    ((beToNat_padLeft _ _).trans (beToNat_natToBE _))

theorem natToBE_beToNat_of_head {bs : Bytes} (h : bs.head? ≠ some 0) : natToBE (beToNat bs) = bs := by
  have hp := padLeft_natToBE_beToNat bs
  unfold padLeft at hp
  -- padding of one byte or more would put a zero in front
  cases hk : bs.length - (natToBE (beToNat bs)).length with
  | zero => rwa [hk] at hp
  | succ k =>
    rw [hk] at hp
    rw [← hp] at h
    exact absurd rfl h

theorem natToBE_length_le_32 (x : Nat) : (natToBE x).length ≤ 32 ↔ x < 2 ^ 256 :=
  natToBE_length_le_iff 32 x

/-- A leading zero byte could be left out, and the string would not be the shortest with its value. -/
theorem natToBE_head_ne_zero (n : Nat) : (natToBE n).head? ≠ some 0 := by
  intro h
  cases hb : natToBE n with
  | nil =>
    rw [hb] at h
    exact nomatch h
  | cons x l =>
    rw [hb] at h
    have hv : beToNat l = n := by
      rw [← beToNat_zero_cons, ← Option.some.inj h, ← hb, beToNat_natToBE]
    have hl := (natToBE_length_le_iff l.length n).2 (hv ▸ beToNat_lt l)
    rw [hb] at hl
    exact Nat.not_succ_le_self _ hl

theorem hexVal_hexDigit (d : Nat) (h : d < 16) : hexVal? (hexDigit d) = some d := by
  have : ∀ d : Fin 16, hexVal? (hexDigit d.val) = some d.val := by decide
  exact this ⟨d, h⟩

theorem toNat_div16_lt (b : UInt8) : b.toNat / 16 < 16 := Nat.div_lt_of_lt_mul (b.toNat_lt : b.toNat < 16 * 16)

theorem toNat_mod16_lt (b : UInt8) : b.toNat % 16 < 16 := Nat.mod_lt _ (by decide)

theorem ofNat_div16_mod16 (b : UInt8) : UInt8.ofNat (b.toNat / 16 * 16 + b.toNat % 16) = b := by
  rw [Nat.div_add_mod', UInt8.ofNat_toNat]

theorem hexVal_hi (b : UInt8) : hexVal? (hexDigit (b.toNat / 16)) = some (b.toNat / 16) :=
  hexVal_hexDigit _ (toNat_div16_lt b)

theorem hexVal_lo (b : UInt8) : hexVal? (hexDigit (b.toNat % 16)) = some (b.toNat % 16) :=
  hexVal_hexDigit _ (toNat_mod16_lt b)

end Rangers
