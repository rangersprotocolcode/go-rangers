import Rangers.Model.Evm12Tx
/-! C12: what the statements of an entry point before `run` return, once per entry point (`callEnter_sat`,
`authEnter_sat`, `createEnter_sat`); an induction principle over frame trees, transactions and blocks for world
invariants: a predicate kept by every primitive state access and by reverting to a world that satisfied it is kept
by every frame body (`run_inv`), transaction and block. -/
namespace Rangers.Model.Evm12

/-- `P` is kept by every primitive state access the frame entry points and opcodes perform -/
structure PrimInv (env : Env) (P : World → Prop) : Prop where
  setState : ∀ w a k v, P w → P (w.setState a k v)
  setNonce : ∀ w a n, P w → P (w.setNonce a n)
  createAccount : ∀ w a, P w → P (w.createAccount a)
  addBalance : ∀ w a v, P w → P (w.addBalance a v)
  subBalance : ∀ w a v, P w → P (w.subBalance a v)
  setCode : ∀ w a c, P w → P (w.setCode a c)
  suicide : ∀ w a, P w → P (w.suicide a)
  addLog : ∀ w a n t, P w → P (w.addLog a n t)
  setTransient : ∀ w a k v, P w → P (w.setTransient a k v)
  addAccess : ∀ w a, P w → P (w.addAccess a)
  selfdestructRefund : ∀ w a, P w → P (w.selfdestructRefund a)
  stake : ∀ w a n, P w → P (stakeEffect env a n w)
  unstake : ∀ w a n, P w → P (unstakeEffect env a n w)
  revert : ∀ saved cur, P saved → P (env.rv saved cur)

variable {env : Env} {P : World → Prop}

theorem PrimInv.transfer (h : PrimInv env P) (w : World) (a b : Addr) (v : Nat) (hw : P w) : P (w.transfer a b v) :=
  h.addBalance _ _ _ (h.subBalance _ _ _ hw)

theorem inv_ite {c : Prop} [Decidable c] {a b : World} (ha : P a) (hb : P b) : P (if c then a else b) := by
  split
  · exact ha
  · exact hb

theorem inv_ite_result {c : Prop} [Decidable c] {a b : Result} (ha : P a.world) (hb : P b.world) :
    P (if c then a else b).world := by
  split
  · exact ha
  · exact hb

/-- a case description of what the statements before `run` return: `F` of a refusal, `S` of the snapshot world
    (which the `skip` return hands back), `C` of the snapshot world, the world and the read-only flag the callee
    starts with -/
def Entry.sat (F : World → Err → Prop) (S : World → Prop) (C : World → World → Bool → Prop) : Entry → Prop
  | .fail w' e => F w' e
  | .skip w' => S w'
  | .enter saved w' _ ro' _ => S saved ∧ C saved w' ro'

theorem Entry.sat_ite {F : World → Err → Prop} {S : World → Prop} {C : World → World → Bool → Prop} {c : Prop}
    [Decidable c] {a b : Entry} (ha : a.sat F S C) (hb : b.sat F S C) : (if c then a else b).sat F S C := by
  split
  · exact ha
  · exact hb

theorem callEnter_sat (env : Env) (depth : Nat) (ro : Bool) (self : Addr) (kind : CallKind) (target : Addr)
    (value : Nat) (w : World) :
    (callEnter env depth ro self kind target value w).sat
      (fun w' e => w' = w ∧ (e = .depth → CallCreateDepth < depth)) (· = w)
      (fun saved w' ro' => (ro = true ∨ kind = .staticcall → ro' = true)
        ∧ (w' = saved ∨ w' = saved.addBalance target 0
          ∨ kind = .call
            ∧ w' = (if saved.exists? target then saved else saved.createAccount target).transfer self target value)) := by
  unfold callEnter
  by_cases hd : depth > CallCreateDepth
  · rw [if_pos hd]; exact ⟨rfl, fun _ => hd⟩
  · rw [if_neg hd]
    cases kind with
    | call =>
      exact Entry.sat_ite ⟨rfl, fun h => nomatch h⟩
        (Entry.sat_ite rfl ⟨rfl, fun h => h.resolve_right nofun, .inr (.inr ⟨rfl, rfl⟩)⟩)
    | callcode => exact Entry.sat_ite ⟨rfl, fun h => nomatch h⟩ ⟨rfl, fun h => h.resolve_right nofun, .inl rfl⟩
    | delegatecall => exact ⟨rfl, fun h => h.resolve_right nofun, .inl rfl⟩
    | staticcall => exact ⟨rfl, fun _ => rfl, .inr (.inl rfl)⟩

theorem authEnter_sat (env : Env) (depth : Nat) (ro : Bool) (au target : Addr) (value : Nat) (w : World) :
    (authEnter env depth ro au target value w).sat
      (fun w' e => w' = w ∧ (e = .depth → CallCreateDepth < depth))
      (· = w.setNonce au (w.getNonce au + 1))
      (fun saved w' _ =>
        w' = (if saved.exists? target then saved else saved.createAccount target).transfer env.origin target value) := by
  unfold authEnter
  by_cases hd : depth > CallCreateDepth
  · rw [if_pos hd]; exact ⟨rfl, fun _ => hd⟩
  · rw [if_neg hd]
    exact Entry.sat_ite ⟨rfl, fun h => nomatch h⟩ (Entry.sat_ite rfl ⟨rfl, rfl⟩)

theorem createEnter_sat (env : Env) (depth : Nat) (ro : Bool) (self : Addr) (value : Nat) (addr : Addr) (w : World) :
    (createEnter env depth ro self value addr w).sat
      (fun w' e => (e = .depth → CallCreateDepth < depth)
        ∧ ((e = .collision
            ∧ w' = (if env.createBumpsNonce then w.setNonce self (w.getNonce self + 1) else w).addAccess addr)
          ∨ ((e = .depth ∨ e = .insufficientBalance) ∧ w' = w)))
      (· = (if env.createBumpsNonce then w.setNonce self (w.getNonce self + 1) else w).addAccess addr)
      (fun saved w' _ => w' = ((saved.createAccount addr).setNonce addr 1).transfer self addr value) := by
  unfold createEnter
  by_cases hd : depth > CallCreateDepth
  · rw [if_pos hd]; exact ⟨fun _ => hd, .inr ⟨.inl rfl, rfl⟩⟩
  · rw [if_neg hd]
    exact Entry.sat_ite ⟨(fun h => nomatch h), .inr ⟨.inr rfl, rfl⟩⟩
      (Entry.sat_ite ⟨(fun h => nomatch h), .inl ⟨rfl, rfl⟩⟩ ⟨rfl, rfl⟩)

theorem runCallee_inv (callee : Callee) (pe : Option Err) (k : Nat → Bool → Addr → World → Result) (depth : Nat)
    (ro : Bool) (self : Addr) (w : World) (hk : ∀ d s w0, P w0 → P (k d ro s w0).world) (hw : P w) :
    P (runCallee callee pe k depth ro self w).world := by
  cases callee
  · exact hw
  · exact hk _ _ _ hw
  · exact hw

theorem callFrameK_keeps (depth : Nat) (ro : Bool) (self : Addr) (kind : CallKind) (target : Addr) (value : Nat)
    (k : Nat → Bool → Addr → World → Result) (pe : Option Err)
    (hca : ∀ w, P w → P (w.createAccount target))
    (htr : kind = .call → ∀ w, P w → P (w.transfer self target value))
    (hab : ∀ w, P w → P (w.addBalance target 0))
    (hrv : ∀ saved cur, P saved → P (env.rv saved cur))
    (hk : ∀ d r s w0, (ro = true ∨ kind = .staticcall → r = true) → P w0 → P (k d r s w0).world)
    (w : World) (hw : P w) : P (callFrameK env depth ro self kind target value k pe w).world := by
  have hs := callEnter_sat env depth ro self kind target value w
  unfold callFrameK
  cases he : callEnter env depth ro self kind target value w with
  | fail w' e => rw [he] at hs; exact hs.1 ▸ hw
  | skip w' => rw [he] at hs; exact hs ▸ hw
  | enter saved w' self' ro' callee =>
    rw [he] at hs
    obtain ⟨rfl, hro, hw'⟩ := hs
    refine inv_ite (hrv _ _ hw) (runCallee_inv callee pe k _ _ _ _ (fun d s w0 => hk d _ s w0 hro) ?_)
    rcases hw' with rfl | rfl | ⟨hcall, rfl⟩
    · exact hw
    · exact hab _ hw
    · exact htr hcall _ (inv_ite hw (hca _ hw))

theorem callFrameK_inv (h : PrimInv env P) (depth : Nat) (ro : Bool) (self : Addr) (kind : CallKind) (target : Addr)
    (value : Nat) (k : Nat → Bool → Addr → World → Result) (pe : Option Err)
    (hk : ∀ d r s w0, P w0 → P (k d r s w0).world) (w : World) (hw : P w) :
    P (callFrameK env depth ro self kind target value k pe w).world :=
  callFrameK_keeps depth ro self kind target value k pe (h.createAccount · _) (fun _ => (h.transfer · _ _ _))
    (h.addBalance · _ _) h.revert (fun d r s w0 _ => hk d r s w0) w hw

theorem authFrameK_inv (h : PrimInv env P) (depth : Nat) (ro : Bool) (au : Option Addr) (n : Nat) (target : Addr)
    (value : Nat) (k : Nat → Bool → Addr → World → Result) (pe : Option Err)
    (hk : ∀ d r s w0, P w0 → P (k d r s w0).world) (w : World) (hw : P w) :
    P (authFrameK env depth ro au n target value k pe w).world := by
  unfold authFrameK
  cases au with
  | none => exact hw
  | some a =>
    refine inv_ite_result hw ?_
    have hs := authEnter_sat env depth ro a target value w
    have h0 := h.setNonce w a (w.getNonce a + 1) hw
    cases he : authEnter env depth ro a target value w with
    | fail w' e => rw [he] at hs; exact hs.1 ▸ hw
    | skip w' => rw [he] at hs; exact hs ▸ h0
    | enter saved w' self' ro' callee =>
      rw [he] at hs
      obtain ⟨rfl, rfl⟩ := hs
      exact inv_ite (h.revert _ _ h0) (runCallee_inv callee pe k _ _ _ _ (hk · _)
        (h.transfer _ _ _ _ (inv_ite h0 (h.createAccount _ _ h0))))

theorem createExit_inv (h : PrimInv env P) (saved : World) (addr : Addr) (r : Result) (hs : P saved) (hr : P r.world) :
    P (createExit env saved addr r).world := by
  have hst : P (createStored addr r).1 := by
    unfold createStored
    split
    · split
      · exact h.setCode _ _ _ hr
      · exact hr
      · exact h.setCode _ _ _ hr
    · exact hr
  exact inv_ite (h.revert _ _ hs) hst

theorem createFrameK_inv (h : PrimInv env P) (depth : Nat) (ro : Bool) (self : Addr) (two : Bool) (salt value : Nat)
    (k : Nat → Bool → Addr → World → Result) (hk : ∀ d r s w0, P w0 → P (k d r s w0).world) (w : World) (hw : P w) :
    P (createFrameK env depth ro self two salt value k w).world := by
  unfold createFrameK
  simp only
  have hs := createEnter_sat env depth ro self value (createAddr w self two salt) w
  have h2 := h.addAccess _ (createAddr w self two salt)
    (inv_ite (c := env.createBumpsNonce = true) (h.setNonce _ self (w.getNonce self + 1) hw) hw)
  cases he : createEnter env depth ro self value (createAddr w self two salt) w with
  | fail w' e =>
    rw [he] at hs
    rcases hs.2 with ⟨_, rfl⟩ | ⟨_, rfl⟩
    · exact h2
    · exact hw
  | skip w' => rw [he] at hs; exact hs ▸ h2
  | enter saved w' self' ro' callee =>
    rw [he] at hs
    obtain ⟨rfl, rfl⟩ := hs
    exact createExit_inv h _ _ _ h2 (hk _ _ _ _ (h.transfer _ _ _ _ (h.setNonce _ _ _ (h.createAccount _ _ h2))))

theorem run_inv (h : PrimInv env P) (f : Frame) (depth : Nat) (ro : Bool) (self : Addr) (w : World)
    (clogs : List Log) (tr : List Event) (hw : P w) : P (run env depth ro self w clogs tr f).world := by
  -- `run` on an opcode is `if roBlocked … then failWith w … else …`; the refusal hands `w` back
  induction f generalizing depth ro self w clogs tr with
  | done e => cases e <;> exact hw
  | sstore k v rest ih => exact inv_ite_result hw (ih _ _ _ _ _ _ (h.setState _ _ _ _ hw))
  | tstore k v rest ih => exact inv_ite_result hw (inv_ite_result hw (ih _ _ _ _ _ _ (h.setTransient _ _ _ _ hw)))
  | log n tag rest ih => exact inv_ite_result hw (ih _ _ _ _ _ _ (h.addLog _ _ _ _ hw))
  | selfdestruct ben =>
    exact inv_ite_result hw (h.suicide _ _ (h.addBalance _ _ _ (h.selfdestructRefund _ _ hw)))
  | call id kind target value body rest ihb ihr =>
    exact inv_ite_result hw (ihr _ _ _ _ _ _ (callFrameK_inv h depth ro self kind target value _ _
      (fun d r s w0 hw0 => ihb d r s w0 [] [] hw0) w hw))
  | create id two salt value init rest ihb ihr =>
    exact inv_ite_result hw (ihr _ _ _ _ _ _ (createFrameK_inv h depth ro self two salt value _
      (fun d r s w0 hw0 => ihb d r s w0 [] [] hw0) w hw))
  | authcall id au n target value body rest ihb ihr =>
    exact inv_ite_result hw (ihr _ _ _ _ _ _ (authFrameK_inv h depth ro au n target value _ _
      (fun d r s w0 hw0 => ihb d r s w0 [] [] hw0) _ (h.addAccess _ _ hw)))
  | stake a rest ih => exact inv_ite_result hw (ih _ _ _ _ _ _ (h.stake _ _ _ hw))
  | unstake a rest ih => exact inv_ite_result hw (ih _ _ _ _ _ _ (h.unstake _ _ _ hw))
  | unstakeall rest ih => exact inv_ite_result hw (inv_ite_result hw (ih _ _ _ _ _ _ (h.unstake _ _ _ hw)))
  | stakenum a rest ih => exact inv_ite_result hw (inv_ite_result hw (ih _ _ _ _ _ _ hw))

theorem txBody_inv (cfg : Cfg) (rv : World → World → World) (tx : Tx) (h : PrimInv (cfg.env rv tx.origin) P)
    (w0 : World) (hw0 : P w0) : P (txFinish cfg rv tx w0 (txFrame cfg rv tx w0)) := by
  have hk : ∀ d r s w1, P w1 → P (run (cfg.env rv tx.origin) d r s w1 [] [] tx.body).world :=
    fun d r s w1 hw1 => run_inv h tx.body d r s w1 [] [] hw1
  have hfr : P (txFrame cfg rv tx w0).world := by
    unfold txFrame
    cases tx.kind with
    | create => exact createFrameK_inv h 0 false tx.origin false 0 tx.value _ hk w0 hw0
    | call target =>
      exact callFrameK_inv h 0 false tx.origin .call target tx.value _ _ hk _
        (inv_ite (h.setNonce _ _ _ hw0) hw0)
  have h2 := inv_ite (c := (txFrame cfg rv tx w0).err.isSome = true) (h.revert _ (txFrame cfg rv tx w0).world hw0) hfr
  exact inv_ite (h.setNonce _ _ _ h2) h2

theorem inv_preserved_by_tx (cfg : Cfg) (rv : World → World → World)
    (hP : ∀ origin, PrimInv (cfg.env rv origin) P) (hprep : ∀ w h i, P w → P (prepare w h i))
    (i : Nat) (w : World) (tx : Tx) (hw : P w) : P (execTx cfg rv i w tx).1 :=
  txBody_inv cfg rv tx (hP tx.origin) _ (inv_ite (hprep _ _ _ hw) hw)

theorem inv_preserved_by_block (cfg : Cfg) (rv : World → World → World)
    (hP : ∀ origin, PrimInv (cfg.env rv origin) P) (hprep : ∀ w h i, P w → P (prepare w h i)) :
    ∀ (txs : List Tx) (i : Nat) (w : World), P w → P (execBlock cfg rv i w txs).1
  | [], _, _, hw => hw
  | tx :: rest, i, w, hw =>
    inv_preserved_by_block cfg rv hP hprep rest (i + 1) _ (inv_preserved_by_tx cfg rv hP hprep i w tx hw)

end Rangers.Model.Evm12
