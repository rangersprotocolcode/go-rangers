import Rangers.Proofs.RLPFrame
import Rangers.Proofs.RLPBase
/-! The generic item coder (`decItemF` / `encode`): the decoder succeeds at fuel `f` exactly on the
    encodings of the `sizeOK` items nested no deeper than `f` (`decItemF_ok_iff`: `decItemF_sound` and
    `decItemF_complete` are its directions), more fuel never changes a result (`decItemF_mono`),
    `2 * length + 1` always suffices (`decItemF_fuel_suffices`). -/
namespace Rangers.RLP
open Rangers

mutual
  /-- every payload is shorter than 2^64: exactly the items the encoder can produce -/
  def Item.sizeOK : Item → Prop
    | .str b => b.length < 2 ^ 64
    | .list xs => Item.sizeOKs xs ∧ (encodeList xs).length < 2 ^ 64
  def Item.sizeOKs : List Item → Prop
    | [] => True
    | x :: xs => x.sizeOK ∧ Item.sizeOKs xs
end

mutual
  /-- recursion depth `decItemF` needs on `encode it` -/
  def fuelI : Item → Nat
    | .str _ => 1
    | .list xs => 1 + fuelL xs
  def fuelL : List Item → Nat
    | [] => 1
    | x :: xs => 1 + max (fuelI x) (fuelL xs)
end

theorem encString_ne_nil (b : Bytes) : encString b ≠ [] := by
  unfold encString
  split
  · split
    · simp
    · have := encHead_ne_nil 0x80 0xb7 1; simp [this]
  · have := encHead_ne_nil 0x80 0xb7 b.length; simp [this]

theorem encode_ne_nil (it : Item) : encode it ≠ [] := by
  cases it with
  | str b => simpa [encode] using encString_ne_nil b
  | list xs => simp [encode, encListPayload, encHead_ne_nil]

theorem encode_str (b : Bytes) : encode (.str b) = encString b := by rw [encode]

theorem encode_list (xs : List Item) : encode (.list xs) = frame .list (encodeList xs) := by rw [encode]; rfl

theorem decItemF_succ (f : Nat) (buf : Bytes) : decItemF (f + 1) buf =
    (split buf).bind fun r =>
      match r.1 with
      | .list => (decItemsF f r.2.1).bind fun xs => .ok (.list xs, r.2.2)
      | _ => .ok (.str r.2.1, r.2.2) := by
  rw [decItemF]
  unfold split
  cases readKind buf with
  | error e => rfl
  | ok h =>
    obtain ⟨k, ts, cs⟩ := h
    cases k <;> try rfl
    simp only [Except.bind]
    cases decItemsF f (List.take cs (List.drop ts buf)) <;> rfl

theorem decItemsF_cons (f : Nat) (x : UInt8) (xs : Bytes) : decItemsF (f + 1) (x :: xs) =
    (decItemF f (x :: xs)).bind fun r => (decItemsF f r.2).bind fun ys => .ok (r.1 :: ys) := by
  rw [decItemsF]
  cases decItemF f (x :: xs) with
  | error e => rfl
  | ok r =>
    simp only [Except.bind]
    cases decItemsF f r.2 <;> rfl

theorem decItemF_succ_ok {f : Nat} {buf rest : Bytes} {it : Item} (h : decItemF (f + 1) buf = .ok (it, rest)) :
    ∃ k c, split buf = .ok (k, c, rest) ∧
      ((k = .list ∧ ∃ xs, decItemsF f c = .ok xs ∧ it = .list xs) ∨ (k ≠ .list ∧ it = .str c)) := by
  rw [decItemF_succ] at h
  obtain ⟨⟨k, c, rest'⟩, hs, h⟩ := bind_ok_iff.1 h
  cases k with
  | list =>
    obtain ⟨xs, hd, h⟩ := bind_ok_iff.1 h
    cases h
    exact ⟨_, _, hs, Or.inl ⟨rfl, xs, hd, rfl⟩⟩
  | byte | string => cases h; exact ⟨_, _, hs, Or.inr ⟨nofun, rfl⟩⟩

/-- `fuelI` is not a bound but the depth the recursion reaches on `encode it`: with it the three facts
    about a success are the converse of `decItemF_complete`. -/
theorem decItemF_sound : ∀ f,
    (∀ b it rest, decItemF f b = .ok (it, rest) → b = encode it ++ rest ∧ it.sizeOK ∧ fuelI it ≤ f) ∧
    (∀ b xs, decItemsF f b = .ok xs → b = encodeList xs ∧ Item.sizeOKs xs ∧ fuelL xs ≤ f) := by
  intro f
  induction f with
  | zero => exact ⟨nofun, nofun⟩
  | succ f ih =>
    refine ⟨?_, ?_⟩
    · intro b it rest h
      obtain ⟨k, c, hs, hc⟩ := decItemF_succ_ok h
      obtain ⟨rfl, hf, hcan⟩ := split_ok_iff.1 hs
      rcases hc with ⟨rfl, xs, hd, rfl⟩ | ⟨hk, rfl⟩
      · obtain ⟨rfl, hok, hfu⟩ := ih.2 _ _ hd
        exact ⟨by rw [encode_list], ⟨hok, hf.1⟩, by simp only [fuelI]; omega⟩
      · exact ⟨by rw [encode_str, frame_encString hf hk hcan], hf.1, by simp only [fuelI]; omega⟩
    · intro b xs h
      cases b with
      | nil => cases h; exact ⟨rfl, trivial, by simp only [fuelL]; omega⟩
      | cons x tl =>
        rw [decItemsF_cons] at h
        obtain ⟨⟨y, rest⟩, hd, h⟩ := bind_ok_iff.1 h
        obtain ⟨ys, hd2, h⟩ := bind_ok_iff.1 h
        cases h
        obtain ⟨hb, hok, hfu⟩ := ih.1 _ _ _ hd
        obtain ⟨rfl, hoks, hfus⟩ := ih.2 _ _ hd2
        exact ⟨hb, ⟨hok, hoks⟩, by simp only [fuelL]; omega⟩

theorem decItemF_complete : ∀ f,
    (∀ it rest, it.sizeOK → fuelI it ≤ f → decItemF f (encode it ++ rest) = .ok (it, rest)) ∧
    (∀ xs, Item.sizeOKs xs → fuelL xs ≤ f → decItemsF f (encodeList xs) = .ok xs) := by
  intro f
  induction f with
  | zero =>
    refine ⟨?_, ?_⟩
    · intro it _ _ h; cases it <;> simp [fuelI] at h
    · intro xs _ h; cases xs <;> simp [fuelL] at h
  | succ f ih =>
    refine ⟨?_, ?_⟩
    · intro it rest hok hf
      rw [decItemF_succ]
      cases it with
      | str b =>
        obtain ⟨k, hk, hfr, hcan, he⟩ := encString_frame hok
        rw [encode_str, he, split_ok_iff.2 ⟨rfl, hfr, hcan⟩]
        cases k with
        | list => exact absurd rfl hk
        | byte | string => rfl
      | list xs =>
        simp only [Item.sizeOK] at hok
        simp only [fuelI] at hf
        rw [encode_list, split_ok_iff.2 ⟨rfl, .of_ne (k := .list) nofun hok.2, nofun⟩]
        show (decItemsF f (encodeList xs)).bind _ = _
        rw [ih.2 xs hok.1 (by omega)]
        rfl
    · intro xs hok hf
      cases xs with
      | nil => rfl
      | cons x xs' =>
        simp only [Item.sizeOKs] at hok
        simp only [fuelL] at hf
        simp only [encodeList]
        cases hb : encode x ++ encodeList xs' with
        | nil => simp at hb; exact absurd hb.1 (encode_ne_nil x)
        | cons c cs =>
          rw [decItemsF_cons, ← hb, ih.1 x _ hok.1 (by omega)]
          show (decItemsF f (encodeList xs')).bind _ = _
          rw [ih.2 xs' hok.2 (by omega)]
          rfl

theorem decItemF_ok_iff {f : Nat} {b rest : Bytes} {it : Item} :
    decItemF f b = .ok (it, rest) ↔ b = encode it ++ rest ∧ it.sizeOK ∧ fuelI it ≤ f :=
  ⟨(decItemF_sound f).1 b it rest, fun ⟨hb, hok, hf⟩ => hb ▸ (decItemF_complete f).1 it rest hok hf⟩

theorem decItemsF_ok_iff {f : Nat} {b : Bytes} {xs : List Item} :
    decItemsF f b = .ok xs ↔ b = encodeList xs ∧ Item.sizeOKs xs ∧ fuelL xs ≤ f :=
  ⟨(decItemF_sound f).2 b xs, fun ⟨hb, hok, hf⟩ => hb ▸ (decItemF_complete f).2 xs hok hf⟩

theorem decItemF_mono : ∀ f,
    (∀ b, Stable (decItemF f b) (decItemF (f + 1) b)) ∧ (∀ b, Stable (decItemsF f b) (decItemsF (f + 1) b)) := by
  intro f
  induction f with
  | zero => exact ⟨fun _ h => absurd (decItemF_zero _) h, fun _ h => absurd (decItemsF_zero _) h⟩
  | succ f ih =>
    refine ⟨?_, ?_⟩
    · intro b
      rw [decItemF_succ, decItemF_succ]
      refine bind_stable (fun _ => rfl) ?_
      rintro ⟨k, c, rest⟩ _
      cases k
      · exact fun _ => rfl
      · exact fun _ => rfl
      · exact bind_stable (ih.2 _) (fun _ _ _ => rfl)
    · intro b
      cases b with
      | nil => exact fun _ => rfl
      | cons c cs =>
        rw [decItemsF_cons, decItemsF_cons]
        exact bind_stable (ih.1 _) fun _ _ => bind_stable (ih.2 _) (fun _ _ _ => rfl)

/-- Two units of fuel per byte: `decItemsF` hands `decItemF` its own buffer (hence its `+ 2` against
    `+ 1`), `decItemF` hands `decItemsF` a content at least the header byte shorter, and the next round
    of `decItemsF` sees a rest at least one item shorter. -/
theorem decItemF_fuel_suffices : ∀ f,
    (∀ b : Bytes, 2 * b.length + 1 ≤ f → decItemF f b ≠ .error .fuel) ∧
    (∀ b : Bytes, 2 * b.length + 2 ≤ f → decItemsF f b ≠ .error .fuel) := by
  intro f
  induction f with
  | zero => exact ⟨by intro b h; omega, by intro b h; omega⟩
  | succ f ih =>
    refine ⟨?_, ?_⟩
    · intro b hf
      rw [decItemF_succ]
      refine bind_ne_fuel (split_ne_fuel b) ?_
      rintro ⟨k, c, rest⟩ hs
      obtain ⟨rfl, hfr, _⟩ := split_ok_iff.1 hs
      cases k with
      | list =>
        have := (frame_length hfr).2 nofun
        rw [List.length_append] at hf
        exact bind_ne_fuel (ih.2 c (by omega)) (fun _ _ => nofun)
      | byte | string => nofun
    · intro b hf
      cases b with
      | nil => nofun
      | cons c cs =>
        rw [decItemsF_cons]
        refine bind_ne_fuel (ih.1 _ (by omega)) ?_
        rintro ⟨x, rest⟩ hd
        have hl := congrArg List.length (decItemF_ok_iff.1 hd).1
        have := List.length_pos_iff.2 (encode_ne_nil x)
        rw [List.length_append] at hl
        exact bind_ne_fuel (ih.2 rest (by omega)) (fun _ _ => nofun)

theorem decodeItem_of_fuel {f : Nat} {b : Bytes} {r : Item × Bytes} (h : decItemF f b = .ok r) :
    decodeItem b = .ok r :=
  ok_of_fuel (fun f => (decItemF_mono f).1 b) h ((decItemF_fuel_suffices _).1 b (by unfold itemFuel; omega))

theorem decodeBytes_ok_iff {b : Bytes} {it : Item} : decodeBytes b = .ok it ↔ decodeItem b = .ok (it, []) := by
  unfold decodeBytes
  cases decodeItem b with
  | error e => exact ⟨nofun, nofun⟩
  | ok r =>
    obtain ⟨it', rest⟩ := r
    cases rest with
    | nil => exact ⟨fun h => by cases h; rfl, fun h => by cases h; rfl⟩
    | cons x xs => exact ⟨nofun, nofun⟩

end Rangers.RLP
