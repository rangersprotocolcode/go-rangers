import Rangers.Proofs.TrieDB
/-!
The invariant of the C03 state machine (`Rangers.Model.TrieDB.step`) and its
preservation by every operation.  Core Lean only.
-/
namespace Rangers.Model.TrieDB

structure Inv (s : St) : Prop where
  allRes : AllRes s.disk
  cacheInv : CacheInv s.cache s.disk
  consistent : Consistent s.cache s.disk

/-- What the callers of `hasher.store` / `InsertBlob` guarantee about a node
    when it is stored (checked on every correspondence run: the driver answers
    `ok!pre` otherwise):
    * it arrives without external references;
    * the hash names its content (no collision with what is on disk);
    * everything a reader of the node needs is on disk, or is cached already
      (children are stored before parents: hasher post-order, `CommitTrie` and
      `InsertBlob` before the account trie commit) **and** is either a hash child
      of the node or — for an account leaf — the storage root / code hash the
      leaf callback is given, provided the callback's guard lets it through. -/
def StoreOk (eD eC : Hash) (s : St) (h : Hash) (n : CNode) (leaf : Option (Hash × Hash)) : Prop :=
  n.ext = [] ∧
  (∀ dn, s.disk.lookup h = some dn → dn = n.toD) ∧
  (∀ r ∈ n.need, Has s.disk r ∨
    (Has s.cache r ∧ (r ∈ n.inner ∨
      ∃ root code, leaf = some (root, code) ∧ ((r = root ∧ root ≠ eD) ∨ (r = code ∧ code ≠ eC)))))

def OpOk (eD eC : Hash) (s : St) : Op → Prop
  | .store h n leaf => StoreOk eD eC s h n leaf
  | _ => True

/-- What `reference`, `reorderExt` and the leaf callback do to a cache: the same keys with the same blobs (`toD`),
    children only added.  `CacheInv` and `Consistent` survive it (`Inv.of_grows`). -/
def Grows (c c' : Cache) : Prop :=
  (∀ k n', c'.lookup k = some n' →
    ∃ n, c.lookup k = some n ∧ n'.toD = n.toD ∧ ∀ r ∈ n.childs, r ∈ n'.childs) ∧
  (∀ k, Has c k → Has c' k)

theorem grows_refl (c : Cache) : Grows c c :=
  ⟨fun _ n' h => ⟨n', h, rfl, fun _ hr => hr⟩, fun _ h => h⟩

theorem grows_trans {a b c : Cache} (h1 : Grows a b) (h2 : Grows b c) : Grows a c := by
  refine ⟨fun k n' hk => ?_, fun k hk => h2.2 k (h1.2 k hk)⟩
  obtain ⟨m, hm, e2, e3⟩ := h2.1 k n' hk
  obtain ⟨n, hn, f2, f3⟩ := h1.1 k m hm
  exact ⟨n, hn, e2.trans f2, fun r hr => e3 r (f3 r hr)⟩

theorem grows_cacheInv {c c' : Cache} {d : Disk} (hg : Grows c c') (hi : CacheInv c d) : CacheInv c' d := by
  intro k n' hk r hr
  obtain ⟨n, hn, e2, e3⟩ := hg.1 k n' hk
  have e1 : n'.need = n.need := congrArg DNode.need e2
  exact (hi k n hn r (e1 ▸ hr)).imp_right fun h => ⟨e3 r h.1, hg.2 r h.2⟩

theorem grows_consistent {c c' : Cache} {d : Disk} (hg : Grows c c') (hc : Consistent c d) : Consistent c' d := by
  intro k n' dn hk hd
  obtain ⟨n, hn, e2, _⟩ := hg.1 k n' hk
  exact e2 ▸ hc k n dn hn hd

theorem Inv.of_grows {s : St} {c' : Cache} (hi : Inv s) (hg : Grows s.cache c') : Inv ⟨c', s.disk⟩ :=
  ⟨hi.allRes, grows_cacheInv hg hi.cacheInv, grows_consistent hg hi.consistent⟩

theorem lookup_mapNode (g : Hash → CNode → CNode) (c : Cache) (k : Hash) :
    (c.map fun kn => (kn.1, g kn.1 kn.2)).lookup k = (c.lookup k).map (g k) := by
  induction c with
  | nil => rfl
  | cons kn rest ih =>
    rw [List.map_cons, lookup_cons_eq, lookup_cons_eq, ih]
    split
    · subst_vars; rfl
    · rfl

/-- the shape of `addExt` and `reorderExt` -/
theorem lookup_map_if (P : Hash → CNode → Bool) (g : CNode → CNode) (c : Cache) (k : Hash) :
    (c.map fun kn => if P kn.1 kn.2 then (kn.1, g kn.2) else kn).lookup k =
      (c.lookup k).map fun n => if P k n then g n else n := by
  have hf : (fun kn : Hash × CNode => if P kn.1 kn.2 then (kn.1, g kn.2) else kn) =
      fun kn => (kn.1, if P kn.1 kn.2 then g kn.2 else kn.2) := by
    funext kn
    split <;> rfl
  rw [hf]
  exact lookup_mapNode (fun k n => if P k n then g n else n) c k

theorem map_if_grows (P : Hash → CNode → Bool) (g : CNode → CNode) (c : Cache)
    (hg : ∀ k n, P k n = true → (g n).toD = n.toD ∧ ∀ r ∈ n.childs, r ∈ (g n).childs) :
    Grows c (c.map fun kn => if P kn.1 kn.2 then (kn.1, g kn.2) else kn) := by
  refine ⟨fun k n' hk => ?_, fun k hk => ?_⟩
  · rw [lookup_map_if] at hk
    obtain ⟨n, hn, rfl⟩ := Option.map_eq_some_iff.mp hk
    refine ⟨n, hn, ?_⟩
    split
    · exact hg k n ‹_›
    · exact ⟨rfl, fun _ hr => hr⟩
  · obtain ⟨n, hn⟩ := lookup_of_has hk
    unfold Has
    rw [lookup_map_if, hn]
    rfl

theorem addExt_lookup (c : Cache) (p ch k : Hash) :
    (addExt c p ch).lookup k = (c.lookup k).map fun n => if k == p then n.addExt ch else n :=
  lookup_map_if (fun k _ => k == p) (·.addExt ch) c k

theorem addExt_grows (c : Cache) (p ch : Hash) : Grows c (addExt c p ch) :=
  map_if_grows (fun k _ => k == p) (·.addExt ch) c fun _ _ _ =>
    ⟨rfl, fun _ hr => List.mem_append.mpr ((List.mem_append.mp hr).imp_left (List.mem_append_left _))⟩

theorem sameMembers_mem_iff {a b : List Hash} (h : sameMembers a b = true) (r : Hash) : r ∈ a ↔ r ∈ b := by
  unfold sameMembers at h
  simp only [Bool.and_eq_true, List.all_eq_true, List.contains_iff_mem] at h
  exact ⟨h.1.2 r, h.2 r⟩

theorem reorderExt_grows (c : Cache) (h : Hash) (ord : List Hash) : Grows c (reorderExt c h ord) :=
  map_if_grows (fun k n => k == h && sameMembers ord n.ext) (·.setExt ord) c fun _ _ hP =>
    ⟨rfl, fun r hr => List.mem_append.mpr ((List.mem_append.mp hr).imp_left
      (sameMembers_mem_iff (Bool.and_eq_true_iff.mp hP).2 r).mpr)⟩

theorem reference_cases {c c' : Cache} {ch p : Hash} (h : reference c ch p = some c') :
    (c' = c ∧ (Has c ch → ∃ pn, c.lookup p = some pn ∧ ch ∈ pn.ext)) ∨ (Has c p ∧ c' = addExt c p ch) := by
  unfold reference at h
  cases h1 : c.lookup ch with
  | none =>
    rw [h1] at h
    cases h
    exact Or.inl ⟨rfl, fun hc => absurd hc (not_has_of_lookup h1)⟩
  | some _ =>
    cases h2 : c.lookup p with
    | none => rw [h1, h2] at h; cases h
    | some pn =>
      rw [h1, h2] at h
      dsimp only at h
      split at h
      · cases h
        exact Or.inl ⟨rfl, fun _ => ⟨pn, rfl, List.contains_iff_mem.mp ‹_›⟩⟩
      · cases h
        exact Or.inr ⟨has_of_lookup h2, rfl⟩

theorem reference_grows {c c' : Cache} {ch p : Hash} (h : reference c ch p = some c') : Grows c c' := by
  rcases reference_cases h with ⟨rfl, _⟩ | ⟨_, rfl⟩
  · exact grows_refl _
  · exact addExt_grows c p ch

theorem reference_adds {c c' : Cache} {ch p : Hash} (hc : Has c ch) (hp : Has c p)
    (h : reference c ch p = some c') : ∃ pn', c'.lookup p = some pn' ∧ ch ∈ pn'.ext := by
  rcases reference_cases h with ⟨rfl, h1⟩ | ⟨_, rfl⟩
  · exact h1 hc
  · obtain ⟨pn, hpn⟩ := lookup_of_has hp
    refine ⟨pn.addExt ch, ?_, List.mem_append_right _ (List.mem_singleton_self ch)⟩
    rw [addExt_lookup, hpn, Option.map_some, if_pos (beq_self_eq_true p)]

/-- `reference` answers `none` (the Go panic on a missing parent) only when the parent is not cached. -/
theorem reference_none_iff {c : Cache} {ch p : Hash} (hp : Has c p) : (reference c ch p).isSome = true := by
  obtain ⟨pn, hpn⟩ := lookup_of_has hp
  unfold reference
  cases c.lookup ch with
  | none => rfl
  | some _ => rw [hpn]; dsimp only; split <;> rfl

theorem leafRefs_split {eD eC : Hash} {c c' : Cache} {p root code : Hash}
    (h : leafRefs eD eC c p root code = some c') :
    ∃ c1, (if root != eD then reference c root p else some c) = some c1 ∧
      (if code != eC then reference c1 code p else some c1) = some c' := by
  unfold leafRefs at h
  generalize (if root != eD then reference c root p else some c) = x at h
  cases x with
  | none => cases h
  | some c1 => exact ⟨c1, rfl, h⟩

theorem ite_reference_grows {c c' : Cache} {b : Bool} {ch p : Hash}
    (h : (if b then reference c ch p else some c) = some c') : Grows c c' := by
  cases b with
  | true => exact reference_grows h
  | false => cases h; exact grows_refl c

theorem leafRefs_grows {eD eC : Hash} {c c' : Cache} {p root code : Hash}
    (h : leafRefs eD eC c p root code = some c') : Grows c c' := by
  obtain ⟨c1, h1, h2⟩ := leafRefs_split h
  exact grows_trans (ite_reference_grows h1) (ite_reference_grows h2)

theorem leafRefs_adds {eD eC : Hash} {c c' : Cache} {p root code : Hash} (hp : Has c p)
    (h : leafRefs eD eC c p root code = some c') :
    ∃ pn', c'.lookup p = some pn' ∧
      (root ≠ eD → Has c root → root ∈ pn'.childs) ∧ (code ≠ eC → Has c code → code ∈ pn'.childs) := by
  obtain ⟨c1, hc1, h2⟩ := leafRefs_split h
  have g1 : Grows c c1 := ite_reference_grows hc1
  have g2 : Grows c1 c' := ite_reference_grows h2
  obtain ⟨pn', hpn'⟩ := lookup_of_has (g2.2 p (g1.2 p hp))
  refine ⟨pn', hpn', fun hne hr => ?_, fun hne hr => ?_⟩
  · rw [if_pos (bne_iff_ne.mpr hne)] at hc1
    obtain ⟨pn1, h1, h3⟩ := reference_adds hr hp hc1
    obtain ⟨m, hm, _, e3⟩ := g2.1 p pn' hpn'
    cases h1.symm.trans hm
    exact e3 root (List.mem_append_left _ h3)
  · rw [if_pos (bne_iff_ne.mpr hne)] at h2
    obtain ⟨pn2, h1, h3⟩ := reference_adds (g1.2 code hr) (g1.2 p hp) h2
    cases h1.symm.trans hpn'
    exact List.mem_append_left _ h3

theorem insert_old {c : Cache} {h : Hash} {n m : CNode} (hm : c.lookup h = some m) : insert c h n = c := by
  rw [insert, hm]

theorem insert_new {c : Cache} {h : Hash} {n : CNode} (hn : c.lookup h = none) : insert c h n = (h, n) :: c := by
  rw [insert, hn]

theorem insert_has_mono {c : Cache} (h : Hash) (n : CNode) {r : Hash} (hr : Has c r) : Has (insert c h n) r := by
  cases hl : c.lookup h with
  | some m => rw [insert_old hl]; exact hr
  | none => rw [insert_new hl]; exact has_cons.mpr (Or.inr hr)

theorem insert_has_self (c : Cache) (h : Hash) (n : CNode) : Has (insert c h n) h := by
  cases hl : c.lookup h with
  | some m => rw [insert_old hl]; exact has_of_lookup hl
  | none => rw [insert_new hl]; exact has_cons.mpr (Or.inl rfl)

theorem store_grows {eD eC : Hash} {c c' : Cache} {h : Hash} {n : CNode} {leaf : Option (Hash × Hash)}
    (hs : store eD eC c h n leaf = some c') : Grows (insert c h n) c' := by
  unfold store at hs
  cases leaf with
  | none => cases hs; exact grows_refl _
  | some rc => exact leafRefs_grows hs

/-- The common core of `store_inv` (which gets `hnew` from `StoreOk`) and `store_inv_checked` (from `storeCheck`).  `hnew`
    speaks of the cache `c'` that `store` returns and not of the cache after the insert because the leaf callback adds
    the external children afterwards. -/
theorem store_inv_of_needs {eD eC : Hash} {s : St} {h : Hash} {n : CNode} {leaf : Option (Hash × Hash)} {c' : Cache}
    (hi : Inv s) (hs : store eD eC s.cache h n leaf = some c')
    (hnew : s.cache.lookup h = none → (∀ dn, s.disk.lookup h = some dn → dn = n.toD) ∧
      ∀ n', c'.lookup h = some n' → ∀ r ∈ n.need, Has s.disk r ∨ (r ∈ n'.childs ∧ Has c' r)) :
    Inv ⟨c', s.disk⟩ := by
  have hg := store_grows hs
  cases hl : s.cache.lookup h with
  | some m => rw [insert_old hl] at hg; exact hi.of_grows hg
  | none =>
    obtain ⟨hcons, hneed⟩ := hnew hl
    rw [insert_new hl] at hg
    have hcons1 : Consistent ((h, n) :: s.cache) s.disk := by
      intro k m dn hk hd
      by_cases hkh : k = h
      · subst hkh; rw [List.lookup_cons_self] at hk; cases hk; exact hcons dn hd
      · rw [lookup_cons_ne hkh] at hk; exact hi.consistent k m dn hk hd
    refine ⟨hi.allRes, fun k n' hk r hr => ?_, grows_consistent hg hcons1⟩
    obtain ⟨n1, hn1, e2, e3⟩ := hg.1 k n' hk
    rw [show n'.need = n1.need from congrArg DNode.need e2] at hr
    by_cases hkh : k = h
    · subst hkh
      rw [List.lookup_cons_self] at hn1
      cases hn1
      exact hneed n' hk r hr
    · rw [lookup_cons_ne hkh] at hn1
      exact (hi.cacheInv k n1 hn1 r hr).imp_right fun hc =>
        ⟨e3 r hc.1, hg.2 r (has_cons.mpr (Or.inr hc.2))⟩

/-- `Props.C03.leaf_refs_covered`, invariant form -/
theorem store_inv {eD eC : Hash} {s : St} {h : Hash} {n : CNode} {leaf : Option (Hash × Hash)} {c' : Cache}
    (hi : Inv s) (hok : StoreOk eD eC s h n leaf) (hs : store eD eC s.cache h n leaf = some c') :
    Inv ⟨c', s.disk⟩ := by
  obtain ⟨_, hcons, hneed⟩ := hok
  refine store_inv_of_needs hi hs fun hl => ⟨hcons, fun n' hk r hr => ?_⟩
  have hg := store_grows hs
  refine (hneed r hr).imp_right fun ⟨hcr, hwhere⟩ => ⟨?_, hg.2 r (insert_has_mono h n hcr)⟩
  rcases hwhere with hin | ⟨root, code, rfl, hrc⟩
  · -- a hash child of the node as stored stays a child whatever the callback adds
    obtain ⟨n1, hn1, _, e3⟩ := hg.1 h n' hk
    rw [insert_new hl, List.lookup_cons_self] at hn1
    cases hn1
    exact e3 r (List.mem_append_right _ hin)
  · obtain ⟨pn', hpn', a1, a2⟩ := leafRefs_adds (insert_has_self s.cache h n) hs
    cases hpn'.symm.trans hk
    rcases hrc with ⟨rfl, h2⟩ | ⟨rfl, h2⟩
    · exact a1 h2 (insert_has_mono h n hcr)
    · exact a2 h2 (insert_has_mono h n hcr)

/-- The runtime-checked counterpart of `store_inv`: instead of assuming what the
    callers of `hasher.store` guarantee (`StoreOk`), it suffices that the driver's
    `storeCheck` passed — which it verifies on every `ins`/`insl` of every run. -/
theorem store_inv_checked {eD eC : Hash} {s : St} {h : Hash} {n : CNode} {leaf : Option (Hash × Hash)} {c' : Cache}
    (hi : Inv s) (hs : store eD eC s.cache h n leaf = some c')
    (hck : (s.cache.lookup h).isSome = true ∨ storeCheck s.disk c' h n = true) : Inv ⟨c', s.disk⟩ := by
  refine store_inv_of_needs hi hs fun hl => ?_
  have hck' : storeCheck s.disk c' h n = true := hck.resolve_left (not_has_of_lookup hl)
  obtain ⟨hc1, hc2⟩ := Bool.and_eq_true_iff.mp hck'
  refine ⟨fun dn hd => ?_, fun n' hk r hr => ?_⟩
  · rw [hd] at hc1
    exact of_decide_eq_true hc1
  · rw [hk] at hc2
    rcases Bool.or_eq_true_iff.mp (List.all_eq_true.mp hc2 r hr) with hd | hcc
    · exact Or.inl hd
    · obtain ⟨h1, h2⟩ := Bool.and_eq_true_iff.mp hcc
      exact Or.inr ⟨List.contains_iff_mem.mp h2, h1⟩

theorem uncache_lookup (c : Cache) (ws : List Hash) (k : Hash) :
    (uncache c ws).lookup k = if k ∈ ws then none else c.lookup k := by
  unfold uncache
  rw [lookup_filter_key (fun k => !ws.contains k) c k]
  by_cases hk : k ∈ ws
  · rw [if_pos hk, List.contains_iff_mem.mpr hk]; rfl
  · rw [if_neg hk, Bool.eq_false_iff.mpr (mt List.contains_iff_mem.mp hk)]; rfl

theorem uncache_sub {c : Cache} {ws : List Hash} {k : Hash} {n : CNode} (h : (uncache c ws).lookup k = some n) :
    c.lookup k = some n ∧ k ∉ ws := by
  rw [uncache_lookup] at h
  split at h
  · cases h
  · exact ⟨h, ‹_›⟩

theorem commit_eq_commitWith (s : St) (root : Hash) (failAt : Option Nat) (fuel : Nat) :
    commit s root failAt fuel = (walk s.cache fuel root).map (commitWith s failAt) := by
  unfold commit commitWith
  cases walk s.cache fuel root with
  | none => rfl
  | some ws =>
    cases failAt with
    | none => rfl
    | some k => dsimp only [Option.map_some]; split <;> rfl

theorem commit_eq_some {s : St} {root : Hash} {failAt : Option Nat} {fuel : Nat} {out : CommitOut}
    (hc : commit s root failAt fuel = some out) :
    ∃ ws, walk s.cache fuel root = some ws ∧ commitWith s failAt ws = out := by
  rw [commit_eq_commitWith] at hc
  exact Option.map_eq_some_iff.mp hc

/-- all that the proofs below use of `commitWith` -/
theorem commitWith_cases (s : St) (failAt : Option Nat) (ws : List Hash) :
    ∃ p, p <+: ws ∧ (commitWith s failAt ws).st.disk = applyWrites s.cache s.disk p ∧
      (((commitWith s failAt ws).ok = false ∧ (commitWith s failAt ws).st.cache = s.cache) ∨
       ((commitWith s failAt ws).ok = true ∧ (commitWith s failAt ws).st.cache = uncache s.cache ws ∧ p = ws)) := by
  have hall : applyBatches s.cache s.disk (splitBatches s.cache ws [] 0) = applyWrites s.cache s.disk ws := by
    rw [applyBatches_eq, batches_flatten]
  unfold commitWith
  cases failAt with
  | none => exact ⟨ws, List.prefix_refl ws, hall, Or.inr ⟨rfl, rfl, rfl⟩⟩
  | some k =>
    dsimp only
    split
    · exact ⟨_, take_batches_prefix s.cache ws k, applyBatches_eq _ _ _, Or.inl ⟨rfl, rfl⟩⟩
    · exact ⟨ws, List.prefix_refl ws, hall, Or.inr ⟨rfl, rfl, rfl⟩⟩

theorem commitWith_ok {s : St} {failAt : Option Nat} {ws : List Hash} (hok : (commitWith s failAt ws).ok = true) :
    (commitWith s failAt ws).st.disk = applyWrites s.cache s.disk ws ∧
      (commitWith s failAt ws).st.cache = uncache s.cache ws := by
  obtain ⟨p, _, hd, ⟨hf, _⟩ | ⟨_, hc, rfl⟩⟩ := commitWith_cases s failAt ws
  · rw [hok] at hf; cases hf
  · exact ⟨hd, hc⟩

theorem commitWith_failed {s : St} {failAt : Option Nat} {ws : List Hash} (hfail : (commitWith s failAt ws).ok = false) :
    (commitWith s failAt ws).st.cache = s.cache := by
  obtain ⟨p, _, _, ⟨_, hc⟩ | ⟨ht, _⟩⟩ := commitWith_cases s failAt ws
  · exact hc
  · rw [hfail] at ht; cases ht

theorem commitWith_extends {s : St} (failAt : Option Nat) (ws : List Hash) (hcs : Consistent s.cache s.disk) :
    Extends s.disk (commitWith s failAt ws).st.disk := by
  obtain ⟨p, _, hd, _⟩ := commitWith_cases s failAt ws
  rw [hd]
  exact (writes_extends p s.disk hcs).1

theorem root_on_disk {s : St} {root : Hash} {ws : List Hash} (g : GoodTrace s.cache s.disk root ws)
    (hroot : (liveLookup s root).isSome = true) : Has (applyWrites s.cache s.disk ws) root := by
  cases hc : s.cache.lookup root with
  | some n => exact has_of_lookup (writes_lookup hc ws s.disk (Or.inl (g.top (has_of_lookup hc))))
  | none =>
    rw [live_uncached hc] at hroot
    unfold Has
    rw [writes_uncached hc]
    exact hroot

/-- Completeness of a commit all of whose Puts reached the disk.  The disk is then a closed part of what the
    live database answered before: a part by `writes_sub_live`, closed because every hash it holds resolves.
    So below any hash the disk holds, a reader of the disk alone finds node by node what the live reader found. -/
theorem written_disk_agrees_with_live {s : St} {root : Hash} {ws : List Hash} (hi : Inv s) (g : GoodTrace s.cache s.disk root ws) :
    ∀ h, Has (applyWrites s.cache s.disk ws) h → ∀ n, liveLookup s h = some n →
      diskGet (applyWrites s.cache s.disk ws) h = some n ∧ ∀ r ∈ n.need, Has (applyWrites s.cache s.disk ws) r := by
  have hcl := allRes_closed (g.prefix_allRes hi.allRes hi.consistent (List.prefix_refl ws))
  intro h hh n hn
  obtain ⟨dn, hdn⟩ := lookup_of_has hh
  cases (writes_sub_live hi.consistent ws hdn).symm.trans hn
  exact ⟨hdn, hcl h _ hdn⟩

theorem commit_view {s : St} {root : Hash} {ws : List Hash} (hi : Inv s) (g : GoodTrace s.cache s.disk root ws) :
    ∀ (f : Nat) (h : Hash) (v : Nat × Nat), Has (applyWrites s.cache s.disk ws) h →
      view (liveLookup s) f h = some v →
      view (diskGet (applyWrites s.cache s.disk ws)) f h = some v :=
  view_transfer (liveLookup s) (diskGet (applyWrites s.cache s.disk ws)) _ (written_disk_agrees_with_live hi g)

theorem commitWith_inv {s : St} {root : Hash} {ws : List Hash} (failAt : Option Nat) (hi : Inv s)
    (g : GoodTrace s.cache s.disk root ws) : Inv (commitWith s failAt ws).st := by
  obtain ⟨p, hp, hd, hcache⟩ := commitWith_cases s failAt ws
  have hcs := (writes_extends p s.disk hi.consistent).2
  have hext := (writes_extends p s.disk hi.consistent).1
  refine ⟨hd ▸ g.prefix_allRes hi.allRes hi.consistent hp, ?_, ?_⟩
  · rw [hd]
    rcases hcache with ⟨_, hc⟩ | ⟨_, hc, rfl⟩
    · rw [hc]
      exact fun k n hk r hr => (hi.cacheInv k n hk r hr).imp_left (extends_has hext)
    · -- what leaves the cache was written; what stays keeps its cached children or finds them on disk
      rw [hc]
      intro k n hk r hr
      refine (hi.cacheInv k n (uncache_sub hk).1 r hr).elim (fun hd => Or.inl (extends_has hext hd)) fun hch => ?_
      by_cases hrw : r ∈ p
      · obtain ⟨m, hm⟩ := lookup_of_has hch.2
        exact Or.inl (has_of_lookup (writes_lookup hm p s.disk (Or.inl hrw)))
      · refine Or.inr ⟨hch.1, ?_⟩
        unfold Has
        rw [uncache_lookup, if_neg hrw]
        exact hch.2
  · rw [hd]
    rcases hcache with ⟨_, hc⟩ | ⟨_, hc, rfl⟩
    · rw [hc]; exact hcs
    · rw [hc]
      exact fun k n dn hk hd => hcs k n dn (uncache_sub hk).1 hd

/-- Puts do not touch what is not cached, and a node leaves the cache only after a Put stored what the cache answered for it. -/
theorem live_commitWith (s : St) (failAt : Option Nat) (ws : List Hash) (h : Hash) :
    liveLookup (commitWith s failAt ws).st h = liveLookup s h := by
  obtain ⟨p, _, hd, hcache⟩ := commitWith_cases s failAt ws
  cases hl : s.cache.lookup h with
  | none =>
    have hl' : (commitWith s failAt ws).st.cache.lookup h = none := by
      rcases hcache with ⟨_, hc⟩ | ⟨_, hc, _⟩
      · rw [hc, hl]
      · rw [hc, uncache_lookup, hl, ite_self]
    rw [live_uncached hl', live_uncached hl, hd, writes_uncached hl]
  | some n =>
    rw [live_cached hl]
    rcases hcache with ⟨_, hc⟩ | ⟨_, hc, rfl⟩
    · exact live_cached (hc ▸ hl)
    · by_cases hin : h ∈ p
      · rw [live_uncached (by rw [hc, uncache_lookup, if_pos hin]), hd, writes_lookup hl p s.disk (Or.inl hin)]
      · exact live_cached (by rw [hc, uncache_lookup, if_neg hin, hl])

theorem commit_good {s : St} {root : Hash} {failAt : Option Nat} {fuel : Nat} {out : CommitOut}
    (hi : Inv s) (hc : commit s root failAt fuel = some out) :
    ∃ ws, GoodTrace s.cache s.disk root ws ∧ commitWith s failAt ws = out := by
  obtain ⟨ws, hw, rfl⟩ := commit_eq_some hc
  exact ⟨ws, walk_good _ _ hi.cacheInv fuel root ws hw, rfl⟩

theorem commit_ok_complete {s : St} {root : Hash} {failAt : Option Nat} {fuel : Nat} {out : CommitOut} (hi : Inv s)
    (hc : commit s root failAt fuel = some out) (hok : out.ok = true) (hroot : (liveLookup s root).isSome = true) :
    Resolvable out.st.disk root ∧
      ∀ f v, view (liveLookup s) f root = some v → view (diskGet out.st.disk) f root = some v := by
  obtain ⟨ws, g, rfl⟩ := commit_good hi hc
  rw [(commitWith_ok hok).1]
  have hr := root_on_disk g hroot
  exact ⟨g.prefix_allRes hi.allRes hi.consistent (List.prefix_refl ws) root hr, fun f v => commit_view hi g f root v hr⟩

theorem pickOrder_mem (h : Hash) (ext : List Hash) (ords : Ords) (x : Hash) :
    x ∈ (pickOrder h ext ords).1 ↔ x ∈ ext := by
  cases ords with
  | nil => exact Iff.rfl
  | cons ko rest =>
    show x ∈ (if (ko.1 == h && sameMembers ko.2 ext) = true then (ko.2, rest) else (ext, ko :: rest)).1 ↔ _
    split
    · exact sameMembers_mem_iff (Bool.and_eq_true_iff.mp ‹_›).2 x
    · exact Iff.rfl

theorem foldKids_all2 {g : Hash → Ords → Option (List Hash × Ords)} {R : Hash → List Hash → Prop}
    (hg : ∀ x o t o', g x o = some (t, o') → R x t) (kids : List Hash) :
    ∀ (o : Ords) (ws : List Hash) (o' : Ords), foldKids g kids o = some (ws, o') →
      ∃ ts, All2 R kids ts ∧ ws = ts.flatten := by
  induction kids with
  | nil =>
    intro o ws o' h
    cases h
    exact ⟨[], All2.nil, rfl⟩
  | cons x xs ih =>
    intro o ws o' h
    unfold foldKids at h
    cases hx : g x o with
    | none => rw [hx] at h; cases h
    | some r =>
      rw [hx] at h
      dsimp only at h
      cases hr : foldKids g xs r.2 with
      | none => rw [hr] at h; cases h
      | some r2 =>
        rw [hr] at h
        cases h
        obtain ⟨tss, h1, h2⟩ := ih r.2 r2.1 r2.2 hr
        exact ⟨r.1 :: tss, All2.cons (hg x o r.1 r.2 hx) h1, by rw [h2]; rfl⟩

theorem walkO_walksN (c : Cache) : ∀ (f : Nat) (h : Hash) (ords : Ords) (ws : List Hash) (o' : Ords),
    walkO c f h ords = some (ws, o') → WalksN c f h ws := by
  intro f
  induction f with
  | zero => exact fun _ _ _ _ hw => nomatch hw
  | succ f ih =>
    intro h ords ws o' hw
    unfold walkO at hw
    cases hl : c.lookup h with
    | none =>
      rw [hl] at hw
      cases hw
      exact (walksN_uncached hl f []).mpr rfl
    | some n =>
      rw [hl] at hw
      dsimp only at hw
      cases hk : foldKids (walkO c f) ((pickOrder h n.ext ords).1 ++ n.inner) (pickOrder h n.ext ords).2 with
      | none => rw [hk] at hw; cases hw
      | some r =>
        rw [hk] at hw
        cases hw
        obtain ⟨tss, h1, h2⟩ := foldKids_all2 (R := WalksN c f) ih _ _ _ _ hk
        exact (walksN_cached hl f _).mpr ⟨_, tss, pickOrder_mem h n.ext ords, h1, by rw [h2]⟩

theorem commitV_good {s : St} {root : Hash} {failAt : Option Nat} {fuel : Nat} {ords : Ords} {out : CommitOut}
    (hi : Inv s) (hc : commitV s root failAt fuel ords = some out) :
    ∃ ws, GoodTrace s.cache s.disk root ws ∧ commitWith s failAt ws = out := by
  unfold commitV at hc
  cases hw : walkO s.cache fuel root ords with
  | none => rw [hw] at hc; cases hc
  | some r =>
    rw [hw] at hc
    cases hc
    exact ⟨r.1, walksN_good _ _ hi.cacheInv fuel root r.1 (walkO_walksN _ fuel root ords r.1 r.2 hw), rfl⟩

theorem inv_empty : Inv St.empty := ⟨nofun, nofun, nofun⟩

theorem step_sound {eD eC : Hash} {s s' : St} {op : Op} (hi : Inv s) (hs : step eD eC s op = some s') :
    Extends s.disk s'.disk ∧ (OpOk eD eC s op → Inv s') := by
  cases op with
  | store h n leaf =>
    obtain ⟨c', hc', rfl⟩ := Option.map_eq_some_iff.mp hs
    exact ⟨extends_refl _, fun hok => store_inv hi hok hc'⟩
  | ref child parent =>
    obtain ⟨c', hc', rfl⟩ := Option.map_eq_some_iff.mp hs
    exact ⟨extends_refl _, fun _ => hi.of_grows (reference_grows hc')⟩
  | reorder h ord =>
    cases hs
    exact ⟨extends_refl _, fun _ => hi.of_grows (reorderExt_grows s.cache h ord)⟩
  | commit root failAt =>
    obtain ⟨o, ho, rfl⟩ := Option.map_eq_some_iff.mp hs
    obtain ⟨ws, g, rfl⟩ := commit_good hi ho
    exact ⟨commitWith_extends failAt ws hi.consistent, fun _ => commitWith_inv failAt hi g⟩
  | commitV root failAt ords =>
    obtain ⟨o, ho, rfl⟩ := Option.map_eq_some_iff.mp hs
    obtain ⟨ws, g, rfl⟩ := commitV_good hi ho
    exact ⟨commitWith_extends failAt ws hi.consistent, fun _ => commitWith_inv failAt hi g⟩
  | die =>
    cases hs
    exact ⟨extends_refl _, fun _ => ⟨hi.allRes, nofun, nofun⟩⟩

inductive Reach (eD eC : Hash) : St → Prop where
  | init : Reach eD eC St.empty
  | step {s s' : St} (op : Op) : Reach eD eC s → OpOk eD eC s op → step eD eC s op = some s' → Reach eD eC s'

theorem reach_inv {eD eC : Hash} {s : St} (h : Reach eD eC s) : Inv s := by
  induction h with
  | init => exact inv_empty
  | step op _ hok hs ih => exact (step_sound ih hs).2 hok

/-- a `store` step is accepted when the node was cached already (a no-op insert, the
    leaf callback only adds references) or the driver's `storeCheck` passed -/
def OpChecked (s s' : St) : Op → Prop
  | .store h n _ => (s.cache.lookup h).isSome = true ∨ storeCheck s.disk s'.cache h n = true
  | _ => True

theorem step_inv_checked {eD eC : Hash} {s s' : St} {op : Op} (hi : Inv s) (hok : OpChecked s s' op)
    (hs : step eD eC s op = some s') : Inv s' := by
  cases op with
  | store h n leaf =>
    obtain ⟨c', hc', rfl⟩ := Option.map_eq_some_iff.mp hs
    exact store_inv_checked hi hc' hok
  | _ => exact (step_sound hi hs).2 trivial

/-- the states a driver run passes through when every `ins`/`insl` was answered `ok` or `dup` -/
inductive ReachChecked (eD eC : Hash) : St → Prop where
  | init : ReachChecked eD eC St.empty
  | step {s s' : St} (op : Op) : ReachChecked eD eC s → step eD eC s op = some s' → OpChecked s s' op →
      ReachChecked eD eC s'

theorem reachChecked_inv {eD eC : Hash} {s : St} (h : ReachChecked eD eC s) : Inv s := by
  induction h with
  | init => exact inv_empty
  | step op _ hs hok ih => exact step_inv_checked ih hok hs

end Rangers.Model.TrieDB
