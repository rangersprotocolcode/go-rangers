import Rangers.Proofs.TrieBasic
/- Usable forms of the minimal-form invariant `WF`: the shape of a short node and of the slots of a full node (`SlotOK`, `SlotsOK`),
   the count of occupied slots (`countNN`, `occupied`), a slot replaced (`slots_set`), induction over a minimal-form trie (`WF_induct`). -/
namespace Rangers.Trie
open Rangers

/-- what `WF` allows in slot `i` of a full node: nothing, or a non-empty value in the value slot 16 and a minimal-form
    subtrie in the others (`WFslots_iff`) -/
def SlotOK (i : Nat) (c : Node) : Prop :=
  c = .nil ∨ (if i = 16 then ∃ b, c = .value b ∧ b ≠ [] else WF c)

theorem WF_short_iff (k : Key) (v : Node) :
    WF (.short k v) ↔ (∃ b, v = .value b ∧ ValidKey k ∧ b ≠ []) ∨
                       (∃ cs, v = .full cs ∧ k ≠ [] ∧ Nibs k ∧ WF (.full cs)) := by
  cases v <;> simp [WF]

theorem WF_leaf {k : Key} {val : Bytes} (hk : ValidKey k) (hv : val ≠ []) : WF (.short k (.value val)) :=
  (WF_short_iff _ _).mpr (Or.inl ⟨val, rfl, hk, hv⟩)

theorem WF_ext {kk : Key} {cs : List Node} (hne : kk ≠ []) (hn : Nibs kk) (hwf : WF (.full cs)) :
    WF (.short kk (.full cs)) :=
  (WF_short_iff _ _).mpr (Or.inr ⟨cs, rfl, hne, hn, hwf⟩)

theorem WFslots_iff (cs : List Node) (s : Nat) :
    WFslots cs s ↔ ∀ j, j < cs.length → SlotOK (s + j) (cs[j]?.getD .nil) := by
  induction cs generalizing s with
  | nil => exact ⟨fun _ j hj => absurd hj (Nat.not_lt_zero _), fun _ => trivial⟩
  | cons c cs ih =>
    have hstep : ∀ j, SlotOK (s + 1 + j) (cs[j]?.getD .nil) = SlotOK (s + (j + 1)) ((c :: cs)[j + 1]?.getD .nil) := by
      intro j; rw [Nat.add_assoc, Nat.add_comm 1 j]; rfl
    constructor
    · rintro ⟨h0, h1⟩ j hj
      cases j with
      | zero => exact h0
      | succ j => exact hstep j ▸ (ih (s + 1)).mp h1 j (Nat.lt_of_succ_lt_succ hj)
    · intro h
      exact ⟨h 0 (Nat.zero_lt_succ _), (ih (s + 1)).mpr (fun j hj => hstep j ▸ h (j + 1) (Nat.succ_lt_succ hj))⟩

theorem WF_full_iff (cs : List Node) :
    WF (.full cs) ↔ cs.length = 17 ∧ (∀ j, j < 17 → SlotOK j (cs[j]?.getD .nil)) ∧ 2 ≤ countNN cs := by
  simp only [WF, WFslots_iff, Nat.zero_add]
  constructor
  · rintro ⟨h1, h2, h3⟩; exact ⟨h1, fun j hj => h2 j (h1 ▸ hj), h3⟩
  · rintro ⟨h1, h2, h3⟩; exact ⟨h1, fun j hj => h2 j (h1 ▸ hj), h3⟩

theorem not_WF_value (b : Bytes) : ¬ WF (.value b) := by simp [WF]

theorem WF.ne_nil {t : Node} (h : WF t) : t ≠ .nil := by
  intro h0; subst h0; exact not_WF_nil h

theorem isNil_iff (c : Node) : isNil c = true ↔ c = .nil := by cases c <;> simp [isNil]
theorem isNil_false_iff (c : Node) : isNil c = false ↔ c ≠ .nil := by cases c <;> simp [isNil]

theorem countNN_set (cs : List Node) (i : Nat) (c : Node) (h : i < cs.length) :
    countNN (cs.set i c) + (if isNil (cs[i]?.getD .nil) then 0 else 1) = countNN cs + (if isNil c then 0 else 1) := by
  induction cs generalizing i with
  | nil => simp at h
  | cons x cs ih =>
    cases i with
    | zero => simp [countNN]; omega
    | succ i =>
      have := ih i (by simpa using h)
      simp only [List.set_cons_succ, countNN, List.getElem?_cons_succ]
      omega

theorem countNN_replicate (n : Nat) : countNN (List.replicate n .nil) = 0 := by
  induction n with
  | zero => simp [countNN]
  | succ n ih => simp [List.replicate_succ, countNN, isNil, ih]

@[simp] theorem getD_replicate_nil (n i : Nat) : (List.replicate n Node.nil)[i]?.getD .nil = .nil := by
  simp only [List.getElem?_replicate]
  split <;> rfl

theorem getD_set {α : Type} {d : α} (cs : List α) (i j : Nat) (c : α) (h : i < cs.length) :
    (cs.set i c)[j]?.getD d = if j = i then c else cs[j]?.getD d := by
  simp only [List.getElem?_set]
  by_cases hij : i = j
  · subst hij; simp [h]
  · have : ¬ j = i := fun h => hij h.symm
    simp [hij, this]

theorem set_getD_self (cs : List Node) (i : Nat) : cs.set i (cs[i]?.getD .nil) = cs := by
  induction cs generalizing i with
  | nil => simp
  | cons x cs ih =>
    cases i with
    | zero => simp
    | succ i => simp only [List.set_cons_succ, List.getElem?_cons_succ, ih i]

/-- the occupied slots, in ascending order (`soleChild` looks at this list) -/
def occupied (cs : List Node) : List Nat := (List.range cs.length).filter (fun i => !isNil (cs[i]?.getD .nil))

theorem mem_occupied {cs : List Node} {i : Nat} : i ∈ occupied cs ↔ i < cs.length ∧ cs[i]?.getD .nil ≠ .nil := by
  simp [occupied, isNil_false_iff]

theorem occupied_sorted (cs : List Node) : (occupied cs).Pairwise (· < ·) := List.pairwise_lt_range.filter _

theorem occupied_length (cs : List Node) : (occupied cs).length = countNN cs := by
  unfold occupied
  induction cs with
  | nil => rfl
  | cons c cs ih =>
    rw [List.length_cons, List.range_succ_eq_map, List.filter_cons, List.filter_map, countNN, ← ih]
    cases hc : isNil c
    · simp [hc, Function.comp_def, Nat.add_comm]
    · simp [hc, Function.comp_def]

theorem exists_two_of_countNN (cs : List Node) (h : 2 ≤ countNN cs) :
    ∃ i j, i < j ∧ j < cs.length ∧ cs[i]?.getD .nil ≠ .nil ∧ cs[j]?.getD .nil ≠ .nil := by
  rw [← occupied_length] at h
  have hs := occupied_sorted cs
  match ho : occupied cs, h with
  | i :: j :: _, _ =>
    rw [ho] at hs
    have hi := mem_occupied.mp (ho ▸ List.mem_cons_self : i ∈ occupied cs)
    have hj := mem_occupied.mp (ho ▸ List.mem_cons_of_mem _ List.mem_cons_self : j ∈ occupied cs)
    exact ⟨i, j, List.rel_of_pairwise_cons hs List.mem_cons_self, hj.1, hi.2, hj.2⟩

theorem WF_full_kids {cs : List Node} (hwf : WF (.full cs)) : ∀ x ∈ cs.take 16, x = .nil ∨ (x ∈ cs ∧ WF x) := by
  obtain ⟨hlen, hslots, _⟩ := (WF_full_iff cs).mp hwf
  intro x hx
  obtain ⟨i, hi, rfl⟩ := List.getElem_of_mem hx
  have hi16 : i < 16 := by rw [List.length_take] at hi; omega
  have := hslots i (by omega)
  rw [List.getElem?_eq_getElem (by omega), Option.getD_some, SlotOK, if_neg (by omega)] at this
  rw [List.getElem_take]
  exact this.imp id (fun h => ⟨List.getElem_mem _, h⟩)

theorem WF_full_value {cs : List Node} (hwf : WF (.full cs)) :
    cs[16]?.getD .nil = .nil ∨ ∃ b, cs[16]?.getD .nil = .value b ∧ b ≠ [] := by
  have := ((WF_full_iff cs).mp hwf).2.1 16 (by omega)
  rwa [SlotOK, if_pos rfl] at this

theorem full_eq_kids_append {cs : List Node} (hlen : cs.length = 17) : cs = cs.take 16 ++ [cs[16]?.getD .nil] := by
  conv => lhs; rw [← List.take_append_drop 16 cs]
  rw [List.drop_eq_getElem_cons (by omega), List.getElem?_eq_getElem (by omega), Option.getD_some,
    List.drop_eq_nil_of_le (by omega)]

/-- `WF_full_kids` and `WF_full_value` say the same of the members of `cs.take 16` and of slot 16, for the encoders, which split
    the list that way; `WF_full_mem` says what is left of it for an arbitrary member of `cs`. -/
theorem slot_shape {cs : List Node} (hwf : WF (.full cs)) (j : Nat) :
    cs[j]?.getD .nil = .nil ∨ (j = 16 ∧ ∃ b, cs[j]?.getD .nil = .value b ∧ b ≠ []) ∨
      (j < 16 ∧ WF (cs[j]?.getD .nil) ∧ cs[j]?.getD .nil ∈ cs) := by
  obtain ⟨hlen, hslots, _⟩ := (WF_full_iff cs).mp hwf
  by_cases hj : j < 17
  · rcases hslots j hj with h | h
    · exact Or.inl h
    · by_cases h16 : j = 16
      · rw [if_pos h16] at h; exact Or.inr (Or.inl ⟨h16, h⟩)
      · rw [if_neg h16] at h
        exact Or.inr (Or.inr ⟨by omega, h, (getD_mem_or_nil cs j).resolve_left h.ne_nil⟩)
  · exact Or.inl (by rw [List.getElem?_eq_none (by omega)]; rfl)

theorem WF_full_mem {cs : List Node} (hwf : WF (.full cs)) {c : Node} (hc : c ∈ cs) :
    c = .nil ∨ (∃ b, c = .value b) ∨ WF c := by
  rw [full_eq_kids_append ((WF_full_iff cs).mp hwf).1] at hc
  rcases List.mem_append.mp hc with h | h
  · exact (WF_full_kids hwf c h).imp id (fun h => Or.inr h.2)
  · rw [List.mem_singleton.mp h]
    exact (WF_full_value hwf).imp id (fun ⟨b, hb, _⟩ => Or.inl ⟨b, hb⟩)

theorem SlotOK.of_wfRoot {i : Nat} {c : Node} (hi : i < 16) (h : WFRoot c) : SlotOK i c :=
  h.imp id (fun h => by rw [if_neg (by omega)]; exact h)

/-- the slots of a full node without the count: 17 of them, each empty or holding what its place allows -/
def SlotsOK (cs : List Node) : Prop := cs.length = 17 ∧ ∀ j, j < 17 → SlotOK j (cs[j]?.getD .nil)

theorem slotsOK_replicate : SlotsOK (List.replicate 17 .nil) :=
  ⟨List.length_replicate, fun j _ => Or.inl (getD_replicate_nil 17 j)⟩

theorem SlotsOK.set {cs : List Node} (h : SlotsOK cs) {i : Nat} (hi : i < 17) {c : Node} (hc : SlotOK i c) :
    SlotsOK (cs.set i c) := by
  refine ⟨by rw [List.length_set, h.1], fun j hj => ?_⟩
  rw [getD_set _ _ _ _ (by rw [h.1]; exact hi)]
  by_cases hji : j = i
  · rw [if_pos hji, hji]; exact hc
  · rw [if_neg hji]; exact h.2 j hj

theorem slots_set {cs : List Node} (hwf : WF (.full cs)) {i : Nat} (hi : i < 17) {c : Node} (hc : SlotOK i c) :
    SlotsOK (cs.set i c) ∧ 1 ≤ countNN (cs.set i c) ∧ (c ≠ .nil → 2 ≤ countNN (cs.set i c)) := by
  obtain ⟨hlen, hslots, hcnt⟩ := (WF_full_iff cs).mp hwf
  have hset := countNN_set cs i c (by omega)
  have h1 : (if isNil (cs[i]?.getD .nil) then 0 else 1) ≤ 1 := by split <;> decide
  refine ⟨SlotsOK.set ⟨hlen, hslots⟩ hi hc, ?_, fun hne => ?_⟩
  · have : (if isNil c then 0 else 1) ≤ 1 := by split <;> decide
    omega
  · rw [(isNil_false_iff c).mpr hne, if_neg Bool.false_ne_true] at hset
    omega

/-- what hangs in a minimal-form trie: nothing, a value, or a minimal-form node -/
def Visitable (n : Node) : Prop := n = .nil ∨ (∃ b, n = .value b) ∨ WF n

theorem Visitable.of_short {kk : Key} {v : Node} (h : WF (.short kk v)) : Visitable v := by
  rcases (WF_short_iff kk v).mp h with ⟨b, rfl, _, _⟩ | ⟨cs, rfl, _, _, hfull⟩
  · exact Or.inr (Or.inl ⟨b, rfl⟩)
  · exact Or.inr (Or.inr hfull)

theorem WF_induct {P : Node → Prop}
    (leaf : ∀ kk b, ValidKey kk → b ≠ [] → P (.short kk (.value b)))
    (ext : ∀ kk cs, kk ≠ [] → Nibs kk → WF (.full cs) → P (.full cs) → P (.short kk (.full cs)))
    (full : ∀ cs, WF (.full cs) → (∀ c ∈ cs, WF c → P c) → P (.full cs)) :
    ∀ t, WF t → P t := by
  intro t
  induction t using Node.induct with
  | hnil => exact fun h => absurd h not_WF_nil
  | hval b => exact fun h => absurd h (not_WF_value b)
  | hshort kk v ih =>
    intro hwf
    rcases (WF_short_iff kk v).mp hwf with ⟨b, rfl, hkk, hb⟩ | ⟨cs, rfl, hne, hnib, hfull⟩
    · exact leaf kk b hkk hb
    · exact ext kk cs hne hnib hfull (ih hfull)
  | hfull cs ih => exact fun hwf => full cs hwf ih

end Rangers.Trie
