import Rangers.Proofs.JournalRevert
import Rangers.Proofs.JournalObj
/-! Per-op `Rev` lemmas, the building blocks (`revAt_<step>`): what each step appends to the journal is undone exactly, up to
`SimP P D`, for every object relation `P` that `Absorbs`.  Where dirty sets are compared (`D`) a step needs the side
condition that keeps dirty set and `XObj` as they were: a created account is not in the dirty set, a written object is
already disarmed, a read does not make an empty read cache non-empty, a rewritten slot is coherent. -/
namespace Rangers.Proofs.Journal
open Rangers Rangers.Model.Journal

theorem resolve_res (s : ADB) (a b : Addr) : res (resolve s a).1 b = res s b := by
  cases h : res s a with
  | absent => rw [(resolve_absent h).1]
  | deleted => rw [resolve_deleted h]
  | live o => obtain ⟨s1, e, _, _, _, r⟩ := resolve_live h; rw [e]; exact r b

/-- the object an op finds after `getOrNewAccountObject(a)` in `s`: the live one, or a fresh one for an absent address -/
def Link (s : ADB) (a : Addr) (o : Obj) : Prop := res s a = .live o ∨ (res s a = .absent ∧ o = Obj.fresh)

theorem Link.cond {s : ADB} {a : Addr} {o : Obj} {Q : Obj → Prop} (hl : Link s a o)
    (h : match res s a with | .live o => Q o | _ => True) (hf : Q Obj.fresh) : Q o := by
  rcases hl with hl | ⟨_, rfl⟩
  · rw [hl] at h; exact h
  · exact hf

/-- a live object `o` sits in the object cache at `a`, and no panic has happened: where the steps on one object start -/
structure At (s : ADB) (a : Addr) (o : Obj) : Prop where
  live : s.crashed = false
  cached : mget s.objs a = some o
  nodel : o.deleted = false

theorem At.res {s : ADB} {a : Addr} {o : Obj} (h : At s a o) : res s a = .live o := by
  rw [res_def, h.cached]; simp [h.nodel]

theorem At.put {s : ADB} {a : Addr} {o x : Obj} (h : At s a o) (hx : x.deleted = false) : At (putObj s a x) a x :=
  ⟨h.live, mget_mset_self _ _ _, hx⟩

theorem resolveNew_some {s : ADB} {a : Addr} {s1 : ADB} {o : Obj} (h : resolveNew s a = (s1, some o)) (hs : s.crashed = false) :
    At s1 a o ∧ Link s a o := by
  cases hr : res s a with
  | deleted => rw [resolveNew_deleted hr] at h; cases h
  | absent =>
    rw [resolveNew_absent hr] at h
    simp only [Prod.mk.injEq, Option.some.injEq] at h
    obtain ⟨rfl, rfl⟩ := h
    exact ⟨⟨hs, by simp, rfl⟩, .inr ⟨hr, rfl⟩⟩
  | live o' =>
    rw [resolveNew_live hr] at h
    obtain ⟨s2, e, m, hd, hf, _⟩ := resolve_live hr
    rw [e] at h
    simp only [Prod.mk.injEq, Option.some.injEq] at h
    obtain ⟨rfl, rfl⟩ := h
    exact ⟨⟨by rw [hf]; exact hs, m, hd⟩, .inl hr⟩

theorem resolveNew_none {s : ADB} {a : Addr} {s1 : ADB} (h : resolveNew s a = (s1, none)) : s1 = s ∧ res s a = .deleted := by
  cases hr : res s a with
  | deleted => rw [resolveNew_deleted hr] at h; simp only [Prod.mk.injEq] at h; exact ⟨h.1.symm, rfl⟩
  | absent => rw [resolveNew_absent hr] at h; simp at h
  | live o' =>
    rw [resolveNew_live hr] at h
    obtain ⟨s2, e, _⟩ := resolve_live hr
    rw [e] at h; simp at h

theorem readAt_eq {s : ADB} {a : Addr} {o : Obj} (k : Key) (hm : mget s.objs a = some o) :
    (readAt s a k).1 = putObj s a (o.read k).1 ∧ (readAt s a k).2 = o.get k := by
  simp [readAt, hm, Obj.read_snd]

theorem At.readAt {s : ADB} {a : Addr} {o : Obj} (h : At s a o) (k : Key) : At (readAt s a k).1 a (o.read k).1 := by
  rw [(readAt_eq k h.cached).1]; exact h.put (by rw [Obj.read_fst_other]; exact h.nodel)

theorem setDataJ_eq {s : ADB} {a : Addr} {o : Obj} (k : Key) (v : Val) (hs : s.crashed = false)
    (hm : mget s.objs a = some o) :
    setDataJ s a k v = if v = o.get k then (readAt s a k).1
      else setDataRaw { (readAt s a k).1 with journal := (readAt s a k).1.journal ++ [Entry.storage a k (o.get k)] } a k v := by
  have hc1 : (readAt s a k).1.crashed = false := by simp [readAt, hm, putObj, hs]
  simp only [setDataJ]
  rw [show readAt s a k = ((readAt s a k).1, (readAt s a k).2) from rfl]
  simp only [hc1, Bool.false_eq_true, if_false, (readAt_eq k hm).2]

end Rangers.Proofs.Journal

namespace Rangers.Proofs.JournalG
open Rangers Rangers.Model.Journal Rangers.Proofs.Journal

/-- a non-existent account about to be created must not sit in the dirty set -/
def CreateOk (s : ADB) (a : Addr) : Prop := res s a = .absent → a ∉ s.dirtySet

instance (s : ADB) (a : Addr) : Decidable (CreateOk s a) := by unfold CreateOk; infer_instance

variable {P : List (Hash × Bytes) → Obj → Obj → Prop} {D : Prop}

section
variable (hP : ∀ cs, Closed (P cs) D) (c : Cfg)
include hP

theorem revAt_resolve (s : ADB) (a : Addr) : Rev c (SimP P D) s (resolve s a).1 :=
  .of_rel (fun h => by rw [resolve_fields]; exact h) (by rw [resolve_fields]) (by rw [resolve_fields]) (by rw [resolve_fields])
    (fun _ => .of_res hP (by rw [resolve_fields]) (by rw [resolve_fields]; exact .inner _) (resolve_res s a)
      (resolve_dirtySet s a))

theorem revAt_resolveNew (s : ADB) (a : Addr) (hok : D → CreateOk s a) : Rev c (SimP P D) s (resolveNew s a).1 := by
  cases hr : res s a with
  | deleted => rw [resolveNew_deleted hr]; exact .refl (relOk_SimP hP c) s
  | live o => rw [resolveNew_live hr]; exact revAt_resolve hP c s a
  | absent =>
    obtain ⟨_, hm, ht⟩ := resolve_absent hr
    rw [resolveNew_absent hr]
    refine ⟨id, rfl, rfl, [Entry.create a], rfl, fun hc => ?_⟩
    rw [undoAll_singleton, undo_create c hc]
    refine ⟨rfl, fun _ => ⟨.inner s, fun b => ?_, fun hD b => ?_⟩⟩
    · have : res { s with objs := mdel (mset s.objs a Obj.fresh) a, dirtySet := sdel (sadd s.dirtySet a) a,
                          journal := s.journal ++ [Entry.create a] } b = res s b := by
        simp only [res_def, mget_mdel, mget_mset]
        by_cases hab : a = b
        · subst hab; simp [hm, ht]
        · simp [hab]
      rw [this]; exact .refl (hP _).refl _
    · simp only [mem_sdel, mem_sadd]
      constructor
      · rintro ⟨h1, h2 | h2⟩
        · exact absurd h2 h1
        · exact h2
      · intro h; exact ⟨fun hb => hok hD hr (hb ▸ h), Or.inr h⟩

theorem Rev.afterNew {s s1 t : ADB} {a : Addr} {o : Obj} (hs : ¬ s.crashed = true) (hrn : resolveNew s a = (s1, some o))
    (hok : D → CreateOk s a) (h : At s1 a o → Link s a o → Rev c (SimP P D) s1 t) : Rev c (SimP P D) s t := by
  have ⟨hat, hl⟩ := resolveNew_some hrn (by simpa using hs)
  have h1 := revAt_resolveNew hP c s a hok
  rw [hrn] at h1
  exact h1.trans (relOk_SimP hP c) (h hat hl)

theorem revAt_put {s : ADB} {a : Addr} {o : Obj} (h : At s a o) (x : Obj) (hxd : x.deleted = false) (hx : P s.codes x o) :
    Rev c (SimP P D) s (putObj s a x) :=
  .of_rel id rfl rfl rfl fun _ => .of_upd hP (.putObj s a hxd) h.res hx (fun _ _ => Iff.rfl)

/-- the journaled write: entry `e`, then the raw setter storing `fwd` of the cached object; the undo method of `e` calls
    the raw setter storing `bwd`.  Where dirty sets are compared the object must have been disarmed (`onDirty == nil`,
    already dirty) before -/
theorem revAt_modify {s : ADB} {a : Addr} {o : Obj} (e : Entry) (fwd bwd : Obj → Obj) (h : At s a o) (harm : D → o.armed = false)
    (hfd : ∀ x, (fwd x).deleted = x.deleted ∧ (fwd x).armed = x.armed)
    (hbd : ∀ x, (bwd x).deleted = x.deleted ∧ (bwd x).armed = x.armed)
    (hundo : ∀ r : ADB, r.crashed = false →
      undo c r e = (match resolve r a with | (r1, none) => crash r1 | (r1, some _) => rawSet bwd r1 a))
    (hq : P s.codes (disarm (bwd (disarm (fwd o)))) o) :
    Rev c (SimP P D) s (rawSet fwd { s with journal := s.journal ++ [e] } a) := by
  have hres := h.res
  obtain ⟨hs, hm, hd⟩ := h
  refine .of_eq (markDirty { s with journal := s.journal ++ [e] } a (fwd o)) (by simp only [rawSet, hm]) hs [e]
    (by rw [markDirty_journal]) (by rw [markDirty_fields]) (by rw [markDirty_fields]) fun hc1 => ?_
  have u1 : Upd s (markDirty { s with journal := s.journal ++ [e] } a (fwd o)) a (disarm (fwd o)) :=
    (Upd.markDirty _ a ((hfd o).1.trans hd)).of_res rfl (.inner s) (res_congr rfl rfl)
  rw [undoAll_singleton, hundo _ hc1]
  obtain ⟨r1, e1, m1, u2, dd⟩ := modify_live u1.live bwd ((hbd _).1.trans ((hfd o).1.trans hd))
  rw [e1]
  simp only [rawSet, m1]
  refine .of_upd hP (u1.trans u2) hres hq (fun hD b => ?_)
  rw [dd b, (hbd _).2, markDirty_dirtySet, (hfd o).2, harm hD]; simp [disarm]

end

variable (hA : Absorbs P D) (c : Cfg)
include hA

theorem revAt_setNonceJ {s : ADB} {a : Addr} {o : Obj} (n : Nat) (h : At s a o) (harm : D → o.armed = false) :
    Rev c (SimP P D) s (setNonceRaw { s with journal := s.journal ++ [Entry.nonce a o.nonce] } a n) :=
  revAt_modify hA.closed c (Entry.nonce a o.nonce) (fun x => { x with nonce := n }) (fun x => { x with nonce := o.nonce }) h harm
    (fun _ => ⟨rfl, rfl⟩) (fun _ => ⟨rfl, rfl⟩) (fun _ hr => undo_nonce c hr a _) (hA.disarmed _ o harm)

theorem revAt_readAt {s : ADB} {a : Addr} {o : Obj} (k : Key) (h : At s a o) (hok : D → ReadOkObj o k) :
    Rev c (SimP P D) s (readAt s a k).1 := by
  rw [(readAt_eq k h.cached).1]
  exact revAt_put hA.closed c h _ (by rw [Obj.read_fst_other]; exact h.nodel) (hA.read _ o k hok)

theorem revAt_setDataJ {s : ADB} {a : Addr} {o : Obj} (k : Key) (v : Val) (h : At s a o) (hw : D → WarmObj o k) :
    Rev c (SimP P D) s (setDataJ s a k v) := by
  have hrd := revAt_readAt hA c k h fun hD => Or.inl (hw hD).2.1
  rw [setDataJ_eq k v h.live h.cached]
  split
  · exact hrd
  · -- journaled write on top of the cache fill
    exact hrd.trans (relOk_SimP hA.closed c) (revAt_modify hA.closed c (Entry.storage a k (o.get k))
      (fun x => setSlot x k v) (fun x => setSlot x k (o.get k)) (h.readAt k) (fun hD => by rw [Obj.read_fst_other]; exact (hw hD).1)
      (fun _ => ⟨rfl, rfl⟩) (fun _ => ⟨rfl, rfl⟩) (fun _ hr => undo_storage c hr a k _)
      (by rw [← Obj.read_fst_get o k k]; exact hA.slot _ _ k v fun hD => warm_read (hw hD)))

end Rangers.Proofs.JournalG
