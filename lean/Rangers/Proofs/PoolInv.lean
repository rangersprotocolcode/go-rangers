import Rangers.Model.Pool
/-! State lemmas of the pool model: what each operation does to the pending and executed hash sets,
and the invariant `Inv`.  Two relations between states besides: `Written` with `puts`, the bookkeeping of the batch writes of
`MarkExecuted` (used by `PoolMark` alone), and `Unmarked`, what `UnMarkExecuted` leaves (`unmark_spec`). -/
namespace Rangers.Pool

def GateOnly (b : List BOp) : Prop := ∀ o ∈ b, ∃ n, o = BOp.putGate n

/-- The pool invariant: pending hashes are unique, nothing pending is executed, between
operations the shared batch holds no executed record, and the batch writes to the current executed
store (`detached = false`; `Pool.clear` breaks this clause). -/
structure Inv (s : Pool) : Prop where
  nodup : s.hashes.Nodup
  disjoint : ∀ h ∈ s.hashes, h ∉ s.execHashes
  batch : GateOnly s.batch
  attached : s.detached = false

/-- every receipt belongs to a transaction of the block (what `VMExecutor.Execute` returns) -/
def Covered (receipts : List Nat) (txs : List Tx) : Prop := ∀ h ∈ receipts, ∃ t ∈ txs, t.hash = h

theorem covered_singleton (t : Tx) : Covered [t.hash] [t] :=
  fun _ hx => ⟨t, List.mem_singleton_self _, (List.mem_singleton.mp hx).symm⟩

theorem covered_cons {txs : List Tx} {h : Nat} {hs : List Nat} :
    Covered (h :: hs) txs ↔ (∃ t ∈ txs, t.hash = h) ∧ Covered hs txs :=
  List.forall_mem_cons

theorem contains_iff {s : Pool} {h : Nat} : s.contains h = true ↔ h ∈ s.hashes := by
  simp [Pool.contains]

theorem isExecuted_iff {s : Pool} {h : Nat} : s.isExecuted h = true ↔ h ∈ s.execHashes := by
  simp [Pool.isExecuted]

theorem existed_iff {s : Pool} {h : Nat} : s.existed h = true ↔ h ∈ s.hashes ∨ h ∈ s.execHashes := by
  simp [Pool.existed, contains_iff, isExecuted_iff]

theorem contains_eq_false_iff {s : Pool} {h : Nat} : s.contains h = false ↔ h ∉ s.hashes := by
  rw [← Bool.not_eq_true, contains_iff]

theorem isExecuted_eq_false_iff {s : Pool} {h : Nat} : s.isExecuted h = false ↔ h ∉ s.execHashes := by
  rw [← Bool.not_eq_true, isExecuted_iff]

theorem existed_eq_false_iff {s : Pool} {h : Nat} : s.existed h = false ↔ h ∉ s.hashes ∧ h ∉ s.execHashes := by
  rw [← Bool.not_eq_true, existed_iff, not_or]

theorem inv_empty (limit : Nat) : Inv (Pool.empty limit) :=
  ⟨by simp [Pool.empty, Pool.hashes], by simp [Pool.empty, Pool.hashes], by simp [Pool.empty, GateOnly], rfl⟩

theorem add_exist {s : Pool} {t : Tx} (h : s.existed t.hash = true) : s.add t = (s, .exist) := by
  simp [Pool.add, h]

theorem add_fresh {s : Pool} {t : Tx} (h : s.existed t.hash = false) : s.add t = (s.push t, .ok) := by
  simp [Pool.add, h]

theorem add_frame (s : Pool) (t : Tx) : (s.add t).1.executed = s.executed ∧ (s.add t).1.batch = s.batch ∧
    (s.add t).1.limit = s.limit ∧ (s.add t).1.detached = s.detached := by
  unfold Pool.add Pool.push
  split
  · exact ⟨rfl, rfl, rfl, rfl⟩
  · split <;> exact ⟨rfl, rfl, rfl, rfl⟩

theorem hashes_add (s : Pool) (t : Tx) : (s.add t).1.hashes =
    if s.existed t.hash = false ∧ s.pending.length < s.limit then s.hashes ++ [t.hash] else s.hashes := by
  cases he : s.existed t.hash
  · rw [add_fresh he]; unfold Pool.push Pool.hashes
    by_cases hr : s.pending.length < s.limit
    · rw [if_pos hr, if_pos ⟨rfl, hr⟩, List.map_append]; rfl
    · rw [if_neg hr, if_neg (fun h => hr h.2)]
  · rw [add_exist he, if_neg (fun h => nomatch h.1)]

theorem execHashes_add (s : Pool) (t : Tx) : (s.add t).1.execHashes = s.execHashes := by
  unfold Pool.execHashes; rw [(add_frame s t).1]

theorem length_add_le (s : Pool) (t : Tx) : (s.add t).1.pending.length ≤ s.pending.length + 1 := by
  have h := congrArg List.length (hashes_add s t)
  unfold Pool.hashes at h
  rw [List.length_map] at h
  rw [h]; split
  · rw [List.length_append, List.length_map]; exact Nat.le_refl _
  · rw [List.length_map]; exact Nat.le_succ _

theorem mem_hashes_add_self {s : Pool} (t : Tx) (hroom : s.pending.length < s.limit) (hne : t.hash ∉ s.execHashes) :
    t.hash ∈ (s.add t).1.hashes := by
  rw [hashes_add]; split
  · exact List.mem_append_right _ (List.mem_singleton_self _)
  · rename_i h
    cases he : s.existed t.hash
    · exact absurd ⟨he, hroom⟩ h
    · exact (existed_iff.mp he).resolve_right hne

theorem inv_add {s : Pool} (t : Tx) (hi : Inv s) : Inv (s.add t).1 := by
  obtain ⟨_, fb, _, fd⟩ := add_frame s t
  refine ⟨?_, ?_, fb ▸ hi.batch, fd ▸ hi.attached⟩
  · rw [hashes_add]; split
    · rename_i h
      have hn : t.hash ∉ s.hashes := fun hm => by rw [existed_iff.mpr (Or.inl hm)] at h; cases h.1
      exact List.nodup_append.mpr ⟨hi.nodup, List.pairwise_singleton _ _,
        fun a ha b hb e => hn (by rw [List.mem_singleton.mp hb] at e; exact e ▸ ha)⟩
    · exact hi.nodup
  · rw [hashes_add, execHashes_add]; split
    · rename_i h
      intro x hx; rcases List.mem_append.mp hx with hx | hx
      · exact hi.disjoint x hx
      · intro hm; rw [List.mem_singleton.mp hx] at hm; rw [existed_iff.mpr (Or.inr hm)] at h; cases h.1
    · exact hi.disjoint

theorem inv_refreshGate {s : Pool} (t : Tx) (hi : Inv s) : Inv (s.refreshGate t) := by
  unfold Pool.refreshGate; split
  · refine ⟨hi.nodup, hi.disjoint, fun o ho => ?_, hi.attached⟩
    rcases List.mem_append.mp ho with ho | ho
    · exact hi.batch o ho
    · exact ⟨_, List.mem_singleton.mp ho⟩
  · exact hi

theorem addTransaction_exist {s : Pool} {t : Tx} (h : s.existed t.hash = true) : s.addTransaction t = (s, .exist) := by
  simp [Pool.addTransaction, add_exist h]

theorem addTransaction_fresh {s : Pool} {t : Tx} (h : s.existed t.hash = false) :
    s.addTransaction t = ((s.push t).refreshGate t, .ok) := by
  simp [Pool.addTransaction, add_fresh h]

theorem addTransaction_add (s : Pool) (t : Tx) : (s.addTransaction t).1.pending = (s.add t).1.pending ∧
    (s.addTransaction t).1.executed = (s.add t).1.executed ∧ (s.addTransaction t).1.limit = (s.add t).1.limit ∧
    (s.addTransaction t).2 = (s.add t).2 := by
  cases he : s.existed t.hash
  · rw [addTransaction_fresh he, add_fresh he, Pool.refreshGate]; split <;> exact ⟨rfl, rfl, rfl, rfl⟩
  · rw [addTransaction_exist he, add_exist he]; exact ⟨rfl, rfl, rfl, rfl⟩

theorem hashes_addTransaction (s : Pool) (t : Tx) : (s.addTransaction t).1.hashes = (s.add t).1.hashes := by
  unfold Pool.hashes; rw [(addTransaction_add s t).1]

theorem execHashes_addTransaction (s : Pool) (t : Tx) : (s.addTransaction t).1.execHashes = s.execHashes := by
  rw [← execHashes_add s t]; unfold Pool.execHashes; rw [(addTransaction_add s t).2.1]

theorem existed_addTransaction_ne (s : Pool) {a b : Tx} (h : a.hash ≠ b.hash) :
    (s.addTransaction a).1.existed b.hash = s.existed b.hash := by
  rw [Bool.eq_iff_iff, existed_iff, existed_iff, hashes_addTransaction, execHashes_addTransaction, hashes_add]
  split
  · rw [List.mem_append, List.mem_singleton, or_iff_left (Ne.symm h)]
  · rfl

theorem addTransaction_new {s : Pool} {t : Tx} (he : s.existed t.hash = false) (hroom : s.pending.length < s.limit) :
    (s.addTransaction t).1.hashes = s.hashes ++ [t.hash] ∧ (s.addTransaction t).1.pending.length = s.pending.length + 1 ∧
    (s.addTransaction t).1.limit = s.limit ∧ (s.addTransaction t).2 = .ok := by
  have hh : (s.addTransaction t).1.hashes = s.hashes ++ [t.hash] := by
    rw [hashes_addTransaction, hashes_add, if_pos ⟨he, hroom⟩]
  have hl := congrArg List.length hh
  unfold Pool.hashes at hl
  rw [List.length_map, List.length_append, List.length_map] at hl
  refine ⟨hh, hl, (addTransaction_add s t).2.2.1.trans (add_frame s t).2.2.1, ?_⟩
  rw [addTransaction_fresh he]

theorem inv_addTransaction {s : Pool} (t : Tx) (hi : Inv s) : Inv (s.addTransaction t).1 := by
  cases he : s.existed t.hash
  · have := inv_add t hi
    rw [add_fresh he] at this
    rw [addTransaction_fresh he]; exact inv_refreshGate t this
  · rw [addTransaction_exist he]; exact hi

theorem hashes_removeHashes (s : Pool) (hs : List Nat) :
    (s.removeHashes hs).hashes = s.hashes.filter (fun h => !hs.contains h) := by
  simp [Pool.removeHashes, Pool.hashes, List.filter_map, Function.comp_def]

theorem mem_filter_not_contains {l hs : List Nat} {h : Nat} :
    h ∈ l.filter (fun h => !hs.contains h) ↔ h ∈ l ∧ h ∉ hs := by
  simp

theorem mem_hashes_removeHashes {s : Pool} {hs : List Nat} {h : Nat} :
    h ∈ (s.removeHashes hs).hashes ↔ h ∈ s.hashes ∧ h ∉ hs := by
  rw [hashes_removeHashes, mem_filter_not_contains]

theorem execDel_keys (ex : List (Nat × Option Tx)) (h : Nat) :
    (execDel ex h).map (·.1) = (ex.map (·.1)).filter (· != h) :=
  (List.filter_map (f := fun r : Nat × Option Tx => r.1) (p := (· != h))).symm

theorem mem_execDel {ex : List (Nat × Option Tx)} {h k : Nat} :
    k ∈ (execDel ex h).map (·.1) ↔ k ≠ h ∧ k ∈ ex.map (·.1) := by
  rw [execDel_keys, List.mem_filter, bne_iff_ne, and_comm]

theorem mem_execPut {ex : List (Nat × Option Tx)} {h k : Nat} {v : Option Tx} :
    k ∈ (execPut ex h v).map (·.1) ↔ k = h ∨ k ∈ ex.map (·.1) := by
  show k ∈ h :: (execDel ex h).map (·.1) ↔ _
  rw [List.mem_cons, mem_execDel]
  by_cases e : k = h
  · exact iff_of_true (Or.inl e) (Or.inl e)
  · exact or_congr_right (and_iff_right e)

/-- the records waiting in a batch: transaction hash and byte size -/
def puts (b : List BOp) : List (Nat × Nat) :=
  b.filterMap fun | .putTx h _ z => some (h, z) | .putGate _ => none

theorem puts_append (a b : List BOp) : puts (a ++ b) = puts a ++ puts b := List.filterMap_append

theorem gateOnly_iff {b : List BOp} : GateOnly b ↔ puts b = [] := by
  refine (forall_congr' fun o => imp_congr_right fun _ => ?_).trans List.filterMap_eq_nil_iff.symm
  cases o with
  | putTx h v z => exact iff_of_false (fun ⟨n, e⟩ => nomatch e) (fun e => nomatch e)
  | putGate n => exact iff_of_true ⟨n, rfl⟩ rfl

theorem puts_nil_of_bsize : ∀ {b : List BOp}, bsize b = 0 → (∀ p ∈ puts b, 0 < p.2) → puts b = []
  | [], _, _ => rfl
  | .putTx h _ z :: _, hz, hp =>
    absurd (Nat.eq_zero_of_add_eq_zero_right hz) (Nat.ne_of_gt (hp (h, z) (List.mem_cons_self ..)))
  | .putGate _ :: _, hz, _ => nomatch Nat.eq_zero_of_add_eq_zero_right hz

/-- `batch.Put` -/
def Pool.put (s : Pool) (o : BOp) : Pool := { s with batch := s.batch ++ [o] }

theorem refreshGate_eq (s : Pool) (t : Tx) :
    s.refreshGate t = if t.gate ≠ 0 then s.put (.putGate t.gate) else s := rfl

theorem applyBOp_frame (s : Pool) (o : BOp) :
    (applyBOp s o).pending = s.pending ∧ (applyBOp s o).limit = s.limit ∧ (applyBOp s o).detached = s.detached ∧
    (applyBOp s o).evicted = s.evicted ∧ (applyBOp s o).batch = s.batch := by
  cases o <;> cases hd : s.detached <;> simp [applyBOp, hd]

theorem mem_exec_applyBOp (s : Pool) (o : BOp) (hd : s.detached = false) (k : Nat) :
    k ∈ (applyBOp s o).execHashes ↔ k ∈ s.execHashes ∨ k ∈ (puts [o]).map (·.1) := by
  have hn : ¬ s.detached = true := by rw [hd]; exact Bool.false_ne_true
  cases o with
  | putTx h v z =>
    rw [applyBOp, if_neg hn]
    exact mem_execPut.trans (Or.comm.trans (or_congr_right List.mem_singleton.symm))
  | putGate n => rw [applyBOp, if_neg hn]; exact (or_iff_left (fun h => nomatch h)).symm

/-- From `s` to `s'` the records `W` (hash, size) were written and `B` wait in the batch; `MarkExecuted` is made of pieces
(`put`, `refreshGate`, `flush`, and inside a `flush` each record reaching the store) that extend such a relation on the right.
Writes count only on an attached pool. -/
structure Written (s s' : Pool) (W B : List (Nat × Nat)) : Prop where
  pending : s'.pending = s.pending
  limit : s'.limit = s.limit
  detached : s'.detached = s.detached
  evicted : s'.evicted = s.evicted
  exec : s.detached = false → ∀ x, x ∈ s'.execHashes ↔ x ∈ s.execHashes ∨ x ∈ W.map (·.1)
  waiting : puts s'.batch = B

theorem Written.refl (s : Pool) : Written s s [] (puts s.batch) :=
  ⟨rfl, rfl, rfl, rfl, fun _ _ => by simp, rfl⟩

theorem Written.trans {s s₁ s₂ : Pool} {W B W' B' : List (Nat × Nat)} (w : Written s s₁ W B) (w' : Written s₁ s₂ W' B') :
    Written s s₂ (W ++ W') B' :=
  ⟨w'.pending.trans w.pending, w'.limit.trans w.limit, w'.detached.trans w.detached, w'.evicted.trans w.evicted,
    fun hd x => by rw [w'.exec (w.detached.trans hd), w.exec hd, List.map_append, List.mem_append, or_assoc], w'.waiting⟩

theorem Written.put {s s' : Pool} {W B : List (Nat × Nat)} (w : Written s s' W B) (o : BOp) :
    Written s (s'.put o) W (B ++ puts [o]) :=
  ⟨w.pending, w.limit, w.detached, w.evicted, w.exec, by rw [← w.waiting]; exact puts_append s'.batch [o]⟩

theorem Written.refreshGate {s s' : Pool} {W B : List (Nat × Nat)} (w : Written s s' W B) (t : Tx) :
    Written s (s'.refreshGate t) W B := by
  rw [refreshGate_eq]; split
  · have := w.put (.putGate t.gate)
    rwa [show puts [BOp.putGate t.gate] = [] from rfl, List.append_nil] at this
  · exact w

/-- one record of a physical write reaches the store; the batch is reset only after the last one -/
theorem Written.apply (s : Pool) (o : BOp) : Written s (applyBOp s o) (puts [o]) (puts s.batch) :=
  have f := applyBOp_frame s o
  ⟨f.1, f.2.1, f.2.2.1, f.2.2.2.1, mem_exec_applyBOp s o, congrArg puts f.2.2.2.2⟩

theorem Written.foldl (b : List BOp) (s : Pool) : Written s (b.foldl applyBOp s) (puts b) (puts s.batch) := by
  induction b generalizing s with
  | nil => exact Written.refl s
  | cons o r ih =>
    have w := (Written.apply s o).trans (ih (applyBOp s o))
    rw [← puts_append, (applyBOp_frame s o).2.2.2.2] at w
    exact w

theorem Written.flush {s s' : Pool} {W B : List (Nat × Nat)} (w : Written s s' W B) : Written s s'.flush (W ++ B) [] :=
  have f := w.trans (Written.foldl s'.batch s')
  ⟨f.pending, f.limit, f.detached, f.evicted, w.waiting ▸ f.exec, rfl⟩

theorem hashes_flush (s : Pool) : s.flush.hashes = s.hashes := by
  simp [Pool.flush, Pool.hashes, (Written.foldl s.batch s).pending]

theorem evictAll_frame (s : Pool) (hs : List Nat) : (s.evictAll hs).pending = s.pending ∧ (s.evictAll hs).executed = s.executed ∧
    (s.evictAll hs).batch = s.batch ∧ (s.evictAll hs).limit = s.limit ∧ (s.evictAll hs).detached = s.detached :=
  ⟨rfl, rfl, rfl, rfl, rfl⟩

theorem mem_exec_delExec {s : Pool} {h k : Nat} : k ∈ (s.delExec h).execHashes ↔ k ≠ h ∧ k ∈ s.execHashes := by
  simp only [Pool.delExec, Pool.execHashes]; exact mem_execDel

theorem inv_delExec {s : Pool} (h : Nat) (hi : Inv s) : Inv (s.delExec h) :=
  ⟨hi.nodup, fun x hx he => hi.disjoint x hx (mem_exec_delExec.mp he).2, hi.batch, hi.attached⟩

/-- What `UnMarkExecuted` of the transactions `txs` made of `s`: their records are gone, nothing pending was lost, and
each of them is pending again as far as the container had room. -/
structure Unmarked (s s' : Pool) (txs : List Tx) : Prop where
  inv : Inv s → Inv s'
  exec : ∀ k, k ∈ s'.execHashes ↔ k ∈ s.execHashes ∧ k ∉ txs.map (·.hash)
  mono : ∀ k ∈ s.hashes, k ∈ s'.hashes
  limit : s'.limit = s.limit
  length : s'.pending.length ≤ s.pending.length + txs.length
  back : s.pending.length + txs.length ≤ s.limit → ∀ t ∈ txs, t.hash ∈ s'.hashes

theorem Unmarked.nil (s : Pool) : Unmarked s s [] :=
  ⟨id, fun _ => (and_iff_left (fun h => nomatch h)).symm, fun _ h => h, rfl, Nat.le_refl _, fun _ _ h => nomatch h⟩

theorem Unmarked.one (s : Pool) (t : Tx) : Unmarked s ((s.delExec t.hash).add t).1 [t] where
  inv hi := inv_add t (inv_delExec t.hash hi)
  exec k := by rw [execHashes_add, mem_exec_delExec, List.map_singleton, List.mem_singleton, and_comm]
  mono k h := by
    rw [hashes_add]; split
    · exact List.mem_append_left _ h
    · exact h
  limit := (add_frame _ t).2.2.1
  length := length_add_le (s.delExec t.hash) t
  back hroom u hu := by
    rw [List.mem_singleton.mp hu]
    exact mem_hashes_add_self t (Nat.lt_of_lt_of_le (Nat.lt_succ_self _) hroom) (fun h => (mem_exec_delExec.mp h).1 rfl)

theorem Unmarked.trans {s s₁ s₂ : Pool} {as bs : List Tx} (u : Unmarked s s₁ as) (v : Unmarked s₁ s₂ bs) :
    Unmarked s s₂ (as ++ bs) where
  inv hi := v.inv (u.inv hi)
  exec k := by rw [v.exec, u.exec, List.map_append, List.mem_append, not_or, and_assoc]
  mono k h := v.mono k (u.mono k h)
  limit := v.limit.trans u.limit
  length := Nat.le_trans v.length (by rw [List.length_append, ← Nat.add_assoc]; exact Nat.add_le_add_right u.length _)
  back hroom x hx := by
    rw [List.length_append, ← Nat.add_assoc] at hroom
    rcases List.mem_append.mp hx with hx | hx
    · exact v.mono _ (u.back (Nat.le_trans (Nat.le_add_right _ _) hroom) x hx)
    · exact v.back (u.limit ▸ Nat.le_trans (Nat.add_le_add_right u.length _) hroom) x hx

theorem unmark_spec (s : Pool) (txs : List Tx) : Unmarked s (s.unmark txs) txs := by
  induction txs generalizing s with
  | nil => exact Unmarked.nil s
  | cons t ts ih => exact (Unmarked.one s t).trans (ih _)

theorem unmarkE_spec (s : Pool) (txs : List Tx) (ev : List Nat) : Unmarked s (s.unmarkE txs ev) txs := by
  unfold Pool.unmarkE; split
  · rename_i h; subst h; exact Unmarked.nil s
  · have u := unmark_spec ({ s with evicted := ev.foldl lruRemove s.evicted } : Pool) txs
    exact ⟨fun hi => u.inv ⟨hi.nodup, hi.disjoint, hi.batch, hi.attached⟩, u.exec, u.mono, u.limit, u.length, u.back⟩

theorem hashes_expire_sublist (s : Pool) : s.expire.hashes.Sublist s.hashes := by
  have h := (List.filter_sublist (p := fun e : Entry => decide (e.ring < expiredRing))
    (l := s.pending.map (fun e => ({ e with ring := e.ring + 1 } : Entry)))).map (fun e => e.tx.hash)
  rw [List.map_map] at h
  exact h

theorem inv_expire {s : Pool} (hi : Inv s) : Inv s.expire :=
  ⟨hi.nodup.sublist (hashes_expire_sublist s),
   fun h hm => hi.disjoint h ((hashes_expire_sublist s).subset hm),
   hi.batch, hi.attached⟩

end Rangers.Pool
