import Rangers.Model.TrieLive
import Rangers.Proofs.TrieStore
import Rangers.Proofs.TrieYP
/- The RLP of the collapsed form of a minimal-form node (`encC`, what `hasher.store` hashes and the database keeps) is the
   node's encoding `enc`. -/
namespace Rangers.Trie
open Rangers

theorem encC_refOf {H : Bytes → Bytes} {t : Node} (hne : t ≠ .nil) (hA : encC (collapse H t) = enc H t) :
    encC (refOf H t) = embedOrHash H (enc H t) := by
  rw [refOf_of_ne_nil H _ hne]
  unfold embedOrHash
  split
  · exact hA
  · rfl

theorem encCL_eq_flatMap (cs : List CNode) : encC.encCL cs = cs.flatMap encC := by
  induction cs with
  | nil => rfl
  | cons c cs ih => simp [encC.encCL, ih]

theorem encL_kids (H : Bytes → Bytes) (v : Node) : ∀ (kids : List Node) (s : Nat), s + kids.length = 16 →
    encL H (kids ++ [v]) s = kids.flatMap (slotEnc H 0) ++ slotEnc H 16 v := by
  intro kids
  induction kids with
  | nil =>
    intro s h
    obtain rfl : s = 16 := by simpa using h
    simp [encL_cons, encL_nil]
  | cons k kids ih =>
    intro s h
    simp only [List.length_cons] at h
    have hk : slotEnc H s k = slotEnc H 0 k := by
      cases k <;> simp [slotEnc, show s < 16 by omega]
    rw [List.cons_append, encL_cons, ih (s + 1) (by omega), hk, List.flatMap_cons, List.append_assoc]

theorem encC_collapse (H : Bytes → Bytes) : ∀ t, WF t → encC (collapse H t) = enc H t := by
  apply WF_induct
  case leaf =>
    intro kk b _ _
    rw [collapse_leaf, enc_leaf]; simp [encC]
  case ext =>
    intro kk cs _ _ hfull ih
    rw [collapse_ext, enc_ext]; simp [encC, encC_refOf hfull.ne_nil ih]
  case full =>
    intro cs hwf ih
    have hlen := ((WF_full_iff cs).mp hwf).1
    have hkids : (cs.take 16).flatMap (fun x => encC (refOf H x)) = (cs.take 16).flatMap (slotEnc H 0) := by
      apply flatMap_congr'
      intro x hxm
      rcases WF_full_kids hwf x hxm with rfl | ⟨hm, hw⟩
      · rfl
      · rw [encC_refOf hw.ne_nil (ih x hm hw)]
        cases x with
        | nil => exact absurd hw not_WF_nil
        | _ => simp [slotEnc]
    have hval : (if (valueBytes (cs[16]?.getD .nil)).isEmpty then [0x80] else rlpString (valueBytes (cs[16]?.getD .nil)))
        = slotEnc H 16 (cs[16]?.getD .nil) := by
      rcases WF_full_value hwf with h | ⟨b, hb, hbne⟩
      · rw [h]; simp [slotEnc, valueBytes]
      · rw [hb]; simp [slotEnc, enc, List.isEmpty_eq_false_iff.mpr hbne, valueBytes]
    have henc : enc H (.full cs) = rlpList (encL H (cs.take 16 ++ [cs[16]?.getD .nil]) 0) := by
      rw [← full_eq_kids_append hlen]; simp [enc]
    rw [collapse_full H cs, henc, encL_kids H _ _ 0 (by simp [hlen])]
    simp only [encC, encCL_eq_flatMap, List.flatMap_map, hkids, hval]

end Rangers.Trie
