import Rangers.Proofs.DecimalTotal
import Rangers.Proofs.DecimalScan
/-!
Size of the result of `strToBigInt` (resource observation next to C18): the binary
exponent of every intermediate float is bounded by the mantissa length plus the decimal
exponent the string carries, so the integer that `Float.Int` builds has at most
`4·|s| + 5·exp + 4·d + 8` bits — linear in the input when the string has no exponent part,
but *exponential* in the length of the exponent digits otherwise.
-/
namespace Rangers.Decimal

/-- `bitLen m + e` is the `exp` field of Go's `big.Float`. -/
def expoLe (x : BF) (B : Int) : Prop :=
  match x with
  | .fin _ m e => (bitLen m : Int) + e ≤ B
  | _ => True

theorem expoLe_mono {x : BF} {A B : Int} (h : expoLe x A) (hAB : A ≤ B) : expoLe x B := by
  cases x <;> simp only [expoLe] at * ; omega

theorem finish_expoLe (neg : Bool) (mode : Mode) (p m : Nat) (e : Int) (st : Bool) :
    expoLe (finish neg mode p m e st) ((bitLen m : Int) + e + 1) := by
  unfold finish
  have h := roundMant_expo mode p m st
  rcases hrm : roundMant mode p m st with ⟨m', s⟩
  rw [hrm] at h
  dsimp only at h ⊢
  split_ifs <;> simp only [expoLe]
  omega

theorem mul_expoLe (mode : Mode) (p : Nat) (x y : BF) (A B : Int)
    (hx : expoLe x A) (hy : expoLe y B) : expoLe (mul mode p x y) (A + B + 1) := by
  cases x <;> cases y <;> simp only [mul, expoLe] at * <;> try trivial
  -- left: finite times finite (sign, mantissa, exponent of `x`, then of `y`); every other product is a zero, an infinity
  -- or NaN, of which `expoLe` asks nothing
  rename_i nx mx ex ny my ey
  have h1 := finish_expoLe (nx != ny) mode p (mx * my) (ex + ey) false
  have h2 := bitLen_mul_le mx my
  exact expoLe_mono h1 (by omega)

theorem quo_expoLe (mode : Mode) (p : Nat) (nx : Bool) (mx : Nat) (ex : Int) (y : BF)
    (hy : posOrInf y) : expoLe (quo mode p (.fin nx mx ex) y) ((bitLen mx : Int) + ex + 1) := by
  rcases posOrInf_cases hy with rfl | ⟨my, ey, rfl, -, hey⟩
  · trivial
  · simp only [quo]
    have h1 := finish_expoLe (nx != false) mode p (mx * 2 ^ (p + 2 + bitLen my) / my)
      (ex - ey - ((p + 2 + bitLen my : Nat) : Int)) (mx * 2 ^ (p + 2 + bitLen my) % my != 0)
    have h2 : bitLen (mx * 2 ^ (p + 2 + bitLen my) / my) ≤ bitLen mx + (p + 2 + bitLen my) :=
      le_trans (bitLen_mono (Nat.div_le_self _ _)) (bitLen_mul_two_pow_le mx _)
    exact expoLe_mono h1 (by omega)

/-- Bounds of the form `4a - 1` absorb the `+ 1` of each rounded product:
    `(4a - 1) + (4b - 1) + 1 = 4(a + b) - 1`; `5^n` has at most `3n + 1` bits. -/
theorem pow5_expoLe (n : Nat) : expoLe (pow5 n) (4 * (n : Int) + 1) := by
  rw [pow5]
  split
  · simp only [expoLe]
    have := bitLen_pow_le 5 3 n (by norm_num)
    omega
  · have h1 : expoLe (BF.fin false (5 ^ 27) 0) (4 * ((27 : Nat) : Int) - 1) := by
      simp only [expoLe]
      have : bitLen (5 ^ 27) ≤ 3 * 27 + 1 := bitLen_pow_le 5 3 27 (by norm_num)
      omega
    have h2 : expoLe (BF.fin false 5 0) (4 * ((1 : Nat) : Int) - 1) := by
      simp only [expoLe]
      have : bitLen 5 ≤ 3 := bitLen_le_of_lt (by norm_num)
      omega
    have := pow5Loop_invariant (fun a x => expoLe x (4 * (a : Int) - 1))
      (fun _ hx hy => expoLe_mono (mul_expoLe _ _ _ _ _ _ hx hy) (by omega)) (Nat.sub_le n 27) h1 h2
    exact expoLe_mono this (by omega)

theorem buildFloat_expoLe (neg : Bool) (mant : Nat) (fc exp : Int) (eb : Nat) (z : BF)
    (h : buildFloat neg mant fc exp eb = some z) :
    expoLe z ((bitLen mant : Int) + 5 * (exp.toNat : Int) + 3) := by
  unfold buildFloat at h
  dsimp only at h
  have hd : (if fc < 0 then fc else 0) ≤ 0 := by split <;> omega
  generalize (if fc < 0 then fc else 0) = d at h hd
  have hx : (if eb = 10 then exp else 0) ≤ (exp.toNat : Int) := by split <;> omega
  generalize (if eb = 10 then exp else 0) = x at h hx
  have he : exp ≤ (exp.toNat : Int) := by omega
  have hE : (0 : Int) ≤ (exp.toNat : Int) := Int.natCast_nonneg _
  generalize (exp.toNat : Int) = E at hx he hE ⊢
  split_ifs at h with h1 h2 h3
  all_goals (simp only [Option.some.injEq] at h; subst h)
  · exact expoLe_mono (finish_expoLe _ _ _ _ _ _) (by omega)
  · exact expoLe_mono (quo_expoLe _ _ _ _ _ _ (pow5_posOrInf _)) (by omega)
  · have hp := pow5_expoLe (d + x).toNat
    rw [Int.toNat_of_nonneg (by omega)] at hp
    exact expoLe_mono (mul_expoLe _ _ (.fin neg mant (d + exp)) _ _ _ (le_refl _) hp) (by omega)

theorem toInt_bitLen (x : BF) (B : Int) (h : expoLe x B) : (bitLen (toInt x).natAbs : Int) ≤ max 0 B := by
  cases x with
  | zero n => exact le_max_left 0 B
  | inf n => exact le_max_left 0 B
  | nan => exact le_max_left 0 B
  | fin neg m e =>
    simp only [expoLe] at h
    have h1 := bitLen_div_two_pow_le (m * 2 ^ e.toNat) (-e).toNat
    have h2 := bitLen_mul_two_pow_le m e.toNat
    rw [toInt_fin]
    split <;> simp only [Int.natAbs_neg, Int.natAbs_natCast] <;> omega

theorem scanMant_bound (s : Str) (fo : Bool) (m cnt : Nat) (dp : Option Nat) (hm : m < 10 ^ cnt) :
    (scanMant s fo m cnt dp).mant < 10 ^ (scanMant s fo m cnt dp).count ∧
    (scanMant s fo m cnt dp).count ≤ cnt + s.length ∧
    (∀ c ∈ (scanMant s fo m cnt dp).rest, c ∈ s) := by
  induction s generalizing fo m cnt dp with
  | nil => simp [scanMant, hm]
  | cons c cs ih =>
    rw [scanMant]
    split_ifs with h1 h2
    · obtain ⟨a, b, d⟩ := ih false m cnt (some cnt) hm
      exact ⟨a, by simp only [List.length_cons]; omega, fun x hx => List.mem_cons_of_mem _ (d x hx)⟩
    · have hv : digVal c ≤ 9 := digVal_le_nine h2
      have hm' : m * 10 + digVal c < 10 ^ (cnt + 1) := by rw [Nat.pow_succ]; omega
      obtain ⟨a, b, d⟩ := ih fo (m * 10 + digVal c) (cnt + 1) dp hm'
      exact ⟨a, by simp only [List.length_cons]; omega, fun x hx => List.mem_cons_of_mem _ (d x hx)⟩
    · exact ⟨hm, by simp, fun x hx => hx⟩

/-- the decimal or binary exponent the scanner reads after the mantissa (0 if there is none); `body` is
    `unsigned s` (`expPart_unsigned`) -/
def expPart (s : Str) : Int :=
  let body : Str := match s with
    | c :: t => if c = '-' || c = '+' then t else s
    | [] => []
  match scanExp (scanMant body true 0 0 none).rest with
  | some (e, _, _) => e
  | none => 0

theorem expPart_unsigned (s : Str) :
    expPart s = match scanExp (scanMant (unsigned s) true 0 0 none).rest with
      | some (e, _, _) => e
      | none => 0 := rfl

theorem scanBody_size (neg : Bool) (r : Str) (z : BF) (h : scanBody neg r = some z) :
    expoLe z (4 * (r.length : Int) + 5 *
      ((match scanExp (scanMant r true 0 0 none).rest with | some (e, _, _) => e | none => 0).toNat : Int) + 3) := by
  rcases scanBody_some h with rfl | ⟨exp, eb, hse, hb⟩
  · trivial
  · obtain ⟨hmant, hcount, _⟩ := scanMant_bound r true 0 0 none (by norm_num)
    have hbits : bitLen (scanMant r true 0 0 none).mant ≤ 4 * r.length := by
      apply bitLen_le_of_lt
      calc (scanMant r true 0 0 none).mant < 10 ^ (scanMant r true 0 0 none).count := hmant
        _ ≤ 16 ^ (scanMant r true 0 0 none).count := Nat.pow_le_pow_left (by norm_num) _
        _ = 2 ^ (4 * (scanMant r true 0 0 none).count) := by rw [Nat.pow_mul]
        _ ≤ 2 ^ (4 * r.length) := Nat.pow_le_pow_right (by norm_num) (by omega)
    rw [hse]
    exact expoLe_mono (buildFloat_expoLe _ _ _ _ _ _ hb) (by dsimp only; omega)

theorem parseFloat_size (s : Str) (z : BF) (h : parseFloat s = some z) :
    expoLe z (4 * (s.length : Int) + 5 * ((expPart s).toNat : Int) + 3) := by
  rcases parseFloat_some h with ⟨b, rfl⟩ | ⟨neg, h⟩
  · trivial
  · have := unsigned_length_le s
    exact expoLe_mono (scanBody_size _ _ _ h) (by rw [expPart_unsigned]; omega)

theorem strToBigInt_size (s : Str) (d : Int) (v : Int) (h : strToBigInt s d = .ok v) :
    (bitLen v.natAbs : Int) ≤ 4 * (s.length : Int) + 5 * ((expPart s).toNat : Int) + 4 * (d.toNat : Int) + 8 := by
  rcases strToBigInt_ok h with ⟨-, rfl⟩ | ⟨t, ht, rfl⟩
  · simp only [Int.natAbs_zero, bitLen_zero]
    positivity
  · have hb : expoLe (baseFloat d) (4 * (d.toNat : Int) + 1) := by
      simp only [baseFloat, expoLe]
      have := bitLen_pow_le 10 4 d.toNat (by norm_num)
      omega
    have := toInt_bitLen _ _ (mul_expoLe .away prec t (baseFloat d) _ _ (parseFloat_size s t ht) hb)
    omega

theorem expPart_eq_zero (s : Str) (h : ∀ c ∈ s, c ≠ 'e' ∧ c ≠ 'E' ∧ c ≠ 'p' ∧ c ≠ 'P') : expPart s = 0 := by
  rw [expPart_unsigned]
  obtain ⟨_, _, hrest⟩ := scanMant_bound (unsigned s) true 0 0 none (by norm_num)
  cases hr : (scanMant (unsigned s) true 0 0 none).rest with
  | nil => simp [scanExp]
  | cons c r =>
    obtain ⟨h1, h2, h3, h4⟩ := h c (unsigned_subset s c (hrest c (by rw [hr]; simp)))
    unfold scanExp
    simp only [h1, h2, h3, h4, decide_false, Bool.or_self, Bool.false_eq_true, if_false]
    rfl

/-- The conversion succeeded with an integer of magnitude at least `2^B`: a lower bound on the size that the kernel
    decides with one comparison (`bitLen` of a large result is as many rounds of `Nat.log2` as it has bits). -/
def resAtLeast (B : Nat) : Res → Bool
  | .ok v => decide (2 ^ B ≤ v.natAbs)
  | _ => false

theorem bitLen_of_resAtLeast {B : Nat} {v : Int} (h : resAtLeast B (.ok v) = true) : B < bitLen v.natAbs :=
  lt_bitLen_iff.mpr (of_decide_eq_true h)

end Rangers.Decimal
