import Rangers.Model.ChainStore
import Rangers.Proofs.IteCases
/-!
How the operations of the block store model move from state to state, independent of any invariant. Every operation
only performs physical writes and memory updates (`Reach`), so two facts hold of all of them at once: a dead process
changes nothing on disk (`Reach.frozen`) and without a write budget nothing dies (`Reach.safe`). `verify` and `addCore`
get case principles with a `motive` (`verify_cases`, `addCore_cases`), through which the later proofs about them go.
-/
namespace Rangers.Proofs.ChainStore
open Rangers.Model.ChainStore

@[simp] theorem write_mem (s : St) (w : Write) : (s.write w).mem = s.mem := by
  unfold St.write
  refine ite_cases (M := fun t : St => t.mem = s.mem) (fun _ => rfl) fun _ => ?_
  cases s.budget with
  | none => rfl
  | some k => cases k <;> rfl

@[simp] theorem setMem_disk (s : St) (m : Mem) : (s.setMem m).disk = s.disk := rfl
@[simp] theorem setMem_crashed (s : St) (m : Mem) : (s.setMem m).crashed = s.crashed := rfl
@[simp] theorem setMem_mem (s : St) (m : Mem) : (s.setMem m).mem = m := rfl
@[simp] theorem setMem_budget (s : St) (m : Mem) : (s.setMem m).budget = s.budget := rfl

theorem write_dead (s : St) (w : Write) (h : s.crashed = true) : s.write w = s := by
  simp [St.write, h]

theorem write_alive (s : St) (w : Write) (h : s.crashed = false) :
    ((s.write w).crashed = false ∧ (s.write w).disk = s.disk.apply w) ∨
    ((s.write w).crashed = true ∧ (s.write w).disk = s.disk) := by
  unfold St.write
  simp only [h]
  cases hb : s.budget with
  | none => simp
  | some k => cases k <;> simp

theorem write_nobudget (s : St) (w : Write) (h : s.crashed = false) (hb : s.budget = none) :
    (s.write w).crashed = false ∧ (s.write w).budget = none ∧ (s.write w).disk = s.disk.apply w := by
  simp [St.write, h, hb]

@[simp] theorem writes_mem (s : St) (ws : List Write) : (s.writes ws).mem = s.mem := by
  induction ws generalizing s with
  | nil => rfl
  | cons w ws ih => simp [St.writes, ih]

theorem write_setMem_comm (s : St) (w : Write) (m : Mem) : (s.write w).setMem m = (s.setMem m).write w := by
  unfold St.write St.setMem
  simp only
  split
  · rfl
  · split <;> rfl

theorem writes_setMem_comm (ws : List Write) : ∀ (s : St) (m : Mem), (s.writes ws).setMem m = (s.setMem m).writes ws := by
  induction ws with
  | nil => intro s m; rfl
  | cons w ws ih =>
    intro s m
    simp only [St.writes]
    rw [ih, write_setMem_comm]

theorem unmark_eq (s : St) (x : Block) : unmark s x =
    (s.writes (x.txs.map .delExecuted)).setMem { (s.writes (x.txs.map .delExecuted)).mem with
      pending := addPending (s.writes (x.txs.map .delExecuted)).mem.pending
        (s.writes (x.txs.map .delExecuted)).disk.executed x.txs } := by
  unfold unmark
  refine ite_cases (M := fun t => t = _) (fun he => ?_) (fun _ => rfl)
  rw [List.isEmpty_iff.mp he]; rfl

theorem contains_lruAdd (l : List Nat) (k : Nat) : (lruAdd verifiedCap l k).contains k = true := by
  simp [lruAdd, verifiedCap]

theorem verify_cases {motive : St × Bool → Prop} (s : St) (b : Block)
    (hit : s.mem.verified.contains b.hash = true → motive (s, true))
    (park : motive (s.setMem { s.mem with future := upd s.mem.future b.pre (some b) }, false))
    (reject : motive (s, false))
    (accept : motive (s.setMem { s.mem with verified := lruAdd verifiedCap s.mem.verified b.hash }, true)) :
    motive (verify s b) := by
  unfold verify
  refine ite_cases hit fun _ => ?_
  cases s.disk.blocks b.pre with
  | none => exact park
  | some pre =>
    exact ite_cases (fun _ => reject) fun _ => ite_cases (fun _ => reject) fun _ => ite_cases (fun _ => reject) fun _ => accept

theorem verify_fst (s : St) (b : Block) :
    ∃ v f, (verify s b).1 = s.setMem { s.mem with verified := v, future := f } ∧
      (f = s.mem.future ∨ f = upd s.mem.future b.pre (some b)) ∧
      ((verify s b).2 = true → v.contains b.hash = true) :=
  verify_cases (motive := fun r => ∃ v f, r.1 = s.setMem { s.mem with verified := v, future := f } ∧
      (f = s.mem.future ∨ f = upd s.mem.future b.pre (some b)) ∧ (r.2 = true → v.contains b.hash = true)) s b
    (fun hc => ⟨_, _, rfl, Or.inl rfl, fun _ => hc⟩) ⟨_, _, rfl, Or.inr rfl, fun h => nomatch h⟩
    ⟨_, _, rfl, Or.inl rfl, fun h => nomatch h⟩ ⟨_, _, rfl, Or.inl rfl, fun _ => contains_lruAdd _ _⟩

theorem verify_disk (s : St) (b : Block) : (verify s b).1.disk = s.disk := by
  obtain ⟨_, _, e, _⟩ := verify_fst s b
  rw [e]; rfl

theorem verify_crashed (s : St) (b : Block) : (verify s b).1.crashed = s.crashed := by
  obtain ⟨_, _, e, _⟩ := verify_fst s b
  rw [e]; rfl

theorem verify_lookup (s : St) (b : Block) (h : Nat) : (verify s b).1.lookupHeight h = s.lookupHeight h := by
  obtain ⟨_, _, e, _⟩ := verify_fst s b
  rw [e]; rfl

theorem verify_latest (s : St) (b : Block) : (verify s b).1.mem.latest = s.mem.latest := by
  obtain ⟨_, _, e, _⟩ := verify_fst s b
  rw [e]; rfl

theorem verify_pending (s : St) (b : Block) : (verify s b).1.mem.pending = s.mem.pending := by
  obtain ⟨_, _, e, _⟩ := verify_fst s b
  rw [e]; rfl

theorem verify_hit (s : St) (b : Block) (h : (verify s b).2 = true) :
    (verify s b).1.mem.verified.contains b.hash = true := by
  obtain ⟨_, _, e, _, hv⟩ := verify_fst s b
  rw [e]; exact hv h

/-- The fork choice of `addBlockOnChain` for a block `b` whose parent `anc` is on the chain but is not the head: `b` has
    the larger cumulative QN, or the same and the header the store holds right above `anc` does not beat it on
    (prove value, then hash). -/
def WinsFork (s : St) (anc b : Block) : Prop :=
  b.totalQN > s.mem.latest.totalQN ∨ (b.totalQN = s.mem.latest.totalQN ∧
    ∃ ln, s.lookupHeight (anc.height + 1) = some ln ∧ pvGreater ln b = false)

/-- Every rejection of `addBlockOnChain` is one case (`rejected`, any result code); `extend` and `reorg` carry the
    conditions under which the store is touched, stated on the state before `verifyBlock`. -/
theorem addCore_cases {motive : St × Res → Prop} (fuel : Nat) (s : St) (b : Block)
    (existed : (b.hash = s.mem.latest.hash ∨ (s.disk.blocks b.hash).isSome) → motive (s, .existed))
    (rejected : ∀ r, s.disk.blocks b.hash = none → ((verify s b).2 = false ∨ b.pre ≠ s.mem.latest.hash) →
      motive ((verify s b).1, r))
    (extend : s.disk.blocks b.hash = none → (verify s b).2 = true → b.pre = s.mem.latest.hash →
      motive (insertBlock (fun s f => (addCore fuel s f).1) (verify s b).1 b))
    (reorg : ∀ anc, s.disk.blocks b.hash = none → (verify s b).2 = true → b.pre ≠ s.mem.latest.hash →
      s.disk.blocks b.pre = some anc → WinsFork s anc b →
      motive (addCore fuel (removeFromCommonAncestor (verify s b).1 anc) b)) :
    motive (addCore (fuel + 1) s b) := by
  unfold addCore
  simp only
  by_cases hex : b.hash = s.mem.latest.hash ∨ (s.disk.blocks b.hash).isSome = true
  · rw [if_pos hex]; exact existed hex
  · rw [if_neg hex]
    have hnb : s.disk.blocks b.hash = none := by
      cases hb : s.disk.blocks b.hash with
      | none => rfl
      | some z => exact absurd (Or.inr (by rw [hb]; rfl)) hex
    have hd := verify_disk s b
    have hl := verify_lookup s b
    have rej := fun r => rejected r hnb
    have ext := extend hnb
    have reo := fun anc => reorg anc hnb
    clear rejected extend reorg existed
    generalize verify s b = r at hd hl rej ext reo
    obtain ⟨s1, ok⟩ := r
    cases ok with
    | false => exact rej _ (Or.inl rfl)
    | true =>
      simp only at hd hl rej ext reo ⊢
      by_cases hpre : b.pre = s.mem.latest.hash
      · rw [if_pos hpre]; exact ext trivial hpre
      · rw [if_neg hpre]
        by_cases hlt : b.totalQN < s.mem.latest.totalQN
        · rw [if_pos hlt]; exact rej _ (Or.inr hpre)
        · rw [if_neg hlt]
          cases hanc : s1.disk.blocks b.pre with
          | none => exact rej _ (Or.inr hpre)
          | some anc =>
            simp only
            rw [hd] at hanc
            by_cases hgt : b.totalQN > s.mem.latest.totalQN
            · rw [if_pos hgt]; exact reo anc trivial hpre hanc (Or.inl hgt)
            · rw [if_neg hgt]
              cases hln : s1.lookupHeight (anc.height + 1) with
              | none => exact rej _ (Or.inr hpre)
              | some ln =>
                simp only
                rw [hl] at hln
                cases hpv : pvGreater ln b with
                | true => exact rej _ (Or.inr hpre)
                | false =>
                  exact reo anc trivial hpre hanc (Or.inr ⟨by omega, ln, hln, hpv⟩)

theorem addBlock_cases {motive : St × Res → Prop} (fuel : Nat) (s : St) (b : Block)
    (nopre : motive (s.setMem { s.mem with future := upd s.mem.future b.pre (some b) }, .nopre))
    (existed : motive (s, .existed)) (core : motive (addCore fuel s b)) : motive (addBlock fuel s b) :=
  ite_cases (fun _ => nopre) fun _ => ite_cases (fun _ => existed) fun _ => core

theorem forkAdd_cases {motive : St → Prop} (fuel : Nat) (s : St) (b : Block) (bs : List Block)
    (added : (addBlock fuel s b).2 = .succ → motive (forkAdd fuel (addBlock fuel s b).1 bs))
    (stop : motive (addBlock fuel s b).1) : motive (forkAdd fuel s (b :: bs)) := by
  unfold forkAdd
  generalize addBlock fuel s b = r at added stop
  obtain ⟨s', res⟩ := r
  cases res with
  | succ => exact added rfl
  | _ => exact stop

/-- `t` comes from `s` by physical writes and memory updates (and the flag of an exhausted recursion bound, which
    `addCore 0` sets) -/
inductive Reach (s : St) : St → Prop where
  | refl : Reach s s
  | write {t : St} (w : Write) : Reach s t → Reach s (t.write w)
  | setMem {t : St} (m : Mem) : Reach s t → Reach s (t.setMem m)
  | fuelOut {t : St} : Reach s t → Reach s { t with fuelOut := true }

/-- `f`, run by a dead process, leaves it dead and the disk as it was: the code after a death still runs in the model,
    and none of its writes reaches the disk (`Reach.frozen` shows it of every operation) -/
def Frozen (f : St → St) : Prop := ∀ s, s.crashed = true → (f s).crashed = true ∧ (f s).disk = s.disk

/-- a live node with no write budget: nothing it runs dies (`Reach.safe`). The hypothesis of the crash-free theorems. -/
def Safe (s : St) : Prop := s.crashed = false ∧ s.budget = none

namespace Reach
variable {s t : St}

theorem frozen (h : Reach s t) (hc : s.crashed = true) : t.crashed = true ∧ t.disk = s.disk := by
  induction h with
  | refl => exact ⟨hc, rfl⟩
  | write w _ ih => rw [write_dead _ w ih.1]; exact ih
  | setMem m _ ih => exact ih
  | fuelOut _ ih => exact ih

theorem safe (h : Reach s t) (hs : Safe s) : Safe t := by
  induction h with
  | refl => exact hs
  | write w _ ih => exact ⟨(write_nobudget _ w ih.1 ih.2).1, (write_nobudget _ w ih.1 ih.2).2.1⟩
  | setMem m _ ih => exact ih
  | fuelOut _ ih => exact ih

theorem writes (h : Reach s t) (ws : List Write) : Reach s (t.writes ws) := by
  induction ws generalizing t with
  | nil => exact h
  | cons w ws ih => exact ih (h.write w)

theorem removeA (h : Reach s t) (x : Block) : Reach s (removeA t x) := (h.writes _).setMem _

theorem unmark (h : Reach s t) (x : Block) : Reach s (unmark t x) := by
  rw [unmark_eq]; exact (h.writes _).setMem _

theorem removeB (h : Reach s t) (x p : Block) : Reach s (removeB t x p) :=
  (((h.setMem _).write _).unmark x).write _

theorem remove (h : Reach s t) (x : Block) : Reach s (remove t x).1 := by
  unfold Model.ChainStore.remove
  simp only
  split
  · exact h.removeA x
  · exact (h.removeA x).removeB x _

theorem removeLoop (base : Nat) (n : Nat) (h : Reach s t) : Reach s (removeLoop base n t) := by
  induction n generalizing t with
  | zero => exact h
  | succ n ih =>
    unfold Model.ChainStore.removeLoop
    simp only
    split
    · exact ih h
    · split
      · exact ih h
      · exact ih (h.remove _)

theorem removeFrom (h : Reach s t) (anc : Block) : Reach s (removeFromCommonAncestor t anc) :=
  h.removeLoop _ _

theorem verify (h : Reach s t) (b : Block) : Reach s (verify t b).1 := by
  obtain ⟨_, _, e, _⟩ := verify_fst t b
  rw [e]; exact h.setMem _

theorem markTxs (h : Reach s t) (b : Block) : Reach s (markTxs t b) := by
  unfold Model.ChainStore.markTxs
  split
  · exact h
  · exact h.write _

theorem insertB (h : Reach s t) (b : Block) : Reach s (insertB t b) :=
  ((((((h.writes _).markTxs b).setMem _).write _).setMem _).write _)

theorem insertBlock (cont : St → Block → St) (hc : ∀ {t} f, Reach s t → Reach s (cont t f)) (h : Reach s t)
    (b : Block) : Reach s (insertBlock cont t b).1 := by
  unfold Model.ChainStore.insertBlock
  simp only
  split
  · exact h.writes _
  · split
    · exact hc _ (((h.writes _).setMem _).insertB b)
    · exact ((h.writes _).setMem _).insertB b

theorem addCore (fuel : Nat) (b : Block) (h : Reach s t) : Reach s (addCore fuel t b).1 := by
  induction fuel generalizing t b with
  | zero => exact h.fuelOut
  | succ fuel ih =>
    refine addCore_cases (motive := fun r => Reach s r.1) fuel t b (fun _ => h) (fun _ _ _ => h.verify b) ?_ ?_
    · intro _ _ _
      exact (h.verify b).insertBlock _ (fun f hf => ih f hf) b
    · intro anc _ _ _ _ _
      exact ih b ((h.verify b).removeFrom anc)

theorem addBlock (fuel : Nat) (b : Block) (h : Reach s t) : Reach s (addBlock fuel t b).1 :=
  addBlock_cases (motive := fun r => Reach s r.1) fuel t b (h.setMem _) h (h.addCore fuel b)

theorem forkAdd (fuel : Nat) (bs : List Block) (h : Reach s t) : Reach s (forkAdd fuel t bs) := by
  induction bs generalizing t with
  | nil => exact h
  | cons b bs ih => exact forkAdd_cases fuel t b bs (fun _ => ih (h.addBlock fuel b)) (h.addBlock fuel b)

theorem forkSwitch (fuel : Nat) (anc : Block) (bs : List Block) (h : Reach s t) :
    Reach s (forkSwitch fuel t anc bs) :=
  (h.removeFrom anc).forkAdd fuel bs

theorem repairAdd (h : Reach s t) : Reach s (repairAdd t) := by
  unfold Model.ChainStore.repairAdd
  split
  · exact (h.remove _).write _
  · exact h

theorem repairRemove (h : Reach s t) : Reach s (repairRemove t) := by
  unfold Model.ChainStore.repairRemove
  split
  · exact (h.remove _).write _
  · exact h

theorem restart (h : Reach s t) : Reach s (restart t).1 := by
  unfold Model.ChainStore.restart
  split
  · exact h
  · simp only
    split
    · exact (h.setMem _).repairAdd.repairRemove
    · exact (h.setMem _).repairAdd.repairRemove.setMem _

end Reach

end Rangers.Proofs.ChainStore
