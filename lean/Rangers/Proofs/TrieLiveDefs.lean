import Rangers.Proofs.TrieLiveAbs
import Rangers.Proofs.TrieWF
/- Monotonicity in the store and the case forms of the abstraction relation between live and loaded tries; the relation between
   the children of a full node (`AbsLs`) read and updated slot by slot. -/
namespace Rangers.Trie
open Rangers

theorem Extends.refl (st : Store) : Extends st st := fun _ _ h => h
theorem Extends.trans {a b c : Store} (h1 : Extends a b) (h2 : Extends b c) : Extends a c :=
  fun h x hx => h2 h x (h1 h x hx)

theorem Stored.mono {H : Bytes → Bytes} {st st' : Store} {t : Node} (he : Extends st st') (h : Stored H st t) :
    Stored H st' t := fun e hm => he _ _ (h e hm)

theorem FlagOK.mono {H : Bytes → Bytes} {st st' : Store} {child : Bool} {fl : Flag} {t : Node}
    (he : Extends st st') (h : FlagOK H st child fl t) : FlagOK H st' child fl t := by
  refine ⟨h.1, fun hd => ⟨(h.2 hd).1.mono he, ?_⟩⟩
  have := (h.2 hd).2
  cases hh : fl.hash with
  | none => rw [hh] at this; exact this
  | some x => rw [hh] at this; exact he _ _ this

theorem HashOf.mono {H : Bytes → Bytes} {st st' : Store} {child : Bool} {t : Node} {l : LNode}
    (he : Extends st st') (h : HashOf H st child t l) : HashOf H st' child t l :=
  ⟨h.1, h.2.1, h.2.2.1, h.2.2.2.1.mono he, he _ _ h.2.2.2.2⟩

theorem AbsLs_append {H : Bytes → Bytes} {st : Store} {xs ys : List Node} {ms : List LNode} :
    ∀ {ls : List LNode}, AbsLs H st xs ls → AbsLs H st ys ms → AbsLs H st (xs ++ ys) (ls ++ ms) := by
  induction xs with
  | nil => intro ls h1 h2; cases ls <;> simp_all [AbsLs]
  | cons x xs ih =>
    intro ls h1 h2
    cases ls with
    | nil => simp [AbsLs] at h1
    | cons l ls => exact AbsLs_cons.mpr ⟨(AbsLs_cons.mp h1).1, ih (AbsLs_cons.mp h1).2 h2⟩

theorem AbsLs.imp {H : Bytes → Bytes} {st st' : Store} {cs : List Node}
    (hc : ∀ c ∈ cs, ∀ l, AbsR H st true c l → AbsR H st' true c l) :
    ∀ {lcs}, AbsLs H st cs lcs → AbsLs H st' cs lcs := by
  induction cs with
  | nil => intro lcs h; cases lcs <;> simp_all [AbsLs]
  | cons c cs ih =>
    intro lcs h
    cases lcs with
    | nil => simp [AbsLs] at h
    | cons l ls =>
      rw [AbsLs_cons] at h ⊢
      exact ⟨hc c (by simp) l h.1, ih (fun c' hc' => hc c' (by simp [hc'])) h.2⟩

theorem AbsL.mono (H : Bytes → Bytes) {st st' : Store} (he : Extends st st') (t : Node) :
    ∀ child l, AbsL H st child t l → AbsL H st' child t l := by
  induction t using Node.induct with
  | hnil => intro child l h; cases l <;> simp_all [AbsL]
  | hval b => intro child l h; cases l <;> simp_all [AbsL]
  | hshort k v ih =>
    intro child l h
    cases l with
    | short k' lv fl =>
      simp only [AbsL] at h ⊢
      exact ⟨h.1, h.2.1.imp (ih _ _) (HashOf.mono he), h.2.2.mono he⟩
    | _ => simp [AbsL] at h
  | hfull cs ih =>
    intro child l h
    cases l with
    | full lcs fl =>
      simp only [AbsL] at h ⊢
      exact ⟨AbsLs.imp (fun c hc l hl => hl.imp (ih c hc _ _) (HashOf.mono he)) h.1, h.2.mono he⟩
    | _ => simp [AbsL] at h

theorem AbsR.mono (H : Bytes → Bytes) {st st' : Store} (he : Extends st st') {child : Bool} {t : Node} {l : LNode}
    (h : AbsR H st child t l) : AbsR H st' child t l := by
  rcases h with h | h
  · exact Or.inl (AbsL.mono H he t _ _ h)
  · exact Or.inr (h.mono he)

theorem AbsLs.mono {H : Bytes → Bytes} {st st' : Store} (he : Extends st st') {cs : List Node} {lcs : List LNode}
    (h : AbsLs H st cs lcs) : AbsLs H st' cs lcs :=
  AbsLs.imp (fun _ _ _ hl => AbsR.mono H he hl) h

theorem flagOK_new (H : Bytes → Bytes) (st : Store) (child : Bool) (g : Nat) (t : Node) :
    FlagOK H st child (newFlag g) t :=
  ⟨fun x hx => by simp [newFlag] at hx, fun hd => by simp [newFlag] at hd⟩

/-- the flags `expandNode` gives an embedded child -/
theorem flagOK_embedded {H : Bytes → Bytes} {st : Store} (g : Nat) {t : Node} (hst : Stored H st t)
    (hsmall : (enc H t).length < 32) : FlagOK H st true { hash := none, gen := g, dirty := false } t :=
  ⟨fun x hx => by simp at hx, fun _ => ⟨hst, rfl, hsmall⟩⟩

theorem AbsL_short {H : Bytes → Bytes} {st : Store} {child : Bool} {k : Key} {v : Node} {l : LNode} :
    AbsL H st child (.short k v) l ↔
      ∃ lv fl, l = .short k lv fl ∧ AbsR H st true v lv ∧ FlagOK H st child fl (.short k v) := by
  cases l with
  | short k' lv fl =>
    simp only [AbsL, AbsR, LNode.short.injEq]
    constructor
    · rintro ⟨rfl, h1, h2⟩; exact ⟨lv, fl, ⟨rfl, rfl, rfl⟩, h1, h2⟩
    · rintro ⟨lv', fl', ⟨rfl, rfl, rfl⟩, h1, h2⟩; exact ⟨rfl, h1, h2⟩
  | _ => simp [AbsL]

theorem AbsLs.length_eq {H : Bytes → Bytes} {st : Store} {cs : List Node} {lcs : List LNode} (h : AbsLs H st cs lcs) :
    cs.length = lcs.length := by
  induction cs generalizing lcs with
  | nil => cases lcs with
    | nil => rfl
    | cons _ _ => exact h.elim
  | cons c cs ih => cases lcs with
    | nil => exact h.elim
    | cons l ls => exact congrArg (· + 1) (ih (AbsLs_cons.mp h).2)

/-- the slot as the loaded model (`cs[i]?`) and the live model (`getD`) read it -/
theorem AbsLs.getD {H : Bytes → Bytes} {st : Store} {cs : List Node} {lcs : List LNode} (h : AbsLs H st cs lcs)
    {i : Nat} (hi : i < cs.length) : AbsR H st true (cs[i]?.getD .nil) (lcs.getD i .nil) := by
  induction cs generalizing lcs i with
  | nil => exact absurd hi (Nat.not_lt_zero _)
  | cons c cs ih => cases lcs with
    | nil => exact h.elim
    | cons l ls => cases i with
      | zero => exact (AbsLs_cons.mp h).1
      | succ i => exact ih (AbsLs_cons.mp h).2 (Nat.lt_of_succ_lt_succ hi)

theorem AbsLs.set {H : Bytes → Bytes} {st : Store} {cs : List Node} {lcs : List LNode} (h : AbsLs H st cs lcs)
    (i : Nat) {c : Node} {lc : LNode} (hc : AbsR H st true c lc) : AbsLs H st (cs.set i c) (lcs.set i lc) := by
  induction cs generalizing lcs i with
  | nil => cases lcs with
    | nil => exact h
    | cons _ _ => exact h.elim
  | cons c' cs ih => cases lcs with
    | nil => exact h.elim
    | cons l ls => cases i with
      | zero => exact AbsLs_cons.mpr ⟨hc, (AbsLs_cons.mp h).2⟩
      | succ i => exact AbsLs_cons.mpr ⟨(AbsLs_cons.mp h).1, ih (AbsLs_cons.mp h).2 i⟩

theorem AbsL_full {H : Bytes → Bytes} {st : Store} {child : Bool} {cs : List Node} {l : LNode} :
    AbsL H st child (.full cs) l ↔
      ∃ lcs fl, l = .full lcs fl ∧ AbsLs H st cs lcs ∧ FlagOK H st child fl (.full cs) := by
  cases l with
  | full lcs fl =>
    simp only [AbsL, LNode.full.injEq]
    constructor
    · rintro ⟨h1, h2⟩; exact ⟨lcs, fl, ⟨rfl, rfl⟩, h1, h2⟩
    · rintro ⟨lcs', fl', ⟨rfl, rfl⟩, h1, h2⟩; exact ⟨h1, h2⟩
  | _ => simp [AbsL]

theorem AbsL_value {H : Bytes → Bytes} {st : Store} {child : Bool} {b : Bytes} {l : LNode} :
    AbsL H st child (.value b) l ↔ l = .value b := by
  cases l <;> simp [AbsL]; exact eq_comm

theorem AbsR_nil {H : Bytes → Bytes} {st : Store} {child : Bool} {l : LNode} : AbsR H st child .nil l ↔ l = .nil := by
  simp only [AbsR, AbsL_nil]
  constructor
  · rintro (h | h)
    · exact h
    · exact absurd h.2.1 not_WF_nil
  · intro h; exact Or.inl h

theorem AbsR_value {H : Bytes → Bytes} {st : Store} {child : Bool} {b : Bytes} {l : LNode} :
    AbsR H st child (.value b) l ↔ l = .value b := by
  simp only [AbsR, AbsL_value]
  constructor
  · rintro (h | h)
    · exact h
    · exact absurd h.2.1 (not_WF_value b)
  · intro h; exact Or.inl h

theorem AbsLs_replicate_nil {H : Bytes → Bytes} {st : Store} (n : Nat) :
    AbsLs H st (List.replicate n .nil) (List.replicate n .nil) := by
  induction n with
  | zero => trivial
  | succ n ih => exact AbsLs_cons.mpr ⟨AbsR_nil.mpr rfl, ih⟩

end Rangers.Trie
