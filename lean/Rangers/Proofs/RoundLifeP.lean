import Rangers.Model.RoundLife
import Rangers.Proofs.Round
/-! Lemmas about the life-cycle model `Model/RoundLife.lean` (round0, cast message, chain notification and timeout
around the `Proc` of `Model/Round.lean`). None needs `Lawful`; liveness under `Lawful` is `Proofs/RoundLive.lean`.
Whatever `GenerateBlock` is handed verifies (`GenValid`); a `Kept` property of the round state holds along every
history (`lifeRun_kept`); a reaped party is inert (`Dead`, `run_dead`). -/
namespace Rangers.Proofs.Round
open Rangers.Model.Round

variable {G : Type}

/-- `GenerateBlock` was only ever called with signatures that pass `round2.checkSignature`. -/
def GenValid (c : Crypto G) (env : Env) (rs : RState G) : Prop :=
  ∀ a b, rs.generated = some (a, b) → sigOk c env.hash a = true ∧ sigOk c env.prevRandom b = true

theorem GenValid.withChain {c : Crypto G} {env : Env} {rs : RState G} (b : Bool) :
    GenValid c (env.withChain b) rs ↔ GenValid c env rs := Iff.rfl

theorem GenValid.kept (c : Crypto G) (env : Env) : Kept c env (GenValid c env) where
  init _ _ _ _ := nofun
  update st m h a b hab := h a b ((update_frame c env st m).2.2.2.1 ▸ hab)
  start2 st h a b hab := by
    rcases start2_cases c env st with ⟨_, _, e⟩ | ⟨_, _, h1, h2, e⟩ <;> rw [e] at hab
    · exact h a b hab
    · cases hab; exact ⟨h1, h2⟩
  congr st st' h _ _ _ _ _ hg a b hab := h a b (hg ▸ hab)

variable {c : Crypto G} {env : Env} {P : RState G → Prop}

theorem dispatch_kept (k : Kept c env P) (ms : List (VMsg G)) :
    ∀ pr : Proc G, P pr.party.rs → P (dispatch c env pr ms).party.rs := by
  induction ms with
  | nil => intro pr h; exact h
  | cons m rest ih => intro pr h; exact ih _ (onVerify_kept k pr m h)

theorem enterSigning_kept (k : Kept c env P)
    (ord : List (VMsg G) → List (VMsg G)) (l : Life G) (p0 : List MsgId) (stored pending : List (VMsg G)) :
    P (l.enterSigning c env ord p0 stored pending).proc.party.rs :=
  dispatch_kept k pending _ (initWith_kept k p0 (ord stored))

theorem onPacket_kept (k : Kept c env P)
    (ord : List (VMsg G) → List (VMsg G)) (l : Life G) (w : Wire G) (h : P l.proc.party.rs) :
    P (l.onPacket c env ord w).proc.party.rs := by
  unfold Life.onPacket
  split; · exact h
  split
  · split
    · exact h
    · exact onVerify_kept k l.proc _ h
  · split
    · exact enterSigning_kept k ord l _ _ _
    · split <;> exact h
  · split <;> exact h
  · exact h
  · split <;> exact h

theorem foldPackets_kept (k : Kept c env P)
    (ord : List (VMsg G) → List (VMsg G)) (ms : List (VMsg G)) :
    ∀ l : Life G, P l.proc.party.rs →
      P (ms.foldl (fun acc m => acc.onPacket c env ord (.ok m)) l).proc.party.rs := by
  induction ms with
  | nil => intro l h; exact h
  | cons m rest ih => intro l h; exact ih _ (onPacket_kept k ord l _ h)

theorem step_kept (k : ∀ b, Kept c (env.withChain b) P)
    (ord : List (VMsg G) → List (VMsg G)) (l : Life G) (ev : Event G) (h : P l.proc.party.rs) :
    P (l.step c env ord ev).proc.party.rs := by
  have k0 := Kept.plain k
  cases ev with
  | cast mid v =>
    simp only [Life.step, Life.onCast]
    split
    · cases v
      · exact h
      · exact h
      · exact enterSigning_kept k0 ord l _ _ _
    · split
      · exact h
      · cases v
        · exact h
        · exact h
        · exact enterSigning_kept k0 ord l _ _ _
    · exact h
  | notify v =>
    have hn : P (l.onNotify v).proc.party.rs := by
      unfold Life.onNotify
      split
      · cases v <;> exact h
      · exact h
    simp only [Life.step]
    split
    · exact foldPackets_kept k0 ord _ _ hn
    · exact hn
  | packet b w => exact onPacket_kept (k b) ord l w h
  | timeout =>
    simp only [Life.step, Life.onTimeout]
    split
    · exact h
    · exact h
    · split <;> exact h
    · exact h

theorem lifeRun_kept (k : ∀ b, Kept c (env.withChain b) P)
    (ord : List (VMsg G) → List (VMsg G)) (evs : List (Event G)) :
    ∀ l : Life G, P l.proc.party.rs → P (Life.run c env ord l evs).proc.party.rs := by
  induction evs with
  | nil => intro l h; exact h
  | cons e rest ih => intro l h; exact ih _ (step_kept k ord l e h)

/-- The party has been reaped: while still in round0, or in the signing rounds (error, completion, timeout). -/
def Dead (l : Life G) : Prop := l.stage = .gone ∨ (l.stage = .signing ∧ l.proc.inManager = false)

theorem step_dead (c : Crypto G) (env : Env) (ord : List (VMsg G) → List (VMsg G)) (l : Life G)
    (ev : Event G) (h : Dead l) :
    (l.step c env ord ev).proc.party = l.proc.party ∧ (l.step c env ord ev).proc.ending = l.proc.ending ∧
    Dead (l.step c env ord ev) := by
  have hst : l.stage = .gone ∨ l.stage = .signing := h.imp id And.left
  cases ev with
  | cast mid v =>
    have e : l.step c env ord (.cast mid v) = l := by
      rcases hst with hs | hs <;> simp only [Life.step, Life.onCast, hs]
    rw [e]; exact ⟨rfl, rfl, h⟩
  | notify v =>
    have e : l.step c env ord (.notify v) = l := by
      rcases hst with hs | hs <;> simp [Life.step, Life.onNotify, hs]
    rw [e]; exact ⟨rfl, rfl, h⟩
  | timeout =>
    have e : l.step c env ord .timeout = l := by
      rcases h with hs | ⟨hs, hm⟩ <;> simp [Life.step, Life.onTimeout, *]
    rw [e]; exact ⟨rfl, rfl, h⟩
  | packet b w =>
    have e : l.step c env ord (.packet b w) = l.onPacket c (env.withChain b) ord w := rfl
    rw [e]
    unfold Life.onPacket
    split
    · exact ⟨rfl, rfl, h⟩
    rcases h with hs | ⟨hs, hm⟩ <;> rw [hs] <;> simp only []
    · split
      · exact ⟨rfl, rfl, .inl hs⟩
      · exact ⟨rfl, rfl, .inl rfl⟩
    · split
      · exact ⟨rfl, rfl, .inr ⟨hs, hm⟩⟩
      · rename_i m _ _
        obtain ⟨s, e⟩ := onVerify_skip c (env.withChain b) l.proc m fun _ => hm
        rw [e]; exact ⟨rfl, rfl, .inr ⟨rfl, hm⟩⟩

theorem run_dead (c : Crypto G) (env : Env) (ord : List (VMsg G) → List (VMsg G)) (evs : List (Event G)) :
    ∀ l : Life G, Dead l →
      (Life.run c env ord l evs).proc.party = l.proc.party ∧
      (Life.run c env ord l evs).proc.ending = l.proc.ending ∧ Dead (Life.run c env ord l evs) := by
  induction evs with
  | nil => intro l h; exact ⟨rfl, rfl, h⟩
  | cons e rest ih =>
    intro l h
    have hs := step_dead c env ord l e h
    have hr := ih _ hs.2.2
    exact ⟨hr.1.trans hs.1, hr.2.1.trans hs.2.1, hr.2.2⟩

end Rangers.Proofs.Round
