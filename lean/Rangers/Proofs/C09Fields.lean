import Rangers.Proofs.C09Wire
/-! What `proto.Marshal` emits for a message of `x.pb.go` is a list of fields with ascending numbers,
each an optional bytes, an optional varint or a repeated bytes field. From such a list every getter of
`Model/Wire.lean` reads the field with its number back (`fields_read`). -/
namespace Rangers.Wire
open Rangers

inductive Fld where
  | optLen (k : Nat) (o : Option Bytes)
  | optVint (k : Nat) (o : Option Nat)
  | repLen (k : Nat) (l : List Bytes)

namespace Fld

def num : Fld → Nat
  | optLen k _ => k
  | optVint k _ => k
  | repLen k _ => k

def raws : Fld → List Raw
  | optLen k o => optLenR k o
  | optVint k o => optVintR k o
  | repLen k l => repLenR k l

end Fld

/-- Left-nested like the encoders of `Model/Wire.lean`, so that `rawsOfX p = fieldsRaws (fieldsOfX p)` is `rfl`. -/
def fieldsRaws (fs : List Fld) : List Raw := fs.foldl (fun acc f => acc ++ f.raws) []

theorem fieldsRaws_eq_flatMap (fs : List Fld) : fieldsRaws fs = fs.flatMap Fld.raws := by
  have h : ∀ acc, fs.foldl (fun acc f => acc ++ f.raws) acc = acc ++ fs.flatMap Fld.raws := by
    induction fs with
    | nil => intro acc; simp
    | cons f fs ih => intro acc; rw [List.foldl_cons, ih, List.flatMap_cons, List.append_assoc]
  exact (h []).trans (List.nil_append _)

/-- No field numbered `n` among `rs`, as far as the getters can tell. -/
def Silent (n : Nat) (rs : List Raw) : Prop := lastLen n rs = none ∧ lastVint n rs = none ∧ allLen n rs = []

theorem Silent.append {n : Nat} {a b : List Raw} (ha : Silent n a) (hb : Silent n b) : Silent n (a ++ b) := by
  rw [Silent, lastLen_append, lastVint_append, allLen_append, ha.1, ha.2.1, ha.2.2, hb.1, hb.2.1, hb.2.2]
  exact ⟨rfl, rfl, rfl⟩

theorem Fld.silent {n : Nat} (f : Fld) (h : f.num ≠ n) : Silent n f.raws := by
  cases f with
  | optLen k o => exact ⟨(lastLen_optLenR n k o).trans (if_neg h), lastVint_optLenR n k o, (allLen_optLenR n k o).trans (if_neg h)⟩
  | optVint k o => exact ⟨lastLen_optVintR n k o, (lastVint_optVintR n k o).trans (if_neg h), allLen_optVintR n k o⟩
  | repLen k l => exact ⟨(lastLen_repLenR n k l).trans (if_neg h), lastVint_repLenR n k l, (allLen_repLenR n k l).trans (if_neg h)⟩

theorem silent_flatMap {n : Nat} (fs : List Fld) (h : ∀ f ∈ fs, f.num ≠ n) : Silent n (fs.flatMap Fld.raws) := by
  induction fs with
  | nil => exact ⟨rfl, rfl, rfl⟩
  | cons f fs ih =>
    exact (f.silent (h f List.mem_cons_self)).append (ih (fun g hg => h g (List.mem_cons_of_mem _ hg)))

/-- Checked in one pass, where deciding that the numbers are pairwise distinct compares all pairs. -/
def ascending : List Nat → Bool
  | a :: b :: l => decide (a < b) && ascending (b :: l)
  | _ => true

theorem lt_of_ascending : ∀ (a : Nat) (l : List Nat), ascending (a :: l) = true → ∀ x ∈ l, a < x
  | _, [], _, _, hx => nomatch hx
  | a, b :: l, h, x, hx => by
    simp only [ascending, Bool.and_eq_true, decide_eq_true_eq] at h
    rcases List.mem_cons.mp hx with rfl | hx
    · exact h.1
    · exact Nat.lt_trans h.1 (lt_of_ascending b l h.2 x hx)

theorem ascending_tail : ∀ {a : Nat} {l : List Nat}, ascending (a :: l) = true → ascending l = true
  | _, [], _ => rfl
  | _, _ :: _, h => (Bool.and_eq_true_iff.mp h).2

/-- The getters of `Model/Wire.lean`, asked for the field's number, return its content. -/
def Fld.ReadBy (rs : List Raw) : Fld → Prop
  | .optLen k o => Wire.lastLen k rs = o ∧ Wire.allLen k rs = o.toList
  | .optVint k o => Wire.lastVint k rs = o
  | .repLen k l => Wire.allLen k rs = l

/-- A conjunction and not `∀ f ∈ fs`, so that for a concrete `fs` it unfolds to one equation per field. -/
def ReadAll (rs : List Raw) : List Fld → Prop
  | [] => True
  | f :: fs => f.ReadBy rs ∧ ReadAll rs fs

theorem Silent.mid {n : Nat} {a b : List Raw} (x : List Raw) (ha : Silent n a) (hb : Silent n b) :
    lastLen n (a ++ (x ++ b)) = lastLen n x ∧ lastVint n (a ++ (x ++ b)) = lastVint n x ∧
      allLen n (a ++ (x ++ b)) = allLen n x := by
  rw [lastLen_append, lastLen_append, lastVint_append, lastVint_append, allLen_append, allLen_append,
    ha.1, ha.2.1, ha.2.2, hb.1, hb.2.1, hb.2.2]
  exact ⟨Option.or_none, Option.or_none, List.append_nil _⟩

theorem Fld.readBy_of (f : Fld) {a b : List Raw} (ha : Silent f.num a) (hb : Silent f.num b) :
    f.ReadBy (a ++ (f.raws ++ b)) := by
  obtain ⟨h1, h2, h3⟩ := ha.mid f.raws hb
  cases f with
  | optLen k o =>
    exact ⟨h1.trans ((lastLen_optLenR k k o).trans (if_pos rfl)), h3.trans ((allLen_optLenR k k o).trans (if_pos rfl))⟩
  | optVint k o => exact h2.trans ((lastVint_optVintR k k o).trans (if_pos rfl))
  | repLen k l => exact h3.trans ((allLen_repLenR k k l).trans (if_pos rfl))

theorem readAll_flatMap (pre fs : List Fld) (hpre : ∀ g ∈ pre, ∀ f ∈ fs, g.num ≠ f.num)
    (h : ascending (fs.map Fld.num) = true) : ReadAll ((pre ++ fs).flatMap Fld.raws) fs := by
  induction fs generalizing pre with
  | nil => trivial
  | cons f fs ih =>
    have hlt : ∀ x ∈ fs, f.num < x.num := fun x hx => lt_of_ascending f.num _ h x.num (List.mem_map_of_mem hx)
    refine ⟨?_, ?_⟩
    · rw [List.flatMap_append, List.flatMap_cons]
      exact f.readBy_of (silent_flatMap pre (fun g hg => hpre g hg f List.mem_cons_self))
        (silent_flatMap fs (fun g hg => Nat.ne_of_gt (hlt g hg)))
    · rw [← List.singleton_append, ← List.append_assoc]
      refine ih (pre ++ [f]) (fun g hg x hx => ?_) (ascending_tail h)
      rcases List.mem_append.mp hg with hg | hg
      · exact hpre g hg x (List.mem_cons_of_mem _ hx)
      · exact List.mem_singleton.mp hg ▸ Nat.ne_of_lt (hlt x hx)

theorem fields_read (fs : List Fld) (h : ascending (fs.map Fld.num) = true) : ReadAll (fieldsRaws fs) fs := by
  rw [fieldsRaws_eq_flatMap]
  exact readAll_flatMap [] fs (fun _ hg => nomatch hg) h

end Rangers.Wire
