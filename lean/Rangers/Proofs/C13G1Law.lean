import Rangers.Proofs.Bls14BridgeC13
import Rangers.Generated.Bn256Consts
import Rangers.Proofs.BitLen
/-!
`Model/G1.lean` at the parameters of the code (`bnCurve`) is the elliptic-curve group law: `Proofs/Bls14BridgeC13.lean`
read in the other direction (`φ` instead of `conv`) carries over `ι_add` of `Proofs/Bls14Curve.lean`, and the C13 scalar
multiplication (a loop over `testBit` indices instead of a bit list) is read as the fold that `foldr_double_add` there
is about.
-/
namespace Rangers.Proofs.C13G1
open Rangers Rangers.Model Rangers.Model.Bls14 Rangers.Proofs.Bls14 Rangers.Proofs.C13 Rangers.Generated

/-- The curve the driver `drv_c13` runs `Model.G1` on. -/
def bnCurve : G1.Curve := ⟨Bn256.fieldP, Bn256.curveB⟩

theorem fadd_eq (a b : Nat) : G1.fadd bnCurve a b = fadd a b := rfl
theorem fsub_eq (a b : Nat) : G1.fsub bnCurve a b = fsub a b := rfl
theorem fmul_eq (a b : Nat) : G1.fmul bnCurve a b = fmul a b := rfl

def φ : G1.Point → Pt
  | .inf => .inf
  | .aff x y => .aff x y

theorem φ_conv (p : Pt) : φ (conv p) = p := by cases p <;> rfl
theorem conv_φ (q : G1.Point) : conv (φ q) = q := by cases q <;> rfl

/-- Valid = on the curve with reduced coordinates (what the Go code holds after a successful decode). -/
def Valid1 (q : G1.Point) : Prop := Valid (φ q)

theorem isOnCurve_eq (q : G1.Point) : G1.isOnCurve bnCurve q = (φ q).onCurve := by
  cases q with
  | inf => rfl
  | aff x y => exact c13_isOnCurve x y

theorem valid_inf : Valid1 .inf := ⟨rfl, rfl⟩

theorem lt_two_pow_bitLen (k : Nat) : k < 2 ^ G1.bitLen k := BitLen.le_iff.1 (Nat.le_refl _)

theorem mulAux_eq_foldr (c : G1.Curve) (a : G1.Point) (k : Nat) : ∀ (i : Nat) (sum : G1.Point),
    G1.mulAux c a k i sum =
      ((List.range (i + 1)).map k.testBit).foldr (fun b s => if b then G1.add c (G1.double c s) a else G1.double c s) sum
  | 0, _ => rfl
  | i + 1, sum => by
    rw [G1.mulAux, mulAux_eq_foldr c a k i, List.range_succ (n := i + 1), List.map_append, List.foldr_append]
    rfl

variable [hp : Fact (Nat.Prime P)]

theorem φ_add (a b : G1.Point) (ha : (φ a).reduced = true) (hb : (φ b).reduced = true) :
    φ (G1.add bnCurve a b) = Pt.add (φ a) (φ b) := by
  have h := c13_add (φ a) (φ b) ha hb
  rw [conv_φ, conv_φ] at h
  rw [show bnCurve = c13 from rfl, h, φ_conv]

noncomputable def μ (q : G1.Point) : W.Point := ι (φ q)

theorem μ_inf : μ .inf = 0 := rfl

theorem g1_add_law (a b : G1.Point) (ha : Valid1 a) (hb : Valid1 b) :
    Valid1 (G1.add bnCurve a b) ∧ μ (G1.add bnCurve a b) = μ a + μ b := by
  unfold Valid1 μ
  rw [φ_add a b ha.2 hb.2]
  exact ι_add (φ a) (φ b) ha hb

theorem g1_double_law (a : G1.Point) (ha : Valid1 a) :
    Valid1 (G1.double bnCurve a) ∧ μ (G1.double bnCurve a) = μ a + μ a := by
  have h := g1_add_law a a ha ha
  have : G1.add bnCurve a a = G1.double bnCurve a := by
    cases a with
    | inf => rfl
    | aff x y => simp [G1.add]
  rwa [this] at h

theorem μ_inj (a b : G1.Point) (ha : Valid1 a) (hb : Valid1 b) (h : μ a = μ b) : a = b := by
  have := ι_inj (φ a) (φ b) ha hb h
  cases a <;> cases b <;> simp_all [φ]

theorem g1_mul_law (a : G1.Point) (ha : Valid1 a) (k : Nat) :
    Valid1 (G1.mul bnCurve a k) ∧ μ (G1.mul bnCurve a k) = k • μ a := by
  have h := foldr_double_add μ Valid1 (G1.double bnCurve) (G1.add bnCurve) .inf a ⟨valid_inf, μ_inf⟩ g1_double_law
    (fun s hs => g1_add_law s a hs ha) ((List.range (G1.bitLen k + 1)).map k.testBit)
  rwa [← mulAux_eq_foldr, ofBitsLE_testBit, Nat.mod_eq_of_lt
    (lt_trans (lt_two_pow_bitLen k) (Nat.pow_lt_pow_right (by omega) (by omega)))] at h

end Rangers.Proofs.C13G1
