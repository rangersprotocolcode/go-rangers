import Rangers.Proofs.ChainStoreMain
/-!
`addBlockOnChain` end to end (`addCore_spec`, `addBlock_spec`): whatever the write budget, a live node holds one
chain again and a dead one leaves a recoverable disk; and the new chain is not lighter than the old one, where weight
is (cumulative QN, then prove value and hash of the FIRST block above the fork point). The function is not recursive
through a reorg: `removeFromCommonAncestor` stops exactly at the fork point, so the re-entry is the extension case
(`addCore_ext`) and inserts the coming block on top of it. The crash-free statements (`addBlock_weight`) are the case
of a node that cannot die.
-/
namespace Rangers.Proofs.ChainStore
open Rangers.Model.ChainStore

theorem IsAnc.qn_le {T : Nat → Option Block} (vt : ValidTree T) {a b : Block} (h : IsAnc T a b) :
    a.totalQN ≤ b.totalQN := by
  induction h with
  | parent hb hp => exact (vt.parent _ _ hb hp).2
  | step _ hb hp ih => exact Nat.le_trans ih (vt.parent _ _ hb hp).2

theorem Inv.qn_le_latest {T : Nat → Option Block} (vt : ValidTree T) {d : Disk} {m : Mem} {c : List Block}
    (inv : Inv T d m c) {z : Block} (hz : z ∈ c) : z.totalQN ≤ m.latest.totalQN := by
  obtain ⟨rest, rfl⟩ := head_of_latest inv
  rcases List.mem_cons.mp hz with rfl | hz
  · exact Nat.le_refl _
  · exact (anc_of_chain rest _ inv.chain.linked inv.fromT z hz).qn_le vt

theorem Linked.child_of : ∀ (c : List Block), Linked c → ∀ anc ln, anc ∈ c → ln ∈ c →
    ln.height = anc.height + 1 → ln.pre = anc.hash := by
  intro c
  induction c with
  | nil => intro h; exact absurd h (by simp [Linked])
  | cons x rest ih =>
    intro hl anc ln ha hn hh
    rcases List.mem_cons.mp hn with e1 | e1
    · -- `ln` is the head `x`: of the blocks below it only the one right below can be one lower
      subst e1
      rcases List.mem_cons.mp ha with e2 | e2
      · subst e2; exact absurd hh.symm (Nat.succ_ne_self _)
      · cases rest with
        | nil => cases e2
        | cons y r2 =>
          have hxy : ln.pre = y.hash ∧ y.height < ln.height ∧ Linked (y :: r2) := hl
          rcases List.mem_cons.mp e2 with e3 | e3
          · subst e3; exact hxy.1
          · have h1 : y.height < anc.height + 1 := hh ▸ hxy.2.1
            exact absurd (Nat.le_of_lt_succ h1) (Nat.not_le_of_lt (hxy.2.2.lt_head anc e3))
    · rcases List.mem_cons.mp ha with e2 | e2
      · -- `anc` is the head: nothing on the chain is higher
        subst e2
        exact absurd (Nat.lt_trans (Nat.lt_succ_self _) (hh ▸ hl.lt_head ln e1)) (Nat.lt_irrefl _)
      · have hne : rest ≠ [] := by intro e; rw [e] at e1; cases e1
        exact ih (hl.tail hne) anc ln e2 e1 hh

theorem remove_future (s : St) (x : Block) : (remove s x).1.mem.future = s.mem.future := by
  obtain ⟨_, _, e⟩ := remove_mem s x
  rw [e]

theorem pvGreater_iff (a b : Block) :
    pvGreater a b = true ↔ b.pv < a.pv ∨ (a.pv = b.pv ∧ b.hash < a.hash) := by
  unfold pvGreater
  by_cases h1 : a.pv > b.pv
  · rw [if_pos h1]; exact ⟨fun _ => Or.inl h1, fun _ => rfl⟩
  · rw [if_neg h1]
    by_cases h2 : a.pv < b.pv
    · rw [if_pos h2]
      exact ⟨fun h => (nomatch h), fun h => h.elim (fun h => absurd h h1) fun h => absurd (h.1 ▸ h2) (Nat.lt_irrefl _)⟩
    · rw [if_neg h2, decide_eq_true_iff]
      exact ⟨fun h => Or.inr ⟨Nat.le_antisymm (Nat.le_of_not_lt h1) (Nat.le_of_not_lt h2), h⟩,
        fun h => h.elim (fun h => absurd h h1) (·.2)⟩

theorem requestIdFrom_eq (reqs : List Nat) (last : Nat) : requestIdFrom reqs last = max last (reqs.max?.getD 0) := by
  have e : (fun acc r : Nat => if r > acc then r else acc) = max := by
    funext a r
    by_cases h : a < r
    · exact (if_pos h).trans (Nat.max_eq_right (Nat.le_of_lt h)).symm
    · exact (if_neg h).trans (Nat.max_eq_left (Nat.le_of_not_lt h)).symm
  unfold requestIdFrom
  rw [e, List.foldl_max, Nat.zero_max]
  generalize reqs.max?.getD 0 = m
  by_cases h : m > last
  · exact (if_pos ⟨Nat.ne_of_gt (Nat.lt_of_le_of_lt (Nat.zero_le _) h), h⟩).trans (Nat.max_eq_right (Nat.le_of_lt h)).symm
  · exact (if_neg fun h' => h h'.2).trans (Nat.max_eq_left (Nat.le_of_not_lt h)).symm

/-- `c'` is not lighter than `c`: `c'` extends `c`; or its head has a larger cumulative QN; or the same
    cumulative QN and, at the fork point `fork` (on both chains), the first block `nb` of `c'` above it is
    not beaten by the first block `ln` of `c` above it on (prove value, then hash). -/
def WeightGE (c c' : List Block) : Prop :=
  c <:+ c' ∨ ∃ hd hd', c.head? = some hd ∧ c'.head? = some hd' ∧
    (hd.totalQN < hd'.totalQN ∨
     (hd.totalQN = hd'.totalQN ∧ ∃ fork ∈ c, fork ∈ c' ∧ ∃ ln ∈ c, ∃ nb ∈ c',
        ln.pre = fork.hash ∧ nb.pre = fork.hash ∧ pvGreater ln nb = false))

theorem WeightGE.refl (c : List Block) : WeightGE c c := Or.inl (List.suffix_refl _)

/-- the pool clause of a reorg from `c` to `c'`: a transaction of a block that left the chain is pending again, or a
    block of `c'` contains it -/
def RemovedPending (c c' : List Block) (pend' : List Nat) : Prop :=
  ∀ x ∈ c, x ∉ c' → ∀ t ∈ x.txs, t ∈ pend' ∨ ∃ y ∈ c', t ∈ y.txs

theorem RemovedPending.of_suffix {c c' : List Block} (h : c <:+ c') (p : List Nat) : RemovedPending c c' p :=
  fun _ hx hn => absurd (h.mem hx) hn

/-- the situation of the re-entry after a reorg: the block is new, extends the head, and its verification is cached -/
theorem addCore_inserts {T : Nat → Option Block} (vt : ValidTree T) (fuel : Nat) (s : St) (b : Block) (c : List Block)
    (ha : s.crashed = false) (inv : Inv T s.disk s.mem c) (hT : T b.hash = some b) (hpre : b.pre = s.mem.latest.hash)
    (hnb : s.disk.blocks b.hash = none) (hne : b.hash ≠ s.mem.latest.hash)
    (hv : s.mem.verified.contains b.hash = true) :
    Out (Grown T (b :: c) s.mem.pending) (RecIn T) (addCore (fuel + 1) s b).1 := by
  have hver : verify s b = (s, true) := by
    unfold verify
    rw [if_pos hv]
  refine addCore_cases (motive := fun r => Out (Grown T (b :: c) s.mem.pending) (RecIn T) r.1) fuel s b ?_ ?_ ?_
    (fun _ _ _ hne => absurd hpre hne)
  · rintro (h | h)
    · exact absurd h hne
    · rw [hnb] at h; cases h
  · intro _ _ h
    rw [hver] at h
    exact h.elim (fun h => nomatch h) fun h => absurd hpre h
  · intro _ _ _
    rw [hver]
    exact insertBlock_spec vt (fun s f => (addCore fuel s f).1) (fun _ f => Reach.refl.addCore fuel f)
      (fun s' f c' ha' inv' hTf hpf => addCore_ext vt fuel s' f c' ha' inv' hTf hpf) ha inv hpre hnb hT hv

/-- `hw` is the guard of `addBlockOnChain`, read on the old store. Cumulative QN grows along a chain, and the header
    the store holds at `anc.height + 1` is the child of `anc` on the old chain. -/
theorem WeightGE.of_fork {T : Nat → Option Block} (vt : ValidTree T) {s : St} {d' : Disk} {m' : Mem} {c c' : List Block}
    {b anc : Block} (inv : Inv T s.disk s.mem c) (inv' : Inv T d' m' c') (ha : anc ∈ c) (ha' : anc ∈ c') (hb : b ∈ c')
    (hpre : b.pre = anc.hash) (hw : WinsFork s anc b) : WeightGE c c' := by
  unfold WinsFork at hw
  rw [lookupHeight_eq inv] at hw
  have hqb : b.totalQN ≤ m'.latest.totalQN := inv'.qn_le_latest vt hb
  refine Or.inr ⟨s.mem.latest, m'.latest, inv.latest, inv'.latest, ?_⟩
  by_cases hgt : s.mem.latest.totalQN < m'.latest.totalQN
  · exact Or.inl hgt
  · obtain ⟨heq, ln, hln, hpv⟩ := hw.elim (fun h => absurd (Nat.lt_of_lt_of_le h hqb) hgt) id
    have h2 := inv.chain.heights_only _ _ hln
    exact Or.inr ⟨Nat.le_antisymm (heq ▸ hqb) (Nat.le_of_not_lt hgt), anc, ha, ha', ln, h2.1, b, hb,
      Linked.child_of c inv.chain.linked anc ln ha h2.1 h2.2, hpre, hpv⟩

theorem reorg_weight {T : Nat → Option Block} (vt : ValidTree T) (fuel : Nat) (s1 : St) (b anc : Block) (c : List Block)
    (ha : s1.crashed = false) (inv : Inv T s1.disk s1.mem c) (hT : T b.hash = some b)
    (hanc : s1.disk.blocks b.pre = some anc) (hnb : s1.disk.blocks b.hash = none)
    (hv : s1.mem.verified.contains b.hash = true) (hw : WinsFork s1 anc b) :
    Out (fun d m => ∃ c', Inv T d m c' ∧ WeightGE c c' ∧ RemovedPending c c' m.pending) (RecIn T)
      (addCore (fuel + 1) (removeFromCommonAncestor s1 anc) b).1 := by
  have hancc := inv.chain.blocks_only _ _ hanc
  have hfresh : ∀ z ∈ c, z.hash ≠ b.hash := by
    intro z hz e
    have := inv.chain.blocks_mem z hz
    rw [e, hnb] at this; cases this
  refine Out.bind (removeFrom_cut anc ha inv) (Reach.refl.addCore (fuel + 1) b) ?_ fun _ r => r
  intro ha2 ⟨c2, cut⟩
  have hlat2 := cut.latest_eq hancc.1
  have inv2 := cut.inv
  have hver2 := cut.verified
  have hrem2 := cut.removed
  generalize removeFromCommonAncestor s1 anc = s2 at ha2 inv2 hlat2 hver2 hrem2 ⊢
  have hv2 : s2.mem.verified.contains b.hash = true :=
    List.contains_iff_mem.mpr (hver2 b.hash (List.contains_iff_mem.mp hv) hfresh)
  have hnb2 : s2.disk.blocks b.hash = none := by
    cases hb : s2.disk.blocks b.hash with
    | none => rfl
    | some z =>
      have hz := inv2.chain.blocks_only _ _ hb
      exact absurd hz.2 (hfresh z (cut.suffix.mem hz.1))
  have hpre2 : b.pre = s2.mem.latest.hash := by rw [hlat2]; exact hancc.2.symm
  have hne2 : b.hash ≠ s2.mem.latest.hash := by
    rw [hlat2]
    exact fun e => hfresh anc hancc.1 e.symm
  refine (addCore_inserts vt fuel s2 b c2 ha2 inv2 hT hpre2 hnb2 hne2 hv2).weaken ?_
  intro d3 m3 ⟨c', inv3, hsuf3, hk3⟩
  have hanc2 : anc ∈ c2 := hlat2 ▸ inv2.latest_mem
  exact ⟨c', inv3, .of_fork vt inv inv3 hancc.1 (hsuf3.mem (List.mem_cons_of_mem _ hanc2))
      (hsuf3.mem (List.mem_cons_self ..)) hancc.2.symm hw,
    fun x hx hn t ht => hk3 t (hrem2 x hx (fun h => hn (hsuf3.mem (List.mem_cons_of_mem _ h))) t ht)⟩

/-- what a live node holds after `addBlockOnChain` on chain `c` with recursion bound `fuel`: one chain again; if the
    bound allows the one re-entry after a reorg (`2 ≤ fuel`; with less the node stays on the fork point) it is not
    lighter than `c` and the transactions of the blocks that left the chain are pending again -/
def Added (T : Nat → Option Block) (c : List Block) (fuel : Nat) (d : Disk) (m : Mem) : Prop :=
  ∃ c', Inv T d m c' ∧ (2 ≤ fuel → WeightGE c c' ∧ RemovedPending c c' m.pending)

theorem Added.of_suffix {T : Nat → Option Block} {c c' : List Block} {fuel : Nat} {d : Disk} {m : Mem}
    (inv : Inv T d m c') (h : c <:+ c') : Added T c fuel d m :=
  ⟨c', inv, fun _ => ⟨Or.inl h, RemovedPending.of_suffix h _⟩⟩

theorem addCore_spec {T : Nat → Option Block} (vt : ValidTree T) (fuel : Nat) (s : St) (b : Block) (c : List Block)
    (ha : s.crashed = false) (inv : Inv T s.disk s.mem c) (hT : T b.hash = some b) :
    Out (Added T c fuel) (RecIn T) (addCore fuel s b).1 := by
  cases fuel with
  | zero => exact Out.alive ha (.of_suffix inv (List.suffix_refl _))
  | succ fuel =>
    by_cases hpre : b.pre = s.mem.latest.hash
    · exact (addCore_ext vt (fuel + 1) s b c ha inv hT hpre).weaken fun _ _ ⟨_, inv', hs, _⟩ => .of_suffix inv' hs
    have ha1 : (verify s b).1.crashed = false := (verify_crashed s b).trans ha
    have inv1 := verify_spec inv hT
    refine addCore_cases (motive := fun r => Out _ (RecIn T) r.1) fuel s b
      (fun _ => Out.alive ha (.of_suffix inv (List.suffix_refl _)))
      (fun _ _ _ => Out.alive ha1 (.of_suffix inv1 (List.suffix_refl _))) (fun _ _ h => absurd h hpre) ?_
    · intro anc hnb hv _ hanc hw
      cases fuel with
      | zero =>
        -- the bound is used up: the node stays on the fork point
        rcases removeFrom_spec anc ha1 inv1 with ⟨a, c2, i⟩ | ⟨a, r⟩
        · exact Out.alive a ⟨c2, i, fun h => absurd h (by decide)⟩
        · exact Out.dead a r
      | succ fuel =>
        exact (reorg_weight vt fuel _ b anc c ha1 inv1 hT (by rw [verify_disk]; exact hanc) (by rw [verify_disk]; exact hnb)
          (verify_hit s b hv) (by unfold WinsFork; rw [verify_latest]; simp only [verify_lookup]; exact hw)).weaken
          fun _ _ ⟨c', i, h⟩ => ⟨c', i, fun _ => h⟩

theorem addBlock_spec {T : Nat → Option Block} (vt : ValidTree T) (fuel : Nat) (s : St) (b : Block) (c : List Block)
    (ha : s.crashed = false) (inv : Inv T s.disk s.mem c) (hT : T b.hash = some b) :
    Out (Added T c fuel) (RecIn T) (addBlock fuel s b).1 :=
  addBlock_cases (motive := fun r => Out _ (RecIn T) r.1) fuel s b
    (Out.alive ha (.of_suffix (inv.park hT) (List.suffix_refl _))) (Out.alive ha (.of_suffix inv (List.suffix_refl _)))
    (addCore_spec vt fuel s b c ha inv hT)

theorem addBlock_post {T : Nat → Option Block} (vt : ValidTree T) (fuel : Nat) (s : St) (b : Block) (c : List Block)
    (ha : s.crashed = false) (inv : Inv T s.disk s.mem c) (hT : T b.hash = some b) :
    Post T (addBlock fuel s b).1 :=
  (addBlock_spec vt fuel s b c ha inv hT).weaken fun _ _ ⟨c', i, _⟩ => ⟨c', i⟩

theorem addBlock_weight {T : Nat → Option Block} (vt : ValidTree T) (fuel : Nat) (s : St) (b : Block) (c : List Block)
    (hs : Safe s) (inv : Inv T s.disk s.mem c) (hT : T b.hash = some b) :
    ∃ c', Inv T (addBlock (fuel + 2) s b).1.disk (addBlock (fuel + 2) s b).1.mem c' ∧ WeightGE c c' ∧
      RemovedPending c c' (addBlock (fuel + 2) s b).1.mem.pending := by
  obtain ⟨c', i, h⟩ := (addBlock_spec vt (fuel + 2) s b c hs.1 inv hT).of_safe (Reach.refl.addBlock (fuel + 2) b) hs
  exact ⟨c', i, h (Nat.le_add_left 2 fuel)⟩

end Rangers.Proofs.ChainStore
