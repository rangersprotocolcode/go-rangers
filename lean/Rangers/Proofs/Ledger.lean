import Rangers.Model.Ledger
/-! The ledger primitives (C06): balance slots, `addBal` / `subBal`, `vmTransfer`, what a fee payment leaves alone (`FeePaid`),
    registry and escrow sums, the uint64 arithmetic of `IntrinsicGas`. Core Lean only. -/
namespace Rangers.Ledger

theorem get_put (b : Bal) (a a' : Addr) (v : Nat) :
    get (put b a v) a' = if a' = a then v else get b a' := by
  induction b with
  | nil =>
    simp only [put, get]
    by_cases h : a = a'
    · subst h; simp
    · have h' : ¬ a' = a := fun e => h e.symm
      simp [h, h']
  | cons p r ih =>
    obtain ⟨k, x⟩ := p
    simp only [put]
    by_cases hk : k = a
    · subst hk
      simp only [if_true, get]
      by_cases h : k = a'
      · subst h; simp
      · have h' : ¬ a' = k := fun e => h e.symm
        simp [h, h']
    · simp only [hk, if_false, get]
      by_cases h : k = a'
      · subst h
        simp [hk]
      · simp only [h, if_false]
        exact ih

theorem get_put_same (b : Bal) (a : Addr) (v : Nat) : get (put b a v) a = v := by
  rw [get_put]; simp

theorem get_put_other (b : Bal) (a a' : Addr) (v : Nat) (h : a' ≠ a) : get (put b a v) a' = get b a' := by
  rw [get_put]; simp [h]

theorem total_put (b : Bal) (a : Addr) (v : Nat) : total (put b a v) + get b a = total b + v := by
  induction b with
  | nil => simp [put, total, get]
  | cons p r ih =>
    obtain ⟨k, x⟩ := p
    simp only [put]
    by_cases hk : k = a
    · subst hk
      simp only [if_true, total, get]
      omega
    · simp only [hk, if_false, total, get]
      omega

theorem get_le_total (b : Bal) (a : Addr) : get b a ≤ total b := by
  induction b with
  | nil => simp [get, total]
  | cons p r ih =>
    obtain ⟨k, x⟩ := p
    simp only [get, total]
    by_cases hk : k = a
    · simp [hk]
    · simp only [hk, if_false]; omega

theorem get_addBal (b : Bal) (a a' : Addr) (v : Int) :
    get (addBal b a v) a' = if a' = a then (((get b a : Nat) : Int) + v).natAbs else get b a' := by
  unfold addBal; rw [get_put]

theorem addBal_nat (b : Bal) (a : Addr) (n : Nat) : addBal b a n = put b a (get b a + n) := by
  unfold addBal
  rw [← Int.natCast_add, Int.natAbs_natCast]

theorem total_addBal (b : Bal) (a : Addr) (n : Nat) : total (addBal b a (n : Int)) = total b + n := by
  have h := total_put b a (get b a + n)
  rw [addBal_nat]
  omega

theorem get_addBal_same (b : Bal) (a : Addr) (n : Nat) : get (addBal b a (n : Int)) a = get b a + n := by
  rw [addBal_nat, get_put_same]

theorem get_addBal_other (b : Bal) (a a' : Addr) (v : Int) (h : a' ≠ a) : get (addBal b a v) a' = get b a' := by
  rw [get_addBal]; simp [h]

theorem subBal_nat (b : Bal) (a : Addr) (n : Nat) :
    subBal b a n = if get b a < n then (b, false) else (put b a (get b a - n), true) := by
  unfold subBal
  by_cases h : get b a < n
  · rw [if_pos h, if_pos (Int.ofNat_lt.2 h)]
  · rw [if_neg h, if_neg (mt Int.ofNat_lt.1 h), ← Int.natCast_sub (Nat.le_of_not_lt h), Int.natAbs_natCast]

theorem subBal_cases (b : Bal) (a : Addr) (n : Nat) :
    ((subBal b a (n : Int)).2 = false ∧ (subBal b a (n : Int)).1 = b ∧ get b a < n) ∨
    ((subBal b a (n : Int)).2 = true ∧ n ≤ get b a ∧
      total (subBal b a (n : Int)).1 + n = total b ∧
      get (subBal b a (n : Int)).1 a + n = get b a) := by
  rw [subBal_nat]
  by_cases h : get b a < n
  · rw [if_pos h]; exact .inl ⟨rfl, rfl, h⟩
  · rw [if_neg h]
    have t := total_put b a (get b a - n)
    exact .inr ⟨rfl, Nat.le_of_not_lt h, by simp only; omega, by simp only [get_put_same]; omega⟩

theorem subBal_ok_of_le (b : Bal) (a : Addr) (n : Nat) (h : n ≤ get b a) :
    (subBal b a (n : Int)).2 = true ∧ total (subBal b a (n : Int)).1 + n = total b ∧
    get (subBal b a (n : Int)).1 a + n = get b a := by
  rcases subBal_cases b a n with ⟨_, _, hlt⟩ | ⟨h1, _, h3, h4⟩
  · omega
  · exact ⟨h1, h3, h4⟩

theorem get_subBal_other (b : Bal) (a a' : Addr) (v : Int) (h : a' ≠ a) : get (subBal b a v).1 a' = get b a' := by
  unfold subBal
  by_cases c : ((get b a : Nat) : Int) < v
  · simp [c]
  · simp only [c, if_false]; rw [get_put_other _ _ _ _ h]

theorem total_move (b : Bal) (src dst : Addr) (n : Nat) (h : n ≤ get b src) :
    total (addBal (subBal b src (n : Int)).1 dst (n : Int)) = total b := by
  rw [total_addBal]
  have := (subBal_ok_of_le b src n h).2.1
  omega

/-- `b'` is `b` after value went from `src` to the fee account and nowhere else: what the flat fee and a gas charge do. -/
structure FeePaid (src : Addr) (b b' : Bal) : Prop where
  total_eq : total b' = total b
  other : ∀ a, a ≠ src → a ≠ feeAccount → get b' a = get b a

theorem FeePaid.refl (src : Addr) (b : Bal) : FeePaid src b b := ⟨rfl, fun _ _ _ => rfl⟩

theorem FeePaid.trans {src : Addr} {b b' b'' : Bal} (h₁ : FeePaid src b b') (h₂ : FeePaid src b' b'') :
    FeePaid src b b'' :=
  ⟨h₂.total_eq.trans h₁.total_eq, fun a h1 h2 => (h₂.other a h1 h2).trans (h₁.other a h1 h2)⟩

theorem FeePaid.move (b : Bal) (src : Addr) (n : Nat) (h : n ≤ get b src) :
    FeePaid src b (addBal (subBal b src (n : Int)).1 feeAccount (n : Int)) :=
  ⟨total_move b src feeAccount n h,
    fun a h1 h2 => by rw [get_addBal_other _ _ _ _ h2, get_subBal_other _ _ _ _ h1]⟩

theorem canTransfer_iff (b : Bal) (a : Addr) (v : Int) : canTransfer b a v = true ↔ 0 ≤ v ∧ v ≤ get b a := by
  unfold canTransfer
  split
  · simp only [Bool.false_eq_true, false_iff]; omega
  · simp only [decide_eq_true_eq]; omega

theorem canTransfer_neg (b : Bal) (a : Addr) (v : Int) (h : v < 0) : canTransfer b a v = false := by
  unfold canTransfer; simp [h]

theorem canTransfer_zero (b : Bal) (a : Addr) : canTransfer b a 0 = true :=
  (canTransfer_iff b a 0).2 ⟨Int.le_refl 0, Int.natCast_nonneg _⟩

/-- `Call` / `AuthCall` skip the balance test for a zero value, which would pass it anyway. -/
theorem canTransfer_of_guard {b : Bal} {a : Addr} {v : Int} (h : ¬ (v != 0 && !canTransfer b a v) = true) :
    canTransfer b a v = true := by
  by_cases hv : v = 0
  · subst hv; exact canTransfer_zero b a
  · simpa [hv] using h

/-- the same where the value is a stack word (`Nat`): the guard of CALL / AUTHCALL in `exec` tests `v != 0` in `Nat`, that of
    `evmCallTop` in `Int` -/
theorem canTransfer_of_guard_nat {b : Bal} {a : Addr} {v : Nat} (h : ¬ (v != 0 && !canTransfer b a v) = true) :
    canTransfer b a v = true := by
  cases v with
  | zero => exact canTransfer_zero b a
  | succ n => simpa using h

theorem total_vmTransfer (b : Bal) (src dst : Addr) (v : Int) (h : canTransfer b src v = true) :
    total (vmTransfer b src dst v) = total b := by
  obtain ⟨h0, hle⟩ := (canTransfer_iff b src v).1 h
  obtain ⟨n, rfl⟩ := Int.eq_ofNat_of_zero_le h0
  exact total_move b src dst n (by omega)

theorem toWei_add (a b : Nat) : toWei (a + b) = toWei a + toWei b := by
  rw [toWei_eq, toWei_eq, toWei_eq, Nat.add_mul]

theorem toWei_sub_add (a b : Nat) (h : b ≤ a) : toWei (a - b) + toWei b = toWei a := by
  rw [← toWei_add, Nat.sub_add_cancel h]

theorem toWei_div_le (v : Nat) : toWei (v / wei) ≤ v := by
  rw [toWei_eq]; exact Nat.div_mul_le_self v wei

theorem regGet_id : ∀ (r : Reg) (id : Nat) (m : MinerRec), regGet r id = some m → m.id = id := by
  intro r
  induction r with
  | nil => intro id m h; simp [regGet] at h
  | cons x r ih =>
    intro id m h
    simp only [regGet] at h
    by_cases c : x.id = id
    · simp only [c, if_true, Option.some.injEq] at h; subst h; exact c
    · simp only [c, if_false] at h; exact ih id m h

theorem regGet_self {r : Reg} {id : Nat} {m : MinerRec} (h : regGet r id = some m) : regGet r m.id = some m := by
  rw [regGet_id r id m h]; exact h

theorem stakeSum_regSet : ∀ (r : Reg) (m x : MinerRec), regGet r x.id = some m →
    stakeSum (regSet r x) + toWei m.stake = stakeSum r + toWei x.stake := by
  intro r m x
  induction r with
  | nil => intro h; cases h
  | cons y r ih =>
    rw [regGet, regSet]
    by_cases c : y.id = x.id
    · rw [if_pos c, if_pos c]; intro h; cases h; simp only [stakeSum]; omega
    · rw [if_neg c, if_neg c]; intro h; have := ih h; simp only [stakeSum]; omega

theorem stakeSum_regSet_new : ∀ (r : Reg) (x : MinerRec), regGet r x.id = none →
    stakeSum (regSet r x) = stakeSum r + toWei x.stake := by
  intro r x
  induction r with
  | nil => intro _; simp only [regSet, stakeSum]; omega
  | cons y r ih =>
    rw [regGet, regSet]
    by_cases c : y.id = x.id
    · rw [if_pos c]; intro h; cases h
    · rw [if_neg c, if_neg c]; intro h; have := ih h; simp only [stakeSum]; omega

theorem stakeSum_regDel : ∀ (r : Reg) (id : Nat) (m : MinerRec), regGet r id = some m →
    stakeSum (regDel r id) + toWei m.stake = stakeSum r := by
  intro r id m
  induction r with
  | nil => intro h; cases h
  | cons y r ih =>
    rw [regGet, regDel]
    by_cases c : y.id = id
    · rw [if_pos c, if_pos c]; intro h; cases h; simp only [stakeSum]; omega
    · rw [if_neg c, if_neg c]; intro h; have := ih h; simp only [stakeSum]; omega

/-- `RemoveMiner`, and the copy of it inside `GetRefundStake`, delete the record only when nothing is left (`hc`) and rewrite
    the stake slot otherwise. -/
theorem stakeSum_leave (r : Reg) (m : MinerRec) (left : Nat) (c : Bool) (hc : c = true → left = 0)
    (hm : regGet r m.id = some m) :
    stakeSum (if c then regDel r m.id else regSet r { m with stake := left }) + toWei m.stake
      = stakeSum r + toWei left := by
  cases c with
  | false => exact stakeSum_regSet r m { m with stake := left } hm
  | true => rw [hc rfl]; exact stakeSum_regDel r m.id m hm

theorem getRefundStake_sum (r r' : Reg) (hc : Addr → Bool) (id : Nat) (acct a : Addr) (money refund : Nat)
    (h : getRefundStake r hc id acct money = some (r', refund, a)) :
    stakeSum r' + toWei refund = stakeSum r := by
  unfold getRefundStake at h
  cases hg : regGet r id with
  | none => rw [hg] at h; cases h
  | some m =>
    rw [hg] at h
    simp only [Option.ite_none_left_eq_some, Option.some.injEq, Prod.mk.injEq] at h
    obtain ⟨_, hle, rfl, rfl, _⟩ := h
    cases regGet_id r id m hg
    generalize (if money = uint64Max then m.stake else money) = mny at hle ⊢
    -- what is left and what is refunded make up the old stake
    refine (Nat.add_left_inj (n := toWei (m.stake - mny))).1 ?_
    rw [Nat.add_assoc, Nat.add_comm (toWei mny), toWei_sub_add m.stake mny (Nat.le_of_not_lt hle)]
    exact stakeSum_leave r m _ _ (fun hz => of_decide_eq_true (Bool.and_eq_true_iff.1 (Bool.and_eq_true_iff.1 hz).1).2) hg

theorem escrowTotal_append : ∀ (e f : Escrow), escrowTotal (e ++ f) = escrowTotal e + escrowTotal f := by
  intro e f
  induction e with
  | nil => simp [escrowTotal]
  | cons p r ih =>
    obtain ⟨k, a, v⟩ := p
    simp only [List.cons_append, escrowTotal, ih]; omega

theorem escrowTotal_single (h : Nat) (a : Addr) (v : Nat) : escrowTotal [(h, a, v)] = v := by
  simp [escrowTotal]

/-- The overflow guard `(MaxUint64 - gas) / perByte < count` of `IntrinsicGas` passes when the sum it protects fits. -/
theorem overflowGuard_passes {M g k n : Nat} (hk : 0 < k) (h : g + n * k ≤ M) : ¬ (M - g) / k < n :=
  Nat.not_lt.2 ((Nat.le_div_iff_mul_le hk).2 (by omega))

theorem intrinsicGasOf_eq (fl : Flags) (create : Bool) (data : List Nat) :
    let nz := (data.filter (fun b => b != 0)).length
    let z := data.length - nz
    ((if create then txGasCreate else txGas) + nz * nonZeroByteGas + z * zeroByteGas) * gasMagnification ≤ uint64Max →
    intrinsicGasOf fl create data = some (intrinsicGas fl create nz z) := by
  intro nz z
  unfold intrinsicGasOf intrinsicGas
  simp only [nz, z]
  generalize (data.filter (fun b => b != 0)).length = n
  generalize data.length - n = m
  generalize (if create = true then txGasCreate else txGas) = g0
  generalize uint64Max = M
  delta nonZeroByteGas zeroByteGas gasMagnification
  intro h
  rw [if_neg (overflowGuard_passes (by decide) (by omega)), if_neg (overflowGuard_passes (by decide) (by omega))]
  cases fl.p026
  · simp only [Bool.false_eq_true, if_false, Nat.mul_one]
  · simp only [if_true, Nat.mod_eq_of_lt (Nat.lt_succ_of_le h)]

end Rangers.Ledger
