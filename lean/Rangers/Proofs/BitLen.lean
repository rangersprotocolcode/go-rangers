/-! `big.Int.BitLen` / `uint256.Int.BitLen`: the models that need it (Decimal, Qn, Shamir, G1, G2, Evm10Word, Evm11Gas) each
    write it out as `if n = 0 then 0 else Nat.log2 n + 1`. What it means is said here once, about that expression; a
    model's own `bitLen` unfolds to it. Core Lean only. -/
namespace Rangers.BitLen

theorem le_iff {n k : Nat} : (if n = 0 then 0 else Nat.log2 n + 1) ≤ k ↔ n < 2 ^ k := by
  by_cases hn : n = 0
  · rw [if_pos hn, hn]
    exact iff_of_true (Nat.zero_le k) (Nat.two_pow_pos k)
  · rw [if_neg hn, Nat.succ_le_iff]
    exact Nat.log2_lt hn

theorem lt_iff {n k : Nat} : k < (if n = 0 then 0 else Nat.log2 n + 1) ↔ 2 ^ k ≤ n := by
  rw [← Nat.not_le, le_iff, Nat.not_lt]

end Rangers.BitLen
