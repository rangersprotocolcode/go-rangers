import Rangers.Proofs.Round
/-! Clauses 2 and 3 of C15 for `Proc` (`Model/Round.lean`: one party in the signing rounds, fed packets), under the
crypto hypotheses `Lawful`. One induction over the packets (`run_started`) carries the state of the party (`Started`)
and the members heard (`Heard`); `run_quorum` counts on the final state: `k` members heard and fewer than `k` shares
cannot both hold, so the party is `Finished`.
The life cycle around `Proc` (round0, cast message, notification, timeout) is `Model/RoundLife.lean`, with its
lemmas in `Proofs/RoundLifeP.lean`; nothing there needs `Lawful`. -/
namespace Rangers.Proofs.Round
open Rangers.Model.Round

variable {G : Type}

/-- What the theorems assume of the cryptographic oracle, for the keys registered in
`env.pkKnown` (all of them DKG shares of one group key):
* C14 (uniqueness): a signature verifies under a member key for `d` iff it is that member's share on `d`;
  `VerifySig` rejects nil signatures;
* the group signature on `d` is non-nil, on the curve and verifies under the group key;
* C13 (threshold recovery): Lagrange recovery from the shares on `d` of any `k = GetGroupK(n)`
  distinct members is the group signature on `d`. -/
structure Lawful (c : Crypto G) (env : Env) (shareOf : Id → Data → G) (groupSig : Data → G) : Prop where
  verify_iff : ∀ id d s, id ∈ env.pkKnown → (c.verify id d s = true ↔ s = shareOf id d)
  verify_nonnil : ∀ id d s, c.verify id d s = true → c.isNil s = false
  groupSig_ok : ∀ d, c.isNil (groupSig d) = false ∧ c.isValid (groupSig d) = true ∧
    c.verifyGroup d (groupSig d) = true
  recover_eq : ∀ (ids : List Id) (d : Data), ids.Nodup → (∀ i ∈ ids, i ∈ env.pkKnown) →
    ids.length = groupK env.groupSize → c.recover (ids.map fun i => (i, shareOf i d)) = groupSig d

/-- The share state of round1 under `Lawful`, `gs` its group-signature function: the two generators hold shares of the
same senders in the same order, and `canProcessed` tells the side of the threshold `k = groupK n` — unset, fewer than `k`
shares and nothing recovered; set, exactly `k`, and generators and header fields hold `gs env.hash` and
`gs env.prevRandom` themselves (by `Lawful.recover_eq`). -/
structure Inv2 (c : Crypto G) (env : Env) (gs : Data → G) (st : RState G) : Prop where
  inv : Inv c env st
  thr_g : st.gSign.threshold = groupK env.groupSize
  thr_r : st.rSign.threshold = groupK env.groupSize
  ids_eq : st.gSign.witness.map (·.1) = st.rSign.witness.map (·.1)
  open_ : st.canProcessed = false →
    st.gSign.witness.length < groupK env.groupSize ∧ st.gSign.groupSign = none ∧ st.rSign.groupSign = none
  closed : st.canProcessed = true →
    st.gSign.witness.length = groupK env.groupSize ∧
    st.gSign.groupSign = some (gs env.hash) ∧ st.rSign.groupSign = some (gs env.prevRandom) ∧
    st.bhSignature = some (gs env.hash) ∧ st.bhRandom = some (gs env.prevRandom)

/-- The honest verify message of member `i` (what `round0.normalPieceVerify` sends). -/
def honestMsg (env : Env) (sh : Id → Data → G) (i : Id) (mid : MsgId) : VMsg G :=
  { mid := mid, blockHash := env.hash, signer := i, idShape := .ok, signerNonZero := true,
    dataHash := env.hash, sig := sh i env.hash, rand := sh i env.prevRandom }

/-- The party is registered, sits in round1 with nothing for the reaper to collect, and is below the threshold.
`F` bounds the message ids `round1.CanAccept` refuses (`blocked`): the ids handed to `round1.Start`, processed or
stored. A message whose id is outside `F` reaches `update`. -/
structure Collecting (c : Crypto G) (env : Env) (gs : Data → G) (F : List MsgId) (pr : Proc G) : Prop where
  mgr : pr.inManager = true
  ending : pr.ending = none
  phase : pr.party.phase = .r1
  noErr : pr.party.errPending = false
  noDone : pr.party.donePending = false
  cp : pr.party.rs.canProcessed = false
  fin : pr.party.rs.finished = false
  inv2 : Inv2 c env gs pr.party.rs
  blocked : ∀ mid, (mid ∈ pr.party.rs.processed ∨ mid ∈ pr.party.rs.future.map (·.mid)) → mid ∈ F

/-- The party ended `done` and the reaper removed it. `gen`: what `GenerateBlock` was handed is `gs env.hash` and
`gs env.prevRandom`, not merely signatures that verify, since by `Inv2.closed` the header fields hold these values. -/
structure Finished (env : Env) (gs : Data → G) (pr : Proc G) : Prop where
  ending : pr.ending = some true
  gen : pr.party.rs.generated = some (some (gs env.hash), some (gs env.prevRandom))
  mgr : pr.inManager = false
  done : pr.done = true

/-- `round1.Start` recovered the signatures from stored messages and a later stored message made it
panic (recovered by `baseParty.Update`): the party sits in round1 with `canProcessed` set and advances
on the next message it is handed. -/
structure Ready (c : Crypto G) (env : Env) (gs : Data → G) (pr : Proc G) : Prop where
  mgr : pr.inManager = true
  ending : pr.ending = none
  phase : pr.party.phase = .r1
  noErr : pr.party.errPending = false
  noDone : pr.party.donePending = false
  cp : pr.party.rs.canProcessed = true
  fin : pr.party.rs.finished = false
  inv2 : Inv2 c env gs pr.party.rs

/-- What `Collecting` and `Ready` share: all but the value of `canProcessed` (and `blocked`). -/
structure Live (c : Crypto G) (env : Env) (gs : Data → G) (pr : Proc G) : Prop where
  mgr : pr.inManager = true
  ending : pr.ending = none
  phase : pr.party.phase = .r1
  noErr : pr.party.errPending = false
  noDone : pr.party.donePending = false
  fin : pr.party.rs.finished = false
  inv2 : Inv2 c env gs pr.party.rs

theorem groupK_pos {n : Nat} (h : 0 < n) : 0 < groupK n := by
  unfold groupK; omega

variable {c : Crypto G} {env : Env} {sh : Id → Data → G} {gs : Data → G}

theorem witness_eq_shares (hl : Lawful c env sh gs) (d : Data) (l : List (Id × G))
    (h : ∀ e ∈ l, e.1 ∈ env.pkKnown ∧ c.verify e.1 d e.2 = true) :
    l = (l.map (·.1)).map (fun i => (i, sh i d)) := by
  rw [List.map_map]
  exact (List.map_id l).symm.trans
    (List.map_congr_left fun e he => Prod.ext rfl ((hl.verify_iff e.1 d e.2 (h e he).1).mp (h e he).2))

theorem addWitnessSign_lawful (hl : Lawful c env sh gs) {d : Data} {g : Gen G} {id : Id} {s : G} (hok : GenOk c env d g)
    (hthr : g.threshold = groupK env.groupSize) (hn : g.groupSign = none)
    (hlt : g.witness.length < groupK env.groupSize) (hh : g.has id = false) (hid : id ∈ env.pkKnown)
    (hv : c.verify id d s = true) :
    g.addWitnessSign c id s =
      ({ g with witness := g.witness ++ [(id, s)],
                groupSign := if g.witness.length + 1 = groupK env.groupSize then some (gs d) else none },
        true, decide (g.witness.length + 1 = groupK env.groupSize)) := by
  have e := addWitnessSign_fresh c g id s hn hh (hthr ▸ hlt)
  have hok' := GenOk.add c env d g id s hok hid hv
  rw [e] at hok'
  have hval : ∀ e ∈ g.witness ++ [(id, s)], e.1 ∈ env.pkKnown ∧ c.verify e.1 d e.2 = true := hok'.valid
  rw [e, hthr]
  by_cases hk : g.witness.length + 1 = groupK env.groupSize
  · have hrec : c.recover (g.witness ++ [(id, s)]) = gs d := by
      rw [witness_eq_shares hl d _ hval]
      apply hl.recover_eq _ _ hok'.nodup
      · intro i hi
        obtain ⟨e, he, rfl⟩ := List.mem_map.mp hi
        exact (hval e he).1
      · simpa using hk
    rw [if_pos hk, if_pos hk, hrec]
  · rw [if_neg hk, if_neg hk]

theorem recovered_of_groupSig (hl : Lawful c env sh gs) {g : Gen G} {d : Data} (h : g.groupSign = some (gs d)) :
    g.recovered c = true := by
  have := hl.groupSig_ok d
  simp [Gen.recovered, h, this.1, this.2.1]

theorem updateTail_inv2 (hl : Lawful c env sh gs) (st : RState G) (m : VMsg G)
    (h : Inv2 c env gs st) (hpk : m.signer ∈ env.pkKnown)
    (hvs : c.verify m.signer env.hash m.sig = true) (hvr : c.verify m.signer env.prevRandom m.rand = true) :
    Inv2 c env gs (updateTail c st m).st ∧
    ((updateTail c st m).st.canProcessed = false → (updateTail c st m).st.gSign.has m.signer = true) := by
  by_cases hold : st.canProcessed = true ∨ st.gSign.has m.signer = true
  · rw [updateTail_refused (hold.imp (fun hcp => recovered_of_groupSig hl (h.closed hcp).2.1) id)]
    exact ⟨h, fun hcp => hold.resolve_left (by simp [show st.canProcessed = false from hcp])⟩
  · have hcp : st.canProcessed = false := by simpa using fun hc => hold (.inl hc)
    have hhas : st.gSign.has m.signer = false := by simpa using fun hc => hold (.inr hc)
    obtain ⟨hlen, hgn, hrn⟩ := h.open_ hcp
    have hrlen : st.rSign.witness.length = st.gSign.witness.length := by
      simpa using (congrArg List.length h.ids_eq).symm
    have eg := addWitnessSign_lawful hl h.inv.g h.thr_g hgn hlen hhas hpk hvs
    have er := addWitnessSign_lawful hl h.inv.r h.thr_r hrn
      (hrlen ▸ hlen) (has_congr _ _ h.ids_eq _ ▸ hhas) hpk hvr
    have hgok := GenOk.add c env env.hash st.gSign m.signer m.sig h.inv.g hpk hvs
    have hrok := GenOk.add c env env.prevRandom st.rSign m.signer m.rand h.inv.r hpk hvr
    rw [eg] at hgok
    rw [er] at hrok
    unfold updateTail
    rw [hrlen] at er hrok
    by_cases hk : st.gSign.witness.length + 1 = groupK env.groupSize
    · -- the `k`-th share: both generators recover, `canProcessed` is set and the header fields are filled
      simp only [eg, er, hk, if_true, decide_true, Bool.not_true, Bool.and_self, Bool.false_eq_true, if_false] at hgok hrok ⊢
      refine ⟨?_, nofun⟩
      exact {
        inv := ⟨hgok, hrok⟩
        thr_g := h.thr_g
        thr_r := h.thr_r
        ids_eq := by simp [h.ids_eq]
        open_ := nofun
        closed := fun _ => ⟨by simpa using hk, rfl, rfl, rfl, rfl⟩ }
    · -- still below `k`: the share is added, nothing is recovered
      simp only [eg, er, hk, if_false, decide_false, Bool.not_true, Bool.and_false, Bool.false_eq_true] at hgok hrok ⊢
      refine ⟨?_, fun _ => by simp [Gen.has]⟩
      exact {
        inv := ⟨hgok, hrok⟩
        thr_g := h.thr_g
        thr_r := h.thr_r
        ids_eq := by simp [h.ids_eq]
        open_ := fun _ => ⟨by simp; omega, rfl, rfl⟩
        closed := fun hc => by rw [hcp] at hc; cases hc }

theorem update_inv2 (hb : env.bindsHash = true) (hl : Lawful c env sh gs) (b : Bool) (st : RState G) (m : VMsg G)
    (h : Inv2 c env gs st) : Inv2 c env gs (update c (env.withChain b) st m).st := by
  rcases update_cases c (env.withChain b) st m with ⟨a, e⟩ | ⟨_, e, _⟩
  · rw [e]
    exact (updateTail_inv2 hl st m h a.member (a.bound hb ▸ a.share) a.beacon).1
  · rw [e]; exact h

theorem Inv2.congr {c : Crypto G} {env : Env} {gs : Data → G} {st st' : RState G} (h : Inv2 c env gs st)
    (h1 : st'.gSign = st.gSign) (h2 : st'.rSign = st.rSign) (h3 : st'.canProcessed = st.canProcessed)
    (h4 : st'.bhSignature = st.bhSignature) (h5 : st'.bhRandom = st.bhRandom) : Inv2 c env gs st' :=
  ⟨⟨h1 ▸ h.inv.g, h2 ▸ h.inv.r⟩, h1 ▸ h.thr_g, h2 ▸ h.thr_r, h1 ▸ h2 ▸ h.ids_eq, h1 ▸ h2 ▸ h3 ▸ h.open_,
    h1 ▸ h2 ▸ h3 ▸ h4 ▸ h5 ▸ h.closed⟩

theorem Inv2.kept (hb : env.bindsHash = true) (hk : 0 < groupK env.groupSize)
    (hl : Lawful c env sh gs) (b : Bool) : Kept c (env.withChain b) (Inv2 c env gs) where
  init _ _ := ⟨⟨GenOk.new c env _ _, GenOk.new c env _ _⟩, rfl, rfl, rfl,
    fun _ => ⟨by simpa [Gen.new] using hk, rfl, rfl⟩, nofun⟩
  update := update_inv2 hb hl b
  start2 st h := by
    rcases start2_cases c (env.withChain b) st with ⟨_, _, e⟩ | ⟨_, _, _, _, e⟩ <;> rw [e] <;>
      exact h.congr rfl rfl rfl rfl rfl
  congr st st' h h1 h2 h3 h4 h5 _ := h.congr h1 h2 h3 h4 h5

theorem sigOk_groupSig (hl : Lawful c env sh gs) (d : Data) : sigOk c d (some (gs d)) = true := by
  have := hl.groupSig_ok d
  simp [sigOk, this.1, this.2.1, this.2.2]

/-- The advance loop of `baseParty.Update` and the reaper, for a live party: below the threshold nothing moves; with
`canProcessed` set, `round2.Start` finds the group signatures in the header, accepts them, and the party ends `done`. -/
theorem settle_advance (hl : Lawful c env sh gs) (hex : env.blockExists = false) {pr : Proc G} (h : Live c env gs pr) :
    (pr.party.rs.canProcessed = false ∧ settle { pr with party := advance c env pr.party } = pr) ∨
    Finished env gs (settle { pr with party := advance c env pr.party }) := by
  obtain ⟨⟨phase, rs, ep, dp⟩, mgr, done, stray, ending⟩ := pr
  obtain ⟨hmgr, hend, hph, hep, hdp, hfin, hinv⟩ := h
  simp only at hmgr hend hph hep hdp hfin hinv
  subst hmgr hend hph hep hdp
  cases hcp : rs.canProcessed
  · exact .inl ⟨rfl, by simp [advance, hcp, settle]⟩
  · obtain ⟨_, _, _, h1, h2⟩ := hinv.closed hcp
    rcases start2_cases c env { rs with canProcessed := true, number := 2 } with ⟨hbad, _⟩ | ⟨_, _, _, _, e⟩
    · simp [hfin, hex, h1, h2, sigOk_groupSig hl] at hbad
    · refine .inr ?_
      simp only [advance, hcp, e, settle]
      exact ⟨rfl, by simp [h1, h2], rfl, rfl⟩

theorem honest_accepts (hl : Lawful c env sh gs) (hex : env.blockExists = false) (i : Id) (mid : MsgId) (hi : i ∈ env.pkKnown) :
    Accepts c env (honestMsg env sh i mid) :=
  have hr := (hl.verify_iff i env.prevRandom (sh i env.prevRandom) hi).mpr rfl
  ⟨nofun, hex, hi, fun _ => rfl, rfl, (hl.verify_iff i env.hash (sh i env.hash) hi).mpr rfl,
    hl.verify_nonnil _ _ _ hr, hr⟩

theorem update_of_canProcessed (hl : Lawful c env sh gs) {rs : RState G} (m : VMsg G) (hcp : rs.canProcessed = true)
    (hinv : Inv2 c env gs rs) : (update c env rs m).st = rs :=
  update_refused env (.inl (recovered_of_groupSig hl (hinv.closed hcp).2.1))

/-- The first outcome covers an undecodable packet, one filed under another hash, a panic inside `Update`, and a known
message id while the party still collects; a message under the block hash that passes the guards can only be the last of these. -/
theorem deliver_live (hb : env.bindsHash = true) (hex : env.blockExists = false) (hl : Lawful c env sh gs)
    {pr : Proc G} (w : Wire G) (h : Live c env gs pr) :
    (Live c env gs (pr.deliver c env w).1 ∧ (pr.deliver c env w).1.party.rs = pr.party.rs ∧
      ∀ m, w = .ok m → m.blockHash = env.hash → Accepts c env m →
        pr.party.rs.canProcessed = false ∧ canAccept1 pr.party.rs m = false) ∨
    (∃ m, w = .ok m ∧ canAccept1 pr.party.rs m = true ∧ Live c env gs (pr.deliver c env w).1 ∧
      (pr.deliver c env w).1.party.rs = (update c env pr.party.rs m).st ∧
      (update c env pr.party.rs m).st.canProcessed = false) ∨
    Finished env gs (pr.deliver c env w).1 := by
  obtain ⟨⟨phase, rs, ep, dp⟩, mgr, done, stray, ending⟩ := pr
  obtain ⟨hmgr, hend, hph, hep, hdp, hfin, hinv⟩ := h
  simp only at hmgr hend hph hep hdp hfin hinv
  subst hmgr hend hph hep hdp
  have live (rs' : RState G) (s) (hfin' : rs'.finished = false) (hinv' : Inv2 c env gs rs') :
      Live c env gs {
        party := { phase := .r1, rs := rs', errPending := false, donePending := false }
        inManager := true, done := done, stray := s, ending := none } :=
    ⟨rfl, rfl, rfl, rfl, rfl, hfin', hinv'⟩
  have settled (rs' : RState G) (hfin' : rs'.finished = false) (hinv' : Inv2 c env gs rs') :=
    settle_advance hl hex (live rs' stray hfin' hinv')
  cases w with
  | ok m =>
    simp only [Proc.deliver, decode, Proc.onVerify]
    by_cases hfile : (m.blockHash == env.hash) = true
    · simp only [hfile, if_true, partyUpdate]
      by_cases hacc : canAccept1 rs m = true
      · rw [if_neg (by simp [hacc])]
        by_cases hpan : (update c env rs m).out = .panicked
        · rw [if_pos hpan, settle_idle _ rfl rfl]
          refine .inl ⟨live rs _ hfin hinv, rfl, fun _ hw _ a => ?_⟩
          cases hw
          rw [update_of_accepts rs a] at hpan
          exact absurd hpan (updateTail_out c rs _)
        · rw [if_neg hpan, if_neg (by simp [update_err_false c env rs m hex])]
          have hfin' : (update c env rs m).st.finished = false := (update_frame c env rs m).1 ▸ hfin
          have hinv' : Inv2 c env gs (update c env rs m).st := update_inv2 hb hl env.blockExists rs m hinv
          rcases settled _ hfin' hinv' with ⟨hcp', e⟩ | hf
          · rw [e]; exact .inr (.inl ⟨m, rfl, hacc, live _ _ hfin' hinv', rfl, hcp'⟩)
          · exact .inr (.inr hf)
      · have hacc : canAccept1 rs m = false := by simpa using hacc
        rw [if_pos (by simp [hacc])]
        rcases settled rs hfin hinv with ⟨hcp, e⟩ | hf
        · rw [e]
          refine .inl ⟨live rs _ hfin hinv, rfl, fun _ hw _ _ => ?_⟩
          cases hw
          exact ⟨hcp, hacc⟩
        · exact .inr (.inr hf)
    · simp only [hfile]
      refine .inl ⟨live rs _ hfin hinv, rfl, fun _ hw hf => ?_⟩
      cases hw
      exact absurd (by simp [hf]) hfile
  | _ => exact .inl ⟨live rs _ hfin hinv, rfl, fun _ hw => nomatch hw⟩

theorem deliver_finished (c : Crypto G) {pr : Proc G} (w : Wire G)
    (h : Finished env gs pr) : Finished env gs (pr.deliver c env w).1 := by
  unfold Proc.deliver
  split
  · exact h
  · obtain ⟨s, e⟩ := onVerify_skip c env pr _ fun _ => h.mgr
    rw [e]; exact ⟨h.ending, h.gen, h.mgr, h.done⟩

/-- Member `i`'s share is in the set of a party that still collects, or the block is done. A party that recovered the
signatures inside `round1.Start` and has not advanced (`Ready`) has heard nobody in this sense: the next honest message
finishes it. -/
def Heard (pr : Proc G) (i : Id) : Prop :=
  pr.ending = some true ∨ (pr.party.rs.canProcessed = false ∧ pr.party.rs.gSign.has i = true)

/-- The states of a started round while the block is not on the chain. `F`: the message ids the round may refuse. -/
def Started (c : Crypto G) (env : Env) (gs : Data → G) (F : List MsgId) (pr : Proc G) : Prop :=
  Collecting c env gs F pr ∨ Finished env gs pr ∨ Ready c env gs pr

theorem Started.live {F : List MsgId} {pr : Proc G} (h : Started c env gs F pr) :
    Finished env gs pr ∨ (Live c env gs pr ∧ (pr.party.rs.canProcessed = false →
      ∀ mid, (mid ∈ pr.party.rs.processed ∨ mid ∈ pr.party.rs.future.map (·.mid)) → mid ∈ F)) := by
  rcases h with h | h | h
  · exact .inr ⟨⟨h.mgr, h.ending, h.phase, h.noErr, h.noDone, h.fin, h.inv2⟩, fun _ => h.blocked⟩
  · exact .inl h
  · exact .inr ⟨⟨h.mgr, h.ending, h.phase, h.noErr, h.noDone, h.fin, h.inv2⟩, fun hc => by rw [h.cp] at hc; cases hc⟩

theorem Live.started {F : List MsgId} {pr : Proc G} (h : Live c env gs pr) (hblk : pr.party.rs.canProcessed = false →
      ∀ mid, (mid ∈ pr.party.rs.processed ∨ mid ∈ pr.party.rs.future.map (·.mid)) → mid ∈ F) :
    Started c env gs F pr := by
  cases hcp : pr.party.rs.canProcessed
  · exact .inl ⟨h.mgr, h.ending, h.phase, h.noErr, h.noDone, hcp, h.fin, h.inv2, hblk hcp⟩
  · exact .inr (.inr ⟨h.mgr, h.ending, h.phase, h.noErr, h.noDone, hcp, h.fin, h.inv2⟩)

theorem deliver_started (hb : env.bindsHash = true) (hex : env.blockExists = false) (hl : Lawful c env sh gs)
    {F : List MsgId} {pr : Proc G} (w : Wire G) (h : Started c env gs F pr) :
    Started c env gs F (pr.deliver c env w).1 ∧
    (∀ j, Heard pr j → Heard (pr.deliver c env w).1 j) ∧
    (∀ i mid, w = .ok (honestMsg env sh i mid) → i ∈ env.pkKnown → mid ∉ F → Heard (pr.deliver c env w).1 i) := by
  rcases h.live with hf | ⟨hlive, hblk⟩
  · have hf' := deliver_finished c w hf
    exact ⟨.inr (.inl hf'), fun _ _ => .inl hf'.ending, fun _ _ _ _ _ => .inl hf'.ending⟩
  have notDone {P : Prop} (he : pr.ending = some true) : P := by rw [hlive.ending] at he; cases he
  rcases deliver_live hb hex hl w hlive with ⟨hl', e, hhon⟩ | ⟨m, rfl, hacc, hl', e, hcp'⟩ | hf
  · -- the round state is as before
    refine ⟨hl'.started (e ▸ hblk), ?_, ?_⟩
    · intro j hj
      exact hj.elim notDone fun hj => .inr (e ▸ hj)
    · intro i mid hw hi hmid
      -- an honest message with a new id is not refused by `CanAccept`
      obtain ⟨hcp, hacc⟩ := hhon _ hw rfl (honest_accepts hl hex i mid hi)
      exact absurd (hblk hcp mid ((canAccept1_eq_false_iff _ _).mp hacc)) hmid
  · -- `m` went through `update`, and the party still collects afterwards
    have hframe := update_frame c env pr.party.rs m
    have hcp : pr.party.rs.canProcessed = false := by
      cases hc : pr.party.rs.canProcessed
      · rfl
      · rw [update_of_canProcessed hl m hc hlive.inv2, hc] at hcp'; cases hcp'
    refine ⟨hl'.started fun _ => ?_, ?_, ?_⟩
    · rw [e, hframe.2.1, hframe.2.2.1]; exact hblk hcp
    · intro j hj
      exact hj.elim notDone fun hj => .inr ⟨e ▸ hcp', e ▸ update_has_mono c env _ m j hj.2⟩
    · intro i mid hw hi _
      refine .inr ⟨e ▸ hcp', ?_⟩
      cases hw
      have a := honest_accepts hl hex i mid hi
      have ht := (updateTail_inv2 hl pr.party.rs _ hlive.inv2 hi a.share a.beacon).2
      rw [e]
      rw [update_of_accepts _ a] at hcp' ⊢
      exact ht hcp'
  · exact ⟨.inr (.inl hf), fun _ _ => .inl hf.ending, fun _ _ _ _ _ => .inl hf.ending⟩

theorem initWith_started (hb : env.bindsHash = true) (hex : env.blockExists = false)
    (hk : 0 < groupK env.groupSize) (hl : Lawful c env sh gs)
    (processed : List MsgId) (future : List (VMsg G)) :
    Started c env gs (processed ++ future.map (·.mid)) (Proc.initWith c env processed future) := by
  have hs := start1_absent c hex (RState.init processed future) rfl
  have hinv := start1_kept (Kept.plain (Inv2.kept hb hk hl)) processed future
  unfold Proc.initWith enter
  simp only []
  generalize start1 c env (RState.init processed future) = r at hs hinv
  obtain ⟨rs, e, pn⟩ := r
  obtain ⟨rfl, hfin, hblk⟩ := hs
  have hlive : Live c env gs {
      party := { phase := .r1, rs := rs, errPending := false, donePending := false }
      inManager := true, done := false, stray := Lru.empty futureCap, ending := none } :=
    ⟨rfl, rfl, rfl, rfl, rfl, hfin, hinv⟩
  cases pn
  · simp only [Bool.false_eq_true, if_false]
    rcases settle_advance hl hex hlive with ⟨hcp, e⟩ | hf
    · rw [e]; exact .inl ⟨rfl, rfl, rfl, rfl, rfl, hcp, hfin, hinv, hblk⟩
    · exact .inr (.inl hf)
  · -- a panic escaped `round1.Start`: recovered in `baseParty.Update`, the advance loop does not run
    simp only [if_true]
    rw [settle_idle _ rfl rfl]
    exact hlive.started fun _ => hblk

theorem run_started (hb : env.bindsHash = true) (hex : env.blockExists = false) (hl : Lawful c env sh gs)
    {F : List MsgId} (ws : List (Wire G)) :
    ∀ pr : Proc G, Started c env gs F pr →
      Started c env gs F (Proc.run c env pr ws) ∧
      (∀ i, Heard pr i → Heard (Proc.run c env pr ws) i) ∧
      (∀ i mid, Wire.ok (honestMsg env sh i mid) ∈ ws → i ∈ env.pkKnown → mid ∉ F →
        Heard (Proc.run c env pr ws) i) := by
  induction ws with
  | nil => intro pr h; exact ⟨h, fun _ h => h, fun i mid hm => nomatch hm⟩
  | cons w rest ih =>
    intro pr h
    have hd := deliver_started hb hex hl w h
    have hi := ih _ hd.1
    refine ⟨hi.1, fun i hh => hi.2.1 i (hd.2.1 i hh), fun i mid hm hpk hmid => ?_⟩
    rcases List.mem_cons.mp hm with hw | hr
    · exact hi.2.1 i (hd.2.2 i mid hw.symm hpk hmid)
    · exact hi.2.2 i mid hr hpk hmid

theorem run_quorum (hb : env.bindsHash = true) (hex : env.blockExists = false) (hk : 0 < groupK env.groupSize)
    (hl : Lawful c env sh gs) {F : List MsgId} (ws : List (Wire G)) {pr : Proc G} (h0 : Started c env gs F pr)
    (honest : List (Id × MsgId)) (hnd : (honest.map (·.1)).Nodup) (hlen : groupK env.groupSize ≤ honest.length)
    (hmem : ∀ p ∈ honest, p.1 ∈ env.pkKnown ∧ Wire.ok (honestMsg env sh p.1 p.2) ∈ ws ∧ p.2 ∉ F) :
    Finished env gs (Proc.run c env pr ws) := by
  have hrun := run_started hb hex hl ws pr h0
  rcases hrun.1.live with hf | ⟨hlive, _⟩
  · exact hf
  -- not done at the end: every honest sender is in a set that still has fewer than `k` entries
  exfalso
  have hin : ∀ p ∈ honest, (Proc.run c env pr ws).party.rs.canProcessed = false ∧
      p.1 ∈ (Proc.run c env pr ws).party.rs.gSign.witness.map (·.1) := by
    intro p hp
    obtain ⟨hpk, hw, hmid⟩ := hmem p hp
    rcases hrun.2.2 p.1 p.2 hw hpk hmid with he | ⟨hcp, hhas⟩
    · rw [hlive.ending] at he; cases he
    · exact ⟨hcp, (has_eq_true_iff _ _).mp hhas⟩
  cases honest with
  | nil => simp at hlen; omega
  | cons p rest =>
    have h1 := List.Nodup.length_le_of_subset hnd fun i hi => by
      obtain ⟨q, hq, rfl⟩ := List.mem_map.mp hi
      exact (hin q hq).2
    have h2 := (hlive.inv2.open_ (hin p (by simp)).1).1
    simp only [List.length_map] at h1
    omega

theorem runX_init_inv2 (hb : env.bindsHash = true) (hn : 0 < env.groupSize) (hl : Lawful c env sh gs) (future : List (VMsg G))
    (ws : List (Bool × Wire G)) : Inv2 c env gs (Proc.runX c env (Proc.init c env future) ws).party.rs :=
  runX_kept (Inv2.kept hb (groupK_pos hn) hl) ws _
    (initWith_kept (Kept.plain (Inv2.kept hb (groupK_pos hn) hl)) [] future)

end Rangers.Proofs.Round
