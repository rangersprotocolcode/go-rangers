import Rangers.Proofs.C16Curve
import Mathlib.Algebra.Group.Defs
import Mathlib.Algebra.Group.Basic
import Mathlib.Algebra.Group.MinimalAxioms
/-!
The points of a complete twisted Edwards curve (a = −1 = i², d non-square, char ≠ 2) form a
commutative group under the addition law — proved here from the field identities of
`C16Curve` (closure, associativity, completeness), with no hypothesis beyond the fields of `EdParams`.
-/
namespace Rangers.Proofs.C16Group
open Rangers.Proofs.C16Curve

variable {F : Type} [Field F]

/-- curve parameters with the side conditions that make the addition law complete -/
structure EdParams (F : Type) [Field F] where
  d : F
  i : F
  hi : i ^ 2 = -1
  h2 : (2 : F) ≠ 0
  hd : ¬ IsSquare d

@[ext] structure EdPoint (P : EdParams F) where
  x : F
  y : F
  on : OnCurve P.d x y

variable {P : EdParams F}

theorem dn (a b : EdPoint P) :
    1 + P.d * a.x * b.x * a.y * b.y ≠ 0 ∧ 1 - P.d * a.x * b.x * a.y * b.y ≠ 0 :=
  denoms_ne_zero P.d P.i a.x a.y b.x b.y P.hi P.h2 P.hd a.on b.on

def add (a b : EdPoint P) : EdPoint P :=
  ⟨addX P.d a.x a.y b.x b.y, addY P.d a.x a.y b.x b.y,
    add_closed P.d a.x a.y b.x b.y a.on b.on (dn a b).1 (dn a b).2⟩

def zero : EdPoint P := ⟨0, 1, zero_onCurve P.d⟩
def neg (a : EdPoint P) : EdPoint P := ⟨-a.x, a.y, neg_onCurve P.d a.x a.y a.on⟩

theorem add_comm' (a b : EdPoint P) : add a b = add b a := by
  ext
  · exact addX_comm _ _ _ _ _
  · exact addY_comm _ _ _ _ _

theorem add_zero' (a : EdPoint P) : add a zero = a := by
  ext
  · exact (add_zero_right P.d a.x a.y).1
  · exact (add_zero_right P.d a.x a.y).2

theorem add_neg' (a : EdPoint P) : add a (neg a) = zero := by
  have hD : 1 + P.d * a.x ^ 2 * a.y ^ 2 ≠ 0 := by
    have := (dn a (neg a)).2
    simp only [neg] at this
    intro h0; apply this; linear_combination h0
  ext
  · exact (add_neg_self P.d a.x a.y a.on hD).1
  · exact (add_neg_self P.d a.x a.y a.on hD).2

theorem add_assoc_x (a b c : EdPoint P) : (add (add a b) c).x = (add a (add b c)).x := by
  rw [add_comm' a (add b c)]
  exact addX_assoc P.d a.x a.y b.x b.y c.x c.y a.on b.on c.on (dn a b).1 (dn a b).2 (dn b c).1 (dn b c).2
    (dn (add a b) c).1 (dn (add b c) a).1

/-- `a + (i, 0)`: the coordinates exchanged and multiplied by `i` -/
def rot (a : EdPoint P) : EdPoint P := ⟨P.i * a.y, P.i * a.x, rot_onCurve P.d P.i a.x a.y P.hi a.on⟩

theorem add_rot (a c : EdPoint P) : add a (rot c) = rot (add a c) := by
  ext
  · exact addX_rot P.d P.i a.x a.y c.x c.y P.hi
  · exact addY_rot P.d P.i a.x a.y c.x c.y P.hi

theorem add_assoc' (a b c : EdPoint P) : add (add a b) c = add a (add b c) := by
  ext
  · exact add_assoc_x a b c
  · -- the y coordinate of a sum is, up to the factor i, the x coordinate of the sum turned by `rot`
    have h := add_assoc_x a b (rot c)
    rw [add_rot, add_rot, add_rot] at h
    have hi0 : P.i ≠ 0 := by
      intro h0
      have := P.hi
      rw [h0] at this
      simp at this
    exact mul_left_cancel₀ hi0 h

instance : Add (EdPoint P) := ⟨add⟩
instance : Zero (EdPoint P) := ⟨zero⟩
instance : Neg (EdPoint P) := ⟨neg⟩

instance : AddCommGroup (EdPoint P) :=
  { AddGroup.ofLeftAxioms (G := EdPoint P) add_assoc'
      (fun a => by
        show add zero a = a
        rw [add_comm']; exact add_zero' a)
      (fun a => by
        show add (neg a) a = zero
        rw [add_comm']; exact add_neg' a) with
    add_comm := add_comm' }

end Rangers.Proofs.C16Group
