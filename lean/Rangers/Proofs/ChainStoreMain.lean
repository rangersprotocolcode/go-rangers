import Rangers.Proofs.ChainStoreOps
/-!
The invariant through `removeFromCommonAncestor` (`CutTo`), through `insertBlock` with its orphan cascade and
`addBlockOnChain` of a block that extends the head (`Grown`, by induction on the recursion bound), and through
`restart`. Each ends in a live node satisfying the invariant for some chain, or a dead one on a disk recoverable to a
chain of tree blocks (`Post`).
-/
namespace Rangers.Proofs.ChainStore
open Rangers.Model.ChainStore

/-- recoverable to some chain of tree blocks -/
def RecIn (T : Nat → Option Block) (d : Disk) : Prop := ∃ c, RecTo d c ∧ ∀ z ∈ c, T z.hash = some z

/-- how every operation on the chain ends: alive holding some chain, or dead on a disk `restart` brings back to one -/
def Post (T : Nat → Option Block) (s : St) : Prop := Out (fun d m => ∃ c, Inv T d m c) (RecIn T) s

theorem Post.recIn {T : Nat → Option Block} {s : St} (h : Post T s) : RecIn T s.disk := by
  rcases h with ⟨_, c, inv⟩ | ⟨_, r⟩
  · exact ⟨c, Or.inl inv.chain, inv.fromT⟩
  · exact r

theorem RemRec.recIn {T : Nat → Option Block} {c : List Block} {x : Block} {d : Disk}
    (hT : ∀ z ∈ x :: c, T z.hash = some z) (h : RemRec c x d) : RecIn T d := by
  rcases h with h | h
  · exact ⟨c, h, fun z hz => hT z (List.mem_cons_of_mem _ hz)⟩
  · exact ⟨x :: c, Or.inl h, hT⟩

theorem lookup_top {T : Nat → Option Block} {s : St} {c : List Block} (inv : Inv T s.disk s.mem c) {k : Nat}
    (hk : s.mem.latest.height ≤ k) :
    (s.lookupHeight k = none ∧ s.mem.latest.height < k) ∨
    (s.lookupHeight k = some s.mem.latest ∧ s.mem.latest.height = k) := by
  rw [lookupHeight_eq inv]
  cases hL : s.disk.heights k with
  | none =>
    refine Or.inl ⟨rfl, Nat.lt_of_le_of_ne hk fun e => ?_⟩
    rw [← e, inv.chain.heights_mem _ inv.latest_mem] at hL
    cases hL
  | some hd =>
    obtain ⟨hmem, hh⟩ := inv.chain.heights_only _ _ hL
    have e : hd.height = s.mem.latest.height := Nat.le_antisymm (inv.le_latest hmem) (hh ▸ hk)
    rw [inv.chain.height_inj hmem inv.latest_mem e] at hh ⊢
    exact Or.inr ⟨rfl, hh⟩

/-- what the loop of `removeFromCommonAncestor` has made of a live node that held chain `c` with memory `m0` -/
structure CutTo (T : Nat → Option Block) (base : Nat) (c : List Block) (m0 : Mem) (d : Disk) (m : Mem)
    (c2 : List Block) : Prop where
  inv : Inv T d m c2
  suffix : c2 <:+ c
  low : m.latest.height ≤ base
  kept : ∀ x ∈ c, x.height ≤ base → x ∈ c2
  verified : ∀ h ∈ m0.verified, (∀ z ∈ c, z.hash ≠ h) → h ∈ m.verified
  pending : ∀ t ∈ m0.pending, t ∈ m.pending
  removed : ∀ x ∈ c, x ∉ c2 → ∀ t ∈ x.txs, t ∈ m.pending

theorem CutTo.refl {T : Nat → Option Block} {base : Nat} {c : List Block} {d : Disk} {m : Mem} (inv : Inv T d m c)
    (h : m.latest.height ≤ base) : CutTo T base c m d m c :=
  ⟨inv, List.suffix_refl _, h, fun _ hx _ => hx, fun _ hh _ => hh, fun _ ht => ht, fun _ hx hn => absurd hx hn⟩

theorem CutTo.cons {T : Nat → Option Block} {base : Nat} {c c2 : List Block} {m0 m1 m : Mem} {d : Disk} {x : Block}
    (h : CutTo T base c m1 d m c2) (hx : base < x.height)
    (hv : m1.verified = m0.verified.filter (fun h => h != x.hash)) (hp : ∀ t ∈ m0.pending, t ∈ m1.pending)
    (hun : ∀ t ∈ x.txs, t ∈ m1.pending) : CutTo T base (x :: c) m0 d m c2 where
  inv := h.inv
  suffix := h.suffix.trans (List.suffix_cons _ _)
  low := h.low
  kept := fun z hz hzb => by
    rcases List.mem_cons.mp hz with rfl | hz
    · exact absurd hzb (Nat.not_le_of_lt hx)
    · exact h.kept z hz hzb
  verified := fun k hk hz => by
    refine h.verified k ?_ fun z hzr => hz z (List.mem_cons_of_mem _ hzr)
    rw [hv]
    exact List.mem_filter.mpr ⟨hk, bne_iff_ne.mpr fun e => hz _ (List.mem_cons_self ..) e.symm⟩
  pending := fun t ht => h.pending t (hp t ht)
  removed := fun z hz hn t ht => by
    rcases List.mem_cons.mp hz with rfl | hz
    · exact h.pending t (hun t ht)
    · exact h.removed z hz hn t ht

theorem removeLoop_spec {T : Nat → Option Block} (base : Nat) :
    ∀ (n : Nat) (s : St) (c : List Block), s.crashed = false → Inv T s.disk s.mem c →
      s.mem.latest.height ≤ base + n →
      Out (fun d m => ∃ c2, CutTo T base c s.mem d m c2) (RecIn T) (removeLoop base n s) := by
  intro n
  induction n with
  | zero =>
    intro s c ha inv hb
    exact Out.alive ha ⟨c, CutTo.refl inv hb⟩
  | succ n ih =>
    intro s c ha inv hb
    unfold removeLoop
    simp only
    rcases lookup_top inv (k := base + n + 1) hb with ⟨hL, hlt⟩ | ⟨hL, heq⟩
    · rw [hL]
      exact ih s c ha inv (Nat.le_of_lt_succ hlt)
    · rw [hL]
      simp only
      rw [inv.chain.blocks_mem _ inv.latest_mem]
      simp only
      obtain ⟨rest, rfl⟩ := head_of_latest inv
      -- the head is above height 0, so it is not the genesis block: something is left below it
      obtain ⟨y, r2, rfl⟩ : ∃ y r2, rest = y :: r2 := by
        cases rest with
        | nil => exact absurd (heq.symm.trans inv.chain.linked) (Nat.succ_ne_zero _)
        | cons y r2 => exact ⟨y, r2, rfl⟩
      have hR := remove_spec ha inv (List.cons_ne_nil y r2)
      refine Out.bind hR (Reach.refl.removeLoop base n) ?_ (fun d r => RemRec.recIn inv.fromT r)
      intro ha' ⟨inv', hun, hpend, _⟩
      have hy : y.height < base + n + 1 := heq ▸ inv.chain.linked.2.1
      have hlat : (remove s s.mem.latest).1.mem.latest = y := (Option.some.inj inv'.latest).symm
      have hx : base < s.mem.latest.height := heq.symm ▸ Nat.lt_succ_of_le (Nat.le_add_right base n)
      refine (ih _ (y :: r2) ha' inv' (by rw [hlat]; exact Nat.le_of_lt_succ hy)).weaken ?_
      exact fun d m ⟨c2, h⟩ => ⟨c2, h.cons hx (remove_verified _ _) hpend fun t ht => (hun t ht).2⟩

theorem removeFrom_cut {T : Nat → Option Block} {s : St} {c : List Block} (anc : Block)
    (ha : s.crashed = false) (inv : Inv T s.disk s.mem c) :
    Out (fun d m => ∃ c2, CutTo T anc.height c s.mem d m c2) (RecIn T) (removeFromCommonAncestor s anc) :=
  removeLoop_spec anc.height _ s c ha inv (by omega)

theorem removeFrom_spec {T : Nat → Option Block} {s : St} {c : List Block} (anc : Block)
    (ha : s.crashed = false) (inv : Inv T s.disk s.mem c) : Post T (removeFromCommonAncestor s anc) :=
  (removeFrom_cut anc ha inv).weaken fun _ _ ⟨c2, h⟩ => ⟨c2, h.inv⟩

theorem CutTo.latest_eq {T : Nat → Option Block} {anc : Block} {c c2 : List Block} {m0 m : Mem} {d : Disk}
    (h : CutTo T anc.height c m0 d m c2) (ha : anc ∈ c) : m.latest = anc :=
  have hanc := h.kept anc ha (Nat.le_refl _)
  h.inv.chain.height_inj h.inv.latest_mem hanc (Nat.le_antisymm h.low (h.inv.le_latest hanc))

/-- a transaction that was pending is still pending or sits in a block of the chain -/
def Kept (pend : List Nat) (c' : List Block) (pend' : List Nat) : Prop :=
  ∀ t ∈ pend, t ∈ pend' ∨ ∃ y ∈ c', t ∈ y.txs

/-- what a live node holds after an operation that can only extend the chain `c` (pending container `p0` before) -/
def Grown (T : Nat → Option Block) (c : List Block) (p0 : List Nat) (d : Disk) (m : Mem) : Prop :=
  ∃ c', Inv T d m c' ∧ c <:+ c' ∧ Kept p0 c' m.pending

theorem Grown.refl {T : Nat → Option Block} {c : List Block} {d : Disk} {m : Mem} (inv : Inv T d m c) :
    Grown T c m.pending d m :=
  ⟨c, inv, List.suffix_refl _, fun _ ht => Or.inl ht⟩

theorem insertBlock_spec {T : Nat → Option Block} (vt : ValidTree T) {s : St} {b : Block} {c : List Block}
    (cont : St → Block → St) (hfr : ∀ s f, Reach s (cont s f))
    (hcont : ∀ s' f c', s'.crashed = false → Inv T s'.disk s'.mem c' → T f.hash = some f → f.pre = s'.mem.latest.hash →
      Out (Grown T c' s'.mem.pending) (RecIn T) (cont s' f))
    (ha : s.crashed = false) (inv : Inv T s.disk s.mem c) (hpre : b.pre = s.mem.latest.hash)
    (hn : s.disk.blocks b.hash = none) (hT : T b.hash = some b) (hv : s.mem.verified.contains b.hash = true) :
    Out (Grown T (b :: c) s.mem.pending) (RecIn T) (insertBlock cont s b).1 := by
  rw [insertBlock_hit cont s b hv]
  obtain ⟨hh, hfresh⟩ := inv.child vt hT hpre
  have hAB := insertAB_spec (s := touchVerified s b) ha (touchVerified_inv inv) hpre inv.latest hh hn hT hfresh
  have hrec : ∀ d, RecTo d c → RecIn T d := fun d r => ⟨c, r, inv.fromT⟩
  -- a transaction that was pending is still pending or sits in `b`, which is on the new chain
  have hk : ∀ {c' : List Block} {p' : List Nat}, b ∈ c' → (∀ t ∈ s.mem.pending, t ∉ b.txs → t ∈ p' ∨ ∃ y ∈ c', t ∈ y.txs) →
      Kept s.mem.pending c' p' := fun hb h t ht =>
    (Classical.em (t ∈ b.txs)).elim (fun hb' => Or.inr ⟨b, hb, hb'⟩) (h t ht)
  cases hf : (insertB (insertA (touchVerified s b) b) b).mem.future b.hash with
  | none =>
    exact hAB.mono (fun d m p => ⟨b :: c, p.1, List.suffix_refl _,
      hk (List.mem_cons_self ..) fun t ht hb => Or.inl (p.2.2.2.2 t ht hb)⟩) hrec
  | some f =>
    -- the orphan parked under `b` extends the new head
    refine Out.bind hAB (hfr _ f) (fun ha' p => ?_) hrec
    have hfut := p.1.fut _ _ hf
    have hlat : (insertB (insertA (touchVerified s b) b) b).mem.latest = b := (Option.some.inj p.1.latest).symm
    refine (hcont _ f _ ha' p.1 hfut.2 (by rw [hlat]; exact hfut.1)).weaken ?_
    exact fun d m ⟨c'', inv'', hs, hkept⟩ => ⟨c'', inv'', hs,
      hk (hs.mem (List.mem_cons_self ..)) fun t ht hb => hkept t (p.2.2.2.2 t ht hb)⟩

theorem addCore_ext {T : Nat → Option Block} (vt : ValidTree T) :
    ∀ (fuel : Nat) (s : St) (b : Block) (c : List Block), s.crashed = false → Inv T s.disk s.mem c → T b.hash = some b →
      b.pre = s.mem.latest.hash → Out (Grown T c s.mem.pending) (RecIn T) (addCore fuel s b).1 := by
  intro fuel
  induction fuel with
  | zero => intro s b c ha inv _ _; exact Out.alive ha (Grown.refl inv)
  | succ fuel ih =>
    intro s b c ha inv hT hpre
    have ha1 : (verify s b).1.crashed = false := (verify_crashed s b).trans ha
    have inv1 := verify_spec inv hT
    have hvp := verify_pending s b
    refine addCore_cases (motive := fun r => Out (Grown T c s.mem.pending) (RecIn T) r.1) fuel s b
      (fun _ => Out.alive ha (Grown.refl inv)) (fun _ _ _ => Out.alive ha1 (hvp ▸ Grown.refl inv1)) ?_
      (fun _ _ _ hne => absurd hpre hne)
    intro hnb hv _
    refine (insertBlock_spec vt (fun s f => (addCore fuel s f).1) (fun _ f => Reach.refl.addCore fuel f)
      (fun s' f c' ha' inv' hTf hpf => ih s' f c' ha' inv' hTf hpf) ha1 inv1 ((verify_latest s b).symm ▸ hpre)
      ((verify_disk s b).symm ▸ hnb) hT (verify_hit s b hv)).weaken ?_
    exact fun d m ⟨c', inv', hs, hk⟩ => ⟨c', inv', (List.suffix_cons _ _).trans hs, by rw [← hvp]; exact hk⟩

theorem frozen_repairAdd : Frozen repairAdd := fun _ h => Reach.refl.repairAdd.frozen h

/-- state between the two halves of `ensureChainConsistency` -/
def MidRepair (c : List Block) (d : Disk) (m : Mem) : Prop :=
  (ChainInv d c ∧ c.head? = some m.latest) ∨ (∃ x, Pending d c x ∧ d.addMark = none)

theorem repairAdd_spec {s : St} {c : List Block} (ha : s.crashed = false) (hr : RecTo s.disk c)
    (hl : s.disk.current = some s.mem.latest) :
    Out (fun d m => MidRepair c d m ∧ m.future = s.mem.future) (fun d => RecTo d c) (repairAdd s) := by
  unfold repairAdd
  rcases hr with ci | ⟨x, p⟩
  · rw [ci.noAdd]
    exact Out.alive ha ⟨Or.inl ⟨ci, by rw [← ci.cur]; exact hl⟩, rfl⟩
  · rcases p.addMark with hn | hs
    · rw [hn]
      exact Out.alive ha ⟨Or.inr ⟨x, p, hn⟩, rfl⟩
    · rw [hs]
      simp only
      obtain ⟨d4, m, run, r⟩ :=
        remove_core (R := fun d => RecTo d c) ha (p.write .putRemoveMark) hs (Or.inr ⟨x, p⟩) (fun _ r => r)
      exact (run.exact_write .delAddMark (Or.inr ⟨x, r.mid⟩)).of_exact ⟨Or.inl ⟨r.finish_add, r.head⟩, r.future⟩

theorem repairRemove_spec {s : St} {c : List Block} (ha : s.crashed = false) (hm : MidRepair c s.disk s.mem) :
    Out (fun d m => ChainInv d c ∧ c.head? = some m.latest ∧ m.future = s.mem.future) (fun d => RecTo d c)
      (repairRemove s) := by
  unfold repairRemove
  rcases hm with ⟨ci, hl⟩ | ⟨x, p, hn⟩
  · rw [ci.noRemove]
    exact Out.alive ha ⟨ci, hl, rfl⟩
  · have hrm : s.disk.removeMark = some x := by
      rcases p.marked with h | h
      · rw [hn] at h; cases h
      · exact h
    rw [hrm]
    simp only
    obtain ⟨d4, m, run, r⟩ :=
      remove_core (R := fun d => RecTo d c) ha (p.write .putRemoveMark) hn (Or.inr ⟨x, p⟩) (fun _ r => r)
    exact (run.exact_write .delRemoveMark (Or.inl r.finish)).of_exact ⟨{ r.finish with noRemove := rfl }, r.head, r.future⟩

theorem restart_spec {T : Nat → Option Block} {s : St} {c : List Block} (ha : s.crashed = false)
    (hr : RecTo s.disk c) (hT : ∀ z ∈ c, T z.hash = some z) :
    Out (fun d m => Inv T d m c) (fun d => RecTo d c) (restart s).1 ∧
    ((restart s).1.crashed = false → (restart s).2 = .ok) := by
  obtain ⟨cur, hcur⟩ : ∃ cur, s.disk.current = some cur := by
    rcases hr with ci | ⟨x, p⟩
    · exact ci.linked.exists_head.imp fun _ hy => ci.cur.trans hy
    · rcases p.cur with h | h
      · exact p.linked.exists_head.imp fun _ hy => h.trans hy
      · exact ⟨x, h⟩
  unfold restart
  rw [hcur]
  simp only
  let s1 := s.setMem { latest := cur, top := fun _ => none, verified := [], future := fun _ => none, pending := [] }
  have ha1 : s1.crashed = false := ha
  have h1 := repairAdd_spec (s := s1) ha1 hr hcur
  have h2 : Out (fun d m => ChainInv d c ∧ c.head? = some m.latest ∧ m.future = fun _ => none) (fun d => RecTo d c)
      (repairRemove (repairAdd s1)) := by
    refine Out.bind h1 Reach.refl.repairRemove ?_ (fun _ r => r)
    intro ha2 p
    refine (repairRemove_spec ha2 p.1).weaken ?_
    intro d m q
    exact ⟨q.1, q.2.1, by rw [q.2.2, p.2]; rfl⟩
  -- the end of `initBlockChain`: the head's state root opens (no panic) and `buildCache` fills topBlocks from the height
  -- index
  refine ite_cases (M := fun r : St × RestartRes => Out (fun d m => Inv T d m c) (fun d => RecTo d c) r.1 ∧
    (r.1.crashed = false → r.2 = .ok)) (fun hno => ?_) (fun _ => ⟨h2.setMem _ ?_, fun _ => rfl⟩)
  · rcases h2 with ⟨_, ci, hl, _⟩ | ⟨dead, r⟩
    · rw [ci.roots _ (List.mem_of_mem_head? hl)] at hno; cases hno
    · exact ⟨Out.dead dead r, fun h => absurd (dead.symm.trans h) (by decide)⟩
  · intro ⟨ci, hl, hf⟩
    refine ⟨ci, hl, fun k z hk => (Option.ite_none_right_eq_some.1 hk).2, fun k f hk => ?_, hT⟩
    rw [show (repairRemove (repairAdd s1)).mem.future k = none from congrFun hf k] at hk
    cases hk

theorem restart_safe {T : Nat → Option Block} {s : St} {c : List Block} (hs : Safe s) (hr : RecTo s.disk c)
    (hT : ∀ z ∈ c, T z.hash = some z) : Inv T (restart s).1.disk (restart s).1.mem c ∧ (restart s).2 = .ok := by
  have h := restart_spec (T := T) hs.1 hr hT
  exact ⟨h.1.of_safe Reach.refl.restart hs, h.2 (Reach.refl.restart.safe hs).1⟩

theorem restart_either {T : Nat → Option Block} {s : St} {c c' : List Block} (hs : Safe s)
    (hr : RecTo s.disk c ∨ RecTo s.disk c') (hT : ∀ z ∈ c, T z.hash = some z) (hT' : ∀ z ∈ c', T z.hash = some z) :
    (Inv T (restart s).1.disk (restart s).1.mem c ∨ Inv T (restart s).1.disk (restart s).1.mem c') ∧
      (restart s).2 = .ok :=
  hr.elim (fun h => ⟨Or.inl (restart_safe hs h hT).1, (restart_safe hs h hT).2⟩)
    fun h => ⟨Or.inr (restart_safe hs h hT').1, (restart_safe hs h hT').2⟩

end Rangers.Proofs.ChainStore
