import Rangers.Model.Evm10Table
import Rangers.Generated.Evm10JumpTable
/-!
C10 — facts about the generated jump tables (T-gen).  `generated_tables_ok` is decided over the
8 × 256 generated slots: a `minStack` lowered below what the slot's `execute` pops, a dropped or
exchanged `memorySize` function, an `execute` re-pointed to a function that pops more or touches
other memory breaks this file.  A re-pointing that keeps arity and memory function (SDIV to `opDiv`)
and a re-parameterised `makePush` closure break `table_ops_bound` (`Props/C10T`), whose walk along
the slot list (`fullRows`) is at the end of this file.
-/
namespace Rangers.Proofs.Evm10
open Rangers.Model.Evm10 Rangers.Generated.Evm10

/-- how many stack items the transcribed `execute` function pops/peeks -/
def arity : Exec → Nat
  | .opStop | .opJumpdest | .opPc | .opMsize | .opGas | .opPush0 | .opPush1 | .push _ _
  | .opCallDataSize | .opCodeSize | .opReturnDataSize => 0
  | .opNot | .opIszero | .opCallDataLoad | .opPop | .opMload | .opJump => 1
  | .opAddmod | .opMulmod | .opCallDataCopy | .opCodeCopy | .opReturnDataCopy | .opMcopy => 3
  | .dup n => n
  | .swap n => n + 1
  | .other _ => 0
  | _ => 2

/-- the `memorySize` function the transcribed `execute` function relies on -/
def expectedMem : Exec → MemFn
  | .opSha3 => .memorySha3
  | .opCallDataCopy => .memoryCallDataCopy
  | .opCodeCopy => .memoryCodeCopy
  | .opReturnDataCopy => .memoryReturnDataCopy
  | .opMload => .memoryMLoad
  | .opMstore => .memoryMStore
  | .opMstore8 => .memoryMStore8
  | .opMcopy => .memoryMcopy
  | .opReturn => .memoryReturn
  | .opRevert => .memoryRevert
  | _ => .none

/-- how deep the `memorySize` function looks into the stack (largest `Back(n)` + 1) -/
def memArity : MemFn → Nat
  | .none | .other _ => 0
  | .memoryMLoad | .memoryMStore8 | .memoryMStore => 1
  | .memorySha3 | .memoryReturn | .memoryRevert | .memoryLog => 2
  | .memoryCallDataCopy | .memoryReturnDataCopy | .memoryCodeCopy | .memoryMcopy
  | .memoryCreate | .memoryCreate2 => 3
  | .memoryExtCodeCopy => 4
  | .memoryDelegateCall | .memoryStaticCall => 6
  | .memoryCall => 7
  | .memoryAuthCall => 9

def isOther : Exec → Bool
  | .other _ => true
  | _ => false

/-- a slot is consistent: with an untranscribed `execute` the stack demand still covers what the
memory-size function reads; for a transcribed one enough stack is demanded for what `execute` pops, the memory-size
function is the one `execute` needs, a memory-size function never comes without a gas
function (which is what bounds the resize), `dup`/`swap` parameters are positive. -/
def slotOK (i : OpInfo) : Bool :=
  (isOther i.exec && decide (memArity i.memSize ≤ i.minStack)) ||
    (decide (arity i.exec ≤ i.minStack) && (i.memSize == expectedMem i.exec) &&
     ((i.memSize == .none) || !(i.dynGas == .none)) &&
     (match i.exec with | .dup n => decide (0 < n) | .swap n => decide (0 < n) | _ => true))

def tableOK (t : Table) : Bool :=
  t.toList.all (fun s => match s with | none => true | some i => slotOK i)

theorem generated_tables_ok :
    tableOK table0 = true ∧ tableOK table1 = true ∧ tableOK table2 = true ∧ tableOK table3 = true ∧
    tableOK table4 = true ∧ tableOK table5 = true ∧ tableOK table6 = true ∧ tableOK table7 = true := by
  decide +kernel

theorem tables_ok (cfg : Nat) : tableOK (table cfg) = true := by
  obtain ⟨h0, h1, h2, h3, h4, h5, h6, h7⟩ := generated_tables_ok
  unfold table
  split
  · exact h0
  · exact h1
  · exact h2
  · exact h3
  · exact h4
  · exact h5
  · exact h6
  · exact h7

theorem slotOK_of_get {t : Table} (ht : tableOK t = true) {op : Nat} {i : OpInfo}
    (h : t.get op = some i) : slotOK i = true := by
  unfold Table.get at h
  unfold tableOK at ht
  rw [List.all_eq_true] at ht
  cases hq : t[op]? with
  | none => simp [hq] at h
  | some s =>
    simp [hq] at h
    subst h
    have hm : (some i : Option OpInfo) ∈ t.toList := by
      rw [Array.mem_toList_iff]
      exact Array.mem_of_getElem? hq
    exact ht _ hm

theorem memArity_expectedMem_le (e : Exec) : memArity (expectedMem e) ≤ arity e := by
  cases e <;> first | decide | exact Nat.zero_le _

theorem eq_other_of_isOther {e : Exec} (h : isOther e = true) : ∃ name, e = .other name := by
  unfold isOther at h
  split at h
  · exact ⟨_, rfl⟩
  · cases h

/-- what the proofs use of `slotOK`.  Its gas-function clause and its `swap` clause (SWAPn reads index
`n`, which `arity (.swap n) = n + 1` covers) are checked of the generated tables and used by no theorem. -/
theorem slotOK_cases {i : OpInfo} (h : slotOK i = true) :
    (isOther i.exec = true ∧ memArity i.memSize ≤ i.minStack) ∨
    (arity i.exec ≤ i.minStack ∧ i.memSize = expectedMem i.exec ∧
     (∀ n, i.exec = .dup n → 0 < n)) := by
  simp only [slotOK, Bool.or_eq_true, Bool.and_eq_true, decide_eq_true_eq, beq_iff_eq] at h
  rcases h with h | ⟨⟨⟨h1, h2⟩, _⟩, h4⟩
  · exact Or.inl h
  · refine Or.inr ⟨h1, h2, ?_⟩
    intro n hn; rw [hn] at h4; simpa using h4

theorem slotOK_memArity {i : OpInfo} (h : slotOK i = true) : memArity i.memSize ≤ i.minStack := by
  rcases slotOK_cases h with ⟨_, h⟩ | ⟨h1, h2, _⟩
  · exact h
  · rw [h2]; exact Nat.le_trans (memArity_expectedMem_le _) h1

/-- `g op slot` for the slots in order, numbered from `op` on: one walk of the slot list, where the
sweep `(List.range 256).all (… t.get op)` of `tableMatches` (`Props/C10T`) indexes the array anew for
every opcode. -/
def rowsAll (g : Nat → Option OpInfo → Bool) : Nat → List (Option OpInfo) → Bool
  | _, [] => true
  | op, s :: ss => g op s && rowsAll g (op + 1) ss

theorem rowsAll_get {g : Nat → Option OpInfo → Bool} : ∀ {l : List (Option OpInfo)} {k : Nat},
    rowsAll g k l = true → ∀ i (h : i < l.length), g (k + i) l[i] = true
  | s :: ss, k, h, i, hi => by
    rw [rowsAll, Bool.and_eq_true] at h
    cases i with
    | zero => exact h.1
    | succ i =>
      have := rowsAll_get h.2 i (Nat.lt_of_succ_lt_succ hi)
      rwa [Nat.add_assoc, Nat.add_comm 1] at this

def fullRows (g : Nat → Option OpInfo → Bool) (t : Table) : Bool :=
  t.size == 256 && rowsAll g 0 t.toList

theorem all_range_of_fullRows {g : Nat → Option OpInfo → Bool} {t : Table} (h : fullRows g t = true) :
    (List.range 256).all (fun op => g op (t.get op)) = true := by
  rw [fullRows, Bool.and_eq_true, beq_iff_eq] at h
  rw [List.all_eq_true]
  intro op hop
  have hlt : op < t.toList.length := by rw [Array.length_toList, h.1]; exact List.mem_range.1 hop
  have := rowsAll_get h.2 op hlt
  rw [Nat.zero_add, Array.getElem_toList] at this
  rw [Table.get, Array.getElem?_eq_getElem, Option.join_some]
  exact this

end Rangers.Proofs.Evm10
