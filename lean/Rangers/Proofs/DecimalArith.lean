import Rangers.Model.Decimal
import Rangers.Proofs.BitLen
import Mathlib.Tactic.Ring
import Mathlib.Tactic.Linarith
import Mathlib.Tactic.NormNum
import Mathlib.Tactic.Positivity
import Mathlib.Tactic.FieldSimp
import Mathlib.Algebra.Order.Field.Power
import Mathlib.Data.Rat.Defs
/-!
Arithmetic of the value-level `big.Float` model (`Rangers.Model.Decimal`):
what one away-from-zero rounding, one rounded division and one rounded
multiplication do to the value, as inequalities over ℚ, and that two such
roundings at 512 bits cannot move a quotient with numerator below `2^510`
across an integer. The one loop of the model that runs on fuel, square-and-multiply in `pow5`, has its
invariant here (`pow5Loop_invariant`); what is known about `pow5` are instances of it.
-/
namespace Rangers.Decimal

theorem bitLen_le_iff {m k : Nat} : bitLen m ≤ k ↔ m < 2 ^ k := BitLen.le_iff

theorem lt_bitLen_iff {m k : Nat} : k < bitLen m ↔ 2 ^ k ≤ m := BitLen.lt_iff

theorem bitLen_zero : bitLen 0 = 0 := rfl

theorem bitLen_pos {m : Nat} (h : 0 < m) : 0 < bitLen m := lt_bitLen_iff.mpr h

theorem lt_two_pow_bitLen (m : Nat) : m < 2 ^ bitLen m := bitLen_le_iff.mp (Nat.le_refl _)

theorem two_pow_bitLen_le {m : Nat} (h : 0 < m) : 2 ^ (bitLen m - 1) ≤ m :=
  lt_bitLen_iff.mp (Nat.sub_one_lt (Nat.ne_of_gt (bitLen_pos h)))

theorem bitLen_le_of_lt {m k : Nat} (h : m < 2 ^ k) : bitLen m ≤ k := bitLen_le_iff.mpr h

theorem bitLen_mono {a b : Nat} (h : a ≤ b) : bitLen a ≤ bitLen b :=
  bitLen_le_of_lt (Nat.lt_of_le_of_lt h (lt_two_pow_bitLen b))

theorem bitLen_mul_le (a b : Nat) : bitLen (a * b) ≤ bitLen a + bitLen b := by
  apply bitLen_le_of_lt
  rw [Nat.pow_add]
  exact Nat.mul_lt_mul_of_lt_of_le (lt_two_pow_bitLen a) (Nat.le_of_lt (lt_two_pow_bitLen b))
    (Nat.two_pow_pos _)

theorem bitLen_mul_two_pow_le (m k : Nat) : bitLen (m * 2 ^ k) ≤ bitLen m + k := by
  apply bitLen_le_of_lt
  rw [Nat.pow_add]
  exact Nat.mul_lt_mul_of_lt_of_le (lt_two_pow_bitLen m) (Nat.le_refl _) (Nat.two_pow_pos k)

theorem bitLen_div_two_pow_le (m k : Nat) : bitLen (m / 2 ^ k) ≤ bitLen m - k := by
  rw [bitLen_le_iff, Nat.div_lt_iff_lt_mul (Nat.two_pow_pos _), ← Nat.pow_add]
  exact Nat.lt_of_lt_of_le (lt_two_pow_bitLen m) (Nat.pow_le_pow_right (by norm_num) (by omega))

theorem bitLen_pow_le (b k n : Nat) (hb : b ≤ 2 ^ k) : bitLen (b ^ n) ≤ k * n + 1 := by
  apply bitLen_le_of_lt
  calc b ^ n ≤ (2 ^ k) ^ n := Nat.pow_le_pow_left hb n
    _ = 2 ^ (k * n) := by rw [Nat.pow_mul]
    _ < 2 ^ (k * n + 1) := Nat.pow_lt_pow_right (by norm_num) (by omega)

theorem roundMant_fits (mode : Mode) {p m : Nat} (st : Bool) (h : bitLen m ≤ p) :
    roundMant mode p m st = (m, 0) := by
  unfold roundMant; simp [h]

theorem roundMant_of_lt (mode : Mode) {p m : Nat} (st : Bool) (h : p < bitLen m) :
    (roundMant mode p m st).2 = bitLen m - p ∧
    ((roundMant mode p m st).1 = m / 2 ^ (bitLen m - p) ∨
     (roundMant mode p m st).1 = m / 2 ^ (bitLen m - p) + 1) := by
  unfold roundMant
  simp only [Nat.not_le.mpr h, if_false, true_and]
  exact (ite_eq_or_eq _ _ _).symm

theorem le_shifted {p m : Nat} (hp : 1 ≤ p) (h : p < bitLen m) :
    2 ^ (p - 1) ≤ m / 2 ^ (bitLen m - p) := by
  rw [Nat.le_div_iff_mul_le (Nat.two_pow_pos _), ← Nat.pow_add,
    show p - 1 + (bitLen m - p) = bitLen m - 1 by omega, ← lt_bitLen_iff]
  omega

theorem shifted_lt {p m : Nat} (h : p < bitLen m) : m / 2 ^ (bitLen m - p) < 2 ^ p :=
  bitLen_le_iff.mp (le_trans (bitLen_div_two_pow_le m _) (by omega))

theorem roundMant_fst_le_two_pow (mode : Mode) {p m : Nat} (st : Bool) (h : p < bitLen m) :
    (roundMant mode p m st).1 ≤ 2 ^ p := by
  have := shifted_lt h
  rcases (roundMant_of_lt mode st h).2 with e | e <;> omega

theorem roundMant_pos (mode : Mode) (p m : Nat) (st : Bool) (hp : 1 ≤ p) (hm : 0 < m) :
    0 < (roundMant mode p m st).1 := by
  by_cases h : bitLen m ≤ p
  · rwa [roundMant_fits mode st h]
  · have := le_shifted hp (Nat.not_le.mp h)
    have := Nat.two_pow_pos (p - 1)
    rcases (roundMant_of_lt mode st (Nat.not_le.mp h)).2 with e | e <;> omega

theorem roundMant_snd_le (mode : Mode) (p m : Nat) (st : Bool) :
    (roundMant mode p m st).2 ≤ bitLen m := by
  by_cases h : bitLen m ≤ p
  · rw [roundMant_fits mode st h]; exact Nat.zero_le _
  · rw [(roundMant_of_lt mode st (Nat.not_le.mp h)).1]; exact Nat.sub_le _ _

theorem roundMant_expo (mode : Mode) (p m : Nat) (st : Bool) :
    bitLen (roundMant mode p m st).1 + (roundMant mode p m st).2 ≤ bitLen m + 1 := by
  by_cases h : bitLen m ≤ p
  · simp [roundMant_fits mode st h]
  · have h' := Nat.not_le.mp h
    have hb : bitLen (roundMant mode p m st).1 ≤ p + 1 :=
      bitLen_le_of_lt (Nat.lt_of_le_of_lt (roundMant_fst_le_two_pow mode st h')
        (Nat.pow_lt_pow_right (by norm_num) (Nat.lt_succ_self p)))
    rw [(roundMant_of_lt mode st h').1]; omega

theorem roundMant_away_of_lt {p m : Nat} (st : Bool) (h : p < bitLen m) :
    roundMant .away p m st =
      (if (m % 2 ^ (bitLen m - p) != 0 || st) = true then m / 2 ^ (bitLen m - p) + 1
        else m / 2 ^ (bitLen m - p), bitLen m - p) := by
  unfold roundMant
  rw [if_neg (Nat.not_le.mpr h)]

theorem roundMant_away_bounds {p m : Nat} (st : Bool) (hb : st = true → p < bitLen m) :
    m + st.toNat ≤ (roundMant .away p m st).1 * 2 ^ (roundMant .away p m st).2 ∧
    (roundMant .away p m st).1 * 2 ^ (roundMant .away p m st).2
      < m + st.toNat + 2 ^ (roundMant .away p m st).2 := by
  by_cases h : bitLen m ≤ p
  · obtain rfl : st = false := by
      cases st
      · rfl
      · exact absurd (hb rfl) (Nat.not_lt.mpr h)
    simp [roundMant_fits .away false h]
  · rw [roundMant_away_of_lt st (Nat.not_le.mp h)]
    have hdm := Nat.div_add_mod' m (2 ^ (bitLen m - p))
    have hr := Nat.mod_lt m (Nat.two_pow_pos (bitLen m - p))
    dsimp only
    split
    · rename_i hinc
      rw [Nat.add_mul, Nat.one_mul]
      have : 1 ≤ m % 2 ^ (bitLen m - p) + st.toNat := by
        cases st
        · exact Nat.one_le_iff_ne_zero.mpr (by simpa using hinc)
        · simp
      have : st.toNat ≤ 1 := Bool.toNat_le st
      omega
    · rename_i hinc
      simp only [Bool.or_eq_true, bne_iff_ne, ne_eq, not_or, Decidable.not_not, Bool.not_eq_true] at hinc
      obtain ⟨h0, rfl⟩ := hinc
      simp only [Bool.toNat_false]
      omega

/-- The value of `BF.fin _ m e` without its sign. -/
def mag (m : Nat) (e : Int) : ℚ := (m : ℚ) * (2 : ℚ) ^ e

theorem mag_pos {m : Nat} (h : 0 < m) (e : Int) : 0 < mag m e := by
  unfold mag; positivity

theorem mag_add (m : Nat) (e : Int) (s : Nat) : mag m (e + (s : Int)) = (m : ℚ) * 2 ^ s * 2 ^ e := by
  unfold mag
  rw [zpow_add₀ (by norm_num : (2 : ℚ) ≠ 0), zpow_natCast]; ring

/-- `x` is what rounding `v > 0` away from zero to `p` bits may give: not below `v`, and above it by a relative error
    of less than `2^(1-p)`, one unit of the last of `p` bits. -/
def awayOf (p : Nat) (v x : ℚ) : Prop := v ≤ x ∧ x < v * (1 + 1 / 2 ^ (p - 1))

theorem awayOf_self (p : Nat) {v : ℚ} (hv : 0 < v) : awayOf p v v :=
  ⟨le_refl v, lt_mul_of_one_lt_right hv (lt_add_of_pos_right 1 (by positivity))⟩

theorem awayOf.mul_right {p : Nat} {v x c : ℚ} (h : awayOf p v x) (hc : 0 < c) :
    awayOf p (v * c) (x * c) :=
  ⟨mul_le_mul_of_nonneg_right h.1 hc.le, by
    rw [mul_right_comm]; exact mul_lt_mul_of_pos_right h.2 hc⟩

theorem awayOf.comp {p : Nat} {u z b w : ℚ} (h1 : awayOf p u z) (hb : 0 < b) (h2 : awayOf p (z * b) w) :
    u * b ≤ w ∧ w < u * b * ((1 + 1 / 2 ^ (p - 1)) * (1 + 1 / 2 ^ (p - 1))) := by
  have hE : (0 : ℚ) < 1 + 1 / 2 ^ (p - 1) := by positivity
  obtain ⟨a1, a2⟩ := h1.mul_right hb
  refine ⟨a1.trans h2.1, h2.2.trans_le ?_⟩
  rw [← mul_assoc]
  exact mul_le_mul_of_nonneg_right a2.le hE.le

/-- `v` is the exact value to be rounded, `m` its integer part, `st` the sticky bit. `hb`: `roundMant` drops the sticky bit of
    a mantissa that fits `p` bits; `quo`, the one source of a sticky bit, makes its quotient longer than that. -/
theorem roundMant_away_spec (p m : Nat) (st : Bool) (v : ℚ) (hp : 1 ≤ p) (hm : 0 < m)
    (hv1 : (m : ℚ) ≤ v) (hv2 : v < m + 1) (hst : st = true ↔ v ≠ m)
    (hb : st = true → p < bitLen m) :
    awayOf p v (((roundMant .away p m st).1 : ℚ) * 2 ^ (roundMant .away p m st).2) := by
  have hmQ : (0 : ℚ) < m := by exact_mod_cast hm
  obtain ⟨n1, n2⟩ := roundMant_away_bounds st hb
  have hfit := fun h => roundMant_fits .away st (p := p) (m := m) h
  have hlong := fun h => (roundMant_of_lt .away st (p := p) (m := m) h).1
  generalize roundMant .away p m st = r at *
  have q1 : (m : ℚ) + (st.toNat : ℕ) ≤ (r.1 : ℚ) * 2 ^ r.2 := by exact_mod_cast n1
  have q2 : (r.1 : ℚ) * 2 ^ r.2 + 1 ≤ m + (st.toNat : ℕ) + 2 ^ r.2 := by
    exact_mod_cast Nat.succ_le_of_lt n2
  -- the next multiple of `2^s` at or above `v`
  have hx : v ≤ (r.1 : ℚ) * 2 ^ r.2 ∧ (r.1 : ℚ) * 2 ^ r.2 < v + 2 ^ r.2 := by
    cases st
    · have hv : v = m := by
        by_contra hne
        exact Bool.false_ne_true (hst.mpr hne)
      rw [hv]
      simp only [Bool.toNat_false, Nat.cast_zero, add_zero] at q1 q2
      exact ⟨q1, lt_of_lt_of_le (lt_add_one _) q2⟩
    · have hlt : (m : ℚ) < v := lt_of_le_of_ne hv1 (Ne.symm (hst.mp rfl))
      simp only [Bool.toNat_true, Nat.cast_one] at q1 q2
      rw [add_right_comm, add_le_add_iff_right] at q2
      exact ⟨(hv2.trans_le q1).le, lt_of_le_of_lt q2 (add_lt_add_left hlt _)⟩
  by_cases h : bitLen m ≤ p
  · rw [hfit h] at hx ⊢
    have : v = m := le_antisymm (by simpa using hx.1) hv1
    simpa [this] using awayOf_self p hmQ
  · have hP : (0 : ℚ) < 2 ^ (p - 1) := by positivity
    have hs : (2 : ℚ) ^ r.2 ≤ v / 2 ^ (p - 1) := by
      rw [le_div_iff₀ hP, hlong (Nat.not_le.mp h), ← pow_add,
        show bitLen m - p + (p - 1) = bitLen m - 1 by omega]
      exact le_trans (by exact_mod_cast two_pow_bitLen_le hm) hv1
    refine ⟨hx.1, hx.2.trans_le ?_⟩
    rw [mul_add, mul_one, mul_one_div]
    exact add_le_add_right hs v

theorem natDiv_le (a : Nat) {b : Nat} (hb : 0 < b) : ((a / b : ℕ) : ℚ) ≤ (a : ℚ) / b := by
  rw [le_div_iff₀ (by exact_mod_cast hb)]
  exact_mod_cast Nat.div_mul_le_self a b

theorem lt_natDiv_add_one (a : Nat) {b : Nat} (hb : 0 < b) : (a : ℚ) / b < ((a / b : ℕ) : ℚ) + 1 := by
  rw [div_lt_iff₀ (by exact_mod_cast hb), mul_comm]
  exact_mod_cast Nat.lt_mul_div_succ a hb

theorem natDiv_ne_iff (a : Nat) {b : Nat} (hb : 0 < b) :
    (a % b != 0) = true ↔ (a : ℚ) / b ≠ ((a / b : ℕ) : ℚ) := by
  have hdm := Nat.div_add_mod' a b
  rw [bne_iff_ne, ne_eq, ne_eq, not_iff_not, div_eq_iff (by exact_mod_cast hb.ne')]
  constructor
  · intro h; rw [h] at hdm; exact_mod_cast hdm.symm
  · intro h
    have : a = a / b * b := by exact_mod_cast h
    omega

/-- The bounds are `minExp` and `maxExp`, written out so that `omega` can discharge them at the call sites. -/
theorem finish_fin (neg : Bool) (mode : Mode) {p m : Nat} (e : Int) (st : Bool) (hm : 0 < m)
    (hlo : -2147483648 ≤ (bitLen m : Int) + e) (hhi : (bitLen m : Int) + e < 2147483647) :
    finish neg mode p m e st = .fin neg (roundMant mode p m st).1 (e + ((roundMant mode p m st).2 : Int)) := by
  have h := roundMant_expo mode p m st
  unfold finish
  rw [if_neg hm.ne', if_neg (by unfold minExp; omega)]
  simp only []
  rw [if_neg (by unfold maxExp; omega)]

/-- `Float.round` of the exact value `v·2^e` (`v`, `m`, `st` as in `roundMant_away_spec`). -/
theorem finish_away_spec (neg : Bool) {p m : Nat} (e : Int) (st : Bool) (v : ℚ) (hp : 1 ≤ p) (hm : 0 < m)
    (hv1 : (m : ℚ) ≤ v) (hv2 : v < m + 1) (hst : st = true ↔ v ≠ m) (hb : st = true → p < bitLen m)
    (hlo : -2147483648 ≤ (bitLen m : Int) + e) (hhi : (bitLen m : Int) + e < 2147483647) :
    ∃ m' e', finish neg .away p m e st = .fin neg m' e' ∧ 0 < m' ∧ awayOf p (v * 2 ^ e) (mag m' e') ∧
      e ≤ e' ∧ (bitLen m' : Int) + e' ≤ bitLen m + e + 1 := by
  have h1 := roundMant_expo .away p m st
  refine ⟨_, _, finish_fin neg .away e st hm hlo hhi, roundMant_pos .away p m st hp hm, ?_,
    by omega, by omega⟩
  rw [mag_add]
  exact (roundMant_away_spec p m st v hp hm hv1 hv2 hst hb).mul_right (by positivity)

theorem quo_away_spec (p : Nat) (nx ny : Bool) (mx my : Nat) (ex ey : Int) (hp : 1 ≤ p)
    (hmx : 0 < mx) (hmy : 0 < my)
    (hlo : -2147483648 ≤ ex - ey - bitLen my) (hhi : (bitLen mx : Int) + ex - ey < 2147483647) :
    ∃ m' e', quo .away p (.fin nx mx ex) (.fin ny my ey) = .fin (nx != ny) m' e' ∧ 0 < m' ∧
      awayOf p (mag mx ex / mag my ey) (mag m' e') ∧
      ex - ey - (p + 2 + bitLen my : ℕ) ≤ e' ∧ (bitLen m' : Int) + e' ≤ bitLen mx + ex - ey + 1 := by
  unfold quo
  simp only []
  generalize hk : p + 2 + bitLen my = k
  have hqbig : 2 ^ (p + 2) ≤ mx * 2 ^ k / my := by
    rw [Nat.le_div_iff_mul_le hmy]
    calc 2 ^ (p + 2) * my ≤ 2 ^ (p + 2) * 2 ^ bitLen my :=
          Nat.mul_le_mul_left _ (Nat.le_of_lt (lt_two_pow_bitLen my))
      _ = 2 ^ k := by rw [← Nat.pow_add, hk]
      _ ≤ mx * 2 ^ k := Nat.le_mul_of_pos_left _ hmx
  have hqbits : p + 2 < bitLen (mx * 2 ^ k / my) := lt_bitLen_iff.mpr hqbig
  have hqa : bitLen (mx * 2 ^ k / my) ≤ bitLen mx + k :=
    le_trans (bitLen_mono (Nat.div_le_self _ _)) (bitLen_mul_two_pow_le mx k)
  obtain ⟨m', e', h, hpos, ha, b1, b2⟩ := finish_away_spec (nx != ny) (ex - ey - (k : Int))
    (mx * 2 ^ k % my != 0) (((mx * 2 ^ k : ℕ) : ℚ) / my) hp
    (lt_of_lt_of_le (Nat.two_pow_pos _) hqbig) (natDiv_le _ hmy) (lt_natDiv_add_one _ hmy)
    (natDiv_ne_iff _ hmy) (fun _ => by omega) (by omega) (by omega)
  refine ⟨m', e', h, hpos, ?_, by omega, by omega⟩
  have hE : mag mx ex / mag my ey = ((mx * 2 ^ k : ℕ) : ℚ) / my * 2 ^ (ex - ey - (k : Int)) := by
    unfold mag
    have hmyQ : (my : ℚ) ≠ 0 := by exact_mod_cast hmy.ne'
    rw [zpow_sub₀ (by norm_num : (2 : ℚ) ≠ 0), zpow_sub₀ (by norm_num : (2 : ℚ) ≠ 0), zpow_natCast]
    push_cast
    field_simp
  rw [hE]; exact ha

theorem mul_away_spec (p : Nat) (nx ny : Bool) (mx my : Nat) (ex ey : Int) (hp : 1 ≤ p)
    (hmx : 0 < mx) (hmy : 0 < my)
    (hlo : -2147483648 ≤ (bitLen mx : Int) + ex + ey)
    (hhi : (bitLen mx : Int) + bitLen my + ex + ey < 2147483647) :
    ∃ m' e', mul .away p (.fin nx mx ex) (.fin ny my ey) = .fin (nx != ny) m' e' ∧ 0 < m' ∧
      awayOf p (mag mx ex * mag my ey) (mag m' e') ∧
      ex + ey ≤ e' ∧ (bitLen m' : Int) + e' ≤ bitLen mx + bitLen my + ex + ey + 1 := by
  have hb1 := bitLen_mul_le mx my
  have hb2 : bitLen mx ≤ bitLen (mx * my) := bitLen_mono (Nat.le_mul_of_pos_right mx hmy)
  obtain ⟨m', e', h, hpos, ha, b1, b2⟩ := finish_away_spec (nx != ny) (ex + ey) false
    ((mx * my : ℕ) : ℚ) hp (Nat.mul_pos hmx hmy) (le_refl _) (lt_add_one _) (by simp) (by simp)
    (by omega) (by omega)
  refine ⟨m', e', h, hpos, ?_, by omega, by omega⟩
  have hE : mag mx ex * mag my ey = ((mx * my : ℕ) : ℚ) * 2 ^ (ex + ey) := by
    unfold mag
    rw [zpow_add₀ (by norm_num : (2 : ℚ) ≠ 0)]
    push_cast; ring
  rw [hE]; exact ha

theorem mul_exact (mode : Mode) (p : Nat) (nx ny : Bool) (mx my : Nat) (ex ey : Int) (hmx : 0 < mx) (hmy : 0 < my)
    (hfit : bitLen (mx * my) ≤ p) (hlo : -2147483648 ≤ ex + ey)
    (hhi : (bitLen (mx * my) : Int) + ex + ey < 2147483647) :
    mul mode p (.fin nx mx ex) (.fin ny my ey) = .fin (nx != ny) (mx * my) (ex + ey) := by
  show finish _ _ _ _ _ _ = _
  rw [finish_fin _ mode _ false (Nat.mul_pos hmx hmy) (by omega) (by omega),
    roundMant_fits mode false hfit, Int.natCast_zero, Int.add_zero]

theorem zpow_split {b : ℚ} (hb : b ≠ 0) (x : Int) : b ^ x = b ^ x.toNat / b ^ (-x).toNat := by
  conv_lhs => rw [← Int.toNat_sub_toNat_neg x, zpow_sub₀ hb, zpow_natCast, zpow_natCast]

/-- `Float.Int` of `±m·2^e` for either sign of `e`: one of the two powers is `1`. The branch `x.exp ≤ 0` (`|x| < 1`)
    of the Go code is the same quotient: it shifts everything out. -/
theorem toInt_fin (neg : Bool) (m : Nat) (e : Int) :
    toInt (.fin neg m e) =
      if neg then -((m * 2 ^ e.toNat / 2 ^ (-e).toNat : ℕ) : Int) else ((m * 2 ^ e.toNat / 2 ^ (-e).toNat : ℕ) : Int) := by
  have key : (if e ≥ 0 then m * 2 ^ e.toNat else m / 2 ^ (-e).toNat) = m * 2 ^ e.toNat / 2 ^ (-e).toNat := by
    rcases lt_or_ge e 0 with he | he
    · rw [if_neg he.not_ge, Int.toNat_of_nonpos he.le, pow_zero, Nat.mul_one]
    · rw [if_pos he, Int.toNat_of_nonpos (Int.neg_nonpos_of_nonneg he), pow_zero, Nat.div_one]
  simp only [toInt, key]
  split
  · have ha : e.toNat = 0 := by omega
    have : m * 2 ^ e.toNat / 2 ^ (-e).toNat = 0 := by
      rw [ha, pow_zero, Nat.mul_one]
      exact Nat.div_eq_of_lt (Nat.lt_of_lt_of_le (lt_two_pow_bitLen m)
        (Nat.pow_le_pow_right (by norm_num) (by omega)))
    rw [this]; simp
  · rfl

theorem toInt_fin_of_bounds (neg : Bool) (m : Nat) (e : Int) (T : Nat)
    (h1 : (T : ℚ) ≤ mag m e) (h2 : mag m e < T + 1) :
    toInt (.fin neg m e) = if neg then -(T : Int) else (T : Int) := by
  have hK : (0 : ℚ) < 2 ^ (-e).toNat := by positivity
  rw [mag, zpow_split two_ne_zero e, ← mul_div_assoc] at h1 h2
  rw [le_div_iff₀ hK] at h1
  rw [div_lt_iff₀ hK] at h2
  rw [toInt_fin, Nat.div_eq_of_lt_le (by exact_mod_cast h1) (by exact_mod_cast h2)]

/-- `x` overestimates `A/F` by a relative error below `δ`. When `A·δ ≤ 1` the absolute error stays below `1/F`, which is
    what `A/F` lacks to the next integer at the least: truncating `x` gives `⌊A/F⌋`. -/
theorem trunc_stable (A F : Nat) (x δ : ℚ) (hF : 0 < F) (hδ : (A : ℚ) * δ ≤ 1)
    (h1 : (A : ℚ) / F ≤ x) (h2 : x < (A : ℚ) / F * (1 + δ)) :
    ((A / F : ℕ) : ℚ) ≤ x ∧ x < ((A / F : ℕ) : ℚ) + 1 := by
  have hFQ : (0 : ℚ) < F := by exact_mod_cast hF
  refine ⟨(natDiv_le A hF).trans h1, h2.trans_le ?_⟩
  -- `A/F·(1+δ) ≤ (A+1)/F ≤ ⌊A/F⌋ + 1`
  rw [div_mul_eq_mul_div, div_le_iff₀ hFQ, mul_add, mul_one]
  have : (A : ℚ) + 1 ≤ (((A / F : ℕ) : ℚ) + 1) * F := by
    rw [mul_comm]; exact_mod_cast Nat.succ_le_of_lt (Nat.lt_mul_div_succ A hF)
  linarith

/-- The `δ` of `trunc_stable` left by two roundings of relative error `1/(2P)` each satisfies `A·δ ≤ 1` for every
    numerator `A` below `P`. At 512 bits `1/(2P) = 2^(1-prec)` makes `P = 2^510`. -/
theorem two_roundings_le_one {A P : ℚ} (hA0 : 0 ≤ A) (hA : A ≤ P - 1) :
    A * ((1 + 1 / (2 * P)) * (1 + 1 / (2 * P)) - 1) ≤ 1 := by
  have hP : 0 < P := by linarith
  have e : (1 + 1 / (2 * P)) * (1 + 1 / (2 * P)) - 1 = (4 * P + 1) / (4 * P ^ 2) := by
    field_simp; ring
  have h1 : A * (4 * P + 1) ≤ (P - 1) * (4 * P + 1) := mul_le_mul_of_nonneg_right hA (by linarith)
  have h2 : (P - 1) * (4 * P + 1) = 4 * P ^ 2 - 3 * P - 1 := by ring
  rw [e, ← mul_div_assoc, div_le_one (by positivity)]
  linarith

theorem toInt_two_roundings (neg : Bool) (m : Nat) (e : Int) (A F : Nat) (hF : 0 < F)
    (hA : A < 2 ^ 510)
    (h : (A : ℚ) / F ≤ mag m e ∧
      mag m e < (A : ℚ) / F * ((1 + 1 / 2 ^ (prec - 1)) * (1 + 1 / 2 ^ (prec - 1)))) :
    toInt (.fin neg m e) = if neg then -((A / F : ℕ) : Int) else ((A / F : ℕ) : Int) := by
  have hPE : (2 : ℚ) ^ (prec - 1) = 2 * 2 ^ 510 := by
    show (2 : ℚ) ^ 511 = 2 * 2 ^ 510
    rw [pow_succ, mul_comm]
  have hAQ : (A : ℚ) ≤ 2 ^ 510 - 1 := by
    rw [le_sub_iff_add_le]; exact_mod_cast Nat.succ_le_of_lt hA
  rw [hPE] at h
  obtain ⟨t1, t2⟩ := trunc_stable A F (mag m e) _ hF (two_roundings_le_one (Nat.cast_nonneg A) hAQ) h.1
    (by rw [add_sub_cancel]; exact h.2)
  exact toInt_fin_of_bounds neg m e _ t1 t2

/-- `M·10^d / 10^f` in lowest powers of ten (truncated subtraction: one of the two exponents is 0). -/
theorem scale_reduce (M d f : Nat) :
    (M * 10 ^ d) / 10 ^ f = (M * 10 ^ (d - f)) / 10 ^ (f - d) ∧
    (M : ℚ) * 10 ^ d / 10 ^ f = ((M * 10 ^ (d - f) : ℕ) : ℚ) / ((10 ^ (f - d) : ℕ) : ℚ) := by
  rcases Nat.le_total d f with h | h
  · obtain ⟨k, rfl⟩ := Nat.exists_eq_add_of_le h
    rw [Nat.sub_eq_zero_of_le h, Nat.add_sub_cancel_left, pow_zero, Nat.mul_one, Nat.pow_add,
      pow_add, Nat.mul_comm (10 ^ d), mul_comm ((10 : ℚ) ^ d)]
    exact ⟨Nat.mul_div_mul_right _ _ (by positivity), by
      push_cast; rw [mul_div_mul_right _ _ (by positivity)]⟩
  · obtain ⟨k, rfl⟩ := Nat.exists_eq_add_of_le h
    rw [Nat.sub_eq_zero_of_le h, Nat.add_sub_cancel_left, pow_zero, Nat.div_one, Nat.pow_add,
      pow_add, ← Nat.mul_assoc, ← mul_assoc]
    refine ⟨?_, ?_⟩
    · rw [Nat.mul_right_comm, Nat.mul_div_cancel _ (by positivity)]
    · push_cast
      rw [mul_right_comm, mul_div_cancel_right₀ _ (by positivity), div_one]

/-- Invariant of the square-and-multiply loop of `Float.pow5`. Read `P a x` as "`x` stands for `5^a`":
    if products add indices, then from `z` for `5^u` and `f` for `5^w` the loop returns something that
    stands for `5^(u + n·w)`. `n` halves every round, so fuel `n` is enough. -/
theorem pow5Loop_invariant (P : Nat → BF → Prop)
    (hmul : ∀ {p a b x y}, prec + 64 ≤ p → P a x → P b y → P (a + b) (mul .nearestEven p x y))
    {fuel n : Nat} (hfuel : n ≤ fuel) {u w : Nat} {z f : BF} (hz : P u z) (hf : P w f) :
    P (u + n * w) (pow5Loop fuel n z f) := by
  induction fuel generalizing n u w z f with
  | zero =>
    obtain rfl : n = 0 := Nat.le_zero.mp hfuel
    rwa [pow5Loop, Nat.zero_mul]
  | succ k ih =>
    rw [pow5Loop]
    by_cases hn : n = 0
    · subst hn; rwa [if_pos rfl, Nat.zero_mul]
    · rw [if_neg hn]
      have hsplit : u + n * w = u + n % 2 * w + n / 2 * (w + w) := by
        conv_lhs => rw [← Nat.div_add_mod n 2]
        ring
      rw [hsplit]
      refine ih (by omega) ?_ (hmul (by omega) hf hf)
      rcases Nat.mod_two_eq_zero_or_one n with h | h
      · rwa [h, if_neg (by omega), Nat.zero_mul]
      · rw [h, if_pos rfl, Nat.one_mul]; exact hmul (Nat.le_refl _) hz hf

/-- `pow5 n` is `5^n` as long as that fits the 576 bits of the helper float `z`: the table for `n ≤ 27`;
    beyond it no product on the way is rounded. Every product that goes into the result is a power
    `5^c` with `c ≤ n`, so it fits `z` (and `f`, which has more bits); of a square that no longer fits
    nothing is claimed, and it is never multiplied in. -/
theorem pow5_eq_of_lt (n : Nat) (h : 5 ^ n < 2 ^ (prec + 64)) : pow5 n = .fin false (5 ^ n) 0 := by
  rw [pow5]
  split
  · rfl
  · have key := pow5Loop_invariant (fun a x => 5 ^ a < 2 ^ (prec + 64) → x = .fin false (5 ^ a) 0)
      (fun {p a b x y} hp hx hy hab => by
        have hle : ∀ c ≤ a + b, 5 ^ c < 2 ^ (prec + 64) := fun c hc =>
          lt_of_le_of_lt (Nat.pow_le_pow_right (by norm_num) hc) hab
        have hfit : bitLen (5 ^ a * 5 ^ b) ≤ prec + 64 := bitLen_le_of_lt (Nat.pow_add .. ▸ hab)
        rw [hx (hle a (by omega)), hy (hle b (by omega)), Nat.pow_add]
        exact mul_exact _ p _ _ _ _ _ _ (by positivity) (by positivity) (hfit.trans hp) (by omega)
          (by unfold prec at hfit; omega))
      (Nat.sub_le n 27) (u := 27) (w := 1) (z := .fin false (5 ^ 27) 0) (f := .fin false 5 0)
      (fun _ => rfl) (fun _ => rfl)
    rw [show 27 + (n - 27) * 1 = n by omega] at key
    exact key h

/-- `5^248 < 2^576 < 5^249`. -/
theorem pow5_exact : ∀ n < 249, pow5 n = BF.fin false (5 ^ n) 0 := fun n hn =>
  pow5_eq_of_lt n (lt_of_le_of_lt (Nat.pow_le_pow_right (by norm_num) (Nat.le_of_lt_succ hn))
    (by decide +kernel : 5 ^ 248 < 2 ^ (prec + 64)))

/-- What `Float.scan` builds for a non-zero decimal mantissa `M` and decimal exponent `x`
    (the value `M·10^x`; the binary part `2^x` of `10^x` goes into the exponent exactly, the
    factor `5^|x|` costs one rounded division or multiplication; for `x = 0` Go rounds `M` directly,
    which is the multiplication by `5^0`). -/
def decFloat (neg : Bool) (M : Nat) (x : Int) : BF :=
  if x < 0 then quo .away prec (.fin neg M x) (pow5 (-x).toNat)
  else mul .away prec (.fin neg M x) (pow5 x.toNat)

/-- `510` and `248` are the bounds its caller `decFloat_scaled` has. `±2000` is a round number beyond the about 1500
    bits that `M`, `5^248` and the `prec + 2` extra quotient bits add up to; all that is needed of it is that the second
    multiplication stays far inside `minExp`/`maxExp`. -/
theorem decFloat_away (neg : Bool) (M : Nat) (x : Int) (hM : 0 < M) (hMb : bitLen M ≤ 510)
    (hx1 : -248 ≤ x) (hx2 : x ≤ 248) :
    ∃ m e, decFloat neg M x = .fin neg m e ∧ 0 < m ∧ awayOf prec ((M : ℚ) * 10 ^ x) (mag m e) ∧
      -2000 ≤ e ∧ (bitLen m : Int) + e ≤ 2000 := by
  have hprec : prec = 512 := rfl
  have hp1 : 1 ≤ prec := by omega
  have h10 : (10 : ℚ) = 2 * 5 := by norm_num
  unfold decFloat
  rcases lt_or_ge x 0 with hx | hx
  · obtain ⟨g, rfl⟩ : ∃ g : ℕ, x = -(g : Int) := ⟨(-x).toNat, by omega⟩
    have h5 : bitLen (5 ^ g) ≤ 3 * g + 1 := bitLen_pow_le 5 3 g (by norm_num)
    rw [if_pos hx, neg_neg, Int.toNat_natCast, pow5_exact g (by omega)]
    obtain ⟨m, e, h, hpos, ha, b1, b2⟩ := quo_away_spec prec neg false M (5 ^ g) (-(g : Int)) 0 hp1 hM
      (by positivity) (by omega) (by omega)
    rw [Bool.bne_false] at h
    refine ⟨m, e, h, hpos, ?_, by omega, by omega⟩
    convert ha using 1
    unfold mag
    rw [zpow_neg, zpow_neg, zpow_natCast, zpow_natCast, h10, mul_pow]
    push_cast
    field_simp
  · obtain ⟨k, rfl⟩ : ∃ k : ℕ, x = (k : Int) := ⟨x.toNat, by omega⟩
    have h5 : bitLen (5 ^ k) ≤ 3 * k + 1 := bitLen_pow_le 5 3 k (by norm_num)
    rw [if_neg hx.not_gt, Int.toNat_natCast, pow5_exact k (by omega)]
    obtain ⟨m, e, h, hpos, ha, b1, b2⟩ := mul_away_spec prec neg false M (5 ^ k) k 0 hp1 hM
      (by positivity) (by omega) (by omega)
    rw [Bool.bne_false] at h
    refine ⟨m, e, h, hpos, ?_, by omega, by omega⟩
    convert ha using 1
    unfold mag
    rw [zpow_natCast, zpow_natCast, h10, mul_pow]
    push_cast
    ring

/-- Core arithmetic fact behind C18: parse (`M·10^x`, one rounded multiplication or division by
    `5^|x|`), multiply by `10^d` (rounded again), truncate. -/
theorem decFloat_scaled (neg : Bool) (M : Nat) (x : Int) (d : Nat) (hM : 0 < M)
    (hx1 : -248 ≤ x) (hx2 : x ≤ 248)
    (hbound : M * 10 ^ (d + x.toNat - (-x).toNat) < 2 ^ 510) :
    ∃ m e, mul .away prec (decFloat neg M x) (baseFloat (d : Int)) = .fin neg m e ∧
      toInt (.fin neg m e) =
        if neg then -((M * 10 ^ (d + x.toNat) / 10 ^ (-x).toNat : ℕ) : Int)
        else ((M * 10 ^ (d + x.toNat) / 10 ^ (-x).toNat : ℕ) : Int) := by
  have hp1 : 1 ≤ prec := by norm_num [prec]
  have hMbits : bitLen M ≤ 510 :=
    bitLen_le_of_lt (lt_of_le_of_lt (Nat.le_mul_of_pos_right _ (by positivity)) hbound)
  -- `hbound` caps `d` (below `510 + 248`); all that is needed of the cap is that the product with `10^d` stays inside
  -- `minExp`/`maxExp`
  have hd : d < 800 := by
    have h1 : 2 ^ (d + x.toNat - (-x).toNat) < 2 ^ 510 :=
      lt_of_le_of_lt (Nat.pow_le_pow_left (by norm_num) _)
        (lt_of_le_of_lt (Nat.le_mul_of_pos_left _ hM) hbound)
    have := (Nat.pow_lt_pow_iff_right (by norm_num : 1 < 2)).mp h1
    omega
  have hbbits : bitLen (10 ^ d) ≤ 4 * d + 1 := bitLen_pow_le 10 4 d (by norm_num)
  obtain ⟨mz, ez, hz, hmz, az, z1, z2⟩ := decFloat_away neg M x hM hMbits hx1 hx2
  obtain ⟨mw, ew, hw, -, aw, -, -⟩ := mul_away_spec prec neg false mz (10 ^ d) ez 0 hp1 hmz
    (by positivity) (by omega) (by omega)
  rw [Bool.bne_false] at hw
  have hbase : baseFloat (d : Int) = .fin false (10 ^ d) 0 := by
    unfold baseFloat; rw [Int.toNat_natCast]
  rw [hz, hbase]
  refine ⟨mw, ew, hw, ?_⟩
  obtain ⟨r1, r2⟩ := scale_reduce M (d + x.toNat) (-x).toNat
  have hb : mag (10 ^ d) 0 = 10 ^ d := by unfold mag; simp
  have hval : (M : ℚ) * 10 ^ x * mag (10 ^ d) 0 =
      ((M * 10 ^ (d + x.toNat - (-x).toNat) : ℕ) : ℚ) / ((10 ^ ((-x).toNat - (d + x.toNat)) : ℕ) : ℚ) := by
    rw [← r2, hb, zpow_split (by norm_num : (10 : ℚ) ≠ 0) x, pow_add]; ring
  have h := az.comp (by rw [hb]; positivity) aw
  rw [hval] at h
  rw [r1]
  exact toInt_two_roundings neg mw ew _ _ (by positivity) hbound h

end Rangers.Decimal
