import Rangers.Proofs.ChainStoreInv
import Rangers.Proofs.ChainStoreSteps
/-!
`Out P R s`: the node is alive with `P`, or died on a disk satisfying `R`. The invariant `Inv` of a live node over
a tree of valid blocks, and what the two marked steps `remove` and `insertBlock` do to it with a process death
possible in front of every write. A marked step is straight-line code, so while the node lives its state is a known
term: `InStep` follows the model text write by write, keeping the exact disk and memory and, for a death, only that
the disk is `Pending` (which every write of the step preserves); what the end of the step needs is read off the
explicit disk.
-/
namespace Rangers.Proofs.ChainStore
open Rangers.Model.ChainStore

def Out (P : Disk → Mem → Prop) (R : Disk → Prop) (s : St) : Prop :=
  (s.crashed = false ∧ P s.disk s.mem) ∨ (s.crashed = true ∧ R s.disk)

theorem Out.alive {P R} {s : St} (h : s.crashed = false) (hp : P s.disk s.mem) : Out P R s := Or.inl ⟨h, hp⟩
theorem Out.dead {P R} {s : St} (h : s.crashed = true) (hr : R s.disk) : Out P R s := Or.inr ⟨h, hr⟩

theorem Out.of_alive {P : Disk → Mem → Prop} {R : Disk → Prop} {s : St} (h : Out P R s) (ha : s.crashed = false) :
    P s.disk s.mem := by
  rcases h with ⟨_, p⟩ | ⟨d, _⟩
  · exact p
  · rw [ha] at d; cases d

theorem Out.of_safe {P : Disk → Mem → Prop} {R : Disk → Prop} {s t : St} (h : Out P R t) (hr : Reach s t) (hs : Safe s) :
    P t.disk t.mem :=
  h.of_alive (hr.safe hs).1

theorem Out.mono {P Q : Disk → Mem → Prop} {R R' : Disk → Prop} {s : St} (h : Out P R s)
    (hq : ∀ d m, P d m → Q d m) (hr : ∀ d, R d → R' d) : Out Q R' s := by
  rcases h with ⟨a, p⟩ | ⟨a, r⟩
  · exact Or.inl ⟨a, hq _ _ p⟩
  · exact Or.inr ⟨a, hr _ r⟩

theorem Out.weaken {P Q : Disk → Mem → Prop} {R : Disk → Prop} {s : St} (h : Out P R s) (hq : ∀ d m, P d m → Q d m) :
    Out Q R s := h.mono hq fun _ r => r

theorem Out.write {P Q : Disk → Mem → Prop} {R : Disk → Prop} {s : St} (h : Out P R s) (w : Write)
    (hq : ∀ d m, P d m → Q (d.apply w) m) (hr : ∀ d m, P d m → R d) : Out Q R (s.write w) := by
  rcases h with ⟨a, p⟩ | ⟨a, r⟩
  · rcases write_alive s w a with ⟨a', e⟩ | ⟨a', e⟩
    · exact Or.inl ⟨a', by rw [e, write_mem]; exact hq _ _ p⟩
    · exact Or.inr ⟨a', by rw [e]; exact hr _ _ p⟩
  · rw [write_dead s w a]; exact Or.inr ⟨a, r⟩

theorem Out.setMem {P Q : Disk → Mem → Prop} {R : Disk → Prop} {s : St} (h : Out P R s) (m' : Mem)
    (hq : P s.disk s.mem → Q s.disk m') : Out Q R (s.setMem m') := by
  rcases h with ⟨a, p⟩ | ⟨a, r⟩
  · exact Or.inl ⟨a, hq p⟩
  · exact Or.inr ⟨a, r⟩

theorem Out.writes {P : Disk → Mem → Prop} {R : Disk → Prop} (ws : List Write) :
    ∀ {s : St}, Out P R s → (∀ w ∈ ws, ∀ d m, P d m → P (d.apply w) m) → (∀ d m, P d m → R d) →
    Out P R (s.writes ws) := by
  induction ws with
  | nil => intro s h _ _; exact h
  | cons w ws ih =>
    intro s h hs hr
    exact ih (h.write w (hs w (List.mem_cons_self ..)) hr) (fun w' hw' => hs w' (List.mem_cons_of_mem _ hw')) hr

theorem Out.of_exact {d : Disk} {m : Mem} {P : Disk → Mem → Prop} {R : Disk → Prop} {s : St}
    (h : Out (fun d' m' => d' = d ∧ m' = m) R s) (hp : P d m) : Out P R s :=
  h.weaken fun _ _ e => e.1 ▸ e.2 ▸ hp

theorem Out.exact_write {d : Disk} {m : Mem} {R : Disk → Prop} {s : St} (h : Out (fun d' m' => d' = d ∧ m' = m) R s)
    (w : Write) (hr : R d) : Out (fun d' m' => d' = d.apply w ∧ m' = m) R (s.write w) :=
  h.write w (fun _ _ e => ⟨e.1 ▸ rfl, e.2⟩) (fun _ _ e => e.1 ▸ hr)

theorem Out.bind {P Q : Disk → Mem → Prop} {R R' : Disk → Prop} {s s' : St} (h : Out P R s) (hf : Reach s s')
    (ha : s.crashed = false → P s.disk s.mem → Out Q R' s') (hr : ∀ d, R d → R' d) : Out Q R' s' := by
  rcases h with ⟨a, p⟩ | ⟨a, r⟩
  · exact ha a p
  · have := hf.frozen a
    exact Out.dead this.1 (by rw [this.2]; exact hr _ r)

/-- `IsAnc T a b`: `a` is a proper ancestor of `b` in the tree -/
inductive IsAnc (T : Nat → Option Block) : Block → Block → Prop where
  | parent {a b : Block} : T b.hash = some b → T b.pre = some a → IsAnc T a b
  | step {a p b : Block} : IsAnc T a p → T b.hash = some b → T b.pre = some p → IsAnc T a b

/-- The delivered block tree: `T h` is the block with hash `h`. The conditions are what consensus (and Proposal008)
    enforce on a valid block; `core` itself checks none of them. -/
structure ValidTree (T : Nat → Option Block) : Prop where
  parent : ∀ b q, T b.hash = some b → T b.pre = some q → q.height < b.height ∧ q.totalQN ≤ b.totalQN
  txfresh : ∀ a b, IsAnc T a b → ∀ t ∈ b.txs, t ∉ a.txs

theorem anc_of_chain {T : Nat → Option Block} : ∀ (rest : List Block) (y : Block), Linked (y :: rest) →
    (∀ z ∈ y :: rest, T z.hash = some z) → ∀ x ∈ rest, IsAnc T x y := by
  intro rest
  induction rest with
  | nil => intro y _ _ x hx; cases hx
  | cons z r ih =>
    intro y hl hT x hx
    have hTy := hT y (List.mem_cons_self ..)
    have hTz := hT z (List.mem_cons_of_mem _ (List.mem_cons_self ..))
    have hpar : T y.pre = some z := by rw [hl.1]; exact hTz
    rcases List.mem_cons.mp hx with e | e
    · subst e; exact IsAnc.parent hTy hpar
    · exact IsAnc.step (ih z hl.2.2 (fun w hw => hT w (List.mem_cons_of_mem _ hw)) x e) hTy hpar

theorem fresh_on_chain {T : Nat → Option Block} (vt : ValidTree T) {c : List Block} {y b : Block} (hl : Linked c)
    (hT : ∀ z ∈ c, T z.hash = some z) (hy : c.head? = some y) (hp : b.pre = y.hash) (hb : T b.hash = some b) :
    ∀ z ∈ c, ∀ t ∈ b.txs, t ∉ z.txs := by
  obtain ⟨rest, rfl⟩ := List.head?_eq_some_iff.mp hy
  have hpar : T b.pre = some y := by rw [hp]; exact hT y (List.mem_cons_self ..)
  intro z hz
  rcases List.mem_cons.mp hz with e | e
  · subst e; exact vt.txfresh _ b (IsAnc.parent hb hpar)
  · exact vt.txfresh z b (IsAnc.step (anc_of_chain rest y hl hT z e) hb hpar)

/-- a header in the topBlocks cache is the one the height index holds at that height; the cache may hold any part of
    the index (LRU eviction) -/
def CacheOK (d : Disk) (m : Mem) : Prop := ∀ n z, m.top n = some z → d.heights n = some z
/-- an orphan parked in futureBlocks sits under the hash of the parent it waits for and is a block of the tree -/
def FutOK (T : Nat → Option Block) (m : Mem) : Prop := ∀ k f, m.future k = some f → f.pre = k ∧ T f.hash = some f

/-- The invariant of a live node between two operations: the disk holds exactly the chain `c` (`ChainInv`),
    `latestBlock` is its head, both caches agree with the disk and the tree, and `c` consists of blocks of the delivered
    tree `T`. The verified cache and the pending container are unconstrained. -/
structure Inv (T : Nat → Option Block) (d : Disk) (m : Mem) (c : List Block) : Prop where
  chain : ChainInv d c
  latest : c.head? = some m.latest
  cache : CacheOK d m
  fut : FutOK T m
  fromT : ∀ z ∈ c, T z.hash = some z

theorem Inv.latest_mem {T : Nat → Option Block} {d : Disk} {m : Mem} {c : List Block} (inv : Inv T d m c) :
    m.latest ∈ c := List.mem_of_mem_head? inv.latest

theorem head_of_latest {T : Nat → Option Block} {d : Disk} {m : Mem} {c : List Block} (inv : Inv T d m c) :
    ∃ rest, c = m.latest :: rest := List.head?_eq_some_iff.mp inv.latest

theorem Inv.child {T : Nat → Option Block} (vt : ValidTree T) {d : Disk} {m : Mem} {c : List Block} (inv : Inv T d m c)
    {b : Block} (hT : T b.hash = some b) (hpre : b.pre = m.latest.hash) :
    m.latest.height < b.height ∧ ∀ z ∈ c, ∀ t ∈ b.txs, t ∉ z.txs :=
  ⟨(vt.parent b m.latest hT (by rw [hpre]; exact inv.fromT _ inv.latest_mem)).1,
    fresh_on_chain vt inv.chain.linked inv.fromT inv.latest hpre hT⟩

theorem Inv.le_latest {T : Nat → Option Block} {d : Disk} {m : Mem} {c : List Block} (inv : Inv T d m c) {y : Block}
    (hy : y ∈ c) : y.height ≤ m.latest.height := by
  obtain ⟨rest, rfl⟩ := head_of_latest inv
  exact inv.chain.linked.le_head y hy

theorem lookupHeight_eq {T : Nat → Option Block} {s : St} {c : List Block} (inv : Inv T s.disk s.mem c) (h : Nat) :
    s.lookupHeight h = s.disk.heights h := by
  unfold St.lookupHeight
  cases hx : s.mem.top h with
  | none => rfl
  | some x => exact (inv.cache h x hx).symm

theorem Inv.park {T : Nat → Option Block} {d : Disk} {m : Mem} {c : List Block} (inv : Inv T d m c) {b : Block}
    (hT : T b.hash = some b) : Inv T d { m with future := upd m.future b.pre (some b) } c := by
  refine ⟨inv.chain, inv.latest, inv.cache, ?_, inv.fromT⟩
  intro k f hk
  rcases upd_eq_some hk with ⟨e, hv⟩ | ⟨_, hm⟩
  · cases hv; exact ⟨e.symm, hT⟩
  · exact inv.fut k f hm

theorem verify_spec {T : Nat → Option Block} {s : St} {b : Block} {c : List Block} (inv : Inv T s.disk s.mem c)
    (hT : T b.hash = some b) : Inv T (verify s b).1.disk (verify s b).1.mem c := by
  obtain ⟨v, f, e, hf, _⟩ := verify_fst s b
  rw [e]
  rcases hf with rfl | rfl
  · exact ⟨inv.chain, inv.latest, inv.cache, inv.fut, inv.fromT⟩
  · exact ⟨inv.chain, inv.latest, inv.cache, (inv.park hT).fut, inv.fromT⟩

theorem addPending_sub (ex : Map Nat) : ∀ (txs pending : List Nat), ∀ t ∈ pending, t ∈ addPending pending ex txs := by
  intro txs
  induction txs with
  | nil => intro p t h; exact h
  | cons a as ih =>
    intro p t h
    unfold addPending
    split
    · exact ih p t h
    · exact ih (p ++ [a]) t (List.mem_append_left _ h)

theorem addPending_mem (ex : Map Nat) : ∀ (txs pending : List Nat), (∀ t ∈ txs, ex t = none) →
    ∀ t ∈ txs, t ∈ addPending pending ex txs := by
  intro txs
  induction txs with
  | nil => intro p _ t h; cases h
  | cons a as ih =>
    intro p hex t h
    have hexa : ex a = none := hex a (List.mem_cons_self ..)
    have hex' : ∀ t ∈ as, ex t = none := fun t ht => hex t (List.mem_cons_of_mem _ ht)
    unfold addPending
    rcases List.mem_cons.mp h with e | e
    · subst e
      split
      · rename_i hc
        rcases hc with hc | hc
        · exact addPending_sub ex as p t hc
        · simp [hexa] at hc
      · exact addPending_sub ex as _ t (List.mem_append_right _ (List.mem_singleton.mpr rfl))
    · split
      · exact ih p hex' t e
      · exact ih _ hex' t e

/-- Inside the marked step for `x` on chain `c`: the node is alive in exactly the state `(d, m)` and `d` is `Pending`,
    or it died on a disk `R` holds of; `R` holds of every `Pending` disk. -/
structure InStep (c : List Block) (x : Block) (R : Disk → Prop) (d : Disk) (m : Mem) (s : St) : Prop where
  run : Out (fun d' m' => d' = d ∧ m' = m) R s
  pend : Pending d c x
  cover : ∀ d', Pending d' c x → R d'

namespace InStep
variable {c : List Block} {x : Block} {R : Disk → Prop} {d : Disk} {m : Mem} {s : St}

theorem write (h : InStep c x R d m s) {w : Write} (hw : About c x w) : InStep c x R (d.apply w) m (s.write w) :=
  ⟨h.run.exact_write w (h.cover d h.pend), h.pend.write hw, h.cover⟩

/-- the new memory may be computed from the state the node is in, as the model does -/
theorem setMem (h : InStep c x R d m s) (f : Disk → Mem → Mem) : InStep c x R d (f d m) (s.setMem (f s.disk s.mem)) :=
  ⟨h.run.setMem _ fun e => ⟨e.1, by rw [e.1, e.2]⟩, h.pend, h.cover⟩

theorem writes (h : InStep c x R d m s) (ws : List Write) (hws : ∀ w ∈ ws, About c x w) :
    InStep c x R (ws.foldl Disk.apply d) m (s.writes ws) := by
  induction ws generalizing d s with
  | nil => exact h
  | cons w ws ih =>
    exact ih (h.write (hws w (List.mem_cons_self ..))) fun w' hw' => hws w' (List.mem_cons_of_mem _ hw')

theorem finish (h : InStep c x R d m s) (w : Write) : Out (fun d' m' => d' = d.apply w ∧ m' = m) R (s.write w) :=
  h.run.exact_write w (h.cover d h.pend)

/-- a batch without transactions leaves the disk as it is, so on the disk `MarkExecuted` always writes -/
theorem markTxs (h : InStep c x R d m s) : InStep c x R (d.apply (.putExecuted x.txs x.hash)) m (markTxs s x) := by
  unfold Model.ChainStore.markTxs
  refine ite_cases (M := fun t => InStep c x R _ m t) (fun he => ?_) (fun _ => h.write .putExecuted)
  have e : d.apply (.putExecuted x.txs x.hash) = d := by
    rw [List.isEmpty_iff.mp he]; rfl
  rw [e]; exact h

theorem unmark (h : InStep c x R d m s) :
    InStep c x R { d with executed := fun t => if t ∈ x.txs then none else d.executed t }
      { m with pending := addPending m.pending (fun t => if t ∈ x.txs then none else d.executed t) x.txs }
      (unmark s x) := by
  have := (h.writes (x.txs.map .delExecuted) fun w hw => by
    obtain ⟨t, ht, rfl⟩ := List.mem_map.mp hw
    exact .delExecuted t ht).setMem fun d m => { m with pending := addPending m.pending d.executed x.txs }
  rw [foldl_delExecuted] at this
  rw [unmark_eq]
  exact this

end InStep

/-- what the first `n` writes of `remove x` have made of the disk (`d0` = disk before, `am` = the add mark, which
    `remove` never touches); `Removed` holds it for `n = 4`, the disk in front of the erase of the mark -/
structure RemStage (d0 : Disk) (am : Option Block) (c : List Block) (x : Block) (n : Nat) (d : Disk) : Prop where
  pend : Pending d c x
  addEq : d.addMark = am
  remEq : d.removeMark = some x
  keep : ∀ k z, k ≠ x.height → d0.heights k = some z → d.heights k = some z
  b : 1 ≤ n → d.blocks x.hash = none
  h : 2 ≤ n → d.heights x.height = none
  v : 3 ≤ n → d.verify x.height = false
  cur : 4 ≤ n → d.current = c.head?

theorem RemStage.parent {d0 d : Disk} {am : Option Block} {c : List Block} {x : Block} {n : Nat} (p : RemStage d0 am c x n d) :
    ∃ y, c.head? = some y ∧ d.blocks x.pre = some y :=
  p.pend.parent

/-- The state a live node is in at the end of `remove x` (started in `s` with add mark `am`), in front of the erase of
    the mark: the disk `d4` holds chain `c` and nothing of `x`; the memory `m` has the head on the parent of `x` and the
    transactions of `x` pending again. -/
structure Removed (s : St) (am : Option Block) (c : List Block) (x : Block) (d4 : Disk) (m : Mem) : Prop where
  stage : RemStage s.disk am c x 4 d4
  unmarked : ∀ t ∈ x.txs, d4.executed t = none
  head : c.head? = some m.latest
  top : m.top = upd s.mem.top x.height none
  future : m.future = s.mem.future
  pending : ∀ t ∈ s.mem.pending, t ∈ m.pending
  readded : ∀ t ∈ x.txs, t ∈ m.pending

namespace Removed
variable {s : St} {c : List Block} {x : Block} {d4 : Disk} {m : Mem}

theorem finish (r : Removed s none c x d4 m) : ChainInv (d4.apply .delRemoveMark) c := by
  have := r.stage.pend.finish_removed (r.stage.b (by decide)) (r.stage.h (by decide)) (r.stage.v (by decide))
    (r.stage.cur (by decide)) r.unmarked
  show ChainInv { d4 with addMark := d4.addMark, removeMark := none } c
  rw [r.stage.addEq]; exact this

/-- the add mark is still set when start-up repair removes a half-added block -/
theorem mid (r : Removed s (some x) c x d4 m) : Pending (d4.apply .delRemoveMark) c x :=
  { r.stage.pend with removeMark := Or.inl rfl, marked := Or.inl r.stage.addEq }

theorem finish_add (r : Removed s (some x) c x d4 m) : ChainInv ((d4.apply .delRemoveMark).apply .delAddMark) c :=
  r.stage.pend.finish_removed (r.stage.b (by decide)) (r.stage.h (by decide)) (r.stage.v (by decide))
    (r.stage.cur (by decide)) r.unmarked

end Removed

/-- the transactions of `x` after `remove x`: no executed record on disk, pending again in memory -/
def Unmarked (x : Block) (d : Disk) (m : Mem) : Prop := ∀ t ∈ x.txs, d.executed t = none ∧ t ∈ m.pending

/-- what a death inside `remove x` on the chain `x :: c` leaves: recoverable to `c`, or (in front of the first write)
    still the clean chain `x :: c` -/
def RemRec (c : List Block) (x : Block) (d : Disk) : Prop := RecTo d c ∨ ChainInv d (x :: c)

/-- `remove x` from any disk that is `Pending c x` once the remove mark is set: the clean chain `x :: c` (a reorg,
    `ChainInv.begin_remove`) or a `Pending c x` disk (start-up repair). -/
theorem remove_core {s : St} {x : Block} {c : List Block} {am : Option Block} {R : Disk → Prop}
    (ha : s.crashed = false) (start : Pending (s.disk.apply (.putRemoveMark x)) c x) (ham : s.disk.addMark = am)
    (hR0 : R s.disk) (hR : ∀ d, RecTo d c → R d) :
    ∃ d4 m, Out (fun d' m' => d' = d4.apply .delRemoveMark ∧ m' = m) R (remove s x).1 ∧ Removed s am c x d4 m := by
  have h1 : InStep c x R (s.disk.apply (.putRemoveMark x)) s.mem (s.write (.putRemoveMark x)) :=
    ⟨(Out.alive ha ⟨rfl, rfl⟩).exact_write _ hR0, start, fun d p => hR d (Or.inr ⟨x, p⟩)⟩
  have hA : InStep c x R _ _ (removeA s x) := (((h1.write .delBlock).write .delHeight).write .delVerify).setMem fun _ m =>
    { m with top := upd m.top x.height none, verified := m.verified.filter (fun h => h != x.hash) }
  obtain ⟨y, hy, hpre⟩ := hA.pend.parent
  have hB := ((hA.setMem fun _ m => { m with latest := y }).write (.putCurrentHead y hy)).unmark
  refine ⟨?d4, ?m, ?run, ?facts⟩
  case run =>
    unfold remove
    simp only
    rcases hA.run with ⟨_, hd, _⟩ | ⟨dead, r⟩
    · rw [show (removeA s x).disk.blocks x.pre = some y by rw [hd]; exact hpre]
      exact hB.finish .delRemoveMark
    · cases (removeA s x).disk.blocks x.pre with
      | none => exact Out.dead dead r
      | some p =>
        have fr := (Reach.refl.removeB x p).frozen dead
        exact Out.dead fr.1 (fr.2.symm ▸ r)
  case facts =>
    -- disk and memory of `hB` are explicit: everything of `x` is gone, the rest is as it was
    have hx : ∀ t ∈ x.txs, (if t ∈ x.txs then none else s.disk.executed t) = none := fun t ht => if_pos ht
    exact {
      stage := {
        pend := hB.pend
        addEq := ham
        remEq := rfl
        keep := fun k z hk hz => (upd_other _ _ hk).trans hz
        b := fun _ => upd_same ..
        h := fun _ => upd_same ..
        v := fun _ => updB_same ..
        cur := fun _ => hy.symm }
      unmarked := hx
      head := hy
      top := rfl
      future := rfl
      pending := fun t ht => addPending_sub _ _ _ t ht
      readded := fun t ht => addPending_mem _ _ _ hx t ht }

theorem remove_spec {T : Nat → Option Block} {s : St} {x : Block} {c : List Block} (ha : s.crashed = false)
    (inv : Inv T s.disk s.mem (x :: c)) (hc : c ≠ []) :
    Out (fun d m => Inv T d m c ∧ Unmarked x d m ∧ (∀ t ∈ s.mem.pending, t ∈ m.pending) ∧ m.future = s.mem.future)
        (RemRec c x) (remove s x).1 := by
  obtain ⟨d4, m, run, r⟩ := remove_core (R := RemRec c x) ha (inv.chain.begin_remove hc) inv.chain.noAdd
    (Or.inr inv.chain) (fun d r => Or.inl r)
  refine run.of_exact ⟨⟨r.finish, r.head, ?_, ?_, fun z hz => inv.fromT z (List.mem_cons_of_mem _ hz)⟩,
    fun t ht => ⟨r.unmarked t ht, r.readded t ht⟩, r.pending, r.future⟩
  · intro k z hk
    rw [r.top] at hk
    rcases upd_eq_some hk with ⟨_, hv⟩ | ⟨hne, hm⟩
    · cases hv
    · exact r.stage.keep k z hne (inv.cache k z hm)
  · intro k f hk
    rw [r.future] at hk
    exact inv.fut k f hk

theorem remove_mem (s : St) (x : Block) : ∃ l p, (remove s x).1.mem =
    { s.mem with latest := l, top := upd s.mem.top x.height none,
                 verified := s.mem.verified.filter (fun h => h != x.hash), pending := p } := by
  unfold remove
  simp only
  cases (removeA s x).disk.blocks x.pre with
  | none => exact ⟨s.mem.latest, s.mem.pending, by simp only [removeA, setMem_mem, writes_mem]⟩
  | some p =>
    -- the pending list is whatever `unmark` computes: left open and fixed by the final `rfl`
    refine ⟨p, ?_, ?_⟩
    rotate_left
    simp only [removeB, unmark_eq, write_mem, writes_mem, setMem_mem, removeA]
    rfl

theorem remove_verified (s : St) (x : Block) :
    (remove s x).1.mem.verified = s.mem.verified.filter (fun h => h != x.hash) := by
  obtain ⟨_, _, e⟩ := remove_mem s x
  rw [e]

/-- the transactions of `b` after `insertBlock b`: recorded as executed in `b` on disk, not pending in memory -/
def Marked (b : Block) (d : Disk) (m : Mem) : Prop := ∀ t ∈ b.txs, d.executed t = some b.hash ∧ t ∉ m.pending

theorem insertAB_spec {T : Nat → Option Block} {s : St} {b y : Block} {c : List Block} (ha : s.crashed = false)
    (inv : Inv T s.disk s.mem c) (hp : b.pre = y.hash) (hy : c.head? = some y) (hh : y.height < b.height)
    (hn : s.disk.blocks b.hash = none) (hT : T b.hash = some b) (hfresh : ∀ z ∈ c, ∀ t ∈ b.txs, t ∉ z.txs) :
    Out (fun d m => Inv T d m (b :: c) ∧ Marked b d m ∧ m.future = s.mem.future ∧ m.verified = s.mem.verified ∧
          (∀ t ∈ s.mem.pending, t ∉ b.txs → t ∈ m.pending))
        (fun d => RecTo d c) (insertB (insertA s b) b) := by
  have h1 : InStep c b (fun d => RecTo d c) (s.disk.apply (.putAddMark b)) s.mem (s.write (.putAddMark b)) :=
    ⟨(Out.alive ha ⟨rfl, rfl⟩).exact_write _ (Or.inl inv.chain), inv.chain.begin_add hy hp hh hn hfresh,
      fun _ p => Or.inr ⟨b, p⟩⟩
  have h7 := ((((((h1.write .putBlock).write .putHeight).write .commitState).write .putVerify).markTxs.setMem
    fun _ m => poolMem m b).write .putCurrentX).setMem fun _ m => { m with latest := b }
  refine (h7.finish .delAddMark).of_exact ?_
  -- the goal speaks of the explicit disk and memory: everything of `b` is there
  have ci := h7.pend.finish_added (upd_same ..) (upd_same ..) (updB_same ..) (updB_same ..) rfl (fun t ht => if_pos ht)
    inv.chain.noRemove
  refine ⟨⟨ci, rfl, fun k z hk => ?_, inv.fut, List.forall_mem_cons.mpr ⟨hT, inv.fromT⟩⟩, fun t ht => ⟨if_pos ht, ?_⟩, rfl, rfl,
    fun t ht hnb => ?_⟩
  · rcases upd_eq_some hk with ⟨he, hv⟩ | ⟨hne, hm⟩
    · cases hv; exact he ▸ upd_same ..
    · exact (upd_other _ _ hne).trans (inv.cache k z hm)
  · show t ∉ s.mem.pending.filter (fun t => !(b.txs.contains t))
    simp [List.mem_filter, ht]
  · show t ∈ s.mem.pending.filter (fun t => !(b.txs.contains t))
    simp [List.mem_filter, hnb]; exact ht

/-- the state `insertBlock` continues with after a hit in the verified cache -/
def touchVerified (s : St) (b : Block) : St := s.setMem { s.mem with verified := lruGet s.mem.verified b.hash }

theorem insertBlock_hit (cont : St → Block → St) (s : St) (b : Block) (hv : s.mem.verified.contains b.hash = true) :
    insertBlock cont s b =
      match (insertB (insertA (touchVerified s b) b) b).mem.future b.hash with
      | some f => (cont (insertB (insertA (touchVerified s b) b) b) f, .succ)
      | none => (insertB (insertA (touchVerified s b) b) b, .succ) := by
  unfold insertBlock
  simp only
  have hmem : (insertA s b).mem = s.mem := by simp [insertA]
  have hc : saveStatesCache (insertA s b).mem.verified b = some (lruGet s.mem.verified b.hash) := by
    rw [hmem]; unfold saveStatesCache; rw [if_pos hv]
  rw [hc]
  simp only
  have e : (insertA s b).setMem { (insertA s b).mem with verified := lruGet s.mem.verified b.hash } =
      insertA (touchVerified s b) b := by
    unfold insertA touchVerified
    rw [writes_mem, writes_setMem_comm]
  rw [e]
  rfl

theorem touchVerified_inv {T : Nat → Option Block} {s : St} {b : Block} {c : List Block} (inv : Inv T s.disk s.mem c) :
    Inv T (touchVerified s b).disk (touchVerified s b).mem c :=
  ⟨inv.chain, inv.latest, inv.cache, inv.fut, inv.fromT⟩

end Rangers.Proofs.ChainStore
