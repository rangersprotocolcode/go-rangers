import Rangers.Proofs.MinerLookup
import Rangers.Proofs.MinerAccepted
/-! C20: the codec hypotheses (`CodecId`, `RawOK`, `TxOK`); under them the `RecKeyed` invariant is preserved by every
    transaction and by the block end. -/
namespace Rangers.Miner

/-- Decoding an encoded record gives back its id (assumed of `encoding/json`). -/
def CodecId (cfg : Cfg) : Prop := ∀ i j, i.typ < 256 → cfg.dec (cfg.enc i) = some j → j.id = i.id ∧ j.typ = i.typ
/-- The raw slot values (8-byte stake, 1-byte status) are not records. -/
def RawOK (cfg : Cfg) : Prop := (∀ n, cfg.dec (u64be n) = none) ∧ (∀ b : UInt8, cfg.dec [b] = none)

/-- The account byte strings a transaction introduces are not themselves record encodings. -/
def TxOK (cfg : Cfg) : Tx → Prop
  | .apply src _ _ _ acct _ _ => cfg.dec src = none ∧ cfg.dec acct = none
  | .chacc _ _ na => cfg.dec na = none
  | _ => True

instance (cfg : Cfg) : DecidablePred (TxOK cfg)
  | .apply .. => inferInstanceAs (Decidable (_ ∧ _))
  | .chacc .. => inferInstanceAs (Decidable (_ = none))
  | .add .. | .refund .. | .bad .. => inferInstanceAs (Decidable True)

theorem recKeyed_of_live (cfg : Cfg) (st st' : State) (h : st'.live = st.live) (hr : RecKeyed cfg st) : RecKeyed cfg st' := by
  intro d k info; rw [h]; exact hr d k info

/-- `v` may stand under key `k` of registry `d`: if it decodes as a record, the record is `k`'s and of `d`'s type.
    `RecKeyed cfg st` asks this of every `(st.live d).get k`. -/
def Keyed (cfg : Cfg) (d : DbId) (k v : Bytes) : Prop :=
  ∀ info, v ≠ [] → cfg.dec v = some info → info.id = k ∧ k ≠ [] ∧ dbOfType info.typ = d

theorem Keyed.of_dec_none {cfg : Cfg} {d : DbId} {k v : Bytes} (h : cfg.dec v = none) : Keyed cfg d k v :=
  fun _ _ hd => nomatch h ▸ hd

theorem keyed_nil {cfg : Cfg} {d : DbId} {k : Bytes} : Keyed cfg d k [] := fun _ h => absurd rfl h

theorem recKeyed_write {cfg : Cfg} {st : State} {d : DbId} {k v : Bytes} (hr : RecKeyed cfg st) (hv : Keyed cfg d k v) :
    RecKeyed cfg (st.write d k v) := by
  intro d' q info hne hdec
  rw [write_get] at hne hdec
  by_cases hc : d' = d ∧ q = k
  · simp only [hc, and_self, if_true] at hne hdec
    rw [hc.2, hc.1]; exact hv info hne hdec
  · simp only [hc, if_false] at hne hdec
    exact hr d' q info hne hdec

theorem recKeyed_updateMiner_none (cfg : Cfg) (st : State) (m : Miner) (hraw : RawOK cfg) (hr : RecKeyed cfg st)
    (hacc : Keyed cfg (dbOfType m.typ) (slotAcct cfg m.id) m.account) : RecKeyed cfg (updateMiner cfg st m none) :=
  recKeyed_write (recKeyed_write (recKeyed_write hr (.of_dec_none (hraw.1 _))) hacc) (.of_dec_none (hraw.2 _))

theorem recKeyed_removeMiner (cfg : Cfg) (st : State) (id acc : Bytes) (t l : Nat) (hraw : RawOK cfg) (hr : RecKeyed cfg st) :
    RecKeyed cfg (removeMiner cfg st id acc t l) := by
  unfold removeMiner
  split
  · exact recKeyed_write (recKeyed_write (recKeyed_write (recKeyed_write hr keyed_nil) keyed_nil) keyed_nil) keyed_nil
  · exact recKeyed_write (recKeyed_write hr (.of_dec_none (hraw.1 _))) (.of_dec_none (hraw.2 _))

theorem isEmptySlice_nil : isEmptySlice [] = true := rfl

theorem recKeyed_addMinerApply (cfg : Cfg) (st : State) (p : Bytes) (info : Info) (s : Nat) (a : Bytes)
    (hc : CodecId cfg) (hraw : RawOK cfg) (hr : RecKeyed cfg st) (hid : info.id ≠ []) (ht : info.typ < 256) (ha : cfg.dec a = none) :
    RecKeyed cfg (addMinerApply cfg st p info s a) := by
  have hrec : Keyed cfg (dbOfType info.typ) info.id (cfg.enc info) := fun j _ h =>
    ⟨(hc info j ht h).1, hid, by rw [(hc info j ht h).2]⟩
  exact recKeyed_write (recKeyed_write (recKeyed_write (recKeyed_write (recKeyed_of_live cfg st _ rfl hr) hrec)
    (.of_dec_none (hraw.1 _))) (.of_dec_none ha)) (.of_dec_none (hraw.2 _))

theorem getMiner_some (cfg : Cfg) (st : State) (id : Bytes) (m : Miner) (hr : RecKeyed cfg st) (h : getMiner cfg st id = some m) :
    getMinerById cfg st (dbOfType m.typ) id = some m ∧ m.id = id ∧ id ≠ [] ∧
      m.account = (st.live (dbOfType m.typ)).get (slotAcct cfg id) ∧
      m.stake = u64 ((st.live (dbOfType m.typ)).get (slotStake cfg id)) := by
  have fields : ∀ d, getMinerById cfg st d id = some m →
      m.account = (st.live d).get (slotAcct cfg id) ∧ m.stake = u64 ((st.live d).get (slotStake cfg id)) := by
    intro d hd
    obtain ⟨_, info, _, rfl⟩ := (getMinerById_some cfg st d id m).mp hd
    exact ⟨rfl, rfl⟩
  unfold getMiner at h
  cases hp : getMinerById cfg st .prop id with
  | some m' =>
    rw [hp] at h
    cases h
    obtain ⟨hid, hne, hd⟩ := getMinerById_id hr hp
    rw [hd]; exact ⟨hp, hid, hne, fields _ hp⟩
  | none =>
    rw [hp] at h
    obtain ⟨hid, hne, hd⟩ := getMinerById_id hr h
    rw [hd]; exact ⟨h, hid, hne, fields _ h⟩

theorem getMiner_account_keyed (cfg : Cfg) (st : State) (id : Bytes) (m : Miner) (hr : RecKeyed cfg st) (h : getMiner cfg st id = some m) :
    Keyed cfg (dbOfType m.typ) (slotAcct cfg m.id) m.account := by
  obtain ⟨_, hid, _, hacc, _⟩ := getMiner_some cfg st id m hr h
  rw [hid, hacc]
  exact hr _ _

theorem Accepted.recKeyed {cfg : Cfg} {st st' : State} {tx : Tx} (h : Accepted cfg st tx st') (hc : CodecId cfg)
    (hraw : RawOK cfg) (hok : TxOK cfg tx) (hr : RecKeyed cfg st) : RecKeyed cfg st' := by
  cases h with
  | apply h0 _ hid =>
    refine recKeyed_addMinerApply cfg st _ _ _ _ hc hraw hr ?_ (Nat.lt_succ_of_le h0) ?_
    · intro h; cases h; exact absurd hid (by decide)
    · split
      · exact hok.1
      · exact hok.2
  | addZero => exact hr
  | @add _ _ _ m _ _ hm =>
    exact recKeyed_updateMiner_none cfg _ _ hraw (recKeyed_of_live cfg st _ rfl hr) (getMiner_account_keyed cfg st _ m hr hm)
  | @refund _ _ _ m hm =>
    apply recKeyed_of_live cfg (refundCore cfg st _ _ _ _) _ rfl
    unfold refundCore
    split
    · exact recKeyed_removeMiner _ _ _ _ _ _ hraw hr
    · exact recKeyed_updateMiner_none _ _ _ hraw hr (getMiner_account_keyed cfg st _ m hr hm)
  | chacc =>
    exact recKeyed_updateMiner_none _ _ _ hraw hr (.of_dec_none hok)

theorem recKeyed_runTx (cfg : Cfg) (st : State) (tx : Tx) (hc : CodecId cfg) (hraw : RawOK cfg) (hok : TxOK cfg tx)
    (hr : RecKeyed cfg st) : RecKeyed cfg (runTx cfg st tx).2 := by
  by_cases hres : (runTx cfg st tx).1 = "ok"
  · obtain ⟨st1, hfee, hacc⟩ := runTx_ok cfg st tx hres
    exact hacc.recKeyed hc hraw hok (recKeyed_of_live cfg st st1 (processFee_live st st1 _ hfee).1 hr)
  · exact recKeyed_of_live cfg st _ (runTx_fail_live cfg st tx hres) hr

theorem escrowAddAll_keeps (P : State → Prop) (st : State) (p : List (Nat × List (Bytes × Nat))) (h : P st)
    (hP : ∀ s q e, q ∈ p → e ∈ q.2 → P s → P (s.escAdd q.1 e.1 e.2)) : P (escrowAddAll st p) := by
  rw [escrowAddAll_eq_foldl]
  refine List.foldlRecOn (motive := P) _ _ h (fun s hs q hq => ?_)
  rw [escrowAddList_eq_foldl]
  exact List.foldlRecOn (motive := P) _ _ hs (fun t ht e he => hP t q e hq he ht)

theorem checkAndMove_keeps (P : State → Prop) (hE : ∀ s h a n, P s → P (s.setEsc h a n)) (hB : ∀ s a n, P s → P (s.setBal a n))
    (st : State) (h : Nat) (hst : P st) : P (checkAndMove st h) :=
  List.foldlRecOn (motive := P) _ _ hst (fun s hs _ _ => hE _ _ _ _ (hB s _ _ hs))

theorem endBlock_live (st : State) (n : Nat) : (endBlock st n).live = st.live := by
  show (checkAndMove (escrowAddAll st st.pending) (escrowAddAll st st.pending).height).live = st.live
  exact checkAndMove_keeps (fun s => s.live = st.live) (fun _ _ _ _ h => h) (fun _ _ _ h => h) _ _
    (escrowAddAll_keeps (fun s => s.live = st.live) st st.pending rfl (fun _ _ _ _ _ h => h))

theorem endBlock_flushed (st : State) (n : Nat) : Flushed (endBlock st n) := by
  unfold Flushed endBlock
  rfl

theorem recKeyed_endBlock (cfg : Cfg) (st : State) (n : Nat) (hr : RecKeyed cfg st) : RecKeyed cfg (endBlock st n) :=
  recKeyed_of_live cfg st _ (endBlock_live st n) hr

theorem pkAfter_eq (tx : Tx) (r : String × State) : (pkAfter tx r).1 = r.1 ∧ ∃ pk, (pkAfter tx r).2 = { r.2 with pk := pk } := by
  cases tx with
  | apply src id typ stake acct pk vrf =>
    simp only [pkAfter]
    by_cases h : r.1 = "ok"
    · rw [if_pos h]; exact ⟨rfl, _, rfl⟩
    · rw [if_neg h]; exact ⟨rfl, _, rfl⟩
  | _ => exact ⟨rfl, _, rfl⟩

theorem pkAfter_live (tx : Tx) (r : String × State) : (pkAfter tx r).2.live = r.2.live := by
  obtain ⟨pk, e⟩ := (pkAfter_eq tx r).2
  rw [e]

def OpOK (cfg : Cfg) : Op → Prop
  | .tx t => TxOK cfg t
  | .endBlock _ => True

instance (cfg : Cfg) : DecidablePred (OpOK cfg)
  | .tx t => inferInstanceAs (Decidable (TxOK cfg t))
  | .endBlock _ => inferInstanceAs (Decidable True)

theorem recKeyed_run (cfg : Cfg) (st : State) (ops : List Op) (hc : CodecId cfg) (hraw : RawOK cfg)
    (hok : ∀ o ∈ ops, OpOK cfg o) (hr : RecKeyed cfg st) : RecKeyed cfg (run cfg st ops) :=
  List.foldlRecOn (motive := RecKeyed cfg) ops (step cfg) hr (fun s hs o ho => by
    cases o with
    | tx t => exact recKeyed_of_live cfg _ _ (pkAfter_live t _) (recKeyed_runTx cfg s t hc hraw (hok _ ho) hs)
    | endBlock n => exact recKeyed_endBlock cfg s n hs)

theorem recKeyed_empty (cfg : Cfg) (st : State) (h : ∀ d, st.live d = []) : RecKeyed cfg st := by
  intro d k info hne; rw [h d] at hne; simp [Store.get] at hne

end Rangers.Miner
