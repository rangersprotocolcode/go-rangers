import Mathlib.LinearAlgebra.Lagrange
import Rangers.Proofs.C13ModArith
import Rangers.Proofs.C13Poly
/-! The `delta`s of `recoverSignature` are the Lagrange basis polynomials evaluated at 0. -/
namespace Rangers.Proofs.C13
open Polynomial Finset Rangers.Model.Shamir Rangers.Model.ModArith

def IdsDistinct (r : Nat) (ids : List Nat) : Prop := (ids.map (· % r)).Nodup

instance (r : Nat) (ids : List Nat) : Decidable (IdsDistinct r ids) := by
  unfold IdsDistinct; infer_instance

variable {r : Nat}

def pt (r : Nat) (ids : List Nat) (i : Nat) : ZMod r := ((ids.getD i 0 : Nat) : ZMod r)

theorem pt_injOn (ids : List Nat) (hd : IdsDistinct r ids) :
    Set.InjOn (pt r ids) (↑(range ids.length) : Set Nat) := by
  intro i hi j hj hij
  simp only [coe_range, Set.mem_Iio] at hi hj
  unfold pt at hij
  rw [ZMod.natCast_eq_natCast_iff'] at hij
  unfold IdsDistinct at hd
  have hi' : i < (ids.map (· % r)).length := by simpa using hi
  have hj' : j < (ids.map (· % r)).length := by simpa using hj
  have := (List.Nodup.getElem_inj_iff hd (hi := hi') (hj := hj')).1 (by
    simp only [List.getElem_map]
    simpa [List.getD, List.getElem?_eq_getElem hi, List.getElem?_eq_getElem hj] using hij)
  exact this

theorem numDenAux_cast [NeZero r] (i xi : Nat) :
    ∀ (rest : List Nat) (j : Nat) (nd : Nat × Nat),
      (((numDenAux r i xi j rest nd).1 : Nat) : ZMod r) =
          (nd.1 : ZMod r) * ∏ t ∈ range rest.length, (if j + t = i then 1 else ((rest.getD t 0 : Nat) : ZMod r)) ∧
      (((numDenAux r i xi j rest nd).2 : Nat) : ZMod r) =
          (nd.2 : ZMod r) * ∏ t ∈ range rest.length,
            (if j + t = i then 1 else (((rest.getD t 0 : Nat) : ZMod r) - (xi : ZMod r))) := by
  intro rest
  induction rest with
  | nil => intro j nd; simp [numDenAux]
  | cons x rest ih =>
    intro j nd
    simp only [numDenAux, List.length_cons]
    obtain ⟨h1, h2⟩ := ih (j + 1) (if j = i then nd else ((nd.1 * x) % r, emod ((nd.2 : Int) * ((x : Int) - (xi : Int))) r))
    rw [h1, h2, prod_range_succ', prod_range_succ']
    have hidx : ∀ t, j + 1 + t = j + (t + 1) := by intro t; omega
    simp only [hidx, List.getD_cons_succ, List.getD_cons_zero, Nat.add_zero]
    by_cases hji : j = i
    · simp only [hji, if_true, mul_one, and_self]
    · simp only [hji, if_false, ZMod.natCast_mod, emod_cast]
      push_cast
      exact ⟨by rw [mul_right_comm, mul_assoc], by rw [mul_right_comm, mul_assoc]⟩

theorem prod_ite_erase {α : Type} [DecidableEq α] (s : Finset α) (i : α) (f : α → ZMod r) :
    (∏ t ∈ s, if t = i then 1 else f t) = ∏ t ∈ s.erase i, f t := by
  rw [← prod_erase s (a := i) (f := fun t => if t = i then 1 else f t) (by simp)]
  apply prod_congr rfl
  intro t ht
  simp [(mem_erase.1 ht).1]

theorem numDen_cast [NeZero r] (xs : List Nat) (i xi : Nat) :
    (((numDen r xs i xi).1 : Nat) : ZMod r) = ∏ t ∈ (range xs.length).erase i, pt r xs t ∧
    (((numDen r xs i xi).2 : Nat) : ZMod r) = ∏ t ∈ (range xs.length).erase i, (pt r xs t - (xi : ZMod r)) := by
  obtain ⟨h1, h2⟩ := numDenAux_cast (r := r) i xi xs 0 (1, 1)
  unfold numDen
  rw [h1, h2]
  simp only [Nat.cast_one, one_mul, Nat.zero_add]
  exact ⟨prod_ite_erase _ _ _, prod_ite_erase _ _ _⟩

theorem lagrangeDelta_eq_basis [Fact r.Prime] (xs : List Nat) (hd : IdsDistinct r xs) (i : Nat)
    (hi : i < xs.length) :
    ((lagrangeDelta r xs i (xs.getD i 0) : Nat) : ZMod r) =
      (Lagrange.basis (range xs.length) (pt r xs) i).eval 0 := by
  have : NeZero r := ⟨(Fact.out : r.Prime).ne_zero⟩
  obtain ⟨hn, hden⟩ := numDen_cast (r := r) xs i (xs.getD i 0)
  have hinj := pt_injOn xs hd
  have hne : ∀ t ∈ (range xs.length).erase i, pt r xs t - pt r xs i ≠ 0 := by
    intro t ht
    obtain ⟨hti, htr⟩ := mem_erase.1 ht
    intro h0
    apply hti
    exact hinj (by simpa using htr) (by simpa using hi) (sub_eq_zero.1 h0)
  have hden0 : (((numDen r xs i (xs.getD i 0)).2 : Nat) : ZMod r) ≠ 0 := by
    rw [hden]; exact prod_ne_zero_iff.2 hne
  obtain ⟨w, hw, hwinv, _⟩ := modInverse_some (p := r) _ hden0
  unfold lagrangeDelta invOrKeep
  simp only [hw]
  rw [ZMod.natCast_mod, Nat.cast_mul, hwinv, hn, hden, Lagrange.basis, eval_prod, ← prod_inv_distrib, ← prod_mul_distrib]
  apply prod_congr rfl
  intro t ht
  have hpt : ((xs.getD i 0 : Nat) : ZMod r) = pt r xs i := rfl
  rw [hpt]
  simp only [Lagrange.basisDivisor, eval_mul, eval_C, eval_sub, eval_X]
  -- the code divides `x_t` by `x_t − x_i`, `basisDivisor` at `0` is `(x_i − x_t)⁻¹ * (0 − x_t)`: the two signs cancel
  have : (pt r xs i - pt r xs t)⁻¹ = -(pt r xs t - pt r xs i)⁻¹ := by
    rw [← neg_sub, inv_neg]
  rw [this]; ring

theorem lagrangeAux_eq (xs : List Nat) : ∀ (rest : List Nat) (j : Nat),
    lagrangeAux r xs j rest = rest.mapIdx fun t xi => lagrangeDelta r xs (j + t) xi
  | [], _ => rfl
  | x :: rest, j => by
    rw [lagrangeAux, lagrangeAux_eq xs rest (j + 1), List.mapIdx_cons]
    simp only [Nat.add_zero, Nat.add_assoc, Nat.add_comm 1]

theorem lagrangeCoeffs_eq (xs : List Nat) : lagrangeCoeffs r xs = xs.mapIdx fun i xi => lagrangeDelta r xs i xi := by
  rw [lagrangeCoeffs, lagrangeAux_eq]
  simp only [Nat.zero_add]

theorem lagrangeCoeffs_length (xs : List Nat) : (lagrangeCoeffs r xs).length = xs.length := by
  rw [lagrangeCoeffs_eq, List.length_mapIdx]

theorem lagrangeCoeffs_eq_basis [Fact r.Prime] (xs : List Nat) (hd : IdsDistinct r xs) (i : Nat)
    (hi : i < xs.length) :
    (((lagrangeCoeffs r xs).getD i 0 : Nat) : ZMod r) =
      (Lagrange.basis (range xs.length) (pt r xs) i).eval 0 := by
  rw [← lagrangeDelta_eq_basis xs hd i hi, lagrangeCoeffs_eq]
  simp only [List.getD_eq_getElem?_getD, List.getElem?_mapIdx, List.getElem?_eq_getElem hi, Option.map_some,
    Option.getD_some]

theorem sum_map_range {M : Type} [AddCommMonoid M] (g : Nat → M) (n : Nat) :
    ((List.range n).map g).sum = ∑ t ∈ range n, g t := by
  induction n with
  | zero => simp
  | succ n ih => rw [List.range_succ, List.map_append, List.sum_append, ih, sum_range_succ]; simp

theorem list_eq_map_range {α : Type} (l : List α) (d : α) :
    l = (List.range l.length).map (fun t => l.getD t d) := by
  apply List.ext_getElem
  · simp
  · intro i h1 h2
    simp [List.getD, List.getElem?_eq_getElem h1]

theorem zipWith_sum_range {α M : Type} [AddCommMonoid M] (f : Nat → α → M) (ds : List Nat) (ss : List α)
    (hl : ds.length = ss.length) (d0 : α) :
    (List.zipWith f ds ss).sum = ∑ t ∈ range ss.length, f (ds.getD t 0) (ss.getD t d0) := by
  conv_lhs => rw [list_eq_map_range ds 0, list_eq_map_range ss d0, hl]
  rw [List.zipWith_map, List.zipWith_self, ← sum_map_range]

theorem eval_zero_eq_sum_basis [Fact r.Prime] (ids : List Nat) (hd : IdsDistinct r ids)
    (f : (ZMod r)[X]) (hdeg : f.degree < ids.length) :
    f.eval 0 = ∑ t ∈ range ids.length,
      (Lagrange.basis (range ids.length) (pt r ids) t).eval 0 * f.eval (pt r ids t) := by
  have hf := Lagrange.eq_interpolate_of_eval_eq (s := range ids.length) (v := pt r ids)
    (fun t => f.eval (pt r ids t)) (pt_injOn ids hd) (by rwa [card_range]) (fun _ _ => rfl)
  conv_lhs => rw [hf]
  rw [Lagrange.interpolate_apply, eval_finsetSum]
  exact sum_congr rfl fun t _ => by rw [eval_mul, eval_C, mul_comm]

theorem lagrangeCoeffs_interpolate [Fact r.Prime] (ids : List Nat) (hd : IdsDistinct r ids)
    {s : Nat → Nat} {g0 : Nat} (hsh : Sharing r ids.length s g0) :
    (List.zipWith (fun (d x : Nat) => (d : ZMod r) * (s x : ZMod r)) (lagrangeCoeffs r ids) ids).sum = (g0 : ZMod r) := by
  obtain ⟨f, hdeg, hs, hg0⟩ := hsh
  rw [zipWith_sum_range _ _ _ (lagrangeCoeffs_length ids) 0, hg0, eval_zero_eq_sum_basis ids hd f hdeg]
  exact sum_congr rfl fun t ht => by rw [lagrangeCoeffs_eq_basis ids hd t (mem_range.1 ht), hs]; rfl

end Rangers.Proofs.C13
