import Rangers.Model.Evm12Spec
import Rangers.Proofs.Evm12Inv
import Rangers.Proofs.Evm12JumpTable
/-! C12: the world primitives as the observation sees them; the induction behind the static clause
(`static_callFrameK`, `static_run`); when `create` reverts (`createExit_reverted`). -/
namespace Rangers.Model.Evm12

theorem AMap.get_set {β : Type} (m : AMap β) (d : β) (a b : Addr) (v : β) :
    AMap.get (AMap.set m a v) d b = if a = b then v else AMap.get m d b := by
  simp [AMap.set, AMap.get]

theorem AMap.get_set_ne {β : Type} (m : AMap β) (d : β) {a b : Addr} (v : β) (hne : a ≠ b) :
    AMap.get (AMap.set m a v) d b = AMap.get m d b := by
  rw [AMap.get_set, if_neg hne]

theorem SMap.get_set (m : SMap) (a b : Addr) (k k' v : Nat) :
    SMap.get (SMap.set m a k v) b k' = if a = b ∧ k = k' then v else SMap.get m b k' := by
  simp [SMap.set, SMap.get]

theorem SMap.get_set_ne (m : SMap) {a b : Addr} (k k' v : Nat) (hne : a ≠ b) :
    SMap.get (SMap.set m a k v) b k' = SMap.get m b k' := by
  rw [SMap.get_set, if_neg (fun h => hne h.1)]

namespace World

@[simp] theorem getBalance_addBalance (w : World) (a b : Addr) (v : Nat) :
    (w.addBalance a v).getBalance b = if a = b then w.getBalance a + v else w.getBalance b :=
  AMap.get_set w.bal 0 a b (w.getBalance a + v)

theorem obs_addBalance_zero (w : World) (a : Addr) : obs (w.addBalance a 0) = obs w := by
  have h : (w.addBalance a 0).getBalance = w.getBalance := by
    funext b
    rw [getBalance_addBalance]
    split
    · next h => subst h; rfl
    · rfl
  simp only [obs, h]
  rfl

theorem obs_subBalance_zero (w : World) (a : Addr) : obs (w.subBalance a 0) = obs w := by
  unfold subBalance
  rw [if_neg (Nat.not_lt_zero _)]
  exact obs_addBalance_zero w a

theorem obs_transfer_zero (w : World) (a b : Addr) : obs (w.transfer a b 0) = obs w := by
  unfold transfer
  rw [obs_addBalance_zero, obs_subBalance_zero]

end World

theorem touchNew_getters (w : World) (a : Addr) :
    (w.touchNew a).getNonce = w.getNonce ∧ (w.touchNew a).getBalance = w.getBalance
    ∧ (w.touchNew a).getCode = w.getCode ∧ (w.touchNew a).getState = w.getState
    ∧ (w.touchNew a).logs = w.logs ∧ (w.touchNew a).getStake = w.getStake
    ∧ (w.touchNew a).hasSuicided = w.hasSuicided := by
  unfold World.touchNew
  split <;> exact ⟨rfl, rfl, rfl, rfl, rfl, rfl, rfl⟩

theorem exists_touchNew (w : World) (a b : Addr) : (w.touchNew a).exists? b = (w.exists? b || decide (a = b)) := by
  unfold World.touchNew
  split
  · next h =>
    by_cases hab : a = b
    · rw [← hab, h]; rfl
    · rw [decide_eq_false hab, Bool.or_false]
  · show AMap.get (AMap.set w.exist a true) false b = _
    rw [AMap.get_set]
    by_cases hab : a = b
    · rw [if_pos hab, decide_eq_true hab, Bool.or_true]
    · rw [if_neg hab, decide_eq_false hab, Bool.or_false]; rfl

theorem exists_touchNew_self (w : World) (a : Addr) : (w.touchNew a).exists? a = true := by
  rw [exists_touchNew, decide_eq_true rfl, Bool.or_true]

theorem obs_setNonce (w : World) (a : Addr) (n : Nat) :
    obs (w.setNonce a n) =
      { obs w with exist := fun b => (obs w).exist b || decide (a = b),
                   nonce := fun b => if a = b then n else (obs w).nonce b } := by
  obtain ⟨hn, hb, hc, hs, hl, hk, hu⟩ := touchNew_getters w a
  show Obs.mk (w.touchNew a).exists? (fun b => AMap.get (AMap.set (w.touchNew a).nonce a n) 0 b)
    (w.touchNew a).getBalance (w.touchNew a).getCode (w.touchNew a).getState (w.touchNew a).logs
    (w.touchNew a).getStake (w.touchNew a).hasSuicided = _
  rw [hb, hc, hs, hl, hk, hu]
  congr 1
  · funext b; exact exists_touchNew w a b
  · funext b; rw [AMap.get_set]; exact congrArg _ (congrFun hn b)

theorem obs_setNonce_congr {x y : World} (h : obs x = obs y) (a : Addr) (n : Nat) :
    obs (x.setNonce a n) = obs (y.setNonce a n) := by
  rw [obs_setNonce, obs_setNonce, h]

theorem wf_of {w w' : World}
    (h : ∀ b, w'.exists? b = false → w.exists? b = false ∧ w'.getNonce b = w.getNonce b ∧ w'.getCode b = w.getCode b
      ∧ ∀ k, w'.getState b k = w.getState b k)
    (hw : (obs w).WF) : (obs w').WF := by
  intro b hb
  obtain ⟨h0, h1, h2, h3⟩ := h b hb
  obtain ⟨g1, g2, g3⟩ := hw b h0
  exact ⟨h1.trans g1, h2.trans g2, fun k => (h3 k).trans (g3 k)⟩

theorem wf_touchNew (w : World) (a : Addr) (hw : (obs w).WF) : (obs (w.touchNew a)).WF := by
  obtain ⟨g1, _, g2, g3, _⟩ := touchNew_getters w a
  refine wf_of (fun b hb => ?_) hw
  rw [exists_touchNew, Bool.or_eq_false_iff] at hb
  exact ⟨hb.1, by rw [g1], by rw [g2], fun k => by rw [g3]⟩

/-- `Keeps w w'`: `w'` shows the live observation of `w`, the world at the entry of the read-only frame; the
    predicate the static induction carries (`P := Keeps w` in `callFrameK_keeps`). `(obs w').WF` is part of it
    because the next write starts from `w'`, and `keeps_createAccount` (a zero-value CALL may create its target's
    account object) needs it there. -/
def Keeps (w w' : World) : Prop := liveObs w' = liveObs w ∧ (obs w').WF

theorem Keeps.refl {w : World} (h : (obs w).WF) : Keeps w w := ⟨rfl, h⟩

theorem Keeps.of_obs_eq {w w' : World} (h : obs w' = obs w) (hwf : (obs w).WF) : Keeps w w' :=
  ⟨congrArg Obs.toLive h, by rw [h]; exact hwf⟩

theorem Keeps.trans {a b c : World} (h1 : Keeps a b) (h2 : Keeps b c) : Keeps a c :=
  ⟨h2.1.trans h1.1, h2.2⟩

theorem keeps_createAccount (w : World) (t : Addr) (hwf : (obs w).WF) : Keeps w (w.createAccount t) := by
  cases hex : w.exists? t with
  | true =>
    have he : w.createAccount t = w := if_pos hex
    rw [he]
    exact Keeps.refl hwf
  | false =>
    refine ⟨?_, wf_touchNew w t hwf⟩
    obtain ⟨hn, hb, hc, hs, hl, hst, hsu⟩ := touchNew_getters w t
    have hwt := hwf t hex
    unfold World.createAccount
    simp only [liveObs, Obs.toLive, obs, hn, hb, hc, hs, hl, hst, hsu]
    congr 1
    funext a
    rw [exists_touchNew]
    by_cases h : t = a
    · -- the new object is empty: not live before (no object), not live after (nothing in it)
      subst h
      have hempty : ¬ (obs w).nonEmpty t := by
        rintro (h1 | h1 | ⟨k, h1⟩)
        · exact h1 hwt.1
        · exact h1 hwt.2.1
        · exact h1 (hwt.2.2 k)
      exact propext ⟨fun hx => absurd hx.2 hempty, fun hx => absurd hx.2 hempty⟩
    · rw [decide_eq_false h, Bool.or_false]
      rfl

theorem roBlocked_call_value {v : Nat} (h : roBlocked true CallKind.call.op v = false) : v = 0 := by
  rw [roBlocked_true] at h
  cases v with
  | zero => rfl
  | succ n => cases h

theorem callExit_err (env : Env) (kind : CallKind) (saved : World) (r : Result) :
    (callExit env kind saved r).err = r.err := rfl

theorem callExit_world (env : Env) (kind : CallKind) (saved : World) (r : Result) :
    (callExit env kind saved r).world = if r.err.isSome then env.rv saved r.world else r.world := rfl

/-- `hv`: under `readOnly` a CALL gets past the guard of `Run` with value 0 only (`roBlocked_call_value`); what is
    left of the writes of `callFrameK` then touches accounts and moves nothing -/
theorem static_callFrameK (env : Env) (hrv : RevertRestoresObs env.rv) (depth : Nat) (ro : Bool) (self : Addr)
    (kind : CallKind) (target : Addr) (value : Nat) (k : Nat → Bool → Addr → World → Result)
    (pe : Option Err) (w : World) (hro : ro = true ∨ kind = .staticcall)
    (hk : ∀ d s w0, (obs w0).WF → Keeps w0 (k d true s w0).world)
    (hv : kind = .call → value = 0) (hwf : (obs w).WF) :
    Keeps w (callFrameK env depth ro self kind target value k pe w).world :=
  callFrameK_keeps (P := Keeps w) depth ro self kind target value k pe
    (fun w1 h => h.trans (keeps_createAccount w1 target h.2))
    (fun hc _ h => h.trans (.of_obs_eq (hv hc ▸ World.obs_transfer_zero _ _ _) h.2))
    (fun _ h => h.trans (.of_obs_eq (World.obs_addBalance_zero _ _) h.2))
    (fun saved cur h => h.trans (.of_obs_eq (hrv saved cur) h.2))
    (fun d _ s w0 hr h => hr hro ▸ h.trans (hk d s w0 h.2)) w (.refl hwf)

theorem static_run (env : Env) (hrv : RevertRestoresObs env.rv) (f : Frame) (hp : f.plain = true) (depth : Nat)
    (self : Addr) (w : World) (clogs : List Log) (tr : List Event) (hwf : (obs w).WF) :
    Keeps w (run env depth true self w clogs tr f).world := by
  -- SSTORE, LOGn, SELFDESTRUCT, CREATE, CREATE2 are flagged: the guard evaluates to the refusal
  induction f generalizing depth self w clogs tr with
  | done e => cases e <;> exact Keeps.refl hwf
  | sstore k v rest _ => rw [run, roBlocked_true]; exact Keeps.refl hwf
  | tstore k v rest _ =>
    -- TSTORE is not flagged, the guard lets it through: the refusal is `opTstore`'s own test of `ro`
    rw [run, roBlocked_true]; exact Keeps.refl hwf
  | log n tag rest _ => rw [run, roBlocked_true]; exact Keeps.refl hwf
  | selfdestruct ben => rw [run, roBlocked_true]; exact Keeps.refl hwf
  | call id kind target value body rest ihb ihr =>
    simp only [Frame.plain, Bool.and_eq_true] at hp
    rw [run]
    by_cases hnb : roBlocked true kind.op value = true
    · rw [if_pos hnb]; exact Keeps.refl hwf
    · rw [if_neg hnb]
      have h1 := static_callFrameK env hrv depth true self kind target value
        (fun d ro' self' w' => run env d ro' self' w' [] [] body) (precompileOutcome body) w (.inl rfl)
        (fun d s w0 hw0 => ihb hp.1 d s w0 [] [] hw0)
        (fun hc => roBlocked_call_value (hc ▸ Bool.not_eq_true _ ▸ hnb)) hwf
      exact h1.trans (ihr hp.2 _ _ _ _ _ h1.2)
  | create id two salt value init rest _ _ =>
    rw [run, roBlocked_true]
    cases two <;> exact Keeps.refl hwf
  | authcall id au n target value body rest _ _ => cases hp
  | stake a rest _ => cases hp
  | unstake a rest _ => cases hp
  | unstakeall rest _ => cases hp
  | stakenum a rest _ => cases hp

theorem createExit_reverted (env : Env) (saved : World) (addr : Addr) (r : Result)
    (hfail : (createExit env saved addr r).err.isSome)
    (hnot : (createExit env saved addr r).err ≠ some .codeStoreOutOfGas) :
    (createExit env saved addr r).world = env.rv saved (createStored addr r).1 := by
  unfold createExit at hfail hnot ⊢
  generalize createStored addr r = st at hfail hnot ⊢
  cases hm : r.ret == RetKind.huge
  · simp only [hm, Bool.false_and, Bool.false_eq_true, ↓reduceIte, Bool.false_or] at hfail hnot ⊢
    rw [if_pos]
    simpa [hfail] using hnot
  · simp only [Bool.true_or, ↓reduceIte]

end Rangers.Model.Evm12
