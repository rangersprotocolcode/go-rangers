import Rangers.Model.WireConv
import Rangers.Proofs.BigEndian
/-! For the converters of C09: fixed-width integers, the binary form of `time.Time`, hashes. -/
namespace Rangers.Json
open Rangers

theorem beFixed_length (w n : Nat) : (beFixed w n).length = w := by
  induction w generalizing n with
  | zero => rfl
  | succ w ih => simp [beFixed, ih]

theorem drop_add_append {α : Type} (a x : List α) (n m : Nat) (h : a.length = n) :
    (a ++ x).drop (n + m) = x.drop m := by
  rw [← List.drop_drop, List.drop_left' h]

theorem beToNat_beFixed (w : Nat) : ∀ n, beToNat (beFixed w n) = n % 256 ^ w := by
  induction w with
  | zero => intro n; simp [beFixed, beToNat, Nat.mod_one]
  | succ w ih =>
    intro n
    rw [beFixed, beToNat_append_one, ih, toNat_ofNat_mod, Nat.pow_succ, Nat.mul_comm (256 ^ w) 256, Nat.mod_mul]
    omega

theorem beToNat_beFixed_of_lt (w n : Nat) (h : n < 256 ^ w) : beToNat (beFixed w n) = n := by
  rw [beToNat_beFixed, Nat.mod_eq_of_lt h]

theorem toSigned_emod (bits : Nat) (hb : 0 < bits) (s : Int) (h1 : -((2 ^ (bits - 1) : Nat) : Int) ≤ s)
    (h2 : s < ((2 ^ (bits - 1) : Nat) : Int)) : toSigned bits (s % ((2 ^ bits : Nat) : Int)).toNat = s := by
  have hP : 2 ^ bits = 2 * 2 ^ (bits - 1) := by
    rw [← Nat.pow_succ', Nat.succ_eq_add_one, Nat.sub_add_cancel hb]
  unfold toSigned
  rw [hP]
  clear hP hb
  generalize 2 ^ (bits - 1) = P at *
  by_cases hs : 0 ≤ s
  · rw [Int.emod_eq_of_lt hs (by omega), if_pos ((Int.toNat_lt hs).mpr h2), Int.toNat_of_nonneg hs]
  · -- a negative `s` is represented by `s + 2P`, which lies in the upper half
    obtain ⟨t0, t1, t2⟩ : 0 ≤ s + (2 * P : Nat) ∧ s + (2 * P : Nat) < (2 * P : Nat) ∧ (P : Int) ≤ s + (2 * P : Nat) := by
      omega
    rw [← Int.add_emod_right, Int.emod_eq_of_lt t0 t1,
      if_neg (fun hc => Int.not_lt.mpr t2 ((Int.toNat_lt t0).mp hc)), Int.toNat_of_nonneg t0, Int.add_sub_cancel]

theorem toSigned_beFixed (w : Nat) (hw : 0 < w) (s : Int) (h1 : -((2 ^ (8 * w - 1) : Nat) : Int) ≤ s)
    (h2 : s < ((2 ^ (8 * w - 1) : Nat) : Int)) :
    toSigned (8 * w) (beToNat (beFixed w (s % ((256 ^ w : Nat) : Int)).toNat)) = s := by
  have hpos : (0 : Int) < ((256 ^ w : Nat) : Int) := Int.natCast_pos.mpr (Nat.pow_pos (by decide))
  rw [beToNat_beFixed_of_lt _ _ ((Int.toNat_lt (Int.emod_nonneg _ (Int.ne_of_gt hpos))).mpr (Int.emod_lt_of_pos _ hpos)),
    show 256 ^ w = 2 ^ (8 * w) by rw [Nat.pow_mul]]
  exact toSigned_emod (8 * w) (Nat.mul_pos (by decide) hw) s h1 h2

/-- `UnmarshalBinary`'s reading of the zone words: an offset of −60 s stands for UTC. -/
def zoneOf (off : Int) : Option Int := if off = -60 then none else some off

/-- `UnmarshalBinary` on the layout `MarshalBinary` writes: version, 8 bytes of seconds, 4 of nanoseconds, 2 of
    zone minutes and, in version 2, one byte of zone seconds. -/
theorem binToTime_layout (v : UInt8) (a b c d : Bytes) (ha : a.length = 8) (hb : b.length = 4) (hc : c.length = 2)
    (hv : v = 1 ∧ d = [] ∨ v = 2 ∧ d.length = 1) (hn : beToNat b < 1073741824) :
    binToTime (v :: (a ++ (b ++ (c ++ d)))) =
      some ⟨toSigned 64 (beToNat a), beToNat b, zoneOf (toSigned 16 (beToNat c) * 60 + ((d.headD 0).toNat : Int))⟩ := by
  have e8 : (a ++ (b ++ (c ++ d))).take 8 = a := List.take_left' ha
  have e12 : ((a ++ (b ++ (c ++ d))).drop 8).take 4 = b := by rw [List.drop_left' ha, List.take_left' hb]
  have e14 : ((a ++ (b ++ (c ++ d))).drop 12).take 2 = c := by
    rw [drop_add_append a _ 8 4 ha, List.drop_left' hb, List.take_left' hc]
  have e15 : (a ++ (b ++ (c ++ d))).drop 14 = d := by
    rw [drop_add_append a _ 8 6 ha, drop_add_append b _ 4 2 hb, List.drop_left' hc]
  have hlen : (a ++ (b ++ (c ++ d))).length = 14 + d.length := by
    simp only [List.length_append, ha, hb, hc]; omega
  have hlt : beToNat b < 2147483648 := by omega
  have hmod : beToNat b % 1073741824 = beToNat b := Nat.mod_eq_of_lt hn
  generalize a ++ (b ++ (c ++ d)) = rest at *
  rcases hv with ⟨rfl, rfl⟩ | ⟨rfl, hd⟩
  · simp [binToTime, zoneOf, hlen, e8, e12, e14, hlt, hmod]
  · simp [binToTime, zoneOf, hlen, hd, e8, e12, e14, e15, hlt, hmod]

/-- A time whose binary form Go 1.23 reads back unchanged: 64-bit seconds, nanoseconds below 2^30 (the width of
    their field in the wall word, `nsecMask`), and a zone that is UTC or an offset `60*m + s` with
    `-32768 ≤ m ≤ 32767`, `m ≠ -1`, `0 ≤ s < 60`. -/
def TimeOK (t : GoTime) : Prop :=
  -9223372036854775808 ≤ t.sec ∧ t.sec < 9223372036854775808 ∧ t.nsec < 1073741824 ∧
  match t.zone with
  | none => True
  | some off => -32768 ≤ Int.tdiv off 60 ∧ Int.tdiv off 60 ≤ 32767 ∧ Int.tdiv off 60 ≠ -1 ∧ 0 ≤ Int.tmod off 60

theorem timeToBin_zone (t : GoTime) (h : TimeOK t) :
    ∃ v c d, c.length = 2 ∧ (v = 1 ∧ d = [] ∨ v = 2 ∧ d.length = 1) ∧
      timeToBin t =
        some (v :: (beFixed 8 (t.sec % 18446744073709551616).toNat ++ (beFixed 4 t.nsec ++ (c ++ d)))) ∧
      zoneOf (toSigned 16 (beToNat c) * 60 + ((d.headD 0).toNat : Int)) = t.zone := by
  obtain ⟨sec, nsec, zone⟩ := t
  obtain ⟨-, -, -, hz⟩ := h
  cases zone with
  | none =>
    exact ⟨1, [255, 255], [], rfl, Or.inl ⟨rfl, rfl⟩, by simp [timeToBin],
      show zoneOf (toSigned 16 (beToNat [255, 255]) * 60 + 0) = none by decide⟩
  | some off =>
    obtain ⟨z1, z2, z3, z4⟩ := hz
    have hdm : 60 * Int.tdiv off 60 + Int.tmod off 60 = off := Int.mul_tdiv_add_tmod off 60
    have hslt : Int.tmod off 60 < 60 := Int.tmod_lt_of_pos off (by decide)
    generalize hmdef : Int.tdiv off 60 = m at *
    generalize hsdef : Int.tmod off 60 = s at *
    have hne : off ≠ -60 := by omega
    have hc : ¬ (m < -32768 ∨ m = -1 ∨ m > 32767) :=
      not_or.mpr ⟨Int.not_lt.mpr z1, not_or.mpr ⟨z3, Int.not_lt.mpr z2⟩⟩
    have em : toSigned 16 (beToNat (beFixed 2 (m % 65536).toNat)) = m :=
      toSigned_beFixed 2 (by decide) m z1 (Int.lt_add_one_iff.mpr z2)
    -- whichever version is written, the minute word gives `m` and the seconds byte (or its absence) `s`
    have hzone : ∀ d : Bytes, ((d.headD 0).toNat : Int) = s →
        zoneOf (toSigned 16 (beToNat (beFixed 2 (m % 65536).toNat)) * 60 + ((d.headD 0).toNat : Int)) = some off := by
      intro d hd
      rw [em, hd, Int.mul_comm, hdm]
      exact if_neg hne
    by_cases hs : s = 0
    · exact ⟨1, beFixed 2 (m % 65536).toNat, [], beFixed_length _ _, Or.inl ⟨rfl, rfl⟩,
        by simp [timeToBin, hmdef, hsdef, hc, hs], hzone [] hs.symm⟩
    · have hbyte : (UInt8.ofNat (s % 256).toNat).toNat = s.toNat := by
        rw [Int.emod_eq_of_lt z4 (Int.lt_trans hslt (by decide)), toNat_ofNat_lt (by omega)]
      exact ⟨2, beFixed 2 (m % 65536).toNat, [UInt8.ofNat (s % 256).toNat], beFixed_length _ _, Or.inr ⟨rfl, rfl⟩,
        by simp [timeToBin, hmdef, hsdef, hc, hs],
        hzone _ (by rw [List.headD_cons, hbyte, Int.toNat_of_nonneg z4])⟩

theorem binToTime_timeToBin (t : GoTime) (h : TimeOK t) :
    ∃ b, timeToBin t = some b ∧ binToTime b = some t := by
  obtain ⟨v, c, d, hc, hv, e, hzone⟩ := timeToBin_zone t h
  obtain ⟨h1, h2, h3, -⟩ := h
  have ens : beToNat (beFixed 4 t.nsec) = t.nsec := beToNat_beFixed_of_lt _ _ (Nat.lt_trans h3 (by decide))
  have esec : toSigned 64 (beToNat (beFixed 8 (t.sec % 18446744073709551616).toNat)) = t.sec :=
    toSigned_beFixed 8 (by decide) t.sec h1 h2
  refine ⟨_, e, ?_⟩
  rw [binToTime_layout _ _ _ _ _ (beFixed_length _ _) (beFixed_length _ _) hc hv (by rw [ens]; exact h3),
    esec, ens, hzone]

/-- A string literal is `String.ofList` of its characters by definition, so rewriting with this turns `ascii "…"` into
    a list the kernel evaluates in linear time; `String.toList` of a literal (UTF-8 decoding of a byte array) costs
    it time quadratic in the length. -/
theorem ascii_ofList (cs : List Char) : ascii (String.ofList cs) = cs.map (fun c => UInt8.ofNat c.toNat) := by
  rw [ascii, String.toList_ofList]

end Rangers.Json

namespace Rangers.Wire
open Rangers

theorem bytesToHash_length (b : Bytes) : (bytesToHash b).length = 32 := by
  unfold bytesToHash
  split
  next h => rw [List.length_drop, Nat.sub_sub_self (Nat.le_of_lt h)]
  next h => rw [List.length_append, List.length_replicate, Nat.sub_add_cancel (Nat.not_lt.mp h)]

theorem bytesToHash_id (b : Bytes) (h : b.length = 32) : bytesToHash b = b := by
  unfold bytesToHash
  simp [h]

end Rangers.Wire
