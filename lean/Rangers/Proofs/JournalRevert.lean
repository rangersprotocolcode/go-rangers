import Rangers.Proofs.JournalRel
import Rangers.Proofs.JournalRevertG
/-! The nested snapshot/revert argument of `JournalRevertG` at the relation `Sim`: if every op of a run
only appends journal entries whose undo gives back a `Sim`-equal state (`RevAt`), then reverting to
*any* still-valid snapshot, through any nesting of snapshots and reverts, gives back a state `Sim`-equal
to the one the snapshot was taken in. -/
namespace Rangers.Proofs.Journal
open Rangers Rangers.Model.Journal

theorem relOk_SimP {P : List (Hash × Bytes) → Obj → Obj → Prop} {D : Prop} (hP : ∀ cs, Closed (P cs) D) (c : Cfg) :
    JournalG.RelOk c (SimP P D) :=
  ⟨fun s => .of_view hP rfl rfl rfl (.refl s), fun h h' => h.trans hP h', fun e h => h.undo hP c e,
   fun _ _ _ _ => .of_view hP rfl rfl rfl (.inner _)⟩

theorem relOk_Sim (c : Cfg) : JournalG.RelOk c Sim :=
  ⟨Sim.refl, Sim.trans, fun e h => undo_congr c h e, fun _ _ _ _ => simP_sim.mp (.of_view closed_objSim rfl rfl rfl (.inner _))⟩

/-- `f` (one non-snapshot op) at state `s`: journal only grows, revision stack untouched,
    a crash is sticky, and undoing the appended entries restores `s` up to `Sim`.  `JournalG.RevAt c Sim f s` written out
    (`RevAt.toG`, `RevAt.ofG`; the pairs are listed at the head of `JournalRevertG`) -/
structure RevAt (c : Cfg) (f : ADB → ADB) (s : ADB) : Prop where
  sticky : s.crashed = true → (f s).crashed = true
  revs : (f s).revisions = s.revisions
  nextRev : (f s).nextRev = s.nextRev
  inv : ∃ E, (f s).journal = s.journal ++ E ∧ ((f s).crashed = false → Sim (undoAll c (f s) E) s)

theorem RevAt.toG {c : Cfg} {f : ADB → ADB} {s : ADB} (h : RevAt c f s) : JournalG.RevAt c Sim f s :=
  ⟨h.sticky, h.revs, h.nextRev, h.inv⟩

theorem RevAt.ofG {c : Cfg} {f : ADB → ADB} {s : ADB} (h : JournalG.RevAt c Sim f s) : RevAt c f s :=
  ⟨h.sticky, h.revs, h.nextRev, h.inv⟩

theorem RevAt.ofP {c : Cfg} {f : ADB → ADB} {s : ADB} (h : JournalG.Rev c (SimP ObjSim False) s (f s)) : RevAt c f s :=
  .ofG (.of_rev (h.mono fun _ => simP_sim.mp))

/-- `G` lists, per valid revision, the exact state in which that snapshot was taken: `JournalG.Inv c Sim s G` written out -/
def Inv (c : Cfg) (s : ADB) (G : List ADB) : Prop :=
  G.length = s.revisions.length ∧
  ∀ (i : Nat) (r : Nat × Nat) (g : ADB), s.revisions[i]? = some r → G[i]? = some g →
    s.crashed = false → Sim (undoAll c s (s.journal.drop r.2)) g

theorem Inv.revert {c : Cfg} {s : ADB} {G : List ADB} (hc : s.crashed = false) (ok : RevsOk s) (inv : Inv c s G)
    {i : Nat} {r : Nat × Nat} (hi : s.revisions[i]? = some r) (hnc : (revert c s r.1).crashed = false) :
    (∃ g, G[i]? = some g ∧ Sim (revert c s r.1) g) ∧ Inv c (revert c s r.1) (G.take i) ∧ RevsOk (revert c s r.1)
      ∧ (revert c s r.1).revisions = s.revisions.take i ∧ (revert c s r.1).nextRev = s.nextRev :=
  JournalG.Inv.revert (relOk_Sim c) hc ok inv hi hnc

theorem Inv.snapshot {c : Cfg} {s : ADB} {G : List ADB} (hc : s.crashed = false) (ok : RevsOk s) (inv : Inv c s G) :
    Inv c (snapshot s).1 (G ++ [(snapshot s).1]) ∧ RevsOk (snapshot s).1 :=
  JournalG.Inv.snapshot (relOk_Sim c) hc ok inv

theorem revert_sim_generic (c : Cfg) (P : ADB → Op → Prop)
    (hP : ∀ s op, P s op → op ≠ Op.snapshot → (∀ id, op ≠ Op.revert id) → RevAt c (fun x => step c x op) s)
    {s : ADB} {G : List ADB} (ops : List Op) (hs : s.crashed = false) (ok : RevsOk s) (inv : Inv c s G)
    (hr : RunOk P c (snapshot s).1 ops)
    (hnc : (revert c (run c (snapshot s).1 ops) (snapshot s).2).crashed = false) :
    Sim (revert c (run c (snapshot s).1 ops) (snapshot s).2) s :=
  JournalG.revert_rel_generic P (fun s op hp h1 h2 => (hP s op hp h1 h2).toG) (relOk_Sim c) ops hs ok inv hr hnc

end Rangers.Proofs.Journal
