/-! Core's `List.lookup` on association lists whose keys have a lawful `==`: reading after a `cons`, and after
    a filter that looks at keys only. For the models that keep a Go map or a key-value store as a `List (κ × β)` read
    by `List.lookup` (TrieDB, TrieNdb, Miner). Core Lean only. -/
namespace Rangers
variable {κ β : Type} [BEq κ] [LawfulBEq κ]

theorem lookup_cons_eq [DecidableEq κ] (a k : κ) (b : β) (es : List (κ × β)) :
    List.lookup a ((k, b) :: es) = if a = k then some b else es.lookup a := by
  rw [List.lookup_cons]
  by_cases h : a = k
  · rw [if_pos h, beq_iff_eq.mpr h]
  · rw [if_neg h, beq_false_of_ne h]

theorem lookup_cons_ne {a k : κ} (h : a ≠ k) (b : β) (es : List (κ × β)) :
    List.lookup a ((k, b) :: es) = es.lookup a := by
  rw [List.lookup_cons, beq_false_of_ne h]

theorem lookup_filter_key (q : κ → Bool) (l : List (κ × β)) (h : κ) :
    (l.filter fun kn => q kn.1).lookup h = if q h then l.lookup h else none := by
  induction l with
  | nil => exact (ite_self _).symm
  | cons kn rest ih =>
    obtain ⟨k, v⟩ := kn
    rw [List.filter_cons]
    by_cases hk : h = k
    · subst hk
      by_cases hq : q h = true
      · rw [if_pos hq, if_pos hq, List.lookup_cons_self, List.lookup_cons_self]
      · rw [if_neg hq, if_neg hq, ih, if_neg hq]
    · rw [lookup_cons_ne hk, ← ih]
      split
      · exact lookup_cons_ne hk _ _
      · rfl

end Rangers
