import Mathlib.Algebra.BigOperators.Group.List.Basic
import Rangers.Model.Shamir
/-! `AggregateSeckeys` and `AggregatePubkeys` are sums (of a non-empty list). -/
namespace Rangers.Proofs.C13
open Rangers.Model.Shamir

theorem foldl_add_eq {M : Type} [AddMonoid M] (l : List M) (s : M) : l.foldl (· + ·) s = s + l.sum := by
  rw [List.foldl_eq_apply_foldr (init := 0), ← List.sum_eq_foldr]

theorem aggregateSeckeys_eq_sum (r : Nat) (l : List Nat) (hl : l ≠ []) :
    aggregateSeckeys r l = some (l.sum % r) := by
  obtain ⟨s, rest, rfl⟩ := List.exists_cons_of_ne_nil hl
  rw [aggregateSeckeys, List.sum_cons, ← foldl_add_eq]

theorem aggregatePoints_eq_sum {G : Type} [AddMonoid G] (l : List G) (hl : l ≠ []) :
    aggregatePoints (· + ·) l = some l.sum := by
  obtain ⟨s, rest, rfl⟩ := List.exists_cons_of_ne_nil hl
  rw [aggregatePoints, List.sum_cons, ← foldl_add_eq]

end Rangers.Proofs.C13
