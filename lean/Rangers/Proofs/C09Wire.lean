import Rangers.Model.Wire
import Rangers.Proofs.BigEndian
/-! The protobuf wire layer of C09: varints, raw fields, getters. -/
namespace Rangers.Wire
open Rangers

/-- `hf`: the tenth byte (`f = 0`) may only carry bit 63. -/
theorem readVarint_last (f n : Nat) (rest : Bytes) (hn : n < 128) (hf : f = 0 → n < 2) :
    readVarint (f + 1) (UInt8.ofNat n :: rest) = some (n, rest) := by
  have hb := toNat_ofNat_lt (Nat.lt_trans hn (by decide))
  rw [readVarint, hb, if_pos hn, if_neg (fun hc => Nat.not_le_of_lt (hf hc.1) hc.2)]

theorem readVarint_more (f k v : Nat) (rest r : Bytes) (hk : k < 128) (hf : f ≠ 0)
    (h : readVarint f rest = some (v, r)) :
    readVarint (f + 1) (UInt8.ofNat (k + 128) :: rest) = some (k + 128 * v, r) := by
  have hb := toNat_ofNat_lt (Nat.add_lt_add_right hk 128)
  rw [readVarint, hb, if_neg (Nat.not_lt.mpr (Nat.le_add_left 128 k)), if_neg hf, h, Nat.add_sub_cancel]

theorem readVarint_put (f : Nat) : ∀ (n : Nat) (rest : Bytes), n < 2 ^ (7 * f + 1) →
    readVarint (f + 1) (putVarint f n ++ rest) = some (n, rest) := by
  induction f with
  | zero =>
    intro n rest h
    have hn : n < 2 := h
    exact readVarint_last 0 n rest (Nat.lt_trans hn (by decide)) (fun _ => hn)
  | succ f ih =>
    intro n rest h
    rw [putVarint]
    by_cases hlt : n < 128
    · rw [if_pos hlt]
      exact readVarint_last (f + 1) n rest hlt (fun h0 => absurd h0 (Nat.succ_ne_zero f))
    · have hq : n / 128 < 2 ^ (7 * f + 1) :=
        Nat.div_lt_of_lt_mul (by
          rw [show 128 = 2 ^ 7 from rfl, ← Nat.pow_add, show 7 + (7 * f + 1) = 7 * (f + 1) + 1 by omega]
          exact h)
      rw [if_neg hlt, List.cons_append,
        readVarint_more (f + 1) _ _ _ _ (Nat.mod_lt n (by decide)) (Nat.succ_ne_zero f) (ih _ rest hq),
        Nat.mod_add_div]

theorem getVarint_enc (n : Nat) (rest : Bytes) (h : n < 2 ^ 64) :
    getVarint (encVarint n ++ rest) = some (n, rest) := by
  unfold getVarint encVarint
  exact readVarint_put 9 n rest (by simpa using h)

/-- A raw field the encoder can emit: a legal tag (1 … 2^61-1) and a 64-bit payload / length. -/
def RawWF : Raw → Prop
  | .vint num v => 1 ≤ num ∧ num < 2 ^ 61 ∧ v < 2 ^ 64
  | .len num b => 1 ≤ num ∧ num < 2 ^ 61 ∧ b.length < 2 ^ 64
  | .other _ _ => False

def RawsWF (rs : List Raw) : Prop := ∀ r ∈ rs, RawWF r

theorem getVarint_tag (num w : Nat) (rest : Bytes) (hnum : num < 2 ^ 61) (hw : w < 8) :
    getVarint (encVarint (num * 8 + w) ++ rest) = some (num * 8 + w, rest) ∧
      (num * 8 + w) / 8 = num ∧ (num * 8 + w) % 8 = w :=
  ⟨getVarint_enc _ rest (by omega),
    by rw [Nat.mul_comm, Nat.mul_add_div (by decide), Nat.div_eq_of_lt hw, Nat.add_zero],
    by rw [Nat.mul_comm, Nat.mul_add_mod, Nat.mod_eq_of_lt hw]⟩

theorem rawStep_enc (r : Raw) (rest : Bytes) (h : RawWF r) :
    rawStep (encRaw r ++ rest) = some (r, rest) := by
  cases r with
  | vint num v =>
    obtain ⟨h1, h2, h3⟩ := h
    obtain ⟨e1, hd, hm⟩ := getVarint_tag num 0 (encVarint v ++ rest) h2 (by decide)
    rw [Nat.add_zero] at e1 hd hm
    simp only [encRaw, List.append_assoc, rawStep, e1, hd, hm, Nat.ne_of_gt h1, if_false, getVarint_enc v rest h3]
  | len num b =>
    obtain ⟨h1, h2, h3⟩ := h
    obtain ⟨e1, hd, hm⟩ := getVarint_tag num 2 (encVarint b.length ++ (b ++ rest)) h2 (by decide)
    have hl : ¬ ((b ++ rest).length < b.length) := Nat.not_lt.mpr (List.length_append ▸ Nat.le_add_right _ _)
    simp only [encRaw, List.append_assoc, rawStep, e1, hd, hm, Nat.ne_of_gt h1, if_false,
      getVarint_enc b.length (b ++ rest) h3, hl, List.take_left', List.drop_left']
  | other _ _ => exact h.elim

/-- Over an abstract `step`, because both protobuf readers (`rawFields`, `rawFieldsV2`) are such loops; with the fuel
    both callers supply, one more than the input's length. -/
theorem fields_enc {WF : Raw → Prop} {step : Bytes → Option (Raw × Bytes)} {fields : Nat → Bytes → Option (List Raw)}
    (hnil : ∀ f, fields (f + 1) [] = some []) (hstep0 : step [] = none)
    (hcons : ∀ f b bs, fields (f + 1) (b :: bs) =
      match step (b :: bs) with
      | none => none
      | some (r, rest) => match fields f rest with
        | none => none
        | some rs => some (r :: rs))
    (hstep : ∀ r rest, WF r → step (encRaw r ++ rest) = some (r, rest)) :
    ∀ (rs : List Raw) (f : Nat), (encRaws rs).length < f → (∀ r ∈ rs, WF r) → fields f (encRaws rs) = some rs
  | [], f + 1, _, _ => hnil f
  | r :: rs, f + 1, hf, hwf => by
    have hr := hwf r List.mem_cons_self
    -- a field takes at least one byte: `step` reads it back, and reads nothing from the empty input
    have hne : encRaw r ≠ [] := fun e => by
      have h0 := hstep r [] hr
      rw [e, List.nil_append, hstep0] at h0
      cases h0
    rw [encRaws, List.length_append] at hf
    have hrec := fields_enc hnil hstep0 hcons hstep rs f
      (by have := List.length_pos_iff.mpr hne; omega) (fun x hx => hwf x (List.mem_cons_of_mem _ hx))
    rw [encRaws]
    cases hb : encRaw r ++ encRaws rs with
    | nil => exact absurd (List.append_eq_nil_iff.mp hb).1 hne
    | cons b bs => rw [hcons, ← hb, hstep r _ hr]; simp only [hrec]

theorem parseRaw_encRaws (rs : List Raw) (h : RawsWF rs) : parseRaw (encRaws rs) = some rs :=
  fields_enc (fun _ => rfl) rfl (fun _ _ _ => rfl) rawStep_enc rs _ (Nat.lt_succ_self _) h

theorem forall_mem_repLenR {P : Raw → Prop} (n : Nat) (l : List Bytes) (h : ∀ b ∈ l, P (.len n b)) :
    ∀ r ∈ repLenR n l, P r := by
  induction l with
  | nil => exact fun _ hr => nomatch hr
  | cons b l ih =>
    exact List.forall_mem_cons.mpr ⟨h b List.mem_cons_self, ih (fun x hx => h x (List.mem_cons_of_mem _ hx))⟩

theorem lastLen_append (n : Nat) (l1 l2 : List Raw) :
    lastLen n (l1 ++ l2) = (lastLen n l2).or (lastLen n l1) := by
  induction l1 with
  | nil => cases h : lastLen n l2 <;> simp [lastLen, h]
  | cons r l1 ih =>
    cases r with
    | vint m v => simp only [List.cons_append, lastLen, ih]
    | other m w => simp only [List.cons_append, lastLen, ih]
    | len m b =>
      simp only [List.cons_append, lastLen, ih]
      cases lastLen n l2 <;> simp

theorem lastVint_append (n : Nat) (l1 l2 : List Raw) :
    lastVint n (l1 ++ l2) = (lastVint n l2).or (lastVint n l1) := by
  induction l1 with
  | nil => cases h : lastVint n l2 <;> simp [lastVint, h]
  | cons r l1 ih =>
    cases r with
    | len m v => simp only [List.cons_append, lastVint, ih]
    | other m w => simp only [List.cons_append, lastVint, ih]
    | vint m b =>
      simp only [List.cons_append, lastVint, ih]
      cases lastVint n l2 <;> simp

theorem allLen_append (n : Nat) (l1 l2 : List Raw) : allLen n (l1 ++ l2) = allLen n l1 ++ allLen n l2 := by
  induction l1 with
  | nil => simp [allLen]
  | cons r l1 ih =>
    cases r with
    | len m b => simp only [List.cons_append, allLen, ih]; split <;> simp
    | vint m v => simp only [List.cons_append, allLen, ih]
    | other m w => simp only [List.cons_append, allLen, ih]

@[simp] theorem lastLen_optLenR (n m : Nat) (o : Option Bytes) :
    lastLen n (optLenR m o) = if m = n then o else none := by
  cases o with
  | none => exact (ite_self none).symm
  | some b => rfl

@[simp] theorem lastLen_optVintR (n m : Nat) (o : Option Nat) : lastLen n (optVintR m o) = none := by
  cases o <;> rfl

@[simp] theorem lastLen_repLenR (n m : Nat) (l : List Bytes) :
    lastLen n (repLenR m l) = if m = n then l.getLast? else none := by
  induction l with
  | nil => exact (ite_self none).symm
  | cons b l ih =>
    rw [repLenR, lastLen, ih, List.getLast?_cons]
    by_cases h : m = n
    · simp only [h, if_true]
      cases l.getLast? <;> rfl
    · simp only [h, if_false]

@[simp] theorem lastVint_optVintR (n m : Nat) (o : Option Nat) :
    lastVint n (optVintR m o) = if m = n then o else none := by
  cases o with
  | none => exact (ite_self none).symm
  | some v => rfl

@[simp] theorem lastVint_optLenR (n m : Nat) (o : Option Bytes) : lastVint n (optLenR m o) = none := by
  cases o <;> rfl

@[simp] theorem lastVint_repLenR (n m : Nat) (l : List Bytes) : lastVint n (repLenR m l) = none := by
  induction l with
  | nil => rfl
  | cons b l ih => exact ih

@[simp] theorem allLen_optVintR (n m : Nat) (o : Option Nat) : allLen n (optVintR m o) = [] := by
  cases o <;> rfl

@[simp] theorem allLen_optLenR (n m : Nat) (o : Option Bytes) :
    allLen n (optLenR m o) = if m = n then o.toList else [] := by
  cases o with
  | none => exact (ite_self []).symm
  | some b => rfl

@[simp] theorem allLen_repLenR (n m : Nat) (l : List Bytes) :
    allLen n (repLenR m l) = if m = n then l else [] := by
  induction l with
  | nil => exact (ite_self []).symm
  | cons b l ih =>
    rw [repLenR, allLen, ih]
    split <;> rfl

theorem trunc_sext (v : Nat) (h : v < 2 ^ 32) : trunc32 (sext32 v) = v := by
  unfold trunc32 sext32
  split
  · exact Nat.mod_eq_of_lt h
  · exact (Nat.add_mul_mod_self_right v 4294967295 4294967296).trans (Nat.mod_eq_of_lt h)

theorem sext_lt (v : Nat) (h : v < 2 ^ 32) : sext32 v < 2 ^ 64 := by
  unfold sext32
  split
  · exact Nat.lt_trans h (by decide)
  · exact Nat.add_lt_add_right h 18446744069414584320

end Rangers.Wire
