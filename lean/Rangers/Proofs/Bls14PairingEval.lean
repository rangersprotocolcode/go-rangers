import Rangers.Model.Bls14Pairing
import Rangers.Proofs.Bls14Bytes
/-!
The pairing of `Model/Bls14Pairing.lean` spelled for the kernel's evaluator.

The kernel computes with GMP only when it meets `Nat.add`, `Nat.mul`, `Nat.sub`, `Nat.mod` applied to
literals. `a * b % P` reaches `Nat.mul` and `Nat.mod` through `HMul.hMul`, `Mul.mul`, `HMod.hMod`,
`Mod.mod`, each unfolding instantiating a universe-polymorphic body: a field operation of the model costs
about four times what the arithmetic itself costs. Below, the four field operations are written on the
`Nat` functions directly and every layer above them (tower, line functions, Miller loop, final
exponentiation) is repeated word for word on top of these, with the suffix `E`, over the model's own
structures; only `F2.mulE` and `F2.mulXiE` differ, reducing once per coordinate instead of after every
operation. Each `…E` is the model's function (`…E_eq`); `pair_eq_pairE` is what the users need: rewrite
with it, then let the kernel evaluate. The `…E` are declared in the model's namespace so that dot notation on
`F2`, `F6`, `F12` finds them; none of them models anything of its own.

`GT.Marshal` is dear to evaluate as well (384 bytes, each through `UInt8.ofNat` and a left-nested `++`):
`F12.marshal_eq_iff` turns a comparison of marshalled values into one of the twelve coordinates mod `2²⁵⁶`.
-/
namespace Rangers.Model.Bls14
open Rangers
open Rangers.Generated.Bls14

def faddE (a b : Nat) : Nat := Nat.mod (Nat.add a b) P
def fmulE (a b : Nat) : Nat := Nat.mod (Nat.mul a b) P
def fnegE (a : Nat) : Nat := Nat.mod (Nat.sub P (Nat.mod a P)) P
def fsubE (a b : Nat) : Nat := Nat.mod (Nat.add a (Nat.sub P (Nat.mod b P))) P

namespace F2
def addE (a b : F2) : F2 := ⟨faddE a.x b.x, faddE a.y b.y⟩
def subE (a b : F2) : F2 := ⟨fsubE a.x b.x, fsubE a.y b.y⟩
def negE (a : F2) : F2 := ⟨fnegE a.x, fnegE a.y⟩
def mulE (a b : F2) : F2 :=
  ⟨Nat.mod (Nat.add (Nat.mul a.x b.y) (Nat.mul a.y b.x)) P,
   Nat.mod (Nat.add (Nat.mul a.y b.y) (Nat.sub P (Nat.mod (Nat.mul a.x b.x) P))) P⟩
def sqE (a : F2) : F2 := mulE a a
def invE (a : F2) : F2 :=
  let n := finv (faddE (fmulE a.x a.x) (fmulE a.y a.y))
  ⟨fmulE (fnegE a.x) n, fmulE a.y n⟩
def conjE (a : F2) : F2 := ⟨fnegE a.x, a.y⟩
def mulScalarE (a : F2) (b : Nat) : F2 := ⟨fmulE a.x b, fmulE a.y b⟩
def mulXiE (a : F2) : F2 :=
  ⟨Nat.mod (Nat.add (Nat.add (Nat.add a.x a.x) a.x) a.y) P,
   Nat.mod (Nat.add (Nat.add (Nat.add a.y a.y) a.y) (Nat.sub P (Nat.mod a.x P))) P⟩
def dblE (a : F2) : F2 := addE a a
end F2

namespace F6
def negE (a : F6) : F6 := ⟨a.x.negE, a.y.negE, a.z.negE⟩
def addE (a b : F6) : F6 := ⟨a.x.addE b.x, a.y.addE b.y, a.z.addE b.z⟩
def subE (a b : F6) : F6 := ⟨a.x.subE b.x, a.y.subE b.y, a.z.subE b.z⟩
def mulE (a b : F6) : F6 :=
  let v0 := a.z.mulE b.z
  let v1 := a.y.mulE b.y
  let v2 := a.x.mulE b.x
  let tz := ((((a.x.addE a.y).mulE (b.x.addE b.y)).subE v1).subE v2).mulXiE.addE v0
  let ty := ((((a.y.addE a.z).mulE (b.y.addE b.z)).subE v0).subE v1).addE v2.mulXiE
  let tx := ((((a.x.addE a.z).mulE (b.x.addE b.z)).subE v0).addE v1).subE v2
  ⟨tx, ty, tz⟩
def sqE (a : F6) : F6 := mulE a a
def mulScalarE (a : F6) (b : F2) : F6 := ⟨a.x.mulE b, a.y.mulE b, a.z.mulE b⟩
def mulGFPE (a : F6) (b : Nat) : F6 := ⟨a.x.mulScalarE b, a.y.mulScalarE b, a.z.mulScalarE b⟩
def mulTauE (a : F6) : F6 := ⟨a.y, a.z, a.x.mulXiE⟩
def frobeniusE (a : F6) : F6 :=
  ⟨a.x.conjE.mulE ⟨xiTo2PMinus2Over3X, xiTo2PMinus2Over3Y⟩,
   a.y.conjE.mulE ⟨xiToPMinus1Over3X, xiToPMinus1Over3Y⟩, a.z.conjE⟩
def frobeniusP2E (a : F6) : F6 :=
  ⟨a.x.mulScalarE xiTo2PSquaredMinus2Over3, a.y.mulScalarE xiToPSquaredMinus1Over3, a.z⟩
def invE (a : F6) : F6 :=
  let A := a.z.sqE.subE (a.x.mulE a.y).mulXiE
  let B := a.x.sqE.mulXiE.subE (a.y.mulE a.z)
  let C := a.y.sqE.subE (a.x.mulE a.z)
  let F := (((C.mulE a.y).mulXiE).addE (A.mulE a.z)).addE ((B.mulE a.x).mulXiE)
  let Fi := F.invE
  ⟨C.mulE Fi, B.mulE Fi, A.mulE Fi⟩
end F6

namespace F12
def conjE (a : F12) : F12 := ⟨a.x.negE, a.y⟩
def mulE (a b : F12) : F12 :=
  ⟨(a.x.mulE b.y).addE (b.x.mulE a.y), (a.y.mulE b.y).addE ((a.x.mulE b.x).mulTauE)⟩
def sqE (a : F12) : F12 := mulE a a
def frobeniusE (a : F12) : F12 :=
  ⟨a.x.frobeniusE.mulScalarE ⟨xiToPMinus1Over6X, xiToPMinus1Over6Y⟩, a.y.frobeniusE⟩
def frobeniusP2E (a : F12) : F12 :=
  ⟨a.x.frobeniusP2E.mulGFPE xiToPSquaredMinus1Over6, a.y.frobeniusP2E⟩
def invE (a : F12) : F12 :=
  let t2 := (a.y.sqE.subE a.x.sqE.mulTauE).invE
  ⟨a.x.negE.mulE t2, a.y.mulE t2⟩
def expE (a : F12) (k : Nat) : F12 :=
  (bitsLE 512 k).reverse.foldl (fun s b => if b then (sqE s).mulE a else sqE s) one
end F12

def lineAddE (r : TwJ) (px py : F2) (qx qy : Nat) (r2 : F2) : F2 × F2 × F2 × TwJ :=
  let B := px.mulE r.t
  let D := ((((py.addE r.z).sqE).subE r2).subE r.t).mulE r.t
  let H := B.subE r.x
  let I := H.sqE
  let E := (I.addE I).dblE
  let J := H.mulE E
  let L1 := (D.subE r.y).subE r.y
  let V := r.x.mulE E
  let ox := ((L1.sqE.subE J).subE V).subE V
  let oz := (((r.z.addE H).sqE).subE r.t).subE I
  let t := (V.subE ox).mulE L1
  let t2 := (r.y.mulE J).dblE
  let oy := t.subE t2
  let ot := oz.sqE
  let t := (((py.addE oz).sqE).subE r2).subE ot
  let t2 := (L1.mulE px).dblE
  let a := t2.subE t
  let c := (oz.mulScalarE qy).dblE
  let b := (L1.negE.mulScalarE qx).dblE
  (a, b, c, ⟨ox, oy, oz, ot⟩)

def lineDoubleE (r : TwJ) (qx qy : Nat) : F2 × F2 × F2 × TwJ :=
  let A := r.x.sqE
  let B := r.y.sqE
  let C := B.sqE
  let D := ((((r.x.addE B).sqE).subE A).subE C).dblE
  let E := (A.addE A).addE A
  let G := E.sqE
  let ox := (G.subE D).subE D
  let oz := (((r.y.addE r.z).sqE).subE B).subE r.t
  let t := ((C.addE C).dblE).dblE
  let oy := ((D.subE ox).mulE E).subE t
  let ot := oz.sqE
  let t := (E.mulE r.t).dblE
  let b := t.negE.mulScalarE qx
  let a := ((((r.x.addE E).sqE).subE A).subE G).subE ((B.addE B).dblE)
  let c := ((oz.mulE r.t).dblE).mulScalarE qy
  (a, b, c, ⟨ox, oy, oz, ot⟩)

def mulLineE (ret : F12) (a b c : F2) : F12 :=
  let a2 := F6.mulE ⟨F2.zero, a, b⟩ ret.x
  let t3 := ret.y.mulScalarE c
  let t2 : F6 := ⟨F2.zero, a, b.addE c⟩
  let rx := ret.x.addE ret.y
  let ry := t3
  let rx := ((rx.mulE t2).subE a2).subE ry
  ⟨rx, ry.addE a2.mulTauE⟩

def millerStepE (ax ay : F2) (bx bY : Nat) (r2 : F2) (st : F12 × TwJ × Bool) (d : Int) : F12 × TwJ × Bool :=
  let (ret, r, first) := st
  let (a, b, c, newR) := lineDoubleE r bx bY
  let ret := if first then ret else ret.sqE
  let ret := mulLineE ret a b c
  let r := newR
  if d == 1 then
    let (a, b, c, newR) := lineAddE r ax ay bx bY r2
    (mulLineE ret a b c, newR, false)
  else if d == -1 then
    let (a, b, c, newR) := lineAddE r ax ay.negE bx bY r2
    (mulLineE ret a b c, newR, false)
  else (ret, r, false)

def millerE (ax ay : F2) (bx bY : Nat) : F12 :=
  let r2 := ay.sqE
  let digits := (sixuPlus2NAF.take (sixuPlus2NAF.length - 1)).reverse
  let (ret, r, _) := digits.foldl (millerStepE ax ay bx bY r2) (F12.one, ⟨ax, ay, F2.one, F2.one⟩, true)
  let q1x := ax.conjE.mulE ⟨xiToPMinus1Over3X, xiToPMinus1Over3Y⟩
  let q1y := ay.conjE.mulE ⟨xiToPMinus1Over2X, xiToPMinus1Over2Y⟩
  let mq2x := ax.mulScalarE xiToPSquaredMinus1Over3
  let mq2y := ay
  let (a, b, c, r) := lineAddE r q1x q1y bx bY q1y.sqE
  let ret := mulLineE ret a b c
  let (a, b, c, _) := lineAddE r mq2x mq2y bx bY mq2y.sqE
  mulLineE ret a b c

def finalExpE (inp : F12) : F12 :=
  let t1 := (F12.conjE inp).mulE inp.invE
  let t1 := t1.mulE t1.frobeniusP2E
  let fp := t1.frobeniusE
  let fp2 := t1.frobeniusP2E
  let fp3 := fp2.frobeniusE
  let fu := t1.expE bnU
  let fu2 := fu.expE bnU
  let fu3 := fu2.expE bnU
  let y3 := fu.frobeniusE
  let fu2p := fu2.frobeniusE
  let fu3p := fu3.frobeniusE
  let y2 := fu2.frobeniusP2E
  let y0 := (fp.mulE fp2).mulE fp3
  let y1 := t1.conjE
  let y5 := fu2.conjE
  let y3 := y3.conjE
  let y4 := (fu.mulE fu2p).conjE
  let y6 := (fu3.mulE fu3p).conjE
  let t0 := (y6.sqE.mulE y4).mulE y5
  let t1 := (y3.mulE y5).mulE t0
  let t0 := t0.mulE y2
  let t1 := ((t1.sqE).mulE t0).sqE
  let t0 := t1.mulE y1
  let t1 := t1.mulE y0
  t0.sqE.mulE t1

def pairE (p : Pt) (q : Pt2) : F12 :=
  match p, q with
  | .aff bx bY, .aff ax ay => finalExpE (millerE ax ay bx bY)
  | _, _ => F12.one

namespace F2
theorem addE_eq : addE = add := rfl
theorem subE_eq : subE = sub := rfl
theorem negE_eq : negE = neg := rfl
theorem mulE_eq : mulE = mul := by
  funext a b
  show F2.mk ((a.x * b.y + a.y * b.x) % P) ((a.y * b.y + (P - a.x * b.x % P)) % P) = _
  simp only [mul, fadd, fsub, fmul, Nat.mod_mod, Nat.add_mod_mod, Nat.mod_add_mod]
theorem sqE_eq : sqE = sq := by
  funext a; rw [sqE, mulE_eq, sq]
theorem invE_eq : invE = inv := rfl
theorem conjE_eq : conjE = conj := rfl
theorem mulScalarE_eq : mulScalarE = mulScalar := rfl
theorem mulXiE_eq : mulXiE = mulXi := by
  funext a
  show F2.mk ((a.x + a.x + a.x + a.y) % P) ((a.y + a.y + a.y + (P - a.x % P)) % P) = _
  simp only [mulXi, fadd, fsub, Nat.mod_add_mod]
theorem dblE_eq : dblE = dbl := rfl
end F2

namespace F6
theorem negE_eq : negE = neg := by
  funext a; simp only [negE, neg, F2.negE_eq]
theorem addE_eq : addE = add := by
  funext a b; simp only [addE, add, F2.addE_eq]
theorem subE_eq : subE = sub := by
  funext a b; simp only [subE, sub, F2.subE_eq]
theorem mulE_eq : mulE = mul := by
  funext a b; simp only [mulE, mul, F2.mulE_eq, F2.addE_eq, F2.subE_eq, F2.mulXiE_eq]
theorem sqE_eq : sqE = sq := by
  funext a; simp only [sqE, sq, mulE_eq]
theorem mulScalarE_eq : mulScalarE = mulScalar := by
  funext a b; simp only [mulScalarE, mulScalar, F2.mulE_eq]
theorem mulGFPE_eq : mulGFPE = mulGFP := by
  funext a b; simp only [mulGFPE, mulGFP, F2.mulScalarE_eq]
theorem mulTauE_eq : mulTauE = mulTau := by
  funext a; simp only [mulTauE, mulTau, F2.mulXiE_eq]
theorem frobeniusE_eq : frobeniusE = frobenius := by
  funext a; simp only [frobeniusE, frobenius, F2.mulE_eq, F2.conjE_eq]
theorem frobeniusP2E_eq : frobeniusP2E = frobeniusP2 := by
  funext a; simp only [frobeniusP2E, frobeniusP2, F2.mulScalarE_eq]
theorem invE_eq : invE = inv := by
  funext a
  simp only [invE, inv, F2.mulE_eq, F2.addE_eq, F2.subE_eq, F2.mulXiE_eq, F2.sqE_eq, F2.invE_eq]
end F6

namespace F12
theorem conjE_eq : conjE = conj := by
  funext a; simp only [conjE, conj, F6.negE_eq]
theorem mulE_eq : mulE = mul := by
  funext a b; simp only [mulE, mul, F6.mulE_eq, F6.addE_eq, F6.mulTauE_eq]
theorem sqE_eq : sqE = sq := by
  funext a; simp only [sqE, sq, mulE_eq]
theorem frobeniusE_eq : frobeniusE = frobenius := by
  funext a; simp only [frobeniusE, frobenius, F6.frobeniusE_eq, F6.mulScalarE_eq]
theorem frobeniusP2E_eq : frobeniusP2E = frobeniusP2 := by
  funext a; simp only [frobeniusP2E, frobeniusP2, F6.frobeniusP2E_eq, F6.mulGFPE_eq]
theorem invE_eq : invE = inv := by
  funext a
  simp only [invE, inv, F6.invE_eq, F6.subE_eq, F6.sqE_eq, F6.mulTauE_eq, F6.negE_eq, F6.mulE_eq]
theorem expE_eq : expE = exp := by
  funext a k; simp only [expE, exp, mulE_eq, sqE_eq]
end F12

theorem lineAddE_eq : lineAddE = lineFunctionAdd := by
  funext r px py qx qy r2
  simp only [lineAddE, lineFunctionAdd, F2.mulE_eq, F2.addE_eq, F2.subE_eq, F2.sqE_eq, F2.dblE_eq,
    F2.negE_eq, F2.mulScalarE_eq]
theorem lineDoubleE_eq : lineDoubleE = lineFunctionDouble := by
  funext r qx qy
  simp only [lineDoubleE, lineFunctionDouble, F2.mulE_eq, F2.addE_eq, F2.subE_eq, F2.sqE_eq,
    F2.dblE_eq, F2.negE_eq, F2.mulScalarE_eq]
theorem mulLineE_eq : mulLineE = mulLine := by
  funext ret a b c
  simp only [mulLineE, mulLine, F6.mulE_eq, F6.mulScalarE_eq, F6.addE_eq, F6.subE_eq, F6.mulTauE_eq,
    F2.addE_eq]
theorem millerStepE_eq : millerStepE = millerStep := by
  funext ax ay bx bY r2 st d
  simp only [millerStepE, millerStep, lineDoubleE_eq, lineAddE_eq, mulLineE_eq, F12.sqE_eq, F2.negE_eq]
theorem millerE_eq : millerE = miller := by
  funext ax ay bx bY
  simp only [millerE, miller, millerStepE_eq, lineAddE_eq, mulLineE_eq, F2.sqE_eq, F2.mulE_eq,
    F2.conjE_eq, F2.mulScalarE_eq]
theorem finalExpE_eq : finalExpE = finalExponentiation := by
  funext inp
  simp only [finalExpE, finalExponentiation, F12.mulE_eq, F12.sqE_eq, F12.conjE_eq, F12.invE_eq,
    F12.frobeniusE_eq, F12.frobeniusP2E_eq, F12.expE_eq]

theorem pair_eq_pairE : pair = pairE := by
  funext p q
  unfold pairE
  rw [finalExpE_eq, millerE_eq]
  rfl

def F2.map (f : Nat → Nat) (v : F2) : F2 := ⟨f v.x, f v.y⟩
def F6.map (f : Nat → Nat) (v : F6) : F6 := ⟨v.x.map f, v.y.map f, v.z.map f⟩
def F12.map (f : Nat → Nat) (v : F12) : F12 := ⟨v.x.map f, v.y.map f⟩

open Rangers.Proofs.Bls14 in
theorem F12.marshal_eq_iff (a b : F12) :
    a.marshal = b.marshal ↔ a.map (· % 256 ^ 32) = b.map (· % 256 ^ 32) := by
  obtain ⟨⟨⟨a1, a2⟩, ⟨a3, a4⟩, ⟨a5, a6⟩⟩, ⟨⟨a7, a8⟩, ⟨a9, a10⟩, ⟨a11, a12⟩⟩⟩ := a
  obtain ⟨⟨⟨b1, b2⟩, ⟨b3, b4⟩, ⟨b5, b6⟩⟩, ⟨⟨b7, b8⟩, ⟨b9, b10⟩, ⟨b11, b12⟩⟩⟩ := b
  simp only [F12.marshal, F12.map, F6.map, F2.map, List.append_assoc, F12.mk.injEq, F6.mk.injEq,
    F2.mk.injEq, beFixed_eq_iff, and_assoc,
    List.append_eq_append_iff_of_size_eq_left ((beFixed_length 32 _).trans (beFixed_length 32 _).symm)]

theorem F12.marshal_beq (a b : F12) :
    (a.marshal == b.marshal) = (a.map (· % 256 ^ 32) == b.map (· % 256 ^ 32)) := by
  rw [Bool.eq_iff_iff, beq_iff_eq, beq_iff_eq, F12.marshal_eq_iff]

end Rangers.Model.Bls14
