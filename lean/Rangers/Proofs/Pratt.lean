import Mathlib.NumberTheory.LucasPrimality
import Mathlib.Data.ZMod.Basic
import Mathlib.Data.Nat.ModEq
import Mathlib.Tactic.Ring
import Mathlib.Tactic.NormNum.Prime
import Mathlib.Algebra.BigOperators.Group.List.Basic
/-!
Pratt certificates: a kernel-evaluable modular exponentiation with its correctness proof, the
Lucas step `p − 1 = ∏ qᵢ`, all `qᵢ` prime, `a^(p−1) = 1`, `a^((p−1)/qᵢ) ≠ 1` ⇒ `p` prime, and a
checker that runs the step down a list of certificate lines.
-/
namespace Rangers.Proofs.Pratt

/-- `a ^ e % m` with the exponent taken eight bits at a time: `a^e = (a^(e/256))^256 · a^(e%256)`.
    The two small powers are single calls of the kernel's built-in `Nat.pow`, so an evaluation costs
    one unfolding per exponent BYTE, not per bit. -/
def powModAux (a m : ℕ) : ℕ → ℕ → ℕ
  | 0, _ => 1 % m
  | fuel + 1, e =>
    if e = 0 then 1 % m else powModAux a m fuel (e / 256) ^ 256 % m * (a ^ (e % 256) % m) % m

def powMod (a e m : ℕ) : ℕ := powModAux a m 32 e

theorem powModAux_spec (a m fuel e : ℕ) (he : e < 256 ^ fuel) : powModAux a m fuel e = a ^ e % m := by
  induction fuel generalizing e with
  | zero =>
    have : e = 0 := by simpa using he
    subst this; simp [powModAux]
  | succ fuel ih =>
    rw [powModAux]
    split
    · rename_i h0; subst h0; simp
    · have he' : e / 256 < 256 ^ fuel := Nat.div_lt_of_lt_mul (by rw [← Nat.pow_succ']; exact he)
      conv_rhs => rw [← Nat.div_add_mod e 256, pow_add, mul_comm 256, pow_mul, Nat.mul_mod, Nat.pow_mod]
      rw [ih _ he']

theorem powMod_spec (a e m : ℕ) (he : e < 2 ^ 256) : powMod a e m = a ^ e % m :=
  powModAux_spec a m 32 e (by rw [show (256 : ℕ) ^ 32 = 2 ^ 256 by norm_num]; exact he)

theorem zmod_pow_eq_one_iff (p a n : ℕ) (hp : 1 < p) :
    ((a : ZMod p) ^ n = 1) ↔ a ^ n % p = 1 := by
  have : ((a : ZMod p) ^ n = 1) ↔ (((a ^ n : ℕ) : ZMod p) = ((1 : ℕ) : ZMod p)) := by push_cast; rfl
  rw [this, ZMod.natCast_eq_natCast_iff', Nat.mod_eq_of_lt hp]

theorem pratt_step (p a : ℕ) (l : List ℕ) (hp : 1 < p) (hpb : p < 2 ^ 256)
    (hl : ∀ x ∈ l, Nat.Prime x) (hprod : l.prod = p - 1)
    (h1 : powMod a (p - 1) p = 1)
    (hq : l.all (fun x => powMod a ((p - 1) / x) p != 1) = true) : Nat.Prime p := by
  apply lucas_primality p (a : ZMod p)
  · rw [zmod_pow_eq_one_iff p a _ hp, ← powMod_spec a (p - 1) p (by omega)]; exact h1
  · intro q hqp hqd
    rw [← hprod] at hqd
    obtain ⟨x, hx, hdx⟩ := (Prime.dvd_prod_iff (Nat.Prime.prime hqp)).mp hqd
    have hqx : q = x := (Nat.prime_dvd_prime_iff_eq hqp (hl x hx)).mp hdx
    subst hqx
    rw [Ne, zmod_pow_eq_one_iff p a _ hp,
      ← powMod_spec a ((p - 1) / q) p (lt_of_le_of_lt (Nat.div_le_self _ _) (by omega))]
    have := List.all_eq_true.mp hq q hx
    simpa using this

/-- one line of a Pratt certificate: a witness `a` for `p` and the prime factors of `p − 1` with multiplicity -/
structure Line where
  p : ℕ
  a : ℕ
  qs : List ℕ

def smallPrimes : List ℕ :=
  [2, 3, 5, 7, 11, 13, 17, 19, 23, 29, 31, 37, 41, 43, 47, 53, 59, 61, 67, 71, 73, 79, 83, 89, 97]

theorem smallPrimes_prime : ∀ q ∈ smallPrimes, Nat.Prime q := by
  simp only [smallPrimes, List.forall_mem_cons]
  norm_num

def Line.ok (l : Line) (later : List Line) : Bool :=
  decide (1 < l.p) && decide (l.p < 2 ^ 256) &&
    l.qs.all (fun q => smallPrimes.contains q || later.any (fun m => m.p == q)) &&
    l.qs.prod == l.p - 1 && powMod l.a (l.p - 1) l.p == 1 &&
    l.qs.all (fun q => powMod l.a ((l.p - 1) / q) l.p != 1)

def check : List Line → Bool
  | [] => true
  | l :: ls => l.ok ls && check ls

theorem check_sound (ls : List Line) (h : check ls = true) : ∀ l ∈ ls, Nat.Prime l.p := by
  induction ls with
  | nil => intro l hl; cases hl
  | cons l ls ih =>
    simp only [check, Line.ok, Bool.and_eq_true, decide_eq_true_eq, beq_iff_eq] at h
    obtain ⟨⟨⟨⟨⟨⟨h1, h256⟩, hfac⟩, hprod⟩, hpow⟩, hord⟩, hrest⟩ := h
    have ih := ih hrest
    intro l' hl'
    rcases List.mem_cons.mp hl' with rfl | hl'
    · refine pratt_step l'.p l'.a l'.qs h1 h256 (fun q hq => ?_) hprod hpow hord
      have := List.all_eq_true.mp hfac q hq
      simp only [Bool.or_eq_true, List.contains_iff_mem, List.any_eq_true, beq_iff_eq] at this
      rcases this with hs | ⟨m, hm, rfl⟩
      · exact smallPrimes_prime q hs
      · exact ih m hm
    · exact ih l' hl'

end Rangers.Proofs.Pratt
