import Rangers.Model.Evm11Gas
import Rangers.Proofs.BitLen
/-!
C11 — what the `dynamicGas` functions charge: the forwarded gas and the stipend of the call family,
and the memory fee of every function that prices a memory expansion.  First the uint64 basics: where
`wadd`, `wsub`, `wmul`, `safeAdd` are exact.
-/
namespace Rangers.Proofs.Evm11
open Rangers.Evm11

theorem wadd_le (a b : Nat) : wadd a b ≤ a + b := by unfold wadd; exact Nat.mod_le _ _
theorem wadd_lt (a b : Nat) : wadd a b < 2 ^ 64 := by unfold wadd; omega

theorem safeAdd_ok {a b : Nat} (h : ¬ (safeAdd a b).2 = true) : (safeAdd a b).1 = a + b := by
  unfold safeAdd wadd at *
  simp only [ge_iff_le, decide_eq_true_eq, Nat.not_le] at h
  simp only; omega

theorem wsub_exact (a b : Nat) (ha : a < 2 ^ 64) (h : b ≤ a) : wsub a b = a - b := by
  unfold wsub
  rw [Nat.mod_eq_of_lt ha, Nat.mod_eq_of_lt (Nat.lt_of_le_of_lt h ha), Nat.sub_add_comm h, Nat.add_mod_right,
    Nat.mod_eq_of_lt (Nat.lt_of_le_of_lt (Nat.sub_le a b) ha)]

/-- also where the minuend is no uint64: the wrapped difference is below 2^64 -/
theorem wsub_le (a b : Nat) (h : b ≤ a) : wsub a b ≤ a := by
  by_cases ha : a < 2 ^ 64
  · rw [wsub_exact a b ha h]; exact Nat.sub_le a b
  · exact Nat.le_trans (Nat.le_of_lt (Nat.mod_lt _ (Nat.two_pow_pos 64))) (Nat.le_of_not_lt ha)

theorem wmul_exact {a b : Nat} (h : a * b < 2 ^ 64) : wmul a b = a * b := Nat.mod_eq_of_lt h

theorem wadd_exact {a b : Nat} (h : a + b < 2 ^ 64) : wadd a b = a + b := Nat.mod_eq_of_lt h

theorem magnify_ge {p26 : Bool} {gas r : Nat} (h : magnify p26 gas = some r) : gas ≤ r := by
  unfold magnify safeMul wmul gasMagnification at h
  split at h
  · simp only at h
    split at h
    · cases h
    · rename_i hov
      simp only [ge_iff_le, decide_eq_true_eq, Nat.not_le] at hov
      cases h
      rw [Nat.mod_eq_of_lt hov]; omega
  · cases h; omega

def usesMem : DynFn → Bool
  | .pureMem | .copier _ | .sha3 | .create2 | .log _ | .call | .callcode | .delegatecall | .staticcall | .authcall => true
  | _ => false

/-- the 2300 stipend a value-bearing CALL / CALLCODE adds to the forwarded gas -/
def stipendOf (f : DynFn) (s : List Word) : Nat :=
  match f with
  | .call | .callcode => if back s 2 ≠ 0 then 2300 else 0
  | _ => 0

theorem wordCopyGas_mem {p26 : Bool} {m m' : Mem} {ms : Nat} {w : Word} {per r : Nat}
    (h : wordCopyGas p26 m ms w per = some (r, m')) :
    ∃ fee, memoryGasCost p26 m ms = some (fee, m') ∧ fee ≤ r := by
  unfold wordCopyGas at h
  split at h
  · cases h
  rename_i gas m1 hmg
  simp only at h
  by_cases hw : ¬ w < 2 ^ 64
  · rw [if_pos hw] at h; cases h
  rw [if_neg hw] at h
  by_cases h1 : (safeMul (toWordSize w) per).2 = true
  · rw [if_pos h1] at h; cases h
  rw [if_neg h1] at h
  by_cases hov : (safeAdd gas (safeMul (toWordSize w) per).1).2 = true
  · rw [if_pos hov] at h; cases h
  rw [if_neg hov] at h
  split at h
  · cases h
  rename_i r' hr
  cases h
  have := safeAdd_ok hov
  have := magnify_ge hr
  exact ⟨gas, hmg, by omega⟩

theorem logGas_fee {p26 : Bool} {n : Nat} {m m' : Mem} {ms : Nat} {req r : Nat}
    (h : logGas p26 n m ms req = some (r, m')) :
    ∃ fee, memoryGasCost p26 m ms = some (fee, m') ∧ fee + 375 ≤ r := by
  unfold logGas at h
  by_cases hreq : ¬ req < 2 ^ 64
  · rw [if_pos hreq] at h; cases h
  rw [if_neg hreq] at h
  split at h
  · cases h
  rename_i gas m1 hmg
  simp only at h
  by_cases h1 : (safeAdd gas 375).2 = true
  · rw [if_pos h1] at h; cases h
  rw [if_neg h1] at h
  by_cases h2 : (safeAdd (safeAdd gas 375).1 (wmul n 375)).2 = true
  · rw [if_pos h2] at h; cases h
  rw [if_neg h2] at h
  by_cases h3 : (safeMul req 8).2 = true
  · rw [if_pos h3] at h; cases h
  rw [if_neg h3] at h
  by_cases h4 : (safeAdd (safeAdd (safeAdd gas 375).1 (wmul n 375)).1 (safeMul req 8).1).2 = true
  · rw [if_pos h4] at h; cases h
  rw [if_neg h4] at h
  split at h
  · cases h
  rename_i r' hr
  cases h
  have e1 := safeAdd_ok h1
  have e2 := safeAdd_ok h2
  have e4 := safeAdd_ok h4
  have := magnify_ge hr
  exact ⟨gas, hmg, by omega⟩

theorem bitLen_le (x : Nat) : bitLen (x % W256) ≤ 256 :=
  BitLen.le_iff.2 (Nat.mod_lt _ (Nat.two_pow_pos 256))

theorem expGas_ge {p26 : Bool} {per : Nat} {e r : Nat} (hper : per ≤ 50) (h : expGas p26 per e = some r) : 10 ≤ r := by
  unfold expGas at h
  simp only at h
  have hb := bitLen_le e
  have hmul : (bitLen (e % W256) + 7) / 8 * per ≤ 32 * 50 := Nat.mul_le_mul (by omega) hper
  have e0 : wmul ((bitLen (e % W256) + 7) / 8) per = (bitLen (e % W256) + 7) / 8 * per := by unfold wmul; omega
  rw [e0] at h
  split at h
  · cases h
  · rename_i h1
    have e1 := safeAdd_ok h1
    rw [e1] at h
    split at h
    · cases h
      unfold wmul gasMagnification
      rw [Nat.mod_eq_of_lt (by omega)]; omega
    · cases h; omega

theorem finishCall_mem {avail base : Nat} {cc : Word} {m m' : Mem} {g g' : Global} {cost cgt : Nat}
    (h : finishCall avail base cc m g = .ok cost m' g' cgt) : m' = m ∧ base + cgt = cost := by
  unfold finishCall at h
  simp only at h
  split at h
  · cases h
  · rename_i hov
    cases h
    have := safeAdd_ok hov
    exact ⟨rfl, by omega⟩

/-- the gas functions of operations whose constant gas may be zero: LOGn and EXP -/
def dynCosts : DynFn → Bool
  | .log _ | .expFrontier | .expEIP158 => true
  | _ => false

/-- What a successful gas function has charged: `cost` covers the forwarded gas `cgt` (Go's `callGasTemp`; 0 outside
    the call family) with the stipend, and where the function prices memory also the fee of `memoryGasCost` for `ms`
    bytes, whose record `m'` is all it changes of the memory `m`. -/
structure DynOk (gc : GasCfg) (f : DynFn) (s : List Word) (m : Mem) (ms : Nat) (cost : Nat) (m' : Mem) (cgt : Nat) :
    Prop where
  fwd : cgt + stipendOf f s ≤ cost
  /-- the stipend is given out of the 9000 that CALL / CALLCODE charge for a value transfer -/
  value : f = .call ∨ f = .callcode → back s 2 ≠ 0 → cgt + 9000 ≤ cost
  same : usesMem f = false → m' = m
  /-- `fee < 2^63` holds of every fee below the memory guard; AUTHCALL's unchecked additions need it -/
  paid : usesMem f = true → ∃ fee, memoryGasCost gc.p26 m ms = some (fee, m') ∧
    (fee < 2 ^ 63 → fee + cgt + stipendOf f s ≤ cost)
  pos : dynCosts f = true → 10 ≤ cost

theorem DynOk.free {gc : GasCfg} {f : DynFn} {s : List Word} {m : Mem} {ms cost : Nat}
    (hu : usesMem f = false) (hs : stipendOf f s = 0) (hpos : dynCosts f = true → 10 ≤ cost := by nofun) :
    DynOk gc f s m ms cost m 0 :=
  ⟨by omega, fun hf => (by rcases hf with rfl | rfl <;> cases hu), fun _ => rfl, fun h => (by rw [hu] at h; cases h), hpos⟩

theorem DynOk.mem {gc : GasCfg} {f : DynFn} {s : List Word} {m m' : Mem} {ms cost cgt fee : Nat}
    (hu : usesMem f = true) (hmg : memoryGasCost gc.p26 m ms = some (fee, m'))
    (hle : fee < 2 ^ 63 → fee + cgt + stipendOf f s ≤ cost) (hfwd : cgt + stipendOf f s ≤ cost)
    (hpos : dynCosts f = true → 10 ≤ cost := by nofun)
    (hval : f = .call ∨ f = .callcode → back s 2 ≠ 0 → cgt + 9000 ≤ cost := by nofun) : DynOk gc f s m ms cost m' cgt :=
  ⟨hfwd, hval, fun h => (by rw [hu] at h; cases h), fun _ => ⟨fee, hmg, hle⟩, hpos⟩

/-- `gasAuthCall` adds the access-list, value-transfer and new-account charges to the memory fee with plain `+`:
    below 2^63 none of them wraps, so the base cost `d2` still contains the fee -/
theorem authcall_base_ge {fee d1 d2 : Nat} (hb : fee < 2 ^ 63) (h1 : d1 = fee ∨ d1 = wadd fee 2500)
    (h2 : d2 = d1 ∨ ∃ x, x ≤ 25000 ∧ d2 = wadd (wadd d1 6700) x) : fee ≤ d2 := by
  have e1 : fee ≤ d1 ∧ d1 ≤ fee + 2500 := by
    rcases h1 with h1 | h1
    · omega
    · rw [h1, wadd_exact (by omega)]; omega
  rcases h2 with h2 | ⟨x, hx, h2⟩
  · omega
  · rw [h2, wadd_exact (a := d1) (by omega), wadd_exact (by omega)]; omega

theorem dynGas_ok {gc : GasCfg} {f : DynFn} {s : List Word} {m m' : Mem} {ms gas self : Nat} {g g' : Global}
    {cost cgt : Nat} (h : dynGas gc f s m ms gas self g = .ok cost m' g' cgt) : DynOk gc f s m ms cost m' cgt := by
  cases f with
  | none => cases h; exact .free rfl rfl
  | unknown => cases h
  | pureMem =>
    simp only [dynGas] at h
    split at h
    · cases h
    · rename_i fee m1 hmg; cases h; exact .mem rfl hmg (fun _ => Nat.le_refl _) (Nat.zero_le _)
  | copier _ | sha3 | create2 =>
    simp only [dynGas] at h
    split at h
    · cases h
    · rename_i r m1 hw; cases h
      obtain ⟨fee, hmg, hle⟩ := wordCopyGas_mem hw
      exact .mem rfl hmg (fun _ => hle) (Nat.zero_le _)
  | log n =>
    simp only [dynGas] at h
    split at h
    · cases h
    · rename_i r m1 hw; cases h
      obtain ⟨fee, hmg, hle⟩ := logGas_fee hw
      exact .mem rfl hmg (fun _ => by simp only [stipendOf]; omega) (Nat.zero_le _) (fun _ => by omega)
  | sstore | sstore2200 =>
    simp only [dynGas] at h
    by_cases h26 : gc.p26 = true
    · rw [if_pos h26] at h; cases h; exact .free rfl rfl
    rw [if_neg h26] at h
    by_cases h15 : gc.p15 = true
    · rw [if_pos h15] at h; cases h; exact .free rfl rfl
    · rw [if_neg h15] at h; cases h; exact .free rfl rfl
  | expFrontier | expEIP158 =>
    simp only [dynGas] at h
    split at h <;> cases h
    rename_i hexp
    exact .free rfl rfl (fun _ => expGas_ge (by omega) hexp)
  | selfdestruct =>
    simp only [dynGas] at h
    repeat' split at h
    all_goals first | (cases h; done) | (cases h; exact .free rfl rfl)
  | call =>
    simp only [dynGas] at h
    split at h
    · cases h
    · rename_i gasv g1 hr
      split at h
      · cases h
      · rename_i memGas m1 hmg
        by_cases hov : (safeAdd gasv memGas).2 = true
        · rw [if_pos hov] at h; cases h
        · rw [if_neg hov] at h
          have := safeAdd_ok hov
          obtain ⟨rfl, hb⟩ := finishCall_mem h
          have hval : back s 2 ≠ 0 → 9000 ≤ gasv := fun hv => by
            rw [if_pos hv] at hr
            split at hr
            · simp only [Option.some.injEq, Prod.mk.injEq] at hr; omega
            · cases hr
          have hst : stipendOf .call s ≤ gasv := by
            simp only [stipendOf]
            split
            · have := hval ‹_›; omega
            · omega
          exact .mem rfl hmg (fun _ => by omega) (by omega) (hval := fun _ hv => by have := hval hv; omega)
  | callcode =>
    simp only [dynGas] at h
    split at h
    · cases h
    · rename_i memGas m1 hmg
      generalize hbv : (if back s 2 ≠ 0 then 9000 else 0) = bv at h
      by_cases hov : (safeAdd bv memGas).2 = true
      · rw [if_pos hov] at h; cases h
      · rw [if_neg hov] at h
        have := safeAdd_ok hov
        obtain ⟨rfl, hb⟩ := finishCall_mem h
        have hst : stipendOf .callcode s ≤ bv := by
          unfold stipendOf
          simp only
          split
          · rename_i hv; rw [if_pos hv] at hbv; omega
          · omega
        exact .mem rfl hmg (fun _ => by omega) (by omega) (hval := fun _ hv => by rw [if_pos hv] at hbv; omega)
  | delegatecall | staticcall =>
    simp only [dynGas] at h
    split at h
    · cases h
    · rename_i memGas m1 hmg
      obtain ⟨rfl, hb⟩ := finishCall_mem h
      exact .mem rfl hmg (fun _ => by simp only [stipendOf]; omega) (by simp only [stipendOf]; omega)
  | authcall =>
    simp only [dynGas] at h
    split at h
    · cases h
    · rename_i memGas m1 hmg
      split at h
      · cases h
      · rename_i inList g1 _
        split at h
        · cases h
        · rename_i d1 g2 hr1
          have hd1 : d1 = memGas ∨ d1 = wadd memGas 2500 := by
            split at hr1
            · simp only [Option.some.injEq, Prod.mk.injEq] at hr1
              exact .inl hr1.1.symm
            · split at hr1
              · simp only [Option.some.injEq, Prod.mk.injEq] at hr1
                exact .inr hr1.1.symm
              · cases hr1
          split at h
          · cases h
          · rename_i d2 g3 hr2
            have hd2 : d2 = d1 ∨ ∃ x, x ≤ 25000 ∧ d2 = wadd (wadd d1 6700) x := by
              split at hr2
              · split at hr2
                · simp only [Option.some.injEq, Prod.mk.injEq] at hr2
                  refine .inr ⟨_, ?_, hr2.1.symm⟩
                  split <;> omega
                · cases hr2
              · simp only [Option.some.injEq, Prod.mk.injEq] at hr2
                exact .inl hr2.1.symm
            by_cases hov : (safeAdd d2 (authCallGas gas d2 (back s 1))).2 = true
            · rw [if_pos hov] at h; cases h
            · rw [if_neg hov] at h
              have := safeAdd_ok hov
              simp only [DynRes.ok.injEq] at h
              obtain ⟨hc, hm, _, hcg⟩ := h
              subst hm
              refine .mem rfl hmg (fun hb => ?_) (by simp only [stipendOf]; omega)
              have := authcall_base_ge hb hd1 hd2
              simp only [stipendOf]
              omega

end Rangers.Proofs.Evm11
