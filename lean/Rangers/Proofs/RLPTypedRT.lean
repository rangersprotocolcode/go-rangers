import Rangers.Proofs.RLPTypedSound
/-! Lossless direction for the typed coders: definitions (`WFV`, `norm`, fuel), what they say about
    nil pointers and untouched values, and that a successful decode consumes exactly one framed value. -/
namespace Rangers.RLP
open Rangers

/-- element types a nil (non-`rlp:"nil"`) pointer can point to such that its encoding decodes again -/
def nilDecodable : Ty → Bool
  | .uint _ => true
  | .big => true
  | .bool => true
  | .str => true
  | .bytes => true
  | .slice _ => true
  | .any => true
  | _ => false

/-- the Go zero value of those element types -/
def zeroVal : Ty → Val
  | .uint _ => .num 0
  | .big => .num 0
  | .bool => .bool false
  | .str => .bytes []
  | .bytes => .bytes []
  | .slice _ => .list []
  | .any => .list []
  | _ => .nil

def goWidth (bits : Nat) : Prop := bits = 8 ∨ bits = 16 ∨ bits = 32 ∨ bits = 64

mutual
  /-- Values of type `ty` the encoder is specified for: integers in range, arrays of the right
      length, payloads < 2^64, raw values that are one RLP item, nil pointers only where Go-RLP can
      decode them back, `rlp:"nil"` pointers only to values with a non-empty encoding. -/
  def WFV : Ty → Val → Prop
    | .uint bits, .num n => goWidth bits ∧ n < 2 ^ bits
    | .big, .num n => (toBE n).length < 2 ^ 64
    | .big, .nil => True
    | .bool, .bool _ => True
    | .str, .bytes b => b.length < 2 ^ 64
    | .bytes, .bytes b => b.length < 2 ^ 64
    | .barr n, .bytes b => b.length = n ∧ n < 2 ^ 64
    | .raw, .bytes b => ∃ k ts cs, readHead b = .ok (k, ts, cs) ∧ ts + cs = b.length
    | .any, .bytes b => b.length < 2 ^ 64
    | .any, .list vs => WFVs .any vs ∧ (∀ p, encElems .any vs = .ok p → p.length < 2 ^ 64)
    | .any, .nil => True
    | .slice e, .list vs => WFVs e vs ∧ (∀ p, encElems e vs = .ok p → p.length < 2 ^ 64)
    | .arr n e, .list vs => vs.length = n ∧ WFVs e vs ∧ (∀ p, encElems e vs = .ok p → p.length < 2 ^ 64)
    | .ptr e, .nil => nilDecodable e = true ∧ (∀ bits, e = .uint bits → goWidth bits)
    | .ptr e, .some v => WFV e v
    | .struct fs, .list vs => WFF fs vs ∧ (∀ p, encFields fs vs = .ok p → p.length < 2 ^ 64)
    | _, _ => False
  def WFVs : Ty → List Val → Prop
    | _, [] => True
    | e, v :: vs => WFV e v ∧ WFVs e vs
  def WFF : List (Tag × Ty) → List Val → Prop
    | [], [] => True
    | (.tail, .slice e) :: [], [.list vs] => WFVs e vs
    | (.none, ty) :: fs, v :: vs => WFV ty v ∧ WFF fs vs
    | (.nilOK, .ptr e) :: fs, .nil :: vs => (nilEnc e = [0x80] ∨ nilEnc e = [0xc0]) ∧ WFF fs vs
    | (.nilOK, .ptr e) :: fs, (.some v) :: vs =>
      WFV e v ∧ (∀ enc, encT e v = .ok enc → enc ≠ [0x80] ∧ enc ≠ [0xc0]) ∧ WFF fs vs
    | _, _ => False
end

mutual
  /-- What decoding the encoding returns: nil pointers / nil `*big.Int` / nil `interface{}` come back
      as the zero value (documented Go-RLP behaviour), everything else unchanged. -/
  def norm : Ty → Val → Val
    | .big, .nil => .num 0
    | .any, .nil => .list []
    | .any, .list vs => .list (normL .any vs)
    | .slice e, .list vs => .list (normL e vs)
    | .arr _ e, .list vs => .list (normL e vs)
    | .ptr e, .nil => .some (zeroVal e)
    | .ptr e, .some v => .some (norm e v)
    | .struct fs, .list vs => .list (normF fs vs)
    | _, v => v
  def normL : Ty → List Val → List Val
    | _, [] => []
    | e, v :: vs => norm e v :: normL e vs
  def normF : List (Tag × Ty) → List Val → List Val
    | (.tail, .slice e) :: [], [.list vs] => [.list (normL e vs)]
    | (.nilOK, .ptr _) :: fs, .nil :: vs => .nil :: normF fs vs
    | (.nilOK, .ptr e) :: fs, (.some v) :: vs => .some (norm e v) :: normF fs vs
    | (.none, ty) :: fs, v :: vs => norm ty v :: normF fs vs
    | _, vs => vs
end

/-- `interface{}` costs one extra level (`decodeInterface` dispatches to the slice / bytes decoder) -/
def anyExtra : Ty → Nat
  | .any => 1
  | _ => 0

mutual
  /-- Fuel that certainly suffices to decode the encoding of `v`, from the value alone.  Every call
      passes one unit less and `anyExtra` may cost one more: hence the 2 per pointer and per element.
      The other constants are generous: a leaf would do with 1, and `nil` only has to exceed the zero
      value of its element type, which a nil pointer is read as (`nil_as_zero`: at most 9). -/
  def vfuel : Val → Nat
    | .list vs => 4 + efuel vs
    | .some v => 2 + vfuel v
    | .nil => 12
    | _ => 8
  def efuel : List Val → Nat
    | [] => 1
    | v :: vs => 2 + vfuel v + efuel vs
end

theorem pow256_eq (bits : Nat) (h : goWidth bits) : 256 ^ (bits / 8) = 2 ^ bits := by
  rcases h with h | h | h | h <;> subst h <;> decide

theorem uintOf_complete (bits n : Nat) (rest : Bytes) (hw : goWidth bits) (hn : n < 2 ^ bits) :
    uintOf bits (encUint n ++ rest) = .ok (n, rest) := by
  have hb8 : bits / 8 ≤ 8 := by rcases hw with h | h | h | h <;> subst h <;> decide
  have hl : (toBE n).length ≤ bits / 8 := toBE_length_le _ n (by rw [pow256_eq bits hw]; exact hn)
  rw [encUint_eq_encString (by omega)]
  exact uintOf_ok_iff.2 ⟨bytesOf_ok_iff.2 ⟨rfl, by omega⟩, Or.inl hl⟩

/-- closes `∃ k ts cs, readHead buf = ok (k,ts,cs) ∧ rest = buf.drop (ts+cs)` from `h : (decoder body) = ok (v, rest)`
    where the body starts with `match readHead buf` and every success returns `buf.drop (ts + cs)` -/
macro "leaf_rest" h:ident : tactic => `(tactic| (
  cases hk : readHead _ with
  | error e => rw [hk] at $h:ident; cases $h:ident
  | ok r =>
    obtain ⟨k, ts, cs⟩ := r
    rw [hk] at $h:ident
    refine ⟨k, ts, cs, rfl, ?_⟩
    (try simp only at $h:ident)
    cases k <;> (try simp only at $h:ident) <;> (repeat' (split at $h:ident)) <;>
      first
        | (cases $h:ident; done)
        | (simp only [Except.ok.injEq, Prod.mk.injEq] at $h:ident; exact ($h).2.symm)
        | (simp at $h:ident; done)))

theorem onCut_framed {α : Type} {buf rest : Bytes} {g : Kind → Bytes → Except Err α} {a : α}
    (h : onCut buf g = .ok (a, rest)) : ∃ k c, buf = frame k c ++ rest ∧ Framed k c :=
  let ⟨k, c, hb, hf, _⟩ := onCut_ok_iff.1 h
  ⟨k, c, hb, hf⟩

theorem decT_consumes : ∀ f ty buf v rest, decT f ty buf = .ok (v, rest) →
    ∃ k c, buf = frame k c ++ rest ∧ Framed k c := by
  intro f
  induction f with
  | zero => nofun
  | succ f ih =>
    intro ty buf v rest h
    cases ty with
    | ptr e =>
      rw [decT_ptr] at h
      obtain ⟨⟨v', rest'⟩, hd, h⟩ := bind_ok_iff.1 h
      cases h
      exact ih e buf v' rest' hd
    | any =>
      rw [decT_any] at h
      obtain ⟨⟨k, c, r⟩, _, h⟩ := bind_ok_iff.1 h
      cases k <;> exact ih _ buf v rest h
    | slice e => rw [decT_slice] at h; exact onCut_framed h
    | arr n e => rw [decT_arr] at h; exact onCut_framed h
    | struct fs => rw [decT_struct] at h; exact onCut_framed h
    | raw => rw [decT_raw] at h; exact onCut_framed h
    | barr n => rw [decT_barr] at h; exact onCut_framed h
    | uint bits =>
      rw [decT_uint, uintOf_eq] at h
      obtain ⟨r, hu, h⟩ := bind_ok_iff.1 h
      cases h
      exact onCut_framed hu
    | bool =>
      rw [decT_bool, uintOf_eq] at h
      obtain ⟨⟨n, rest'⟩, hu, h⟩ := bind_ok_iff.1 h
      have hr : rest' = rest := by
        simp only at h
        split at h
        · cases h; rfl
        · split at h
          · cases h; rfl
          · cases h
      rw [← hr]; exact onCut_framed hu
    | big =>
      rw [decT_big, bytesOf_eq] at h
      obtain ⟨r, hu, h⟩ := bind_ok_iff.1 h
      obtain ⟨n, _, h⟩ := bind_ok_iff.1 h
      cases h
      exact onCut_framed hu
    | str =>
      rw [decT_str, bytesOf_eq] at h
      obtain ⟨r, hu, h⟩ := bind_ok_iff.1 h
      cases h
      exact onCut_framed hu
    | bytes =>
      rw [decT_bytes, bytesOf_eq] at h
      obtain ⟨r, hu, h⟩ := bind_ok_iff.1 h
      cases h
      exact onCut_framed hu

theorem decT_shorter {f : Nat} {ty : Ty} {buf rest : Bytes} {v : Val}
    (h : decT f ty buf = .ok (v, rest)) : rest.length < buf.length := by
  obtain ⟨k, c, rfl, hf⟩ := decT_consumes f ty buf v rest h
  have := (frame_length hf).1
  rw [List.length_append]; omega

theorem vfuel_pos (v : Val) : 1 ≤ vfuel v := by cases v <;> simp [vfuel] <;> omega
theorem efuel_pos (vs : List Val) : 1 ≤ efuel vs := by cases vs <;> simp [efuel] <;> omega

theorem anyExtra_le (ty : Ty) : anyExtra ty ≤ 1 := by cases ty <;> simp [anyExtra]

theorem nil_as_zero {e : Ty} (hd : nilDecodable e = true) (hw : ∀ bits, e = .uint bits → goWidth bits) :
    WFV e (zeroVal e) ∧ encT e (zeroVal e) = .ok (nilEnc e) ∧ norm e (zeroVal e) = zeroVal e ∧
      vfuel (zeroVal e) + anyExtra e ≤ 9 := by
  have hlist : ∀ e' : Ty, WFVs e' [] ∧ ∀ p, encElems e' [] = .ok p → p.length < 2 ^ 64 :=
    fun e' => ⟨trivial, fun p hp => by rw [encElems_nil] at hp; cases hp; decide⟩
  cases e with
  | uint bits =>
    have hpos : 0 < 2 ^ bits := Nat.pow_pos (by omega)
    exact ⟨⟨hw bits rfl, hpos⟩, by rw [zeroVal, encT_uint, if_pos hpos]; rfl, rfl, Nat.le_succ 8⟩
  | big => exact ⟨show (toBE 0).length < 2 ^ 64 by decide, rfl, rfl, Nat.le_succ 8⟩
  | bool => exact ⟨trivial, rfl, rfl, Nat.le_succ 8⟩
  | str | bytes => exact ⟨show ([] : Bytes).length < 2 ^ 64 by decide, rfl, rfl, Nat.le_succ 8⟩
  | slice e' => exact ⟨hlist e', rfl, rfl, show 4 + 1 + 0 ≤ 9 by decide⟩
  | any => exact ⟨hlist .any, rfl, rfl, show 4 + 1 + 1 ≤ 9 by decide⟩
  | _ => cases hd

theorem norm_leaf {ty : Ty} (hl : ty.leaf = true) (hb : ty ≠ .big) (v : Val) : norm ty v = v := by
  cases ty with
  | big => exact absurd rfl hb
  | any | slice _ | arr _ _ | ptr _ | struct _ => cases hl
  | _ => cases v <;> simp only [norm]

theorem normL_id {e : Ty} (h : ∀ v, norm e v = v) : ∀ vs, normL e vs = vs := by
  intro vs
  induction vs with
  | nil => rw [normL]
  | cons v vs ih => rw [normL, h, ih]

theorem normF_none_id {fs : List (Tag × Ty)} (h : ∀ p ∈ fs, p.1 = Tag.none ∧ ∀ v, norm p.2 v = v) :
    ∀ vs, normF fs vs = vs := by
  induction fs with
  | nil => intro vs; cases vs <;> rfl
  | cons p fs ih =>
    obtain ⟨tag, ty⟩ := p
    obtain ⟨ht, hn⟩ := h _ (List.mem_cons_self ..)
    simp only at ht hn
    subst ht
    intro vs
    cases vs with
    | nil => rfl
    | cons v vs' =>
      simp only [normF]
      rw [hn, ih (fun p hp => h p (List.mem_cons_of_mem _ hp))]

end Rangers.RLP
