import Rangers.Proofs.C13G1Law
import Rangers.Proofs.BigEndian
/-! The two affine G1 models (`Model.G1` of C13, `Model.Bls14.Pt` of C14) are the same functions on
    valid points: `neg/double/add/isOnCurve` by `Proofs/Bls14BridgeC13.lean`, `mul` and `marshal` here; the two
    decoders are the same function on every byte string (`unmarshal_models_agree`). -/
namespace Rangers.Proofs.C13G1
open Rangers Rangers.Model Rangers.Model.Bls14 Rangers.Proofs.Bls14 Rangers.Proofs.C13 Rangers.Generated

theorem padLeft_natToBE_eq_beFixed (w n : Nat) (h : n < 256 ^ w) : padLeft w (natToBE n) = beFixed w n :=
  beToNat_inj ((padLeft_length w _ ((natToBE_length_le_iff w n).2 h)).trans (beFixed_length w n).symm)
    (by rw [beToNat_padLeft, beToNat_natToBE, beToNat_beFixed_of_lt w n h])

theorem unmarshal_models_agree (m : Bytes) :
    G1.unmarshal bnCurve m =
      if m.length < 64 then .short
      else if (g1Read m).onCurve = true then .ok (conv (g1Read m)) else .malformed (conv (g1Read m)) := by
  refine ite_congr rfl (fun _ => rfl) fun _ => ?_
  show (if fieldAt m 0 % P = 0 ∧ fieldAt m 1 % P = 0 then G1.Unm.ok .inf else _) = _
  rw [g1Read, ptOfCoords]
  split
  · rfl
  · exact if_congr (Eq.to_iff (congrArg (· = true) (c13_isOnCurve _ _))) rfl rfl

theorem deserializeSign_models_agree (b : Bytes) :
    G1.deserializeSign bnCurve b = if b.length < 64 then none else some (conv (g1Read b)) := by
  rw [G1.deserializeSign, unmarshal_models_agree]
  by_cases h : b.length < 64
  · rw [if_pos h, if_pos h]
    split <;> rfl
  · rw [if_neg h, if_neg h, if_neg (by omega)]
    cases (g1Read b).onCurve <;> rfl

variable [hp : Fact (Nat.Prime P)]

theorem c13_eq_bnCurve : c13 = bnCurve := rfl

/-- The bound is that of the C14 loop (`bitsLE 512`); the C13 loop has none. -/
theorem mul_models_agree (p : Pt) (hv : Valid p) (k : Nat) (hk : k < 2 ^ 512) :
    G1.mul bnCurve (conv p) k = conv (Pt.mul p k) := by
  have hv1 : Valid1 (conv p) := by unfold Valid1; rwa [φ_conv]
  obtain ⟨hva, hma⟩ := g1_mul_law (conv p) hv1 k
  obtain ⟨hvb, hmb⟩ := ι_mul p hv k hk
  have : φ (G1.mul bnCurve (conv p) k) = Pt.mul p k := by
    apply ι_inj _ _ hva hvb
    have : μ (G1.mul bnCurve (conv p) k) = k • ι p := by rw [hma]; unfold μ; rw [φ_conv]
    exact this.trans hmb.symm
  rw [← this, conv_φ]

omit hp in
theorem marshal_models_agree (p : Pt) (hr : p.reduced = true) : G1.marshal (conv p) = g1Marshal p := by
  cases p with
  | inf => rfl
  | aff x y =>
    simp only [Pt.reduced, Bool.and_eq_true, decide_eq_true_eq] at hr
    have hx : x < 256 ^ 32 := lt_trans hr.1 P_lt
    have hy : y < 256 ^ 32 := lt_trans hr.2 P_lt
    show padLeft 32 (natToBE x) ++ padLeft 32 (natToBE y) = beFixed NB x ++ beFixed NB y
    rw [padLeft_natToBE_eq_beFixed 32 x hx, padLeft_natToBE_eq_beFixed 32 y hy]
    rfl

end Rangers.Proofs.C13G1
