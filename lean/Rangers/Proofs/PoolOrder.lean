import Rangers.Proofs.PoolSort
/-! `Transactions.Less` is a strict weak order on canonical sources (proposals 021 / 023). -/
namespace Rangers.Pool

/-- Sources present are canonical: distinct `Source` strings have distinct numeric value
(`VerifyTransaction` admits only `Source = pk.GetAddress().GetHexString()`). -/
def Canonical (S : Tx → Prop) : Prop := ∀ a b, S a → S b → srcVal a.src = srcVal b.src → a.src = b.src

theorem cons_lt_of_eq {a b : Int} {p q : List Int} (h : a = b) : a :: p < b :: q ↔ p < q :=
  List.cons_lt_cons_iff.trans ⟨fun h' => h'.elim (fun h' => absurd h (Int.ne_of_lt h')) (·.2), fun h' => Or.inr ⟨h, h'⟩⟩

theorem cons_lt_of_ne {a b : Int} {p q : List Int} (h : a ≠ b) : a :: p < b :: q ↔ a < b :=
  List.cons_lt_cons_iff.trans ⟨fun h' => h'.elim id (fun h' => absurd h'.1 h), Or.inl⟩

theorem singleton_lt {a b : Int} : [a] < [b] ↔ a < b :=
  List.cons_lt_cons_iff.trans (or_iff_left (fun h => List.not_lt_nil _ h.2))

/-- The sort key, compared lexicographically: RequestId-0 transactions first, by source value descending, then nonce
ascending, then (with the hash tie-break of proposal 023) hash descending; the others by RequestId. -/
def key (hashTie : Bool) (a : Tx) : List Int :=
  if a.req = 0 then [0, -(srcVal a.src : Int), (a.nonce : Int), bif hashTie then -(a.hash : Int) else 0]
  else [(a.req : Int), 0, 0, 0]

theorem ofBool_lt_iff (p : Prop) [Decidable p] : (Cmp.ofBool (decide p) == Cmp.lt) = true ↔ p := by
  by_cases h : p <;> simp [Cmp.ofBool, h]

theorem neg_natCast_lt {m n : Nat} : n < m ↔ -(m : Int) < -(n : Int) := (Int.neg_lt_neg_iff.trans Int.ofNat_lt).symm

theorem less_iff_key_lt {c : Cfg} (hf : c.p021 = true ∨ c.p023 = true) {a b : Tx}
    (hc : srcVal a.src = srcVal b.src → a.src = b.src) :
    less c a b = true ↔ key c.p023 a < key c.p023 b := by
  unfold less lessRes key
  by_cases hr : a.req = 0 ∧ b.req = 0
  · rw [if_pos hr, if_pos hr.1, if_pos hr.2, cons_lt_of_eq rfl]
    by_cases hs : a.src = b.src
    · rw [cons_lt_of_eq (congrArg (fun s => -(srcVal s : Int)) hs)]
      cases h23 : c.p023
      · rw [if_neg Bool.false_ne_true, if_pos (hf.resolve_right (h23 ▸ Bool.false_ne_true)), if_pos hs, ofBool_lt_iff]
        by_cases hn : a.nonce = b.nonce
        · rw [cons_lt_of_eq (congrArg (fun n : Nat => (n : Int)) hn), hn]
          exact iff_of_false (Nat.lt_irrefl _) (List.lt_irrefl _)
        · rw [cons_lt_of_ne (mt Int.ofNat_inj.mp hn)]; exact Int.ofNat_lt.symm
      · rw [if_pos rfl, if_pos hs]
        by_cases hn : a.nonce = b.nonce
        · rw [if_neg (not_not_intro hn), cons_lt_of_eq (congrArg (fun n : Nat => (n : Int)) hn)]
          by_cases hh : a.hash = b.hash
          · rw [if_pos hh, hh]; exact iff_of_false (by decide) (List.lt_irrefl _)
          · rw [if_neg hh, ofBool_lt_iff]; exact neg_natCast_lt.trans singleton_lt.symm
        · rw [if_pos hn, ofBool_lt_iff, cons_lt_of_ne (mt Int.ofNat_inj.mp hn)]; exact Int.ofNat_lt.symm
    · have hv : -(srcVal a.src : Int) ≠ -(srcVal b.src : Int) := fun e => hs (hc (Int.ofNat_inj.mp (Int.neg_inj.mp e)))
      rw [cons_lt_of_ne hv]
      cases h23 : c.p023
      · rw [if_neg Bool.false_ne_true, if_pos (hf.resolve_right (h23 ▸ Bool.false_ne_true)), if_neg hs, ofBool_lt_iff]
        exact neg_natCast_lt
      · rw [if_pos rfl, if_neg hs, ofBool_lt_iff]; exact neg_natCast_lt
  · rw [if_neg hr, ofBool_lt_iff]
    by_cases ha : a.req = 0
    · have hb : ¬ b.req = 0 := fun hb => hr ⟨ha, hb⟩
      rw [if_pos ha, if_neg hb, cons_lt_of_ne (Ne.symm (mt Int.natCast_eq_zero.mp hb)), ha]; exact Int.ofNat_lt.symm
    · rw [if_neg ha]
      by_cases hb : b.req = 0
      · rw [if_pos hb, cons_lt_of_ne (mt Int.natCast_eq_zero.mp ha), hb]; exact Int.ofNat_lt.symm
      · rw [if_neg hb]
        by_cases he : a.req = b.req
        · rw [he]
          exact iff_of_false (Nat.lt_irrefl _) (List.lt_irrefl _)
        · rw [cons_lt_of_ne (mt Int.ofNat_inj.mp he)]; exact Int.ofNat_lt.symm

theorem weakOrder_canonical {c : Cfg} (hf : c.p021 = true ∨ c.p023 = true) {S : Tx → Prop} (hc : Canonical S) :
    WeakOrderOn c S := by
  have hiff : ∀ a b, S a → S b → (less c a b = true ↔ key c.p023 a < key c.p023 b) :=
    fun a b ha hb => less_iff_key_lt hf (hc a b ha hb)
  have hnot : ∀ a b, S a → S b → (less c a b = false ↔ key c.p023 b ≤ key c.p023 a) :=
    fun a b ha hb => by rw [← List.not_lt, ← hiff a b ha hb, Bool.not_eq_true]
  exact ⟨fun a b ha hb h => (hnot b a hb ha).mpr (List.le_of_lt ((hiff a b ha hb).mp h)),
    fun a b d ha hb hd h1 h2 =>
      (hnot a d ha hd).mpr (List.le_trans ((hnot b d hb hd).mp h2) ((hnot a b ha hb).mp h1))⟩

theorem nonce_le_of_not_less {c : Cfg} (hf : c.p016 = true ∨ c.p021 = true ∨ c.p023 = true) {a b : Tx}
    (ha : a.req = 0) (hb : b.req = 0) (hs : a.src = b.src) (h : less c b a = false) : a.nonce ≤ b.nonce := by
  refine Nat.le_of_not_lt (fun hn => ?_)
  -- with `b.nonce < a.nonce` every path through `Less(b, a)` returns true
  have hlt : Cmp.ofBool (decide (b.nonce < a.nonce)) = .lt := by rw [decide_eq_true hn]; rfl
  have : lessRes c b a = .lt := by
    unfold lessRes
    rw [if_pos ⟨hb, ha⟩]
    cases h23 : c.p023
    · rw [if_neg Bool.false_ne_true]
      cases h21 : c.p021
      · have h16 : c.p016 = true := by
          rcases hf with h | h | h
          · exact h
          · rw [h21] at h; cases h
          · rw [h23] at h; cases h
        rw [if_neg Bool.false_ne_true, if_pos ⟨h16, hs.symm⟩]; exact hlt
      · rw [if_pos rfl, if_pos hs.symm]; exact hlt
    · rw [if_pos rfl, if_pos hs.symm, if_pos (Nat.ne_of_lt hn)]; exact hlt
  rw [less, this] at h; cases h

end Rangers.Pool
