import Mathlib.Algebra.Group.Basic
import Mathlib.Algebra.Module.Basic
import Mathlib.Tactic.Abel
import Mathlib.Tactic.Ring
import Rangers.Model.VrfCurve
/-!
The sliding-window loop of `GeDoubleScalarMultVartime` and double-and-add, evaluated in an
arbitrary commutative group: both compute (value of the digits) • A.
-/
namespace Rangers.Proofs.C16Window
open Rangers.Model.VrfCurve

variable {G : Type} [AddCommGroup G]

/-- value of a digit string, most significant first (Horner) -/
def horner (ds : List Int) (v : Int) : Int := ds.foldl (fun v d => 2 * v + d) v

/-- value of the digits as `slide` returns them (least significant first) -/
def valueLSB (ds : List Int) : Int := horner ds.reverse 0

def OddOrZero (ds : List Int) : Prop := ∀ d ∈ ds, d = 0 ∨ d % 2 = 1

theorem double_zsmul (A : G) (v : ℤ) : v • A + v • A = (2 * v) • A := by rw [mul_zsmul, two_zsmul]

theorem oddTable_group (A : G) (j : Nat) :
    oddTable (fun x : G => x + x) (· + ·) A j = ((2 * j + 1 : ℕ) : ℤ) • A := by
  induction j with
  | zero => simp [oddTable]
  | succ j ih =>
    simp only [oddTable, ih]
    have : ((2 * (j + 1) + 1 : ℕ) : ℤ) = 2 + ((2 * j + 1 : ℕ) : ℤ) := by push_cast; ring
    rw [this, add_zsmul, two_zsmul]

theorem windowLoop_group (A : G) (tbl : Nat → G) (htbl : ∀ j, tbl j = ((2 * j + 1 : ℕ) : ℤ) • A)
    (ds : List Int) (hodd : OddOrZero ds) (v : Int) :
    windowLoop (fun x : G => x + x) (· + ·) (· - ·) tbl ds (v • A) = horner ds v • A := by
  induction ds generalizing v with
  | nil => simp [windowLoop, horner]
  | cons d ds ih =>
    have hd := hodd d (by simp)
    have hrest : OddOrZero ds := fun e he => hodd e (by simp [he])
    simp only [windowLoop, horner, List.foldl_cons]
    have step : (if d > 0 then (v • A + v • A) + tbl (d.toNat / 2)
        else if d < 0 then (v • A + v • A) - tbl ((-d).toNat / 2) else v • A + v • A)
        = (2 * v + d) • A := by
      rw [double_zsmul]
      by_cases hpos : d > 0
      · rw [if_pos hpos, htbl, show ((2 * (d.toNat / 2) + 1 : ℕ) : ℤ) = d by omega, ← add_zsmul]
      · rw [if_neg hpos]
        by_cases hneg : d < 0
        · rw [if_pos hneg, htbl, show ((2 * ((-d).toNat / 2) + 1 : ℕ) : ℤ) = -d by omega, neg_zsmul,
            sub_neg_eq_add, ← add_zsmul]
        · rw [if_neg hneg, show d = 0 by omega, add_zero]
    rw [step]
    exact ih hrest (2 * v + d)

theorem horner_dropZeros (ds : List Int) :
    horner (ds.dropWhile (fun d => d == 0)) 0 = horner ds 0 := by
  induction ds with
  | nil => rfl
  | cons d ds ih =>
    by_cases hd : d = 0
    · subst hd
      simp only [List.dropWhile, beq_self_eq_true]
      rw [ih]; simp [horner]
    · have : (d == 0) = false := by simpa using hd
      simp [List.dropWhile, this]

theorem windowMul_group (A : G) (ds : List Int) (hodd : OddOrZero ds) :
    windowMulWith (0 : G) (fun x => x + x) (· + ·) (· - ·) ds A = valueLSB ds • A := by
  unfold windowMulWith valueLSB
  have hodd' : OddOrZero (ds.reverse.dropWhile (fun d => d == 0)) := by
    intro d hd
    exact hodd d (by simpa using (List.dropWhile_sublist _).subset hd)
  have := windowLoop_group A (oddTable (fun x : G => x + x) (· + ·) A) (oddTable_group A) _ hodd' 0
  rw [zero_zsmul] at this
  rw [this, horner_dropZeros]

theorem da_group (A : G) (n k : Nat) :
    daWith (0 : G) (fun x => x + x) (· + ·) A n k = ((k % 2 ^ n : ℕ) : ℤ) • A := by
  induction n generalizing k with
  | zero => simp [daWith, Nat.mod_one]
  | succ n ih =>
    have hk : ((k % 2 ^ (n + 1) : ℕ) : ℤ) = 2 * ((k / 2 % 2 ^ n : ℕ) : ℤ) + ((k % 2 : ℕ) : ℤ) := by
      rw [Nat.pow_succ, Nat.mul_comm, Nat.mod_mul, Nat.cast_add, Nat.cast_mul, add_comm]
      rfl
    rw [daWith, ih, hk, double_zsmul, add_zsmul]
    split
    · rename_i h1
      rw [h1, Nat.cast_one, one_zsmul]
    · rename_i h0
      rw [(Nat.mod_two_eq_zero_or_one k).resolve_right h0, Nat.cast_zero, zero_zsmul, add_zero]

end Rangers.Proofs.C16Window
