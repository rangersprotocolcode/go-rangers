import Mathlib.AlgebraicGeometry.EllipticCurve.Affine.Point
import Mathlib.FieldTheory.Finite.Basic
import Rangers.Model.Bls14G1
import Rangers.Proofs.Bls14Model
import Rangers.Proofs.Bls14ShortCurve
import Rangers.Proofs.ZModCast
/-!
The model's G1 arithmetic IS the group law of the elliptic curve `y² = x³ + 3` over `ZMod p`
(Mathlib's `WeierstrassCurve.Affine.Point`), given that `p` is prime.
-/
namespace Rangers.Proofs.Bls14
open Rangers Rangers.Model.Bls14

variable [hp : Fact (Nat.Prime P)]

abbrev F := ZMod P

def W : WeierstrassCurve.Affine F := { a₁ := 0, a₂ := 0, a₃ := 0, a₄ := 0, a₆ := (B : F) }

theorem W_short : Short W := ⟨rfl, rfl, rfl, rfl⟩

theorem two_ne_zero' : (2 : F) ≠ 0 :=
  Nat.cast_ofNat (R := F) (n := 2) ▸ ZModCast.natCast_ne_zero_of_lt 2 (by decide) (by decide)

theorem three_ne_zero' : (3 : F) ≠ 0 :=
  Nat.cast_ofNat (R := F) (n := 3) ▸ ZModCast.natCast_ne_zero_of_lt 3 (by decide) (by decide)

theorem W_Δ_ne_zero : W.Δ ≠ 0 := by
  rw [W_short.Δ, neg_ne_zero, ← Nat.cast_ofNat (R := F)]
  exact mul_ne_zero (ZModCast.natCast_ne_zero_of_lt 432 (by decide) (by decide))
    (pow_ne_zero _ (ZModCast.natCast_ne_zero_of_lt B (by decide) (by decide)))

theorem cast_fmul (a b : ℕ) : ((fmul a b : ℕ) : F) = a * b := by
  rw [fmul, ZMod.natCast_mod, Nat.cast_mul]

theorem cast_fadd (a b : ℕ) : ((fadd a b : ℕ) : F) = a + b := by
  rw [fadd, ZMod.natCast_mod, Nat.cast_add]

theorem cast_fneg (a : ℕ) : ((fneg a : ℕ) : F) = -a := ZModCast.neg_mod P_pos a

theorem cast_fsub (a b : ℕ) : ((fsub a b : ℕ) : F) = a - b := ZModCast.sub_mod P_pos a b

theorem cast_finv (a : ℕ) : ((finv a : ℕ) : F) = (a : F)⁻¹ := by
  unfold finv
  rw [powMod_spec _ _ _ (by decide), ZMod.natCast_mod, Nat.cast_pow]
  by_cases h0 : (a : F) = 0
  · rw [h0, inv_zero, zero_pow (by decide)]
  · have h1 : (a : F) ^ (P - 1) = 1 := ZMod.pow_card_sub_one_eq_one h0
    have h2 : (a : F) ^ (P - 2) * (a : F) = 1 := by
      rw [← pow_succ]
      have : P - 2 + 1 = P - 1 := by decide
      rw [this, h1]
    exact eq_inv_of_mul_eq_one_left h2

theorem onCurveXY_iff (x y : ℕ) : onCurveXY x y = true ↔ W.Equation (x : F) (y : F) := by
  rw [W_short.equation_iff, onCurveXY, beq_iff_eq, ← ZMod.natCast_eq_natCast_iff', Nat.cast_mul,
    Nat.cast_add, Nat.cast_mul, Nat.cast_mul, pow_two, pow_succ, pow_two]
  rfl

theorem nonsing {X Y : F} (h : W.Equation X Y) : W.Nonsingular X Y :=
  (WeierstrassCurve.Affine.equation_iff_nonsingular_of_Δ_ne_zero W_Δ_ne_zero).mp h

open Classical in
/-- Meaning of a model point in the Mathlib group. Off-curve pairs ↦ 0 (they are never valid). -/
noncomputable def ι : Pt → W.Point
  | .inf => 0
  | .aff x y => if h : W.Equation (x : F) (y : F) then .some _ _ (nonsing h) else 0

/-- A value the Go code can hold after a successful decode: on the curve, coordinates reduced. -/
def Valid (q : Pt) : Prop := q.onCurve = true ∧ q.reduced = true

theorem some_congr {X Y X' Y' : F} (h : W.Nonsingular X Y) (h' : W.Nonsingular X' Y')
    (hx : X = X') (hy : Y = Y') :
    (WeierstrassCurve.Affine.Point.some X Y h : W.Point) = .some X' Y' h' := by
  subst hx; subst hy; rfl

theorem beq_mod_iff (a b : ℕ) : (a % P == b % P) = true ↔ (a : F) = b := by
  rw [beq_iff_eq, ZMod.natCast_eq_natCast_iff']

theorem beq_mod_zero_iff (a : ℕ) : (a % P == 0) = true ↔ (a : F) = 0 := by
  rw [beq_iff_eq, ZMod.natCast_eq_zero_iff, Nat.dvd_iff_mod_eq_zero]

/-- `Pt.double` subtracts `2·x` in the tangent rule, `Model.G1.double` and `lineF` subtract `x` twice. -/
theorem fsub_fsub_self (a x : ℕ) : fsub (fsub a x) x = fsub a (fmul 2 x) := by
  apply ZModCast.natCast_inj_of_lt (fsub_lt _ _) (fsub_lt _ _)
  simp only [cast_fsub, cast_fmul]; push_cast; ring

def ptAffF : Pt → Option (F × F)
  | .inf => none
  | .aff x y => some ((x : F), (y : F))

theorem ι_eq (p : Pt) : ι p = pointOf W_Δ_ne_zero (ptAffF p) := by
  cases p <;> rfl

theorem onCurve_iff (p : Pt) : p.onCurve = true ↔ OnF W (ptAffF p) := by
  cases p with
  | inf => exact ⟨fun _ => trivial, fun _ => rfl⟩
  | aff x y => exact onCurveXY_iff x y

theorem ptAffF_inj (p q : Pt) (hp' : p.reduced = true) (hq : q.reduced = true)
    (h : ptAffF p = ptAffF q) : p = q := by
  cases p with
  | inf => cases q with
    | inf => rfl
    | aff x y => cases h
  | aff x y => cases q with
    | inf => cases h
    | aff x' y' =>
      simp only [Pt.reduced, Bool.and_eq_true, decide_eq_true_eq] at hp' hq
      simp only [ptAffF, Option.some.injEq, Prod.mk.injEq] at h
      rw [ZModCast.natCast_inj_of_lt hp'.1 hq.1 h.1, ZModCast.natCast_inj_of_lt hp'.2 hq.2 h.2]

theorem ptNeg_affF (p : Pt) : ptAffF p.neg = negF (ptAffF p) := by
  cases p with
  | inf => rfl
  | aff x y => simp only [Pt.neg, ptAffF, negF, cast_fneg]

/- The model's `if`s test `a % P == b % P`; moved inside `ptAffF` and read in `F` they are the `if`s of
   `doubleF` / `addF`, and the branches agree by the cast lemmas. -/
theorem ptDouble_affF (p : Pt) : ptAffF (Pt.double p) = doubleF (ptAffF p) := by
  cases p with
  | inf => rfl
  | aff x y =>
    rw [Pt.double, apply_ite ptAffF]
    simp only [← fsub_fsub_self, ptAffF, doubleF, beq_mod_zero_iff, lineF, cast_fsub, cast_fmul, cast_finv,
      Nat.cast_ofNat, div_eq_mul_inv, pow_two]

theorem ptAdd_affF (p q : Pt) : ptAffF (Pt.add p q) = addF (ptAffF p) (ptAffF q) := by
  cases p with
  | inf => cases q <;> rfl
  | aff x1 y1 =>
    cases q with
    | inf => rfl
    | aff x2 y2 =>
      rw [Pt.add, apply_ite ptAffF, apply_ite ptAffF, ptDouble_affF]
      simp only [ptAffF, addF, beq_mod_iff, lineF, cast_fsub, cast_fmul, cast_finv, div_eq_mul_inv, pow_two]

theorem ι_inj (a b : Pt) (ha : Valid a) (hb : Valid b) (h : ι a = ι b) : a = b := by
  rw [ι_eq, ι_eq] at h
  exact ptAffF_inj a b ha.2 hb.2
    (pointOf_inj W_Δ_ne_zero ((onCurve_iff a).mp ha.1) ((onCurve_iff b).mp hb.1) h)

theorem ι_neg (a : Pt) (ha : Valid a) : Valid a.neg ∧ ι a.neg = -ι a := by
  have g := pointOf_neg W_short W_Δ_ne_zero ((onCurve_iff a).mp ha.1)
  rw [← ptNeg_affF, ← ι_eq, ← ι_eq, ← onCurve_iff] at g
  exact ⟨⟨g.1, pt_neg_reduced a ha.2⟩, g.2⟩

theorem ι_double (a : Pt) (ha : Valid a) : Valid a.double ∧ ι a.double = ι a + ι a := by
  have g := pointOf_double W_short W_Δ_ne_zero ((onCurve_iff a).mp ha.1)
  rw [← ptDouble_affF, ← ι_eq, ← ι_eq, ← onCurve_iff] at g
  exact ⟨⟨g.1, pt_double_reduced a⟩, g.2⟩

theorem ι_add (a b : Pt) (ha : Valid a) (hb : Valid b) :
    Valid (a.add b) ∧ ι (a.add b) = ι a + ι b := by
  have g := pointOf_add W_short W_Δ_ne_zero ((onCurve_iff a).mp ha.1) ((onCurve_iff b).mp hb.1)
  rw [← ptAdd_affF, ← ι_eq, ← ι_eq, ← ι_eq, ← onCurve_iff] at g
  exact ⟨⟨g.1, pt_add_reduced a b ha.2 hb.2⟩, g.2⟩

/-- The number a list of bits stands for, lowest bit first. -/
def ofBitsLE : List Bool → ℕ
  | [] => 0
  | b :: bs => (if b then 1 else 0) + 2 * ofBitsLE bs

omit hp in
theorem ofBitsLE_bitsLE (fuel k : ℕ) (h : k < 2 ^ fuel) : ofBitsLE (bitsLE fuel k) = k := by
  induction fuel generalizing k with
  | zero =>
    have : k = 0 := by simpa using h
    subst this; rfl
  | succ fuel ih =>
    rw [bitsLE]
    split
    · next h0 => subst h0; rfl
    · have hk : k / 2 < 2 ^ fuel := by rw [Nat.pow_succ] at h; omega
      simp only [ofBitsLE, ih _ hk, beq_iff_eq]
      split <;> omega

omit hp in
theorem ofBitsLE_testBit : ∀ n k : ℕ, ofBitsLE ((List.range n).map k.testBit) = k % 2 ^ n
  | 0, k => by rw [Nat.pow_zero, Nat.mod_one]; rfl
  | n + 1, k => by
    rw [List.range_succ_eq_map, List.map_cons, List.map_map, ofBitsLE,
      show k.testBit ∘ Nat.succ = (k / 2).testBit from funext fun j => Nat.testBit_succ k j, ofBitsLE_testBit n,
      Nat.pow_succ', Nat.mod_mul, Nat.testBit_zero]
    rcases Nat.mod_two_eq_zero_or_one k with h | h <;> simp [h]

omit hp in
/-- The loop lemma of the three scalar multiplications `Pt.mul` (`ι_mul`), `Pt2.mul` (`ι₂_mul`) and `Model.G1.mul`
    (`g1_mul_law`): double-and-add over the bits `bs`, the highest applied first. `f` is the meaning map, `V` validity. -/
theorem foldr_double_add {α G : Type*} [AddCommMonoid G] (f : α → G) (V : α → Prop)
    (dbl : α → α) (add : α → α → α) (o a : α) (ho : V o ∧ f o = 0)
    (hd : ∀ s, V s → V (dbl s) ∧ f (dbl s) = f s + f s)
    (ha : ∀ s, V s → V (add s a) ∧ f (add s a) = f s + f a) (bs : List Bool) :
    V (bs.foldr (fun b s => if b then add (dbl s) a else dbl s) o) ∧
      f (bs.foldr (fun b s => if b then add (dbl s) a else dbl s) o) = ofBitsLE bs • f a := by
  induction bs with
  | nil => exact ⟨ho.1, by rw [List.foldr_nil, ho.2, ofBitsLE, zero_nsmul]⟩
  | cons b bs ih =>
    rw [List.foldr_cons]
    have h2 := hd _ ih.1
    cases b with
    | false =>
      rw [if_neg Bool.false_ne_true, ofBitsLE, if_neg Bool.false_ne_true, zero_add, two_mul, add_nsmul]
      exact ⟨h2.1, by rw [h2.2, ih.2]⟩
    | true =>
      have h3 := ha _ h2.1
      rw [if_pos rfl, ofBitsLE, if_pos rfl, add_nsmul, one_nsmul, two_mul, add_nsmul, add_comm]
      exact ⟨h3.1, by rw [h3.2, h2.2, ih.2]⟩

theorem ι_mul (a : Pt) (ha : Valid a) (k : ℕ) (hk : k < 2 ^ 512) :
    Valid (Pt.mul a k) ∧ ι (Pt.mul a k) = k • ι a := by
  unfold Pt.mul
  rw [List.foldl_reverse]
  have := foldr_double_add ι Valid Pt.double Pt.add .inf a ⟨⟨rfl, rfl⟩, rfl⟩ ι_double
    (fun s hs => ι_add s a hs ha) (bitsLE 512 k)
  rwa [ofBitsLE_bitsLE 512 k hk] at this

end Rangers.Proofs.Bls14
