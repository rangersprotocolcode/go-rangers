import Rangers.Model.PoolConc
/-! Serializability of the lock-protected small-step model. -/
namespace Rangers.Pool.Conc
open Rangers Rangers.Pool

/-- operations of the threads that have not finished -/
def unf (ts : List Thread) : List AOp := (ts.filter (fun t => !t.code.isEmpty)).map (·.op)

theorem unf_cons (x : Thread) (xs : List Thread) :
    unf (x :: xs) = bif x.code.isEmpty then unf xs else x.op :: unf xs := by
  unfold unf; rw [List.filter_cons]; cases x.code.isEmpty <;> rfl

theorem unf_set : ∀ {ts : List Thread} {i : Nat} {t t' : Thread}, ts[i]? = some t → t'.op = t.op → t.code ≠ [] →
    ((bif t'.code.isEmpty then [t.op] else []) ++ unf (ts.set i t')).Perm (unf ts)
  | [], i, t, t', h, _, _ => by simp at h
  | x :: xs, 0, t, t', h, hop, h1 => by
    cases Option.some.inj h
    have e1 : x.code.isEmpty = false := by cases hx : x.code; exact absurd hx h1; rfl
    rw [List.set_cons_zero, unf_cons, unf_cons, e1, hop]
    cases t'.code.isEmpty <;> exact List.Perm.refl _
  | x :: xs, i + 1, t, t', h, hop, h1 => by
    have ih := unf_set (ts := xs) (i := i) (t' := t') h hop h1
    rw [List.set_cons_succ, unf_cons, unf_cons]
    cases x.code.isEmpty
    · exact List.perm_middle.trans (ih.cons _)
    · exact ih

def seqRun (p0 : Pool) (os : List AOp) : Pool := os.foldl (fun p o => o.run p) p0

/-- threads other than the lock owner are before their critical section or done -/
def Others (ts : List Thread) (owner : Option Nat) : Prop :=
  ∀ j t, ts[j]? = some t → some j ≠ owner → t.code = lockedProg ∨ t.code = []

/-- The simulation invariant: `done` = operations whose critical section is over, in commit order. -/
structure CInv (ops : List AOp) (p0 : Pool) (st : CState) (done : List AOp) : Prop where
  perm : (done ++ unf st.threads).Perm ops
  others : Others st.threads st.lock
  free : st.lock = none → st.pool = seqRun p0 done
  held : ∀ i, st.lock = some i → ∃ t, st.threads[i]? = some t ∧
    ((t.code = [.s1, .s2, .rel] ∧ st.pool = seqRun p0 done) ∨
     (t.code = [.s2, .rel] ∧ st.pool = (t.op.s1 (seqRun p0 done)).1 ∧ t.loc = (t.op.s1 (seqRun p0 done)).2) ∨
     (t.code = [.rel] ∧ st.pool = t.op.run (seqRun p0 done)))

theorem getElem?_set_of_some {ts : List Thread} {i : Nat} {t t' : Thread} (h : ts[i]? = some t) :
    (ts.set i t')[i]? = some t' := by
  rw [List.getElem?_set_self', h]; rfl

/-- The shape the four transitions of `stepThread` share. -/
theorem cinv_set {ops : List AOp} {p0 : Pool} {st : CState} {done : List AOp} {j : Nat} {t t' : Thread}
    (hi : CInv ops p0 st done) (htj : st.threads[j]? = some t) (hne : t.code ≠ [])
    (hlk : st.lock = none ∨ st.lock = some j) (hop : t'.op = t.op) {pool' : Pool} {lock' : Option Nat}
    (h : lock' = some j ∧
        ((t'.code = [.s1, .s2, .rel] ∧ pool' = seqRun p0 done) ∨
         (t'.code = [.s2, .rel] ∧ pool' = (t'.op.s1 (seqRun p0 done)).1 ∧ t'.loc = (t'.op.s1 (seqRun p0 done)).2) ∨
         (t'.code = [.rel] ∧ pool' = t'.op.run (seqRun p0 done))) ∨
      lock' = none ∧ t'.code = [] ∧ pool' = seqRun p0 (done ++ [t.op])) :
    ∃ done', CInv ops p0 { pool := pool', lock := lock', threads := st.threads.set j t' } done' := by
  have hperm := unf_set (t' := t') htj hop hne
  have hothers : Others (st.threads.set j t') lock' := by
    intro k u hk hne'
    by_cases hkj : k = j
    · subst hkj
      rw [getElem?_set_of_some htj] at hk; cases hk
      rcases h with ⟨e, _⟩ | ⟨_, e, _⟩
      · exact absurd e.symm hne'
      · exact Or.inr e
    · rw [List.getElem?_set_ne (Ne.symm hkj)] at hk
      exact hi.others k u hk (fun e => by
        rcases hlk with h | h <;> rw [h] at e
        · cases e
        · exact hkj (Option.some.inj e))
  rcases h with ⟨rfl, hin⟩ | ⟨rfl, hc, hp⟩
  · -- still inside (or just entered): nothing commits
    have he : t'.code.isEmpty = false := by
      rcases hin with ⟨hc, _⟩ | ⟨hc, _⟩ | ⟨hc, _⟩ <;> rw [hc] <;> rfl
    rw [he] at hperm
    exact ⟨done, (List.Perm.append_left done hperm).trans hi.perm, hothers, (fun h => nomatch h),
      fun i h => ⟨t', Option.some.inj h ▸ getElem?_set_of_some htj, hin⟩⟩
  · -- left the critical section: its operation commits
    rw [hc] at hperm
    exact ⟨done ++ [t.op], List.append_assoc .. ▸ (List.Perm.append_left done hperm).trans hi.perm, hothers,
      fun _ => hp, fun i h => nomatch h⟩

theorem cinv_step {ops : List AOp} {p0 : Pool} {st st' : CState} {done : List AOp} {j : Nat}
    (hi : CInv ops p0 st done) (hs : stepThread st j = some st') : ∃ done', CInv ops p0 st' done' := by
  unfold stepThread at hs
  cases htj : st.threads[j]? with
  | none => rw [htj] at hs; cases hs
  | some t =>
    rw [htj] at hs
    cases hl : st.lock with
    | none =>
      -- nobody is inside: `t` is about to acquire, or has finished and cannot move
      rcases hi.others j t htj (by rw [hl]; exact fun e => nomatch e) with hc | hc
      · simp only [hc, lockedProg, hl, if_true] at hs
        cases hs
        exact cinv_set (t' := { t with code := [.s1, .s2, .rel] }) hi htj (by rw [hc]; exact fun e => nomatch e) (Or.inl hl) rfl
          (Or.inl ⟨rfl, Or.inl ⟨rfl, hi.free hl⟩⟩)
      · simp only [hc] at hs; cases hs
    | some i =>
      obtain ⟨ti, hti, hcase⟩ := hi.held i hl
      by_cases hji : j = i
      · subst hji
        rw [htj] at hti; cases hti
        have hne : t.code ≠ [] := by
          rcases hcase with ⟨hc, _⟩ | ⟨hc, _⟩ | ⟨hc, _⟩ <;> rw [hc] <;> exact fun e => nomatch e
        rcases hcase with ⟨hc, hp⟩ | ⟨hc, hp, hloc⟩ | ⟨hc, hp⟩ <;> simp only [hc] at hs <;> cases hs
        · exact cinv_set (t' := { t with code := [.s2, .rel], loc := (t.op.s1 st.pool).2 }) hi htj hne (Or.inr hl) rfl
            (Or.inl ⟨hl, Or.inr (Or.inl ⟨rfl, by rw [hp], by rw [hp]⟩)⟩)
        · exact cinv_set (t' := { t with code := [.rel] }) hi htj hne (Or.inr hl) rfl
            (Or.inl ⟨hl, Or.inr (Or.inr ⟨rfl, by rw [AOp.run, ← hp, ← hloc]⟩)⟩)
        · exact cinv_set (t' := { t with code := [] }) hi htj hne (Or.inr hl) rfl
            (Or.inr ⟨rfl, rfl, by rw [seqRun, List.foldl_append]; exact hp⟩)
      · -- a thread that is not the owner cannot move: it is done or waits for the lock
        rcases hi.others j t htj (by rw [hl]; exact fun e => hji (Option.some.inj e)) with hc | hc
        · simp only [hc, lockedProg, hl] at hs; cases hs
        · simp only [hc] at hs; cases hs

theorem cinv_run {ops : List AOp} {p0 : Pool} : ∀ (sched : List Nat) {st st' : CState} {done : List AOp},
    CInv ops p0 st done → run st sched = some st' → ∃ done', CInv ops p0 st' done'
  | [], st, st', done, hi, h => by simp [run] at h; subst h; exact ⟨done, hi⟩
  | i :: is, st, st', done, hi, h => by
    unfold run at h
    cases hs : stepThread st i with
    | none => simp [hs] at h
    | some st1 =>
      simp only [hs] at h
      obtain ⟨d1, hi1⟩ := cinv_step hi hs
      exact cinv_run is hi1 h

theorem cinv_init (ops : List AOp) (p0 : Pool) :
    CInv ops p0 (initState p0 (ops.map (fun o => (o, lockedProg)))) [] := by
  refine ⟨?_, ?_, fun _ => rfl, by intro i h; simp [initState] at h⟩
  · have : unf (initState p0 (ops.map (fun o => (o, lockedProg)))).threads = ops := by
      simp only [initState, List.map_map]
      induction ops with
      | nil => rfl
      | cons o os ih => rw [List.map_cons, unf_cons]; exact congrArg (o :: ·) ih
    simp [this]
  · intro j t hj _
    simp only [initState, List.map_map, List.getElem?_map] at hj
    cases ho : ops[j]? with
    | none => simp [ho] at hj
    | some o => simp [ho] at hj; subst hj; exact Or.inl rfl

theorem unf_nil_of_finished {ts : List Thread} (h : ∀ t ∈ ts, t.code = []) : unf ts = [] := by
  simp only [unf, List.map_eq_nil_iff, List.filter_eq_nil_iff]
  intro t ht; simp [h t ht]

end Rangers.Pool.Conc
