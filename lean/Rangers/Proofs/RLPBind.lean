import Rangers.Model.RLP
/-! Every step of the fuelled decoders is `match x with | .error e => .error e | .ok a => k a`, that is
    `x.bind k`: what such a step does to a success, to a fuel error, and under more fuel. -/
namespace Rangers.RLP
open Rangers

section bind
variable {α β : Type}

theorem bind_ok_iff {x : Except Err α} {k : α → Except Err β} {b : β} :
    x.bind k = .ok b ↔ ∃ a, x = .ok a ∧ k a = .ok b := by
  cases x with
  | error e => exact ⟨nofun, fun ⟨_, h, _⟩ => nomatch h⟩
  | ok a => exact ⟨fun h => ⟨a, rfl, h⟩, fun ⟨_, h1, h2⟩ => by cases h1; exact h2⟩

theorem bind_ne_fuel {x : Except Err α} {k : α → Except Err β} (hx : x ≠ .error .fuel)
    (hk : ∀ a, x = .ok a → k a ≠ .error .fuel) : x.bind k ≠ .error .fuel := by
  cases x with
  | error e => intro h; apply hx; injection h with h; rw [h]
  | ok a => exact hk a rfl

theorem ite_bind {c : Prop} [Decidable c] (a b : Except Err α) (k : α → Except Err β) :
    (if c then a else b).bind k = if c then a.bind k else b.bind k := by
  split <;> rfl

theorem ite_ne_fuel {c : Prop} [Decidable c] {a b : Except Err α} (ha : a ≠ .error .fuel)
    (hb : b ≠ .error .fuel) : (if c then a else b) ≠ .error .fuel := by
  split <;> assumption

def Stable (x y : Except Err α) : Prop := x ≠ .error .fuel → y = x

theorem bind_stable {x y : Except Err α} {k l : α → Except Err β} (hx : Stable x y)
    (hk : ∀ a, x = .ok a → Stable (k a) (l a)) : Stable (x.bind k) (y.bind l) := by
  intro hne
  cases x with
  | error e =>
    rw [hx (fun h => hne (by injection h with h; rw [h]; rfl))]
    rfl
  | ok a => rw [hx nofun]; exact hk a rfl hne

theorem stable_le {g : Nat → Except Err α} (h : ∀ f, Stable (g f) (g (f + 1))) {f f' : Nat} (hle : f ≤ f') :
    Stable (g f) (g f') := by
  induction hle with
  | refl => exact fun _ => rfl
  | step _ ih => intro hne; rw [← ih hne]; exact h _ (by rw [ih hne]; exact hne)

theorem ok_of_fuel {g : Nat → Except Err α} (h : ∀ f, Stable (g f) (g (f + 1))) {f f' : Nat} {r : α}
    (hf : g f = .ok r) (hf' : g f' ≠ .error .fuel) : g f' = .ok r := by
  rw [← stable_le h (Nat.le_max_right f f') hf', stable_le h (Nat.le_max_left f f') (by rw [hf]; nofun), hf]

end bind

end Rangers.RLP
