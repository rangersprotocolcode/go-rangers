import Mathlib.Tactic.LinearCombination
import Mathlib.Tactic.FieldSimp
import Mathlib.Tactic.Ring
import Mathlib.Algebra.Field.Basic
/-!
The twisted Edwards addition law (a = −1) over an arbitrary field, as field identities.
These are the algebraic facts behind the hypothesis `Lawful` of the C16 theorems.
-/
namespace Rangers.Proofs.C16Curve

variable {F : Type} [Field F]

def OnCurve (d x y : F) : Prop := -x ^ 2 + y ^ 2 = 1 + d * x ^ 2 * y ^ 2

def addX (d x1 y1 x2 y2 : F) : F := (x1 * y2 + x2 * y1) / (1 + d * x1 * x2 * y1 * y2)
def addY (d x1 y1 x2 y2 : F) : F := (y1 * y2 + x1 * x2) / (1 - d * x1 * x2 * y1 * y2)

theorem addX_comm (d x1 y1 x2 y2 : F) : addX d x1 y1 x2 y2 = addX d x2 y2 x1 y1 := by
  unfold addX; congr 1 <;> ring

theorem addY_comm (d x1 y1 x2 y2 : F) : addY d x1 y1 x2 y2 = addY d x2 y2 x1 y1 := by
  unfold addY; congr 1 <;> ring

theorem zero_onCurve (d : F) : OnCurve d 0 1 := by unfold OnCurve; ring

theorem add_zero_right (d x y : F) : addX d x y 0 1 = x ∧ addY d x y 0 1 = y := by
  unfold addX addY; constructor <;> simp

theorem neg_onCurve (d x y : F) (h : OnCurve d x y) : OnCurve d (-x) y := by
  unfold OnCurve at *; linear_combination h

theorem add_neg_self (d x y : F) (h : OnCurve d x y) (hD : 1 + d * x ^ 2 * y ^ 2 ≠ 0) :
    addX d x y (-x) y = 0 ∧ addY d x y (-x) y = 1 := by
  unfold addX addY OnCurve at *
  constructor
  · have : x * y + -x * y = 0 := by ring
    rw [this, zero_div]
  · have hden : 1 - d * x * -x * y * y = 1 + d * x ^ 2 * y ^ 2 := by ring
    rw [hden, div_eq_one_iff_eq hD]
    linear_combination h

/-! The two big identities below (closure here, associativity further down) go the same way: write the polynomial so
that `d` occurs only through `d·(x·y)²` of single points (an identity of polynomials, no curve equation), put
`y² − x² − 1` for it (the curve equation, `curve_eps`), and what is left has no `d` and vanishes identically. All of it
holds in a commutative ring, where `ring` normalises more cheaply than in a field. -/

theorem curve_eps {R : Type} [CommRing R] (d x y : R) (h : -x ^ 2 + y ^ 2 = 1 + d * x ^ 2 * y ^ 2) :
    d * (x * y) ^ 2 = y ^ 2 - x ^ 2 - 1 := by
  linear_combination -h

/-- closure of the sum `(A / D1, B / D2)`, cleared of denominators -/
def closedP {R : Type} [CommRing R] (d A B D1 D2 : R) : R :=
  -A ^ 2 * D2 ^ 2 + B ^ 2 * D1 ^ 2 - D1 ^ 2 * D2 ^ 2 - d * A ^ 2 * B ^ 2

/-- The closure polynomial with `d` only in `u = d·p1²`, `v = d·p2²` (`p = x·y`, `s = x² + y²`, `δ = y² − x²`).
    With `A`, `B` the numerators and `E = d·p1·p2` it is `(B² − A²)(1 + E²) + 2E(A² + B²) − (1 − E²)² − d(AB)²`;
    here `B² − A² = δ1·δ2`, `A² + B² = s1·s2 + 4·p1·p2`, `AB = p1·s2 + p2·s1`, `s² = δ² + 4p²`, and the terms
    `2E·s1·s2` and `8E·p1·p2` cancel. -/
theorem closed_id {R : Type} [CommRing R] (d x1 y1 x2 y2 : R) :
    let u := d * (x1 * y1) ^ 2; let v := d * (x2 * y2) ^ 2
    let δ1 := y1 ^ 2 - x1 ^ 2; let δ2 := y2 ^ 2 - x2 ^ 2
    closedP d (x1 * y2 + x2 * y1) (y1 * y2 + x1 * x2) (1 + d * x1 * x2 * y1 * y2) (1 - d * x1 * x2 * y1 * y2)
      = δ1 * δ2 * (1 + u * v) - (1 - u * v) ^ 2 - u * δ2 ^ 2 - v * δ1 ^ 2 := by
  intro u v δ1 δ2
  simp only [u, v, δ1, δ2, closedP]
  ring

theorem closed_core {R : Type} [CommRing R] (u v δ1 δ2 : R) (h1 : u = δ1 - 1) (h2 : v = δ2 - 1) :
    δ1 * δ2 * (1 + u * v) - (1 - u * v) ^ 2 - u * δ2 ^ 2 - v * δ1 ^ 2 = 0 := by
  subst h1 h2; ring

theorem closed_aux (A B D1 D2 d : F) (h1 : D1 ≠ 0) (h2 : D2 ≠ 0) (hp : closedP d A B D1 D2 = 0) :
    -(A / D1) ^ 2 + (B / D2) ^ 2 = 1 + d * (A / D1) ^ 2 * (B / D2) ^ 2 := by
  unfold closedP at hp
  field_simp
  linear_combination hp

theorem add_closed (d x1 y1 x2 y2 : F) (h1 : OnCurve d x1 y1) (h2 : OnCurve d x2 y2)
    (hD1 : 1 + d * x1 * x2 * y1 * y2 ≠ 0) (hD2 : 1 - d * x1 * x2 * y1 * y2 ≠ 0) :
    OnCurve d (addX d x1 y1 x2 y2) (addY d x1 y1 x2 y2) :=
  closed_aux _ _ _ _ d hD1 hD2 ((closed_id d x1 y1 x2 y2).trans
    (closed_core _ _ _ _ (curve_eps d x1 y1 h1) (curve_eps d x2 y2 h2)))

/-- The dedicated doubling formula (`ProjectiveGroupElement.Double`: 2xy/(y²−x²),
    (y²+x²)/(2−(y²−x²))) agrees with `P + P` on curve points. -/
theorem dbl_eq_add (d x y : F) (h : OnCurve d x y) :
    (2 * x * y) / (y ^ 2 - x ^ 2) = addX d x y x y ∧
    (y ^ 2 + x ^ 2) / (2 - (y ^ 2 - x ^ 2)) = addY d x y x y := by
  unfold OnCurve at h
  unfold addX addY
  constructor
  · congr 1
    · ring
    · linear_combination h
  · congr 1
    · ring
    · linear_combination -h


/-- Bernstein–Lange completeness for a = −1 = i²: on curve points `d·x1·x2·y1·y2 ≠ ±1`. -/
theorem denom_sq_ne_one (d i x1 y1 x2 y2 : F) (hi : i ^ 2 = -1) (h2ne : (2 : F) ≠ 0)
    (hd : ¬ IsSquare d) (h1 : OnCurve d x1 y1) (h2 : OnCurve d x2 y2) :
    (d * x1 * x2 * y1 * y2) ^ 2 ≠ 1 := by
  intro hε
  unfold OnCurve at h1 h2
  have hne : d * x1 * x2 * y1 * y2 ≠ 0 := by
    intro h0; rw [h0] at hε; simp at hε
  have hx1 : x1 ≠ 0 := by rintro rfl; simp at hne
  have hy1 : y1 ≠ 0 := by rintro rfl; simp at hne
  have hy2 : y2 ≠ 0 := by rintro rfl; simp at hne
  -- for either sign s; it makes d a square unless i·x2 + s·y2 = 0
  have key : ∀ s : F, s ^ 2 = 1 → (i * x1 + (d * x1 * x2 * y1 * y2) * (s * y1)) ^ 2
      = d * x1 ^ 2 * y1 ^ 2 * (i * x2 + s * y2) ^ 2 := by
    intro s hs
    linear_combination (x1 ^ 2 - d * x1 ^ 2 * y1 ^ 2 * x2 ^ 2) * hi + (y1 ^ 2 - 1) * hε
      + (-(d * x1 ^ 2 * y1 ^ 2)) * h2 + h1
      + ((d * x1 * x2 * y1 * y2) ^ 2 * y1 ^ 2 - d * x1 ^ 2 * y1 ^ 2 * y2 ^ 2) * hs
  have sq_of : ∀ u w : F, w ≠ 0 → u ^ 2 = d * x1 ^ 2 * y1 ^ 2 * w ^ 2 → IsSquare d := by
    intro u w hw hu
    refine ⟨u / (x1 * y1 * w), ?_⟩
    field_simp
    linear_combination -hu
  by_cases ha : i * x2 + 1 * y2 = 0
  · by_cases hb : i * x2 + -1 * y2 = 0
    · have : (2 : F) * y2 = 0 := by linear_combination ha - hb
      rcases mul_eq_zero.mp this with h | h
      · exact h2ne h
      · exact hy2 h
    · exact hd (sq_of _ _ hb (key (-1) (by ring)))
  · exact hd (sq_of _ _ ha (key 1 (by ring)))

theorem denoms_ne_zero (d i x1 y1 x2 y2 : F) (hi : i ^ 2 = -1) (h2ne : (2 : F) ≠ 0)
    (hd : ¬ IsSquare d) (h1 : OnCurve d x1 y1) (h2 : OnCurve d x2 y2) :
    1 + d * x1 * x2 * y1 * y2 ≠ 0 ∧ 1 - d * x1 * x2 * y1 * y2 ≠ 0 := by
  have h := denom_sq_ne_one d i x1 y1 x2 y2 hi h2ne hd h1 h2
  constructor
  · intro h0
    apply h
    have : d * x1 * x2 * y1 * y2 = -1 := by linear_combination h0
    rw [this]; ring
  · intro h0
    apply h
    have : d * x1 * x2 * y1 * y2 = 1 := by linear_combination -h0
    rw [this]; ring

/-! Associativity of the x coordinate, cleared of denominators, through the invariants `p = x·y`, `s = x² + y²`,
`ε = y² − x² − 1` of a point. The numerator of x((P1 + P2) + P3) is `σ + d·p1·p2·τ3` with `σ` symmetric in the three
points, the denominator has only `p`s and `s`s. The cross-multiplied difference of two bracketings is `d·p2` times an
expression in which every remaining `d` stands in front of some `pᵢ²`; with `d·pᵢ² = εᵢ` what is left has no `d` and
vanishes identically. The y coordinate follows by the quarter turn below. -/

section Triple
variable {R : Type} [CommRing R]

/-- `x1·y2·y3 + y1·x2·y3 + y1·y2·x3 + x1·x2·x3` -/
def sig (x1 y1 x2 y2 x3 y3 : R) : R := (x1*y2+x2*y1)*y3 + x3*(y1*y2+x1*x2)
def tau (x1 y1 x2 y2 x3 y3 : R) : R := x3*(y1*y2+x1*x2) - (x1*y2+x2*y1)*y3

/-- numerator and denominator of the x coordinate of (P1 + P2) + P3, cleared of inner denominators -/
def nLx (d x1 y1 x2 y2 x3 y3 : R) : R :=
  sig x1 y1 x2 y2 x3 y3 + d*(x1*y1)*(x2*y2) * tau x1 y1 x2 y2 x3 y3
def dLx (d x1 y1 x2 y2 x3 y3 : R) : R :=
  1 - (d*(x1*y1)*(x2*y2))^2 + d*(x3*y3)*((x1*y1)*(x2^2+y2^2) + (x2*y2)*(x1^2+y1^2))

theorem sig_cyc (x1 y1 x2 y2 x3 y3 : R) : sig x2 y2 x3 y3 x1 y1 = sig x1 y1 x2 y2 x3 y3 := by
  unfold sig; ring

/-- what is left of the cross-multiplied difference of two bracketings, divided by `d·p2`, once `d·pᵢ²` is `εᵢ` -/
def assocRem (p1 p2 p3 s1 s2 s3 e1 e2 e3 σ τ1 τ3 : R) : R :=
  σ*(p1*s3 - p3*s1) + p1*τ3 - p3*τ1 + σ*p2*(e1 - e3) + e1*τ3*(p2*s3 + p3*s2) - e3*τ1*(p1*s2 + p2*s1)
    + e2*(e1*p3*τ1 - e3*p1*τ3)

/-- The two bracketings over atoms. The cofactor of `hᵢ` is what multiplies `d·pᵢ²` in the difference. -/
theorem assoc_core (d p1 p2 p3 s1 s2 s3 e1 e2 e3 σ τ1 τ3 : R)
    (h1 : d*p1^2 = e1) (h2 : d*p2^2 = e2) (h3 : d*p3^2 = e3)
    (hfree : assocRem p1 p2 p3 s1 s2 s3 e1 e2 e3 σ τ1 τ3 = 0) :
    (σ + d*p1*p2*τ3) * (1 - (d*p2*p3)^2 + d*p1*(p2*s3 + p3*s2))
      = (σ + d*p2*p3*τ1) * (1 - (d*p1*p2)^2 + d*p3*(p1*s2 + p2*s1)) := by
  unfold assocRem at hfree
  linear_combination (d*p2) * ((σ*p2 + τ3*(p2*s3 + p3*s2) + d*p2^2*p3*τ1) * h1 + (e1*p3*τ1 - e3*p1*τ3) * h2
    - (σ*p2 + τ1*(p1*s2 + p2*s1) + d*p2^2*p1*τ3) * h3 + hfree)

theorem assoc_free (x1 y1 x2 y2 x3 y3 : R) :
    assocRem (x1*y1) (x2*y2) (x3*y3) (x1^2+y1^2) (x2^2+y2^2) (x3^2+y3^2)
      (y1^2-x1^2-1) (y2^2-x2^2-1) (y3^2-x3^2-1)
      (sig x1 y1 x2 y2 x3 y3) (tau x2 y2 x3 y3 x1 y1) (tau x1 y1 x2 y2 x3 y3) = 0 := by
  simp only [assocRem, sig, tau]
  ring

theorem assoc_poly_x (d x1 y1 x2 y2 x3 y3 : R) (h1 : -x1 ^ 2 + y1 ^ 2 = 1 + d * x1 ^ 2 * y1 ^ 2)
    (h2 : -x2 ^ 2 + y2 ^ 2 = 1 + d * x2 ^ 2 * y2 ^ 2) (h3 : -x3 ^ 2 + y3 ^ 2 = 1 + d * x3 ^ 2 * y3 ^ 2) :
    nLx d x1 y1 x2 y2 x3 y3 * dLx d x2 y2 x3 y3 x1 y1 =
      nLx d x2 y2 x3 y3 x1 y1 * dLx d x1 y1 x2 y2 x3 y3 := by
  unfold nLx dLx
  rw [sig_cyc x1 y1 x2 y2 x3 y3]
  exact assoc_core d _ _ _ _ _ _ _ _ _ _ _ _ (curve_eps d x1 y1 h1) (curve_eps d x2 y2 h2) (curve_eps d x3 y3 h3)
    (assoc_free x1 y1 x2 y2 x3 y3)

end Triple

theorem addX_frac (d A B D1 D2 x3 y3 : F) (h1 : D1 ≠ 0) (h2 : D2 ≠ 0)
    (hden : 1 + d * (A / D1) * x3 * (B / D2) * y3 ≠ 0) :
    addX d (A / D1) (B / D2) x3 y3 = (A * D2 * y3 + x3 * B * D1) / (D1 * D2 + d * A * B * x3 * y3) ∧
      D1 * D2 + d * A * B * x3 * y3 ≠ 0 := by
  have e1 : A / D1 * y3 + x3 * (B / D2) = (A * D2 * y3 + x3 * B * D1) / (D1 * D2) := by field_simp
  have e2 : 1 + d * (A / D1) * x3 * (B / D2) * y3 = (D1 * D2 + d * A * B * x3 * y3) / (D1 * D2) := by
    field_simp
  refine ⟨?_, fun h0 => hden (by rw [e2, h0, zero_div])⟩
  rw [addX, e1, e2, div_div_div_cancel_right₀ (mul_ne_zero h1 h2)]

theorem addX_sum (d x1 y1 x2 y2 x3 y3 : F)
    (hD : 1 + d * x1 * x2 * y1 * y2 ≠ 0) (hD' : 1 - d * x1 * x2 * y1 * y2 ≠ 0)
    (hL : 1 + d * addX d x1 y1 x2 y2 * x3 * addY d x1 y1 x2 y2 * y3 ≠ 0) :
    addX d (addX d x1 y1 x2 y2) (addY d x1 y1 x2 y2) x3 y3
        = nLx d x1 y1 x2 y2 x3 y3 / dLx d x1 y1 x2 y2 x3 y3 ∧
      dLx d x1 y1 x2 y2 x3 y3 ≠ 0 := by
  obtain ⟨e, n⟩ := addX_frac d (x1 * y2 + x2 * y1) (y1 * y2 + x1 * x2) _ _ x3 y3 hD hD' hL
  have eD : (1 + d * x1 * x2 * y1 * y2) * (1 - d * x1 * x2 * y1 * y2)
      + d * (x1 * y2 + x2 * y1) * (y1 * y2 + x1 * x2) * x3 * y3 = dLx d x1 y1 x2 y2 x3 y3 := by
    unfold dLx; ring
  rw [eD] at e n
  refine ⟨e.trans ?_, n⟩
  congr 1
  unfold nLx sig tau; ring

theorem addX_assoc (d x1 y1 x2 y2 x3 y3 : F) (h1 : OnCurve d x1 y1) (h2 : OnCurve d x2 y2)
    (h3 : OnCurve d x3 y3)
    (hD : 1 + d * x1 * x2 * y1 * y2 ≠ 0) (hD' : 1 - d * x1 * x2 * y1 * y2 ≠ 0)
    (hE : 1 + d * x2 * x3 * y2 * y3 ≠ 0) (hE' : 1 - d * x2 * x3 * y2 * y3 ≠ 0)
    (hL : 1 + d * addX d x1 y1 x2 y2 * x3 * addY d x1 y1 x2 y2 * y3 ≠ 0)
    (hR : 1 + d * addX d x2 y2 x3 y3 * x1 * addY d x2 y2 x3 y3 * y1 ≠ 0) :
    addX d (addX d x1 y1 x2 y2) (addY d x1 y1 x2 y2) x3 y3
      = addX d (addX d x2 y2 x3 y3) (addY d x2 y2 x3 y3) x1 y1 := by
  obtain ⟨eL, nL⟩ := addX_sum d x1 y1 x2 y2 x3 y3 hD hD' hL
  obtain ⟨eR, nR⟩ := addX_sum d x2 y2 x3 y3 x1 y1 hE hE' hR
  rw [eL, eR, div_eq_div_iff nL nR]
  exact assoc_poly_x d x1 y1 x2 y2 x3 y3 h1 h2 h3

/-! ### the quarter turn: adding the point (i, 0) of order four exchanges the coordinates -/

theorem rot_onCurve (d i x y : F) (hi : i ^ 2 = -1) (h : OnCurve d x y) : OnCurve d (i * y) (i * x) := by
  unfold OnCurve at *
  linear_combination h + (x ^ 2 - y ^ 2 - d * x ^ 2 * y ^ 2 * (i ^ 2 - 1)) * hi

theorem addX_rot (d i x y x' y' : F) (hi : i ^ 2 = -1) :
    addX d x y (i * y') (i * x') = i * addY d x y x' y' := by
  have hden : 1 + d * x * (i * y') * y * (i * x') = 1 - d * x * x' * y * y' := by
    linear_combination d * x * x' * y * y' * hi
  rw [addX, addY, hden, ← mul_div_assoc]
  congr 1; ring

theorem addY_rot (d i x y x' y' : F) (hi : i ^ 2 = -1) :
    addY d x y (i * y') (i * x') = i * addX d x y x' y' := by
  have hden : 1 - d * x * (i * y') * y * (i * x') = 1 + d * x * x' * y * y' := by
    linear_combination -(d * x * x' * y * y') * hi
  rw [addX, addY, hden, ← mul_div_assoc]
  congr 1; ring

/-- `geAdd` ∘ `ToExtended` (ref10, as transcribed in `Model.VrfCurve.add`): for inputs with
    `T·Z = X·Y`, `Z ≠ 0`, the output represents the affine sum and again has `T·Z = X·Y`, `Z ≠ 0`. -/
theorem ext_add_affine (d X1 Y1 Z1 T1 X2 Y2 Z2 T2 : F) (h2 : (2 : F) ≠ 0)
    (hZ1 : Z1 ≠ 0) (hZ2 : Z2 ≠ 0) (hT1 : T1 * Z1 = X1 * Y1) (hT2 : T2 * Z2 = X2 * Y2)
    (hD1 : 1 + d * (X1 / Z1) * (X2 / Z2) * (Y1 / Z1) * (Y2 / Z2) ≠ 0)
    (hD2 : 1 - d * (X1 / Z1) * (X2 / Z2) * (Y1 / Z1) * (Y2 / Z2) ≠ 0) :
    let cX := (Y1 + X1) * (Y2 + X2) - (Y1 - X1) * (Y2 - X2)
    let cY := (Y1 + X1) * (Y2 + X2) + (Y1 - X1) * (Y2 - X2)
    let cZ := (Z1 * Z2 + Z1 * Z2) + T2 * (2 * d) * T1
    let cT := (Z1 * Z2 + Z1 * Z2) - T2 * (2 * d) * T1
    cZ * cT ≠ 0 ∧
    (cX * cT) / (cZ * cT) = addX d (X1 / Z1) (Y1 / Z1) (X2 / Z2) (Y2 / Z2) ∧
    (cY * cZ) / (cZ * cT) = addY d (X1 / Z1) (Y1 / Z1) (X2 / Z2) (Y2 / Z2) ∧
    (cX * cY) * (cZ * cT) = (cX * cT) * (cY * cZ) := by
  intro cX cY cZ cT
  -- through the affine coordinates everything is a polynomial identity
  obtain ⟨x1, rfl⟩ : ∃ x1, X1 = x1 * Z1 := ⟨X1 / Z1, (div_mul_cancel₀ X1 hZ1).symm⟩
  obtain ⟨y1, rfl⟩ : ∃ y1, Y1 = y1 * Z1 := ⟨Y1 / Z1, (div_mul_cancel₀ Y1 hZ1).symm⟩
  obtain ⟨x2, rfl⟩ : ∃ x2, X2 = x2 * Z2 := ⟨X2 / Z2, (div_mul_cancel₀ X2 hZ2).symm⟩
  obtain ⟨y2, rfl⟩ : ∃ y2, Y2 = y2 * Z2 := ⟨Y2 / Z2, (div_mul_cancel₀ Y2 hZ2).symm⟩
  obtain rfl : T1 = x1 * y1 * Z1 := mul_right_cancel₀ hZ1 (by rw [hT1]; ring)
  obtain rfl : T2 = x2 * y2 * Z2 := mul_right_cancel₀ hZ2 (by rw [hT2]; ring)
  simp only [mul_div_cancel_right₀ _ hZ1, mul_div_cancel_right₀ _ hZ2] at hD1 hD2 ⊢
  have hZZ : 2 * Z1 * Z2 ≠ 0 := mul_ne_zero (mul_ne_zero h2 hZ1) hZ2
  have hcX : cX = 2 * Z1 * Z2 * (x1 * y2 + x2 * y1) := by simp only [cX]; ring
  have hcY : cY = 2 * Z1 * Z2 * (y1 * y2 + x1 * x2) := by simp only [cY]; ring
  have hcZ : cZ = 2 * Z1 * Z2 * (1 + d * x1 * x2 * y1 * y2) := by simp only [cZ]; ring
  have hcT : cT = 2 * Z1 * Z2 * (1 - d * x1 * x2 * y1 * y2) := by simp only [cT]; ring
  have hZne : cZ ≠ 0 := by rw [hcZ]; exact mul_ne_zero hZZ hD1
  have hTne : cT ≠ 0 := by rw [hcT]; exact mul_ne_zero hZZ hD2
  refine ⟨mul_ne_zero hZne hTne, ?_, ?_, by rw [mul_comm cZ cT, mul_mul_mul_comm]⟩
  · rw [mul_div_mul_right _ _ hTne, hcX, hcZ, mul_div_mul_left _ _ hZZ, addX]
  · rw [mul_comm cZ cT, mul_div_mul_right _ _ hZne, hcY, hcT, mul_div_mul_left _ _ hZZ, addY]

end Rangers.Proofs.C16Curve
