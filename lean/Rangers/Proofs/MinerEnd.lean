import Rangers.Proofs.MinerInv
/-! C20: the block end — `RefundManager.Add` (context → escrow) and `CheckAndMove` (escrow → balance). -/
namespace Rangers.Miner

theorem toAddr_20 (a : Bytes) (h : a.length = 20) : toAddr a = a := by
  unfold toAddr; simp [h]

@[simp] theorem setEsc_bal (st : State) (h : Nat) (a : Bytes) (n : Nat) : (st.setEsc h a n).bal = st.bal := rfl
@[simp] theorem setEsc_live (st : State) (h : Nat) (a : Bytes) (n : Nat) : (st.setEsc h a n).live = st.live := rfl
@[simp] theorem setEsc_pending (st : State) (h : Nat) (a : Bytes) (n : Nat) : (st.setEsc h a n).pending = st.pending := rfl
@[simp] theorem setBal_escrow' (st : State) (a : Bytes) (n : Nat) : (st.addBal a n).escrow = st.escrow := rfl

theorem escOf_setEsc (st : State) (h h' : Nat) (a a' : Bytes) (n : Nat) :
    (st.setEsc h a n).escOf h' a' = if h' = h ∧ a' = a then n else st.escOf h' a' := by
  have := lookup_cons_getD st.escrow (h, a) (h', a') n 0
  simp only [Prod.mk.injEq] at this
  exact this

/-- Every account named in the escrow and in the block's refund context is a 20-byte address. -/
def A20 (st : State) : Prop :=
  (∀ e ∈ st.escrow, e.1.2.length = 20) ∧ (∀ p ∈ st.pending, ∀ e ∈ p.2, e.1.length = 20)

theorem escTotal_escAdd (st : State) (h : Nat) (a : Bytes) (v : Nat) : escTotal (st.escAdd h a v) = escTotal st + v :=
  Nat.add_right_cancel ((escTotal_setEsc st h a (st.escOf h a + v)).trans (by rw [Nat.add_comm (st.escOf h a), ← Nat.add_assoc]))

theorem escrowAddAll_escTotal (st : State) (p : List (Nat × List (Bytes × Nat))) :
    escTotal (escrowAddAll st p) = escTotal st + pendingSum p ∧ (escrowAddAll st p).bal = st.bal := by
  refine ⟨?_, escrowAddAll_keeps (fun s => s.bal = st.bal) st p rfl (fun _ _ _ _ _ h => h)⟩
  rw [escrowAddAll_eq_foldl]
  refine foldl_sum escTotal (fun q => (q.2.map Prod.snd).sum) _ p st (fun s q _ => ?_)
  rw [escrowAddList_eq_foldl]
  exact foldl_sum escTotal Prod.snd _ q.2 s (fun t e _ => escTotal_escAdd t q.1 e.1 e.2)

theorem escrowAddAll_keys (st : State) (p : List (Nat × List (Bytes × Nat))) (hs : ∀ e ∈ st.escrow, e.1.2.length = 20)
    (hp : ∀ q ∈ p, ∀ e ∈ q.2, e.1.length = 20) : ∀ e ∈ (escrowAddAll st p).escrow, e.1.2.length = 20 :=
  escrowAddAll_keeps (fun s => ∀ e ∈ s.escrow, e.1.2.length = 20) st p hs (fun s q x hq hx hs' e he =>
    (List.mem_cons.mp he).elim (fun c => by rw [c]; exact hp q hq x hx) (hs' e))

/-- One round of the loop of `RefundManager.CheckAndMove` (`cam` below): what is escrowed under one key at height `h` is
    credited to the key's address and the entry cleared. -/
def camStep (h : Nat) (st : State) (e : Bytes × Nat) : State := (st.addBal (toAddr e.1) e.2).setEsc h (toAddr e.1) 0

theorem checkAndMove_eq (st : State) (h : Nat) :
    checkAndMove st h = ((escrowKeys st h).map (fun a => (a, st.escOf h a))).foldl (camStep h) st := rfl

theorem camStep_20 (h : Nat) (st : State) (a : Bytes) (v : Nat) (ha : a.length = 20) :
    camStep h st (a, v) = (st.addBal a v).setEsc h a 0 := by
  show (st.addBal (toAddr a) v).setEsc h (toAddr a) 0 = _
  rw [toAddr_20 a ha]

theorem camStep_escOf (h : Nat) (st : State) (a : Bytes) (v : Nat) (x : Bytes) (ha : a.length = 20) :
    (camStep h st (a, v)).escOf h x = if x = a then 0 else st.escOf h x := by
  rw [camStep_20 h st a v ha, escOf_setEsc]
  by_cases hx : x = a
  · rw [if_pos ⟨rfl, hx⟩, if_pos hx]
  · rw [if_neg (fun c => hx c.2), if_neg hx]; rfl

theorem camStep_balOf (h : Nat) (st : State) (a : Bytes) (v : Nat) (x : Bytes) (ha : a.length = 20) :
    (camStep h st (a, v)).balOf x = st.balOf x + if a = x then v else 0 := by
  rw [camStep_20 h st a v ha]
  show (st.setBal a (st.balOf a + v)).balOf x = _
  rw [balOf_setBal]
  by_cases hx : x = a
  · rw [if_pos hx, if_pos hx.symm, hx]
  · rw [if_neg hx, if_neg (fun e => hx e.symm)]; rfl

theorem camStep_total (h : Nat) (st : State) (a : Bytes) (v : Nat) (ha : a.length = 20) (hv : st.escOf h a = v) :
    balTotal (camStep h st (a, v)) + escTotal (camStep h st (a, v)) = balTotal st + escTotal st := by
  have h2 : escTotal ((st.addBal a v).setEsc h a 0) + v = escTotal st := hv ▸ escTotal_setEsc (st.addBal a v) h a 0
  rw [camStep_20 h st a v ha, balTotal_of_bal (st.addBal a v) ((st.addBal a v).setEsc h a 0) rfl, balTotal_addBal,
    Nat.add_assoc, Nat.add_comm v, h2]

theorem cam_fold_total (h : Nat) (vals : List (Bytes × Nat)) (st : State) (hn : (vals.map Prod.fst).Nodup)
    (hv : ∀ e ∈ vals, e.1.length = 20 ∧ st.escOf h e.1 = e.2) :
    balTotal (vals.foldl (camStep h) st) + escTotal (vals.foldl (camStep h) st) = balTotal st + escTotal st := by
  induction vals generalizing st with
  | nil => rfl
  | cons e vals ih =>
    obtain ⟨a, v⟩ := e
    have hnd := List.nodup_cons.mp hn
    obtain ⟨ha, hva⟩ := hv (a, v) (List.mem_cons_self ..)
    -- the entries still to come are untouched by this step: their accounts differ from `a`
    have hv' : ∀ e ∈ vals, e.1.length = 20 ∧ (camStep h st (a, v)).escOf h e.1 = e.2 := fun e he => by
      rw [camStep_escOf h st a v e.1 ha, if_neg (fun (x : e.1 = a) => hnd.1 (List.mem_map.mpr ⟨e, he, x⟩))]
      exact hv e (List.mem_cons_of_mem _ he)
    rw [List.foldl_cons, ih _ hnd.2 hv', camStep_total h st a v ha hva]

theorem cam_fold_keys (h : Nat) (vals : List (Bytes × Nat)) (st : State) (hs : ∀ e ∈ st.escrow, e.1.2.length = 20)
    (h20 : ∀ e ∈ vals, e.1.length = 20) : ∀ e ∈ (vals.foldl (camStep h) st).escrow, e.1.2.length = 20 := by
  refine List.foldlRecOn (motive := fun s : State => ∀ e ∈ s.escrow, e.1.2.length = 20) vals _ hs (fun s hs' x hx e he => ?_)
  rw [camStep_20 h s x.1 x.2 (h20 x hx)] at he
  rcases List.mem_cons.mp he with rfl | he
  · exact h20 x hx
  · exact hs' e he

theorem escrowKeys_20 (st : State) (h : Nat) (hs : ∀ e ∈ st.escrow, e.1.2.length = 20) : ∀ a ∈ escrowKeys st h, a.length = 20 := by
  intro a ha
  unfold escrowKeys at ha
  rw [mem_dedup] at ha
  obtain ⟨e, he, rfl⟩ := List.mem_map.mp ha
  exact hs e (List.mem_filter.mp he).1

theorem checkAndMove_entries (st : State) (h : Nat) (hs : ∀ e ∈ st.escrow, e.1.2.length = 20) :
    ((escrowKeys st h).map (fun a => (a, st.escOf h a))).map Prod.fst = escrowKeys st h ∧
    ∀ e ∈ (escrowKeys st h).map (fun a => (a, st.escOf h a)), e.1.length = 20 ∧ st.escOf h e.1 = e.2 := by
  refine ⟨by rw [List.map_map]; exact List.map_id _, fun e he => ?_⟩
  obtain ⟨a, ha, rfl⟩ := List.mem_map.mp he
  exact ⟨escrowKeys_20 st h hs a ha, rfl⟩

theorem checkAndMove_total (st : State) (h : Nat) (hs : ∀ e ∈ st.escrow, e.1.2.length = 20) :
    balTotal (checkAndMove st h) + escTotal (checkAndMove st h) = balTotal st + escTotal st := by
  obtain ⟨hk, hv⟩ := checkAndMove_entries st h hs
  exact cam_fold_total h _ st (by rw [hk]; exact nodup_dedup _) hv

theorem checkAndMove_keys (st : State) (h : Nat) (hs : ∀ e ∈ st.escrow, e.1.2.length = 20) :
    ∀ e ∈ (checkAndMove st h).escrow, e.1.2.length = 20 :=
  cam_fold_keys h _ st hs (fun e he => ((checkAndMove_entries st h hs).2 e he).1)

theorem cam_fold_bal (h : Nat) (vals : List (Bytes × Nat)) (st : State) (x : Bytes) (h20 : ∀ e ∈ vals, e.1.length = 20) :
    (vals.foldl (camStep h) st).balOf x = st.balOf x + (vals.map (fun e => if e.1 = x then e.2 else 0)).sum :=
  foldl_sum (fun s => s.balOf x) _ _ vals st (fun s e he => camStep_balOf h s e.1 e.2 x (h20 e he))

theorem sum_map_ite_eq (keys : List Bytes) (f : Bytes → Nat) (x : Bytes) (hn : keys.Nodup) :
    (keys.map (fun a => if a = x then f a else 0)).sum = if x ∈ keys then f x else 0 := by
  induction keys with
  | nil => rfl
  | cons a keys ih =>
    have hnd := List.nodup_cons.mp hn
    rw [List.map_cons, List.sum_cons, ih hnd.2]
    by_cases hx : a = x
    · subst hx; simp [hnd.1]
    · simp [hx, Ne.symm hx]

theorem checkAndMove_pays (st : State) (h : Nat) (x : Bytes) (hs : ∀ e ∈ st.escrow, e.1.2.length = 20) :
    (checkAndMove st h).balOf x = st.balOf x + (if x ∈ escrowKeys st h then st.escOf h x else 0) := by
  rw [checkAndMove_eq, cam_fold_bal _ _ _ _ (fun e he => ((checkAndMove_entries st h hs).2 e he).1), List.map_map]
  exact congrArg _ (sum_map_ite_eq (escrowKeys st h) (fun a => st.escOf h a) x (nodup_dedup _))

theorem cam_fold_esc_other (h h' : Nat) (vals : List (Bytes × Nat)) (st : State) (x : Bytes) (hne : h' ≠ h) :
    (vals.foldl (camStep h) st).escOf h' x = st.escOf h' x :=
  List.foldlRecOn (motive := fun s : State => s.escOf h' x = st.escOf h' x) vals _ rfl (fun s hs e _ => by
    show ((s.addBal (toAddr e.1) e.2).setEsc h (toAddr e.1) 0).escOf h' x = _
    rw [escOf_setEsc, if_neg (fun c => hne c.1)]; exact hs)

theorem cam_fold_esc_cleared (h : Nat) (vals : List (Bytes × Nat)) (st : State) (x : Bytes) (h20 : ∀ e ∈ vals, e.1.length = 20) :
    (vals.foldl (camStep h) st).escOf h x = if x ∈ vals.map Prod.fst then 0 else st.escOf h x := by
  induction vals generalizing st with
  | nil => rfl
  | cons e vals ih =>
    obtain ⟨a, v⟩ := e
    rw [List.foldl_cons, ih _ (fun e he => h20 e (List.mem_cons_of_mem _ he)),
      camStep_escOf h st a v x (h20 (a, v) (List.mem_cons_self ..))]
    by_cases hx : x = a
    · simp only [List.map_cons, List.mem_cons, hx, true_or, if_true, ite_self]
    · simp only [List.map_cons, List.mem_cons, hx, false_or, if_false]

theorem checkAndMove_esc (st : State) (h : Nat) (x : Bytes) (hs : ∀ e ∈ st.escrow, e.1.2.length = 20) :
    (checkAndMove st h).escOf h x = (if x ∈ escrowKeys st h then 0 else st.escOf h x) ∧
    ∀ h', h' ≠ h → (checkAndMove st h).escOf h' x = st.escOf h' x := by
  obtain ⟨hk, hv⟩ := checkAndMove_entries st h hs
  refine ⟨?_, fun h' hne => cam_fold_esc_other h h' _ st x hne⟩
  rw [checkAndMove_eq, cam_fold_esc_cleared h _ st x (fun e he => (hv e he).1), hk]

end Rangers.Miner
