import Mathlib.Data.List.Sort
import Mathlib.Data.List.Perm.Basic
import Mathlib.Data.List.Nodup
import Mathlib.Data.List.Range
import Batteries.Data.List.Perm
import Rangers.Model.Shamir
/-! `RandomPerm`, `sort.Ints` and the `getRandomKSignInfo` loop: whatever the draws, exactly `k`
    distinct entries of the map are picked. -/
namespace Rangers.Proofs.C13
open Rangers.Model.Shamir

theorem swapList_perm : ∀ (l : List Nat) (i j : Nat), i < l.length → j < l.length → (swapList l i j).Perm l
  | [], _, _, hi, _ => by simp at hi
  | a :: xs, 0, 0, _, _ => by simp [swapList]
  -- head against position `j + 1`, either way round: both sides become `xs[j] :: xs.set j a`
  | a :: xs, 0, j + 1, _, hj | a :: xs, j + 1, 0, hj, _ => by
    have hj' : j < xs.length := by simpa using hj
    have := List.getD_set_perm_cons xs j a
    simp only [swapList, List.getD_cons_zero, List.getD_cons_succ, List.set_cons_zero, List.set_cons_succ]
    simpa [List.getD, List.getElem?_eq_getElem hj'] using this
  | a :: xs, i + 1, j + 1, hi, hj => by
    have ih := swapList_perm xs i j (by simpa using hi) (by simpa using hj)
    simp only [swapList, List.getD_cons_succ, List.set_cons_succ] at ih ⊢
    exact ih.cons a

theorem randomPermAux_perm (n : Nat) : ∀ (steps i : Nat) (js l : List Nat),
    l.Perm (List.range n) → steps ≤ js.length → (∀ t, t < steps → js.getD t 0 + (i + t) < n) →
      (randomPermAux i steps js l).Perm (List.range n) := by
  intro steps
  induction steps with
  | zero => intro i js l hl _ _; simpa [randomPermAux] using hl
  | succ steps ih =>
    intro i js l hl hjs hr
    cases js with
    | nil => simp at hjs
    | cons jr js' =>
      simp only [randomPermAux]
      have hlen : l.length = n := by simpa using hl.length_eq
      have h0 := hr 0 (by omega)
      simp only [List.getD_cons_zero, Nat.add_zero] at h0
      apply ih (i + 1) js' _ ((swapList_perm l i (jr + i) (by omega) (by omega)).trans hl)
      · simpa using hjs
      · intro t ht
        have := hr (t + 1) (by omega)
        simp only [List.getD_cons_succ] at this
        omega

theorem randomPerm_spec (n k : Nat) (js : List Nat) (hk : k ≤ n) (hjs : k ≤ js.length)
    (hr : ∀ i, i < k → js.getD i 0 + i < n) :
    (randomPerm n k js).length = k ∧ (randomPerm n k js).Nodup ∧ ∀ x ∈ randomPerm n k js, x < n := by
  have hp := randomPermAux_perm n k 0 js (List.range n) (List.Perm.refl _) hjs (by simpa using hr)
  unfold randomPerm
  refine ⟨?_, ?_, ?_⟩
  · rw [List.length_take, hp.length_eq, List.length_range]; omega
  · exact ((hp.nodup_iff).2 List.nodup_range).sublist (List.take_sublist _ _)
  · intro x hx
    have := hp.subset (List.mem_of_mem_take hx)
    simpa using this

theorem sortInts_eq (l : List Nat) : sortInts l = l.insertionSort (· ≤ ·) := by
  induction l with
  | nil => rfl
  | cons a l ih =>
    simp only [sortInts, List.insertionSort_cons, ih]
    generalize l.insertionSort (· ≤ ·) = m
    induction m with
    | nil => rfl
    | cons b m ihm => simp only [insertSorted, List.orderedInsert_cons, ihm]

theorem sortInts_spec (l : List Nat) : (sortInts l).Perm l ∧ (sortInts l).Pairwise (· ≤ ·) := by
  rw [sortInts_eq]
  exact ⟨List.perm_insertionSort _ l, List.pairwise_insertionSort _ l⟩

theorem sortInts_strict (l : List Nat) (hnd : l.Nodup) : (sortInts l).Pairwise (· < ·) := by
  obtain ⟨hp, hs⟩ := sortInts_spec l
  have hn : (sortInts l).Pairwise (· ≠ ·) := (hp.nodup_iff).2 hnd
  exact (hs.and hn).imp (fun h => Nat.lt_of_le_of_ne h.1 h.2)

theorem pickSorted_sublist {α : Type} : ∀ (es : List α) (i : Nat) (ds : List Nat),
    (pickSorted i es ds).Sublist es
  | [], _, _ => by simp [pickSorted]
  | e :: es, i, [] => by simp [pickSorted]
  | e :: es, i, d :: ds => by
    simp only [pickSorted]
    split
    · exact (pickSorted_sublist es (i + 1) ds).cons_cons e
    · exact (pickSorted_sublist es (i + 1) (d :: ds)).cons e

theorem pickSorted_length {α : Type} : ∀ (es : List α) (i : Nat) (ds : List Nat),
    ds.Pairwise (· < ·) → (∀ d ∈ ds, i ≤ d ∧ d < i + es.length) →
      (pickSorted i es ds).length = ds.length
  | [], _, [], _, _ => rfl
  | _ :: _, _, [], _, _ => rfl
  | [], i, d :: ds, _, h => by
    have := h d List.mem_cons_self
    rw [List.length_nil] at this; omega
  | e :: es, i, d :: ds, hs, h => by
    obtain ⟨hd, hds⟩ := List.pairwise_cons.1 hs
    have hd1 := h d List.mem_cons_self
    rw [pickSorted]
    split
    · rw [List.length_cons, List.length_cons, pickSorted_length es (i + 1) ds hds fun d' hd' => ?_]
      have := hd d' hd'
      have := h d' (List.mem_cons_of_mem _ hd')
      rw [List.length_cons] at this; omega
    · refine pickSorted_length es (i + 1) (d :: ds) hs fun d' hd' => ?_
      have := h d' hd'
      rw [List.length_cons] at this hd1
      rcases List.mem_cons.1 hd' with rfl | h'
      · omega
      · have := hd d' h'; omega

theorem pick_random_k {α : Type} (es : List α) (k : Nat) (js : List Nat) (hk : k ≤ es.length)
    (hjs : k ≤ js.length) (hr : ∀ i, i < k → js.getD i 0 + i < es.length) :
    (pickSorted 0 es (sortInts (randomPerm es.length k js))).Sublist es ∧
    (pickSorted 0 es (sortInts (randomPerm es.length k js))).length = k := by
  obtain ⟨hlen, hnd, hlt⟩ := randomPerm_spec es.length k js hk hjs hr
  obtain ⟨hp, _⟩ := sortInts_spec (randomPerm es.length k js)
  refine ⟨pickSorted_sublist _ _ _, ?_⟩
  rw [pickSorted_length es 0 _ (sortInts_strict _ hnd)
    (fun d hd => ⟨Nat.zero_le _, by rw [Nat.zero_add]; exact hlt d (hp.subset hd)⟩), hp.length_eq, hlen]

end Rangers.Proofs.C13
