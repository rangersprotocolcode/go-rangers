import Mathlib.Algebra.BigOperators.Group.List.Basic
import Mathlib.Data.List.Perm.Basic
import Rangers.Proofs.C13Aggregate
/-! `groupNodeInfo.handleSharePiece`: what is stored and which keys are aggregated depend only on the
    first occurrence of every sender in the delivery history. -/
namespace Rangers.Proofs.C13
open Rangers.Model.Shamir

variable {P : Type}

/-- What `handleSharePiece` does to `receivedSharePiece`: a sender already present is dropped, any other piece appended. -/
def addNew (acc : List (Piece P)) (pc : Piece P) : List (Piece P) :=
  if acc.any (fun e => e.id == pc.id) then acc else acc ++ [pc]

/-- The keys a node with group size `n` holds once `rc` has been received: nothing before the `n`-th distinct sender, from then on
    the aggregates of the first `n` pieces (later senders are stored and do not count). -/
def keysOf (r : Nat) (addP : P → P → P) (n : Nat) (rc : List (Piece P)) : Nat × Option P :=
  if n ≤ rc.length then
    ((aggregateSeckeys r ((rc.take n).map (·.share))).getD 0, aggregatePoints addP ((rc.take n).map (·.pub)))
  else (0, none)

/-- The invariant of `handleSharePiece`: the stored keys are a function of what has been received, namely `keysOf`. -/
def NodeOk (r : Nat) (addP : P → P → P) (st : NodeInfo P) : Prop :=
  (st.msk, st.gpk) = keysOf r addP st.n st.received

theorem nodeOk_new (r : Nat) (addP : P → P → P) (n : Nat) : NodeOk r addP (NodeInfo.new n : NodeInfo P) := by
  unfold NodeOk keysOf NodeInfo.new
  by_cases h : n ≤ 0
  · have : n = 0 := by omega
    subst this; simp [aggregateSeckeys, aggregatePoints]
  · simp [h]

theorem handleSharePiece_spec (r : Nat) (addP : P → P → P) (st : NodeInfo P) (pc : Piece P)
    (hok : NodeOk r addP st) :
    (handleSharePiece r addP st pc).1.n = st.n ∧
    (handleSharePiece r addP st pc).1.received = addNew st.received pc ∧
    NodeOk r addP (handleSharePiece r addP st pc).1 ∧
    ((handleSharePiece r addP st pc).2 = 1 →
      ¬ st.received.any (fun e => e.id == pc.id) = true ∧ st.received.length + 1 = st.n) ∧
    (st.received.any (fun e => e.id == pc.id) = true →
      (handleSharePiece r addP st pc).1 = st ∧ (handleSharePiece r addP st pc).2 = -1) := by
  have hok0 := hok
  unfold NodeOk keysOf at hok
  by_cases hdup : st.received.any (fun e => e.id == pc.id) = true
  · have hres : handleSharePiece r addP st pc = (st, -1) := by
      unfold handleSharePiece; rw [if_pos hdup]
    rw [hres]
    refine ⟨rfl, ?_, hok0, ?_, fun _ => ⟨rfl, rfl⟩⟩
    · unfold addNew; rw [if_pos hdup]
    · intro h; exact absurd (show ((-1 : Int) = 1) from h) (by decide)
  · have hadd : addNew st.received pc = st.received ++ [pc] := by unfold addNew; rw [if_neg hdup]
    by_cases hlen : (st.received ++ [pc]).length = st.n
    · -- completion: before it the keys were (0, none)
      have hlen' : st.received.length + 1 = st.n := by
        simpa [List.length_append] using hlen
      have hlt : ¬ st.n ≤ st.received.length := by omega
      rw [if_neg hlt] at hok
      have hm : st.msk = 0 := congrArg Prod.fst hok
      have hg : st.gpk = none := congrArg Prod.snd hok
      have hres : handleSharePiece r addP st pc =
          (⟨st.n, st.received ++ [pc], (aggregateSeckeys r ((st.received ++ [pc]).map (·.share))).getD 0,
            aggregatePoints addP ((st.received ++ [pc]).map (·.pub))⟩,
           if (aggregatePoints addP ((st.received ++ [pc]).map (·.pub))).isSome ∧
              (aggregateSeckeys r ((st.received ++ [pc]).map (·.share))).getD 0 ≠ 0 then 1 else -1) := by
        unfold handleSharePiece
        rw [if_neg hdup]
        simp only [hlen, if_true, hg, Option.isNone_none, true_or]
      rw [hres]
      refine ⟨rfl, hadd.symm, ?_, fun _ => ⟨hdup, hlen'⟩, fun h => absurd h hdup⟩
      unfold NodeOk keysOf
      simp only [hlen, Nat.le_refl, if_true]
      rw [← hlen, List.take_length]
    · have hres : handleSharePiece r addP st pc = (⟨st.n, st.received ++ [pc], st.msk, st.gpk⟩, 0) := by
        unfold handleSharePiece
        rw [if_neg hdup]
        simp only [hlen, if_false]
      rw [hres]
      refine ⟨rfl, hadd.symm, ?_, fun h => absurd (show ((0 : Int) = 1) from h) (by decide), fun h => absurd h hdup⟩
      unfold NodeOk keysOf
      simp only [List.length_append, List.length_singleton] at hlen ⊢
      by_cases hle : st.n ≤ st.received.length
      · have h2 : st.n ≤ st.received.length + 1 := by omega
        rw [if_pos hle] at hok
        rw [if_pos h2, List.take_append_of_le_length hle]
        exact hok
      · have h2 : ¬ st.n ≤ st.received.length + 1 := by omega
        rw [if_neg hle] at hok
        rw [if_neg h2]
        exact hok

theorem deliverAll_spec (r : Nat) (addP : P → P → P) : ∀ (h : List (Piece P)) (st : NodeInfo P),
    NodeOk r addP st →
      (deliverAll r addP st h).1.n = st.n ∧
      (deliverAll r addP st h).1.received = h.foldl addNew st.received ∧
      NodeOk r addP (deliverAll r addP st h).1 := by
  intro h
  induction h with
  | nil => intro st hok; exact ⟨rfl, rfl, hok⟩
  | cons pc rest ih =>
    intro st hok
    obtain ⟨hn, hrc, hok', _, _⟩ := handleSharePiece_spec r addP st pc hok
    obtain ⟨hn2, hrc2, hok2⟩ := ih (handleSharePiece r addP st pc).1 hok'
    simp only [deliverAll, List.foldl_cons]
    exact ⟨hn2.trans hn, by rw [hrc2, hrc], hok2⟩

theorem keysOf_perm {G : Type} [AddCommGroup G] (r n : Nat) (rc honest : List (Piece G))
    (hn : 0 < n) (hlen : n ≤ rc.length) (hp : (rc.take n).Perm honest) :
    keysOf r (· + ·) n rc =
      ((honest.map (·.share)).sum % r, some (honest.map (·.pub)).sum) := by
  unfold keysOf
  simp only [hlen, if_true]
  have hne : rc.take n ≠ [] := by
    intro h0
    have : (rc.take n).length = 0 := by rw [h0]; rfl
    rw [List.length_take] at this; omega
  have hne1 : (rc.take n).map (·.share) ≠ [] := by simpa using hne
  have hne2 : (rc.take n).map (·.pub) ≠ [] := by simpa using hne
  rw [aggregateSeckeys_eq_sum r _ hne1, aggregatePoints_eq_sum _ hne2]
  simp only [Option.getD_some]
  rw [(hp.map (·.share)).sum_eq, (hp.map (·.pub)).sum_eq]

end Rangers.Proofs.C13
