import Rangers.Proofs.GroupChainStore
/-!
The representation invariant of the group chain: the concrete state (LevelDB-keyed
store + in-memory mirror) represents an abstract list of groups, genesis first.
Every clause of property C19 is a consequence of `Rep` (see `Props/C19.lean`);
`save` / `remove` / start-up preserve it.
-/
namespace Rangers.Model.GroupChain
open Rangers

/-- A group id that cannot be mistaken for a bookkeeping key of the store: not empty,
    not 8 bytes long (height keys, `gcurrent`), not `gcount`. Real ids are 32 bytes. -/
def IdOK (id : Bytes) : Prop := id ≠ [] ∧ id.length ≠ 8 ∧ id ≠ cntKey

instance (id : Bytes) : Decidable (IdOK id) := by unfold IdOK; exact inferInstance

def Linked : Bytes → List Group → Prop
  | _, [] => True
  | p, g :: t => g.pre = p ∧ Linked g.id t

instance : (p : Bytes) → (l : List Group) → Decidable (Linked p l)
  | _, [] => isTrue trivial
  | p, g :: t => by
    unfold Linked
    have := instDecidableLinked g.id t
    exact inferInstance

/-- Upper bound on the chain length under which no height key equals `"gcurrent"`
    (`hkey 0x6763757272656e74 = "gcurrent"`): 2^62. -/
def lenBound : Nat := 4611686018427387904

/-- The one height whose 8-byte key spells `"gcurrent"`: the height index and the
    last-group pointer share a key space, so slot `curHeight` always "holds" the last group. -/
def curHeight : Nat := 7449927343006903924

theorem hkey_curHeight : hkey curHeight = curKey := by decide

theorem hkey_eq_curKey {i : Nat} (hi : i < u64) (h : hkey i = curKey) : i = curHeight := by
  rw [← hkey_curHeight] at h
  exact hkey_inj hi (by unfold u64 curHeight; omega) h

/-- The concrete chain `c` represents the list `l` (genesis first).  `count` and `last` tie the in-memory fields `c.count`,
    `c.last` to `l`; `cur` and `cnt` are the store entries under `gcurrent` and `gcount`.  `empty`: nothing is stored
    under the empty key, which is what the genesis group's `pre = []` looks up; so the iterator stops at the genesis
    group (`iterWalk_rep`) and `remove` refuses it (`remove_single`). -/
structure Rep (l : List Group) (c : Chain) : Prop where
  ne : l ≠ []
  count : c.count = l.length
  bound : l.length < lenBound
  slot : ∀ (i : Nat) (g : Group), l[i]? = some g → sget c.disk (hkey i) = some (.ref g.id)
  stored : ∀ (g : Group), g ∈ l → sget c.disk g.id = some (.grp g)
  height : ∀ (i : Nat) (g : Group), l[i]? = some g → g.height = i
  idok : ∀ (g : Group), g ∈ l → IdOK g.id
  above : ∀ i, l.length ≤ i → i < u64 → i ≠ curHeight → sget c.disk (hkey i) = none
  linked : Linked [] l
  nodup : (l.map (·.id)).Nodup
  last : l.getLast? = some c.last
  cur : sget c.disk curKey = some (.ref c.last.id)
  cnt : sget c.disk cntKey = some (.cnt l.length)
  empty : sget c.disk [] = none

theorem getElem?_snoc {α} (l : List α) (x g : α) (i : Nat) :
    (l ++ [x])[i]? = some g ↔ l[i]? = some g ∨ (i = l.length ∧ g = x) := by
  rcases Nat.lt_trichotomy i l.length with h | rfl | h
  · rw [List.getElem?_append_left h]
    exact ⟨.inl, fun e => e.elim id fun e => absurd e.1 (Nat.ne_of_lt h)⟩
  · rw [List.getElem?_concat_length, List.getElem?_eq_none (Nat.le_refl _)]
    exact ⟨fun e => .inr ⟨rfl, (Option.some.inj e).symm⟩, fun e => e.elim nofun fun e => e.2 ▸ rfl⟩
  · rw [List.getElem?_eq_none (Nat.le_of_lt h),
      List.getElem?_eq_none (by rw [List.length_append]; exact h)]
    exact ⟨nofun, fun e => e.elim nofun fun e => absurd e.1 (Nat.ne_of_gt h)⟩

theorem Linked_snoc (p : Bytes) (l : List Group) (x : Group) :
    Linked p (l ++ [x]) ↔ Linked p l ∧ x.pre = (l.getLast?.map (·.id)).getD p := by
  induction l generalizing p with
  | nil => simp [Linked]
  | cons a t ih =>
    rw [List.cons_append, Linked, Linked, ih, and_assoc, List.getLast?_cons, Option.map_some, Option.getD_some,
      Option.getD_map]

theorem Linked_take (p : Bytes) (l : List Group) (n : Nat) (h : Linked p l) : Linked p (l.take n) := by
  induction l generalizing p n with
  | nil => simp [Linked]
  | cons x t ih =>
    cases n with
    | zero => simp [Linked]
    | succ m => simp only [List.take_succ_cons, Linked]; exact ⟨h.1, ih x.id m h.2⟩

theorem IdOK.ne_hkey {id : Bytes} (h : IdOK id) (n : Nat) : id ≠ hkey n := by
  intro e; have := h.2.1; rw [e, hkey_length] at this; exact this rfl

theorem IdOK.ne_curKey {id : Bytes} (h : IdOK id) : id ≠ curKey := by
  intro e; have := h.2.1; rw [e] at this; exact this (by decide)

theorem IdOK.ne_cntKey {id : Bytes} (h : IdOK id) : id ≠ cntKey := h.2.2

theorem hkey_ne_nil (n : Nat) : hkey n ≠ [] := by
  intro e; have := congrArg List.length e; simp [hkey] at this

theorem lt_u64_of_lt_lenBound {i : Nat} (h : i < lenBound) : i < u64 := by
  unfold lenBound at h; unfold u64; omega

theorem ne_curHeight_of_lt_lenBound {i : Nat} (h : i < lenBound) : i ≠ curHeight := by
  unfold lenBound at h; unfold curHeight; omega

/-- Reading a store in which `gcount`, the height slot `n`, `gcurrent` and the entry `id` have been
    overwritten (`none` = deleted): what `save` and `remove` leave behind (`sget_save`, `sget_remove`). -/
def idxRead (d : Store) (n : Nat) (id : Bytes) (vcnt vslot vcur vid : Option Val) (k : Bytes) : Option Val :=
  if k = cntKey then vcnt else if k = hkey n then vslot else if k = curKey then vcur
  else if k = id then vid else sget d k

section idxRead
variable {d : Store} {n : Nat} {id : Bytes} {vcnt vslot vcur vid : Option Val}

theorem idxRead_cntKey : idxRead d n id vcnt vslot vcur vid cntKey = vcnt := if_pos rfl

theorem idxRead_curKey (hn : n < lenBound) : idxRead d n id vcnt vslot vcur vid curKey = vcur := by
  rw [idxRead, if_neg curKey_ne_cntKey, if_neg (hkey_ne_curKey hn).symm, if_pos rfl]

theorem idxRead_hkey (hid : IdOK id) {i : Nat} (hi : i < u64) (hn : n < u64) (hc : i ≠ curHeight) :
    idxRead d n id vcnt vslot vcur vid (hkey i) = if i = n then vslot else sget d (hkey i) := by
  rw [idxRead, if_neg (hkey_ne_cntKey i)]
  by_cases e : i = n
  · rw [if_pos (e ▸ rfl), if_pos e]
  · rw [if_neg (fun h => e (hkey_inj hi hn h)), if_neg e, if_neg (fun h => hc (hkey_eq_curKey hi h)),
      if_neg (fun h => hid.ne_hkey i h.symm)]

theorem idxRead_id {k : Bytes} (hk : IdOK k) :
    idxRead d n id vcnt vslot vcur vid k = if k = id then vid else sget d k := by
  rw [idxRead, if_neg hk.ne_cntKey, if_neg (hk.ne_hkey n), if_neg hk.ne_curKey]

theorem idxRead_nil (hid : IdOK id) : idxRead d n id vcnt vslot vcur vid [] = sget d [] := by
  rw [idxRead, if_neg (by decide), if_neg (hkey_ne_nil n).symm, if_neg (by decide), if_neg hid.1.symm]

end idxRead

theorem sget_save (d : Store) (n : Nat) (g : Group) (k : Bytes) :
    sget (applyWrites d (saveWrites n g)) k =
      idxRead d n g.id (some (.cnt ((n + 1) % u64))) (some (.ref g.id)) (some (.ref g.id))
        (some (.grp (stamped n g))) k := by
  simp [applyWrites, saveWrites, applyWrite, sget_sput, idxRead]

theorem sget_remove (d : Store) (n : Nat) (g pre : Group) (k : Bytes) :
    sget (applyWrites d (removeWrites n g pre)) k =
      idxRead d ((n + u64 - 1) % u64) g.id (some (.cnt ((n + u64 - 1) % u64))) none (some (.ref pre.id)) none k := by
  simp [applyWrites, removeWrites, applyWrite, sget_sput, sget_sdel, idxRead]

/-- `Rep` without the bookkeeping of the newest group (`count`, `last`, `gcurrent`, `gcount`). It also makes
    sense for the empty list: a store nothing has been saved to yet. -/
structure Listed (l : List Group) (d : Store) : Prop where
  bound : l.length < lenBound
  slot : ∀ (i : Nat) (g : Group), l[i]? = some g → sget d (hkey i) = some (.ref g.id)
  stored : ∀ (g : Group), g ∈ l → sget d g.id = some (.grp g)
  height : ∀ (i : Nat) (g : Group), l[i]? = some g → g.height = i
  idok : ∀ (g : Group), g ∈ l → IdOK g.id
  above : ∀ i, l.length ≤ i → i < u64 → i ≠ curHeight → sget d (hkey i) = none
  linked : Linked [] l
  nodup : (l.map (·.id)).Nodup
  empty : sget d [] = none

theorem Rep.listed {l c} (r : Rep l c) : Listed l c.disk := { r with }

theorem Rep.of_listed {l c} (hne : l ≠ []) (h : Listed l c.disk) (hcount : c.count = l.length)
    (hlast : l.getLast? = some c.last) (hcur : sget c.disk curKey = some (.ref c.last.id))
    (hcnt : sget c.disk cntKey = some (.cnt l.length)) : Rep l c :=
  { h with ne := hne, count := hcount, last := hlast, cur := hcur, cnt := hcnt }

theorem fresh_of_nodup {l t : List Group} {g : Group} (h : (l.map (·.id) ++ (g :: t).map (·.id)).Nodup) :
    ∀ x ∈ l, x.id ≠ g.id := fun x hx =>
  (List.nodup_append.mp h).2.2 x.id (List.mem_map.mpr ⟨x, hx, rfl⟩) g.id (List.mem_cons_self ..)

theorem Listed.save {l : List Group} {d d' : Store} (h : Listed l d) (g : Group) {vcnt vcur : Option Val}
    (hd' : ∀ k, sget d' k =
      idxRead d l.length g.id vcnt (some (.ref g.id)) vcur (some (.grp (stamped l.length g))) k)
    (hb : l.length + 1 < lenBound) (hid : IdOK g.id) (hfresh : ∀ x ∈ l, x.id ≠ g.id)
    (hpre : g.pre = (l.getLast?.map (·.id)).getD []) : Listed (l ++ [stamped l.length g]) d' := by
  have hn : l.length < lenBound := Nat.lt_of_succ_lt hb
  have hlen : l.length < u64 := lt_u64_of_lt_lenBound hn
  refine {
    bound := by rw [List.length_append]; exact hb
    linked := (Linked_snoc [] l _).mpr ⟨h.linked, hpre⟩
    slot := ?slot, stored := ?stored, height := ?height, idok := ?idok, above := ?above, nodup := ?nodup,
    empty := ?empty }
  case slot =>
    intro i x hx
    rw [hd']
    rcases (getElem?_snoc l _ x i).mp hx with hx | ⟨rfl, rfl⟩
    · have hi := (List.getElem?_eq_some_iff.mp hx).1
      have hi' := Nat.lt_trans hi hn
      rw [idxRead_hkey hid (lt_u64_of_lt_lenBound hi') hlen (ne_curHeight_of_lt_lenBound hi'),
        if_neg (Nat.ne_of_lt hi)]
      exact h.slot i x hx
    · rw [idxRead_hkey hid hlen hlen (ne_curHeight_of_lt_lenBound hn), if_pos rfl]; rfl
  case stored =>
    intro x hx
    rw [hd']
    rcases List.mem_append.mp hx with hx | hx
    · rw [idxRead_id (h.idok x hx), if_neg (hfresh x hx)]; exact h.stored x hx
    · rw [List.mem_singleton.mp hx]; exact (idxRead_id hid).trans (if_pos rfl)
  case height =>
    intro i x hx
    rcases (getElem?_snoc l _ x i).mp hx with hx | ⟨rfl, rfl⟩
    · exact h.height i x hx
    · rfl
  case idok =>
    intro x hx
    rcases List.mem_append.mp hx with hx | hx
    · exact h.idok x hx
    · rw [List.mem_singleton.mp hx]; exact hid
  case above =>
    intro i h1 h2 h3
    rw [List.length_append, List.length_singleton] at h1
    rw [hd', idxRead_hkey hid h2 hlen h3, if_neg (Nat.ne_of_gt h1)]
    exact h.above i (Nat.le_of_succ_le h1) h2 h3
  case nodup =>
    rw [List.map_append, List.nodup_append]
    refine ⟨h.nodup, by simp, fun a ha b hb' => ?_⟩
    obtain ⟨x, hx, rfl⟩ := List.mem_map.mp ha
    rw [List.mem_singleton.mp hb']; exact hfresh x hx
  case empty => rw [hd', idxRead_nil hid]; exact h.empty

theorem Listed.remove {l : List Group} {g : Group} {d d' : Store} (h : Listed (l ++ [g]) d)
    {vcnt vcur : Option Val} (hd' : ∀ k, sget d' k = idxRead d l.length g.id vcnt none vcur none k) :
    Listed l d' := by
  have hn : l.length < lenBound := by
    have := h.bound; rw [List.length_append] at this; exact Nat.lt_of_succ_lt this
  have hlen : l.length < u64 := lt_u64_of_lt_lenBound hn
  have hgid : IdOK g.id := h.idok g (List.mem_append_right _ (List.mem_singleton.mpr rfl))
  have hnd := h.nodup
  rw [List.map_append] at hnd
  have hfresh := fresh_of_nodup hnd
  refine {
    bound := hn
    height := fun i x hx => h.height i x ((getElem?_snoc l g x i).mpr (.inl hx))
    idok := fun x hx => h.idok x (List.mem_append_left _ hx)
    linked := ((Linked_snoc [] l g).mp h.linked).1
    nodup := (List.nodup_append.mp hnd).1
    slot := ?slot, stored := ?stored, above := ?above, empty := ?empty }
  case slot =>
    intro i x hx
    have hi : i < l.length := (List.getElem?_eq_some_iff.mp hx).1
    have hi' := Nat.lt_trans hi hn
    rw [hd', idxRead_hkey hgid (lt_u64_of_lt_lenBound hi') hlen (ne_curHeight_of_lt_lenBound hi'),
      if_neg (Nat.ne_of_lt hi)]
    exact h.slot i x ((getElem?_snoc l g x i).mpr (.inl hx))
  case stored =>
    intro x hx
    rw [hd', idxRead_id (h.idok x (List.mem_append_left _ hx)), if_neg (hfresh x hx)]
    exact h.stored x (List.mem_append_left _ hx)
  case above =>
    intro i h1 h2 h3
    rw [hd', idxRead_hkey hgid h2 hlen h3]
    split
    · rfl
    · next e =>
      exact h.above i (by rw [List.length_append]; exact Nat.lt_of_le_of_ne h1 (Ne.symm e)) h2 h3
  case empty => rw [hd', idxRead_nil hgid]; exact h.empty

theorem Listed.frame {l : List Group} {d d' : Store} (h : Listed l d)
    (hk : ∀ i, sget d' (hkey i) = sget d (hkey i)) (hi : ∀ x ∈ l, sget d' x.id = sget d x.id)
    (he : sget d' [] = sget d []) : Listed l d' :=
  { h with
    slot := fun i g hg => (hk i).trans (h.slot i g hg)
    stored := fun g hg => (hi g hg).trans (h.stored g hg)
    above := fun i h1 h2 h3 => (hk i).trans (h.above i h1 h2 h3)
    empty := he.trans h.empty }

theorem Rep.byId {l c} (r : Rep l c) {g : Group} (hg : g ∈ l) : getGroupById c.disk g.id = some g := by
  simp only [getGroupById, r.stored g hg]

theorem Rep.byHeight_lt {l c} (r : Rep l c) {i : Nat} {g : Group} (hg : l[i]? = some g) :
    getGroupByHeight c.disk i = some g := by
  simp only [getGroupByHeight, slotId, r.slot i g hg, r.byId (List.mem_of_getElem? hg)]

theorem Rep.byHeight_ge {l c} (r : Rep l c) {i : Nat} (h1 : l.length ≤ i) (h2 : i < u64)
    (h3 : i ≠ curHeight) : getGroupByHeight c.disk i = none := by
  simp only [getGroupByHeight, slotId, r.above i h1 h2 h3]

theorem Rep.last_mem {l c} (r : Rep l c) : c.last ∈ l := List.mem_of_getLast? r.last

theorem Rep.last_idx {l c} (r : Rep l c) : l[l.length - 1]? = some c.last := by
  have := r.last
  rwa [List.getLast?_eq_getElem?] at this

theorem Rep.pos {l c} (r : Rep l c) : 0 < l.length := List.length_pos_iff.mpr r.ne

theorem Rep.id_ne_hkey {l c} (r : Rep l c) {g : Group} (hg : g ∈ l) (n : Nat) : g.id ≠ hkey n :=
  (r.idok g hg).ne_hkey n

theorem Rep.eq_snoc {l c} (r : Rep l c) : l = l.dropLast ++ [c.last] := by
  have h := r.last
  rw [List.getLast?_eq_some_getLast r.ne] at h
  rw [← Option.some.inj h]
  exact (List.dropLast_concat_getLast r.ne).symm

theorem topHeight_rep {l : List Group} {c : Chain} (r : Rep l c) : topHeight c = l.length - 1 := by
  rw [topHeight, r.count]
  split
  · rfl
  · next h => exact (Nat.sub_eq_zero_of_le (Nat.le_of_not_lt h)).symm

/-- Two chains that differ at most in the sqlite mirror. -/
def SameCore (a b : Chain) : Prop := a.disk = b.disk ∧ a.count = b.count ∧ a.last = b.last

theorem Rep.of_sameCore {l : List Group} {a b : Chain} (r : Rep l b) (h : SameCore a b) : Rep l a := by
  obtain ⟨hd, hc, hl⟩ := h
  exact Rep.of_listed r.ne (hd ▸ r.listed) (hc ▸ r.count) (hl ▸ r.last) (by rw [hd, hl]; exact r.cur)
    (hd ▸ r.cnt)

/-- Stated on `Listed` so that `l = []`, the first genesis save on a fresh store, is an instance. -/
theorem rep_save_of_listed {l : List Group} {c : Chain} (h : Listed l c.disk) (hc : c.count = l.length) (g : Group)
    (hb : l.length + 1 < lenBound) (hid : IdOK g.id) (hfresh : ∀ x ∈ l, x.id ≠ g.id)
    (hpre : g.pre = (l.getLast?.map (·.id)).getD []) : Rep (l ++ [stamped l.length g]) (save c g) := by
  have hdisk : (save c g).disk = applyWrites c.disk (saveWrites l.length g) := by rw [save, hc]
  have hd := fun k => (congrArg (sget · k) hdisk).trans (sget_save c.disk l.length g k)
  refine Rep.of_listed (by simp) (h.save g hd hb hid hfresh hpre) ?_
    (by rw [List.getLast?_concat, save, hc]) ?_ ?_
  · simp only [save, hc, List.length_append, List.length_singleton]
    exact Nat.mod_eq_of_lt (lt_u64_of_lt_lenBound hb)
  · rw [hd, idxRead_curKey (Nat.lt_of_succ_lt hb)]; rfl
  · rw [hd, idxRead_cntKey, List.length_append, List.length_singleton,
      Nat.mod_eq_of_lt (lt_u64_of_lt_lenBound hb)]

theorem rep_save {l : List Group} {c : Chain} (r : Rep l c) (g : Group)
    (hb : l.length + 1 < lenBound) (hid : IdOK g.id) (hfresh : ∀ x ∈ l, x.id ≠ g.id)
    (hpre : g.pre = c.last.id) :
    Rep (l ++ [stamped l.length g]) (save c g) :=
  rep_save_of_listed r.listed r.count g hb hid hfresh (by rw [r.last]; exact hpre)

theorem addCheck_eq_ok {c : Chain} {g : Group} :
    addCheck c g = .ok ↔ shas c.disk g.id = false ∧ shas c.disk g.parent = true ∧ c.last.id = g.pre := by
  unfold addCheck
  cases shas c.disk g.id <;> cases shas c.disk g.parent <;> simp

theorem fresh_of_addCheck {l : List Group} {c : Chain} (r : Rep l c) {g : Group} (hok : addCheck c g = .ok) :
    ∀ x ∈ l, x.id ≠ g.id := by
  intro x hx e
  have h1 := (addCheck_eq_ok.mp hok).1
  rw [shas, ← e, r.stored x hx] at h1
  cases h1

theorem rep_add {l : List Group} {c : Chain} (r : Rep l c) (g : Group)
    (hb : l.length + 1 < lenBound) (hid : IdOK g.id) (hok : addCheck c g = .ok) :
    addGroup c g = (.ok, save c g) ∧ Rep (l ++ [stamped l.length g]) (save c g) :=
  ⟨by simp only [addGroup, hok],
    rep_save r g hb hid (fresh_of_addCheck r hok) (addCheck_eq_ok.mp hok).2.2.symm⟩

theorem addGroup_eq (c : Chain) (g : Group) :
    addGroup c g = (addCheck c g, if addCheck c g = .ok then save c g else c) := by
  unfold addGroup
  cases addCheck c g <;> rfl

theorem addGroup_rejected {c : Chain} {g : Group} (h : addCheck c g ≠ .ok) :
    addGroup c g = (addCheck c g, c) := by
  rw [addGroup_eq, if_neg h]

theorem remove_of_pre {c : Chain} {g p : Group} (h : getGroupById c.disk g.pre = some p) :
    remove c g = (true, { disk := applyWrites c.disk (removeWrites c.count g p),
                          count := (c.count + u64 - 1) % u64, last := p,
                          mirror := mirrorDelete c.mirror g.id }) := by
  simp only [remove, h]

theorem Rep.pre_last {l : List Group} {g : Group} {c : Chain} (r : Rep (l ++ [g]) c) (hl : l ≠ []) :
    ∃ p, l.getLast? = some p ∧ c.last = g ∧ getGroupById c.disk g.pre = some p := by
  have hp := List.getLast?_eq_some_getLast hl
  refine ⟨_, hp, by simpa using r.last.symm, ?_⟩
  rw [((Linked_snoc [] l g).mp r.linked).2, hp]
  exact r.byId (List.mem_append_left _ (List.mem_of_getLast? hp))

theorem rep_remove {l : List Group} {g : Group} {c : Chain} (r : Rep (l ++ [g]) c) (hl : l ≠ []) :
    (remove c c.last).1 = true ∧ Rep l (remove c c.last).2 := by
  obtain ⟨p, hp, hlast, hget⟩ := r.pre_last hl
  have hn : l.length < lenBound := by
    have := r.bound; rw [List.length_append] at this; exact Nat.lt_of_succ_lt this
  have hdec : (c.count + u64 - 1) % u64 = l.length := by
    rw [r.count, List.length_append, List.length_singleton]
    exact u64_pred_succ (lt_u64_of_lt_lenBound hn)
  have hd : ∀ k, sget (applyWrites c.disk (removeWrites c.count g p)) k = _ := fun k => by
    rw [sget_remove, hdec]
  rw [hlast, remove_of_pre hget]
  refine ⟨rfl, Rep.of_listed hl (r.listed.remove hd) hdec hp ?_ ?_⟩
  · exact (hd curKey).trans (idxRead_curKey hn)
  · exact (hd cntKey).trans idxRead_cntKey

theorem remove_single {g : Group} {c : Chain} (r : Rep [g] c) : remove c c.last = (false, c) := by
  have hlast : c.last = g := by simpa using r.last.symm
  have hpre : g.pre = [] := r.linked.1
  simp only [remove, hlast, hpre, getGroupById, r.empty]

theorem restart_eq {l : List Group} {c : Chain} (r : Rep l c) (m : List Bytes) (gen : List Group) :
    restart c.disk m gen = some (.alive { disk := c.disk, count := l.length, last := c.last,
                                          mirror := refreshCache c.disk l.length c.last m }) := by
  simp only [restart, r.cur, r.byId r.last_mem, readCount, r.cnt]

theorem rep_restart {l : List Group} {c : Chain} (r : Rep l c) (m : List Bytes) (gen : List Group) :
    ∃ c', restart c.disk m gen = some (.alive c') ∧ c'.disk = c.disk ∧ c'.count = c.count ∧
      c'.last = c.last ∧ Rep l c' :=
  ⟨_, restart_eq r m gen, rfl, r.count.symm, rfl, r.of_sameCore ⟨rfl, r.count.symm, rfl⟩⟩

/-- A condition `Q` that the three state changes keep next to `Rep`. The removal loop, one operation and a run
    of operations are followed once, for `Rep l c ∧ Q l c`: `Q := True` gives the statements about `Rep`
    alone, the sqlite mirror (`Proofs/GroupChainMirror.lean`) is the other instance. -/
structure SideInv (Q : List Group → Chain → Prop) : Prop where
  save : ∀ {l c} (g : Group), Rep l c → Q l c → (∀ x ∈ l, x.id ≠ g.id) →
    Q (l ++ [stamped l.length g]) (save c g)
  remove : ∀ {l g c}, Rep (l ++ [g]) c → l ≠ [] → Q (l ++ [g]) c → Q l (remove c c.last).2
  restart : ∀ {l c c'} (gen : List Group), Rep l c → Q l c →
    restart c.disk c.mirror gen = some (.alive c') → Q l c'

theorem SideInv.trivial : SideInv (fun _ _ => True) :=
  ⟨fun _ _ _ _ => True.intro, fun _ _ _ => True.intro, fun _ _ _ _ => True.intro⟩

theorem rmLoop_keeps {Q} (hQ : SideInv Q) (h : Nat) : ∀ (t : Nat) (l : List Group) (c : Chain), Rep l c → Q l c →
    l.length = t + 1 → Rep (l.take (h + 1)) (rmLoop h t c) ∧ Q (l.take (h + 1)) (rmLoop h t c) := by
  intro t
  induction t with
  | zero =>
    intro l c r q hl
    rw [List.take_of_length_le (by omega)]; exact ⟨r, q⟩
  | succ t ih =>
    intro l c r q hl
    rw [rmLoop]
    by_cases hh : t + 1 > h
    · -- the counter is the index of the last group (`hl`): slot `t + 1` yields `c.last`, which `remove` drops
      obtain ⟨l', rfl⟩ : ∃ l', l = l' ++ [c.last] := ⟨_, r.eq_snoc⟩
      rw [List.length_append, List.length_singleton, Nat.add_right_cancel_iff] at hl
      have hne : l' ≠ [] := List.ne_nil_of_length_pos (hl ▸ Nat.succ_pos t)
      rw [if_pos hh, r.byHeight_lt (i := t + 1) (by rw [← hl, List.getElem?_concat_length]),
        List.take_append_of_le_length (by omega)]
      exact ih l' _ (rep_remove r hne).2 (hQ.remove r hne q) hl
    · rw [if_neg hh, List.take_of_length_le (by omega)]; exact ⟨r, q⟩

theorem rmTo_keeps {Q} (hQ : SideInv Q) {l : List Group} {c : Chain} (r : Rep l c) (q : Q l c) (h : Nat) :
    Rep (l.take (h + 1)) (rmTo c h) ∧ Q (l.take (h + 1)) (rmTo c h) := by
  rw [rmTo, topHeight_rep r]
  exact rmLoop_keeps hQ h _ l c r q (Nat.sub_add_cancel r.pos).symm

end Rangers.Model.GroupChain
