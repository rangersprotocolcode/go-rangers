import Rangers.Proofs.Evm10Arith
import Rangers.Proofs.Evm10Step
/-!
C10 — under a consistent jump table no Go run-time panic branch of the model is reachable:
the stack check covers every pop and memory is resized to the word-rounded touched range
before `execute`.
-/
namespace Rangers.Proofs.Evm10
open Rangers Rangers.Model.Evm10 Rangers.Model.Evm10.U256

theorem safeMul_words {sz m : Nat} (h : safeMul (toWordSize sz) 32 = (m, false)) :
    sz ≤ m ∧ m < sz + 32 ∧ m % 32 = 0 := by
  unfold safeMul at h
  injection h with h1 h2
  have hw : toWordSize sz * 32 < 2 ^ 64 := by simpa using h2
  rw [Nat.mod_eq_of_lt hw] at h1
  subst h1
  unfold toWordSize maxUint64 at hw ⊢
  split at hw
  · omega
  · rw [if_neg ‹_›]; omega

theorem calc_uint {off : Word} {len sz : Nat} (hlen : 0 < len) (hlen64 : len < 2 ^ 64)
    (h : calcMemSize64WithUint off len = (sz, false)) :
    lo64 off + len = sz ∧ sz < 2 ^ 64 ∧ isUint64 off = true := by
  have hl := lo64_lt off
  have hne : len ≠ 0 := by omega
  simp only [calcMemSize64WithUint, hne, if_false] at h
  by_cases hu : (!isUint64 off) = true
  · simp [hu] at h
  · simp only [hu] at h
    have h1 := congrArg Prod.fst h
    have h2 := congrArg Prod.snd h
    simp only [Bool.false_eq_true, if_false, decide_eq_false_iff_not] at h1 h2
    refine ⟨by omega, by omega, ?_⟩
    simpa using hu

theorem calc_two_len {off l : Word} {sz : Nat} (h : calcMemSize64 off l = (sz, false)) :
    isUint64 l = true := by
  unfold calcMemSize64 at h
  split at h
  · simp at h
  · rename_i hu; simpa using hu

theorem calc_two {off l : Word} {sz : Nat} (hl0 : lo64 l ≠ 0)
    (h : calcMemSize64 off l = (sz, false)) :
    lo64 off + lo64 l = sz ∧ sz < 2 ^ 64 ∧ isUint64 off = true := by
  unfold calcMemSize64 at h
  split at h
  · simp at h
  · exact calc_uint (by omega) (lo64_lt l) h

theorem getElem?_of_le {l : List Word} {k i : Nat} (h : k ≤ l.length) (hi : i < k) :
    l[i]? = some (l[i]'(Nat.lt_of_lt_of_le hi h)) := List.getElem?_eq_getElem _

theorem memorySizeOf_ne_panic_arity (fn : MemFn) (st : List Word) (h : memArity fn ≤ st.length) :
    memorySizeOf fn st ≠ .panic := by
  cases fn
  all_goals dsimp only [memArity] at h
  all_goals dsimp only [memorySizeOf]
  case none | other => nofun
  -- every read `st[i]?` has `i < memArity fn`; once it is rewritten to `some st[i]` the `.panic`
  -- branches are gone and `.size …` is left, for the call family under the `if`s of `twoWindows`
  all_goals simp (disch := decide) only [getElem?_of_le h]
  case memoryCall | memoryDelegateCall | memoryStaticCall | memoryAuthCall =>
    repeat' split
    all_goals nofun
  all_goals nofun

theorem MemSized.size {fn : MemFn} {st : List Word} {ms : Nat} {r : Nat × Bool}
    (hms : MemSized fn st ms) (hfn : memorySizeOf fn st = .size r.1 r.2) :
    r = (r.1, false) ∧ r.1 ≤ ms := by
  rcases hms with ⟨h1, _⟩ | ⟨sz, h1, h2⟩
  · rw [hfn] at h1; cases h1
  · rw [hfn] at h1
    injection h1 with e1 e2
    exact ⟨Prod.ext rfl e2, e1 ▸ (safeMul_words h2).1⟩

theorem cover_two {fn : MemFn} {st : List Word} {ms L : Nat} {off l : Word}
    (hms : MemSized fn st ms) (hL : ms ≤ L)
    (hfn : memorySizeOf fn st = .size (calcMemSize64 off l).1 (calcMemSize64 off l).2) :
    isUint64 l = true ∧ (lo64 l ≠ 0 → isUint64 off = true) ∧
    (lo64 l = 0 ∨ lo64 off + lo64 l ≤ L) := by
  obtain ⟨hc, hle⟩ := hms.size hfn
  refine ⟨calc_two_len hc, fun hl0 => (calc_two hl0 hc).2.2, ?_⟩
  by_cases hl0 : lo64 l = 0
  · exact Or.inl hl0
  · have := (calc_two hl0 hc).1
    exact Or.inr (by omega)

theorem cover_one {fn : MemFn} {st : List Word} {ms L : Nat} {off : Word} {len : Nat}
    (hlen : 0 < len) (hlen64 : len < 2 ^ 64) (hms : MemSized fn st ms) (hL : ms ≤ L)
    (hfn : memorySizeOf fn st =
      .size (calcMemSize64WithUint off len).1 (calcMemSize64WithUint off len).2) :
    lo64 off + len ≤ L := by
  obtain ⟨hc, hle⟩ := hms.size hfn
  have := (calc_uint hlen hlen64 hc).1
  omega

theorem preExec_stack (f : Frame) (a b c : Nat) : (preExec f a b c).stack = f.stack := rfl

/-- MCOPY sizes memory by `max(dst, src) + len`; the larger offset being a uint64, so is the smaller -/
theorem cover_max {a b c : Word} {L : Nat}
    (hu : isUint64 (if gt b a then b else a) = true)
    (h : lo64 (if gt b a then b else a) + lo64 c ≤ L) :
    lo64 b + lo64 c ≤ L ∧ lo64 a ≤ L := by
  simp only [isUint64, decide_eq_true_eq] at hu
  by_cases hab : gt b a = true
  · rw [if_pos hab] at hu h
    have : a.toNat < b.toNat := by simpa [gt, lt] using hab
    rw [lo64_of_lt hu] at h
    rw [lo64_of_lt hu, lo64_of_lt (Nat.lt_trans this hu)]
    omega
  · rw [if_neg hab] at hu h
    have : ¬ a.toNat < b.toNat := by simpa [gt, lt] using hab
    rw [lo64_of_lt hu] at h
    rw [lo64_of_lt hu, lo64_of_lt (show b.toNat < 2 ^ 64 by omega)]
    omega

theorem slice_end_ge {b c : Word} (hb : isUint64 b = true) (hc : isUint64 c = true)
    (he : isUint64 (add b c) = true) : lo64 b ≤ lo64 (add b c) := by
  simp only [isUint64, decide_eq_true_eq] at hb hc he
  rw [lo64_of_lt hb, lo64_of_lt he, add, BitVec.toNat_add, Nat.mod_eq_of_lt (by omega)]
  omega

theorem stack_one {st : List Word} (h : 1 ≤ st.length) : ∃ x r, st = x :: r := by
  rcases st with _ | ⟨x, r⟩
  · exact absurd h (by decide)
  · exact ⟨x, r, rfl⟩

theorem stack_two {st : List Word} (h : 2 ≤ st.length) : ∃ x y r, st = x :: y :: r := by
  obtain ⟨x, r, rfl⟩ := stack_one (Nat.le_of_succ_le h)
  obtain ⟨y, r, rfl⟩ := stack_one (Nat.le_of_succ_le_succ h)
  exact ⟨x, y, r, rfl⟩

theorem stack_three {st : List Word} (h : 3 ≤ st.length) : ∃ x y z r, st = x :: y :: z :: r := by
  obtain ⟨x, y, r, rfl⟩ := stack_two (Nat.le_of_succ_le h)
  obtain ⟨z, r, rfl⟩ := stack_one (Nat.le_of_succ_le_succ (Nat.le_of_succ_le_succ h))
  exact ⟨x, y, z, r, rfl⟩

/-- an act that does not end in a Go panic -/
def Act.Safe : Act → Prop
  | .mem _ m => m ≠ none
  | .load d _ => d ≠ none
  | .exit _ r => r ≠ none
  | .fail e => e ≠ .goPanic
  | _ => True

theorem finish_ne_panic {f : Frame} {a : Act} (h : a.Safe) : finish f a ≠ .err .goPanic := by
  rcases a with _ | _ | ⟨_, _ | _⟩ | ⟨_ | _, _⟩ | ⟨_, _ | _⟩ | _ | _
  case fail => exact fun h' => h (ExecResult.err.inj h')
  all_goals first | exact absurd rfl h | (intro h'; cases h')

theorem execOp_ne_panic_of_pure {H : Bytes → Bytes} {e : Exec} {g : Frame}
    (h : applyPure e g.code g.pc g.stack ≠ none) : execOp H e g ≠ .err .goPanic := by
  rw [execOp_eq]
  cases hp : applyPure e g.code g.pc g.stack
  · exact absurd hp h
  · nofun

theorem execOp_ne_panic_of_act {H : Bytes → Bytes} {e : Exec} {g : Frame}
    (har : arity e ≤ g.stack.length) (h : (act H e g).Safe) : execOp H e g ≠ .err .goPanic := by
  rw [execOp_eq]
  cases applyPure e g.code g.pc g.stack
  · dsimp only
    rw [if_neg (Nat.not_lt.2 har)]
    exact finish_ne_panic h
  · nofun

theorem execOp_no_panic (H : Bytes → Bytes) (e : Exec) (g : Frame) (ms : Nat)
    (har : arity e ≤ g.stack.length) (hdup : ∀ n, e = .dup n → 0 < n)
    (hms : MemSized (expectedMem e) g.stack ms) (hmem : ms ≤ g.mem.length) :
    execOp H e g ≠ .err .goPanic := by
  obtain ⟨code, input, bitmap, st, mem, pc, gas, last, rd⟩ := g
  cases e
  case dup n =>
    have hn := hdup n rfl
    refine execOp_ne_panic_of_pure ?_
    dsimp only [applyPure, binFn, unFn, terFn]
    rw [if_neg (Nat.ne_of_gt hn),
      List.getElem?_eq_getElem (Nat.lt_of_lt_of_le (Nat.sub_lt hn Nat.one_pos) har)]
    nofun
  case swap n =>
    refine execOp_ne_panic_of_pure ?_
    obtain ⟨top, tl, rfl⟩ := stack_one (Nat.le_trans (Nat.le_add_left 1 n) har)
    dsimp only [applyPure, binFn, unFn, terFn]
    rw [List.getElem?_eq_getElem (show n < (top :: tl).length from har)]
    split <;> nofun
  case opCallDataLoad => exact execOp_ne_panic_of_act har (by dsimp only [act]; split <;> trivial)
  case opJump => exact execOp_ne_panic_of_act har (by dsimp only [act]; split <;> first | trivial | nofun)
  case opJumpi =>
    refine execOp_ne_panic_of_act har ?_
    dsimp only [act]
    repeat' split
    all_goals first | trivial | nofun
  case opSha3 | opReturn | opRevert =>
    obtain ⟨x, y, rest, rfl⟩ := stack_two har
    exact execOp_ne_panic_of_act har (getPtr_ne_none _ _ _ (cover_two (off := x) (l := y) hms hmem rfl).2.2)
  case opCallDataCopy | opCodeCopy =>
    obtain ⟨x, y, z, rest, rfl⟩ := stack_three har
    exact execOp_ne_panic_of_act har (set_ne_none _ _ _ _ (cover_two (off := x) (l := z) hms hmem rfl).2.2)
  case opReturnDataCopy =>
    obtain ⟨x, y, z, rest, rfl⟩ := stack_three har
    have hc := cover_two (off := x) (l := z) hms hmem rfl
    refine execOp_ne_panic_of_act har ?_
    show Act.Safe (if (!isUint64 y) = true then _ else if (!isUint64 (add y z) ||
      decide (rd.length < lo64 (add y z))) = true then _ else if lo64 y > lo64 (add y z) then _ else _)
    by_cases hb : (!isUint64 y) = true
    · rw [if_pos hb]; nofun
    · rw [if_neg hb]
      by_cases hov : (!isUint64 (add y z) || decide (rd.length < lo64 (add y z))) = true
      · rw [if_pos hov]; nofun
      · rw [if_neg hov]
        -- the slice `returnData[offset64:end64]`
        have heu : isUint64 (add y z) = true := by
          cases h : isUint64 (add y z)
          · rw [h] at hov; exact absurd rfl hov
          · rfl
        rw [if_neg (Nat.not_lt.2 (slice_end_ge (by simpa using hb) hc.1 heu))]
        exact set_ne_none _ _ _ _ hc.2.2
  case opMload =>
    obtain ⟨x, rest, rfl⟩ := stack_one har
    exact execOp_ne_panic_of_act har (getPtr_ne_none _ _ _
      (Or.inr (cover_one (off := x) (len := 32) (by omega) (by omega) hms hmem rfl)))
  case opMstore =>
    obtain ⟨x, y, rest, rfl⟩ := stack_two har
    exact execOp_ne_panic_of_act har (set32_ne_none _ _ _
      (cover_one (off := x) (len := 32) (by omega) (by omega) hms hmem rfl))
  case opMstore8 =>
    obtain ⟨x, y, rest, rfl⟩ := stack_two har
    exact execOp_ne_panic_of_act har (setByte_ne_none _ _ _
      (cover_one (off := x) (len := 1) (by omega) (by omega) hms hmem rfl))
  case opMcopy =>
    obtain ⟨a, b, c, rest, rfl⟩ := stack_three har
    have hc := cover_two (off := if gt b a then b else a) (l := c) hms hmem rfl
    refine execOp_ne_panic_of_act har (copy_ne_none _ _ _ _ ?_)
    by_cases hl0 : lo64 c = 0
    · exact Or.inl hl0
    · exact Or.inr (cover_max (hc.2.1 hl0) (hc.2.2.resolve_left hl0))
  -- the acts that only push; PUSH and JUMPDEST; the word functions, given their one, two or three operands
  all_goals first
    | exact execOp_ne_panic_of_act har trivial
    | exact execOp_ne_panic_of_pure (by intro h; cases h)
    | (obtain ⟨x, y, rest, rfl⟩ := stack_two har; exact execOp_ne_panic_of_pure (by intro h; cases h))
    | (obtain ⟨x, rest, rfl⟩ := stack_one har; exact execOp_ne_panic_of_pure (by intro h; cases h))
    | (obtain ⟨x, y, z, rest, rfl⟩ := stack_three har; exact execOp_ne_panic_of_pure (by intro h; cases h))

/-- **Under a consistent jump table the interpreter never reaches a Go run-time panic.** -/
theorem step_no_goPanic (H : Bytes → Bytes) (t : Table) (p : GasParams) (f : Frame)
    (ht : tableOK t = true) : step H t p f ≠ .fail .goPanic := by
  refine step_elim (P := (· ≠ .fail .goPanic)) (fun e he h => he (StepResult.fail.inj h))
    (fun _ => nofun) ?_ ?_
  · intro info hget hmin hp _
    exact memorySizeOf_ne_panic_arity _ _
      (Nat.le_trans (slotOK_memArity (slotOK_of_get ht hget)) hmin) hp
  · intro info gas2 last ms hget hmin _ hms h
    have hex := stepExec_fail h
    rcases slotOK_cases (slotOK_of_get ht hget) with ⟨hoth, _⟩ | ⟨har, hme, hd⟩
    · obtain ⟨name, he⟩ := eq_other_of_isOther hoth
      rw [he] at hex; cases hex
    · exact execOp_no_panic H info.exec (preExec f gas2 last ms) ms (Nat.le_trans har hmin) hd (hme ▸ hms)
        (by rw [preExec_mem_length]; exact Nat.le_max_right _ _) hex

/-- No Go panic for every instruction that touches no memory (stack, arithmetic, PUSH/DUP/SWAP,
jumps, PC/MSIZE/GAS, calldata/code size and load). -/
theorem step_no_goPanic_nomem (H : Bytes → Bytes) (t : Table) (p : GasParams) (f : Frame)
    (ht : tableOK t = true)
    (hnm : ∀ info, t.get (getOp f.code f.pc) = some info → info.memSize = .none) :
    step H t p f ≠ .fail .goPanic :=
  step_no_goPanic H t p f ht

end Rangers.Proofs.Evm10
