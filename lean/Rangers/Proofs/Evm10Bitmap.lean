import Rangers.Model.Evm10Ops
/-!
C10 — `codeBitmap` (analysis.go) marks exactly the PUSH-data positions.  Specification side:
`Boundary` (Yellow Paper 9.4.3, the function N) and `InPushData`.
-/
namespace Rangers.Proofs.Evm10
open Rangers Rangers.Model.Evm10 Rangers.Model.Evm10.Bitvec

/-- number of PUSH-data bytes that follow opcode byte `b` (0 if `b` is not PUSH1..PUSH32) -/
def pushLen (b : UInt8) : Nat := if isPush b then b.toNat - 0x5f else 0

/-- instruction starts reached by decoding the code from 0 -/
inductive Boundary (code : Bytes) : Nat → Prop
  | zero : Boundary code 0
  | step {p : Nat} : Boundary code p → p < code.length →
      Boundary code (p + 1 + pushLen (code.getD p 0))

/-- position `i` lies inside the data bytes of some PUSH instruction -/
def InPushData (code : Bytes) (i : Nat) : Prop :=
  ∃ p, Boundary code p ∧ p < code.length ∧ p < i ∧ i ≤ p + pushLen (code.getD p 0)

/-- the bit of position `pos` (set = PUSH data) -/
def bitAt (bits : Bytes) (pos : Nat) : Bool := !(codeSegment bits pos)

theorem u8_and_or_distrib (a m n : UInt8) : (a ||| m) &&& n = (a &&& n) ||| (m &&& n) := by
  apply UInt8.toBitVec_inj.1
  simp only [UInt8.toBitVec_and, UInt8.toBitVec_or]
  exact BitVec.and_or_distrib_right

theorem u8_or_and_eq_zero (a m n : UInt8) :
    (((a ||| m) &&& n) == 0) = (((a &&& n) == 0) && ((m &&& n) == 0)) := by
  rw [u8_and_or_distrib]
  rw [Bool.eq_iff_iff]
  simp only [beq_iff_eq, Bool.and_eq_true, UInt8.or_eq_zero_iff]

theorem sh_mod (x : UInt8) (pos : Nat) : sh x pos = sh x (pos % 8) := by
  simp [sh]

theorem forall_mod8 {P : Nat → Nat → Prop} (h : ∀ k j : Fin 8, P k.val j.val) (p j : Nat) :
    P (p % 8) (j % 8) :=
  h ⟨p % 8, Nat.mod_lt _ (by omega)⟩ ⟨j % 8, Nat.mod_lt _ (by omega)⟩

theorem sh80_sh80 (p j : Nat) : ((sh 0x80 p &&& sh 0x80 j) == 0) = !(decide (p % 8 = j % 8)) := by
  rw [sh_mod _ p, sh_mod _ j]
  exact forall_mod8 (P := fun k j => ((sh 0x80 k &&& sh 0x80 j) == 0) = !(decide (k = j)))
    (by decide) p j

theorem shFF_sh80 (p j : Nat) : ((sh 0xFF p &&& sh 0x80 j) == 0) = !(decide (p % 8 ≤ j % 8)) := by
  rw [sh_mod _ p, sh_mod _ j]
  exact forall_mod8 (P := fun k j => ((sh 0xFF k &&& sh 0x80 j) == 0) = !(decide (k ≤ j)))
    (by decide) p j

theorem nshFF_sh80 (p j : Nat) :
    ((~~~ (sh 0xFF p) &&& sh 0x80 j) == 0) = !(decide (j % 8 < p % 8)) := by
  rw [sh_mod _ p, sh_mod _ j]
  exact forall_mod8 (P := fun k j => ((~~~ (sh 0xFF k) &&& sh 0x80 j) == 0) = !(decide (j < k)))
    (by decide) p j

theorem modifyAt_length (l : Bytes) (i : Nat) (f : UInt8 → UInt8) : (modifyAt l i f).length = l.length := by
  induction l generalizing i with
  | nil => simp [modifyAt]
  | cons b bs ih => cases i <;> simp [modifyAt, ih]

theorem modifyAt_getD (l : Bytes) (i j : Nat) (f : UInt8 → UInt8) (hi : i < l.length) :
    (modifyAt l i f).getD j 0 = if j = i then f (l.getD i 0) else l.getD j 0 := by
  induction l generalizing i j with
  | nil => simp at hi
  | cons b bs ih =>
    cases i with
    | zero => cases j <;> simp [modifyAt]
    | succ i =>
      cases j with
      | zero => simp [modifyAt]
      | succ j =>
        simp only [modifyAt, List.getD_cons_succ]
        have := ih i j (by simpa using hi)
        simpa using this

theorem bitvecSet_length (bits : Bytes) (pos : Nat) : (Bitvec.set bits pos).length = bits.length := by
  simp [Bitvec.set, modifyAt_length]

theorem bitvecSet8_length (bits : Bytes) (pos : Nat) : (set8 bits pos).length = bits.length := by
  simp [set8, modifyAt_length]

theorem bitAt_or (bits : Bytes) (i : Nat) (m : UInt8) (j : Nat) (h : i < bits.length) :
    bitAt (modifyAt bits i (fun b => b ||| m)) j =
      (bitAt bits j || (decide (j / 8 = i) && !((m &&& sh 0x80 j) == 0))) := by
  unfold bitAt codeSegment
  rw [modifyAt_getD _ _ _ _ h]
  by_cases hb : j / 8 = i
  · subst hb; rw [if_pos rfl, u8_or_and_eq_zero]; simp
  · rw [if_neg hb]; simp [hb]

/-- `b'` is `b` with the positions `lo ≤ j < hi` marked as well -/
def Marks (b b' : Bytes) (lo hi : Nat) : Prop :=
  b'.length = b.length ∧ ∀ j, bitAt b' j = (bitAt b j || decide (lo ≤ j ∧ j < hi))

theorem Marks.refl (b : Bytes) (lo : Nat) : Marks b b lo lo :=
  ⟨rfl, fun j => by rw [decide_eq_false (by omega), Bool.or_false]⟩

theorem Marks.trans {b b' b'' : Bytes} {lo mid hi : Nat} (h1 : Marks b b' lo mid)
    (h2 : Marks b' b'' mid hi) (hl : lo ≤ mid) (hh : mid ≤ hi) : Marks b b'' lo hi := by
  refine ⟨h2.1.trans h1.1, fun j => ?_⟩
  rw [h2.2 j, h1.2 j, Bool.or_assoc, ← Bool.decide_or]
  congr 2
  apply propext
  omega

theorem bitvecSet_marks (bits : Bytes) (pos : Nat) (h : pos / 8 < bits.length) :
    Marks bits (Bitvec.set bits pos) pos (pos + 1) := by
  refine ⟨bitvecSet_length bits pos, fun j => ?_⟩
  rw [Bitvec.set, bitAt_or _ _ _ _ h, sh80_sh80, Bool.not_not, ← Bool.decide_and]
  congr 1
  exact decide_eq_decide.2 (by omega)

theorem bitvecSet8_marks (bits : Bytes) (pos : Nat) (h : pos / 8 + 1 < bits.length) :
    Marks bits (set8 bits pos) pos (pos + 8) := by
  refine ⟨bitvecSet8_length bits pos, fun j => ?_⟩
  rw [set8, bitAt_or _ _ _ _ (by rw [modifyAt_length]; exact h), bitAt_or _ _ _ _ (by omega),
    nshFF_sh80, shFF_sh80, Bool.not_not, Bool.not_not, Bool.or_assoc, ← Bool.decide_and,
    ← Bool.decide_and, ← Bool.decide_or]
  congr 1
  exact decide_eq_decide.2 (by omega)

theorem iterMark {st : Bytes → Nat → Bytes} {K : Nat}
    (hst : ∀ b p, (p + K) / 8 < b.length → Marks b (st b p) p (p + K))
    {mk : Nat → Bytes → Nat → Bytes × Nat} (h0 : ∀ b p, mk 0 b p = (b, p))
    (hs : ∀ n b p, mk (n + 1) b p = mk n (st b p) (p + K)) :
    ∀ n b p, (p + K * n) / 8 < b.length →
      (mk n b p).2 = p + K * n ∧ Marks b (mk n b p).1 p (p + K * n) := by
  intro n
  induction n with
  | zero =>
    intro b p _
    rw [h0]
    exact ⟨rfl, Marks.refl b p⟩
  | succ n ih =>
    intro b p h
    rw [Nat.mul_succ, Nat.add_comm (K * n), ← Nat.add_assoc] at h ⊢
    have h1 := hst b p (Nat.lt_of_le_of_lt (Nat.div_le_div_right (Nat.le_add_right _ _)) h)
    obtain ⟨e1, e2⟩ := ih (st b p) (p + K) (by rw [h1.1]; exact h)
    rw [hs]
    exact ⟨e1, h1.trans e2 (Nat.le_add_right _ _) (Nat.le_add_right _ _)⟩

theorem mark1_spec (r : Nat) (bits : Bytes) (pc : Nat) (h : (pc + r) / 8 < bits.length) :
    (mark1 r bits pc).2 = pc + r ∧ Marks bits (mark1 r bits pc).1 pc (pc + r) := by
  have := iterMark (st := Bitvec.set) (K := 1) (mk := mark1)
    (fun b p hp => bitvecSet_marks b p (Nat.lt_of_le_of_lt (Nat.div_le_div_right (Nat.le_add_right _ _)) hp))
    (fun _ _ => rfl) (fun _ _ _ => rfl) r bits pc (by rwa [Nat.one_mul])
  rwa [Nat.one_mul] at this

theorem mark8_spec (q : Nat) (bits : Bytes) (pc : Nat) (h : (pc + 8 * q) / 8 < bits.length) :
    (mark8 q bits pc).2 = pc + 8 * q ∧ Marks bits (mark8 q bits pc).1 pc (pc + 8 * q) :=
  iterMark (st := set8) (K := 8) (mk := mark8) (fun b p hp => bitvecSet8_marks b p (by omega))
    (fun _ _ => rfl) (fun _ _ _ => rfl) q bits pc h

theorem markPush_spec (nb : Nat) (bits : Bytes) (pc : Nat) (h : (pc + nb) / 8 < bits.length) :
    (mark1 (nb % 8) (mark8 (nb / 8) bits pc).1 (mark8 (nb / 8) bits pc).2).2 = pc + nb ∧
    Marks bits (mark1 (nb % 8) (mark8 (nb / 8) bits pc).1 (mark8 (nb / 8) bits pc).2).1 pc (pc + nb) := by
  have hnb : 8 * (nb / 8) + nb % 8 = nb := Nat.div_add_mod nb 8
  obtain ⟨a1, a2⟩ := mark8_spec (nb / 8) bits pc
    (Nat.lt_of_le_of_lt (Nat.div_le_div_right (by omega)) h)
  obtain ⟨b1, b2⟩ := mark1_spec (nb % 8) (mark8 (nb / 8) bits pc).1 (mark8 (nb / 8) bits pc).2
    (by rw [a1, a2.1, Nat.add_assoc, hnb]; exact h)
  rw [a1] at b1 b2 ⊢
  rw [Nat.add_assoc, hnb] at b1 b2
  exact ⟨b1, a2.trans b2 (Nat.le_add_right _ _) (by omega)⟩

/-- `j` lies in the PUSH data of an instruction that starts below `P` -/
def Covered (code : Bytes) (P j : Nat) : Prop :=
  ∃ p, Boundary code p ∧ p < P ∧ p < code.length ∧ p < j ∧ j ≤ p + pushLen (code.getD p 0)

theorem boundary_gap (code : Bytes) : ∀ q p, Boundary code q → Boundary code p → p < q →
    p < code.length → p + 1 + pushLen (code.getD p 0) ≤ q := by
  intro q
  induction q using Nat.strongRecOn with
  | _ q ih =>
    intro p hq hp hlt hpl
    cases hq with
    | zero => omega
    | @step r hr hrl =>
      rcases Nat.lt_trichotomy p r with h | h | h
      · have := ih r (by omega) p hr hp h hpl
        omega
      · subst h; omega
      · -- `r < p` are both starts, so the instruction at `r` ends at or before `p`
        have := ih p hlt r hp hr h hrl
        omega

theorem covered_next (code : Bytes) (pc : Nat) (hb : Boundary code pc) (hpc : pc < code.length)
    (j : Nat) :
    Covered code (pc + 1 + pushLen (code.getD pc 0)) j ↔
      (Covered code pc j ∨ (pc < j ∧ j ≤ pc + pushLen (code.getD pc 0))) := by
  constructor
  · rintro ⟨p, hp, hlt, hpl, h1, h2⟩
    rcases Nat.lt_trichotomy p pc with h | h | h
    · left; exact ⟨p, hp, h, hpl, h1, h2⟩
    · subst h; right; exact ⟨h1, h2⟩
    · have := boundary_gap code p pc hp hb h hpc
      omega
  · rintro (⟨p, hp, hlt, hpl, h1, h2⟩ | ⟨h1, h2⟩)
    · exact ⟨p, hp, by omega, hpl, h1, h2⟩
    · exact ⟨pc, hb, by omega, hpc, h1, h2⟩

theorem bitAt_replicate (n j : Nat) : bitAt (List.replicate n (0 : UInt8)) j = false := by
  unfold bitAt codeSegment
  have : (List.replicate n (0 : UInt8)).getD (j / 8) 0 = 0 := by
    simp only [List.getD_eq_getElem?_getD, List.getElem?_replicate]
    split <;> rfl
  rw [this]
  simp

theorem isPush_toNat (b : UInt8) (h : isPush b = true) : 0x60 ≤ b.toNat ∧ b.toNat ≤ 0x7f := by
  simpa [isPush] using h

theorem pushLen_le (b : UInt8) : pushLen b ≤ 32 := by
  unfold pushLen
  split
  · rename_i h; have := isPush_toNat b h; omega
  · omega

theorem covered_iff_of_le (code : Bytes) (pc j : Nat) (h : code.length ≤ pc) :
    Covered code pc j ↔ InPushData code j := by
  constructor
  · rintro ⟨p, hp, _, hpl, h1, h2⟩; exact ⟨p, hp, hpl, h1, h2⟩
  · rintro ⟨p, hp, hpl, h1, h2⟩; exact ⟨p, hp, by omega, hpl, h1, h2⟩

theorem loop_step (fuel : Nat) (code : Bytes) (pc : Nat) (bits : Bytes) (hpc : pc < code.length)
    (hlen : (pc + 1 + pushLen (code.getD pc 0)) / 8 < bits.length) :
    ∃ bits', loop (fuel + 1) code pc bits = loop fuel code (pc + 1 + pushLen (code.getD pc 0)) bits' ∧
      Marks bits bits' (pc + 1) (pc + 1 + pushLen (code.getD pc 0)) := by
  rw [loop, if_pos hpc]
  by_cases hp : isPush (code.getD pc 0) = true
  · have hnb : (code.getD pc 0).toNat - 0x60 + 1 = pushLen (code.getD pc 0) := by
      have := isPush_toNat _ hp
      simp only [pushLen, hp, if_true]; omega
    obtain ⟨m1, m2⟩ := markPush_spec (pushLen (code.getD pc 0)) bits (pc + 1) hlen
    simp only [hp, if_true, hnb]
    exact ⟨_, by rw [m1], m2⟩
  · have hpl : pushLen (code.getD pc 0) = 0 := by rw [pushLen, if_neg hp]
    rw [if_neg hp, hpl]
    exact ⟨bits, rfl, Marks.refl bits (pc + 1)⟩

theorem loop_spec (code : Bytes) :
    ∀ (fuel pc : Nat) (bits : Bytes), bits.length = code.length / 8 + 1 + 4 → Boundary code pc →
      code.length ≤ fuel + pc →
      (∀ j, bitAt bits j = true ↔ Covered code pc j) →
      ∀ j, bitAt (loop fuel code pc bits) j = true ↔ InPushData code j := by
  intro fuel
  induction fuel with
  | zero =>
    intro pc bits _ _ hf hinv j
    rw [loop, hinv j]
    exact covered_iff_of_le code pc j (by omega)
  | succ fuel ih =>
    intro pc bits hbl hb hf hinv j
    by_cases hpc : pc < code.length
    · -- the marks of the instruction at `pc < len` end at `len + 32` at most, in byte `len / 8 + 4`:
      -- the four slack bytes of the allocation keep every `set`/`set8` inside the bit vector
      have hnb := pushLen_le (code.getD pc 0)
      obtain ⟨bits', e, hl', hb'⟩ := loop_step fuel code pc bits hpc (by rw [hbl]; omega)
      rw [e]
      apply ih _ bits' (by rw [hl', hbl]) (Boundary.step hb hpc) (by omega)
      intro k
      rw [hb' k, covered_next code pc hb hpc k, Bool.or_eq_true, decide_eq_true_eq, hinv k]
      apply or_congr Iff.rfl
      omega
    · rw [loop, if_neg hpc, hinv j]
      exact covered_iff_of_le code pc j (by omega)

theorem bitAt_codeBitmap (code : Bytes) (j : Nat) :
    bitAt (codeBitmap code) j = true ↔ InPushData code j := by
  unfold codeBitmap
  apply loop_spec code code.length 0 _ (by simp) Boundary.zero
  · omega
  · intro k
    rw [bitAt_replicate]
    constructor
    · intro h; exact absurd h (by simp)
    · rintro ⟨p, _, h, _⟩; omega

theorem codeSegment_codeBitmap (code : Bytes) (i : Nat) :
    codeSegment (codeBitmap code) i = true ↔ ¬ InPushData code i := by
  rw [← bitAt_codeBitmap]
  unfold bitAt
  cases codeSegment (codeBitmap code) i <;> simp

end Rangers.Proofs.Evm10
