import Rangers.Model.TrieDBHead
import Rangers.Proofs.TrieDBInv
/-! Invariant of the head record over the node database. Core Lean only. -/
namespace Rangers.Model.TrieDB

def ChainOpOk (eD eC : Hash) (cs : ChainSt) : ChainOp → Prop
  | .node op => OpOk eD eC cs.st op
  /- `state.Commit` stored the account-trie root (the hasher forces the root into the
     database), or the root is on disk already (a block that changes nothing) -/
  | .insertBlock root _ _ => (liveLookup cs.st root).isSome = true
  | .remove _ => True

/-- every root that was ever recorded as head (`heads`) resolves from the disk alone, and the head record names one of
    them -/
structure ChainInv (cs : ChainSt) : Prop where
  inv : Inv cs.st
  headsRes : ∀ r ∈ cs.heads, Resolvable cs.st.disk r
  headIn : ∀ r, cs.head = some r → r ∈ cs.heads

theorem insertBlock_cases {eD eC : Hash} {cs cs' : ChainSt} {root : Hash} {failAt : Option Nat} {headWriteOk : Bool}
    (hs : chainStep eD eC cs (.insertBlock root failAt headWriteOk) = some cs') :
    ∃ out, commit cs.st root failAt (cs.st.cache.length + 1) = some out ∧ cs'.st = out.st ∧
      ((out.ok = true ∧ cs'.head = some root ∧ cs'.heads = root :: cs.heads) ∨
       (cs'.head = cs.head ∧ cs'.heads = cs.heads)) := by
  dsimp only [chainStep] at hs
  cases hc : commit cs.st root failAt (cs.st.cache.length + 1) with
  | none => rw [hc] at hs; cases hs
  | some out =>
    rw [hc] at hs
    dsimp only at hs
    split at hs
    · cases hs
      exact ⟨out, rfl, rfl, Or.inl ⟨(Bool.and_eq_true_iff.mp ‹_›).1, rfl, rfl⟩⟩
    · cases hs
      exact ⟨out, rfl, rfl, Or.inr ⟨rfl, rfl⟩⟩

theorem chainStep_inv {eD eC : Hash} {cs cs' : ChainSt} {op : ChainOp} (hi : ChainInv cs)
    (hok : ChainOpOk eD eC cs op) (hs : chainStep eD eC cs op = some cs') : ChainInv cs' := by
  cases op with
  | node op =>
    obtain ⟨s', hs', rfl⟩ := Option.map_eq_some_iff.mp hs
    obtain ⟨he, hinv⟩ := step_sound hi.inv hs'
    exact ⟨hinv hok, fun r hr => resolvable_extends he (hi.headsRes r hr), hi.headIn⟩
  | insertBlock root failAt hwok =>
    obtain ⟨out, hc, hst, hhead⟩ := insertBlock_cases hs
    -- on the node database `insertBlock` is the operation `commit root failAt`
    have hstep : step eD eC cs.st (.commit root failAt) = some out.st :=
      congrArg (Option.map fun o : CommitOut => o.st) hc
    obtain ⟨he, hinv⟩ := step_sound hi.inv hstep
    have hold : ∀ r ∈ cs.heads, Resolvable out.st.disk r := fun r hr => resolvable_extends he (hi.headsRes r hr)
    refine ⟨hst ▸ hinv trivial, ?_, ?_⟩
    · rw [hst]
      rcases hhead with ⟨hsucc, _, hh⟩ | ⟨_, hh⟩
      · rw [hh]
        exact List.forall_mem_cons.mpr ⟨(commit_ok_complete hi.inv hc hsucc hok).1, hold⟩
      · rw [hh]; exact hold
    · rcases hhead with ⟨_, h1, h2⟩ | ⟨h1, h2⟩
      · rw [h1, h2]
        exact fun r hr => Option.some.inj hr ▸ List.mem_cons_self
      · rw [h1, h2]; exact hi.headIn
  | remove prev =>
    dsimp only [chainStep] at hs
    split at hs
    · cases hs
      exact ⟨hi.inv, hi.headsRes, fun r hr => Option.some.inj hr ▸ List.contains_iff_mem.mp ‹_›⟩
    · cases hs

inductive ChainReach (eD eC : Hash) : ChainSt → Prop where
  | init : ChainReach eD eC ChainSt.empty
  | step {cs cs' : ChainSt} (op : ChainOp) : ChainReach eD eC cs → ChainOpOk eD eC cs op →
      chainStep eD eC cs op = some cs' → ChainReach eD eC cs'

theorem chainReach_inv {eD eC : Hash} {cs : ChainSt} (h : ChainReach eD eC cs) : ChainInv cs := by
  induction h with
  | init => exact ⟨inv_empty, nofun, nofun⟩
  | step op _ hok hs ih => exact chainStep_inv ih hok hs

end Rangers.Model.TrieDB
