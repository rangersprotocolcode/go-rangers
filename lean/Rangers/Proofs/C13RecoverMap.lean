import Rangers.Proofs.C13Recover
import Rangers.Proofs.C13Select
/-! `RecoverGroupSignature` on a witness map with at least `k` honest entries returns what
    `recoverSignature` returns on any `k` of them (`RecoversTo`), for every map iteration order and every
    outcome of `RandomPerm`. -/
namespace Rangers.Proofs.C13
open Rangers.Model.Shamir

/-- A choice of map iteration orders and draws is admissible when the orders are permutations
    and the draws are in range (`js[i] = Deri(i).Modulo(n-i) < n-i`). Every behaviour of the Go
    runtime and of `crypto/rand` is an admissible choice. -/
structure Admissible {α : Type} (c : Choice α) (n k : Nat) : Prop where
  ord1 : ∀ l, (c.ord1 l).Perm l
  ord2 : ∀ l, (c.ord2 l).Perm l
  js_len : k ≤ c.js.length
  js_range : ∀ i, i < k → c.js.getD i 0 + i < n

theorem used_entries {α : Type} (k : Nat) (m : List α) (hkm : k ≤ m.length) (c : Choice α)
    (h2 : ∀ l, (c.ord2 l).Perm l) (hc : k < m.length → Admissible c m.length k) :
    ((c.ord2 (if k < m.length then pickSorted 0 (c.ord1 m) (sortInts (randomPerm m.length k c.js)) else m)).take k).length = k ∧
    ((c.ord2 (if k < m.length then pickSorted 0 (c.ord1 m) (sortInts (randomPerm m.length k c.js)) else m)).take k).Subperm m := by
  -- whatever is selected first is a sub-permutation of the map with at least `k` entries
  have hsel : ∀ m' : List α, m'.Subperm m → k ≤ m'.length →
      ((c.ord2 m').take k).length = k ∧ ((c.ord2 m').take k).Subperm m := fun m' hsub hlen =>
    ⟨by rw [List.length_take, (h2 m').length_eq]; exact Nat.min_eq_left hlen,
      ((List.take_sublist k _).subperm.trans (h2 m').subperm).trans hsub⟩
  split
  · rename_i hlt
    replace hc := hc hlt
    have hl1 : (c.ord1 m).length = m.length := (hc.ord1 m).length_eq
    obtain ⟨hsub, hlen⟩ := pick_random_k (c.ord1 m) k c.js (hl1 ▸ hkm) hc.js_len (hl1 ▸ hc.js_range)
    rw [hl1] at hsub hlen
    exact hsel _ (hsub.subperm.trans (hc.ord1 m).subperm) hlen.ge
  · exact hsel m (List.Subperm.refl m) hkm

theorem recoverGroupSignature_of_recoverWith {M : Type} (ops : Ops M) (r k : Nat) (hk0 : 0 < k)
    (sig : Nat → M) (t : M)
    (hrec : RecoversTo ops r k sig t)
    (m : List (Nat × Option M)) (hkm : k ≤ m.length)
    (hd : IdsDistinct r (m.map Prod.fst))
    (hhon : ∀ e ∈ m, e.2 = some (sig e.1))
    (c : Choice (Nat × Option M)) (h2 : ∀ l, (c.ord2 l).Perm l) (hc : k < m.length → Admissible c m.length k) :
    recoverGroupSignature ops r k m c = .ok (some t) := by
  obtain ⟨hlen, hsp⟩ := used_entries k m hkm c h2 hc
  generalize hit : (c.ord2 (if k < m.length then pickSorted 0 (c.ord1 m) (sortInts (randomPerm m.length k c.js)) else m)).take k = it at hlen hsp
  unfold recoverGroupSignature
  simp only [hit, hlen, Nat.lt_irrefl, if_false]
  have hnot : ¬ (k = 0 ∧ 0 < m.length) := by omega
  simp only [hnot, if_false]
  have hmem : ∀ e ∈ it, e ∈ m := fun e he => hsp.subset he
  rw [mapM_eq_some_map _ (fun e => sig e.1) it fun e he => hhon e (hmem e he)]
  simp only
  have hids : IdsDistinct r (it.map Prod.fst) := by
    unfold IdsDistinct at hd ⊢
    obtain ⟨l, hl1, hl2⟩ := hsp
    have hs' : ((l.map Prod.fst).map (· % r)).Sublist ((m.map Prod.fst).map (· % r)) := (hl2.map _).map _
    have hp : ((l.map Prod.fst).map (· % r)).Perm ((it.map Prod.fst).map (· % r)) := (hl1.map _).map _
    exact (hp.nodup_iff).1 (hd.sublist hs')
  have := hrec (it.map Prod.fst) (by simpa using hlen) hids
  rw [List.map_map] at this
  exact this

end Rangers.Proofs.C13
