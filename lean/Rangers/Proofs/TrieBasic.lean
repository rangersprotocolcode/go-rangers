import Rangers.Proofs.TrieEquations
/-
Basic lemmas about the trie model: an induction principle for the nested `Node` type, unfolding lemmas
that replace the list companions (`getAt`/`insertAt`/`deleteAt`) by `getD`/`set`, and the iterated list:
which entries the list of a full node has, its strict order, by which lists with the same entries are
equal and the abstract content is membership; from these the selection by first nibble (`bucket`) and
the equations of the content.
-/
namespace Rangers.Trie
open Rangers

theorem Node.induct {P : Node → Prop}
    (hnil : P .nil) (hval : ∀ b, P (.value b))
    (hshort : ∀ k v, P v → P (.short k v))
    (hfull : ∀ cs, (∀ c ∈ cs, P c) → P (.full cs)) : ∀ t, P t := by
  intro t
  exact Node.rec (motive_1 := P) (motive_2 := fun cs => ∀ c ∈ cs, P c)
    hnil hval (fun k v ih => hshort k v ih) (fun cs ih => hfull cs ih)
    (by intro c hc; cases hc)
    (fun c cs ihc ihcs => by
      intro x hx
      cases hx with
      | head => exact ihc
      | tail _ h => exact ihcs x h) t

theorem fuel_succ {n f : Nat} (h : n + 1 ≤ f) : ∃ f', f = f' + 1 ∧ n ≤ f' :=
  match f, h with
  | f' + 1, h => ⟨f', rfl, Nat.le_of_succ_le_succ h⟩

theorem getD_mem_or_nil (cs : List Node) (i : Nat) : cs[i]?.getD .nil = .nil ∨ cs[i]?.getD .nil ∈ cs := by
  by_cases h : i < cs.length
  · right; simp [h]
  · left; simp [Nat.not_lt.mp h]

theorem getAt_eq (cs : List Node) (i : Nat) (rest : Key) :
    getAt cs i rest = get (cs[i]?.getD .nil) rest := by
  induction cs generalizing i with
  | nil => simp [getAt]
  | cons c cs ih => cases i <;> simp [getAt, ih]

@[simp] theorem get_value (b : Bytes) (k : Key) : get (.value b) k = some b := by simp [get]
/-- the prefix test of `tryGet` -/
theorem prefix_cond_iff (kk key : Key) : (kk.length ≤ key.length ∧ key.take kk.length = kk) ↔ kk <+: key := by
  constructor
  · rintro ⟨_, h⟩; exact List.prefix_iff_eq_take.mpr h.symm
  · intro h; exact ⟨h.length_le, (List.prefix_iff_eq_take.mp h).symm⟩

theorem get_short (kk : Key) (v : Node) (k : Key) :
    get (.short kk v) k = if kk <+: k then get v (k.drop kk.length) else none := by
  simp only [get, prefix_cond_iff]

theorem get_full_cons (cs : List Node) (i : Nat) (r : Key) :
    get (.full cs) (i :: r) = get (cs[i]?.getD .nil) r := by
  simp [get, getAt_eq]
@[simp] theorem get_full_nil (cs : List Node) : get (.full cs) [] = none := by simp [get]

theorem insertAt_eq (cs : List Node) (i : Nat) (rest : Key) (v : Node) (h : i < cs.length) :
    insertAt cs i rest v = ((insert (cs[i]?.getD .nil) rest v).1, cs.set i (insert (cs[i]?.getD .nil) rest v).2) := by
  induction cs generalizing i with
  | nil => simp at h
  | cons c cs ih =>
    cases i with
    | zero => simp [insertAt]
    | succ i => simp [insertAt, ih i (by simpa using h)]

theorem insertAt_oob (cs : List Node) (i : Nat) (rest : Key) (v : Node) (h : cs.length ≤ i) :
    insertAt cs i rest v = (false, cs) := by
  induction cs generalizing i with
  | nil => simp [insertAt]
  | cons c cs ih =>
    cases i with
    | zero => simp at h
    | succ i => simp [insertAt, ih i (by simpa using h)]

theorem deleteAt_eq (cs : List Node) (i : Nat) (rest : Key) (h : i < cs.length) :
    deleteAt cs i rest = ((delete (cs[i]?.getD .nil) rest).1, cs.set i (delete (cs[i]?.getD .nil) rest).2) := by
  induction cs generalizing i with
  | nil => simp at h
  | cons c cs ih =>
    cases i with
    | zero => simp [deleteAt]
    | succ i => simp [deleteAt, ih i (by simpa using h)]

theorem deleteAt_oob (cs : List Node) (i : Nat) (rest : Key) (h : cs.length ≤ i) :
    deleteAt cs i rest = (false, cs) := by
  induction cs generalizing i with
  | nil => simp [deleteAt]
  | cons c cs ih =>
    cases i with
    | zero => simp at h
    | succ i => simp [deleteAt, ih i (by simpa using h)]

theorem iter_value (b : Bytes) : iter (.value b) = [([], b)] := by rw [iter]
theorem iter_short (k : Key) (v : Node) : iter (.short k v) = prepend k (iter v) := by rw [iter]
theorem iter_leaf (k : Key) (b : Bytes) : iter (.short k (.value b)) = [(k, b)] := by
  rw [iter_short, iter_value]; simp [prepend]

theorem mem_prepend {p k : Key} {b : Bytes} {L : List (Key × Bytes)} :
    (k, b) ∈ prepend p L ↔ ∃ s, k = p ++ s ∧ (s, b) ∈ L := by
  simp only [prepend, List.mem_map, Prod.mk.injEq]
  constructor
  · rintro ⟨e, he, rfl, rfl⟩; exact ⟨e.1, rfl, he⟩
  · rintro ⟨s, rfl, h⟩; exact ⟨(s, b), h, rfl, rfl⟩

theorem mem_iterL {cs : List Node} {s : Nat} {e : Key × Bytes} :
    e ∈ iterL cs s ↔ ∃ j r, e.1 = (s + j) :: r ∧ (r, e.2) ∈ iter (cs[j]?.getD .nil) := by
  obtain ⟨k, v⟩ := e
  induction cs generalizing s with
  | nil => simp [iterL, iter_nil]
  | cons c cs ih =>
    rw [iterL, List.mem_append, mem_prepend, ih]
    constructor
    · rintro (⟨r, rfl, h⟩ | ⟨j, r, rfl, h⟩)
      · exact ⟨0, r, rfl, h⟩
      · exact ⟨j + 1, r, by rw [Nat.add_assoc, Nat.add_comm 1 j], h⟩
    · rintro ⟨j, r, rfl, h⟩
      cases j with
      | zero => exact Or.inl ⟨r, rfl, h⟩
      | succ j => exact Or.inr ⟨j, r, by rw [Nat.add_assoc, Nat.add_comm 1 j], h⟩

theorem mem_iter_full {cs : List Node} {e : Key × Bytes} :
    e ∈ iter (.full cs) ↔ ∃ i r, e.1 = i :: r ∧ (r, e.2) ∈ iter (cs[i]?.getD .nil) := by
  rw [iter, mem_iterL]; simp only [Nat.zero_add]

/-- strictly ascending paths, in the order of `List Nat`: the terminator 16 is greater than every nibble, so a key comes after
    the keys it is a proper prefix of, where bytewise order puts it before them (`hex_lt_iff`) -/
def SortedKeys (L : List (Key × Bytes)) : Prop := L.Pairwise (fun e1 e2 => e1.1 < e2.1)

theorem sortedKeys_prepend (p : Key) (L : List (Key × Bytes)) (h : SortedKeys L) : SortedKeys (prepend p L) := by
  unfold SortedKeys prepend
  rw [List.pairwise_map]
  exact h.imp List.append_left_lt

theorem sortedKeys_iterL (cs : List Node) (s : Nat) (h : ∀ c ∈ cs, SortedKeys (iter c)) : SortedKeys (iterL cs s) := by
  induction cs generalizing s with
  | nil => simp [iterL, SortedKeys]
  | cons c cs ih =>
    simp only [iterL, SortedKeys, List.pairwise_append]
    refine ⟨sortedKeys_prepend _ _ (h c (by simp)), ih (s + 1) (fun c' hc' => h c' (by simp [hc'])), ?_⟩
    intro a ha b hb
    simp only [prepend, List.mem_map] at ha
    obtain ⟨a', _, rfl⟩ := ha
    obtain ⟨j, r, hbk, _⟩ := mem_iterL.mp hb
    rw [hbk]
    exact List.cons_lt_cons_iff.mpr (Or.inl (by omega))

theorem sortedKeys_iter (t : Node) : SortedKeys (iter t) := by
  induction t using Node.induct with
  | hnil => simp [iter, SortedKeys]
  | hval b => simp [iter, SortedKeys]
  | hshort k v ih => simp only [iter]; exact sortedKeys_prepend k _ ih
  | hfull cs ih => simp only [iter]; exact sortedKeys_iterL cs 0 ih

theorem lookup_some_mem {L : List (Key × Bytes)} {k : Key} {b : Bytes} (h : L.lookup k = some b) : (k, b) ∈ L := by
  obtain ⟨_, _, rfl, _⟩ := List.lookup_eq_some_iff.mp h
  exact List.mem_append_right _ List.mem_cons_self

theorem lookup_none_of_not_mem {L : List (Key × Bytes)} {k : Key} (h : ∀ e ∈ L, e.1 ≠ k) : L.lookup k = none := by
  cases hl : L.lookup k with
  | none => rfl
  | some b => exact absurd rfl (h _ (lookup_some_mem hl))

theorem lookup_of_mem_sorted {L : List (Key × Bytes)} (hs : SortedKeys L) {κ : Key} {v : Bytes}
    (h : (κ, v) ∈ L) : L.lookup κ = some v := by
  obtain ⟨l₁, l₂, rfl⟩ := List.append_of_mem h
  refine List.lookup_eq_some_iff.mpr ⟨l₁, l₂, rfl, fun p hp => bne_iff_ne.mpr (fun h0 => ?_)⟩
  have hlt : p.1 < κ := (List.pairwise_append.mp hs).2.2 p hp _ List.mem_cons_self
  exact List.lt_irrefl _ (h0 ▸ hlt)

theorem sorted_eq_of_mem_iff {L1 L2 : List (Key × Bytes)} (h1 : SortedKeys L1) (h2 : SortedKeys L2)
    (h : ∀ e, e ∈ L1 ↔ e ∈ L2) : L1 = L2 := by
  have nodup : ∀ {L : List (Key × Bytes)}, SortedKeys L → L.Nodup := fun hs =>
    hs.imp (fun hab he => by rw [he] at hab; exact List.lt_irrefl _ hab)
  refine List.Perm.eq_of_pairwise (le := fun (e1 e2 : Key × Bytes) => e1.1 < e2.1) ?_ h1 h2
    ((List.perm_ext_iff_of_nodup (nodup h1) (nodup h2)).mpr h)
  intro a b _ _ hab hba
  exact absurd (List.lt_trans hab hba) (List.lt_irrefl _)

theorem bucket_cons (e : Key × Bytes) (L : List (Key × Bytes)) (i : Nat) :
    bucket (e :: L) i = (match e.1 with
      | x :: r => if x = i then [(r, e.2)] else []
      | [] => []) ++ bucket L i := by
  obtain ⟨k, v⟩ := e
  rcases k with _ | ⟨x, r⟩
  · rfl
  · by_cases h : x = i <;> simp [bucket, h]

theorem mem_bucket {L : List (Key × Bytes)} {i : Nat} {r : Key} {v : Bytes} :
    (r, v) ∈ bucket L i ↔ (i :: r, v) ∈ L := by
  simp only [bucket, List.mem_filterMap]
  constructor
  · rintro ⟨⟨k, w⟩, he, h⟩
    rcases k with _ | ⟨x, s⟩
    · simp at h
    · by_cases hx : x = i
      · simp [hx] at h; obtain ⟨rfl, rfl⟩ := h; exact hx ▸ he
      · simp [hx] at h
  · intro h; exact ⟨_, h, by simp⟩

theorem sortedKeys_bucket {L : List (Key × Bytes)} (hs : SortedKeys L) (i : Nat) : SortedKeys (bucket L i) := by
  refine List.Pairwise.filterMap _ (fun a a' hlt b hb b' hb' => ?_) hs
  have ha : (i :: b.1, b.2) ∈ [a] := mem_bucket.mp (List.mem_filterMap.mpr ⟨a, List.mem_singleton_self a, hb⟩)
  have ha' : (i :: b'.1, b'.2) ∈ [a'] := mem_bucket.mp (List.mem_filterMap.mpr ⟨a', List.mem_singleton_self a', hb'⟩)
  rw [← List.mem_singleton.mp ha, ← List.mem_singleton.mp ha'] at hlt
  exact ((List.cons_lt_cons_iff.mp hlt).resolve_left (Nat.lt_irrefl _)).2

theorem bucket_iter_full (cs : List Node) (i : Nat) : bucket (iter (.full cs)) i = iter (cs[i]?.getD .nil) :=
  sorted_eq_of_mem_iff (sortedKeys_bucket (sortedKeys_iter _) i) (sortedKeys_iter _) (fun e => by
    rw [mem_bucket, mem_iter_full]
    constructor
    · rintro ⟨i', r', h, hm⟩; cases h; exact hm
    · intro h; exact ⟨i, e.1, rfl, h⟩)

theorem content_eq_some_iff_mem {t : Node} {k : Key} {v : Bytes} : content t k = some v ↔ (k, v) ∈ iter t :=
  ⟨lookup_some_mem, lookup_of_mem_sorted (sortedKeys_iter t)⟩

@[simp] theorem content_nil (k : Key) : content .nil k = none := by simp [content, iter]
theorem content_value (b : Bytes) (k : Key) : content (.value b) k = if k = [] then some b else none := by
  simp only [content, iter, List.lookup_cons, List.lookup_nil]
  by_cases h : k = []
  · simp [h]
  · have : (k == []) = false := by simpa using h
    simp [this, h]
theorem content_short (kk : Key) (v : Node) (k : Key) :
    content (.short kk v) k = if kk <+: k then content v (k.drop kk.length) else none := by
  apply Option.ext
  intro b
  simp only [content_eq_some_iff_mem, iter_short, mem_prepend]
  split
  · rename_i hp
    obtain ⟨s, rfl⟩ := hp
    simp [content_eq_some_iff_mem]
  · rename_i hp
    exact ⟨fun ⟨s, hs, _⟩ => absurd (hs ▸ List.prefix_append _ _) hp, fun h => nomatch h⟩

theorem content_full_cons (cs : List Node) (i : Nat) (r : Key) :
    content (.full cs) (i :: r) = content (cs[i]?.getD .nil) r :=
  Option.ext (fun b => by simp only [content_eq_some_iff_mem, ← bucket_iter_full, mem_bucket])

theorem content_full_nil (cs : List Node) : content (.full cs) [] = none :=
  lookup_none_of_not_mem (fun e he h0 => by
    obtain ⟨i, r, h, _⟩ := mem_iter_full.mp he
    rw [h0] at h; cases h)

end Rangers.Trie
