import Rangers.Proofs.PoolSort
import Rangers.Proofs.PoolWalk
import Rangers.Proofs.PoolInv
/-! `PackForCast` of the pool model: what it returns relative to the pending list. -/
namespace Rangers.Pool

theorem txs_map_hash (s : Pool) : s.txs.map (·.hash) = s.hashes := by
  simp [Pool.txs, Pool.hashes, List.map_map, Function.comp_def]

theorem pack_some {c : Cfg} {σ : Nat → Nat} {s : Pool} {l : List Tx} (h : s.pack c σ = some l) :
    ∃ r, r.Perm s.txs ∧ l.Sublist r ∧ l.length ≤ txCountPerBlock ∧
      (c.p018 = true → (WeakOrderOn c (· ∈ s.txs) → SortedBy c r) ∧ l = (walk σ txCountPerBlock [] r).take txCountPerBlock) := by
  unfold Pool.pack at h
  by_cases hp : c.p018 = true
  · rw [if_pos hp] at h
    have hg := goSort_spec c s.txs
    cases hs : goSort c s.txs with
    | none => rw [hs] at h; cases h
    | some r =>
      rw [hs] at h hg; cases h
      exact ⟨r, hg.1, (List.take_sublist _ _).trans (walk_sublist σ r _ _), List.length_take_le _ _,
        fun _ => ⟨hg.2, rfl⟩⟩
  · rw [if_neg hp] at h; cases h
    exact ⟨s.txs, List.Perm.refl _, List.take_sublist _ _, List.length_take_le _ _, fun h => absurd h hp⟩

theorem pack_isSome {c : Cfg} (σ : Nat → Nat) {s : Pool} (hi : Inv s) : ∃ l, s.pack c σ = some l := by
  unfold Pool.pack
  by_cases hp : c.p018 = true
  · have hg := goSort_spec c s.txs
    rw [if_pos hp]
    cases hs : goSort c s.txs with
    | none => rw [hs, txs_map_hash] at hg; exact absurd hi.nodup hg
    | some r => exact ⟨_, rfl⟩
  · rw [if_neg hp]; exact ⟨_, rfl⟩

end Rangers.Pool
