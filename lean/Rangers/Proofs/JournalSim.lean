import Rangers.Proofs.JournalMaps
/-! The simulation relation `Sim` of the C04 proofs: two states that answer every query of the
property alike.  It ignores what `RevertToSnapshot` does not restore (cache residency,
`cachedStorage`/`dirtyStorage` split, `onDirty`, `touched`, the dirty set, the journal itself).  After it: what `res` is
(`res_def`) and what `resolve` and `markDirty` do to it (`resolve_live`, `resolve_absent`, `resolve_deleted`, `res_markDirty`). -/
namespace Rangers.Proofs.Journal
open Rangers Rangers.Model.Journal

/-- code of an object as `nftSetDefinition` answers it, given the blob store: the body of `codeLookup` with `s.codes` as an
    argument, so that `ObjSim cs` can compare two objects at one blob store without a state -/
def codeOf (cs : List (Hash × Bytes)) (o : Obj) : Option Bytes :=
  match o.code with
  | some c => some c
  | none => if o.codeHash = emptyCodeHash then none else mget cs o.codeHash

theorem codeLookup_eq (s : ADB) (o : Obj) : codeLookup s o = codeOf s.codes o := rfl

def ObjSim (cs : List (Hash × Bytes)) (o o' : Obj) : Prop :=
  o.nonce = o'.nonce ∧ o.codeHash = o'.codeHash ∧ o.suicided = o'.suicided ∧
  (∀ k, o.get k = o'.get k) ∧ codeOf cs o = codeOf cs o'

theorem ObjSim.refl (cs) (o : Obj) : ObjSim cs o o := ⟨rfl, rfl, rfl, fun _ => rfl, rfl⟩
theorem ObjSim.symm {cs} {o o' : Obj} (h : ObjSim cs o o') : ObjSim cs o' o :=
  ⟨h.1.symm, h.2.1.symm, h.2.2.1.symm, fun k => (h.2.2.2.1 k).symm, h.2.2.2.2.symm⟩
theorem ObjSim.trans {cs} {o o' o'' : Obj} (h : ObjSim cs o o') (h' : ObjSim cs o' o'') : ObjSim cs o o'' :=
  ⟨h.1.trans h'.1, h.2.1.trans h'.2.1, h.2.2.1.trans h'.2.2.1, fun k => (h.2.2.2.1 k).trans (h'.2.2.2.1 k),
   h.2.2.2.2.trans h'.2.2.2.2⟩

/-- `ResP (ObjSim cs)` written out (`ResRel.toP`, `ResRel.ofP`) -/
inductive ResRel (cs : List (Hash × Bytes)) : Res → Res → Prop
  | absent : ResRel cs .absent .absent
  | deleted : ResRel cs .deleted .deleted
  | live {o o' : Obj} : ObjSim cs o o' → ResRel cs (.live o) (.live o')

theorem ResRel.refl (cs) (r : Res) : ResRel cs r r := by
  cases r with
  | absent => exact .absent
  | deleted => exact .deleted
  | live o => exact .live (ObjSim.refl cs o)
theorem ResRel.symm {cs} {r r' : Res} (h : ResRel cs r r') : ResRel cs r' r := by
  cases h with
  | absent => exact .absent
  | deleted => exact .deleted
  | live h => exact .live h.symm
theorem ResRel.trans {cs} {r r' r'' : Res} (h : ResRel cs r r') (h' : ResRel cs r' r'') : ResRel cs r r'' := by
  cases h with
  | absent => exact h'
  | deleted => exact h'
  | live h => cases h' with | live h' => exact .live (h.trans h')

theorem ResRel.of_deleted {cs} {r : Res} (h : ResRel cs .deleted r) : r = .deleted := by cases h; rfl
theorem ResRel.of_absent {cs} {r : Res} (h : ResRel cs .absent r) : r = .absent := by cases h; rfl
theorem ResRel.of_live {cs} {o : Obj} {r : Res} (h : ResRel cs (.live o) r) : ∃ o', r = .live o' ∧ ObjSim cs o o' := by
  cases h with | live h => exact ⟨_, rfl, h⟩

/-- equality of everything a query can see outside the account objects.  Transient storage is compared through `tget` only:
    `tset` of a zero value deletes the key and may drop the address entry, so an undo restores the map up to `tget`
    (`tget_tset`), not as a list -/
structure Frame (s t : ADB) : Prop where
  trie : s.trie = t.trie
  codes : s.codes = t.codes
  refund : s.refund = t.refund
  logs : s.logs = t.logs
  logSize : s.logSize = t.logSize
  al : s.al = t.al
  transient : ∀ a k, tget s.transient a k = tget t.transient a k
  thash : s.thash = t.thash
  bhash : s.bhash = t.bhash
  txIndex : s.txIndex = t.txIndex

theorem Frame.inner (s : ADB) {cm : List (Addr × Leaf)} {o : List (Addr × Obj)} {d : List Addr} {j : List Entry}
    {rv : List (Nat × Nat)} {n : Nat} {cr : Bool} :
    Frame { s with committed := cm, objs := o, dirtySet := d, journal := j, revisions := rv, nextRev := n, crashed := cr } s :=
  ⟨rfl, rfl, rfl, rfl, rfl, rfl, fun _ _ => rfl, rfl, rfl, rfl⟩

theorem Frame.refl (s : ADB) : Frame s s := .inner s
theorem Frame.symm {s t : ADB} (h : Frame s t) : Frame t s :=
  ⟨h.trie.symm, h.codes.symm, h.refund.symm, h.logs.symm, h.logSize.symm, h.al.symm,
   fun a k => (h.transient a k).symm, h.thash.symm, h.bhash.symm, h.txIndex.symm⟩
theorem Frame.trans {s t u : ADB} (h : Frame s t) (h' : Frame t u) : Frame s u :=
  ⟨h.trie.trans h'.trie, h.codes.trans h'.codes, h.refund.trans h'.refund, h.logs.trans h'.logs,
   h.logSize.trans h'.logSize, h.al.trans h'.al, fun a k => (h.transient a k).trans (h'.transient a k),
   h.thash.trans h'.thash, h.bhash.trans h'.bhash, h.txIndex.trans h'.txIndex⟩

/-- `s` and `t` answer every query of the property alike.  The proofs go through `SimP ObjSim False` (`simP_sim`) -/
structure Sim (s t : ADB) : Prop where
  crashed : s.crashed = t.crashed
  frame : s.crashed = false → Frame s t
  objs : s.crashed = false → ∀ a, ResRel s.codes (res s a) (res t a)

theorem Sim.refl (s : ADB) : Sim s s := ⟨rfl, fun _ => Frame.refl s, fun _ _ => ResRel.refl _ _⟩
theorem Sim.symm {s t : ADB} (h : Sim s t) : Sim t s :=
  ⟨h.crashed.symm, fun hc => (h.frame (h.crashed ▸ hc)).symm,
   fun hc a => by
     have hs : s.crashed = false := h.crashed ▸ hc
     have := (h.objs hs a).symm
     rwa [(h.frame hs).codes] at this⟩
theorem Sim.trans {s t u : ADB} (h : Sim s t) (h' : Sim t u) : Sim s u :=
  ⟨h.crashed.trans h'.crashed,
   fun hc => (h.frame hc).trans (h'.frame (h.crashed ▸ hc)),
   fun hc a => by
     have ht : t.crashed = false := h.crashed ▸ hc
     have h2 := h'.objs ht a
     rw [← (h.frame hc).codes] at h2
     exact (h.objs hc a).trans h2⟩

theorem Sim.of_crashed {s t : ADB} (hs : s.crashed = true) (ht : t.crashed = true) : Sim s t :=
  ⟨hs.trans ht.symm, fun h => by simp [hs] at h, fun h => by simp [hs] at h⟩

theorem res_def (s : ADB) (a : Addr) :
    res s a = (match mget s.objs a with
      | some o => if o.deleted then Res.deleted else Res.live o
      | none => match mget s.trie a with
        | some l => Res.live (Obj.ofLeaf l)
        | none => Res.absent) := rfl

theorem res_congr {s t : ADB} (ho : s.objs = t.objs) (ht : s.trie = t.trie) (a : Addr) : res s a = res t a := by
  simp [res_def, ho, ht]

theorem res_of_mset {s r : ADB} {a : Addr} {o : Obj} (ho : r.objs = mset s.objs a o) (ht : r.trie = s.trie)
    (hd : o.deleted = false) (b : Addr) : res r b = if a = b then Res.live o else res s b := by
  simp only [res_def, ho, ht, mget_mset]
  by_cases hab : a = b
  · simp [hab, hd]
  · simp [hab]

theorem Obj.ofLeaf_deleted (l : Leaf) : (Obj.ofLeaf l).deleted = false := rfl

theorem resolve_live {s : ADB} {a : Addr} {o : Obj} (h : res s a = .live o) :
    ∃ s1, resolve s a = (s1, some o) ∧ mget s1.objs a = some o ∧ o.deleted = false ∧
      s1 = { s with objs := s1.objs } ∧ (∀ b, res s1 b = res s b) := by
  rw [res_def] at h
  unfold resolve
  cases hm : mget s.objs a with
  | some o1 =>
    simp only [hm] at h ⊢
    by_cases hd : o1.deleted = true
    · simp [hd] at h
    · simp only [hd] at h ⊢
      simp only [Bool.false_eq_true, if_false, Res.live.injEq] at h
      subst h
      exact ⟨s, by simp, hm, by simpa using hd, rfl, fun _ => rfl⟩
  | none =>
    simp only [hm] at h ⊢
    cases ht : mget s.trie a with
    | none => simp [ht] at h
    | some l =>
      simp only [ht, Res.live.injEq] at h ⊢
      subst h
      refine ⟨putObj s a (Obj.ofLeaf l), rfl, by simp [putObj], rfl, rfl, fun b => ?_⟩
      rw [res_of_mset (s := s) (r := putObj s a (Obj.ofLeaf l)) rfl rfl rfl b]
      by_cases hab : a = b
      · subst hab; simp [res_def, hm, ht]
      · simp [hab]

theorem resolve_absent {s : ADB} {a : Addr} (h : res s a = .absent) :
    resolve s a = (s, none) ∧ mget s.objs a = none ∧ mget s.trie a = none := by
  rw [res_def] at h
  unfold resolve
  cases hm : mget s.objs a with
  | some o1 => simp only [hm] at h; split at h <;> cases h
  | none =>
    simp only [hm] at h ⊢
    cases ht : mget s.trie a with
    | none => simp
    | some l => simp [ht] at h

theorem resolve_deleted {s : ADB} {a : Addr} (h : res s a = .deleted) : resolve s a = (s, none) := by
  rw [res_def] at h
  unfold resolve
  cases hm : mget s.objs a with
  | some o1 =>
    simp only [hm] at h ⊢
    by_cases hd : o1.deleted = true
    · simp [hd]
    · simp [hd] at h
  | none =>
    simp only [hm] at h
    split at h <;> cases h

theorem resolve_snd (s : ADB) (a : Addr) : (resolve s a).2 = liveObj s a := by
  unfold liveObj
  cases hr : res s a with
  | absent => rw [(resolve_absent hr).1]
  | deleted => rw [resolve_deleted hr]
  | live o => obtain ⟨s1, e, _⟩ := resolve_live hr; rw [e]

theorem markDirty_objs (s : ADB) (a : Addr) (o : Obj) :
    (markDirty s a o).objs = mset s.objs a { o with armed := false } := by
  unfold markDirty
  by_cases h : o.armed = true
  · simp [h]
  · have : o.armed = false := by simpa using h
    simp only [this, Bool.false_eq_true, if_false]
    congr 1
    cases o; simp_all

theorem markDirty_fields (s : ADB) (a : Addr) (o : Obj) :
    markDirty s a o = { s with objs := (markDirty s a o).objs, dirtySet := (markDirty s a o).dirtySet } := by
  unfold markDirty; split <;> rfl

theorem res_markDirty (s : ADB) (a b : Addr) (o : Obj) (hd : o.deleted = false) :
    res (markDirty s a o) b = if a = b then Res.live { o with armed := false } else res s b := by
  have htr : (markDirty s a o).trie = s.trie := by rw [markDirty_fields]
  exact res_of_mset (markDirty_objs s a o) htr hd b

end Rangers.Proofs.Journal
