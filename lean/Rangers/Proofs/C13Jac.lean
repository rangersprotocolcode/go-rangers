import Rangers.Proofs.C13ModArith
import Rangers.Model.G1
import Rangers.Proofs.ZModCast
/-!
A second evaluator for `Model.G1.mul`, equal to it for every curve, point and scalar
(`mul_eq_mulJ`), on which a full-length scalar multiplication is cheap to run: the loop of
`G1.mulAux` on Jacobian triples, so that the modular inversion the affine model performs at every
point operation is performed once, at the end.

No primality of `p` is used: the triples are related to affine points over the commutative ring
`ZMod p`, where the Jacobian formulas are the affine chord formulas multiplied through by `Z₃²`
and `Z₃³` as long as the denominators met are units. Every new `Z` is the previous one times the
denominator of the step, and a factor of a unit is a unit; so `Rel` claims nothing unless `Z` is a
unit, and ONE test `gcd Z p = 1` on the last triple certifies every denominator of the run.
-/
namespace Rangers.Proofs.C13Jac
open Rangers.Model Rangers.Proofs.C13

/-- Jacobian triple `(X, Y, Z)` standing for the affine point `(X/Z², Y/Z³)`. -/
structure Jac where
  X : Nat
  Y : Nat
  Z : Nat

variable (c : G1.Curve)

/-- The chord formulas `x₃ = l² − x₁ − x₂`, `y₃ = l·(x₁ − x₃) − y₁` multiplied through by `Z₃²` and
    `Z₃³`: `n = l·Z₃`, `v₁ = x₁·Z₃²`, `v₂ = x₂·Z₃²`, `t = y₁·Z₃³`. -/
def jline (n v1 v2 t z3 : Nat) : Jac :=
  let x3 := G1.fsub c (G1.fsub c (G1.fmul c n n) v1) v2
  ⟨x3, G1.fsub c (G1.fmul c n (G1.fsub c v1 x3)) t, z3⟩

/-- The third point of the line with slope `l` through `(x₁, y₁)` and a point with abscissa `x₂`,
    reflected: what `G1.double` and `G1.add` return on their tangent and chord branch. -/
def chord (l x1 x2 y1 : Nat) : G1.Point :=
  let x3 := G1.fsub c (G1.fsub c (G1.fmul c l l) x1) x2
  .aff x3 (G1.fsub c (G1.fmul c l (G1.fsub c x1 x3)) y1)

/-- Tangent: `l = 3x²/2y`, `Z₃ = 2Y·Z`. -/
def jdouble (s : Jac) : Jac :=
  let b := G1.fmul c s.Y s.Y
  let v := G1.fmul c 4 (G1.fmul c s.X b)
  jline c (G1.fmul c 3 (G1.fmul c s.X s.X)) v v (G1.fmul c 8 (G1.fmul c b b)) (G1.fmul c 2 (G1.fmul c s.Y s.Z))

/-- Chord to the affine point `(x₂, y₂)`: `l = (y₂ − y₁)/(x₂ − x₁)`, `Z₃ = Z·h` with `h = x₂·Z² − X`. -/
def jaddAff (x2 y2 : Nat) (s : Jac) : Jac :=
  let zz := G1.fmul c s.Z s.Z
  let u := G1.fmul c x2 zz
  let h := G1.fsub c u s.X
  let hh := G1.fmul c h h
  jline c (G1.fsub c (G1.fmul c y2 (G1.fmul c zz s.Z)) s.Y) (G1.fmul c s.X hh) (G1.fmul c u hh)
    (G1.fmul c s.Y (G1.fmul c h hh)) (G1.fmul c s.Z h)

/-- One iteration of `G1.mulAux`: double, then add `(x₂, y₂)` if the bit is set; `none` is infinity. -/
def jstep (x2 y2 : Nat) (b : Bool) (s : Option Jac) : Option Jac :=
  if b then
    match s with
    | none => some ⟨x2, y2, 1⟩
    | some s => some (jaddAff c x2 y2 (jdouble c s))
  else s.map (jdouble c)

def jmulAux (x2 y2 k : Nat) : Nat → Option Jac → Option Jac
  | 0, s => jstep c x2 y2 (k.testBit 0) s
  | i + 1, s => jmulAux x2 y2 k i (jstep c x2 y2 (k.testBit (i + 1)) s)

def jaff (s : Jac) : G1.Point :=
  let zi := G1.finv c s.Z
  let zi2 := G1.fmul c zi zi
  .aff (G1.fmul c s.X zi2) (G1.fmul c s.Y (G1.fmul c zi2 zi))

/-- `G1.mul` with one inversion: run the loop on Jacobian triples and, if the last `Z` is prime to `p`,
    go back to affine coordinates; in every other case run the affine loop. -/
def mulJ (a : G1.Point) (k : Nat) : G1.Point :=
  match a with
  | .inf => G1.mul c a k
  | .aff x y =>
    match jmulAux c x y k (G1.bitLen k) none with
    | none => G1.mul c a k
    | some s =>
      if 1 < c.p ∧ x < c.p ∧ y < c.p ∧ Nat.gcd s.Z c.p = 1 then jaff c s else G1.mul c a k

/-- `s` stands for the affine point `q` — as far as the run can tell: nothing is claimed unless `Z` is
    a unit mod `p`. -/
def Rel : Option Jac → G1.Point → Prop
  | none, q => q = .inf
  | some s, q => IsUnit (s.Z : ZMod c.p) → ∃ x y, q = .aff x y ∧ x < c.p ∧ y < c.p ∧
      (x : ZMod c.p) * s.Z ^ 2 = s.X ∧ (y : ZMod c.p) * s.Z ^ 3 = s.Y

variable {c}

theorem cast_fmul (a b : Nat) : ((G1.fmul c a b : Nat) : ZMod c.p) = a * b := by
  rw [G1.fmul, ZMod.natCast_mod, Nat.cast_mul]

section
variable (hp : 1 < c.p)
include hp

theorem cast_fsub (a b : Nat) : ((G1.fsub c a b : Nat) : ZMod c.p) = a - b :=
  ZModCast.sub_mod (Nat.lt_trans Nat.zero_lt_one hp) a b

theorem fmul_lt (a b : Nat) : G1.fmul c a b < c.p := Nat.mod_lt _ (by omega)

theorem fsub_lt (a b : Nat) : G1.fsub c a b < c.p := Nat.mod_lt _ (by omega)

theorem finv_mul (a : Nat) (ha : IsUnit (a : ZMod c.p)) : ((G1.finv c a : Nat) : ZMod c.p) * a = 1 := by
  have : NeZero c.p := ⟨by omega⟩
  have hc : Nat.Coprime (a % c.p) c.p := by
    rwa [Nat.Coprime, ← Nat.gcd_rec, Nat.gcd_comm, ← Nat.Coprime, ← ZMod.isUnit_iff_coprime]
  obtain ⟨v, hv, hva, -⟩ := modInverse_of_coprime _ hc
  rwa [G1.finv, hv, ← ZMod.natCast_mod a]

theorem double_eq_chord (x : Nat) {y : Nat} (hu : IsUnit (2 * (y : ZMod c.p))) :
    ∃ l : Nat, (l : ZMod c.p) * (2 * y) = 3 * (x * x) ∧ G1.double c (.aff x y) = chord c l x x y := by
  have : Fact (1 < c.p) := ⟨hp⟩
  have hy0 : y ≠ 0 := by
    rintro rfl
    rw [Nat.cast_zero, mul_zero] at hu
    exact not_isUnit_zero hu
  have hw := finv_mul hp (G1.fmul c 2 y) (by rwa [cast_fmul, Nat.cast_ofNat])
  refine ⟨_, ?_, by rw [G1.double, if_neg hy0]; rfl⟩
  simp only [cast_fmul, Nat.cast_ofNat] at hw ⊢
  rw [mul_assoc, hw, mul_one]

theorem add_eq_chord {x y x2 : Nat} (y2 : Nat) (hu : IsUnit ((x2 : ZMod c.p) - x)) :
    ∃ l : Nat, (l : ZMod c.p) * (x2 - x) = y2 - y ∧ G1.add c (.aff x y) (.aff x2 y2) = chord c l x x2 y := by
  have : Fact (1 < c.p) := ⟨hp⟩
  have hne : x ≠ x2 := by
    rintro rfl
    rw [sub_self] at hu
    exact not_isUnit_zero hu
  have hw := finv_mul hp (G1.fsub c x2 x) (by rwa [cast_fsub hp])
  refine ⟨_, ?_, by rw [G1.add, if_neg hne]; rfl⟩
  simp only [cast_fmul, cast_fsub hp] at hw ⊢
  rw [mul_assoc, hw, mul_one]

theorem rel_line {l x1 x2 y1 n v1 v2 t z3 : Nat} (hn : (n : ZMod c.p) = l * z3)
    (h1 : (v1 : ZMod c.p) = x1 * z3 ^ 2) (h2 : (v2 : ZMod c.p) = x2 * z3 ^ 2) (ht : (t : ZMod c.p) = y1 * z3 ^ 3) :
    Rel c (some (jline c n v1 v2 t z3)) (chord c l x1 x2 y1) := by
  refine fun _ => ⟨_, _, rfl, fsub_lt hp _ _, fsub_lt hp _ _, ?_, ?_⟩ <;>
    simp only [jline, cast_fmul, cast_fsub hp, hn, h1, h2, ht] <;> ring

theorem rel_double {s : Jac} {q : G1.Point} (h : Rel c (some s) q) :
    Rel c (some (jdouble c s)) (G1.double c q) := by
  intro hu
  have hz : IsUnit (2 * ((s.Y : ZMod c.p) * s.Z)) := by simpa only [jdouble, jline, cast_fmul, Nat.cast_ofNat] using hu
  obtain ⟨h2, hYZ⟩ := IsUnit.mul_iff.1 hz
  obtain ⟨x, y, rfl, -, -, hX, hY⟩ := h (IsUnit.mul_iff.1 hYZ).2
  -- `Y = y·Z³` is a unit, so `2y` is
  rw [← hY] at hYZ
  obtain ⟨l, hl, hd⟩ := double_eq_chord hp x (h2.mul (IsUnit.mul_iff.1 (IsUnit.mul_iff.1 hYZ).1).1)
  rw [hd]
  refine rel_line hp ?_ ?_ ?_ ?_ hu <;> simp only [cast_fmul, Nat.cast_ofNat, ← hX, ← hY]
  · linear_combination (-(s.Z : ZMod c.p) ^ 4) * hl
  · ring
  · ring
  · ring

theorem rel_addAff {x2 y2 : Nat} {s : Jac} {q : G1.Point} (h : Rel c (some s) q) :
    Rel c (some (jaddAff c x2 y2 s)) (G1.add c q (.aff x2 y2)) := by
  intro hu
  have hz : IsUnit ((s.Z : ZMod c.p) * (x2 * (s.Z * s.Z) - s.X)) := by
    simpa only [jaddAff, jline, cast_fmul, cast_fsub hp] using hu
  obtain ⟨hZ, hh⟩ := IsUnit.mul_iff.1 hz
  obtain ⟨x, y, rfl, -, -, hX, hY⟩ := h hZ
  -- `h = (x₂ − x)·Z²` is a unit, so `x₂ − x` is
  rw [← hX, show (x2 : ZMod c.p) * (s.Z * s.Z) - x * s.Z ^ 2 = (x2 - x) * s.Z ^ 2 by ring] at hh
  obtain ⟨l, hl, ha⟩ := add_eq_chord hp (y := y) y2 (IsUnit.mul_iff.1 hh).1
  rw [ha]
  refine rel_line hp ?_ ?_ ?_ ?_ hu <;> simp only [cast_fmul, cast_fsub hp, ← hX, ← hY]
  · linear_combination (-(s.Z : ZMod c.p) ^ 3) * hl
  · ring
  · ring
  · ring

theorem rel_step {x2 y2 : Nat} (hx2 : x2 < c.p) (hy2 : y2 < c.p) (b : Bool) {s : Option Jac} {q : G1.Point}
    (h : Rel c s q) :
    Rel c (jstep c x2 y2 b s) (if b then G1.add c (G1.double c q) (.aff x2 y2) else G1.double c q) := by
  cases s with
  | none =>
    obtain rfl : q = .inf := h
    cases b
    · exact rfl
    · exact fun _ => ⟨x2, y2, rfl, hx2, hy2, by rw [Nat.cast_one, one_pow, mul_one], by rw [Nat.cast_one, one_pow, mul_one]⟩
  | some s =>
    cases b
    · exact rel_double hp h
    · exact rel_addAff hp (rel_double hp h)

theorem rel_mulAux {x2 y2 : Nat} (hx2 : x2 < c.p) (hy2 : y2 < c.p) (k : Nat) :
    ∀ (i : Nat) {s : Option Jac} {q : G1.Point}, Rel c s q →
      Rel c (jmulAux c x2 y2 k i s) (G1.mulAux c (.aff x2 y2) k i q)
  | 0, _, _, h => rel_step hp hx2 hy2 _ h
  | i + 1, _, _, h => rel_mulAux hx2 hy2 k i (rel_step hp hx2 hy2 _ h)

theorem rel_jaff {s : Jac} {q : G1.Point} (h : Rel c (some s) q) (hz : Nat.gcd s.Z c.p = 1) :
    q = jaff c s := by
  have hu : IsUnit (s.Z : ZMod c.p) := (ZMod.isUnit_iff_coprime _ _).2 hz
  obtain ⟨x, y, rfl, hx, hy, hX, hY⟩ := h hu
  have hw := finv_mul hp _ hu
  rw [jaff]
  -- both coordinates are residues below `p`, so it is enough that they agree in `ZMod p`
  congr 1
  · refine ZModCast.natCast_inj_of_lt hx (fmul_lt hp _ _) ?_
    simp only [cast_fmul]
    rw [← hX]
    linear_combination (-(x : ZMod c.p) * ((G1.finv c s.Z : ZMod c.p) * s.Z + 1)) * hw
  · refine ZModCast.natCast_inj_of_lt hy (fmul_lt hp _ _) ?_
    simp only [cast_fmul]
    rw [← hY]
    linear_combination (-(y : ZMod c.p) * (((G1.finv c s.Z : ZMod c.p) * s.Z) ^ 2 + (G1.finv c s.Z : ZMod c.p) * s.Z + 1)) * hw

end

theorem mul_eq_mulJ (c : G1.Curve) (a : G1.Point) (k : Nat) : G1.mul c a k = mulJ c a k := by
  unfold mulJ
  split
  · rfl
  · rename_i x y
    split
    · rfl
    · rename_i s hs
      split
      · rename_i h
        have hrel := rel_mulAux h.1 h.2.1 h.2.2.1 k (G1.bitLen k) (s := none) rfl
        rw [hs, ← G1.mul] at hrel
        exact rel_jaff h.1 hrel h.2.2.2
      · rfl

end Rangers.Proofs.C13Jac
