import Rangers.Model.Evm12Frames
/-! C12: what the opcodes of the frame model find in the generated jump-table facts. The table is walked
once (`opFacts_lookups`). -/
namespace Rangers.Model.Evm12
open Rangers.Generated.C12

/-- the `writes` flags the frame model expects of the jump table; `findFact_writes`: the generated table has them -/
def Op.flagged : Op → Bool
  | .sstore | .log _ | .selfdestruct | .create | .create2 => true
  | _ => false

/-- One kernel evaluation for all lookups: `String.decEq` UTF-8-encodes both sides of every comparison and the
    kernel keeps what it has reduced only within a call, so separate lookups would encode the table's names anew. -/
theorem opFacts_lookups :
    (∀ o ∈ [Op.sstore, .tstore, .log 0, .log 1, .log 2, .log 3, .log 4, .selfdestruct, .call, .callcode,
      .delegatecall, .staticcall, .create, .create2, .authcall, .stake, .unstake, .unstakeall, .stakenum],
      (findFact o.name opFacts).map (·.writes) = some o.flagged)
    ∧ (findFact "TSTORE" opFacts).map (fun f => (f.exec, f.checksReadOnly)) = some ("opTstore", true) := by
  decide +kernel

theorem findFact_writes (o : Op) : (findFact o.name opFacts).map (·.writes) = some o.flagged := by
  apply opFacts_lookups.1
  cases o with
  | log n => revert n; decide +kernel
  | _ => decide +kernel

theorem opWrites_eq (o : Op) : opWrites o = o.flagged := by
  have h := findFact_writes o
  unfold opWrites
  cases hf : findFact o.name opFacts with
  | none => rw [hf] at h; cases h
  | some f => rw [hf] at h; exact Option.some.inj h

theorem roBlocked_true (o : Op) (value : Nat) :
    roBlocked true o value = (o.flagged || (o == .call && value != 0)) := by
  simp only [roBlocked, opWrites_eq, Bool.true_and]

end Rangers.Model.Evm12
