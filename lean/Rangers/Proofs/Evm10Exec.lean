import Rangers.Proofs.Evm10Table
import Rangers.Proofs.Evm10Mem
/-!
C10 — `execOp` in normal form.  The model transcribes each Go `execute` function with its own
operand matching on the stack.  Here the same function is written the way the Yellow Paper reads an
instruction: on the pure stack instructions it is the stack function `applyPure` (the one `specFold`
folds over the code); on the others, once `arity e` operands are known to be there, it is a flat
table `act` that reads operands by index and answers one of seven shapes.  `execOp_eq` says that
the two agree; what holds of every instruction is read off the normal form.
-/
namespace Rangers.Proofs.Evm10
open Rangers Rangers.Model.Evm10 Rangers.Model.Evm10.U256

/-- bytes of PUSH data the instruction carries (the pc advance made by `execute` itself) -/
def pushWidth : Exec → Nat
  | .push size _ => size
  | .opPush1 => 1
  | _ => 0

/-- the word function of a binary opcode, in the order (μ_s[0], μ_s[1]); each has its `_spec`
theorem in `Props/C10.lean` -/
def binFn : Exec → Option (Word → Word → Word)
  | .opAdd => some add | .opSub => some sub | .opMul => some mul | .opDiv => some div
  | .opSdiv => some sdiv | .opMod => some mod | .opSmod => some smod | .opExp => some exp
  | .opSignExtend => some (fun back num => extendSign num back)
  | .opLt => some (fun x y => ofBool (lt x y)) | .opGt => some (fun x y => ofBool (gt x y))
  | .opSlt => some (fun x y => ofBool (slt x y)) | .opSgt => some (fun x y => ofBool (sgt x y))
  | .opEq => some (fun x y => ofBool (eq x y))
  | .opAnd => some U256.and | .opOr => some U256.or | .opXor => some U256.xor
  | .opByte => some (fun th val => byte val th)
  | .opSHL => some opSHL | .opSHR => some opSHR | .opSAR => some opSAR
  | _ => none

def unFn : Exec → Option (Word → Word)
  | .opNot => some U256.not | .opIszero => some (fun x => ofBool (isZero x))
  | _ => none

def terFn : Exec → Option (Word → Word → Word → Word)
  | .opAddmod => some opAddmod | .opMulmod => some mulmod
  | _ => none

/-- μ'_s of a pure stack instruction at position `pc` of `code` (none = not a pure stack
instruction, or not enough items) -/
def applyPure (e : Exec) (code : Bytes) (pc : Nat) (st : List Word) : Option (List Word) :=
  match binFn e, unFn e, terFn e with
  | some g, _, _ => match st with | x :: y :: r => some (g x y :: r) | _ => none
  | _, some g, _ => match st with | x :: r => some (g x :: r) | _ => none
  | _, _, some g => match st with | x :: y :: z :: r => some (g x y z :: r) | _ => none
  | none, none, none =>
    match e with
    | .push _ n => some (pushValue code pc n :: st)
    | .opPush1 =>
      some ((if pc + 1 < code.length then ofNat (code.getD (pc + 1) 0).toNat else 0#256) :: st)
    | .opPush0 => some (0#256 :: st)
    | .dup n => if n = 0 then none else (st[n - 1]?).map (fun w => w :: st)
    | .swap n =>
      match st with
      | top :: _ => if n = 0 then some st else (st[n]?).map (fun w => (w :: st.tail).set n top)
      | [] => none
    | .opPop => match st with | _ :: r => some r | [] => none
    | .opJumpdest => some st
    | _ => none

/-- What an `execute` function other than a pure stack function does, its operands being there
(`st`: the stack it leaves). -/
inductive Act where
  | stack (st : List Word)
  /-- JUMP and JUMPI set the pc themselves -/
  | goto (st : List Word) (pc : Nat)
  /-- a memory write; `none`: outside the store, a Go panic -/
  | mem (st : List Word) (m : Option Bytes)
  /-- a window of memory is read (`none`: a Go panic), the stack becomes `k` of it -/
  | load (d : Option Bytes) (k : Bytes → List Word)
  /-- RETURN, REVERT: the result is a window of memory -/
  | exit (st : List Word) (ret : Option Bytes)
  | fail (e : Err)
  | unmodelled (name : String)

/-- the act put back into the frame -/
def finish (f : Frame) : Act → ExecResult
  | .stack st => .ok { f with stack := st } []
  | .goto st pc => .ok { f with stack := st, pc := pc } []
  | .mem st m => match m with
    | some m => .ok { f with stack := st, mem := m } []
    | none => .err .goPanic
  | .load d k => match d with
    | some d => .ok { f with stack := k d } []
    | none => .err .goPanic
  | .exit st r => match r with
    | some r => .ok { f with stack := st } r
    | none => .err .goPanic
  | .fail e => .err e
  | .unmodelled n => .unmodelled n

/-- operand `i`, 0 being the top of the stack -/
abbrev arg (f : Frame) (i : Nat) : Word := f.stack.getD i 0#256

/-- The `execute` functions that are not pure stack functions, operands read by index.  The
branches are written as in `execOp`, so that `execOp_eq` is by evaluation. -/
def act (H : Bytes → Bytes) (e : Exec) (f : Frame) : Act :=
  match e with
  | .opStop => .stack f.stack
  | .opSha3 =>
    .load (Mem.getPtr f.mem (lo64 (arg f 0)) (lo64 (arg f 1))) fun data => setBytes (H data) :: f.stack.drop 2
  | .opCallDataLoad =>
    if !(uint64WithOverflow (arg f 0)).2 then
      .stack (setBytes (getData f.input (uint64WithOverflow (arg f 0)).1 32) :: f.stack.drop 1)
    else .stack (0#256 :: f.stack.drop 1)
  | .opCallDataSize => .stack (ofNat f.input.length :: f.stack)
  | .opCodeSize => .stack (ofNat f.code.length :: f.stack)
  | .opReturnDataSize => .stack (ofNat f.returnData.length :: f.stack)
  | .opPc => .stack (ofNat f.pc :: f.stack)
  | .opMsize => .stack (ofNat f.mem.length :: f.stack)
  | .opGas => .stack (ofNat f.gas :: f.stack)
  | .opCallDataCopy =>
    .mem (f.stack.drop 3) (Mem.set f.mem (lo64 (arg f 0)) (lo64 (arg f 2))
      (getData f.input (if (uint64WithOverflow (arg f 1)).2 then maxUint64 else (uint64WithOverflow (arg f 1)).1)
        (lo64 (arg f 2))))
  | .opCodeCopy =>
    .mem (f.stack.drop 3) (Mem.set f.mem (lo64 (arg f 0)) (lo64 (arg f 2))
      (getData f.code (if (uint64WithOverflow (arg f 1)).2 then maxUint64 else (uint64WithOverflow (arg f 1)).1)
        (lo64 (arg f 2))))
  | .opReturnDataCopy =>
    if !isUint64 (arg f 1) then .fail .returnDataOutOfBounds
    else if !isUint64 (add (arg f 1) (arg f 2)) ||
        decide (f.returnData.length < lo64 (add (arg f 1) (arg f 2))) then .fail .returnDataOutOfBounds
    else if lo64 (arg f 1) > lo64 (add (arg f 1) (arg f 2)) then .fail .goPanic
    else .mem (f.stack.drop 3) (Mem.set f.mem (lo64 (arg f 0)) (lo64 (arg f 2))
      ((f.returnData.drop (lo64 (arg f 1))).take (lo64 (add (arg f 1) (arg f 2)) - lo64 (arg f 1))))
  | .opMload => .load (Mem.getPtr f.mem (lo64 (arg f 0)) 32) fun bs => setBytes bs :: f.stack.drop 1
  | .opMstore => .mem (f.stack.drop 2) (Mem.set32 f.mem (lo64 (arg f 0)) (arg f 1))
  | .opMstore8 => .mem (f.stack.drop 2) (Mem.setByte f.mem (lo64 (arg f 0)) (UInt8.ofNat (lo64 (arg f 1))))
  | .opMcopy => .mem (f.stack.drop 3) (Mem.copy f.mem (lo64 (arg f 0)) (lo64 (arg f 1)) (lo64 (arg f 2)))
  | .opJump =>
    if !validJumpdest f (arg f 0) then .fail .invalidJump else .goto (f.stack.drop 1) (lo64 (arg f 0))
  | .opJumpi =>
    if !isZero (arg f 1) then
      if !validJumpdest f (arg f 0) then .fail .invalidJump else .goto (f.stack.drop 2) (lo64 (arg f 0))
    else .goto (f.stack.drop 2) (f.pc + 1)
  | .opReturn | .opRevert =>
    .exit (f.stack.drop 2) (Mem.getPtr f.mem (lo64 (arg f 0)) (lo64 (arg f 1)))
  | .other name => .unmodelled name
  -- a pure stack function on which `applyPure` is undefined: an operand is missing
  | _ => .fail .goPanic

theorem execOp_eq (H : Bytes → Bytes) (e : Exec) (f : Frame) :
    execOp H e f = match applyPure e f.code f.pc f.stack with
      | some st => .ok { f with stack := st, pc := f.pc + pushWidth e } []
      | none => if f.stack.length < arity e then .err .goPanic else finish f (act H e f) := by
  -- on a frame given by its fields and a stack taken apart as far as the arity, both sides compute
  obtain ⟨code, input, bitmap, st, mem, pc, gas, last, rd⟩ := f
  cases e
  case opStop | opJumpdest | opPc | opMsize | opGas | opPush0 | opCallDataSize | opCodeSize |
      opReturnDataSize | push | other => rfl
  case opPush1 =>
    dsimp only [execOp, applyPure, binFn, unFn, terFn]
    split <;> rfl
  case dup n =>
    dsimp only [execOp, applyPure, binFn, unFn, terFn]
    by_cases hn : n = 0
    · rw [if_pos hn, if_pos hn]; exact (ite_self _).symm
    · rw [if_neg hn, if_neg hn]
      cases st[n - 1]?
      · exact (ite_self _).symm
      · rfl
  case swap n =>
    rcases st with _ | ⟨top, tl⟩
    · rfl
    · dsimp only [execOp, applyPure, binFn, unFn, terFn]
      by_cases hn : n = 0
      · rw [if_pos hn, if_pos hn]; rfl
      · rw [if_neg hn, if_neg hn]
        cases (top :: tl)[n]?
        · exact (ite_self _).symm
        · rfl
  case opNot | opIszero | opPop | opMload =>
    rcases st with _ | ⟨x, rest⟩ <;> rfl
  case opCallDataLoad | opJump =>
    rcases st with _ | ⟨x, rest⟩
    · rfl
    · dsimp only [execOp, applyPure, binFn, unFn, terFn, arity, act]
      simp only [apply_ite (finish _)]
      rfl
  case opAddmod | opMulmod | opCallDataCopy | opCodeCopy | opMcopy =>
    rcases st with _ | ⟨x, _ | ⟨y, _ | ⟨z, rest⟩⟩⟩ <;> rfl
  case opReturnDataCopy =>
    rcases st with _ | ⟨x, _ | ⟨y, _ | ⟨z, rest⟩⟩⟩
    · rfl
    · rfl
    · rfl
    · dsimp only [execOp, applyPure, binFn, unFn, terFn, arity, act]
      simp only [apply_ite (finish _)]
      rfl
  case opJumpi =>
    rcases st with _ | ⟨x, _ | ⟨y, rest⟩⟩
    · rfl
    · rfl
    · dsimp only [execOp, applyPure, binFn, unFn, terFn, arity, act]
      simp only [apply_ite (finish _)]
      rfl
  all_goals rcases st with _ | ⟨x, _ | ⟨y, rest⟩⟩ <;> rfl

theorem execOp_pure (H : Bytes → Bytes) (e : Exec) (g : Frame) (st' : List Word)
    (h : applyPure e g.code g.pc g.stack = some st') :
    execOp H e g = .ok { g with stack := st', pc := g.pc + pushWidth e } [] := by
  rw [execOp_eq, h]

/-- what the table `act` says beyond the shape: no such instruction carries PUSH data, a write
keeps the length of memory, only JUMP and JUMPI set the pc -/
def Act.Ok (e : Exec) (f : Frame) : Act → Prop
  | .stack _ | .load _ _ | .exit _ _ => pushWidth e = 0
  | .mem _ m => pushWidth e = 0 ∧ ∀ m', m = some m' → m'.length = f.mem.length
  | .goto _ _ => e = .opJump ∨ e = .opJumpi
  | .fail _ | .unmodelled _ => True

theorem act_ok (H : Bytes → Bytes) (e : Exec) (f : Frame) : (act H e f).Ok e f := by
  cases e
  case opCallDataCopy | opCodeCopy => exact ⟨rfl, fun _ h => set_length h⟩
  case opMstore => exact ⟨rfl, fun _ h => set32_length h⟩
  case opMstore8 => exact ⟨rfl, fun _ h => setByte_length h⟩
  case opMcopy => exact ⟨rfl, fun _ h => copy_length h⟩
  case opReturnDataCopy =>
    dsimp only [act]
    repeat' split
    all_goals first | trivial | exact ⟨rfl, fun _ h => set_length h⟩
  case opCallDataLoad => dsimp only [act]; split <;> rfl
  case opJump => dsimp only [act]; split <;> first | trivial | exact Or.inl rfl
  case opJumpi =>
    dsimp only [act]
    repeat' split
    all_goals first | trivial | exact Or.inr rfl
  all_goals first | exact trivial | rfl

/-- what a successful `execute` may change: stack, memory contents (not the length) and pc -/
def Changes (e : Exec) (g f1 : Frame) : Prop :=
  ∃ st m pc, f1 = { g with stack := st, mem := m, pc := pc } ∧ m.length = g.mem.length ∧
    (e ≠ .opJump → e ≠ .opJumpi → pc = g.pc + pushWidth e)

theorem execOp_ok {H : Bytes → Bytes} {e : Exec} {g f1 : Frame} {res : Bytes}
    (h : execOp H e g = .ok f1 res) : Changes e g f1 := by
  rw [execOp_eq] at h
  cases hp : applyPure e g.code g.pc g.stack with
  | some st =>
    rw [hp] at h; injection h with h _; subst h
    exact ⟨_, _, _, rfl, rfl, fun _ _ => rfl⟩
  | none =>
    rw [hp] at h; dsimp only at h
    split at h
    · cases h
    · have hok := act_ok H e g
      cases ha : act H e g <;> rw [ha] at h hok
      case stack st =>
        injection h with h _; subst h
        exact ⟨_, _, _, rfl, rfl, fun _ _ => hok.symm ▸ rfl⟩
      case goto st pc =>
        injection h with h _; subst h
        exact ⟨_, _, _, rfl, rfl, fun h1 h2 => hok.elim (absurd · h1) (absurd · h2)⟩
      case mem st m =>
        rcases m with _ | m
        · cases h
        · injection h with h _; subst h
          exact ⟨_, _, _, rfl, hok.2 _ rfl, fun _ _ => hok.1.symm ▸ rfl⟩
      case load d k =>
        rcases d with _ | d
        · cases h
        · injection h with h _; subst h
          exact ⟨_, _, _, rfl, rfl, fun _ _ => hok.symm ▸ rfl⟩
      case exit st r =>
        rcases r with _ | r
        · cases h
        · injection h with h _; subst h
          exact ⟨_, _, _, rfl, rfl, fun _ _ => hok.symm ▸ rfl⟩
      case fail | unmodelled => cases h

end Rangers.Proofs.Evm10
