import Rangers.Model.Journal
/-! Association-list and set lemmas (`mget`/`mset`/`mdel`, `sadd`/`sdel`) used by the C04 proofs (core only). -/
namespace Rangers.Proofs.Journal
open Rangers Rangers.Model.Journal

variable {α : Type}

@[simp] theorem mget_nil (k : Bytes) : mget ([] : List (Bytes × α)) k = none := rfl

theorem mget_mset (m : List (Bytes × α)) (k k' : Bytes) (v : α) :
    mget (mset m k v) k' = if k = k' then some v else mget m k' := by
  induction m with
  | nil => simp [mset, mget]
  | cons p t ih =>
    obtain ⟨pk, pv⟩ := p
    simp only [mset]
    by_cases h : pk = k
    · subst h; simp only [if_true, mget]; split <;> rfl
    · simp only [h, if_false, mget, ih]
      by_cases h2 : pk = k'
      · subst h2; simp [Ne.symm h]
      · simp [h2]

@[simp] theorem mget_mset_self (m : List (Bytes × α)) (k : Bytes) (v : α) :
    mget (mset m k v) k = some v := by simp [mget_mset]

theorem mget_mset_ne (m : List (Bytes × α)) {k k' : Bytes} (v : α) (h : k ≠ k') :
    mget (mset m k v) k' = mget m k' := by simp [mget_mset, h]

theorem mget_mdel (m : List (Bytes × α)) (k k' : Bytes) :
    mget (mdel m k) k' = if k = k' then none else mget m k' := by
  induction m with
  | nil => simp [mdel, mget]
  | cons p t ih =>
    obtain ⟨pk, pv⟩ := p
    unfold mdel at ih ⊢
    simp only [List.filter]
    by_cases h : pk = k
    · subst h; simp only [ne_eq, not_true_eq_false, decide_false, ih, mget]
      split <;> simp_all
    · simp only [ne_eq, h, not_false_eq_true, decide_true, mget, ih]
      by_cases h2 : pk = k'
      · subst h2; simp [Ne.symm h]
      · simp [h2]

@[simp] theorem mget_mdel_self (m : List (Bytes × α)) (k : Bytes) : mget (mdel m k) k = none := by
  simp [mget_mdel]

theorem mget_mdel_ne (m : List (Bytes × α)) {k k' : Bytes} (h : k ≠ k') :
    mget (mdel m k) k' = mget m k' := by simp [mget_mdel, h]

theorem mdel_mset_fresh (m : List (Bytes × α)) (k : Bytes) (v : α) (h : mget m k = none) :
    mdel (mset m k v) k = m := by
  induction m with
  | nil => simp [mset, mdel]
  | cons p t ih =>
    obtain ⟨pk, pv⟩ := p
    simp only [mget] at h
    by_cases hk : pk = k
    · simp [hk] at h
    · simp only [hk, if_false] at h
      simp only [mset, hk, if_false]
      unfold mdel at ih ⊢
      simp only [List.filter, ne_eq, hk, not_false_eq_true, decide_true]
      rw [ih h]

theorem mset_same (m : List (Bytes × α)) (k : Bytes) (v : α) (h : mget m k = some v) : mset m k v = m := by
  induction m with
  | nil => simp [mget] at h
  | cons p t ih =>
    obtain ⟨pk, pv⟩ := p
    simp only [mget] at h
    by_cases hk : pk = k
    · subst hk; simp only [if_true, Option.some.injEq] at h; subst h; simp [mset]
    · simp only [hk, if_false] at h; simp [mset, hk, ih h]

theorem mset_mset (m : List (Bytes × α)) (k : Bytes) (v w : α) : mset (mset m k v) k w = mset m k w := by
  induction m with
  | nil => simp [mset]
  | cons p t ih =>
    obtain ⟨pk, pv⟩ := p
    by_cases hk : pk = k
    · subst hk; simp [mset]
    · simp [mset, hk, ih]

theorem sdel_not_mem (m : List Bytes) (k : Bytes) (h : k ∉ m) : sdel m k = m := by
  unfold sdel
  rw [List.filter_eq_self]
  intro x hx
  simp only [decide_eq_true_eq]
  intro hxk; subst hxk; exact h hx

theorem sdel_append_self (m : List Bytes) (k : Bytes) (h : k ∉ m) : sdel (m ++ [k]) k = m := by
  unfold sdel
  rw [List.filter_append]
  have : List.filter (fun x => decide (x ≠ k)) [k] = [] := by simp
  rw [this, List.append_nil]
  exact sdel_not_mem m k h

theorem mem_sadd (m : List Bytes) (k b : Bytes) : b ∈ sadd m k ↔ b = k ∨ b ∈ m := by
  unfold sadd
  by_cases h : k ∈ m
  · simp only [h, if_true]; constructor
    · exact Or.inr
    · rintro (rfl | h') <;> assumption
  · simp only [h, if_false, List.mem_append, List.mem_singleton]; exact Or.comm

theorem mem_sdel (m : List Bytes) (k b : Bytes) : b ∈ sdel m k ↔ b ≠ k ∧ b ∈ m := by
  unfold sdel; simp [List.mem_filter, and_comm]

theorem isEmpty_mset (m : List (Bytes × α)) (k : Bytes) (v : α) : (mset m k v).isEmpty = false := by
  cases m with
  | nil => rfl
  | cons p t => obtain ⟨pk, pv⟩ := p; simp only [mset]; split <;> rfl

theorem mget_mem {m : List (Bytes × α)} {k : Bytes} {v : α} (h : mget m k = some v) : (k, v) ∈ m := by
  induction m with
  | nil => simp [mget] at h
  | cons p t ih =>
    obtain ⟨pk, pv⟩ := p
    simp only [mget] at h
    by_cases hk : pk = k
    · simp only [hk, if_true, Option.some.injEq] at h; subst hk; subst h; exact List.mem_cons_self ..
    · simp only [hk, if_false] at h; exact List.mem_cons_of_mem _ (ih h)

end Rangers.Proofs.Journal
