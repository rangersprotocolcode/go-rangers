import Rangers.Proofs.JournalUndo
import Rangers.Proofs.JournalUndoEqns
/-! One pass over the eleven `undo` methods, for every relation between states that is induced by a
relation `P` between the account objects the two states resolve (`Rel`): if `P` respects the object
updates the undo methods make (`Closed`), every `undo` maps related states to related states, or panics
on both (`undo_rel`).  With the crash flag compared first this is `SimP P D`: `Sim` is the case `P = ObjSim`
(`simP_sim`, so every `undo` respects it: `undo_congr`), the finer `SimR` of the root theorem the case
`P = ObjSim ∧ XObj` with the dirty sets compared as well (`JournalRootRel`).  In front stands what `touchChange.undo`,
`suicideChange.undo` and the lower-case `setBalance` do to the view of one state (`undo_touch_live`, `undo_suicide_live`,
`setBalanceRaw_live`, as `modify_live` does for the three setters): `undo_rel` uses each on both states, the inverse lemmas of
`touch` and `Suicide` (`revAt_touch`, `revAt_suicideCore`) on one. -/
namespace Rangers.Proofs.Journal
open Rangers Rangers.Model.Journal

theorem undo_touch_live (c : Cfg) {s : ADB} {a : Addr} {o : Obj} (hs : s.crashed = false) (h : res s a = .live o)
    (prev pd : Bool) (hg : (!prev && decide (a ≠ c.ripemd)) = true) :
    Upd s (undo c s (.touch a prev pd)) a { o with touched := prev } ∧
    ∀ b, b ∈ (undo c s (.touch a prev pd)).dirtySet ↔ (pd = true ∨ b ≠ a) ∧ b ∈ s.dirtySet := by
  obtain ⟨s1, e1, _, hd, hf1, r1⟩ := resolve_live h
  have h1 : Upd s (putObj s1 a { o with touched := prev }) a { o with touched := prev } :=
    (Upd.putObj s1 a (x := { o with touched := prev }) hd).of_res (by rw [hf1]) (by rw [hf1]; exact .inner _) r1
  rw [undo_touch c hs, if_pos hg, e1]
  cases pd with
  | false =>
    exact ⟨h1.to_res rfl (.inner _) (res_congr rfl rfl), fun b => by
      show b ∈ sdel s1.dirtySet a ↔ _
      rw [mem_sdel, hf1]; simp⟩
  | true => exact ⟨h1, fun b => by show b ∈ s1.dirtySet ↔ _; rw [hf1]; simp⟩

theorem undo_suicide_live (c : Cfg) {s : ADB} {a : Addr} {o : Obj} (hs : s.crashed = false) (h : res s a = .live o)
    (prev : Bool) (bal : Nat) :
    ∃ m, undo c s (.suicide a prev bal) = setBalanceRaw c m a bal ∧ Upd s m a (setSui o prev) ∧
      m.dirtySet = s.dirtySet := by
  obtain ⟨s1, e1, _, hd, hf1, r1⟩ := resolve_live h
  rw [undo_suicide c hs, e1]
  exact ⟨_, rfl, (Upd.putObj s1 a (x := setSui o prev) hd).of_res (by rw [hf1]) (by rw [hf1]; exact .inner _) r1,
    by rw [hf1]; rfl⟩

theorem setBalanceRaw_live (c : Cfg) {s : ADB} {t : Obj} (a : Addr) (n : Nat) (h : res s c.tok = .live t) :
    Upd s (setBalanceRaw c s a n) c.tok (disarm (setSlot t (c.balKey a) (natToBE n))) ∧
    (∀ b, b ∈ (setBalanceRaw c s a n).dirtySet ↔ (t.armed = true ∧ b = c.tok) ∨ b ∈ s.dirtySet) ∧
    setBalanceRaw c s a n =
      { s with objs := (setBalanceRaw c s a n).objs, dirtySet := (setBalanceRaw c s a n).dirtySet } := by
  obtain ⟨s1, e1, m1, u, d⟩ := modify_live h (fun o => setSlot o (c.balKey a) (natToBE n)) (live_not_deleted h :)
  have hf : s1 = { s with objs := s1.objs } := by have := resolve_fields s c.tok; rwa [e1] at this
  have e : setBalanceRaw c s a n = markDirty s1 c.tok (setSlot t (c.balKey a) (natToBE n)) := by
    simp only [setBalanceRaw, resolveNew_live h, e1, setDataRaw, m1, setSlot]
  rw [e]
  refine ⟨u, d, (markDirty_fields _ _ _).trans ?_⟩
  generalize (markDirty s1 c.tok _).objs = os, (markDirty s1 c.tok _).dirtySet = ds
  rw [hf]

inductive ResP (P : Obj → Obj → Prop) : Res → Res → Prop
  | absent : ResP P .absent .absent
  | deleted : ResP P .deleted .deleted
  | live {o o' : Obj} : P o o' → ResP P (.live o) (.live o')

section
variable {P : Obj → Obj → Prop} {D : Prop}

theorem ResP.of_deleted {r : Res} (h : ResP P .deleted r) : r = .deleted := by cases h; rfl
theorem ResP.of_absent {r : Res} (h : ResP P .absent r) : r = .absent := by cases h; rfl
theorem ResP.of_live {o : Obj} {r : Res} (h : ResP P (.live o) r) : ∃ o', r = .live o' ∧ P o o' := by
  cases h with | live h => exact ⟨_, rfl, h⟩

theorem ResP.refl (hP : ∀ o, P o o) (r : Res) : ResP P r r := by
  cases r with
  | absent => exact .absent
  | deleted => exact .deleted
  | live o => exact .live (hP o)

theorem ResP.trans (hP : ∀ {o o' o''}, P o o' → P o' o'' → P o o'') {r r' r'' : Res} (h : ResP P r r') (h' : ResP P r' r'') :
    ResP P r r'' := by
  cases h with
  | absent => exact h'
  | deleted => exact h'
  | live h => cases h' with | live h' => exact .live (hP h h')

theorem ResP.mono {Q : Obj → Obj → Prop} (hPQ : ∀ o o', P o o' → Q o o') {r r' : Res} (h : ResP P r r') : ResP Q r r' := by
  cases h with
  | absent => exact .absent
  | deleted => exact .deleted
  | live h => exact .live (hPQ _ _ h)

theorem ResP.and {Q : Obj → Obj → Prop} {r r' : Res} (h : ResP P r r') (h' : ResP Q r r') :
    ResP (fun o o' => P o o' ∧ Q o o') r r' := by
  cases h with
  | absent => exact .absent
  | deleted => exact .deleted
  | live h => cases h' with | live h' => exact .live ⟨h, h'⟩

/-- two states: the same fields outside the account objects, `P`-related resolutions of every address and,
    if `D`, the same dirty set -/
structure Rel (P : Obj → Obj → Prop) (D : Prop) (s t : ADB) : Prop where
  frame : Frame s t
  objs : ∀ a, ResP P (res s a) (res t a)
  dirty : D → ∀ a, a ∈ s.dirtySet ↔ a ∈ t.dirtySet

/-- what `P` has to respect: the object updates of the undo methods (the setters store through `markDirty`,
    which disarms); with `D`, related objects agree on `onDirty` -/
structure Closed (P : Obj → Obj → Prop) (D : Prop) : Prop where
  refl : ∀ o, P o o
  trans : ∀ {o o' o''}, P o o' → P o' o'' → P o o''
  armed : D → ∀ {o o'}, P o o' → o.armed = o'.armed
  nonce : ∀ {o o'} (n : Nat), P o o' → P { o with nonce := n, armed := false } { o' with nonce := n, armed := false }
  slot : ∀ {o o'} (k : Key) (v : Val), P o o' →
    P { o with cached := mset o.cached k v, dirty := mset o.dirty k v, armed := false }
      { o' with cached := mset o'.cached k v, dirty := mset o'.dirty k v, armed := false }
  code : ∀ {o o'} (cd : Option Bytes) (h : Hash), P o o' →
    P { o with code := cd, codeHash := h, dirtyCode := true, armed := false }
      { o' with code := cd, codeHash := h, dirtyCode := true, armed := false }
  suicided : ∀ {o o'} (b : Bool), P o o' → P { o with suicided := b } { o' with suicided := b }
  touched : ∀ {o o'} (b : Bool), P o o' → P { o with touched := b } { o' with touched := b }

theorem Closed.and {Q : Obj → Obj → Prop} (hP : Closed P False) (hQ : Closed Q D) : Closed (fun o o' => P o o' ∧ Q o o') D :=
  ⟨fun o => ⟨hP.refl o, hQ.refl o⟩, fun h h' => ⟨hP.trans h.1 h'.1, hQ.trans h.2 h'.2⟩, fun hD _ _ h => hQ.armed hD h.2, fun n h => ⟨hP.nonce n h.1, hQ.nonce n h.2⟩,
   fun k v h => ⟨hP.slot k v h.1, hQ.slot k v h.2⟩, fun cd hh h => ⟨hP.code cd hh h.1, hQ.code cd hh h.2⟩,
   fun b h => ⟨hP.suicided b h.1, hQ.suicided b h.2⟩, fun b h => ⟨hP.touched b h.1, hQ.touched b h.2⟩⟩

theorem Rel.upd {s t rs rt : ADB} {a : Addr} {os ot : Obj} (h : Rel P D s t) (us : Upd s rs a os) (ut : Upd t rt a ot)
    (ho : P os ot) (hd : D → ∀ b, b ∈ rs.dirtySet ↔ b ∈ rt.dirtySet) : Rel P D rs rt := by
  refine ⟨us.frame.trans (h.frame.trans ut.frame.symm), fun b => ?_, hd⟩
  rw [us.res_eq b, ut.res_eq b]
  by_cases hab : a = b
  · simp only [hab, if_true]; exact .live ho
  · simp only [hab, if_false]; exact h.objs b

/-- outcome of the same step on two related states: both panic, or neither does and the results are related.
    `rs.codes = s.codes` is part of it because `SimP` states `Rel (P s.codes)` at the blobs of its own left state, so
    `SimP.undo` has to carry `Rel (P s.codes) …` over to `Rel (P rs.codes) …` -/
def Out (P : Obj → Obj → Prop) (D : Prop) (s rs rt : ADB) : Prop :=
  (rs.crashed = true ∧ rt.crashed = true) ∨
  (rs.crashed = false ∧ rt.crashed = false ∧ rs.codes = s.codes ∧ Rel P D rs rt)

section
variable (hP : Closed P D) {s t : ADB} (hs : s.crashed = false) (ht : t.crashed = false) (h : Rel P D s t)
include hP hs ht h

theorem modify_rel (a : Addr) (f : Obj → Obj) (hfd : ∀ o, (f o).deleted = o.deleted) (hfa : ∀ o, (f o).armed = o.armed)
    (hf : ∀ {o o'}, P o o' → P { f o with armed := false } { f o' with armed := false }) :
    Out P D s (match resolve s a with | (s1, none) => crash s1 | (s1, some _) => rawSet f s1 a)
              (match resolve t a with | (t1, none) => crash t1 | (t1, some _) => rawSet f t1 a) := by
  have R := h.objs a
  cases hrs : res s a with
  | deleted => rw [hrs] at R; rw [resolve_deleted hrs, resolve_deleted R.of_deleted]; exact .inl ⟨rfl, rfl⟩
  | absent => rw [hrs] at R; rw [(resolve_absent hrs).1, (resolve_absent R.of_absent).1]; exact .inl ⟨rfl, rfl⟩
  | live o =>
    rw [hrs] at R
    obtain ⟨o', hrt, ho⟩ := R.of_live
    obtain ⟨s1, e1, m1, u1, d1⟩ := modify_live hrs f ((hfd o).trans (live_not_deleted hrs))
    obtain ⟨t1, e2, m2, u2, d2⟩ := modify_live hrt f ((hfd o').trans (live_not_deleted hrt))
    rw [e1, e2]
    simp only [rawSet, m1, m2]
    exact .inr ⟨u1.crashed.trans hs, u2.crashed.trans ht, u1.frame.codes, h.upd u1 u2 (hf ho)
      (fun hD b => by rw [d1 b, d2 b, hfa, hfa, hP.armed hD ho, h.dirty hD b])⟩

theorem setBalanceRaw_rel (c : Cfg) (a : Addr) (n : Nat) : Out P D s (setBalanceRaw c s a n) (setBalanceRaw c t a n) := by
  have R := h.objs c.tok
  cases hrs : res s c.tok with
  | deleted =>
    rw [hrs] at R
    unfold setBalanceRaw
    rw [resolveNew_deleted hrs, resolveNew_deleted R.of_deleted]; exact .inl ⟨rfl, rfl⟩
  | absent =>
    rw [hrs] at R
    unfold setBalanceRaw
    rw [resolveNew_absent hrs, resolveNew_absent R.of_absent]
    simp only
    unfold setDataRaw
    simp only [mget_mset_self]
    have fresh : ∀ u : ADB,
        Upd u (markDirty { u with objs := mset u.objs c.tok Obj.fresh, dirtySet := sadd u.dirtySet c.tok,
                                  journal := u.journal ++ [Entry.create c.tok] } c.tok
                { Obj.fresh with cached := mset Obj.fresh.cached (c.balKey a) (natToBE n),
                                 dirty := mset Obj.fresh.dirty (c.balKey a) (natToBE n) })
          c.tok _ := fun u => by
      refine .trans (x := Obj.fresh) ?_ (Upd.markDirty _ c.tok rfl)
      exact ⟨rfl, .inner u, res_of_mset rfl rfl rfl⟩
    exact .inr ⟨(fresh s).crashed.trans hs, (fresh t).crashed.trans ht, (fresh s).frame.codes,
      h.upd (fresh s) (fresh t) (hP.refl _) (fun hD b => by simp only [markDirty_dirtySet, mem_sadd, h.dirty hD b])⟩
  | live o =>
    rw [hrs] at R
    obtain ⟨o', hrt, ho⟩ := R.of_live
    obtain ⟨u1, d1, _⟩ := setBalanceRaw_live c a n hrs
    obtain ⟨u2, d2, _⟩ := setBalanceRaw_live c a n hrt
    exact .inr ⟨u1.crashed.trans hs, u2.crashed.trans ht, u1.frame.codes, h.upd u1 u2 (hP.slot _ _ ho)
      (fun hD b => by rw [d1 b, d2 b, hP.armed hD ho, h.dirty hD b])⟩

theorem undo_rel (c : Cfg) (e : Entry) : Out P D s (undo c s e) (undo c t e) := by
  have F := h.frame
  -- results that differ from `s`, `t` only outside the objects; the `Frame` of each is `F` with the written field replaced
  have outer : ∀ {rs rt : ADB}, rs.crashed = false → rt.crashed = false → rs.codes = s.codes → Frame rs rt →
      rs.objs = s.objs → rs.trie = s.trie → rs.dirtySet = s.dirtySet →
      rt.objs = t.objs → rt.trie = t.trie → rt.dirtySet = t.dirtySet → Out P D s rs rt :=
    fun c1 c2 hc hF o1 t1 d1 o2 t2 d2 => .inr ⟨c1, c2, hc, hF,
      fun a => by rw [res_congr o1 t1 a, res_congr o2 t2 a]; exact h.objs a, fun hD a => by rw [d1, d2]; exact h.dirty hD a⟩
  cases e with
  | create a =>
    rw [undo_create c hs, undo_create c ht]
    refine .inr ⟨hs, ht, rfl, { F with }, fun b => ?_, fun hD b => by simp only [mem_sdel, h.dirty hD b]⟩
    simp only [res_def, mget_mdel]
    by_cases hab : a = b
    · simp only [hab, if_true, F.trie]
      cases mget t.trie b with
      | none => exact .absent
      | some l => exact .live (hP.refl _)
    · simp only [hab, if_false]; exact h.objs b
  | suicide a prev prevBal =>
    have R := h.objs a
    cases hrs : res s a with
    | deleted =>
      rw [hrs] at R
      rw [undo_suicide c hs, undo_suicide c ht, resolve_deleted hrs, resolve_deleted R.of_deleted]; exact .inr ⟨hs, ht, rfl, h⟩
    | absent =>
      rw [hrs] at R
      rw [undo_suicide c hs, undo_suicide c ht, (resolve_absent hrs).1, (resolve_absent R.of_absent).1]; exact .inr ⟨hs, ht, rfl, h⟩
    | live o =>
      rw [hrs] at R
      obtain ⟨o', hrt, ho⟩ := R.of_live
      obtain ⟨ms, es, us, ds⟩ := undo_suicide_live c hs hrs prev prevBal
      obtain ⟨mt, et, ut, dt⟩ := undo_suicide_live c ht hrt prev prevBal
      rw [es, et]
      rcases setBalanceRaw_rel hP (us.crashed.trans hs) (ut.crashed.trans ht)
          (h.upd us ut (hP.suicided prev ho) fun hD b => by rw [ds, dt]; exact h.dirty hD b) c a prevBal with hcr | ⟨c1, c2, hc, hr⟩
      · exact .inl hcr
      · exact .inr ⟨c1, c2, hc.trans us.frame.codes, hr⟩
  | nonce a prev =>
    rw [undo_nonce c hs, undo_nonce c ht]
    exact modify_rel hP hs ht h a (fun o => { o with nonce := prev }) (fun _ => rfl) (fun _ => rfl) (hP.nonce prev)
  | storage a k prev =>
    rw [undo_storage c hs, undo_storage c ht]
    exact modify_rel hP hs ht h a (fun o => { o with cached := mset o.cached k prev, dirty := mset o.dirty k prev })
      (fun _ => rfl) (fun _ => rfl) (hP.slot k prev)
  | code a prevCode prevHash =>
    rw [undo_code c hs, undo_code c ht]
    exact modify_rel hP hs ht h a (fun o => { o with code := prevCode, codeHash := toHash prevHash, dirtyCode := true })
      (fun _ => rfl) (fun _ => rfl) (hP.code prevCode (toHash prevHash))
  | refund prev =>
    rw [undo_refund c hs, undo_refund c ht]
    exact outer hs ht rfl { F with refund := rfl } rfl rfl rfl rfl rfl rfl
  | addLog th =>
    rw [undo_addLog c hs, undo_addLog c ht, ← F.logs, ← F.logSize]
    split
    · exact .inl ⟨rfl, rfl⟩
    · exact outer hs ht rfl { F with logs := rfl, logSize := rfl } rfl rfl rfl rfl rfl rfl
    · exact outer hs ht rfl { F with logs := rfl, logSize := rfl } rfl rfl rfl rfl rfl rfl
  | touch a prev prevDirty =>
    by_cases hg : (!prev && decide (a ≠ c.ripemd)) = true
    · have R := h.objs a
      cases hrs : res s a with
      | deleted =>
        rw [hrs] at R
        rw [undo_touch c hs, undo_touch c ht, if_pos hg, if_pos hg, resolve_deleted hrs, resolve_deleted R.of_deleted]
        exact .inl ⟨rfl, rfl⟩
      | absent =>
        rw [hrs] at R
        rw [undo_touch c hs, undo_touch c ht, if_pos hg, if_pos hg, (resolve_absent hrs).1, (resolve_absent R.of_absent).1]
        exact .inl ⟨rfl, rfl⟩
      | live o =>
        rw [hrs] at R
        obtain ⟨o', hrt, ho⟩ := R.of_live
        obtain ⟨u1, d1⟩ := undo_touch_live c hs hrs prev prevDirty hg
        obtain ⟨u2, d2⟩ := undo_touch_live c ht hrt prev prevDirty hg
        exact .inr ⟨u1.crashed.trans hs, u2.crashed.trans ht, u1.frame.codes, h.upd u1 u2 (hP.touched prev ho)
          fun hD b => by rw [d1, d2, h.dirty hD b]⟩
    · rw [undo_touch c hs, undo_touch c ht, if_neg hg, if_neg hg]; exact .inr ⟨hs, ht, rfl, h⟩
  | alAddr a =>
    rw [undo_alAddr c hs, undo_alAddr c ht, ← F.al]
    exact outer hs ht rfl { F with al := rfl } rfl rfl rfl rfl rfl rfl
  | alSlot a slot =>
    rw [undo_alSlot c hs, undo_alSlot c ht, ← F.al]
    split
    · exact .inl ⟨rfl, rfl⟩
    · exact outer hs ht rfl { F with al := rfl } rfl rfl rfl rfl rfl rfl
  | transient a k prev =>
    rw [undo_transient c hs, undo_transient c ht]
    exact outer hs ht rfl { F with transient := fun a' k' => by simp only [tget_tset, F.transient] } rfl rfl rfl rfl rfl rfl

end

end

/-- both crashed, or neither and `Rel` for the object relation at the code blobs of `s` -/
structure SimP (P : List (Hash × Bytes) → Obj → Obj → Prop) (D : Prop) (s t : ADB) : Prop where
  crashed : s.crashed = t.crashed
  rel : s.crashed = false → Rel (P s.codes) D s t

section
variable {P : List (Hash × Bytes) → Obj → Obj → Prop} {D : Prop} (hP : ∀ cs, Closed (P cs) D)
include hP

theorem SimP.of_res {u s : ADB} (hc : u.crashed = s.crashed) (F : Frame u s) (hr : ∀ b, res u b = res s b)
    (hd : u.dirtySet = s.dirtySet) : SimP P D u s :=
  ⟨hc, fun _ => ⟨F, fun b => by rw [hr b]; exact .refl (hP _).refl _, fun _ b => by rw [hd]⟩⟩

theorem SimP.of_view {u s : ADB} (hc : u.crashed = s.crashed) (ho : u.objs = s.objs) (hd : u.dirtySet = s.dirtySet)
    (F : Frame u s) : SimP P D u s :=
  .of_res hP hc F (res_congr ho F.trie) hd

theorem SimP.of_upd {u s : ADB} {a : Addr} {o x : Obj} (h : Upd s u a x) (hs : res s a = .live o)
    (hx : P s.codes x o) (hd : D → ∀ b, b ∈ u.dirtySet ↔ b ∈ s.dirtySet) : SimP P D u s := by
  refine ⟨h.crashed, fun _ => ⟨h.frame, fun b => ?_, hd⟩⟩
  rw [h.res_eq b, h.frame.codes]
  by_cases hab : a = b
  · subst hab; rw [if_pos rfl, hs]; exact .live hx
  · rw [if_neg hab]; exact .refl (hP _).refl _

theorem SimP.trans {s t u : ADB} (h : SimP P D s t) (h' : SimP P D t u) : SimP P D s u :=
  ⟨h.crashed.trans h'.crashed, fun hs => by
    have r := h.rel hs
    have r' := h'.rel (h.crashed ▸ hs)
    rw [← r.frame.codes] at r'
    exact ⟨r.frame.trans r'.frame, fun a => ResP.trans (P := P s.codes) (hP _).trans (r.objs a) (r'.objs a),
      fun hD a => (r.dirty hD a).trans (r'.dirty hD a)⟩⟩

theorem SimP.undo (c : Cfg) {s t : ADB} (h : SimP P D s t) (e : Entry) : SimP P D (undo c s e) (undo c t e) := by
  by_cases hs : s.crashed = true
  · rw [undo_crashed c hs, undo_crashed c (h.crashed ▸ hs)]; exact h
  have hs : s.crashed = false := by simpa using hs
  rcases undo_rel (hP s.codes) hs (h.crashed ▸ hs) (h.rel hs) c e with ⟨h1, h2⟩ | ⟨h1, h2, hc, hr⟩
  · exact ⟨h1.trans h2.symm, fun h => by rw [h1] at h; cases h⟩
  · exact ⟨h1.trans h2.symm, fun _ => hc ▸ hr⟩

end

theorem ResRel.toP {cs : List (Hash × Bytes)} {r r' : Res} (h : ResRel cs r r') : ResP (ObjSim cs) r r' := by
  cases h with
  | absent => exact .absent
  | deleted => exact .deleted
  | live h => exact .live h

theorem ResRel.ofP {cs : List (Hash × Bytes)} {r r' : Res} (h : ResP (ObjSim cs) r r') : ResRel cs r r' := by
  cases h with
  | absent => exact .absent
  | deleted => exact .deleted
  | live h => exact .live h

theorem closed_objSim (cs : List (Hash × Bytes)) : Closed (ObjSim cs) False :=
  ⟨ObjSim.refl cs, ObjSim.trans, fun h => h.elim,
   fun _ ho => ⟨rfl, ho.2.1, ho.2.2.1, ho.2.2.2.1, ho.2.2.2.2⟩,
   fun k v ho => ⟨ho.1, ho.2.1, ho.2.2.1, fun k' => by
      have := ho.2.2.2.1 k'
      simp only [Obj.get, mget_mset] at this ⊢
      by_cases hk : k = k' <;> simp [hk, this], ho.2.2.2.2⟩,
   fun _ _ ho => ⟨ho.1, rfl, ho.2.2.1, ho.2.2.2.1, rfl⟩,
   fun _ ho => ⟨ho.1, ho.2.1, rfl, ho.2.2.2.1, ho.2.2.2.2⟩,
   fun _ ho => ⟨ho.1, ho.2.1, ho.2.2.1, ho.2.2.2.1, ho.2.2.2.2⟩⟩

theorem simP_sim {s t : ADB} : SimP ObjSim False s t ↔ Sim s t :=
  ⟨fun h => ⟨h.crashed, fun hs => (h.rel hs).frame, fun hs a => ResRel.ofP ((h.rel hs).objs a)⟩,
   fun h => ⟨h.crashed, fun hs => ⟨h.frame hs, fun a => (h.objs hs a).toP, fun hD => hD.elim⟩⟩⟩

theorem undo_congr (c : Cfg) {s t : ADB} (h : Sim s t) (e : Entry) : Sim (undo c s e) (undo c t e) :=
  simP_sim.mp ((simP_sim.mpr h).undo closed_objSim c e)

end Rangers.Proofs.Journal
