import Rangers.Proofs.Ledger
import Rangers.Proofs.IteCases
/-! `Flow`: the relation "no value is created" between ledger states, and its proof for every opcode step and every
    frame of the EVM skeleton `exec` (C06); `Debited`: the debit of a balance in favour of the registry or of nobody, the step
    STAKE shares with three transaction types. Proofs/LedgerTx carries both up to transactions and blocks. -/
namespace Rangers.Ledger

/-- Everything the native token can be: balances, value burned, stake in the registry, escrow.  `Props.C06.wealth` has the
    same body, for the statements there (Props imports Proofs, so the lemmas here cannot be stated with it); the two unfold to
    the same sum. -/
def held (s : St) : Nat := total s.bal + s.burned + stakeSum s.reg + escrowTotal s.escrow

/-- No value is created on the way from `s` to `s'`, and `out` wei leave. The ghost counter `excess` (what UNSTAKE escrows
    beyond the stake it removes, a known finding) is the one way `held` grows, hence its place in `held_eq`. -/
structure Flow (out : Nat) (s s' : St) : Prop where
  held_eq : held s' + s.excess + out = held s + s'.excess
  burned_le : s.burned ≤ s'.burned
  total_le : total s'.bal ≤ total s.bal

theorem Flow.refl (s : St) : Flow 0 s s := ⟨rfl, Nat.le_refl _, Nat.le_refl _⟩

theorem Flow.add {a b : Nat} {s t u : St} (h₁ : Flow a s t) (h₂ : Flow b t u) : Flow (a + b) s u :=
  ⟨by have := h₁.held_eq; have := h₂.held_eq; omega, Nat.le_trans h₁.burned_le h₂.burned_le,
    Nat.le_trans h₂.total_le h₁.total_le⟩

theorem Flow.trans {out : Nat} {s t u : St} (h₁ : Flow 0 s t) (h₂ : Flow out t u) : Flow out s u :=
  Nat.zero_add out ▸ h₁.add h₂

theorem Flow.same {s s' : St} (hb : total s'.bal = total s.bal) (h1 : s'.burned = s.burned := by rfl)
    (h2 : s'.reg = s.reg := by rfl) (h3 : s'.escrow = s.escrow := by rfl) (h4 : s'.excess = s.excess := by rfl) :
    Flow 0 s s' :=
  ⟨by simp only [held, hb, h1, h2, h3, h4, Nat.add_zero], Nat.le_of_eq h1.symm, Nat.le_of_eq hb⟩

theorem flow_transfer (s : St) (src dst : Addr) (v : Int) (h : canTransfer s.bal src v = true) :
    Flow 0 s { s with bal := vmTransfer s.bal src dst v } :=
  Flow.same (total_vmTransfer s.bal src dst v h)

theorem total_suicide (s : St) (self ben : Addr) :
    total (suicide s self ben).bal + (if ben = self then get s.bal self else 0) = total s.bal := by
  have h1 := total_put (addBal s.bal ben (get s.bal self : Nat)) self 0
  have h2 := total_addBal s.bal ben (get s.bal self)
  simp only [suicide]
  by_cases hb : ben = self
  · subst hb; have h3 := get_addBal_same s.bal ben (get s.bal ben); rw [if_pos rfl]; omega
  · have h3 := get_addBal_other s.bal ben self (get s.bal self : Nat) (Ne.symm hb); rw [if_neg hb]; omega

theorem flow_suicide (s : St) (self ben : Addr) : Flow 0 s (suicide s self ben) := by
  have h := total_suicide s self ben
  have hb : (suicide s self ben).burned = s.burned + (if ben = self then get s.bal self else 0) := rfl
  generalize (if ben = self then get s.bal self else 0) = d at h hb
  refine ⟨?_, by omega, by omega⟩
  have : held (suicide s self ben) = total (suicide s self ben).bal + (suicide s self ben).burned + stakeSum s.reg
      + escrowTotal s.escrow := rfl
  rw [this, hb, held]
  have : (suicide s self ben).excess = s.excess := rfl
  omega

/-- `d` wei leave the balance of `src`; `out` of them go to nobody, the rest into the registry. The step `SubBalance` +
    `UpdateMiner` of `AddMiner` and `AddStake` (`out = 0`; STAKE calls the latter) and of the OperatorNode fee (`out = d`). -/
inductive Debited (src : Addr) (d out : Nat) (s : St) : St → Prop
  | mk (r' : Reg) (hle : d ≤ get s.bal src) (hr : stakeSum r' + out = stakeSum s.reg + d) :
      Debited src d out s { s with bal := (subBal s.bal src d).1, reg := r' }

theorem Debited.total {src : Addr} {d out : Nat} {s s' : St} (h : Debited src d out s s') :
    total s'.bal + d = total s.bal := by
  obtain ⟨r', hle, hr⟩ := h
  exact (subBal_ok_of_le s.bal src d hle).2.1

theorem Debited.stake {src : Addr} {d out : Nat} {s s' : St} (h : Debited src d out s s') :
    stakeSum s'.reg + out = stakeSum s.reg + d := by
  obtain ⟨r', hle, hr⟩ := h
  exact hr

theorem Debited.held_eq {src : Addr} {d out : Nat} {s s' : St} (h : Debited src d out s s') : held s' + out = held s := by
  have h1 := h.total
  have h2 := h.stake
  obtain ⟨r', hle, hr⟩ := h
  simp only [held] at h1 h2 ⊢
  omega

theorem Debited.flow {src : Addr} {d out : Nat} {s s' : St} (h : Debited src d out s s') : Flow out s s' := by
  have h1 := h.total
  have h2 := h.held_eq
  obtain ⟨r', hle, hr⟩ := h
  exact ⟨by simp only at h2 ⊢; omega, Nat.le_refl _, by omega⟩

theorem Debited.addStake (s : St) (src : Addr) {m : MinerRec} (t : Nat) (hg : regGet s.reg m.id = some m)
    (hle : toWei t ≤ get s.bal src) :
    Debited src (toWei t) 0 s
      { s with bal := (subBal s.bal src (toWei t)).1, reg := regSet s.reg { m with stake := m.stake + t } } := by
  refine .mk _ hle ?_
  have h2 := stakeSum_regSet s.reg m { m with stake := m.stake + t } hg
  have h3 := toWei_add m.stake t
  simp only at h2
  omega

theorem opStake_cases (s : St) (self : Addr) (v : Nat) :
    opStake s self v = s ∨ Debited self (toWei (v / wei)) 0 s (opStake s self v) := by
  unfold opStake
  generalize v / wei = t
  simp only
  by_cases h1 : t > uint64Max
  · exact .inl (if_pos h1)
  rw [if_neg h1]
  cases byAccount s.reg self with
  | none => exact .inl rfl
  | some m =>
    simp only
    by_cases h2 : t = 0
    · exact .inl (if_pos h2)
    rw [if_neg h2]
    by_cases h3 : get s.bal self < toWei t
    · exact .inl (if_pos h3)
    rw [if_neg h3]
    cases hg : regGet s.reg m.id with
    | none => exact .inl rfl
    | some m' => exact .inr (.addStake s self t (regGet_self hg) (Nat.le_of_not_lt h3))

theorem flow_opStake (s : St) (self : Addr) (v : Nat) : Flow 0 s (opStake s self v) := by
  rcases opStake_cases s self v with h | h
  · rw [h]; exact .refl s
  · exact h.flow

theorem opUnStake_cases (code : Code) (origin : Addr) (s : St) (self : Addr) (v : Nat) :
    opUnStake code origin s self v = s ∨
    ∃ r' refund e, stakeSum r' + toWei refund = stakeSum s.reg ∧
      escrowTotal e = escrowTotal s.escrow + toWei refund + (v - toWei refund) ∧
      opUnStake code origin s self v = { s with reg := r', escrow := e, excess := s.excess + (v - toWei refund) } := by
  unfold opUnStake
  cases byAccount s.reg self with
  | none => exact .inl rfl
  | some m =>
    simp only
    cases hg : getRefundStake s.reg (hasCodeIn code) m.id self (if v / wei > uint64Max then uint64Max else v / wei) with
    | none => exact .inl rfl
    | some p =>
      obtain ⟨r', refund, acct⟩ := p
      refine .inr ⟨r', refund, _, getRefundStake_sum _ _ _ _ _ _ _ _ hg, ?_, rfl⟩
      by_cases c : v < toWei refund
      · rw [if_pos c, escrowTotal_append, escrowTotal_append, escrowTotal_single, escrowTotal_single]; omega
      · rw [if_neg c, escrowTotal_append, escrowTotal_single]; omega

theorem opUnStakeAll_eq {code : Code} {s s1 : St} {self : Addr} (h : opUnStakeAll code s self = some s1) :
    ∃ r' refund e, stakeSum r' + toWei refund = stakeSum s.reg ∧ escrowTotal e = escrowTotal s.escrow + toWei refund ∧
      s1 = { s with reg := r', escrow := e } := by
  unfold opUnStakeAll at h
  cases hb : byAccount s.reg self with
  | none => rw [hb] at h; cases h
  | some m =>
    rw [hb] at h
    simp only at h
    cases hg : getRefundStake s.reg (hasCodeIn code) m.id self uint64Max with
    | none => rw [hg] at h; cases h
    | some p =>
      rw [hg] at h
      refine ⟨p.1, p.2.1, _, getRefundStake_sum _ _ _ _ _ _ _ _ hg, ?_, (Option.some.inj h).symm⟩
      rw [escrowTotal_append, escrowTotal_single]

theorem flow_unstaked (s : St) (r' : Reg) (e : Escrow) (refund x : Nat)
    (hr : stakeSum r' + refund = stakeSum s.reg) (he : escrowTotal e = escrowTotal s.escrow + refund + x) :
    Flow 0 s { s with reg := r', escrow := e, excess := s.excess + x } :=
  ⟨by simp only [held]; omega, Nat.le_refl _, Nat.le_refl _⟩

theorem flow_opUnStake (code : Code) (origin : Addr) (s : St) (self : Addr) (v : Nat) :
    Flow 0 s (opUnStake code origin s self v) := by
  rcases opUnStake_cases code origin s self v with h | ⟨r', refund, e, hr, he, h⟩ <;> rw [h]
  · exact .refl s
  · exact flow_unstaked s r' e _ _ hr he

theorem flow_opUnStakeAll {code : Code} {s s1 : St} {self : Addr} (h : opUnStakeAll code s self = some s1) :
    Flow 0 s s1 := by
  obtain ⟨r', refund, e, hr, he, rfl⟩ := opUnStakeAll_eq h
  exact flow_unstaked s r' e _ 0 hr he

theorem revertToJ_true (snap after : St) : revertToJ true snap after = revertTo snap after := rfl

-- `exec_flow` takes its `if`s apart with `ite_cases`: `split` on goals of that size is several times dearer to check.
-- Under the projection the motive has to be given.
theorem Flow.ite_fst {out : Nat} {s : St} {c : Prop} [Decidable c] {α : Type} {a b : St × α}
    (ha : c → Flow out s a.1) (hb : ¬c → Flow out s b.1) : Flow out s (if c then a else b).1 :=
  ite_cases (M := fun x : St × α => Flow out s x.1) ha hb

theorem exec_flow (code : Code) (origin : Addr) :
    ∀ (f : Nat) (self : Addr) (ro : Bool) (sc : Script) (s : St), Flow 0 s (exec code origin true f self ro sc s).1 := by
  intro f
  -- the rest of the script runs on less fuel too, so induction on the fuel alone covers it and every child frame
  induction f with
  | zero => intro self ro sc s; simp only [exec]; exact .refl s
  | succ f ih =>
    intro self ro sc s
    -- a child entered at `s0` is kept on success and undone to the snapshot `snap` otherwise
    have child : ∀ (snap s0 : St) (r : St × Bool), Flow 0 s snap → Flow 0 s s0 → Flow 0 s0 r.1 →
        Flow 0 s (if r.2 then r.1 else revertToJ true snap r.1) := by
      intro snap s0 r h1 h2 h3
      cases r.2
      · exact h1.trans (Flow.same rfl)
      · exact h2.trans h3
    cases sc with
    | nil => simp only [exec]; exact .refl s
    | cons a rest =>
      cases a with
      | stop => simp only [exec]; exact .refl s
      | revert => simp only [exec]; exact .refl s
      | invalid => simp only [exec]; exact .refl s
      | suicide ben =>
        simp only [exec]
        exact Flow.ite_fst (fun _ => .refl s) (fun _ => flow_suicide s self ben)
      | call to v =>
        simp only [exec]
        refine Flow.ite_fst (fun _ => .refl s) (fun _ => Flow.trans ?_ (ih _ _ _ _))
        refine ite_cases (fun _ => .refl s) (fun hg => ?_)
        exact child s _ _ (.refl s) (flow_transfer s self to v (canTransfer_of_guard_nat hg)) (ih _ _ _ _)
      | callcode to v =>
        simp only [exec]
        refine Flow.trans ?_ (ih _ _ _ _)
        exact ite_cases (fun _ => .refl s) (fun _ => child s s _ (.refl s) (.refl s) (ih _ _ _ _))
      | delegatecall to =>
        simp only [exec]
        exact (child s s _ (.refl s) (.refl s) (ih _ _ _ _)).trans (ih _ _ _ _)
      | staticcall to =>
        simp only [exec]
        exact (child s _ _ (.refl s) (Flow.same (total_addBal s.bal to 0)) (ih _ _ _ _)).trans (ih _ _ _ _)
      | create v init =>
        simp only [exec]
        refine Flow.ite_fst (fun _ => .refl s) (fun _ => Flow.trans ?_ (ih _ _ _ _))
        refine ite_cases (fun _ => .refl s) (fun hg => ?_)
        have hf : Flow 0 s { s with fresh := s.fresh + 1 } := Flow.same rfl
        exact child _ _ _ hf (hf.trans (flow_transfer _ self _ v (by simpa using hg))) (ih _ _ _ _)
      | authcall to v =>
        simp only [exec]
        refine Flow.ite_fst (fun _ => .refl s) (fun _ => Flow.trans ?_ (ih _ _ _ _))
        refine ite_cases (fun _ => .refl s) (fun hg => ?_)
        exact child s _ _ (.refl s) (flow_transfer s origin to v (canTransfer_of_guard_nat hg)) (ih _ _ _ _)
      | stake v =>
        simp only [exec]
        exact Flow.ite_fst (fun _ => .refl s) (fun _ => (flow_opStake s self v).trans (ih _ _ _ _))
      | unstake v =>
        simp only [exec]
        exact Flow.ite_fst (fun _ => .refl s) (fun _ => (flow_opUnStake code origin s self v).trans (ih _ _ _ _))
      | unstakeAll =>
        simp only [exec]
        refine Flow.ite_fst (fun _ => .refl s) (fun _ => ?_)
        cases hu : opUnStakeAll code s self with
        | none => exact .refl s
        | some s1 => exact (flow_opUnStakeAll hu).trans (ih _ _ _ _)

end Rangers.Ledger
