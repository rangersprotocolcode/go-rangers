import Rangers.Proofs.TrieLiveGet
import Rangers.Proofs.TrieInsert
/- `insert` on live tries refines `insert` on loaded tries. -/
namespace Rangers.Trie
open Rangers

theorem AbsR_mkLeaf {H : Bytes → Bytes} {st : Store} (gen : Nat) (ks : Key) {c : Node} {lc : LNode}
    (h : AbsR H st true c lc) : AbsR H st true (mkLeaf ks c) (mkLeafL gen ks lc) := by
  unfold mkLeaf mkLeafL
  split
  · exact h
  · exact Or.inl (AbsL_short.mpr ⟨lc, _, rfl, h, flagOK_new H st true gen _⟩)

theorem AbsL_branch {H : Bytes → Bytes} {st : Store} (child : Bool) (gen a b : Nat) {c1 c2 : Node} {l1 l2 : LNode}
    (h1 : AbsR H st true c1 l1) (h2 : AbsR H st true c2 l2) :
    AbsL H st child (.full ((emptyFull.set a c1).set b c2)) (.full ((emptyFullL.set a l1).set b l2) (newFlag gen)) :=
  AbsL_full.mpr ⟨_, _, rfl, ((AbsLs_replicate_nil 17).set a h1).set b h2, flagOK_new H st child gen _⟩

theorem insertL_refines (H : Bytes → Bytes) (st : Store) (gen : Nat) (val : Bytes) {t : Node} {key : Key} (w : Walk t key) :
    ∀ child l f, AbsR H st child t l → 2 * key.length + 2 ≤ f →
      ∃ l', insertL st gen f l key (.value val) = some ((insert t key (.value val)).1, l') ∧
        AbsL H st child (insert t key (.value val)).2 l' := by
  refine live_walk gen (P := fun t key child l f =>
    ∃ l', insertL st gen f l key (.value val) = some ((insert t key (.value val)).1, l') ∧
      AbsL H st child (insert t key (.value val)).2 l') ?hash ?nil ?value ?miss ?ext ?slot w
  case hash =>
    intro t key child h l1 f hne hres hl1 ⟨l2, hg, habs2⟩
    obtain ⟨x, r, rfl⟩ := List.exists_cons_of_ne_nil hne
    simp only [insertL, hres, Option.bind_some, hg, Option.map_some]
    cases hd : (insert t (x :: r) (.value val)).1 with
    | false => exact ⟨l1, rfl, by rw [insert_not_dirty _ _ _ hd]; exact hl1⟩
    | true => exact ⟨l2, rfl, habs2⟩
  case nil =>
    intro key child f
    cases key with
    | nil => exact ⟨.value val, by simp [insertL, insert], by simp [insert]; exact AbsL_value.mpr rfl⟩
    | cons x r =>
      refine ⟨.short (x :: r) (.value val) (newFlag gen), by simp [insertL, insert], ?_⟩
      simp only [insert]
      exact AbsL_short.mpr ⟨_, _, rfl, AbsR_value.mpr rfl, flagOK_new H st child gen _⟩
  case value =>
    intro b child f
    exact ⟨.value val, by simp [insertL, insert], by simp [insert]; exact AbsL_value.mpr rfl⟩
  case miss =>
    intro p a kA b kB v child lv fl f hab ha hb _ hv
    -- `insertL` reads the keys by position (`prefixLen`, `getD`, `drop`, `take`), and the key's first element before anything else
    have hm := prefixLen_diverge p kA kB hab
    obtain ⟨hA1, hA2, _⟩ := diverge_index p a kA
    obtain ⟨hB1, hB2, hB3⟩ := diverge_index p b kB
    have hne : p.length ≠ (p ++ a :: kA).length := by simp
    have hlen : ¬ (p ++ b :: kB).length ≤ p.length := by simp
    rw [insert_miss p kA kB v _ hab]
    obtain ⟨x, r, hxr⟩ : ∃ x r, p ++ b :: kB = x :: r := List.exists_cons_of_ne_nil (by simp)
    rw [hxr] at hm hB1 hB2 hB3 hlen ⊢
    simp only [insertL, hm, hne, if_false, hA1, hA2, hB1, hB2, hB3, hlen, Nat.not_le.mpr ha, Nat.not_le.mpr hb, or_self]
    have hbr : ∀ child, AbsL H st child _ _ := fun child => AbsL_branch (H := H) (st := st) child gen a b
      (AbsR_mkLeaf gen kA hv) (AbsR_mkLeaf gen kB (AbsR_value.mpr (rfl : LNode.value val = .value val)))
    unfold mkLeaf
    cases p with
    | nil => exact ⟨_, rfl, hbr child⟩
    | cons y p' => exact ⟨_, rfl, AbsL_short.mpr ⟨_, _, rfl, Or.inl (hbr true), flagOK_new H st child gen _⟩⟩
  case ext =>
    intro kk v r child lv fl f hne hl _ ⟨l2, hg, habs2⟩
    obtain ⟨x, s, rfl⟩ := List.exists_cons_of_ne_nil hne
    have hm : prefixLen (x :: (s ++ r)) (x :: s) = (x :: s).length := prefixLen_append_self (x :: s) r
    have hd : (x :: (s ++ r)).drop (x :: s).length = r := List.drop_left (l₁ := x :: s)
    rw [show (x :: s) ++ r = x :: (s ++ r) from rfl, insert_short_match_eq _ _ _ _ _ hm, hd]
    simp only [insertL, hm, if_true, hd]
    rw [hg]
    generalize insert v r (.value val) = res at habs2 ⊢
    obtain ⟨d, t'⟩ := res
    cases d with
    | false => exact ⟨_, rfl, hl⟩
    | true => exact ⟨_, rfl, AbsL_short.mpr ⟨l2, _, rfl, Or.inl habs2, flagOK_new H st child gen _⟩⟩
  case slot =>
    intro cs i r child lcs fl f hi hl hls _ ⟨l2, hg, habs2⟩
    have hil : i < lcs.length := hls.length_eq ▸ hi
    rw [insert_full_eq cs i r _ hi]
    simp only [insertL, hil, if_true]
    rw [hg]
    generalize insert (cs[i]?.getD .nil) r (.value val) = res at habs2 ⊢
    obtain ⟨d, t'⟩ := res
    cases d with
    | false => exact ⟨_, rfl, hl⟩
    | true =>
      exact ⟨_, rfl, AbsL_full.mpr ⟨lcs.set i l2, _, rfl, hls.set i (Or.inl habs2), flagOK_new H st child gen _⟩⟩

end Rangers.Trie
