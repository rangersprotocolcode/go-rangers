import Rangers.Model.Wire
/-! Fuel sufficiency for the two fuelled loops of `Model/Wire.lean`: the fuel the callers supply
(`length + 1`) is never exhausted, so the `fuel = 0 ⇒ none` branches are unreachable. Core Lean only. -/
namespace Rangers.Wire
open Rangers

theorem fuel_irrelevant {α β : Type} (size : α → Nat) (loop : Nat → α → β)
    (hround : ∀ f1 f2 a, (∀ a', size a' < size a → loop f1 a' = loop f2 a') → loop (f1 + 1) a = loop (f2 + 1) a) :
    ∀ f1 f2 a, size a < f1 → size a < f2 → loop f1 a = loop f2 a
  | 0, _, _, h, _ => nomatch h
  | _ + 1, 0, _, _, h => nomatch h
  | f1 + 1, f2 + 1, a, h1, h2 =>
    hround f1 f2 a fun a' h' => fuel_irrelevant size loop hround f1 f2 a'
      (Nat.lt_of_lt_of_le h' (Nat.le_of_lt_succ h1)) (Nat.lt_of_lt_of_le h' (Nat.le_of_lt_succ h2))

theorem readVarint_shrinks (f : Nat) (bs : Bytes) (v : Nat) (r : Bytes) (h : readVarint f bs = some (v, r)) :
    r.length < bs.length := by
  revert h
  fun_induction readVarint f bs generalizing v r <;> intro h <;> cases h
  · exact Nat.lt_succ_self _
  next hr ih => exact Nat.lt_succ_of_lt (ih _ _ hr)

theorem getVarint_shrinks (bs : Bytes) (v : Nat) (r : Bytes) (h : getVarint bs = some (v, r)) :
    r.length < bs.length := readVarint_shrinks 10 bs v r h

/-- Skipping the payload of a scalar field (wire types 0, 1, 2, 5), the way `findEnd` and `rawStep` do. -/
def skipScalar (w : Nat) (r : Bytes) : Option Bytes :=
  match w with
  | 0 => match getVarint r with
    | none => none
    | some (_, r2) => some r2
  | 1 => if r.length < 8 then none else some (r.drop 8)
  | 2 => match getVarint r with
    | none => none
    | some (m, r2) => if r2.length < m then none else some (r2.drop m)
  | 5 => if r.length < 4 then none else some (r.drop 4)
  | _ => none

theorem skipScalar_shrinks (w : Nat) (r r2 : Bytes) (h : skipScalar w r = some r2) : r2.length ≤ r.length := by
  revert h
  fun_cases skipScalar w r <;> intro h <;> cases h
  · exact Nat.le_of_lt (getVarint_shrinks _ _ _ ‹_›)
  · exact List.length_drop ▸ Nat.sub_le _ _
  · have := getVarint_shrinks _ _ _ ‹getVarint r = _›
    simp only [List.length_drop]; omega
  · exact List.length_drop ▸ Nat.sub_le _ _

theorem findEnd_succ (f d : Nat) (bs : Bytes) :
    findEnd (f + 1) d bs =
      match getVarint bs with
      | none => none
      | some (x, r) =>
        if x % 8 = 3 then findEnd f (d + 1) r
        else if x % 8 = 4 then (if d ≤ 1 then some r else findEnd f (d - 1) r)
        else match skipScalar (x % 8) r with
          | none => none
          | some r2 => findEnd f d r2 := by
  rw [findEnd]
  cases getVarint bs with
  | none => rfl
  | some p =>
    obtain ⟨x, r⟩ := p
    simp only []
    generalize x % 8 = w
    by_cases h3 : w = 3
    · subst h3; rfl
    by_cases h4 : w = 4
    · subst h4; rfl
    fun_cases skipScalar w r <;> simp [*]

theorem findEnd_shrinks : ∀ (f d : Nat) (bs r : Bytes), findEnd f d bs = some r → r.length < bs.length := by
  intro f
  induction f with
  | zero => intro d bs r h; cases h
  | succ f ih =>
    intro d bs r h
    rw [findEnd_succ] at h
    cases hg : getVarint bs with
    | none => rw [hg] at h; cases h
    | some p =>
      obtain ⟨x, r1⟩ := p
      have l1 := getVarint_shrinks bs x r1 hg
      simp only [hg] at h
      split at h
      · exact Nat.lt_trans (ih _ _ _ h) l1
      · split at h
        · split at h
          · cases h; exact l1
          · exact Nat.lt_trans (ih _ _ _ h) l1
        · cases hs : skipScalar (x % 8) r1 with
          | none => rw [hs] at h; cases h
          | some r2 =>
            simp only [hs] at h
            exact Nat.lt_of_lt_of_le (ih _ _ _ h) (Nat.le_trans (skipScalar_shrinks _ _ _ hs) (Nat.le_of_lt l1))

theorem findEnd_fuel (f1 f2 d : Nat) (bs : Bytes) (h1 : bs.length < f1) (h2 : bs.length < f2) :
    findEnd f1 d bs = findEnd f2 d bs := by
  refine fuel_irrelevant (fun p : Nat × Bytes => p.2.length) (fun f p => findEnd f p.1 p.2) ?_ f1 f2 (d, bs) h1 h2
  intro f1 f2 ⟨d, bs⟩ ih
  simp only [findEnd_succ]
  cases hg : getVarint bs with
  | none => rfl
  | some p =>
    obtain ⟨x, r1⟩ := p
    have l1 := getVarint_shrinks bs x r1 hg
    have step : ∀ d' (r : Bytes), r.length ≤ r1.length → findEnd f1 d' r = findEnd f2 d' r :=
      fun d' r hr => ih (d', r) (Nat.lt_of_le_of_lt hr l1)
    simp only [step _ r1 (Nat.le_refl _)]
    cases hs : skipScalar (x % 8) r1 with
    | none => rfl
    | some r2 => simp only [step _ r2 (skipScalar_shrinks _ _ _ hs)]

theorem rawStep_shrinks (bs : Bytes) (r : Raw) (rest : Bytes) (h : rawStep bs = some (r, rest)) :
    rest.length < bs.length := by
  revert h
  -- the failing branches of `rawStep` go by `cases h`; five succeed: varint, fixed64, bytes, group, fixed32
  fun_cases rawStep bs <;> intro h <;> cases h <;> have l1 := getVarint_shrinks _ _ _ ‹getVarint bs = _›
  · exact Nat.lt_trans (getVarint_shrinks _ _ _ ‹getVarint _ = some (_, rest)›) l1
  · simp only [List.length_drop]; omega
  · have := getVarint_shrinks _ _ _ ‹getVarint _ = some (_, _)›
    simp only [List.length_drop]; omega
  · exact Nat.lt_trans (findEnd_shrinks _ _ _ _ ‹_›) l1
  · simp only [List.length_drop]; omega

theorem rawFields_fuel (f1 f2 : Nat) (bs : Bytes) (h1 : bs.length < f1) (h2 : bs.length < f2) :
    rawFields f1 bs = rawFields f2 bs := by
  refine fuel_irrelevant List.length rawFields ?_ f1 f2 bs h1 h2
  intro f1 f2 bs ih
  cases bs with
  | nil => rfl
  | cons b bs =>
    rw [rawFields, rawFields]
    cases hs : rawStep (b :: bs) with
    | none => rfl
    | some p => simp only [ih p.2 (rawStep_shrinks _ p.1 p.2 hs)]

theorem parseRaw_fuel_sufficient (bs : Bytes) (f : Nat) (h : bs.length < f) : rawFields f bs = parseRaw bs :=
  rawFields_fuel f (bs.length + 1) bs h (by omega)

end Rangers.Wire
