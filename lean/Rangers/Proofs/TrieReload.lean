import Rangers.Proofs.TrieLiveGet
import Rangers.Proofs.TrieCanon
/-
Reloading a committed trie.  The model has it twice: `expandFull` resolves every hash node of a live
trie (`expandNode` turns a stored collapsed node into a live node), `expand` goes through the store on
collapsed nodes alone (`reload`).  That a minimal-form trie comes back is proved for the live form
(`expandFull_abs`); `expand_of_expandFull` carries it over to `expand`, whence `expand_commitStore` and `reload_eq`.
-/
namespace Rangers.Trie
open Rangers

theorem mapM_of_AbsLs {H : Bytes → Bytes} {st : Store} {g : LNode → Option Node} :
    ∀ {cs : List Node} {lcs : List LNode}, AbsLs H st cs lcs →
      (∀ c ∈ cs, ∀ l, AbsR H st true c l → g l = some c) → lcs.mapM g = some cs := by
  intro cs
  induction cs with
  | nil => intro lcs h _; cases lcs <;> simp_all [AbsLs]
  | cons c cs ih =>
    intro lcs h hg
    cases lcs with
    | nil => simp [AbsLs] at h
    | cons l ls =>
      obtain ⟨h0, hrest⟩ := AbsLs_cons.mp h
      rw [List.mapM_cons, hg c (by simp) l h0, ih hrest (fun c' hc' => hg c' (by simp [hc']))]
      rfl

theorem expandFull_of_loaded {H : Bytes → Bytes} {st : Store} {child : Bool} {t : Node} {n : Nat}
    (hQ : ∀ l f, AbsL H st child t l → n + 1 ≤ f → expandFull st f l = some t)
    {l : LNode} {f : Nat} (habs : AbsR H st child t l) (hf : n + 2 ≤ f) : expandFull st f l = some t := by
  rcases habs with hl | hh
  · exact hQ l f hl (by omega)
  · obtain ⟨l1, hres, hl1⟩ := resolve_hashOf hh 0
    obtain ⟨f', rfl, hf'⟩ := fuel_succ hf
    rw [hh.1]
    simp only [expandFull, hres, Option.bind_some]
    exact hQ l1 f' hl1 hf'

theorem expandFull_abs (H : Bytes → Bytes) (st : Store) (t : Node) :
    Visitable t → ∀ child l f, AbsR H st child t l → 2 * height t + 2 ≤ f → expandFull st f l = some t := by
  induction t using Node.induct with
  | hnil =>
    intro _ child l f habs hf
    obtain ⟨f', rfl, -⟩ := fuel_succ hf
    rw [AbsR_nil.mp habs]
    rfl
  | hval b =>
    intro _ child l f habs hf
    obtain ⟨f', rfl, -⟩ := fuel_succ hf
    rw [AbsR_value.mp habs]
    rfl
  | hshort kk v ih =>
    intro hvis child l f habs hf
    have hwf : WF (.short kk v) := (hvis.resolve_left (by simp)).resolve_left (by simp)
    refine expandFull_of_loaded (fun l f hl hf => ?_) habs hf
    obtain ⟨lv, fl, rfl, hv, _⟩ := AbsL_short.mp hl
    obtain ⟨f', rfl, hf'⟩ := fuel_succ hf
    simp only [height] at hf'
    simp [expandFull, ih (Visitable.of_short hwf) true lv f' hv (by omega)]
  | hfull cs ih =>
    intro hvis child l f habs hf
    have hwf : WF (.full cs) := (hvis.resolve_left (by simp)).resolve_left (by simp)
    refine expandFull_of_loaded (fun l f hl hf => ?_) habs hf
    obtain ⟨lcs, fl, rfl, hls, _⟩ := AbsL_full.mp hl
    obtain ⟨f', rfl, hf'⟩ := fuel_succ hf
    simp only [height] at hf'
    have : lcs.mapM (expandFull st f') = some cs :=
      mapM_of_AbsLs hls (fun c hc l habs =>
        ih c hc (WF_full_mem hwf hc) true l _ habs (by have := height_le_heightL cs c hc; omega))
    simp [expandFull, this]

/-- `ih` is `expand_of_expandFull` at the fuel below -/
theorem mapM_expand_of_expandFull {st : Store} {f gen : Nat}
    (ih : ∀ c hh t, (expandNode gen hh c).bind (expandFull st f) = some t → expand st f c = some t) :
    ∀ (cs : List CNode) (ls : List LNode) (ts : List Node), expandNodeL gen cs = some ls →
      ls.mapM (expandFull st f) = some ts → cs.mapM (expand st f) = some ts := by
  intro cs
  induction cs with
  | nil => intro ls ts h1 h2; simp [expandNodeL] at h1; subst h1; simpa using h2
  | cons c cs ihl =>
    intro ls ts h1 h2
    simp only [expandNodeL] at h1
    cases hc : expandNode gen none c with
    | none => simp [hc] at h1
    | some l =>
      cases hcs : expandNodeL gen cs with
      | none => simp [hc, hcs] at h1
      | some ls' =>
        simp only [hc, hcs, Option.bind_some, Option.map_some, Option.some.injEq] at h1
        subst h1
        rw [List.mapM_cons] at h2 ⊢
        cases hl : expandFull st f l with
        | none => simp [hl] at h2
        | some t =>
          cases hls : ls'.mapM (expandFull st f) with
          | none => simp [hl, hls] at h2
          | some ts' =>
            simp only [hl, hls, bind, Option.bind_some, pure, Option.some.injEq] at h2
            rw [ih c none t (by rw [hc]; exact hl), ihl ls' ts' hcs hls, ← h2]
            rfl

theorem expand_of_expandFull (st : Store) : ∀ (f : Nat) (c : CNode) (gen : Nat) (hh : Option Bytes) (t : Node),
    (expandNode gen hh c).bind (expandFull st f) = some t → expand st f c = some t := by
  intro f
  induction f with
  | zero => intro c gen hh t h; cases hn : expandNode gen hh c <;> simp [hn, expandFull] at h
  | succ f ih =>
    intro c gen hh t h
    cases c with
    | empty => simpa [expandNode, expandFull, expand] using h
    | hashRef hsh =>
      simp only [expandNode, Option.bind_some, expandFull, resolveHash] at h
      simp only [expand]
      cases hl : st.lookup hsh with
      | none => simp [hl] at h
      | some c2 => rw [hl] at h; exact ih c2 0 (some hsh) t h
    | leaf ck v =>
      simp only [expandNode, expand] at h ⊢
      cases hk : compactToHex ck with
      | none => simp [hk] at h
      | some k =>
        cases f with
        | zero => simp [hk, expandFull] at h
        | succ f' => simpa [hk, expandFull] using h
    | ext ck c' =>
      simp only [expandNode, expand] at h ⊢
      cases hk : compactToHex ck with
      | none => simp [hk] at h
      | some k =>
        cases hc : expandNode gen none c' with
        | none => simp [hk, hc] at h
        | some l' =>
          simp only [hk, hc, Option.bind_some, Option.map_some, expandFull] at h
          cases hl : expandFull st f l' with
          | none => simp [hl] at h
          | some t' =>
            rw [hl] at h
            simp only [Option.bind_some, ih c' gen none t' (by rw [hc]; exact hl)]
            exact h
    | branch cs v =>
      simp only [expandNode, expand] at h ⊢
      cases hcs : expandNodeL gen cs with
      | none => simp [hcs] at h
      | some ls =>
        simp only [hcs, Option.map_some, Option.bind_some, expandFull, List.mapM_append] at h
        cases hls : ls.mapM (expandFull st f) with
        | none => simp [hls] at h
        | some ts =>
          rw [mapM_expand_of_expandFull (fun c hh t => ih c gen hh t) cs ls ts hcs hls]
          cases f with
          | zero => cases v <;> simp [expandFull] at h
          | succ f' =>
            by_cases hv : v.isEmpty <;> simpa [hls, hv, expandFull] using h

theorem expand_commitStore (H : Bytes → Bytes) (t : Node) (ht : WF t) (hfun : Functional (commitStore H t)) :
    expand (commitStore H t) (2 * height t + 2) (.hashRef (H (enc H t))) = some t := by
  have hst : Stored H (commitStore H t) t := fun e he =>
    lookup_functional hfun (storeOf_false_subset_true H t ht e he)
  have hroot := lookup_functional hfun (self_mem_storeOf H true t ht (Or.inl rfl))
  refine expand_of_expandFull _ _ _ 0 none t ?_
  exact expandFull_abs H _ t (Or.inr (Or.inr ht)) false _ _ (Or.inr ⟨rfl, ht, fun h => absurd h Bool.false_ne_true, hst, hroot⟩)
    (Nat.le_refl _)

theorem reload_eq (H : Bytes → Bytes) (t : Node) (ht : WFRoot t) (hfun : Functional (commitStore H t)) :
    reload H t = some t := by
  rcases ht with rfl | ht
  · rfl
  · rw [← expand_commitStore H t ht hfun]
    cases t with
    | nil => exact absurd ht not_WF_nil
    | _ => rfl

end Rangers.Trie
