import Rangers.Model.Evm10Ops
import Rangers.Proofs.BitLen
/-!
C10: the transcribed uint256 methods equal the corresponding `BitVec` operations (the three shift
wrappers included, for every shift count) or, where `BitVec` has none, `Nat` expressions.  The
property theorems in `Props/C10.lean` are stated against an independent Yellow-Paper formulation
and use these.  At the end: the uint64 guard of `validJumpdest`, used by `Props/C10B`, `C10G`.
-/
namespace Rangers.Proofs.Evm10
open Rangers Rangers.Model.Evm10 Rangers.Model.Evm10.U256

theorem isZero_iff (x : Word) : isZero x = true ↔ x = 0#256 := by
  simp [isZero]

theorem isZero_iff_toNat (x : Word) : isZero x = true ↔ x.toNat = 0 := by
  rw [isZero_iff]
  constructor
  · intro h; simp [h]
  · intro h; exact BitVec.eq_of_toNat_eq (by simpa using h)

theorem isZero_eq_false {x : Word} (h : x.toNat ≠ 0) : isZero x = false := by
  cases hz : isZero x
  · rfl
  · exact absurd ((isZero_iff_toNat x).1 hz) h

theorem neg_eq (x : Word) : neg x = -x := by
  simp [neg, sub]

theorem sign_eq (x : Word) :
    sign x = if x = 0#256 then 0 else if x.msb then -1 else 1 := by
  unfold sign
  by_cases h : x = 0#256 <;> simp [h, isZero]

-- the three tests the uint256 methods make on `Sign()`, read on the word
theorem sign_pos_iff (x : Word) : sign x > 0 ↔ (x ≠ 0#256 ∧ x.msb = false) := by
  rw [sign_eq]
  by_cases h : x = 0#256
  · simp [h]
  · cases hm : x.msb <;> simp [h]

theorem sign_neg_iff (x : Word) : sign x < 0 ↔ x.msb = true := by
  rw [sign_eq]
  by_cases h : x = 0#256
  · simp [h]
  · cases hm : x.msb <;> simp [h]

theorem sign_eq_neg_one_iff (x : Word) : sign x = -1 ↔ x.msb = true := by
  rw [sign_eq]
  by_cases h : x = 0#256
  · simp [h]
  · cases hm : x.msb <;> simp [h]

theorem div_eq (x y : Word) : div x y = x / y := by
  unfold div
  by_cases h : isZero y = true
  · rw [isZero_iff] at h; subst h; simp
  · simp [h]

theorem mod_eq (x y : Word) : mod x y = if y = 0#256 then 0#256 else x % y := by
  unfold mod
  by_cases h : isZero y = true
  · have := (isZero_iff y).1 h; simp [this, isZero]
  · have : y ≠ 0#256 := fun e => h ((isZero_iff y).2 e)
    simp [h, this]

theorem sdiv_eq (n d : Word) : sdiv n d = BitVec.sdiv n d := by
  unfold sdiv
  rw [BitVec.sdiv_eq]
  simp only [div_eq, neg_eq, sign_pos_iff, sign_neg_iff]
  by_cases hn0 : n = 0#256
  · subst hn0; cases hd : d.msb <;> simp
  · by_cases hd0 : d = 0#256
    · subst hd0; cases hn : n.msb <;> simp [hn0]
    · cases hn : n.msb <;> cases hd : d.msb <;> simp [hn0, hd0]

theorem smod_eq (x y : Word) : smod x y = if y = 0#256 then 0#256 else BitVec.srem x y := by
  unfold smod
  simp only [sign_eq_neg_one_iff, neg_eq, mod_eq]
  rw [BitVec.srem_eq]
  by_cases hy0 : y = 0#256
  · subst hy0
    cases hx : x.msb <;> simp
  · have hny : -y ≠ 0#256 := by
      intro h; apply hy0; have := congrArg (fun z => -z) h; simpa using this
    cases hx : x.msb <;> cases hy : y.msb <;> simp [hy0, hny]

theorem expLoop_spec (n : Nat) : ∀ (res m : Word) (w : Nat), w < 2 ^ n →
    (expLoop n res m w).toNat = (res.toNat * m.toNat ^ w) % W := by
  induction n with
  | zero =>
    intro res m w hw
    have : w = 0 := by simpa using hw
    subst this
    simp [expLoop, W, Nat.mod_eq_of_lt res.isLt]
  | succ n ih =>
    intro res m w hw
    unfold expLoop
    have hw2 : w / 2 < 2 ^ n := by
      rw [Nat.pow_succ] at hw; omega
    rw [ih _ _ _ hw2]
    have hdec : w = 2 * (w / 2) + w % 2 := by omega
    have hsq : (mul m m).toNat = (m.toNat * m.toNat) % W := by simp [mul, BitVec.toNat_mul, W]
    rcases Nat.mod_two_eq_zero_or_one w with h0 | h1
    · have hne : ¬ (w % 2 = 1) := by omega
      simp only [hne, if_false]
      rw [hsq]
      conv => rhs; rw [hdec, h0, Nat.add_zero, Nat.pow_mul]
      rw [Nat.pow_two]
      rw [Nat.mul_mod, Nat.pow_mod, Nat.mod_mod, ← Nat.pow_mod, ← Nat.mul_mod]
    · simp only [h1, if_true]
      rw [hsq]
      have hm : (mul res m).toNat = (res.toNat * m.toNat) % W := by simp [mul, BitVec.toNat_mul, W]
      rw [hm]
      conv => rhs; rw [hdec, h1, Nat.pow_succ, Nat.pow_mul, Nat.pow_two]
      rw [Nat.mul_mod, Nat.mod_mod, Nat.pow_mod, Nat.mod_mod, ← Nat.pow_mod, ← Nat.mul_mod]
      congr 1
      rw [Nat.mul_assoc, Nat.mul_comm (m.toNat) _]

theorem lt_two_pow_bitLen (e : Word) : e.toNat < 2 ^ bitLen e := BitLen.le_iff.1 (Nat.le_refl _)

theorem exp_toNat (b e : Word) : (exp b e).toNat = b.toNat ^ e.toNat % W := by
  unfold exp
  rw [expLoop_spec _ _ _ _ (lt_two_pow_bitLen e)]
  simp

theorem W_pos : 0 < W := by unfold W; exact Nat.two_pow_pos 256

theorem mod_toNat (x y : Word) (hy : y.toNat ≠ 0) : (mod x y).toNat = x.toNat % y.toNat := by
  rw [mod_eq]
  have : y ≠ 0#256 := by intro h; apply hy; simp [h]
  simp [this]

theorem ofNat_toNat (n : Nat) : (ofNat n).toNat = n % W := by simp [ofNat, W]

theorem addmod_toNat (x y m : Word) (hm : m.toNat ≠ 0) :
    (addmod x y m).toNat = (x.toNat + y.toNat) % m.toNat := by
  unfold addmod
  simp only [isZero_eq_false hm, Bool.false_eq_true, if_false]
  have hmlt : m.toNat < W := m.isLt
  by_cases hs : x.toNat + y.toNat ≥ W
  · simp only [hs, if_true]
    rw [ofNat_toNat]
    apply Nat.mod_eq_of_lt
    exact Nat.lt_trans (Nat.mod_lt _ (Nat.pos_of_ne_zero hm)) hmlt
  · simp only [hs, if_false]
    rw [mod_toNat _ _ hm]
    have : (add x y).toNat = x.toNat + y.toNat := by
      simp only [add, BitVec.toNat_add]
      apply Nat.mod_eq_of_lt
      simp only [W] at hs; omega
    rw [this]

theorem mulmod_toNat (x y m : Word) :
    (mulmod x y m).toNat = if m.toNat = 0 then 0 else (x.toNat * y.toNat) % m.toNat := by
  unfold mulmod
  by_cases hm : m.toNat = 0
  · simp [(isZero_iff_toNat m).2 hm, hm]
  · simp only [hm, if_false]
    by_cases hx : x.toNat = 0
    · simp [(isZero_iff_toNat x).2 hx, hx]
    · by_cases hy : y.toNat = 0
      · simp [(isZero_iff_toNat y).2 hy, hy]
      · simp only [isZero_eq_false hx, isZero_eq_false hy, isZero_eq_false hm, Bool.or_self,
          Bool.false_eq_true, if_false]
        have hmlt : m.toNat < W := m.isLt
        by_cases hp : x.toNat * y.toNat / W = 0
        · simp only [hp, if_true]
          rw [mod_toNat _ _ hm, ofNat_toNat]
          have : x.toNat * y.toNat < W := by
            rcases Nat.div_eq_zero_iff.1 hp with h | h
            · exact absurd h (Nat.ne_of_gt W_pos)
            · exact h
          rw [Nat.mod_eq_of_lt this]
        · simp only [hp, if_false]
          rw [ofNat_toNat]
          apply Nat.mod_eq_of_lt
          exact Nat.lt_trans (Nat.mod_lt _ (Nat.pos_of_ne_zero hm)) hmlt

theorem msb_iff (w : Word) : w.msb = true ↔ 2 ^ 255 ≤ w.toNat := by
  rw [BitVec.msb_eq_decide]; simp

theorem slt_eq (z x : Word) : slt z x = decide (z.toInt < x.toInt) := by
  have : decide (z.toInt < x.toInt) = BitVec.slt z x := rfl
  rw [this, BitVec.slt_eq_ult]
  unfold slt lt
  simp only [ge_iff_le, ← Int.not_lt, sign_neg_iff]
  have hz := msb_iff z
  have hx := msb_iff x
  cases hzm : z.msb <;> cases hxm : x.msb
  · simp [BitVec.ult]
  · -- `z < 2^255 ≤ x`
    simp [BitVec.ult]
    simp [hzm, hxm] at hz hx
    omega
  · -- `x < 2^255 ≤ z`
    simp [BitVec.ult]
    simp [hzm, hxm] at hz hx
    omega
  · simp [BitVec.ult]

theorem sgt_eq_slt (z x : Word) : sgt z x = slt x z := by
  unfold sgt slt gt
  simp only [ge_iff_le, ← Int.not_lt, sign_neg_iff]
  cases z.msb <;> cases x.msb <;> simp

theorem sgt_eq (z x : Word) : sgt z x = decide (x.toInt < z.toInt) := by
  rw [sgt_eq_slt, slt_eq]

theorem two64_lt_W : (2:Nat) ^ 64 < W := by unfold W; exact Nat.pow_lt_pow_right (by omega) (by omega)

theorem lo64_lt (x : Word) : lo64 x < 2 ^ 64 := Nat.mod_lt _ (by omega)

theorem lo64_of_lt {x : Word} (h : x.toNat < 2 ^ 64) : lo64 x = x.toNat := Nat.mod_eq_of_lt h

theorem lo64_of_isUint64 (x : Word) (h : isUint64 x = true) : lo64 x = x.toNat :=
  lo64_of_lt (of_decide_eq_true h)

theorem ltUint64_eq (x : Word) (n : Nat) (hn : n ≤ 2 ^ 64) : ltUint64 x n = decide (x.toNat < n) := by
  rw [Bool.eq_iff_iff]
  unfold ltUint64 isUint64 lo64
  simp only [Bool.and_eq_true, decide_eq_true_eq]
  omega

theorem gtUint64_eq (x : Word) (n : Nat) (hn : n < 2 ^ 64) : gtUint64 x n = decide (x.toNat > n) := by
  rw [Bool.eq_iff_iff]
  unfold gtUint64 isUint64 lo64
  simp only [Bool.or_eq_true, decide_eq_true_eq, Bool.not_eq_true', decide_eq_false_iff_not]
  omega

theorem byte_toNat (z n : Word) :
    (byte z n).toNat = if n.toNat < 32 then (z.toNat / 2 ^ (8 * (31 - n.toNat))) % 256 else 0 := by
  unfold byte uint64WithOverflow
  by_cases hn : n.toNat < 32
  · have hu : isUint64 n = true := by
      simp only [isUint64, decide_eq_true_eq]; omega
    have hl : lo64 n = n.toNat := lo64_of_isUint64 n hu
    simp only [hu, hl, hn, Bool.not_true, Bool.not_false, Bool.true_and, decide_true, if_true]
    simp only [U256.and, rsh, BitVec.toNat_and, BitVec.toNat_ushiftRight, Nat.shiftRight_eq_div_pow]
    have : (0xff#256 : BitVec 256).toNat = 2 ^ 8 - 1 := by decide
    rw [this, Nat.and_two_pow_sub_one_eq_mod]
  · simp only [hn, if_false]
    by_cases hu : isUint64 n = true
    · have hl : lo64 n = n.toNat := lo64_of_isUint64 n hu
      simp [hu, hl, hn]
    · simp [hu]

/-- EIP-145 asks for 0 from a shift count of 256 or more; `BitVec`'s shifts give that by themselves,
so the wrapper is the `BitVec` shift for every count -/
theorem opSHL_eq (s v : Word) : opSHL s v = v <<< s.toNat := by
  rw [opSHL, ltUint64_eq s 256 (by omega)]
  by_cases h : s.toNat < 256
  · rw [decide_eq_true h, if_pos rfl, lsh, lo64_of_lt (by omega)]
  · rw [decide_eq_false h, if_neg (by decide), BitVec.shiftLeft_eq_zero (by omega)]

theorem opSHR_eq (s v : Word) : opSHR s v = v >>> s.toNat := by
  rw [opSHR, ltUint64_eq s 256 (by omega)]
  by_cases h : s.toNat < 256
  · rw [decide_eq_true h, if_pos rfl, rsh, lo64_of_lt (by omega)]
  · rw [decide_eq_false h, if_neg (by decide), BitVec.ushiftRight_eq_zero (by omega)]

theorem srsh_eq (x : Word) (n : Nat) : srsh x n = BitVec.sshiftRight x n := by
  unfold srsh rsh
  cases h : x.msb
  · simp [BitVec.sshiftRight_eq_of_msb_false h]
  · simp

theorem sshiftRight_ge (v : Word) {n : Nat} (h : 256 ≤ n) :
    v.sshiftRight n = if v.msb then allOnes else 0#256 := by
  cases hm : v.msb
  · rw [BitVec.sshiftRight_eq_of_msb_false hm, BitVec.ushiftRight_eq_zero h]; rfl
  · rw [BitVec.sshiftRight_eq_of_msb_true hm, BitVec.ushiftRight_eq_zero h]; rfl

theorem opSAR_eq (s v : Word) : opSAR s v = v.sshiftRight s.toNat := by
  rw [opSAR, gtUint64_eq s 256 (by omega)]
  by_cases h : s.toNat > 256
  · rw [decide_eq_true h, if_pos rfl, sshiftRight_ge v (Nat.le_of_lt h)]
    simp only [ge_iff_le, ← Int.not_lt, sign_neg_iff]
    cases v.msb <;> rfl
  · rw [decide_eq_false h, if_neg (by decide), srsh_eq, lo64_of_lt (by omega)]

theorem mask_toNat (bit : Nat) (hb : bit < 256) :
    (sub (lsh 1#256 bit) 1#256).toNat = 2 ^ bit - 1 := by
  have h1 : (lsh 1#256 bit).toNat = 2 ^ bit := by
    simp only [lsh, BitVec.toNat_shiftLeft, Nat.shiftLeft_eq]
    have : (1#256 : BitVec 256).toNat = 1 := by decide
    rw [this, Nat.one_mul]
    exact Nat.mod_eq_of_lt (Nat.pow_lt_pow_right (by omega) hb)
  have hp : 0 < 2 ^ bit := Nat.two_pow_pos bit
  have hlt : 2 ^ bit < 2 ^ 256 := Nat.pow_lt_pow_right (by omega) hb
  simp only [sub, BitVec.toNat_sub, h1]
  have : (1#256 : BitVec 256).toNat = 1 := by decide
  rw [this]
  have e : 2 ^ 256 - 1 + 2 ^ bit = (2 ^ bit - 1) + 2 ^ 256 := by omega
  rw [e, Nat.add_mod_right]
  exact Nat.mod_eq_of_lt (by omega)

theorem mask_getLsbD (bit i : Nat) (hb : bit < 256) :
    (sub (lsh 1#256 bit) 1#256).getLsbD i = decide (i < bit) := by
  rw [BitVec.getLsbD, mask_toNat bit hb, Nat.testBit_two_pow_sub_one]

theorem extendSign_getLsbD (x b : Word) (i : Nat) (hi : i < 256) :
    (extendSign x b).getLsbD i =
      if b.toNat < 31 then
        (if i ≤ 8 * b.toNat + 7 then x.getLsbD i else x.getLsbD (8 * b.toNat + 7))
      else x.getLsbD i := by
  rw [extendSign, gtUint64_eq b 31 (by omega)]
  by_cases hgt : b.toNat > 31
  · have : ¬ b.toNat < 31 := by omega
    simp [hgt, this]
  · have hbit : 8 * b.toNat + 7 < 256 := by omega
    simp only [hgt, decide_false, Bool.false_eq_true, if_false,
      lo64_of_lt (show b.toNat < 2 ^ 64 by omega)]
    rw [Nat.mul_comm b.toNat 8]
    generalize hbt : 8 * b.toNat + 7 = bit at *
    -- both sides are: bit `i` below the sign bit, the sign bit from there on
    have hrhs : (if b.toNat < 31 then (if i ≤ bit then x.getLsbD i else x.getLsbD bit)
        else x.getLsbD i) = if i < bit then x.getLsbD i else x.getLsbD bit := by
      by_cases hlt : i < bit
      · simp [hlt, Nat.le_of_lt hlt]
      · by_cases heq : i = bit
        · subst heq; simp
        · have h1 : b.toNat < 31 := by omega
          have h2 : ¬ i ≤ bit := by omega
          simp [hlt, h1, h2]
    rw [hrhs]
    cases hx : x.getLsbD bit <;>
      simp only [Bool.false_eq_true, if_false, if_true, U256.and, U256.or, U256.not,
        BitVec.getLsbD_and, BitVec.getLsbD_or, BitVec.getLsbD_not, hi, decide_true, Bool.true_and,
        mask_getLsbD bit i hbit] <;>
      by_cases hlt : i < bit <;> simp [hlt]

/-- the shape `validJumpdest` has with and without the analysis caches; `b` is the part that differs -/
theorem jumpdest_guard_iff (code : Bytes) (dest : Word) (b : Nat → Bool) (hl : code.length < 2 ^ 64) :
    (if (!isUint64 dest || decide (lo64 dest ≥ code.length)) = true then false
     else if (code.getD (lo64 dest) 0 != 0x5b) = true then false else b (lo64 dest)) = true ↔
      dest.toNat < code.length ∧ code.getD dest.toNat 0 = 0x5b ∧ b dest.toNat = true := by
  by_cases hu : isUint64 dest = true
  · rw [lo64_of_isUint64 dest hu]
    by_cases hlt : dest.toNat < code.length
    · simp [hu, hlt]
    · simp [hlt]
  · have hge : ¬ dest.toNat < 2 ^ 64 := by simpa [isUint64] using hu
    have : ¬ dest.toNat < code.length := by omega
    simp [hu, this]

theorem validJumpdest_isUint64 {f : Frame} {dest : Word} (hv : validJumpdest f dest = true) :
    isUint64 dest = true := by
  cases hu : isUint64 dest
  · simp [validJumpdest, uint64WithOverflow, hu] at hv
  · rfl

end Rangers.Proofs.Evm10
