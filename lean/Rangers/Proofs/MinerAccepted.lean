import Rangers.Proofs.MinerBasic
import Rangers.Proofs.IteCases
/-! C20: what it means that `Execute` accepted a transaction — the checks it passed and the state it returned — and
    that every other outcome returns the state it was given. -/
namespace Rangers.Miner

/-- `Accepted cfg st tx st'`: `tx` passes every check of its executor in `st`, which returns `st'`. -/
inductive Accepted (cfg : Cfg) (st : State) : Tx → State → Prop
  | apply {src id : Bytes} {typ stake : Nat} {acct pk vrf : Bytes} {ms : Nat} :
      typ ≤ 255 → stake ≤ maxU64 → isEmptySlice id = false → minStake typ = some ms → ms ≤ stake →
      ¬ (isEmptySlice vrf ∨ isEmptySlice pk) → stakeWei stake ≤ st.balOf (toAddr src) →
      getMinerById cfg st .prop id = none → getMinerById cfg st .val id = none →
      byAccount cfg st (if isEmptySlice acct then src else acct) = none →
      Accepted cfg st (.apply src id typ stake acct pk vrf)
        (addMinerApply cfg st (toAddr src)
          { id := id, pk := pk, vrf := vrf, applyHeight := st.height + heightAfterStake, typ := typ } stake
          (if isEmptySlice acct then src else acct))
  | addZero {src id : Bytes} : Accepted cfg st (.add src id 0) st
  | add {src id : Bytes} {delta : Nat} {m : Miner} :
      delta ≠ 0 → delta ≤ maxU64 → getMiner cfg st id = some m → stakeWei delta ≤ st.balOf (toAddr src) →
      Accepted cfg st (.add src id delta) (addStakeApply cfg st (toAddr src) m delta)
  | refund {src id : Bytes} {amount : Nat} {m : Miner} :
      getMiner cfg st id = some m → m.account = src → refundMoney m amount ≤ m.stake →
      Accepted cfg st (.refund src id amount) (refundApply cfg st id src m (refundMoney m amount))
  | chacc {src id na : Bytes} {m : Miner} :
      getMiner cfg st id = some m → m.account = src → m.account ≠ na → byAccount cfg st na = none →
      Accepted cfg st (.chacc src id na) (updateMiner cfg st { m with account := na } none)

/-- The two ways an executor ends: `"ok"` with a state of which `P` holds, or not `"ok"` with the state it was given. -/
def Outcome (P : State → Prop) (st : State) (r : String × State) : Prop :=
  r.1 = "ok" ∧ P r.2 ∨ r.1 ≠ "ok" ∧ r.2 = st

theorem Outcome.fail {P : State → Prop} {st : State} {msg : String} (h : msg ≠ "ok") : Outcome P st (msg, st) :=
  Or.inr ⟨h, rfl⟩

theorem Outcome.guard {P : State → Prop} {st : State} {c : Prop} [Decidable c] {msg : String} {r : String × State}
    (h : msg ≠ "ok") (hr : ¬ c → Outcome P st r) : Outcome P st (if c then (msg, st) else r) :=
  ite_cases (fun _ => .fail h) hr

theorem Outcome.of_fail {P : State → Prop} {st : State} {r : String × State} (h : Outcome P st r) (hr : r.1 ≠ "ok") : r.2 = st :=
  h.elim (fun a => absurd a.1 hr) (·.2)

theorem Outcome.of_ok {P : State → Prop} {st : State} {r : String × State} (h : Outcome P st r) (hr : r.1 = "ok") : P r.2 :=
  h.elim (·.2) (fun a => absurd hr a.1)

theorem getMiner_eq_none {cfg : Cfg} {st : State} {id : Bytes} (h : ¬ (getMiner cfg st id).isSome = true) :
    getMinerById cfg st .prop id = none ∧ getMinerById cfg st .val id = none := by
  unfold getMiner at h
  cases hp : getMinerById cfg st .prop id with
  | some m => rw [hp] at h; exact absurd rfl h
  | none => rw [hp] at h; exact ⟨rfl, Option.not_isSome_iff_eq_none.mp h⟩

theorem execute_outcome (cfg : Cfg) (st : State) (tx : Tx) : Outcome (Accepted cfg st tx) st (execute cfg st tx) := by
  cases tx with
  | apply src id typ stake acct pk vrf =>
    refine Outcome.guard (by simp) fun h0 => Outcome.guard (by simp) fun hid => ?_
    unfold addMiner
    dsimp only
    cases hms : minStake typ with
    | none => exact .fail (by simp)
    | some ms =>
      dsimp only
      refine Outcome.guard (by simp) fun h1 => Outcome.guard (by simp) fun h2 => Outcome.guard (by simp) fun h3 =>
        Outcome.guard (by simp) fun h4 => Outcome.guard (by simp) fun h5 => ?_
      have h0' := not_or.mp h0
      have h4' := getMiner_eq_none h4
      exact Or.inl ⟨rfl, .apply (Nat.le_of_not_lt h0'.1) (Nat.le_of_not_lt h0'.2) (Bool.not_eq_true _ ▸ hid) hms
        (Nat.le_of_not_lt h1) h2 (Nat.le_of_not_lt h3) h4'.1 h4'.2
        (Option.not_isSome_iff_eq_none.mp h5)⟩
  | add src id delta =>
    refine Outcome.guard (by simp) fun h0 => Outcome.guard (by simp) fun _ => ?_
    unfold addStake
    by_cases hd : delta = 0
    · subst hd; exact Or.inl ⟨rfl, .addZero⟩
    · rw [if_neg hd]
      refine Outcome.guard (by simp) fun h1 => ?_
      cases hm : getMiner cfg st id with
      | none => exact .fail (by simp)
      | some m => exact Or.inl ⟨rfl, .add hd (Nat.le_of_not_lt h0) hm (Nat.le_of_not_lt h1)⟩
  | refund src id amount =>
    refine Outcome.guard (by simp) fun _ => ?_
    cases hm : getMiner cfg st id with
    | none => exact .fail (by simp)
    | some m =>
      dsimp only
      refine Outcome.guard (by simp) fun h1 => Outcome.guard (by simp) fun h2 => ?_
      exact Or.inl ⟨rfl, .refund hm (Decidable.not_not.mp h1).symm (Nat.le_of_not_lt h2)⟩
  | chacc src id na =>
    show Outcome _ st (execChacc cfg st src id na)
    unfold execChacc
    cases hm : getMiner cfg st id with
    | none => exact .fail (by simp)
    | some m =>
      dsimp only
      refine Outcome.guard (by simp) fun h1 => Outcome.guard (by simp) fun h2 => Outcome.guard (by simp) fun h3 => ?_
      exact Or.inl ⟨rfl, .chacc hm (Decidable.not_not.mp h2) h1 (Option.not_isSome_iff_eq_none.mp h3)⟩
  | bad k src => cases k <;> exact .fail (by simp)

theorem runTx_ok (cfg : Cfg) (st : State) (tx : Tx) (h : (runTx cfg st tx).1 = "ok") :
    ∃ st1, processFee st tx.src = some st1 ∧ Accepted cfg st1 tx (runTx cfg st tx).2 := by
  unfold runTx at h ⊢
  cases hf : processFee st tx.src with
  | none => simp only [hf] at h; exact absurd h (by decide)
  | some st1 =>
    simp only [hf] at h ⊢
    by_cases hok : (execute cfg st1 tx).1 = "ok"
    · rw [if_pos hok]; exact ⟨st1, rfl, (execute_outcome cfg st1 tx).of_ok hok⟩
    · rw [if_neg hok] at h; exact absurd h hok

theorem runTx_bad (cfg : Cfg) (st : State) (k : BadKind) (src : Bytes) : (runTx cfg st (.bad k src)).1 ≠ "ok" := by
  intro h
  obtain ⟨st1, _, hacc⟩ := runTx_ok cfg st _ h
  generalize (runTx cfg st _).2 = st' at hacc
  cases hacc

theorem runTx_add_zero (cfg : Cfg) (st : State) (src id : Bytes) (h : (runTx cfg st (.add src id 0)).1 = "ok") :
    processFee st src = some (runTx cfg st (.add src id 0)).2 := by
  obtain ⟨st1, hfee, hacc⟩ := runTx_ok cfg st _ h
  generalize (runTx cfg st _).2 = st' at hacc ⊢
  cases hacc with
  | addZero => exact hfee
  | add h0 => exact absurd rfl h0

theorem runTx_fail (cfg : Cfg) (st : State) (tx : Tx) (h : (runTx cfg st tx).1 ≠ "ok") :
    (runTx cfg st tx).2 = st ∨ processFee st tx.src = some (runTx cfg st tx).2 := by
  unfold runTx at h ⊢
  cases hf : processFee st tx.src with
  | none => exact Or.inl rfl
  | some st1 =>
    simp only [hf] at h ⊢
    by_cases hok : (execute cfg st1 tx).1 = "ok"
    · rw [if_pos hok] at h; exact absurd hok h
    · rw [if_neg hok, (execute_outcome cfg st1 tx).of_fail hok]; exact Or.inr rfl

theorem runTx_fail_live (cfg : Cfg) (st : State) (tx : Tx) (h : (runTx cfg st tx).1 ≠ "ok") :
    (runTx cfg st tx).2.live = st.live := by
  rcases runTx_fail cfg st tx h with e | e
  · rw [e]
  · exact (processFee_live st _ _ e).1

end Rangers.Miner
