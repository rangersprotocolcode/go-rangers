import Rangers.Model.RLPTyped
/-! Base cases of the recursive coders: with no fuel left every fuelled decoder answers `Err.fuel`;
    the writers on the empty list and through a pointer; every type weighs at least 1 (`tySize_pos`).
    In a module of their own so that the unfolding equations of the mutually recursive coders are
    generated once, here, and not again by every lemma that unfolds one of them. -/
namespace Rangers.RLP
open Rangers

theorem decItemF_zero (buf : Bytes) : decItemF 0 buf = .error .fuel := by rw [decItemF]
theorem decItemsF_zero (buf : Bytes) : decItemsF 0 buf = .error .fuel := by rw [decItemsF]
theorem decT_zero (ty : Ty) (buf : Bytes) : decT 0 ty buf = .error .fuel := by rw [decT]
theorem decElems_zero (e : Ty) (c : Bytes) : decElems 0 e c = .error .fuel := by rw [decElems]
theorem decArr_zero (e : Ty) (n : Nat) (c : Bytes) : decArr 0 e n c = .error .fuel := by rw [decArr]
theorem decFields_zero (fs : List (Tag × Ty)) (c : Bytes) : decFields 0 fs c = .error .fuel := by rw [decFields]

theorem encT_ptr_some (e : Ty) (v : Val) : encT (.ptr e) (.some v) = encT e v := by rw [encT]
theorem encElems_nil (e : Ty) : encElems e [] = .ok [] := by rw [encElems]
theorem encFields_nil : encFields [] [] = .ok [] := by rw [encFields]

theorem tySize_pos (ty : Ty) : 1 ≤ tySize ty := by
  cases ty <;> simp [tySize]

end Rangers.RLP
