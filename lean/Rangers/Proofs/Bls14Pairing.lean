import Mathlib.GroupTheory.OrderOfElement
import Mathlib.Algebra.Group.Pi.Lemmas
import Mathlib.Algebra.Group.TypeTags.Basic
/-!
Abstract algebra behind C14: bilinear maps between commutative groups, uniqueness of the
BLS signature, cancellation of scalars in a group of prime exponent. No model here.
C13 abstracts the same `bn256.Pair` differently (`IsPairing` of `Props/C13.lean`: GT an additive `ZMod r`-module,
compatibility with scalar multiplication); no lemma connects the two.
-/
namespace Rangers.Proofs.Bls14

variable {G1 G2 GT : Type} [AddCommGroup G1] [AddCommGroup G2] [CommGroup GT]

/-- `e` is additive in each argument (GT written multiplicatively). -/
structure Bilinear (e : G1 → G2 → GT) : Prop where
  add_left : ∀ a b q, e (a + b) q = e a q * e b q
  add_right : ∀ a q q', e a (q + q') = e a q * e a q'

namespace Bilinear
variable {e : G1 → G2 → GT} (he : Bilinear e)
include he

theorem zero_left (q : G2) : e 0 q = 1 := by
  have := he.add_left 0 0 q
  rw [add_zero] at this
  exact (mul_eq_left).mp this.symm

theorem zero_right (a : G1) : e a 0 = 1 := by
  have := he.add_right a 0 0
  rw [add_zero] at this
  exact (mul_eq_left).mp this.symm

theorem neg_left (a : G1) (q : G2) : e (-a) q = (e a q)⁻¹ := by
  have := he.add_left (-a) a q
  rw [neg_add_cancel, he.zero_left] at this
  exact eq_inv_of_mul_eq_one_left this.symm

theorem sub_left (a b : G1) (q : G2) : e (a - b) q = e a q / e b q := by
  rw [sub_eq_add_neg, he.add_left, he.neg_left, div_eq_mul_inv]

theorem nsmul_left (n : ℕ) (a : G1) (q : G2) : e (n • a) q = e a q ^ n := by
  induction n with
  | zero => simp [he.zero_left]
  | succ n ih => rw [succ_nsmul, he.add_left, ih, pow_succ]

theorem nsmul_right (n : ℕ) (a : G1) (q : G2) : e a (n • q) = e a q ^ n := by
  induction n with
  | zero => simp [he.zero_right]
  | succ n ih => rw [succ_nsmul, he.add_right, ih, pow_succ]

/-- Uniqueness of the BLS signature: with `g₂` on the right the map `e(·, g₂)` has trivial
    kernel, so `e(σ, g₂) = e(h, sk·g₂)` pins `σ` down to `sk·h`. No condition on `sk`. -/
theorem unique (g2 : G2) (nd : ∀ a, e a g2 = 1 → a = 0) (sk : ℕ) (h σ : G1) :
    e σ g2 = e h (sk • g2) ↔ σ = sk • h := by
  rw [he.nsmul_right, ← he.nsmul_left]
  constructor
  · intro hh
    have : e (σ - sk • h) g2 = 1 := by rw [he.sub_left, hh, div_self']
    exact sub_eq_zero.mp (nd _ this)
  · rintro rfl; rfl

/-- Non-degeneracy in the form used above follows from the textbook one (some pair is not 1)
    when every non-zero element of G1 generates G1 (prime order) and `g₂` generates G2. -/
theorem trivial_kernel_of_generates (g2 : G2)
    (gen1 : ∀ a b : G1, a ≠ 0 → ∃ n : ℕ, b = n • a) (gen2 : ∀ q : G2, ∃ n : ℕ, q = n • g2)
    (ne : ∃ a q, e a q ≠ 1) : ∀ a, e a g2 = 1 → a = 0 := by
  intro a ha
  by_contra h0
  obtain ⟨a0, q0, hne⟩ := ne
  obtain ⟨n, rfl⟩ := gen1 a a0 h0
  obtain ⟨m, rfl⟩ := gen2 q0
  apply hne
  rw [he.nsmul_left, he.nsmul_right, ha]; simp

end Bilinear

theorem eq_zero_of_nsmul_of_prime {G : Type} [AddCommGroup G] (r sk : ℕ) (hp : r.Prime) (d : G)
    (hr : r • d = 0) (hs : sk • d = 0) (hnd : ¬ r ∣ sk) : d = 0 := by
  have h1 : addOrderOf d ∣ r := addOrderOf_dvd_of_nsmul_eq_zero hr
  have h2 : addOrderOf d ∣ sk := addOrderOf_dvd_of_nsmul_eq_zero hs
  rcases (Nat.dvd_prime hp).mp h1 with h | h
  · exact AddMonoid.addOrderOf_eq_one_iff.mp h
  · rw [h] at h2; exact absurd h2 hnd

theorem modEq_of_nsmul_eq {G : Type} [AddCommGroup G] (r a b : ℕ) (hp : r.Prime) (h : G)
    (hr : r • h = 0) (h0 : h ≠ 0) (hab : a • h = b • h) : a ≡ b [MOD r] := by
  have ho : addOrderOf h = r := by
    rcases (Nat.dvd_prime hp).mp (addOrderOf_dvd_of_nsmul_eq_zero hr) with h1 | h1
    · exact absurd (AddMonoid.addOrderOf_eq_one_iff.mp h1) h0
    · exact h1
  have := (nsmul_eq_nsmul_iff_modEq (x := h)).mp hab
  rw [ho] at this
  exact this

end Rangers.Proofs.Bls14
