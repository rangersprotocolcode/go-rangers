import Rangers.Proofs.DecimalArith
import Mathlib.Tactic.SplitIfs
/-!
Totality of the C18 model: `strToBigInt` never reaches the `ErrNaN` panic of
`Float.Mul` / `Float.Quo` (0·Inf, 0/0, Inf/Inf), for any input string and any
decimal count. The only place an infinity can meet a zero is `pow5`, and `pow5`
is always a positive finite float or +Inf. Hence `strToBigInt` is a function of what `parseFloat` returns
(`strToBigInt_eq`). In front: what a successful `scanBody`, `parseFloat` returned, for statements about every
input string.
-/
namespace Rangers.Decimal

/-- `s` without its leading sign: what `Float.scan` hands to the mantissa loop. -/
def unsigned (s : Str) : Str :=
  match s with
  | c :: t => if c = '-' || c = '+' then t else s
  | [] => []

theorem unsigned_length_le (s : Str) : (unsigned s).length ≤ s.length := by
  unfold unsigned
  split
  · split <;> simp
  · simp

theorem unsigned_subset (s : Str) : ∀ c ∈ unsigned s, c ∈ s := by
  unfold unsigned
  split
  · split
    · exact fun c hc => List.mem_cons_of_mem _ hc
    · exact fun c hc => hc
  · exact fun c hc => hc

theorem scanBody_some {neg : Bool} {r : Str} {z : BF} (h : scanBody neg r = some z) :
    z = .zero neg ∨ ∃ exp eb, scanExp (scanMant r true 0 0 none).rest = some (exp, eb, []) ∧
      buildFloat neg (scanMant r true 0 0 none).mant
        (fcountOf (scanMant r true 0 0 none).dp (scanMant r true 0 0 none).count) exp eb = some z := by
  unfold scanBody at h
  generalize scanMant r true 0 0 none = ms at h ⊢
  dsimp only at h
  rw [if_neg (fun hc => by simp [hc] at h)] at h
  cases hse : scanExp ms.rest with
  | none => simp [hse] at h
  | some t =>
    obtain ⟨exp, eb, rest⟩ := t
    simp only [hse] at h
    by_cases hm : ms.mant = 0
    · rw [if_pos hm] at h
      split_ifs at h
      exact Or.inl (Option.some.inj h).symm
    · rw [if_neg hm] at h
      cases hb : buildFloat neg ms.mant (fcountOf ms.dp ms.count) exp eb with
      | none => simp [hb] at h
      | some z' =>
        simp only [hb] at h
        split_ifs at h with hr
        subst hr
        exact Or.inr ⟨exp, eb, rfl, (Option.some.inj h) ▸ hb⟩

theorem parseFloat_some {s : Str} {z : BF} (h : parseFloat s = some z) :
    (∃ b, z = .inf b) ∨ ∃ neg, scanBody neg (unsigned s) = some z := by
  unfold parseFloat at h
  split_ifs at h
  · exact Or.inl ⟨_, (Option.some.inj h).symm⟩
  · exact Or.inl ⟨_, (Option.some.inj h).symm⟩
  · right
    unfold scanFloat at h
    unfold unsigned
    split at h
    · exact absurd h (by simp)
    · split_ifs at h with h1 h2
      · exact ⟨true, by simpa [h1] using h⟩
      · exact ⟨false, by simpa [h2] using h⟩
      · exact ⟨false, by simpa [h1, h2] using h⟩

/-- What `pow5` can return. A finite value has `0 ≤ e`: that keeps `finish` out of its underflow-to-zero branch in
    every product of the loop, so no zero can come to meet the `+Inf`. -/
def posOrInf : BF → Prop
  | .fin false m e => 0 < m ∧ 0 ≤ e
  | .inf false => True
  | _ => False

theorem posOrInf_cases {x : BF} (h : posOrInf x) :
    x = .inf false ∨ ∃ m e, x = .fin false m e ∧ 0 < m ∧ 0 ≤ e := by
  match x, h with
  | .inf false, _ => exact Or.inl rfl
  | .fin false m e, h => exact Or.inr ⟨m, e, rfl, h⟩

theorem finish_ne_nan (neg : Bool) (mode : Mode) (p m : Nat) (e : Int) (st : Bool) :
    finish neg mode p m e st ≠ .nan := by
  unfold finish
  rcases roundMant mode p m st with ⟨m', s⟩
  dsimp only
  split_ifs <;> exact fun h => nomatch h

theorem finish_posOrInf (mode : Mode) (p m : Nat) (e : Int) (st : Bool) (hp : 1 ≤ p) (hm : 0 < m)
    (he : 0 ≤ e) : posOrInf (finish false mode p m e st) := by
  unfold finish
  have hpos := roundMant_pos mode p m st hp hm
  rw [if_neg hm.ne', if_neg (by unfold minExp; omega)]
  dsimp only
  split_ifs
  · trivial
  · exact ⟨hpos, by omega⟩

theorem mul_posOrInf (mode : Mode) (p : Nat) (x y : BF) (hp : 1 ≤ p) (hx : posOrInf x) (hy : posOrInf y) :
    posOrInf (mul mode p x y) := by
  rcases posOrInf_cases hx with rfl | ⟨mx, ex, rfl, hmx, hex⟩ <;>
    rcases posOrInf_cases hy with rfl | ⟨my, ey, rfl, hmy, hey⟩
  · trivial
  · trivial
  · trivial
  · exact finish_posOrInf mode p (mx * my) (ex + ey) false hp (Nat.mul_pos hmx hmy) (by omega)

theorem pow5_posOrInf (n : Nat) : posOrInf (pow5 n) := by
  rw [pow5]
  split
  · exact ⟨by positivity, le_refl _⟩
  · exact pow5Loop_invariant (fun _ => posOrInf)
      (fun hp hx hy => mul_posOrInf _ _ _ _ (by omega) hx hy) (Nat.sub_le n 27) (u := 0) (w := 0)
      ⟨by positivity, le_refl _⟩ ⟨by norm_num, le_refl _⟩

theorem posOrInf.ne_nan {x : BF} (h : posOrInf x) : x ≠ .nan := by
  rintro rfl; exact h

theorem quo_fin_ne_nan (mode : Mode) (p : Nat) (n : Bool) (m : Nat) (e : Int) {y : BF} (hy : y ≠ .nan) :
    quo mode p (.fin n m e) y ≠ .nan := by
  cases y with
  | nan => exact absurd rfl hy
  | fin ny my ey => exact finish_ne_nan _ _ _ _ _ _
  | zero ny => exact fun h => nomatch h
  | inf ny => exact fun h => nomatch h

theorem mul_fin_ne_nan (mode : Mode) (p : Nat) (n : Bool) (m : Nat) (e : Int) {y : BF} (hy : y ≠ .nan) :
    mul mode p (.fin n m e) y ≠ .nan := by
  cases y with
  | nan => exact absurd rfl hy
  | fin ny my ey => exact finish_ne_nan _ _ _ _ _ _
  | zero ny => exact fun h => nomatch h
  | inf ny => exact fun h => nomatch h

theorem buildFloat_ne_nan (neg : Bool) (mant : Nat) (fc exp : Int) (eb : Nat) (z : BF)
    (h : buildFloat neg mant fc exp eb = some z) : z ≠ .nan := by
  unfold buildFloat at h
  dsimp only at h
  generalize (if fc < 0 then fc else 0) = d at h
  generalize (if eb = 10 then exp else 0) = x at h
  split_ifs at h
  all_goals obtain rfl := Option.some.inj h
  · exact finish_ne_nan _ _ _ _ _ _
  · exact quo_fin_ne_nan _ _ _ _ _ (pow5_posOrInf _).ne_nan
  · exact mul_fin_ne_nan _ _ _ _ _ (pow5_posOrInf _).ne_nan

theorem parseFloat_ne_nan (s : Str) (z : BF) (h : parseFloat s = some z) : z ≠ .nan := by
  rcases parseFloat_some h with ⟨b, rfl⟩ | ⟨neg, h⟩
  · simp
  · rcases scanBody_some h with rfl | ⟨exp, eb, -, hb⟩
    · simp
    · exact buildFloat_ne_nan _ _ _ _ _ _ hb

theorem mul_base_ne_nan (mode : Mode) (p : Nat) (t : BF) (b : Nat) (ht : t ≠ .nan) :
    mul mode p t (.fin false b 0) ≠ .nan := by
  cases t with
  | nan => exact absurd rfl ht
  | zero n => exact fun h => nomatch h
  | inf n => exact fun h => nomatch h
  | fin n m e => exact finish_ne_nan _ _ _ _ _ _

theorem strToBigInt_eq (s : Str) (d : Int) :
    strToBigInt s d =
      if s = [] then .ok 0
      else match parseFloat s with
        | none => .err
        | some t => .ok (toInt (mul .away prec t (baseFloat d))) := by
  unfold strToBigInt
  split
  · rfl
  · cases h : parseFloat s with
    | none => rfl
    | some t =>
      dsimp only
      split
      · rename_i heq
        exact absurd heq (mul_base_ne_nan _ _ t _ (parseFloat_ne_nan s t h))
      · rfl

theorem strToBigInt_ok {s : Str} {d v : Int} (h : strToBigInt s d = .ok v) :
    (s = [] ∧ v = 0) ∨ ∃ t, parseFloat s = some t ∧ v = toInt (mul .away prec t (baseFloat d)) := by
  rw [strToBigInt_eq] at h
  split at h
  · exact Or.inl ⟨‹_›, (Res.ok.inj h).symm⟩
  · split at h
    · exact absurd h (by simp)
    · exact Or.inr ⟨_, ‹_›, (Res.ok.inj h).symm⟩

theorem strToBigInt_ok_of_parseFloat {s : Str} {t : BF} (h : parseFloat s = some t) (d : Int) :
    ∃ v, strToBigInt s d = .ok v := by
  rw [strToBigInt_eq, h]
  split <;> exact ⟨_, rfl⟩

theorem strToBigInt_ne_panic (s : Str) (d : Int) : strToBigInt s d ≠ .panic := by
  rw [strToBigInt_eq]
  split
  · simp
  · split <;> simp

end Rangers.Decimal
