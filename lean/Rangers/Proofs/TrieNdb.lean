import Rangers.Model.TrieNdb
import Rangers.Proofs.TrieCanon
import Rangers.Proofs.TrieStore
import Rangers.Proofs.Lookup
/- NodeDatabase.Commit: the walk writes every node of a freshly cached trie to disk; uncache only removes. -/
namespace Rangers.Trie
open Rangers

theorem lookup_filter_ne {β : Type} (d : List (Bytes × β)) (k x : Bytes) :
    (d.filter (fun e => e.1 != k)).lookup x = if x = k then none else d.lookup x := by
  rw [Rangers.lookup_filter_key (fun a => a != k)]
  simp only [bne_iff_ne, ne_eq, ite_not]

theorem diskPut_lookup (d : List (Bytes × Bytes)) (k v x : Bytes) :
    (diskPut d k v).lookup x = if x = k then some v else d.lookup x := by
  unfold diskPut
  rw [List.lookup_append, lookup_filter_ne]
  by_cases hx : x = k
  · subst hx; simp
  · have : (x == k) = false := beq_false_of_ne hx
    simp [hx, List.lookup_cons, this]

/-- a key whose memory-cache entry encodes to `v`: once on disk with `v`, it stays so through any
    further walk of `commit` (a later `Put` under that key writes the same blob) -/
def Stable (mem : List (Bytes × NEntry)) (k v : Bytes) : Prop :=
  ∀ ne, mem.lookup k = some ne → ne.rlp = v

theorem commitList_keeps {mem : List (Bytes × NEntry)} {f : Nat} {P : List (Bytes × Bytes) → Prop}
    (h : ∀ disk c, P disk → P (commitRec mem f disk c)) : ∀ l disk, P disk → P (commitList mem f disk l) := by
  intro l
  induction l with
  | nil => intro disk hd; rw [commitList]; exact hd
  | cons c cs ih => intro disk hd; rw [commitList]; exact ih _ (h disk c hd)

theorem commit_preserves {mem : List (Bytes × NEntry)} {k v : Bytes} (hs : Stable mem k v) (f : Nat) :
    ∀ disk h, disk.lookup k = some v → (commitRec mem f disk h).lookup k = some v := by
  induction f with
  | zero => intro disk h hd; rw [commitRec]; exact hd
  | succ f ih =>
    intro disk h hd
    simp only [commitRec]
    cases hm : mem.lookup h with
    | none => simpa using hd
    | some e =>
      simp only []  -- the `match` on `some e`
      rw [diskPut_lookup]
      by_cases hkh : k = h
      · subst hkh; simp [hs e hm]
      · simp only [hkh, if_false]; exact commitList_keeps ih _ _ hd

theorem commitList_append (mem : List (Bytes × NEntry)) (f : Nat) (disk : List (Bytes × Bytes)) (a b : List Bytes) :
    commitList mem f disk (a ++ b) = commitList mem f (commitList mem f disk a) b := by
  induction a generalizing disk with
  | nil => simp [commitList]
  | cons x a ih => simp only [List.cons_append, commitList]; exact ih _

theorem gatherCL_eq (l : List CNode) (i : Nat) (h : i + l.length ≤ 16) : gatherC.gatherCL l i = l.flatMap gatherC := by
  induction l generalizing i with
  | nil => rfl
  | cons c l ih =>
    simp only [List.length_cons] at h
    have hi : i < 16 := by omega
    simp only [gatherC.gatherCL, hi, if_true, List.flatMap_cons, ih (i + 1) (by omega)]

theorem gatherC_refOf_nil (H : Bytes → Bytes) : gatherC (refOf H .nil) = [] := rfl

theorem gatherC_collapse_ext (H : Bytes → Bytes) (k : Key) (cs : List Node) :
    gatherC (collapse H (.short k (.full cs))) = gatherC (refOf H (.full cs)) := by
  rw [collapse_ext]; rfl

theorem gatherC_collapse_full (H : Bytes → Bytes) (cs : List Node) (hlen : cs.length = 17) :
    gatherC (collapse H (.full cs)) = (cs.take 16).flatMap (fun x => gatherC (refOf H x)) := by
  rw [collapse_full H cs]
  simp only [gatherC]
  rw [gatherCL_eq _ 0 (by simp [hlen]), List.flatMap_map]

/-- the store entry `e` (hash, collapsed node) sits in the memory cache `db.nodes` as a collapsed node, as `hasher.store` put it -/
def InMem (mem : List (Bytes × NEntry)) (e : Bytes × CNode) : Prop :=
  ∃ ne, mem.lookup e.1 = some ne ∧ ne.val = .cn e.2

/-- the disk holds the RLP blob of the entry under its hash: what `commit` writes for a cached node -/
def OnDisk (disk : List (Bytes × Bytes)) (e : Bytes × CNode) : Prop := disk.lookup e.1 = some (encC e.2)

theorem InMem.stable {mem : List (Bytes × NEntry)} {e : Bytes × CNode} (h : InMem mem e) : Stable mem e.1 (encC e.2) := by
  obtain ⟨ne, h1, h2⟩ := h
  intro ne' h'
  rw [h1] at h'
  cases h'
  simp [NEntry.rlp, h2]

/-- `hK` is `commit_walk` at `c`, here and in `commit_refOf`. -/
theorem commit_self {H : Bytes → Bytes} {mem : List (Bytes × NEntry)} {c : Node} (hwf : WF c) (b : Bool)
    (hb : b = true ∨ 32 ≤ (enc H c).length)
    (hK : (∀ e ∈ kidsStore H c, InMem mem e) → ∀ f disk, height c ≤ f →
      ∀ e ∈ kidsStore H c, OnDisk (commitList mem f disk (gatherC (collapse H c))) e) :
    (∀ e ∈ storeOf H b c, InMem mem e) → ∀ f disk, height c + 1 ≤ f →
      ∀ e ∈ storeOf H b c, OnDisk (commitRec mem f disk (H (enc H c))) e := by
  intro hin f disk hf e he
  obtain ⟨f', rfl, hf'⟩ := fuel_succ hf
  have hkin : ∀ e' ∈ kidsStore H c, InMem mem e' := fun e' he' => hin e' ((mem_storeOf H b c hwf e').mpr (Or.inr he'))
  obtain ⟨ne, hl, hv⟩ := hin _ ((mem_storeOf H b c hwf _).mpr (Or.inl ⟨hb, rfl⟩))
  simp only [commitRec, hl, OnDisk, diskPut_lookup, NEntry.childs, hv, commitList_append]
  by_cases hkey : e.1 = H (enc H c)
  · simp only [hkey, if_true, NEntry.rlp, hv]
    obtain ⟨ne2, hl2, hv2⟩ := hin e he
    rw [hkey, hl] at hl2
    cases hl2
    rw [hv] at hv2
    rw [← NVal.cn.inj hv2]
  · simp only [hkey, if_false]
    rcases (mem_storeOf H b c hwf e).mp he with ⟨_, rfl⟩ | hk
    · exact absurd rfl hkey
    · exact hK hkin f' (commitList mem f' disk ne.children) hf' e hk

theorem commit_refOf {H : Bytes → Bytes} {mem : List (Bytes × NEntry)} {c : Node} (hwf : WF c)
    (hK : (∀ e ∈ kidsStore H c, InMem mem e) → ∀ f disk, height c ≤ f →
      ∀ e ∈ kidsStore H c, OnDisk (commitList mem f disk (gatherC (collapse H c))) e) :
    (∀ e ∈ storeOf H false c, InMem mem e) → ∀ f disk, height c + 1 ≤ f →
      ∀ e ∈ storeOf H false c, OnDisk (commitList mem f disk (gatherC (refOf H c))) e := by
  intro hin f disk hf e he
  rw [refOf_of_ne_nil H _ hwf.ne_nil]
  by_cases hsm : (enc H c).length < 32
  · rw [if_pos hsm]
    have hkin : ∀ e' ∈ kidsStore H c, InMem mem e' := fun e' he' => hin e' ((mem_storeOf H false c hwf e').mpr (Or.inr he'))
    have hk : e ∈ kidsStore H c := ((mem_storeOf H false c hwf e).mp he).resolve_left
      (fun h => h.1.elim (fun h => Bool.noConfusion h) (fun h => by omega))
    exact hK hkin _ disk (by omega) e hk
  · simp only [hsm, if_false, gatherC, commitList]
    exact commit_self hwf false (Or.inr (by omega)) hK hin f disk hf e he

theorem commit_walk (H : Bytes → Bytes) (mem : List (Bytes × NEntry)) : ∀ c, WF c →
    (∀ e ∈ kidsStore H c, InMem mem e) → ∀ f disk, height c ≤ f →
      ∀ e ∈ kidsStore H c, OnDisk (commitList mem f disk (gatherC (collapse H c))) e := by
  apply WF_induct
  case leaf =>
    intro kk b _ _ hin f disk hf e he
    simp [kidsStore, storeOf] at he
  case ext =>
    intro kk cs _ _ hfull ih hin f disk hf e he
    rw [gatherC_collapse_ext]
    simp only [height] at hf
    exact commit_refOf hfull ih hin f disk hf e he
  case full =>
    intro cs hwf ih hin f disk hf e he
    have hlen := ((WF_full_iff cs).mp hwf).1
    rw [gatherC_collapse_full H cs hlen]
    simp only [height] at hf
    have hinx : ∀ z, z ∈ cs → ∀ e'' ∈ storeOf H false z, InMem mem e'' := fun z hz e'' he'' =>
      hin e'' ((mem_storeOfL_iff H cs e'').mpr ⟨z, hz, he''⟩)
    have hwalk : ∀ (xs : List Node), (∀ x ∈ xs, x = .nil ∨ (x ∈ cs ∧ WF x)) → ∀ disk,
        ∀ x ∈ xs, ∀ e ∈ storeOf H false x,
          OnDisk (commitList mem f disk (xs.flatMap (fun x => gatherC (refOf H x)))) e := by
      intro xs
      induction xs with
      | nil => intro _ _ x hx; simp at hx
      | cons y ys ihy =>
        intro hys disk x hx e' he'
        simp only [List.flatMap_cons, commitList_append]
        rcases List.mem_cons.mp hx with rfl | hx'
        · rcases hys x (by simp) with rfl | ⟨hm, hw⟩
          · simp [storeOf] at he'
          · have h1 := commit_refOf hw (ih x hm hw) (hinx x hm) f disk
              (by have := height_le_heightL cs x hm; omega) e' he'
            exact commitList_keeps (commit_preserves (hinx x hm e' he').stable f) _ _ h1
        · exact ihy (fun z hz => hys z (by simp [hz])) _ x hx' e' he'
    -- the entry belongs to one of the sixteen child slots (the value slot stores nothing)
    obtain ⟨z, hz, hez⟩ := (mem_storeOfL_iff H cs e).mp he
    rw [full_eq_kids_append hlen] at hz
    rcases List.mem_append.mp hz with hzt | hz16
    · exact hwalk (cs.take 16) (WF_full_kids hwf) disk z hzt e hez
    · rw [List.mem_singleton.mp hz16] at hez
      rcases WF_full_value hwf with h | ⟨b, hb, _⟩
      · rw [h] at hez; simp [storeOf] at hez
      · rw [hb] at hez; simp [storeOf] at hez

theorem storeOf_entries (H : Bytes → Bytes) (t : Node) : WF t → ∀ b e, e ∈ storeOf H b t →
    ∃ c, WF c ∧ e = (H (enc H c), collapse H c) := by
  induction t using Node.induct with
  | hnil => intro h; exact absurd h not_WF_nil
  | hval b => intro h; exact absurd h (not_WF_value b)
  | hshort kk v ih =>
    intro hwf b e he
    rcases ((mem_storeOf H b _ hwf e).mp he).imp (fun h => h.2) id with rfl | hk
    · exact ⟨_, hwf, rfl⟩
    · rcases (WF_short_iff kk v).mp hwf with ⟨b', rfl, _, _⟩ | ⟨cs, rfl, _, _, hfull⟩
      · simp [kidsStore, storeOf] at hk
      · exact ih hfull false e hk
  | hfull cs ih =>
    intro hwf b e he
    rcases ((mem_storeOf H b _ hwf e).mp he).imp (fun h => h.2) id with rfl | hk
    · exact ⟨_, hwf, rfl⟩
    · obtain ⟨z, hz, hez⟩ := (mem_storeOfL_iff H cs e).mp hk
      rcases WF_full_mem hwf hz with rfl | ⟨b', rfl⟩ | hw
      · simp [storeOf] at hez
      · simp [storeOf] at hez
      · exact ih z hz hw false e hez

theorem uncacheList_keeps {f : Nat} {P : List (Bytes × NEntry) → Prop}
    (h : ∀ mem c, P mem → P (uncacheRec f mem c)) : ∀ l mem, P mem → P (uncacheList f mem l) := by
  intro l
  induction l with
  | nil => intro mem hm; rw [uncacheList]; exact hm
  | cons c cs ih => intro mem hm; rw [uncacheList]; exact ih _ (h mem c hm)

/-- stated against a fixed cache `mem0` so that it passes through the fold over the children -/
theorem uncacheRec_only_removes (mem0 : List (Bytes × NEntry)) (x : Bytes) (f : Nat) :
    ∀ mem h, (mem.lookup x = none ∨ mem.lookup x = mem0.lookup x) →
      ((uncacheRec f mem h).lookup x = none ∨ (uncacheRec f mem h).lookup x = mem0.lookup x) := by
  induction f with
  | zero => intro mem h hm; rw [uncacheRec]; exact hm
  | succ f ih =>
    intro mem h hm
    simp only [uncacheRec]
    cases hl : mem.lookup h with
    | none => exact hm
    | some e =>
      simp only [lookup_filter_ne]
      by_cases hx : x = h
      · left; simp [hx]
      · simp only [hx, if_false]; exact uncacheList_keeps ih _ _ hm

end Rangers.Trie
