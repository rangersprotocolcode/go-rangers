import Rangers.Proofs.TrieDB
/-!
The fuel `step` gives the commit walk (`cache.length + 1`) and the driver gives `resolve`
(`disk.length + 1`) is sufficient on every acyclic store: the
explicit out-of-fuel answers (`none` / `.fuel`) arise only on a reference cycle,
where the Go recursion would not terminate either.
-/
namespace Rangers.Model.TrieDB

/-- acyclicity of the cache along the edges the commit walk follows -/
def RankedCache (c : Cache) : Prop :=
  ∃ rank : Hash → Nat, ∀ h n, c.lookup h = some n → ∀ x ∈ n.childs, Has c x → rank x < rank h

theorem nodup_keys_le {β : Type} {l : List (Hash × β)} {p : List Hash} (hd : p.Nodup) (hp : ∀ a ∈ p, Has l a) :
    p.length ≤ l.length := by
  have hsub : p ⊆ l.map Prod.fst := fun a ha =>
    let ⟨_, hn⟩ := lookup_of_has (hp a ha)
    List.mem_map_of_mem (f := Prod.fst) (lookup_mem hn)
  exact List.length_map (as := l) Prod.fst ▸ hd.length_le_of_subset hsub

/-- The nodes above `h` on the way down from the start of a recursion over an acyclic store: stored,
    of strictly larger rank than `h`, hence without repetition.  Both fuel arguments below carry such
    a path and compare its length with the size of the store. -/
structure Chain {β : Type} (l : List (Hash × β)) (rank : Hash → Nat) (path : List Hash) (h : Hash) : Prop where
  nodup : path.Nodup
  stored : ∀ a ∈ path, Has l a
  above : ∀ a ∈ path, rank h < rank a

theorem Chain.nil {β : Type} (l : List (Hash × β)) (rank : Hash → Nat) (h : Hash) : Chain l rank [] h :=
  ⟨List.nodup_nil, nofun, nofun⟩

theorem Chain.self {β : Type} {l : List (Hash × β)} {rank : Hash → Nat} {path : List Hash} {h : Hash}
    (hc : Chain l rank path h) (hh : Has l h) : (h :: path).Nodup ∧ ∀ a ∈ h :: path, Has l a :=
  ⟨List.nodup_cons.mpr ⟨fun hm => Nat.lt_irrefl _ (hc.above h hm), hc.nodup⟩,
   List.forall_mem_cons.mpr ⟨hh, hc.stored⟩⟩

theorem Chain.cons {β : Type} {l : List (Hash × β)} {rank : Hash → Nat} {path : List Hash} {h x : Hash}
    (hc : Chain l rank path h) (hh : Has l h) (hx : rank x < rank h) : Chain l rank (h :: path) x :=
  ⟨(hc.self hh).1, (hc.self hh).2, List.forall_mem_cons.mpr ⟨hx, fun a ha => Nat.lt_trans hx (hc.above a ha)⟩⟩

theorem Chain.length_le {β : Type} {l : List (Hash × β)} {rank : Hash → Nat} {path : List Hash} {h : Hash}
    (hc : Chain l rank path h) : path.length ≤ l.length :=
  nodup_keys_le hc.nodup hc.stored

theorem Chain.length_lt {β : Type} {l : List (Hash × β)} {rank : Hash → Nat} {path : List Hash} {h : Hash}
    (hc : Chain l rank path h) (hh : Has l h) : path.length < l.length :=
  nodup_keys_le (hc.self hh).1 (hc.self hh).2

theorem allSome_isSome {α β : Type} (g : α → Option β) (l : List α) (h : ∀ x ∈ l, (g x).isSome = true) :
    (allSome (l.map g)).isSome = true := by
  induction l with
  | nil => rfl
  | cons x xs ih =>
    obtain ⟨a, ha⟩ := Option.isSome_iff_exists.mp (h x List.mem_cons_self)
    rw [List.map_cons, ha, allSome_some_cons, Option.isSome_map]
    exact ih fun y hy => h y (List.mem_cons_of_mem _ hy)

/-- The bound `c.length < path.length + f` is kept down the recursion (the path grows by one as the fuel shrinks by one),
    and a path is never longer than the cache (`Chain.length_le`): the fuel cannot run out. -/
theorem walk_enough_fuel {c : Cache} {rank : Hash → Nat}
    (hr : ∀ h n, c.lookup h = some n → ∀ x ∈ n.childs, Has c x → rank x < rank h) :
    ∀ (f : Nat) (path : List Hash) (h : Hash), Chain c rank path h →
      c.length < path.length + f → (walk c f h).isSome = true := by
  intro f
  induction f with
  | zero => exact fun path h hc hlen => absurd hc.length_le (Nat.not_le.mpr hlen)
  | succ f ih =>
    intro path h hc hlen
    cases hl : c.lookup h with
    | none => rw [walk_uncached hl]; rfl
    | some n =>
      have hh : Has c h := has_of_lookup hl
      have hlt := hc.length_lt hh
      rw [walk_cached hl, Option.isSome_map]
      refine allSome_isSome (walk c f) n.childs fun x hx => ?_
      cases hcx : c.lookup x with
      | none =>
        -- `walk c 0 x = none` also for an uncached `x`; at the cached parent `h` the bound is strict, so `f ≠ 0`
        cases f with
        | zero => exact absurd (Nat.le_of_lt_succ hlen) (Nat.not_le.mpr hlt)
        | succ f' => rw [walk_uncached hcx]; rfl
      | some m =>
        exact ih (h :: path) x (hc.cons hh (hr h n hl x hx (has_of_lookup hcx)))
          (Nat.add_right_comm _ 1 f ▸ hlen)

theorem resolve_enough_fuel {d : Disk} {rank : Hash → Nat}
    (hr : ∀ h n, d.lookup h = some n → ∀ r ∈ n.need, rank r < rank h) :
    ∀ (f : Nat) (path : List Hash) (h : Hash), Chain d rank path h →
      d.length < path.length + f → resolve (diskGet d) f h ≠ .fuel := by
  intro f
  induction f with
  | zero => exact fun path h hc hlen => absurd hc.length_le (Nat.not_le.mpr hlen)
  | succ f ih =>
    intro path h hc hlen hf
    cases hl : diskGet d h with
    | none => rw [resolve_missing hl] at hf; cases hf
    | some n =>
      rw [resolve_present hl] at hf
      obtain ⟨x, hx, e⟩ := res_all_fuel _ hf
      obtain ⟨r, hrm, rfl⟩ := List.mem_map.mp hx
      exact ih (h :: path) r (hc.cons (has_of_lookup hl) (hr h n hl r hrm)) (Nat.add_right_comm _ 1 f ▸ hlen) e

end Rangers.Model.TrieDB
