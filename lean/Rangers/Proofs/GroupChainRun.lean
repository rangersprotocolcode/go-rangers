import Rangers.Proofs.GroupChainInv
/-!
Consequences of `Rep` for the iterator, first boot from the genesis groups, and preservation along arbitrary
operation sequences: `Op`, `stepOp`, `runOps`, `specStep`, `OpOK` are the vocabulary of `Props.C19.inv_step`,
`inv_reachable`, `inv_init`.
-/
namespace Rangers.Model.GroupChain
open Rangers

theorem take_succ_of_getElem? {α} (l : List α) (i : Nat) (g : α) (h : l[i]? = some g) :
    l.take (i + 1) = l.take i ++ [g] := by
  rw [List.take_add_one, h]; rfl

theorem iterWalk_rep {l : List Group} {c : Chain} (r : Rep l c) :
    ∀ (i : Nat) (g : Group), l[i]? = some g → ∀ fuel, i < fuel →
      iterWalk c.disk fuel g = (l.take (i + 1)).reverse := by
  intro i
  induction i with
  | zero =>
    intro g hg fuel hf
    obtain ⟨f, rfl⟩ := Nat.exists_eq_add_one_of_ne_zero (Nat.ne_of_gt hf)
    have hlk := Linked_take [] l 1 r.linked
    rw [take_succ_of_getElem? l 0 g hg] at hlk ⊢
    have hget : getGroupById c.disk g.pre = none := by rw [hlk.1, getGroupById, r.empty]
    simp only [iterWalk, hget]
    rfl
  | succ i ih =>
    intro g hg fuel hf
    obtain ⟨f, rfl⟩ := Nat.exists_eq_add_one_of_ne_zero (Nat.ne_of_gt (Nat.zero_lt_of_lt hf))
    have hi : i < l.length := Nat.lt_of_succ_lt (List.getElem?_eq_some_iff.mp hg).1
    have ha : l[i]? = some l[i] := List.getElem?_eq_getElem hi
    -- the predecessor link of `g`, read off the prefix that ends with `g`
    have hlk := Linked_take [] l (i + 1 + 1) r.linked
    rw [take_succ_of_getElem? l (i + 1) g hg] at hlk ⊢
    have hget : getGroupById c.disk g.pre = some l[i] := by
      rw [((Linked_snoc _ _ _).mp hlk).2, take_succ_of_getElem? l i _ ha, List.getLast?_concat]
      exact r.byId (List.getElem_mem hi)
    rw [List.reverse_append]
    simp only [iterWalk, hget, ih l[i] ha f (Nat.lt_of_succ_lt_succ hf)]
    rfl

/-- The fuel of the iterator suffices: the listed ids are distinct keys of the store. -/
theorem Rep.length_le_disk {l c} (r : Rep l c) : l.length ≤ c.disk.length := by
  have := r.nodup.length_le_of_subset (l₂ := c.disk.map (·.1)) (fun k hk => by
    obtain ⟨x, hx, rfl⟩ := List.mem_map.mp hk
    exact List.mem_map.mpr ⟨_, mem_of_sget (r.stored x hx), rfl⟩)
  rwa [List.length_map, List.length_map] at this

theorem iterList_rep {l : List Group} {c : Chain} (r : Rep l c) : iterList c = l.reverse := by
  have hp := r.pos
  rw [iterList, iterWalk_rep r (l.length - 1) c.last r.last_idx (c.disk.length + 1)
    (by have := r.length_le_disk; omega), List.take_of_length_le (by omega)]

/-- The groups `gs` as `save` leaves them when they are appended one after the other to a chain of `n` groups: stamped
    with the heights `n`, `n + 1`, … -/
def stampFrom : Nat → List Group → List Group
  | _, [] => []
  | n, g :: t => stamped n g :: stampFrom (n + 1) t

theorem stampFrom_length (n : Nat) (gs : List Group) : (stampFrom n gs).length = gs.length := by
  induction gs generalizing n with
  | nil => rfl
  | cons g t ih => simp [stampFrom, ih]

/-- What start-up needs of `GenerateGenesisInfo()`: non-empty, predecessor-linked from the
    empty id, distinct proper ids. (The built-in mainnet/dev/robin configurations have one
    genesis group with `PreGroup = null`.) -/
structure GenesisOK (gs : List Group) : Prop where
  ne : gs ≠ []
  linked : Linked [] gs
  nodup : (gs.map (·.id)).Nodup
  idok : ∀ g ∈ gs, IdOK g.id
  bound : gs.length < lenBound

/-- A store that holds nothing, or only (a previous attempt's) JSON of the first genesis group. -/
def FreshFor (g0 : Group) (d : Store) : Prop := ∀ k, k ≠ g0.id → sget d k = none

theorem FreshFor.listed {g : Group} {d : Store} (hd : FreshFor g d) (hid : IdOK g.id) : Listed [] d where
  bound := by decide
  slot := fun _ _ h => by simp at h
  stored := fun _ h => nomatch h
  height := fun _ _ h => by simp at h
  idok := fun _ h => nomatch h
  above := fun i _ _ _ => hd _ (fun e => hid.ne_hkey i e.symm)
  linked := trivial
  nodup := List.nodup_nil
  empty := hd _ hid.1.symm

theorem rep_save_first {g : Group} {c : Chain} (hd : FreshFor g c.disk) (hc : c.count = 0) (hid : IdOK g.id)
    (hpre : g.pre = []) : Rep [stamped 0 g] (save c g) :=
  rep_save_of_listed (hd.listed hid) hc g (by decide) hid (fun _ h => (nomatch h)) hpre

/-- What the run `gs.foldl save c` needs in order to keep `Rep` on a chain representing `l` (`foldl_save_keeps`).  The
    genesis groups after the first are such a run (`GenesisOK.savable`), and so is every tail of one (`Savable.tail`),
    along which `saveAllB_crash` follows a run up to the cut. -/
structure Savable (l : List Group) (c : Chain) (gs : List Group) : Prop where
  linked : Linked c.last.id gs
  idok : ∀ g ∈ gs, IdOK g.id
  nodup : (l.map (·.id) ++ gs.map (·.id)).Nodup
  bound : l.length + gs.length < lenBound

theorem Savable.rep_save {l : List Group} {c : Chain} {g : Group} {t : List Group} (h : Savable l c (g :: t))
    (r : Rep l c) : Rep (l ++ [stamped l.length g]) (save c g) :=
  GroupChain.rep_save r g (by have := h.bound; rw [List.length_cons] at this; omega)
    (h.idok g (List.mem_cons_self ..)) (fresh_of_nodup h.nodup) h.linked.1

theorem Savable.tail {l : List Group} {c : Chain} {g : Group} {t : List Group} (h : Savable l c (g :: t)) :
    Savable (l ++ [stamped l.length g]) (save c g) t where
  linked := h.linked.2
  idok := fun x hx => h.idok x (List.mem_cons_of_mem _ hx)
  nodup := by rw [List.map_append, List.append_assoc]; exact h.nodup
  bound := by rw [List.length_append, List.length_singleton, Nat.add_assoc, Nat.add_comm 1]; exact h.bound

theorem GenesisOK.savable {g0 : Group} {rest : List Group} (ok : GenesisOK (g0 :: rest)) (c : Chain) :
    Savable [stamped 0 g0] (save c g0) rest where
  linked := ok.linked.2
  idok := fun x hx => ok.idok x (List.mem_cons_of_mem _ hx)
  nodup := ok.nodup
  bound := by rw [List.length_singleton, Nat.add_comm]; exact ok.bound

theorem foldl_save_keeps {Q} (hQ : SideInv Q) : ∀ (gs : List Group) (l : List Group) (c : Chain), Rep l c → Q l c →
    Savable l c gs →
    Rep (l ++ stampFrom l.length gs) (gs.foldl save c) ∧ Q (l ++ stampFrom l.length gs) (gs.foldl save c) := by
  intro gs
  induction gs with
  | nil => intro l c r q _; rw [stampFrom, List.append_nil]; exact ⟨r, q⟩
  | cons g t ih =>
    intro l c r q hs
    have := ih _ _ (hs.rep_save r) (hQ.save g r q (fresh_of_nodup hs.nodup)) hs.tail
    simpa [stampFrom, List.append_assoc] using this

theorem boot_fresh_keeps {Q} (hQ : SideInv Q) {g0 : Group} {rest : List Group} (ok : GenesisOK (g0 :: rest))
    (d : Store) (m : List Bytes) (hd : FreshFor g0 d)
    (q0 : Q [stamped 0 g0] (save { disk := d, count := 0, last := g0, mirror := m } g0)) :
    ∃ c, restart d m (g0 :: rest) = some (.alive c) ∧ Rep (stampFrom 0 (g0 :: rest)) c ∧
      Q (stampFrom 0 (g0 :: rest)) c := by
  have hid : IdOK g0.id := ok.idok g0 (by simp)
  have hcur : sget d curKey = none := hd curKey hid.ne_curKey.symm
  exact ⟨_, by simp only [restart, hcur, List.foldl_cons], foldl_save_keeps hQ rest [stamped 0 g0] _
    (rep_save_first hd rfl hid ok.linked.1) q0 (ok.savable _)⟩

theorem rep_init_fresh {g0 : Group} {rest : List Group} (ok : GenesisOK (g0 :: rest)) (d : Store)
    (m : List Bytes) (hd : FreshFor g0 d) :
    ∃ c, restart d m (g0 :: rest) = some (.alive c) ∧ Rep (stampFrom 0 (g0 :: rest)) c := by
  obtain ⟨c, h, r, _⟩ := boot_fresh_keeps SideInv.trivial ok d m hd trivial
  exact ⟨c, h, r⟩

/-- The operations of a run: `AddGroup`, `remove` of the last group, `removeFromCommonAncestor` down to height `h`,
    a process restart. -/
inductive Op where
  | add (g : Group)
  | rmlast
  | rmto (h : Nat)
  | restart

/-- One operation on a live chain; `none` only if start-up does not come back alive. -/
def stepOp (gen : List Group) (c : Chain) : Op → Option Chain
  | .add g => some (addGroup c g).2
  | .rmlast => some (remove c c.last).2
  | .rmto h => some (rmTo c h)
  | .restart =>
    match restart c.disk c.mirror gen with
    | some (.alive c') => some c'
    | _ => none

def runOps (gen : List Group) : Chain → List Op → Option Chain
  | c, [] => some c
  | c, op :: ops =>
    match stepOp gen c op with
    | some c' => runOps gen c' ops
    | none => none

/-- The list after one operation.  Whether an `add` appends is decided by the implementation's own `addCheck` on the
    concrete chain, not by a condition on the list; what `addCheck` demands is `Props.C19.add_requires`. -/
def specStep (l : List Group) (c : Chain) : Op → List Group
  | .add g => if addCheck c g = .ok then l ++ [stamped l.length g] else l
  | .rmlast => if 2 ≤ l.length then l.dropLast else l
  | .rmto h => l.take (h + 1)
  | .restart => l

def OpOK : Op → Prop
  | .add g => IdOK g.id
  | _ => True

theorem step_keeps {Q} (hQ : SideInv Q) {l : List Group} {c : Chain} (r : Rep l c) (q : Q l c) (gen : List Group)
    (op : Op) (hok : OpOK op) (hb : l.length + 1 < lenBound) :
    ∃ c', stepOp gen c op = some c' ∧ Rep (specStep l c op) c' ∧ Q (specStep l c op) c' := by
  cases op with
  | add g =>
    refine ⟨(addGroup c g).2, rfl, ?_⟩
    rw [specStep]
    by_cases h : addCheck c g = .ok
    · have ha := rep_add r g hb hok h
      rw [if_pos h, ha.1]; exact ⟨ha.2, hQ.save g r q (fresh_of_addCheck r h)⟩
    · rw [if_neg h, addGroup_rejected h]; exact ⟨r, q⟩
  | rmlast =>
    refine ⟨(remove c c.last).2, rfl, ?_⟩
    rw [specStep]
    by_cases h2 : 2 ≤ l.length
    · obtain ⟨l', rfl⟩ : ∃ l', l = l' ++ [c.last] := ⟨_, r.eq_snoc⟩
      have hne : l' ≠ [] := fun e => by simp [e] at h2
      rw [if_pos h2, List.dropLast_concat]
      exact ⟨(rep_remove r hne).2, hQ.remove r hne q⟩
    · obtain ⟨g, rfl⟩ : ∃ g, l = [g] := List.length_eq_one_iff.mp (by have := r.pos; omega)
      rw [if_neg h2, remove_single r]; exact ⟨r, q⟩
  | rmto h => exact ⟨rmTo c h, rfl, rmTo_keeps hQ r q h⟩
  | restart =>
    obtain ⟨c', h1, _, _, _, h5⟩ := rep_restart r c.mirror gen
    exact ⟨c', by simp only [stepOp, h1], h5, hQ.restart gen r q h1⟩

theorem specStep_length (l : List Group) (c : Chain) (op : Op) : (specStep l c op).length ≤ l.length + 1 := by
  cases op with
  | add g =>
    rw [specStep]
    split
    · rw [List.length_append]; exact Nat.le_refl _
    · exact Nat.le_succ _
  | rmlast =>
    rw [specStep]
    split
    · rw [List.length_dropLast]; exact Nat.le_trans (Nat.sub_le _ _) (Nat.le_succ _)
    · exact Nat.le_succ _
  | rmto h => exact Nat.le_trans (List.length_take_le' _ _) (Nat.le_succ _)
  | restart => exact Nat.le_succ _

theorem specStep_head (l : List Group) (c : Chain) (op : Op) (hne : l ≠ []) :
    (specStep l c op).head? = l.head? := by
  cases l with
  | nil => exact absurd rfl hne
  | cons a t =>
    cases op with
    | add g => simp only [specStep]; split <;> simp
    | rmlast =>
      simp only [specStep]; split
      · cases t with
        | nil => simp at *
        | cons b t' => simp [List.dropLast]
      · rfl
    | rmto h => simp [specStep]
    | restart => rfl

theorem run_keeps {Q} (hQ : SideInv Q) (gen : List Group) : ∀ (ops : List Op) (l : List Group) (c : Chain),
    Rep l c → Q l c → (∀ op ∈ ops, OpOK op) → l.length + ops.length < lenBound →
    ∃ c' l', runOps gen c ops = some c' ∧ Rep l' c' ∧ Q l' c' ∧ l'.head? = l.head? := by
  intro ops
  induction ops with
  | nil => intro l c r q _ _; exact ⟨c, l, rfl, r, q, rfl⟩
  | cons op ops ih =>
    intro l c r q hok hb
    rw [List.length_cons] at hb
    obtain ⟨c1, h1, r1, q1⟩ := step_keeps hQ r q gen op (hok op (by simp)) (by omega)
    have hl := specStep_length l c op
    obtain ⟨c', l', h2, r2, q2, hh⟩ := ih (specStep l c op) c1 r1 q1 (fun o ho => hok o (by simp [ho])) (by omega)
    exact ⟨c', l', by simp only [runOps, h1, h2], r2, q2, hh.trans (specStep_head l c op r.ne)⟩

theorem rep_run (gen : List Group) (ops : List Op) (l : List Group) (c : Chain) (r : Rep l c)
    (hok : ∀ op ∈ ops, OpOK op) (hb : l.length + ops.length < lenBound) :
    ∃ c' l', runOps gen c ops = some c' ∧ Rep l' c' ∧ l'.head? = l.head? := by
  obtain ⟨c', l', h, r', _, hh⟩ := run_keeps SideInv.trivial gen ops l c r trivial hok hb
  exact ⟨c', l', h, r', hh⟩

end Rangers.Model.GroupChain
