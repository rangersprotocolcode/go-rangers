import Mathlib.AlgebraicGeometry.EllipticCurve.Affine.Point
/-!
Chord and tangent on a curve `y² = x³ + b` over any field: what Mathlib's `slope`, `addX`, `addY`
come to when `a₁ = a₂ = a₃ = a₄ = 0`, and the affine chord-and-tangent arithmetic on `Option (L × L)`
(`none` = infinity) that every point representation of the model maps into — G1 over `ZMod p`, the twist
over GF(p²), the Jacobian triples of `curve.go`. On the points of such a curve it is Mathlib's group law
(`pointOf_neg`, `pointOf_double`, `pointOf_add`); a representation only has to show that its image
commutes with its operations.
-/
namespace Rangers.Proofs.Bls14
open WeierstrassCurve.Affine

variable {L : Type*} [Field L] {E : WeierstrassCurve.Affine L}

def Short (E : WeierstrassCurve.Affine L) : Prop := E.a₁ = 0 ∧ E.a₂ = 0 ∧ E.a₃ = 0 ∧ E.a₄ = 0

theorem Short.equation_iff (h : Short E) (x y : L) : E.Equation x y ↔ y ^ 2 = x ^ 3 + E.a₆ := by
  rw [WeierstrassCurve.Affine.equation_iff, h.1, h.2.1, h.2.2.1, h.2.2.2]
  simp only [zero_mul, add_zero]

theorem Short.Δ (h : Short E) : E.Δ = -(432 * E.a₆ ^ 2) := by
  rw [WeierstrassCurve.Δ, WeierstrassCurve.b₂, WeierstrassCurve.b₄, WeierstrassCurve.b₆,
    WeierstrassCurve.b₈, h.1, h.2.1, h.2.2.1, h.2.2.2]
  ring

theorem Short.negY (h : Short E) (X Y : L) : E.negY X Y = -Y := by
  rw [WeierstrassCurve.Affine.negY, h.1, h.2.2.1, zero_mul, sub_zero, sub_zero]

theorem Short.ne_negY (h : Short E) (h2 : (2 : L) ≠ 0) (x : L) {y : L} (hy : y ≠ 0) : y ≠ E.negY x y := by
  rw [h.negY, Ne, eq_neg_iff_add_eq_zero, ← two_mul, mul_eq_zero]
  exact not_or.mpr ⟨h2, hy⟩

theorem Short.addX (h : Short E) (x1 x2 l : L) : E.addX x1 x2 l = l ^ 2 - x1 - x2 := by
  rw [WeierstrassCurve.Affine.addX, h.1, h.2.1, zero_mul, add_zero, sub_zero]

theorem Short.addY (h : Short E) (x1 x2 y1 l : L) :
    E.addY x1 x2 y1 l = l * (x1 - (l ^ 2 - x1 - x2)) - y1 := by
  rw [WeierstrassCurve.Affine.addY, h.negY, WeierstrassCurve.Affine.negAddY, h.addX]
  ring

theorem slope_chord [DecidableEq L] {x1 x2 : L} (y1 y2 : L) (hx : x1 ≠ x2) :
    E.slope x1 x2 y1 y2 = (y2 - y1) / (x2 - x1) := by
  rw [slope_of_X_ne hx, ← neg_sub y2 y1, ← neg_sub x2 x1, neg_div_neg_eq]

theorem Short.slope_tangent [DecidableEq L] (h : Short E) (x : L) {y : L} (hy : y ≠ E.negY x y) :
    E.slope x x y y = 3 * x ^ 2 / (2 * y) := by
  rw [slope_of_Y_ne rfl hy, h.negY, h.1, h.2.1, h.2.2.2, sub_neg_eq_add, ← two_mul, mul_zero,
    zero_mul, zero_mul, add_zero, add_zero, sub_zero]

/-- `Δ = −432 b²`, and `432 = 2 · 216`. -/
theorem Short.two_ne_zero (h : Short E) (hΔ : E.Δ ≠ 0) : (2 : L) ≠ 0 := by
  intro h2
  apply hΔ
  rw [h.Δ, show (432 : L) = 2 * 216 by norm_num, h2, zero_mul, zero_mul, neg_zero]

/-- The third point of the line with slope `l` through `(x1, y1)` and a point with abscissa `x2`,
    reflected: the common shape of the chord and the tangent rule. -/
def lineF (l x1 x2 y1 : L) : L × L :=
  (l ^ 2 - x1 - x2, l * (x1 - (l ^ 2 - x1 - x2)) - y1)

def negF : Option (L × L) → Option (L × L)
  | none => none
  | some (x, y) => some (x, -y)

def OnF (E : WeierstrassCurve.Affine L) : Option (L × L) → Prop
  | none => True
  | some (x, y) => E.Equation x y

open Classical in
/-- The point of `E` an affine pair stands for. A pair off the curve stands for 0 (no valid value is one). -/
noncomputable def pointOf (hΔ : E.Δ ≠ 0) : Option (L × L) → E.Point
  | none => 0
  | some (x, y) =>
    if h : E.Equation x y then .some _ _ ((equation_iff_nonsingular_of_Δ_ne_zero hΔ).mp h) else 0

theorem pointOf_some (hΔ : E.Δ ≠ 0) {x y : L} (h : E.Equation x y) :
    pointOf hΔ (some (x, y)) = .some _ _ ((equation_iff_nonsingular_of_Δ_ne_zero hΔ).mp h) :=
  dif_pos h

theorem pointOf_inj (hΔ : E.Δ ≠ 0) {p q : Option (L × L)} (hp : OnF E p) (hq : OnF E q)
    (h : pointOf hΔ p = pointOf hΔ q) : p = q := by
  rcases p with _ | ⟨x, y⟩ <;> rcases q with _ | ⟨x', y'⟩
  · rfl
  · rw [pointOf_some hΔ hq] at h
    exact absurd h.symm (Point.some_ne_zero _)
  · rw [pointOf_some hΔ hp] at h
    exact absurd h (Point.some_ne_zero _)
  · rw [pointOf_some hΔ hp, pointOf_some hΔ hq] at h
    injection h with hx hy
    rw [hx, hy]

variable [DecidableEq L]

def doubleF : Option (L × L) → Option (L × L)
  | none => none
  | some (x, y) => if y = 0 then none else some (lineF (3 * x ^ 2 / (2 * y)) x x y)

def addF : Option (L × L) → Option (L × L) → Option (L × L)
  | none, q => q
  | some p, none => some p
  | some (x1, y1), some (x2, y2) =>
    if x1 = x2 then (if y1 = y2 then doubleF (some (x1, y1)) else none)
    else some (lineF ((y2 - y1) / (x2 - x1)) x1 x2 y1)

theorem pointOf_neg (hs : Short E) (hΔ : E.Δ ≠ 0) {p : Option (L × L)} (hp : OnF E p) :
    OnF E (negF p) ∧ pointOf hΔ (negF p) = -pointOf hΔ p := by
  rcases p with _ | ⟨x, y⟩
  · exact ⟨trivial, neg_zero.symm⟩
  · have hn : E.Equation x (-y) := by rw [← hs.negY x y]; exact (equation_neg x y).mpr hp
    refine ⟨hn, ?_⟩
    rw [negF, pointOf_some hΔ hn, pointOf_some hΔ hp, Point.neg_some]
    congr 1
    exact (hs.negY x y).symm

theorem pointOf_line (hs : Short E) (hΔ : E.Δ ≠ 0) {x1 y1 x2 y2 l : L} (h1 : E.Equation x1 y1)
    (h2 : E.Equation x2 y2) (hxy : ¬(x1 = x2 ∧ y1 = E.negY x2 y2)) (hl : E.slope x1 x2 y1 y2 = l) :
    OnF E (some (lineF l x1 x2 y1)) ∧
      pointOf hΔ (some (lineF l x1 x2 y1)) = pointOf hΔ (some (x1, y1)) + pointOf hΔ (some (x2, y2)) := by
  have hn := nonsingular_add ((equation_iff_nonsingular_of_Δ_ne_zero hΔ).mp h1)
    ((equation_iff_nonsingular_of_Δ_ne_zero hΔ).mp h2) hxy
  have he : lineF l x1 x2 y1 = (E.addX x1 x2 l, E.addY x1 x2 y1 l) := by rw [hs.addX, hs.addY, lineF]
  rw [he, pointOf_some hΔ h1, pointOf_some hΔ h2, Point.add_some hxy, ← hl]
  exact ⟨hn.1, pointOf_some hΔ hn.1⟩

theorem pointOf_double (hs : Short E) (hΔ : E.Δ ≠ 0) {p : Option (L × L)} (hp : OnF E p) :
    OnF E (doubleF p) ∧ pointOf hΔ (doubleF p) = pointOf hΔ p + pointOf hΔ p := by
  rcases p with _ | ⟨x, y⟩
  · exact ⟨trivial, (add_zero _).symm⟩
  · by_cases hy : y = 0
    · have hY : y = E.negY x y := by rw [hs.negY, hy, neg_zero]
      rw [doubleF, if_pos hy, pointOf_some hΔ hp, Point.add_self_of_Y_eq hY]
      exact ⟨trivial, rfl⟩
    · have hY : y ≠ E.negY x y := hs.ne_negY (hs.two_ne_zero hΔ) x hy
      rw [doubleF, if_neg hy]
      exact pointOf_line hs hΔ hp hp (fun h => hY h.2) (hs.slope_tangent x hY)

theorem pointOf_add (hs : Short E) (hΔ : E.Δ ≠ 0) {p q : Option (L × L)} (hp : OnF E p) (hq : OnF E q) :
    OnF E (addF p q) ∧ pointOf hΔ (addF p q) = pointOf hΔ p + pointOf hΔ q := by
  rcases p with _ | ⟨x1, y1⟩
  · exact ⟨hq, (zero_add _).symm⟩
  rcases q with _ | ⟨x2, y2⟩
  · exact ⟨hp, (add_zero _).symm⟩
  by_cases hx : x1 = x2
  · by_cases hy : y1 = y2
    · subst hx hy
      rw [addF, if_pos rfl, if_pos rfl]
      exact pointOf_double hs hΔ hp
    · have hneg : y1 = E.negY x2 y2 := (Y_eq_of_X_eq hp hq hx).resolve_left hy
      rw [addF, if_pos hx, if_neg hy, pointOf_some hΔ hp, pointOf_some hΔ hq, Point.add_of_Y_eq hx hneg]
      exact ⟨trivial, rfl⟩
  · rw [addF, if_neg hx]
    exact pointOf_line hs hΔ hp hq (fun h => hx h.1) (slope_chord y1 y2 hx)

end Rangers.Proofs.Bls14
