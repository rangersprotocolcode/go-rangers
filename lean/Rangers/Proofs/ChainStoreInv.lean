import Rangers.Model.ChainStore
/-!
Invariants of the block store model at the level of the disk: `ChainInv`, the quiescent-point clause
of C05, `Pending`, the states a process death inside a marked step leaves behind, and the lemmas that lead from one
to the other write by write.
-/
namespace Rangers.Proofs.ChainStore
open Rangers.Model.ChainStore

@[simp] theorem upd_same {α} (m : Map α) (k : Nat) (v : Option α) : upd m k v k = v := by simp [upd]
theorem upd_other {α} (m : Map α) {k x : Nat} (v : Option α) (h : x ≠ k) : upd m k v x = m x := by simp [upd, h]
@[simp] theorem updB_same (m : Nat → Bool) (k : Nat) (v : Bool) : updB m k v k = v := by simp [updB]
theorem updB_other (m : Nat → Bool) {k x : Nat} (v : Bool) (h : x ≠ k) : updB m k v x = m x := by simp [updB, h]

theorem upd_eq_some {α} {m : Map α} {k x : Nat} {v : Option α} {a : α} (h : upd m k v x = some a) :
    (x = k ∧ v = some a) ∨ (x ≠ k ∧ m x = some a) := by
  unfold upd at h
  by_cases hx : x = k
  · simp [hx] at h; exact Or.inl ⟨hx, h⟩
  · simp [hx] at h; exact Or.inr ⟨hx, h⟩

theorem updB_eq_true {m : Nat → Bool} {k x : Nat} {v : Bool} (h : updB m k v x = true) :
    (x = k ∧ v = true) ∨ (x ≠ k ∧ m x = true) := by
  unfold updB at h
  by_cases hx : x = k
  · simp [hx] at h; exact Or.inl ⟨hx, h⟩
  · simp [hx] at h; exact Or.inr ⟨hx, h⟩

theorem foldl_delExecuted (txs : List Nat) (d : Disk) : (txs.map Write.delExecuted).foldl Disk.apply d =
    { d with executed := fun t => if t ∈ txs then none else d.executed t } := by
  induction txs generalizing d with
  | nil => simp
  | cons a ts ih =>
    rw [List.map_cons, List.foldl_cons, ih]
    show { d with executed := _ } = _
    congr 1
    funext t
    by_cases h : t ∈ ts
    · rw [if_pos h, if_pos (List.mem_cons_of_mem _ h)]
    · rw [if_neg h]
      by_cases e : t = a
      · rw [if_pos (e ▸ List.mem_cons_self ..), e]; exact upd_same ..
      · rw [if_neg (fun h' => (List.mem_cons.mp h').elim e h)]; exact upd_other _ _ e

/-- chains are written head first; the last block is genesis -/
def Linked : List Block → Prop
  | [] => False
  | [g] => g.height = 0
  | x :: y :: rest => x.pre = y.hash ∧ y.height < x.height ∧ Linked (y :: rest)

theorem Linked.exists_head {c : List Block} (h : Linked c) : ∃ y, c.head? = some y := by
  cases c with
  | nil => exact h.elim
  | cons y rest => exact ⟨y, rfl⟩

theorem Linked.tail {x : Block} {c : List Block} (h : Linked (x :: c)) (hc : c ≠ []) : Linked c := by
  cases c with
  | nil => exact absurd rfl hc
  | cons y rest => exact h.2.2

theorem Linked.lt_head : ∀ {c : List Block} {x : Block}, Linked (x :: c) → ∀ y ∈ c, y.height < x.height
  | [], _, _, _, hy => by cases hy
  | z :: rest, x, h, y, hy => by
    have hz : z.height < x.height := h.2.1
    cases hy with
    | head => exact hz
    | tail _ hy' => exact Nat.lt_trans (Linked.lt_head (c := rest) (x := z) h.2.2 y hy') hz

theorem Linked.le_head {c : List Block} {x : Block} (h : Linked (x :: c)) : ∀ y ∈ x :: c, y.height ≤ x.height := by
  intro y hy
  cases hy with
  | head => exact Nat.le_refl _
  | tail _ hy' => exact Nat.le_of_lt (h.lt_head y hy')

theorem Linked.cons {x y : Block} {rest : List Block} (h : Linked (y :: rest)) (hp : x.pre = y.hash)
    (hh : y.height < x.height) : Linked (x :: y :: rest) := ⟨hp, hh, h⟩

def TxDisj (c : List Block) : Prop := c.Pairwise (fun x y => ∀ t ∈ x.txs, t ∉ y.txs)

/-- The quiescent-point clause of C05 for disk `d` with canonical chain `c` (head first), including the
    pool clause: the executed store marks exactly the transactions of the chain's blocks. -/
structure ChainInv (d : Disk) (c : List Block) : Prop where
  linked : Linked c
  cur : d.current = c.head?
  blocks_mem : ∀ x ∈ c, d.blocks x.hash = some x
  heights_mem : ∀ x ∈ c, d.heights x.height = some x
  blocks_only : ∀ h x, d.blocks h = some x → x ∈ c ∧ x.hash = h
  heights_only : ∀ n x, d.heights n = some x → x ∈ c ∧ x.height = n
  verify_mem : ∀ x ∈ c, d.verify x.height = true
  verify_only : ∀ n, d.verify n = true → ∃ x ∈ c, x.height = n
  roots : ∀ x ∈ c, d.roots x.hash = true
  noAdd : d.addMark = none
  noRemove : d.removeMark = none
  exec_mem : ∀ x ∈ c, ∀ t ∈ x.txs, d.executed t = some x.hash
  exec_only : ∀ t h, d.executed t = some h → ∃ x ∈ c, x.hash = h ∧ t ∈ x.txs
  txdisj : TxDisj c

/-- Chain `c` plus any part of one child `x` of its head, under an intent mark for `x`: every state a process death
    inside `insertBlock`, `remove` or the start-up repair can leave behind. -/
structure Pending (d : Disk) (c : List Block) (x : Block) : Prop where
  linked : Linked c
  child : ∃ y, c.head? = some y ∧ x.pre = y.hash ∧ y.height < x.height
  fresh : ∀ y ∈ c, y.hash ≠ x.hash
  cur : d.current = c.head? ∨ d.current = some x
  blocks_mem : ∀ y ∈ c, d.blocks y.hash = some y
  heights_mem : ∀ y ∈ c, d.heights y.height = some y
  blocks_only : ∀ h z, d.blocks h = some z → (z ∈ c ∨ z = x) ∧ z.hash = h
  heights_only : ∀ n z, d.heights n = some z → (z ∈ c ∨ z = x) ∧ z.height = n
  verify_mem : ∀ y ∈ c, d.verify y.height = true
  verify_only : ∀ n, d.verify n = true → (∃ y ∈ c, y.height = n) ∨ n = x.height
  roots : ∀ y ∈ c, d.roots y.hash = true
  addMark : d.addMark = none ∨ d.addMark = some x
  removeMark : d.removeMark = none ∨ d.removeMark = some x
  marked : d.addMark = some x ∨ d.removeMark = some x
  exec_mem : ∀ y ∈ c, ∀ t ∈ y.txs, d.executed t = some y.hash
  exec_only : ∀ t h, d.executed t = some h → (∃ y ∈ c, y.hash = h ∧ t ∈ y.txs) ∨ (h = x.hash ∧ t ∈ x.txs)
  txfresh : ∀ y ∈ c, ∀ t ∈ x.txs, t ∉ y.txs
  txdisj : TxDisj c

/-- What start-up repair can handle. -/
def Rec (d : Disk) : Prop := (∃ c, ChainInv d c) ∨ (∃ c x, Pending d c x)

/-- recoverable to the chain `c`: start-up repair ends with `ChainInv · c` (`restart_spec`) -/
def RecTo (d : Disk) (c : List Block) : Prop := ChainInv d c ∨ ∃ x, Pending d c x

theorem RecTo.rec {d : Disk} {c : List Block} (h : RecTo d c) : Rec d := by
  cases h with
  | inl h => exact Or.inl ⟨c, h⟩
  | inr h => obtain ⟨x, hx⟩ := h; exact Or.inr ⟨c, x, hx⟩

theorem Pending.lt_x {d : Disk} {c : List Block} {x : Block} (p : Pending d c x) : ∀ y ∈ c, y.height < x.height := by
  obtain ⟨y0, hy0, _, hlt⟩ := p.child
  obtain ⟨rest, rfl⟩ := List.head?_eq_some_iff.mp hy0
  exact fun y hy => Nat.lt_of_le_of_lt (p.linked.le_head y hy) hlt

theorem Pending.x_not_mem {d : Disk} {c : List Block} {x : Block} (p : Pending d c x) : x ∉ c := by
  exact fun hx => Nat.lt_irrefl _ (p.lt_x x hx)

theorem Pending.parent {d : Disk} {c : List Block} {x : Block} (p : Pending d c x) :
    ∃ y, c.head? = some y ∧ d.blocks x.pre = some y := by
  obtain ⟨y, hy, hp, _⟩ := p.child
  exact ⟨y, hy, hp ▸ p.blocks_mem y (List.mem_of_mem_head? hy)⟩

theorem ChainInv.height_inj {d : Disk} {c : List Block} (ci : ChainInv d c) {x y : Block} (hx : x ∈ c) (hy : y ∈ c)
    (h : x.height = y.height) : x = y := by
  have a := ci.heights_mem x hx
  rw [h, ci.heights_mem y hy] at a
  exact (Option.some.inj a).symm

/-- the writes `insertBlock x`, `remove x` and the start-up repair of `x` perform, other than erasing a mark -/
inductive About (c : List Block) (x : Block) : Write → Prop where
  | putAddMark : About c x (.putAddMark x)
  | putRemoveMark : About c x (.putRemoveMark x)
  | putBlock : About c x (.putBlock x)
  | delBlock : About c x (.delBlock x.hash)
  | putHeight : About c x (.putHeight x.height x)
  | delHeight : About c x (.delHeight x.height)
  | putVerify : About c x (.putVerify x.height)
  | delVerify : About c x (.delVerify x.height)
  | putCurrentX : About c x (.putCurrent x)
  | putCurrentHead (y : Block) (h : c.head? = some y) : About c x (.putCurrent y)
  | commitState : About c x (.commitState x.hash)
  | putExecuted : About c x (.putExecuted x.txs x.hash)
  | delExecuted (t : Nat) (ht : t ∈ x.txs) : About c x (.delExecuted t)

theorem Pending.setBlock {d : Disk} {c : List Block} {x : Block} (p : Pending d c x) {v : Option Block}
    (hv : v = none ∨ v = some x) : Pending { d with blocks := upd d.blocks x.hash v } c x :=
  { p with
    blocks_mem := fun y hy => (upd_other _ _ (p.fresh y hy)).trans (p.blocks_mem y hy)
    blocks_only := fun h z hz => by
      rcases upd_eq_some hz with ⟨hk, hz⟩ | ⟨_, hm⟩
      · rcases hv with rfl | rfl
        · cases hz
        · cases hz; exact ⟨Or.inr rfl, hk.symm⟩
      · exact p.blocks_only h z hm }

theorem Pending.setHeight {d : Disk} {c : List Block} {x : Block} (p : Pending d c x) {v : Option Block}
    (hv : v = none ∨ v = some x) : Pending { d with heights := upd d.heights x.height v } c x :=
  { p with
    heights_mem := fun y hy => (upd_other _ _ (Nat.ne_of_lt (p.lt_x y hy))).trans (p.heights_mem y hy)
    heights_only := fun n z hz => by
      rcases upd_eq_some hz with ⟨hk, hz⟩ | ⟨_, hm⟩
      · rcases hv with rfl | rfl
        · cases hz
        · cases hz; exact ⟨Or.inr rfl, hk.symm⟩
      · exact p.heights_only n z hm }

theorem Pending.setVerify {d : Disk} {c : List Block} {x : Block} (p : Pending d c x) (v : Bool) :
    Pending { d with verify := updB d.verify x.height v } c x :=
  { p with
    verify_mem := fun y hy => (updB_other _ _ (Nat.ne_of_lt (p.lt_x y hy))).trans (p.verify_mem y hy)
    verify_only := fun n hn => by
      rcases updB_eq_true hn with ⟨hk, _⟩ | ⟨_, hm⟩
      · exact Or.inr hk
      · exact p.verify_only n hm }

theorem Pending.write {d : Disk} {c : List Block} {x : Block} (p : Pending d c x) {w : Write}
    (hw : About c x w) : Pending (d.apply w) c x := by
  cases hw with
  | putAddMark => exact { p with addMark := Or.inr rfl, marked := Or.inl rfl }
  | putRemoveMark => exact { p with removeMark := Or.inr rfl, marked := Or.inr rfl }
  | putBlock => exact p.setBlock (Or.inr rfl)
  | delBlock => exact p.setBlock (Or.inl rfl)
  | putHeight => exact p.setHeight (Or.inr rfl)
  | delHeight => exact p.setHeight (Or.inl rfl)
  | putVerify => exact p.setVerify true
  | delVerify => exact p.setVerify false
  | putCurrentX => exact { p with cur := Or.inr rfl }
  | putCurrentHead y h => exact { p with cur := Or.inl h.symm }
  | commitState =>
    exact { p with roots := fun y hy => (updB_other _ _ (p.fresh y hy)).trans (p.roots y hy) }
  | putExecuted =>
    refine { p with exec_mem := fun y hy t ht => ?_, exec_only := fun t h hh => ?_ }
    · have : t ∉ x.txs := fun h => p.txfresh y hy t h ht
      exact (if_neg this).trans (p.exec_mem y hy t ht)
    · by_cases ht : t ∈ x.txs
      · exact Or.inr ⟨(Option.some.inj ((if_pos ht).symm.trans hh)).symm, ht⟩
      · exact p.exec_only t h ((if_neg ht).symm.trans hh)
  | delExecuted t0 ht0 =>
    refine { p with exec_mem := fun y hy t ht => ?_, exec_only := fun t h hh => ?_ }
    · have : t ≠ t0 := fun e => p.txfresh y hy t0 ht0 (e ▸ ht)
      exact (upd_other _ _ this).trans (p.exec_mem y hy t ht)
    · rcases upd_eq_some hh with ⟨_, hv⟩ | ⟨_, hm⟩
      · cases hv
      · exact p.exec_only t h hm

theorem ChainInv.begin_add {d : Disk} {c : List Block} {y b : Block} (ci : ChainInv d c)
    (hy : c.head? = some y) (hp : b.pre = y.hash) (hh : y.height < b.height) (hn : d.blocks b.hash = none)
    (hfresh : ∀ z ∈ c, ∀ t ∈ b.txs, t ∉ z.txs) :
    Pending (d.apply (.putAddMark b)) c b where
  linked := ci.linked
  child := ⟨y, hy, hp, hh⟩
  fresh := by
    intro z hz he
    have := ci.blocks_mem z hz
    rw [he, hn] at this; cases this
  cur := Or.inl ci.cur
  blocks_mem := ci.blocks_mem
  heights_mem := ci.heights_mem
  blocks_only := fun h z hz => ⟨Or.inl (ci.blocks_only h z hz).1, (ci.blocks_only h z hz).2⟩
  heights_only := fun n z hz => ⟨Or.inl (ci.heights_only n z hz).1, (ci.heights_only n z hz).2⟩
  verify_mem := ci.verify_mem
  verify_only := fun n hn => Or.inl (ci.verify_only n hn)
  roots := ci.roots
  addMark := Or.inr rfl
  removeMark := Or.inl ci.noRemove
  marked := Or.inl rfl
  exec_mem := ci.exec_mem
  exec_only := fun t h hh => Or.inl (ci.exec_only t h hh)
  txfresh := hfresh
  txdisj := ci.txdisj

theorem ChainInv.begin_remove {d : Disk} {c : List Block} {x : Block} (ci : ChainInv d (x :: c)) (hc : c ≠ []) :
    Pending (d.apply (.putRemoveMark x)) c x := by
  have hlt := ci.linked.lt_head
  obtain ⟨y, rest, rfl⟩ := List.exists_cons_of_ne_nil hc
  have hl : x.pre = y.hash ∧ y.height < x.height ∧ Linked (y :: rest) := ci.linked
  exact {
    linked := hl.2.2
    child := ⟨y, rfl, hl.1, hl.2.1⟩
    fresh := by
      intro z hz he
      have h1 := ci.blocks_mem z (List.mem_cons_of_mem _ hz)
      have h2 := ci.blocks_mem x (List.mem_cons_self ..)
      rw [he, h2] at h1
      have : x = z := by simpa using h1
      have := hlt z hz
      subst_vars; omega
    cur := Or.inr ci.cur
    blocks_mem := fun z hz => ci.blocks_mem z (List.mem_cons_of_mem _ hz)
    heights_mem := fun z hz => ci.heights_mem z (List.mem_cons_of_mem _ hz)
    blocks_only := fun h z hz => ⟨(List.mem_cons.mp (ci.blocks_only h z hz).1).symm, (ci.blocks_only h z hz).2⟩
    heights_only := fun n z hz => ⟨(List.mem_cons.mp (ci.heights_only n z hz).1).symm, (ci.heights_only n z hz).2⟩
    verify_mem := fun z hz => ci.verify_mem z (List.mem_cons_of_mem _ hz)
    verify_only := by
      intro n hn
      obtain ⟨z, hz, he⟩ := ci.verify_only n hn
      rcases List.mem_cons.mp hz with h1 | h1
      · subst h1; exact Or.inr he.symm
      · exact Or.inl ⟨z, h1, he⟩
    roots := fun z hz => ci.roots z (List.mem_cons_of_mem _ hz)
    addMark := Or.inl ci.noAdd
    removeMark := Or.inr rfl
    marked := Or.inr rfl
    exec_mem := fun z hz => ci.exec_mem z (List.mem_cons_of_mem _ hz)
    exec_only := by
      intro t h hh
      obtain ⟨z, hz, he, ht⟩ := ci.exec_only t h hh
      rcases List.mem_cons.mp hz with h1 | h1
      · subst h1; exact Or.inr ⟨he.symm, ht⟩
      · exact Or.inl ⟨z, h1, he, ht⟩
    txfresh := (List.pairwise_cons.mp ci.txdisj).1
    txdisj := (List.pairwise_cons.mp ci.txdisj).2 }

theorem Pending.finish_removed {d : Disk} {c : List Block} {x : Block} (p : Pending d c x)
    (hb : d.blocks x.hash = none) (hh : d.heights x.height = none) (hv : d.verify x.height = false)
    (hc : d.current = c.head?) (hx : ∀ t ∈ x.txs, d.executed t = none) :
    ChainInv { d with addMark := none, removeMark := none } c where
  linked := p.linked
  cur := hc
  blocks_mem := p.blocks_mem
  heights_mem := p.heights_mem
  blocks_only := by
    intro h z hz
    have := p.blocks_only h z hz
    refine ⟨?_, this.2⟩
    rcases this.1 with h1 | h1
    · exact h1
    · subst h1; rw [← this.2, hb] at hz; cases hz
  heights_only := by
    intro n z hz
    have := p.heights_only n z hz
    refine ⟨?_, this.2⟩
    rcases this.1 with h1 | h1
    · exact h1
    · subst h1; rw [← this.2, hh] at hz; cases hz
  verify_mem := p.verify_mem
  verify_only := by
    intro n hn
    rcases p.verify_only n hn with h1 | h1
    · exact h1
    · subst h1; rw [hv] at hn; cases hn
  roots := p.roots
  noAdd := rfl
  noRemove := rfl
  exec_mem := p.exec_mem
  exec_only := by
    intro t h hh
    rcases p.exec_only t h hh with h1 | ⟨_, ht⟩
    · exact h1
    · have := hx t ht
      have hh' : d.executed t = some h := hh
      rw [this] at hh'; cases hh'
  txdisj := p.txdisj

theorem Pending.finish_added {d : Disk} {c : List Block} {x : Block} (p : Pending d c x)
    (hb : d.blocks x.hash = some x) (hh : d.heights x.height = some x) (hv : d.verify x.height = true)
    (hs : d.roots x.hash = true) (hc : d.current = some x) (hx : ∀ t ∈ x.txs, d.executed t = some x.hash)
    (hr : d.removeMark = none) : ChainInv (d.apply .delAddMark) (x :: c) := by
  obtain ⟨y, hy, hp, hlt⟩ := p.child
  obtain ⟨rest, rfl⟩ := List.head?_eq_some_iff.mp hy
  exact {
    linked := ⟨hp, hlt, p.linked⟩
    cur := hc
    blocks_mem := List.forall_mem_cons.mpr ⟨hb, p.blocks_mem⟩
    heights_mem := List.forall_mem_cons.mpr ⟨hh, p.heights_mem⟩
    blocks_only := fun h z hz => ⟨List.mem_cons.mpr (p.blocks_only h z hz).1.symm, (p.blocks_only h z hz).2⟩
    heights_only := fun n z hz => ⟨List.mem_cons.mpr (p.heights_only n z hz).1.symm, (p.heights_only n z hz).2⟩
    verify_mem := List.forall_mem_cons.mpr ⟨hv, p.verify_mem⟩
    verify_only := by
      intro n hn
      rcases p.verify_only n hn with ⟨z, hz, he⟩ | h1
      · exact ⟨z, List.mem_cons_of_mem _ hz, he⟩
      · exact ⟨x, List.mem_cons_self .., h1.symm⟩
    roots := List.forall_mem_cons.mpr ⟨hs, p.roots⟩
    noAdd := rfl
    noRemove := hr
    exec_mem := List.forall_mem_cons.mpr ⟨hx, p.exec_mem⟩
    exec_only := by
      intro t h hh
      rcases p.exec_only t h hh with ⟨z, hz, he, ht⟩ | ⟨he, ht⟩
      · exact ⟨z, List.mem_cons_of_mem _ hz, he, ht⟩
      · exact ⟨x, List.mem_cons_self .., he.symm, ht⟩
    txdisj := List.pairwise_cons.mpr ⟨p.txfresh, p.txdisj⟩ }

end Rangers.Proofs.ChainStore
