import Rangers.Proofs.JournalRel
/-! One account object at a time: what `GetData`, `setData`, `getAllRefund`'s cache fill do to it, the finer object
relation `XObj` of the root theorem (what `Finalise` will make of the object), and `Absorbs`: the interface through
which the per-op inverse lemmas use an object relation.  An op followed by its undo does not give back the object it
found but a warmed copy (disarmed, read cache filled, the slot present in both caches with the value `GetData`
answered); `ObjSim` does not see the difference, `XObj` does not see it on objects that were warm already. -/
namespace Rangers.Proofs.Journal
open Rangers Rangers.Model.Journal

theorem get_setSlot (o : Obj) (k k' : Key) (v : Val) : (setSlot o k v).get k' = if k = k' then v else o.get k' :=
  Obj.get_set o k k' v _

theorem Obj.read_fst_get (o : Obj) (k k' : Key) : (o.read k).1.get k' = o.get k' := by
  unfold Obj.read
  cases hc : mget o.cached k with
  | some v => rfl
  | none =>
    cases hs : mget o.strie k with
    | none => rfl
    | some v =>
      simp only [Obj.get, mget_mset]
      by_cases hk : k = k'
      · subst hk; simp [hc, hs]
      · simp [hk]

theorem Obj.read_snd (o : Obj) (k : Key) : (o.read k).2 = o.get k := by
  unfold Obj.read Obj.get
  cases hc : mget o.cached k with
  | some v => rfl
  | none => cases hs : mget o.strie k <;> rfl

theorem Obj.read_fst_other (o : Obj) (k : Key) :
    (o.read k).1 = { o with cached := (o.read k).1.cached } := by
  unfold Obj.read
  cases hc : mget o.cached k with
  | some v => rfl
  | none => cases hs : mget o.strie k <;> rfl

theorem mget_cacheFold (l : List (Key × Val)) (cd : List (Key × Val)) (k : Key) :
    mget (l.foldl (fun c p => if (mget c p.1).isSome then c else mset c p.1 p.2) cd) k =
      (match mget cd k with | some v => some v | none => mget l k) := by
  induction l generalizing cd with
  | nil => simp only [List.foldl]; cases h : mget cd k <;> simp [mget]
  | cons p t ih =>
    obtain ⟨k1, v1⟩ := p
    simp only [List.foldl]
    rw [ih]
    by_cases hs : (mget cd k1).isSome = true
    · simp only [hs, if_true]
      cases hck : mget cd k with
      | some v => rfl
      | none =>
        simp only [mget]
        by_cases hk : k1 = k
        · subst hk; rw [hck] at hs; cases hs
        · simp [hk]
    · simp only [hs, Bool.false_eq_true, if_false, mget_mset, mget]
      by_cases hk : k1 = k
      · subst hk
        have : mget cd k1 = none := by cases h : mget cd k1 with | none => rfl | some _ => simp [h] at hs
        simp [this]
      · simp only [hk, if_false]

theorem cacheAll_get (o : Obj) (k : Key) : o.cacheAll.get k = o.get k := by
  simp only [Obj.cacheAll, Obj.get, mget_cacheFold]
  cases mget o.cached k with
  | some v => rfl
  | none => cases mget o.strie k <;> rfl

theorem objSim_read (cs : List (Hash × Bytes)) (o : Obj) (k : Key) : ObjSim cs (o.read k).1 o := by
  refine ⟨?_, ?_, ?_, fun k' => Obj.read_fst_get o k k', ?_⟩
  all_goals (rw [Obj.read_fst_other]; try rfl)

theorem objSim_slot (cs : List (Hash × Bytes)) (o : Obj) (k : Key) (v : Val) :
    ObjSim cs (disarm (setSlot (disarm (setSlot o k v)) k (o.get k))) o := by
  -- unfolded first: a projection of the nested updates is dear to `rfl` while they are folded
  unfold disarm setSlot
  refine ⟨rfl, rfl, rfl, fun k' => ?_, rfl⟩
  simp only [Obj.get, mget_mset]
  by_cases hk : k = k'
  · subst hk; simp
  · simp [hk]

end Rangers.Proofs.Journal

namespace Rangers.Proofs.JournalG
open Rangers Rangers.Model.Journal Rangers.Proofs.Journal

/-- value `updateTrie` leaves in the storage trie at `k` -/
def Fx (o : Obj) (k : Key) : Option Val :=
  match mget o.dirty k with
  | some v => if v = [] then none else some v
  | none => mget o.strie k

theorem mget_flush (strie dirty : List (Key × Val)) (k : Key) :
    mget (flush strie dirty) k = (match mget dirty k with
      | some v => if v = [] then none else some v
      | none => mget strie k) := by
  induction dirty with
  | nil => simp [flush]
  | cons p rest ih =>
    obtain ⟨k1, v1⟩ := p
    have hstep : flush strie ((k1, v1) :: rest) = (if v1 = [] then mdel (flush strie rest) k1 else mset (flush strie rest) k1 v1) := rfl
    rw [hstep]
    by_cases hv : v1 = []
    · simp only [hv, if_true, mget_mdel, mget]
      by_cases hk : k1 = k
      · simp [hk]
      · simp [hk, ih]
    · simp only [hv, if_false, mget_mset, mget]
      by_cases hk : k1 = k
      · simp [hk, hv]
      · simp [hk, ih]

theorem Fx_flushed (o : Obj) (k : Key) : mget o.flushed.strie k = Fx o k := mget_flush _ _ _

/-- `o` and `o'` are alike to `Finalise`: the same `onDirty` state (`armed`), the same storage trie once `updateTrie` has
    flushed the dirty slots (`fx`), and the same answer of `empty()`, which counts the entries of both caches (`cemp`, `demp`) -/
structure XObj (o o' : Obj) : Prop where
  nonce : o.nonce = o'.nonce
  codeHash : o.codeHash = o'.codeHash
  suicided : o.suicided = o'.suicided
  armed : o.armed = o'.armed
  fx : ∀ k, Fx o k = Fx o' k
  cemp : o.cached.isEmpty = o'.cached.isEmpty
  demp : o.dirty.isEmpty = o'.dirty.isEmpty

theorem XObj.refl (o : Obj) : XObj o o := ⟨rfl, rfl, rfl, rfl, fun _ => rfl, rfl, rfl⟩
theorem XObj.trans {o o' o'' : Obj} (h : XObj o o') (h' : XObj o' o'') : XObj o o'' :=
  ⟨h.nonce.trans h'.nonce, h.codeHash.trans h'.codeHash, h.suicided.trans h'.suicided, h.armed.trans h'.armed,
   fun k => (h.fx k).trans (h'.fx k), h.cemp.trans h'.cemp, h.demp.trans h'.demp⟩

theorem Fx_setSlot (o : Obj) (k k' : Key) (v : Val) :
    Fx { o with cached := mset o.cached k v, dirty := mset o.dirty k v } k' =
      if k = k' then (if v = [] then none else some v) else Fx o k' := by
  simp only [Fx, mget_mset]
  by_cases h : k = k' <;> simp [h]

theorem XObj_setSlot {o o' : Obj} (ho : XObj o o') (k : Key) (v : Val) :
    XObj { ({ o with cached := mset o.cached k v, dirty := mset o.dirty k v } : Obj) with armed := false }
         { ({ o' with cached := mset o'.cached k v, dirty := mset o'.dirty k v } : Obj) with armed := false } :=
  ⟨ho.nonce, ho.codeHash, ho.suicided, rfl, fun k' => by
      have h1 := Fx_setSlot o k k' v
      have h2 := Fx_setSlot o' k k' v
      simp only [Fx] at h1 h2 ⊢
      rw [h1, h2]
      by_cases hk : k = k'
      · simp [hk]
      · simp only [hk, if_false]; exact ho.fx k',
    by simp [isEmpty_mset], by simp [isEmpty_mset]⟩

theorem closed_XObj : Closed XObj True :=
  ⟨XObj.refl, XObj.trans, fun _ _ _ ho => ho.armed,
   fun _ ho => ⟨rfl, ho.codeHash, ho.suicided, rfl, ho.fx, ho.cemp, ho.demp⟩,
   fun k v ho => XObj_setSlot ho k v,
   fun _ _ ho => ⟨ho.nonce, rfl, ho.suicided, rfl, ho.fx, ho.cemp, ho.demp⟩,
   fun _ ho => ⟨ho.nonce, ho.codeHash, rfl, ho.armed, ho.fx, ho.cemp, ho.demp⟩,
   fun _ ho => ⟨ho.nonce, ho.codeHash, ho.suicided, ho.armed, ho.fx, ho.cemp, ho.demp⟩⟩

/-- a read must not turn an empty read cache into a non-empty one (`empty()` counts cached keys) -/
def ReadOkObj (o : Obj) (k : Key) : Prop := o.cached.isEmpty = false ∨ mget o.strie k = none

instance (o : Obj) (k : Key) : Decidable (ReadOkObj o k) := by unfold ReadOkObj; infer_instance

theorem read_cemp (o : Obj) (k : Key) (h : ReadOkObj o k) : (o.read k).1.cached.isEmpty = o.cached.isEmpty := by
  unfold Obj.read
  cases hc : mget o.cached k with
  | some v => rfl
  | none =>
    cases hs : mget o.strie k with
    | none => rfl
    | some v =>
      rcases h with h | h
      · simp [isEmpty_mset, h]
      · rw [hs] at h; cases h

theorem XObj_read (o : Obj) (k : Key) (h : ReadOkObj o k) : XObj (o.read k).1 o := by
  have e := Obj.read_fst_other o k
  refine ⟨by rw [e], by rw [e], by rw [e], by rw [e], fun k' => by rw [e]; rfl, read_cemp o k h, by rw [e]⟩

/-- the object is disarmed, both caches hold something, and slot `k` is coherent: `GetData(k)` answers what `updateTrie`
    would flush (an empty value standing for no entry) -/
def WarmObj (o : Obj) (k : Key) : Prop :=
  o.armed = false ∧ o.cached.isEmpty = false ∧ o.dirty.isEmpty = false ∧
  (if o.get k = [] then none else some (o.get k)) = Fx o k

instance (o : Obj) (k : Key) : Decidable (WarmObj o k) := by unfold WarmObj; infer_instance

theorem warm_read {o : Obj} {k : Key} (h : WarmObj o k) : WarmObj (o.read k).1 k := by
  obtain ⟨ha, hc, hd, hcoh⟩ := h
  have e := Obj.read_fst_other o k
  refine ⟨by rw [e]; exact ha, by rw [read_cemp o k (Or.inl hc)]; exact hc, by rw [e]; exact hd, ?_⟩
  have hg : (o.read k).1.get k = o.get k := Obj.read_fst_get o k k
  have hf : Fx (o.read k).1 k = Fx o k := by rw [e]; rfl
  rw [hg, hf]; exact hcoh

theorem XObj_slot {o : Obj} {k : Key} (v : Val) (hw : WarmObj o k) :
    XObj (disarm (setSlot (disarm (setSlot o k v)) k (o.get k))) o := by
  unfold disarm setSlot
  refine ⟨rfl, rfl, rfl, hw.1.symm, fun k' => ?_, by simp [isEmpty_mset, hw.2.1], by simp [isEmpty_mset, hw.2.2.1]⟩
  by_cases hk : k = k'
  · subst hk; rw [← hw.2.2.2]; simp [Fx]
  · simp [Fx, mget_mset, hk]

theorem cacheFold_isEmpty (l cd : List (Key × Val)) (h : cd.isEmpty = false) :
    (l.foldl (fun c p => if (mget c p.1).isSome then c else mset c p.1 p.2) cd).isEmpty = false := by
  induction l generalizing cd with
  | nil => exact h
  | cons p t ih =>
    simp only [List.foldl]
    apply ih
    split
    · exact h
    · exact isEmpty_mset _ _ _

/-- the bulk cache fill must not turn an empty read cache into a non-empty one -/
def CacheAllOkObj (o : Obj) : Prop := o.cached.isEmpty = false ∨ o.strie = []

instance (o : Obj) : Decidable (CacheAllOkObj o) := by unfold CacheAllOkObj; infer_instance

theorem XObj_cacheAll (o : Obj) (h : CacheAllOkObj o) : XObj o.cacheAll o := by
  refine ⟨rfl, rfl, rfl, rfl, fun _ => rfl, ?_, rfl⟩
  rcases h with h | h
  · show (o.strie.foldl _ o.cached).isEmpty = o.cached.isEmpty
    rw [cacheFold_isEmpty _ _ h, h]
  · simp [Obj.cacheAll, h]

/-- what the per-op inverse lemmas need of an object relation: it respects the setters (`Closed`) and it relates
    the warmed copy an op and its undo leave behind to the object they found; where dirty sets are compared (`D`)
    the latter only under the object-level side conditions of the root theorem -/
structure Absorbs (P : List (Hash × Bytes) → Obj → Obj → Prop) (D : Prop) : Prop where
  closed : ∀ cs, Closed (P cs) D
  disarmed : ∀ cs (o : Obj), (D → o.armed = false) → P cs (disarm o) o
  read : ∀ cs (o : Obj) (k : Key), (D → ReadOkObj o k) → P cs (o.read k).1 o
  slot : ∀ cs (o : Obj) (k : Key) (v : Val), (D → WarmObj o k) → P cs (disarm (setSlot (disarm (setSlot o k v)) k (o.get k))) o
  cacheAll : ∀ cs (o : Obj), (D → CacheAllOkObj o) → P cs o.cacheAll o

theorem absorbs_objSim : Absorbs ObjSim False :=
  ⟨closed_objSim, fun _ _ _ => ⟨rfl, rfl, rfl, fun _ => rfl, rfl⟩, fun cs o k _ => objSim_read cs o k,
   fun cs o k v _ => objSim_slot cs o k v, fun _ o _ => ⟨rfl, rfl, rfl, cacheAll_get o, rfl⟩⟩

theorem closed_R (cs : List (Hash × Bytes)) : Closed (fun o o' => ObjSim cs o o' ∧ XObj o o') True :=
  (closed_objSim cs).and closed_XObj

theorem absorbs_R : Absorbs (fun cs o o' => ObjSim cs o o' ∧ XObj o o') True :=
  ⟨closed_R, fun cs o h => ⟨(absorbs_objSim.disarmed cs o False.elim), rfl, rfl, rfl, (h trivial).symm, fun _ => rfl, rfl, rfl⟩,
   fun cs o k h => ⟨objSim_read cs o k, XObj_read o k (h trivial)⟩,
   fun cs o k v h => ⟨objSim_slot cs o k v, XObj_slot v (h trivial)⟩,
   fun cs o h => ⟨absorbs_objSim.cacheAll cs o False.elim, XObj_cacheAll o (h trivial)⟩⟩

end Rangers.Proofs.JournalG
