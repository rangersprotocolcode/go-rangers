import Rangers.Proofs.TrieRun
/- Byte-level view of iteration: completeness, hex-path order, and how it relates to bytewise key order. -/
namespace Rangers.Trie
open Rangers

theorem keyLE_nil (k : Key) : keyLE [] k = true := by cases k <;> simp [keyLE]

theorem iterFrom_nil (t : Node) : iterFrom t [] = (iter t).map (fun e => (hexToKeybytes e.1, e.2)) := by
  unfold iterFrom
  congr 1
  apply List.filter_eq_self.mpr
  intro e _
  simp [hexOfBytes, keyLE_nil]

theorem mem_iterFrom_nil {t : Node} {m : Bytes → Option Bytes} (h : Represents t m) (k v : Bytes) :
    (k, v) ∈ iterFrom t [] ↔ m k = some v := by
  rw [iterFrom_nil, List.mem_map]
  constructor
  · rintro ⟨e, he, heq⟩
    obtain ⟨k', hk', hm⟩ := h.mem_iter.mp he
    simp only [Prod.mk.injEq] at heq
    rw [hk', hexToKeybytes_keybytesToHex] at heq
    rw [← heq.1, ← heq.2]; exact hm
  · intro hm
    exact ⟨(keybytesToHex k, v), h.mem_iter.mpr ⟨k, rfl, hm⟩, by simp [hexToKeybytes_keybytesToHex]⟩

theorem iterFrom_sorted_hex {t : Node} {m : Bytes → Option Bytes} (h : Represents t m) :
    (iterFrom t []).Pairwise (fun e1 e2 => keybytesToHex e1.1 < keybytesToHex e2.1) := by
  rw [iterFrom_nil, List.pairwise_map]
  apply List.Pairwise.imp_of_mem _ (sortedKeys_iter t)
  intro a b ha hb hab
  obtain ⟨ka, hka, _⟩ := h.mem_iter.mp ha
  obtain ⟨kb, hkb, _⟩ := h.mem_iter.mp hb
  simp only [hka, hkb, hexToKeybytes_keybytesToHex] at hab ⊢
  exact hab

theorem hex_byte_lt (b1 b2 : UInt8) (X Y : Key) :
    b1.toNat / 16 :: b1.toNat % 16 :: X < b2.toNat / 16 :: b2.toNat % 16 :: Y ↔ b1 < b2 ∨ (b1 = b2 ∧ X < Y) := by
  simp only [List.cons_lt_cons_iff, byte_lt_iff, byte_eq_iff]
  constructor
  · rintro (h | ⟨h, h' | ⟨h', hxy⟩⟩)
    · exact Or.inl (Or.inl h)
    · exact Or.inl (Or.inr ⟨h, h'⟩)
    · exact Or.inr ⟨⟨h, h'⟩, hxy⟩
  · rintro ((h | ⟨h, h'⟩) | ⟨⟨h, h'⟩, hxy⟩)
    · exact Or.inl h
    · exact Or.inr ⟨h, Or.inl h'⟩
    · exact Or.inr ⟨h, Or.inr ⟨h', hxy⟩⟩

/-- hex-path order against bytewise order: a byte compares as its pair of nibbles (`hex_byte_lt`), and where one key ends its
    terminator 16 is greater than any nibble of the other, so a proper prefix comes after the longer key and not before it -/
theorem hex_lt_iff (k1 k2 : Bytes) :
    keybytesToHex k1 < keybytesToHex k2 ↔ (k1 < k2 ∧ ¬ k1 <+: k2) ∨ (k2 <+: k1 ∧ k2 ≠ k1) := by
  induction k1 generalizing k2 with
  | nil =>
    cases k2 with
    | nil => simp [keybytesToHex, hexOfBytes]
    | cons b k =>
      have := b.toNat_lt
      simp only [keybytesToHex, hexOfBytes, List.nil_append, List.cons_append, List.cons_lt_cons_iff]
      constructor
      · rintro (h | ⟨h, _⟩) <;> omega
      · rintro (⟨_, h⟩ | ⟨h, _⟩)
        · exact absurd List.nil_prefix h
        · simp at h
  | cons b1 r1 ih =>
    cases k2 with
    | nil =>
      have := b1.toNat_lt
      simp only [keybytesToHex, hexOfBytes, List.nil_append, List.cons_append, List.cons_lt_cons_iff]
      constructor
      · intro _; right; simp
      · intro _; left; omega
    | cons b2 r2 =>
      have hih := ih r2
      simp only [keybytesToHex] at hih
      simp only [keybytesToHex, hexOfBytes, List.cons_append]
      rw [hex_byte_lt, hih]
      simp only [List.cons_lt_cons_iff, List.cons_prefix_cons, ne_eq, List.cons.injEq]
      have hne : b1 < b2 → b1 ≠ b2 := fun h h0 => by subst h0; exact absurd h (UInt8.lt_irrefl _)
      constructor
      · rintro (h | ⟨rfl, ⟨h1, h2⟩ | ⟨h1, h2⟩⟩)
        · exact Or.inl ⟨Or.inl h, fun h0 => hne h h0.1⟩
        · exact Or.inl ⟨Or.inr ⟨rfl, h1⟩, fun h0 => h2 h0.2⟩
        · exact Or.inr ⟨⟨rfl, h1⟩, fun h0 => h2 h0.2⟩
      · rintro (⟨h | ⟨rfl, h⟩, h3⟩ | ⟨⟨rfl, h1⟩, h3⟩)
        · exact Or.inl h
        · exact Or.inr ⟨rfl, Or.inl ⟨h, fun h0 => h3 ⟨rfl, h0⟩⟩⟩
        · exact Or.inr ⟨rfl, Or.inr ⟨h1, fun h0 => h3 ⟨rfl, h0⟩⟩⟩
end Rangers.Trie
