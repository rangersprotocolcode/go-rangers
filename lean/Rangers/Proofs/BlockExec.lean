import Rangers.Model.BlockExec
/-! The loop bodies of the map-range sites are point updates of total maps — balances and reward shares keyed by address,
trie leaves, the refund escrow keyed by (height, id); that they commute comes down to one fact, `updWith_comm`. -/
namespace Rangers.Proofs.BlockExec
open Rangers Rangers.Model.BlockExec

/-- `upd`, `addBal`, `subBal`, the two reward loops and the `Finalise` step are instances (by `rfl`) -/
def updWith {κ α : Type} [DecidableEq κ] (f : κ → α) (k : κ) (g : α → α) : κ → α :=
  fun a => if a = k then g (f k) else f a

theorem updWith_comm {κ α : Type} [DecidableEq κ] (f : κ → α) (a b : κ) (g₁ g₂ : α → α)
    (h : a = b → g₂ (g₁ (f a)) = g₁ (g₂ (f a))) :
    updWith (updWith f a g₁) b g₂ = updWith (updWith f b g₂) a g₁ := by
  funext k
  unfold updWith
  by_cases hab : a = b
  · subst hab
    by_cases hk : k = a
    · simp only [hk, if_true]
      exact h rfl
    · simp only [hk, if_false]
  · by_cases hka : k = a
    · subst hka
      simp only [hab, if_true, if_false]
    · by_cases hkb : k = b
      · subst hkb
        simp only [hka, if_true, if_false]
      · simp only [hka, hkb, if_false]

theorem updWith_eq_self {κ α : Type} [DecidableEq κ] (f : κ → α) (k : κ) (g : α → α) (h : g (f k) = f k) : updWith f k g = f := by
  funext a
  unfold updWith
  split
  · subst_vars
    exact h
  · rfl

theorem addBal_bal (s : St) (a v : Nat) : (addBal s a v).bal = updWith s.bal a (· + v) := rfl
theorem subBal_bal (s : St) (a v : Nat) : (subBal s a v).bal = updWith s.bal a (· - v) := rfl

theorem St.ext' {a b : St} (h1 : a.bal = b.bal) (h2 : a.nonce = b.nonce) (h3 : a.escrow = b.escrow)
    (h4 : a.miners = b.miners := by rfl) (h5 : a.diff = b.diff := by rfl) (h6 : a.working = b.working := by rfl) : a = b := by
  cases a; cases b; simp_all

theorem addEscrow_comm (s : St) (h1 h2 : Nat) (a b : Addr) (x y : Nat) :
    addEscrow (addEscrow s h1 a x) h2 b y = addEscrow (addEscrow s h2 b y) h1 a x := by
  refine St.ext' rfl rfl (funext fun h' => funext fun k => ?_)
  -- uncurried, the escrow is a map on (height, id) pairs and `addEscrow` an `updWith` on it
  simpa only [addEscrow, updWith, Prod.mk.injEq] using
    congrFun (updWith_comm (fun p : Nat × Addr => s.escrow p.1 p.2) (h1, a) (h2, b) (· + x) (· + y)
      fun _ => Nat.add_right_comm _ _ _) (h', k)

theorem refundAddIn_flat (order : List (Nat × List (Addr × Nat))) (s : St) :
    refundAddIn order s
      = (order.flatMap fun e => e.2.map fun x => (e.1, x)).foldl (fun s e => addEscrow s e.1 e.2.1 e.2.2) s := by
  simp only [refundAddIn, refundAddList, List.foldl_flatMap, List.foldl_map]

theorem cmStep_comm (h : Nat) (s : St) (e1 e2 : Addr × Nat) :
    cmStep h (cmStep h s e1) e2 = cmStep h (cmStep h s e2) e1 := by
  refine St.ext' (updWith_comm s.bal e1.1 e2.1 (· + e1.2) (· + e2.2) fun _ => Nat.add_right_comm _ _ _) rfl
    (funext fun h' => funext fun k => ?_)
  simpa only [cmStep, clearEscrow, addBal, updWith, Prod.mk.injEq] using
    congrFun (updWith_comm (fun p : Nat × Addr => s.escrow p.1 p.2) (h, e1.1) (h, e2.1) (fun _ => 0) (fun _ => 0)
      fun _ => rfl) (h', k)

theorem transfer2_comm (s : St) (src a b : Addr) (v w : Nat) (ha : a ≠ src) (hb : b ≠ src) :
    subBal (addBal (subBal (addBal s a v) src v) b w) src w
      = subBal (addBal (subBal (addBal s b w) src w) a v) src v := by
  refine St.ext' ?_ (by rfl) (by rfl)
  simp only [addBal_bal, subBal_bal]
  -- credit a, debit, credit b, debit: four point updates, reordered pair by pair
  rw [updWith_comm _ src b _ _ fun e => absurd e.symm hb, updWith_comm _ a b _ _ fun _ => Nat.add_right_comm _ _ _,
    updWith_comm _ src src _ _ fun _ => Nat.sub_right_comm _ _ _, updWith_comm _ a src _ _ fun e => absurd e ha]

theorem transfer_bal_src (s : St) (src a : Addr) (v : Nat) (h : a ≠ src) :
    (subBal (addBal s a v) src v).bal src = s.bal src - v := by
  simp only [subBal, addBal, upd, if_true, if_neg (Ne.symm h)]

theorem caStep_bad (src : Addr) (z : CA) (t : Target) (h : t.amt = .bad) : caStep src z t = none := by
  cases z with
  | none => rfl
  | some p => simp only [caStep, transferBalance, h]

theorem caStep_val {src : Addr} {t : Target} {v : Nat} (ht : t.addr ≠ src) (hv : t.amt = .val v) (s : St) (l : Option Nat) :
    caStep src (some (s, l)) t =
      if s.bal src < v then none else some (subBal (addBal s t.addr v) src v, some (s.bal src - v)) := by
  simp only [caStep, transferBalance, hv]
  by_cases c : s.bal src < v
  · simp only [c, if_true]
  · simp only [c, if_false, transfer_bal_src s src t.addr v ht]

theorem caStep_caStep_val {src : Addr} {x y : Target} {v w : Nat} (hx : x.addr ≠ src) (hy : y.addr ≠ src)
    (hxv : x.amt = .val v) (hyv : y.amt = .val w) (s : St) (l : Option Nat) :
    caStep src (caStep src (some (s, l)) x) y =
      if s.bal src < v + w then none
      else some (subBal (addBal (subBal (addBal s x.addr v) src v) y.addr w) src w, some (s.bal src - (v + w))) := by
  rw [caStep_val hx hxv]
  by_cases c1 : s.bal src < v
  · rw [if_pos c1, if_pos (Nat.lt_of_lt_of_le c1 (Nat.le_add_right v w))]
    rfl
  · rw [if_neg c1, caStep_val hy hyv, transfer_bal_src s src x.addr v hx]
    simp only [Nat.sub_lt_iff_lt_add' (Nat.le_of_not_lt c1), Nat.sub_sub]

theorem caStep_comm (src : Addr) (z : CA) (x y : Target) (hx : x.addr ≠ src) (hy : y.addr ≠ src) :
    caStep src (caStep src z x) y = caStep src (caStep src z y) x := by
  cases z with
  | none => rfl
  | some p =>
    obtain ⟨s, l⟩ := p
    cases hxa : x.amt with
    | bad =>
      rw [caStep_bad src _ x hxa, caStep_bad src _ x hxa]
      rfl
    | val v =>
      cases hya : y.amt with
      | bad =>
        rw [caStep_bad src _ y hya, caStep_bad src _ y hya]
        rfl
      | val w =>
        rw [caStep_caStep_val hx hy hxa hya, caStep_caStep_val hy hx hya hxa, Nat.add_comm w v,
          transfer2_comm s src x.addr y.addr v w hx hy]

section
open List

theorem nodup_map_inj {α β : Type} (f : α → β) (l : List α) (h : (l.map f).Nodup) :
    ∀ a b, a ∈ l → b ∈ l → f a = f b → a = b := by
  have hp : l.Pairwise (fun a b => f a ≠ f b) := pairwise_map.mp h
  intro a b ha hb
  exact Pairwise.forall_of_forall_of_flip (R := fun a b => f a = f b → a = b) (fun _ _ _ => rfl)
    (hp.imp fun hne e => absurd e hne) (hp.imp fun hne e => absurd e.symm hne) ha hb

end

end Rangers.Proofs.BlockExec
