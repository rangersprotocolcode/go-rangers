import Rangers.Proofs.DecimalScan
/-!
Exponent forms (`[sign] digits [ "." digits ] ("e"|"E") [sign] digits`): the exponent suffix is
something `nat.scan` stops at and `scanExponent` reads as a decimal exponent, so `strToBigInt_dec`
applies. C18 itself speaks of plain decimal strings; this covers the `e`-notation amounts the
code also accepts.
-/
namespace Rangers.Decimal

theorem spanDigits_all (ds : Str) (h : allDig ds) : spanDigits ds = (ds, []) := by
  induction ds with
  | nil => rfl
  | cons c cs ih =>
    obtain ⟨hc, hcs⟩ := allDig_cons.mp h
    rw [spanDigits, if_pos hc, ih hcs]

def expSuffix (upper : Bool) (esg : Option Bool) (eds : Str) : Str :=
  (if upper then 'E' else 'e') :: (signStr esg ++ eds)

def expVal (esg : Option Bool) (eds : Str) : Int :=
  if signNeg esg then -((Nat.ofDigitChars 10 eds 0 : ℕ) : Int) else ((Nat.ofDigitChars 10 eds 0 : ℕ) : Int)

theorem scanExp_suffix (upper : Bool) (esg : Option Bool) (eds : Str) (hd : allDig eds) (hne : eds ≠ [])
    (hv : Nat.ofDigitChars 10 eds 0 < 2 ^ 63) :
    scanExp (expSuffix upper esg eds) = some (expVal esg eds, 10, []) := by
  obtain ⟨e0, et, rfl⟩ := List.exists_cons_of_ne_nil hne
  have he0 := (allDig_cons.mp hd).1
  have hm := isDig_ne_minus he0
  have hp := isDig_ne_plus he0
  unfold expSuffix scanExp expVal
  have hc : ((if upper = true then 'E' else 'e') = 'e' || (if upper = true then 'E' else 'e') = 'E') = true := by
    cases upper <;> decide
  simp only [hc, if_true]
  have hsign : expSign (signStr esg ++ e0 :: et) = (signNeg esg, e0 :: et) := by
    cases esg with
    | none =>
      simp only [signStr, List.nil_append, signNeg]
      unfold expSign
      split
      · rename_i h; injection h with h1 _; exact absurd h1 hm
      · rename_i h; injection h with h1 _; exact absurd h1 hp
      · rfl
    | some b => cases b <;> rfl
  simp only [hsign, spanDigits_all _ hd]
  cases hs : signNeg esg <;> simp <;> omega

theorem stopsMant_expSuffix (upper : Bool) (esg : Option Bool) (eds : Str) :
    stopsMant (expSuffix upper esg eds) := by
  cases upper <;> exact stopsMant_cons _ (by decide) (by decide)

theorem expDigits_lt_two_pow_63 (esg : Option Bool) (eds : Str) (f : Nat) (hf : f ≤ 1000000)
    (h1 : -248 ≤ expVal esg eds - f) (h2 : expVal esg eds - f ≤ 248) :
    Nat.ofDigitChars 10 eds 0 < 2 ^ 63 := by
  have : Nat.ofDigitChars 10 eds 0 ≤ 2000000 := by
    unfold expVal at h1 h2
    by_cases hs : signNeg esg = true
    · rw [if_pos hs] at h1 h2; omega
    · rw [if_neg hs] at h1 h2; omega
  exact lt_of_le_of_lt this (by norm_num)

end Rangers.Decimal
