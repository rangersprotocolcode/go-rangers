import Rangers.Proofs.TrieYP
import Rangers.Proofs.TrieRun
/- Root of a minimal-form trie = Yellow Paper TRIE(J) of its content; fuel bound; enumerations. -/
namespace Rangers.Trie
open Rangers

theorem le_foldl_max (J : List (Key × Bytes)) (m : Nat) :
    m ≤ J.foldl (fun m e => max m e.1.length) m ∧ ∀ e ∈ J, e.1.length ≤ J.foldl (fun m e => max m e.1.length) m := by
  induction J generalizing m with
  | nil => simp
  | cons x J ih =>
    simp only [List.foldl_cons]
    have := ih (max m x.1.length)
    refine ⟨Nat.le_trans (Nat.le_max_left _ _) this.1, fun e he => ?_⟩
    cases he with
    | head => exact Nat.le_trans (Nat.le_max_right _ _) this.1
    | tail _ h => exact this.2 e h

theorem le_maxKeyLen (J : List (Key × Bytes)) : ∀ e ∈ J, e.1.length ≤ maxKeyLen J := (le_foldl_max J 0).2

theorem heightL_attained (cs : List Node) : height.heightL cs = 0 ∨ ∃ idx, idx < cs.length ∧ height (cs[idx]?.getD .nil) = height.heightL cs := by
  induction cs with
  | nil => left; rfl
  | cons c cs ih =>
    simp only [height.heightL]
    by_cases h : height.heightL cs ≤ height c
    · right; exact ⟨0, by simp, by simp [Nat.max_eq_left h]⟩
    · have h' : height c ≤ height.heightL cs := by omega
      rcases ih with h0 | ⟨idx, hidx, hh⟩
      · omega
      · right; exact ⟨idx + 1, by simpa using hidx, by simp [Nat.max_eq_right h', hh]⟩

/-- some path of the trie is as long as the trie is high, less one.  The fuel bounds that speak of keys come from here:
    `maxKeyLen J + 2` in `ypRoot`, and `4 * maxKeyBytes ops + 6` for iteration (a key of `m` bytes is a path of `2 * m + 1`, so
    `height ≤ 2 * m + 2`, and iteration takes `2 * height + 2`) -/
theorem height_le_some_path : ∀ t, WF t → ∃ e ∈ iter t, height t ≤ e.1.length + 1 := by
  apply WF_induct
  case leaf =>
    intro kk b hkk hb
    refine ⟨(kk, b), by rw [iter_leaf]; exact List.mem_singleton_self _, ?_⟩
    have : kk.length ≠ 0 := by simpa using hkk.ne_nil
    simp only [height]; omega
  case ext =>
    intro kk cs hne hnib hfull ih
    obtain ⟨e', he', hh⟩ := ih
    refine ⟨(kk ++ e'.1, e'.2), by rw [iter_short]; exact List.mem_map.mpr ⟨e', he', rfl⟩, ?_⟩
    have : kk.length ≠ 0 := by simpa using hne
    simp only [height, List.length_append] at hh ⊢; omega
  case full =>
    intro cs hwf ih
    obtain ⟨e0, he0⟩ := List.exists_mem_of_ne_nil _ (iter_ne_nil _ hwf)
    rcases heightL_attained cs with h0 | ⟨idx, hidx, hh⟩
    · exact ⟨e0, he0, by simp only [height, h0]; omega⟩
    · rcases slot_shape hwf idx with h | ⟨rfl, b, hb, _⟩ | ⟨_, hw, hmem⟩
      · rw [h] at hh
        simp only [height] at hh
        exact ⟨e0, he0, by simp only [height, ← hh]; omega⟩
      · rw [hb] at hh
        refine ⟨([16], b), mem_iter_full.mpr ⟨16, [], rfl, ?_⟩, ?_⟩
        · rw [hb, iter_value]; exact List.mem_singleton_self _
        · simp only [height, ← hh]; simp
      · obtain ⟨e', he', hle⟩ := ih _ hmem hw
        refine ⟨(idx :: e'.1, e'.2), mem_iter_full.mpr ⟨idx, e'.1, rfl, he'⟩, ?_⟩
        simp only [height, ← hh, List.length_cons]; omega

theorem rootHash_eq_ypRoot (H : Bytes → Bytes) (hH : H [0x80] = emptyRoot) (t : Node) (ht : WFRoot t) :
    rootHash H t = ypRoot H (absK [] (iter t)) := by
  rcases ht with rfl | ht
  · simp [rootHash, ypRoot, iter, absK, hH]
  · rw [rootHash_of_ne_nil H t ht.ne_nil, ypRoot, absK_isEmpty [] ht]
    simp only [Bool.false_eq_true, if_false]
    obtain ⟨e, he, hle⟩ := height_le_some_path t ht
    have hmem : (([] : Key) ++ e.1.dropLast, e.2) ∈ absK [] (iter t) := by
      simp only [absK, List.mem_map]; exact ⟨e, he, rfl⟩
    have := le_maxKeyLen _ _ hmem
    simp only [List.nil_append, List.length_dropLast] at this
    have hfuel : height t ≤ maxKeyLen (absK [] (iter t)) + 2 := by omega
    have := ypC_enc H t ht [] _ hfuel
    simp only [List.length_nil] at this
    rw [this]

theorem enumeration_eq_iter {t : Node} {m : Bytes → Option Bytes} (hr : Represents t m)
    (J : List (Bytes × Bytes))
    (hsorted : J.Pairwise (fun a b => keybytesToHex a.1 < keybytesToHex b.1))
    (hmem : ∀ k v, (k, v) ∈ J ↔ m k = some v) :
    J.map (fun e => (keybytesToHex e.1, e.2)) = iter t := by
  have hs' : SortedKeys (J.map (fun e => (keybytesToHex e.1, e.2))) := by
    unfold SortedKeys; rw [List.pairwise_map]; exact hsorted
  refine sorted_eq_of_mem_iff hs' (sortedKeys_iter t) (fun e => ?_)
  rw [hr.mem_iter, List.mem_map]
  constructor
  · rintro ⟨⟨k, v⟩, he, rfl⟩
    exact ⟨k, rfl, (hmem k v).mp he⟩
  · rintro ⟨k, hk, hm⟩
    exact ⟨(k, e.2), (hmem k e.2).mpr hm, by rw [← hk]⟩

end Rangers.Trie
