import Rangers.Model.Miner
import Rangers.Proofs.BigEndian
import Rangers.Proofs.Lookup
/-! C20: `u64` reads back what `u64be` wrote; lookup in a shadowing association list; what a write to a registry slot or to a
    balance reads back as and leaves alone; what the fee does. Core Lean only. -/
namespace Rangers.Miner

theorem u64be_length (n : Nat) : (u64be n).length = 8 := rfl

/-- Reading one more base-256 digit of `n` (the one of weight `2 ^ k`) below the `j` bits already read. -/
theorem digit_step (n k k' j j' : Nat) (hk : k + 8 = k') (hj : j + 8 = j') :
    n / 2 ^ k' % 2 ^ j * 256 + n / 2 ^ k % 256 = n / 2 ^ k % 2 ^ j' := by
  subst hk hj
  rw [Nat.pow_add, Nat.pow_add, ← Nat.div_div_eq_div_mul]
  show _ * 2 ^ 8 + _ % 2 ^ 8 = _
  rw [Nat.mul_comm (2 ^ j), Nat.mod_mul, Nat.mul_comm, Nat.add_comm]

theorem u64_u64be (n : Nat) : u64 (u64be n) = n % 2 ^ 64 := by
  have hl : ¬ (u64be n).length < 8 := Nat.lt_irrefl 8
  rw [u64, if_neg hl]
  simp only [u64be, beToNat, List.take, List.foldl, toNat_ofNat_mod, Nat.zero_mul, Nat.zero_add]
  -- Horner form of the eight digits, folded from the top digit down; a single `omega` on it is very slow
  have h7 := digit_step n 0 8 56 64 rfl rfl
  rw [Nat.pow_zero, Nat.div_one] at h7
  rw [show n / 2 ^ 56 % 256 = n / 2 ^ 56 % 2 ^ 8 from rfl, digit_step n 48 56 8 16 rfl rfl, digit_step n 40 48 16 24 rfl rfl,
    digit_step n 32 40 24 32 rfl rfl, digit_step n 24 32 32 40 rfl rfl, digit_step n 16 24 40 48 rfl rfl,
    digit_step n 8 16 48 56 rfl rfl, h7]

theorem u64_nil : u64 [] = 0 := by simp [u64]

theorem lookup_cons_getD {K V : Type} [BEq K] [LawfulBEq K] [DecidableEq K] (l : List (K × V)) (k q : K) (v d : V) :
    (((k, v) :: l).lookup q).getD d = if q = k then v else (l.lookup q).getD d := by
  rw [lookup_cons_eq, apply_ite (Option.getD · d), Option.getD_some]

theorem lookup_getD_of_notin {K V : Type} [BEq K] [LawfulBEq K] (l : List (K × V)) (k : K) (d : V) (h : k ∉ l.map Prod.fst) :
    (l.lookup k).getD d = d := by
  rw [List.lookup_eq_none_iff.mpr (fun p hp => bne_iff_ne.mpr (fun (e : k = p.1) => h (e ▸ List.mem_map_of_mem hp)))]
  rfl

theorem get_set (s : Store) (k v q : Bytes) : (s.set k v).get q = if q = k then v else s.get q :=
  lookup_cons_getD s k q v []

theorem get_set_same (s : Store) (k v : Bytes) : (s.set k v).get k = v := by simp [get_set]

theorem get_set_ne (s : Store) (k v q : Bytes) (h : q ≠ k) : (s.set k v).get q = s.get q := by simp [get_set, h]

@[simp] theorem write_live (st : State) (d d' : DbId) (k v : Bytes) :
    (st.write d k v).live d' = if d' = d then (st.live d).set k v else st.live d' := by
  simp only [State.write, State.setLive]

@[simp] theorem write_trie (st : State) (d : DbId) (k v : Bytes) : (st.write d k v).trie = st.trie := rfl
@[simp] theorem write_bal (st : State) (d : DbId) (k v : Bytes) : (st.write d k v).bal = st.bal := rfl
@[simp] theorem write_code (st : State) (d : DbId) (k v : Bytes) : (st.write d k v).code = st.code := rfl
@[simp] theorem write_escrow (st : State) (d : DbId) (k v : Bytes) : (st.write d k v).escrow = st.escrow := rfl
@[simp] theorem write_pending (st : State) (d : DbId) (k v : Bytes) : (st.write d k v).pending = st.pending := rfl
@[simp] theorem write_height (st : State) (d : DbId) (k v : Bytes) : (st.write d k v).height = st.height := rfl

theorem write_get (st : State) (d d' : DbId) (k v q : Bytes) :
    ((st.write d k v).live d').get q = if d' = d ∧ q = k then v else (st.live d').get q := by
  rw [write_live]
  by_cases hd : d' = d
  · subst hd; simp [get_set]
  · simp [hd]

@[simp] theorem setBal_live (st : State) (a : Bytes) (n : Nat) : (st.setBal a n).live = st.live := rfl
@[simp] theorem setBal_trie (st : State) (a : Bytes) (n : Nat) : (st.setBal a n).trie = st.trie := rfl
@[simp] theorem setBal_code (st : State) (a : Bytes) (n : Nat) : (st.setBal a n).code = st.code := rfl
@[simp] theorem setBal_escrow (st : State) (a : Bytes) (n : Nat) : (st.setBal a n).escrow = st.escrow := rfl
@[simp] theorem setBal_pending (st : State) (a : Bytes) (n : Nat) : (st.setBal a n).pending = st.pending := rfl
@[simp] theorem setBal_height (st : State) (a : Bytes) (n : Nat) : (st.setBal a n).height = st.height := rfl

theorem balOf_setBal (st : State) (a b : Bytes) (n : Nat) :
    (st.setBal a n).balOf b = if b = a then n else st.balOf b :=
  lookup_cons_getD st.bal a b n 0

theorem processFee_eq {st st1 : State} {src : Bytes} (h : processFee st src = some st1) :
    fee ≤ st.balOf (feePayer src) ∧ st1 = (st.subBal (feePayer src) fee).addBal feeAccount fee := by
  unfold processFee at h
  by_cases hb : st.balOf (feePayer src) < fee
  · simp only [hb, if_true] at h; cases h
  · simp only [hb, if_false] at h; cases h; exact ⟨Nat.le_of_not_lt hb, rfl⟩

theorem processFee_live (st st1 : State) (src : Bytes) (h : processFee st src = some st1) :
    st1.live = st.live ∧ st1.trie = st.trie ∧ st1.pending = st.pending ∧ st1.escrow = st.escrow ∧
      st1.code = st.code ∧ st1.height = st.height := by
  rw [(processFee_eq h).2]; exact ⟨rfl, rfl, rfl, rfl, rfl, rfl⟩

end Rangers.Miner
