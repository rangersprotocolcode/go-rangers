import Rangers.Proofs.JournalOps
/-! `Rev` for whole ops of the driver's op language (`step`): the object ops the root theorem covers, for every
`SimP P D` whose object relation `Absorbs`.  Each proof follows the op's definition branch by branch; the side condition
`D → …` of each is its clause of `StepOkR` (`Props/C04C`), and those clauses (`NonceOk`, `DataOk`, `ReadOk`, `BalReadOk`,
`TransferOk`, `AllRefundOk`) are defined here, in front of the lemmas.  The other ops are in `JournalSteps3` (no account
object involved), `JournalSteps2` (object ops at `Sim` only) and `JournalSuicide`. -/
namespace Rangers.Proofs.Journal
open Rangers Rangers.Model.Journal

theorem resolveNew_crashed (s : ADB) (a : Addr) : (resolveNew s a).1.crashed = s.crashed := by
  unfold resolveNew; repeat' split
  all_goals rfl

theorem resolve_crashed (s : ADB) (a : Addr) : (resolve s a).1.crashed = s.crashed := by rw [resolve_fields]

theorem resolve_some {s : ADB} {a : Addr} {s1 : ADB} {o : Obj} (h : resolve s a = (s1, some o)) (hs : s.crashed = false) :
    At s1 a o ∧ res s a = .live o := by
  cases hr : res s a with
  | deleted => rw [resolve_deleted hr] at h; cases h
  | absent => rw [(resolve_absent hr).1] at h; cases h
  | live o' =>
    obtain ⟨s2, e, m, hd, hf, _⟩ := resolve_live hr
    rw [e] at h
    simp only [Prod.mk.injEq, Option.some.injEq] at h
    obtain ⟨rfl, rfl⟩ := h
    exact ⟨⟨by rw [hf]; exact hs, m, hd⟩, rfl⟩

/-- the shape of the readers that only resolve the address (`Exist`, `Empty`, `GetNonce`, `HasSuicided`, `GetCodeHash`,
    `GetCodeSize`) -/
theorem resolveOnly_fst {β : Type} (s : ADB) (a : Addr) (d d' : β) (f : ADB → Obj → β) :
    (if s.crashed then (s, d) else match resolve s a with | (s1, none) => (s1, d') | (s1, some o) => (s1, f s1 o)).1 =
      if s.crashed then s else (resolve s a).1 := by
  split
  · rfl
  · rcases resolve s a with ⟨s1, _ | _⟩ <;> rfl

theorem exist_fst (s : ADB) (a : Addr) : (exist s a).1 = if s.crashed then s else (resolve s a).1 :=
  resolveOnly_fst s a false false fun _ _ => true
theorem isEmptyQ_fst (s : ADB) (a : Addr) : (isEmptyQ s a).1 = if s.crashed then s else (resolve s a).1 :=
  resolveOnly_fst s a false true fun _ o => o.isEmpty
theorem getNonce_fst (s : ADB) (a : Addr) : (getNonce s a).1 = if s.crashed then s else (resolve s a).1 :=
  resolveOnly_fst s a 0 0 fun _ o => o.nonce
theorem hasSuicided_fst (s : ADB) (a : Addr) : (hasSuicided s a).1 = if s.crashed then s else (resolve s a).1 :=
  resolveOnly_fst s a false false fun _ o => o.suicided
theorem getCodeHash_fst (s : ADB) (a : Addr) : (getCodeHash s a).1 = if s.crashed then s else (resolve s a).1 :=
  resolveOnly_fst s a zeroHash zeroHash fun _ o => toHash o.codeHash
theorem getCodeSize_fst (s : ADB) (a : Addr) : (getCodeSize s a).1 = if s.crashed then s else (resolve s a).1 :=
  resolveOnly_fst s a 0 0 fun s1 o => ((codeLookup s1 o).getD []).length

end Rangers.Proofs.Journal

namespace Rangers.Proofs.JournalG
open Rangers Rangers.Model.Journal Rangers.Proofs.Journal

/-- writes that only change the nonce: the live object must already be disarmed -/
def NonceOk (s : ADB) (a : Addr) : Prop :=
  CreateOk s a ∧ (match res s a with | .live o => o.armed = false | _ => True)

instance (s : ADB) (a : Addr) : Decidable (NonceOk s a) := by
  unfold NonceOk; apply instDecidableAnd (dq := ?_); split <;> infer_instance

/-- storage writes: a live, disarmed, warm object with a coherent slot -/
def DataOk (s : ADB) (a : Addr) (k : Key) : Prop :=
  match res s a with
  | .live o => WarmObj o k
  | .deleted => True
  | .absent => False

instance (s : ADB) (a : Addr) (k : Key) : Decidable (DataOk s a k) := by unfold DataOk; split <;> infer_instance

theorem createOk_of_dataOk {s : ADB} {a : Addr} {k : Key} (h : DataOk s a k) : CreateOk s a := by
  intro hr; unfold DataOk at h; rw [hr] at h; exact absurd h (by simp)

theorem warm_of_link {s : ADB} {a : Addr} {k : Key} {o : Obj} (h : DataOk s a k) (hl : Link s a o) : WarmObj o k := by
  rcases hl with hl | ⟨hl, _⟩
  · unfold DataOk at h; rw [hl] at h; exact h
  · unfold DataOk at h; rw [hl] at h; exact absurd h (by simp)

/-- a `GetData` whose cache fill does not change cache emptiness -/
def ReadOk (s : ADB) (a : Addr) (k : Key) : Prop :=
  match res s a with | .live o => ReadOkObj o k | _ => True

instance (s : ADB) (a : Addr) (k : Key) : Decidable (ReadOk s a k) := by unfold ReadOk; split <;> infer_instance

/-- a balance read that cannot change cache emptiness of the token contract object -/
def BalReadOk (c : Cfg) (s : ADB) (a : Addr) : Prop :=
  CreateOk s c.tok ∧ (match res s c.tok with | .live o => ReadOkObj o (c.balKey a) | _ => True)

instance (c : Cfg) (s : ADB) (a : Addr) : Decidable (BalReadOk c s a) := by
  unfold BalReadOk; apply instDecidableAnd (dq := ?_); split <;> infer_instance

/-- `Transfer`: the credit runs in the state the debit left -/
def TransferOk (c : Cfg) (s : ADB) (a b : Addr) (n : Nat) : Prop :=
  n = 0 ∨ (DataOk s c.tok (c.balKey a) ∧ DataOk (subBalance c s a n).1 c.tok (c.balKey b))

instance (c : Cfg) (s : ADB) (a b : Addr) (n : Nat) : Decidable (TransferOk c s a b n) := by
  unfold TransferOk; infer_instance

/-- `GetAllRefund`: the bulk cache fill must not change cache emptiness -/
def AllRefundOk (s : ADB) (a : Addr) : Prop :=
  CreateOk s a ∧ (match res s a with | .live o => CacheAllOkObj o | _ => True)

instance (s : ADB) (a : Addr) : Decidable (AllRefundOk s a) := by
  unfold AllRefundOk; apply instDecidableAnd (dq := ?_); split <;> infer_instance

theorem balReadOk_of_dataOk {c : Cfg} {s : ADB} {a : Addr} (h : DataOk s c.tok (c.balKey a)) : BalReadOk c s a := by
  refine ⟨createOk_of_dataOk h, ?_⟩
  unfold DataOk at h
  cases hr : res s c.tok with
  | live o => rw [hr] at h; exact Or.inl h.2.1
  | _ => trivial

variable {P : List (Hash × Bytes) → Obj → Obj → Prop} {D : Prop}

section
variable (hP : ∀ cs, Closed (P cs) D) (c : Cfg)
include hP

theorem Rev.ofNil {s s1 : ADB} {a : Addr} (hrn : resolveNew s a = (s1, none)) : Rev c (SimP P D) s s1 :=
  (resolveNew_none hrn).1 ▸ .refl (relOk_SimP hP c) s

theorem Rev.afterResolve {s s1 t : ADB} {a : Addr} {o : Obj} (hs : ¬ s.crashed = true) (hrn : resolve s a = (s1, some o))
    (h : At s1 a o → res s a = .live o → Rev c (SimP P D) s1 t) : Rev c (SimP P D) s t := by
  have ⟨hat, hr⟩ := resolve_some hrn (by simpa using hs)
  have h1 := revAt_resolve hP c s a
  rw [hrn] at h1
  exact h1.trans (relOk_SimP hP c) (h hat hr)

theorem revAt_create (s : ADB) (a : Addr) (hok : D → CreateOk s a) : Rev c (SimP P D) s (createAccount s a) := by
  unfold createAccount
  split
  · exact .refl (relOk_SimP hP c) s
  · exact revAt_resolveNew hP c s a hok

theorem revAt_resolveOnly {β : Type} (s : ADB) (a : Addr) (d d' : β) (f : ADB → Obj → β) :
    Rev c (SimP P D) s
      (if s.crashed then (s, d) else match resolve s a with | (s1, none) => (s1, d') | (s1, some o) => (s1, f s1 o)).1 := by
  rw [resolveOnly_fst]
  split
  · exact .refl (relOk_SimP hP c) s
  · exact revAt_resolve hP c s a

end

variable (hA : Absorbs P D) (c : Cfg)
include hA

theorem revAt_setNonce (s : ADB) (a : Addr) (n : Nat) (hok : D → NonceOk s a) : Rev c (SimP P D) s (setNonce s a n) := by
  by_cases hs : s.crashed = true
  · rw [setNonce, if_pos hs]; exact .refl (relOk_SimP hA.closed c) s
  rw [setNonce, if_neg hs]
  split
  next s1 hrn => exact .ofNil hA.closed c hrn
  next s1 o hrn =>
    exact .afterNew hA.closed c hs hrn (fun hD => (hok hD).1) fun hat hl =>
      revAt_setNonceJ hA c n hat fun hD => hl.cond (hok hD).2 rfl

theorem revAt_incNonce (s : ADB) (a : Addr) (hok : D → NonceOk s a) : Rev c (SimP P D) s (increaseNonce s a).1 := by
  by_cases hs : s.crashed = true
  · rw [increaseNonce, if_pos hs]; exact .refl (relOk_SimP hA.closed c) s
  rw [increaseNonce, if_neg hs]
  split
  next s1 hrn => exact .ofNil hA.closed c hrn
  next s1 o hrn =>
    exact .afterNew hA.closed c hs hrn (fun hD => (hok hD).1) fun hat hl =>
      revAt_setNonceJ hA c _ hat fun hD => hl.cond (hok hD).2 rfl

theorem revAt_setData (s : ADB) (a : Addr) (k : Key) (v : Val) (hok : D → DataOk s a k) :
    Rev c (SimP P D) s (setData s a k v) := by
  by_cases hs : s.crashed = true
  · rw [setData, if_pos hs]; exact .refl (relOk_SimP hA.closed c) s
  rw [setData, if_neg hs]
  split
  next s1 hrn => exact .ofNil hA.closed c hrn
  next s1 o hrn =>
    exact .afterNew hA.closed c hs hrn (fun hD => createOk_of_dataOk (hok hD)) fun hat hl =>
      revAt_setDataJ hA c k v hat fun hD => warm_of_link (hok hD) hl

theorem revAt_qData (s : ADB) (a : Addr) (k : Key) (hok : D → ReadOk s a k) : Rev c (SimP P D) s (getData s a k).1 := by
  by_cases hs : s.crashed = true
  · rw [getData, if_pos hs]; exact .refl (relOk_SimP hA.closed c) s
  rw [getData, if_neg hs]
  split
  next s1 hrn => exact congrArg Prod.fst hrn ▸ revAt_resolve hA.closed c s a
  next s1 o hrn =>
    exact .afterResolve hA.closed c hs hrn fun hat hr =>
      revAt_readAt hA c k hat fun hD => by have := hok hD; unfold ReadOk at this; rw [hr] at this; exact this

theorem revAt_getAllRefund (s : ADB) (a : Addr) (hok : D → AllRefundOk s a) : Rev c (SimP P D) s (getAllRefund s a).1 := by
  by_cases hs : s.crashed = true
  · rw [getAllRefund, if_pos hs]; exact .refl (relOk_SimP hA.closed c) s
  rw [getAllRefund, if_neg hs]
  split
  next s1 hrn => exact (Rev.ofNil hA.closed c hrn).crash
  next s1 o hrn =>
    exact .afterNew hA.closed c hs hrn (fun hD => (hok hD).1) fun hat hl =>
      revAt_put hA.closed c hat o.cacheAll hat.nodel (hA.cacheAll _ o fun hD => hl.cond (hok hD).2 (Or.inr rfl))

theorem revAt_getBalance (s : ADB) (a : Addr) (hok : D → BalReadOk c s a) :
    Rev c (SimP P D) s (getBalance c s a).1 ∧ ((getBalance c s a).1.crashed = false →
      ∃ o, Link s c.tok o ∧ At (getBalance c s a).1 c.tok (o.read (c.balKey a)).1 ∧
        (getBalance c s a).2 = beToNat (o.get (c.balKey a))) := by
  by_cases hs : s.crashed = true
  · rw [getBalance, if_pos hs]; exact ⟨.refl (relOk_SimP hA.closed c) s, fun h => absurd (hs.symm.trans h) (by simp)⟩
  rw [getBalance, if_neg hs]
  split
  next s1 hrn => exact ⟨(Rev.ofNil hA.closed c hrn).crash, fun h => by cases h⟩
  next s1 o hrn =>
    have ⟨hat, hl⟩ := resolveNew_some hrn (by simpa using hs)
    exact ⟨.afterNew hA.closed c hs hrn (fun hD => (hok hD).1) fun _ _ =>
        revAt_readAt hA c _ hat fun hD => hl.cond (hok hD).2 (Or.inr rfl),
      fun _ => ⟨o, hl, hat.readAt _, congrArg beToNat (readAt_eq _ hat.cached).2⟩⟩

theorem revAt_setBalance (s : ADB) (a : Addr) (n : Nat) (hok : D → DataOk s c.tok (c.balKey a)) :
    Rev c (SimP P D) s (setBalance c s a n) := by
  by_cases hs : s.crashed = true
  · rw [setBalance, if_pos hs]; exact .refl (relOk_SimP hA.closed c) s
  rw [setBalance, if_neg hs]
  split
  next s1 hrn => exact (Rev.ofNil hA.closed c hrn).crash
  next s1 o hrn =>
    exact .afterNew hA.closed c hs hrn (fun hD => createOk_of_dataOk (hok hD)) fun hat hl =>
      revAt_setDataJ hA c _ _ hat fun hD => warm_of_link (hok hD) hl

theorem revAt_balWrite (hp : c.p002 = true) (s : ADB) (a : Addr) (n : Nat) (hok : D → DataOk s c.tok (c.balKey a))
    (hc : ¬ (getBalance c s a).1.crashed = true) : Rev c (SimP P D) s (balWrite c (getBalance c s a).1 a n) := by
  obtain ⟨h1, post⟩ := revAt_getBalance hA c s a fun hD => balReadOk_of_dataOk (hok hD)
  obtain ⟨o, hl, hat, _⟩ := post (by simpa using hc)
  rw [balWrite, if_pos hp]
  exact h1.trans (relOk_SimP hA.closed c) (revAt_setDataJ hA c _ _ hat fun hD => warm_read (warm_of_link (hok hD) hl))

theorem revAt_addBalance (hp : c.p002 = true) (s : ADB) (a : Addr) (n : Nat) (hok : D → DataOk s c.tok (c.balKey a)) :
    Rev c (SimP P D) s (addBalance c s a n) := by
  show Rev c (SimP P D) s (if (getBalance c s a).1.crashed then (getBalance c s a).1 else balWrite c (getBalance c s a).1 a _)
  split
  · exact (revAt_getBalance hA c s a fun hD => balReadOk_of_dataOk (hok hD)).1
  next hc => exact revAt_balWrite hA c hp s a _ hok hc

theorem revAt_subBalance (hp : c.p002 = true) (s : ADB) (a : Addr) (n : Nat) (hok : D → DataOk s c.tok (c.balKey a)) :
    Rev c (SimP P D) s (subBalance c s a n).1 := by
  have h1 := (revAt_getBalance hA c s a fun hD => balReadOk_of_dataOk (hok hD)).1
  show Rev c (SimP P D) s (if (getBalance c s a).1.crashed then ((getBalance c s a).1, 0, false)
    else if (getBalance c s a).2 < n then ((getBalance c s a).1, (getBalance c s a).2, false)
    else (balWrite c (getBalance c s a).1 a _, (getBalance c s a).2 - n, true)).1
  split
  · exact h1
  next hc =>
  split
  · exact h1
  · exact revAt_balWrite hA c hp s a _ hok hc

theorem revAt_transfer (hp : c.p002 = true) (s : ADB) (a b : Addr) (n : Nat) (hok : D → TransferOk c s a b n) :
    Rev c (SimP P D) s (transfer c s a b n) := by
  have hR := relOk_SimP hA.closed c
  by_cases hs : s.crashed = true
  · rw [transfer, if_pos hs]; exact .refl hR s
  by_cases hn : n = 0
  · rw [transfer, if_neg hs, if_pos hn]; exact .refl hR s
  rw [transfer, if_neg hs, if_neg hn]
  have hok' := fun hD => (hok hD).resolve_left hn
  have r1 := revAt_subBalance hA c hp s a n fun hD => (hok' hD).1
  show Rev c (SimP P D) s (if (subBalance c s a n).1.crashed then (subBalance c s a n).1 else addBalance c (subBalance c s a n).1 b n)
  split
  · exact r1
  · exact r1.trans hR (revAt_addBalance hA c hp _ b n fun hD => (hok' hD).2)

end Rangers.Proofs.JournalG
