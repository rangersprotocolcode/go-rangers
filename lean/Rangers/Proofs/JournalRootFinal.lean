import Rangers.Proofs.JournalRootRel
import Rangers.Proofs.JournalRoot
/-! From `SimR` to the content `IntermediateRoot` hashes. -/
namespace Rangers.Proofs.JournalG
open Rangers Rangers.Model.Journal Rangers.Proofs.Journal

theorem simR_of_objview {u s : ADB} (h : Sim u s) (hv : ObjView u = ObjView s) : SimR u s := by
  simp only [ObjView, Prod.mk.injEq] at hv
  exact ⟨h, fun _ a => by rw [hv.2.1], fun _ a => by rw [res_congr hv.1 hv.2.2 a]; exact XRes.refl _⟩

/-- the same leaf, the storage compared key by key through `mget`: that is how `SimR` knows the flushed storage (`XObj.fx`),
    not as an association list -/
def LeafEq : Option Leaf → Option Leaf → Prop
  | none, none => True
  | some l, some l' => l.nonce = l'.nonce ∧ l.codeHash = l'.codeHash ∧ ∀ k, mget l.storage k = mget l'.storage k
  | _, _ => False

theorem LeafEq.refl (l : Option Leaf) : LeafEq l l := by
  cases l with
  | none => trivial
  | some l => exact ⟨rfl, rfl, fun _ => rfl⟩

/-- what `Finalise(d)` leaves at `a` when `a` is dirty -/
def pending (d : Bool) (s : ADB) (a : Addr) : Option Leaf :=
  match mget s.objs a with
  | none => mget s.trie a
  | some o => if o.suicided || (d && o.isEmpty) then none else some o.flushed.leaf

theorem finaliseOne_other (d : Bool) (s : ADB) (b a : Addr) (h : b ≠ a) :
    mget (finaliseOne d s b).trie a = mget s.trie a ∧ mget (finaliseOne d s b).objs a = mget s.objs a := by
  unfold finaliseOne
  cases mget s.objs b with
  | none => exact ⟨rfl, rfl⟩
  | some o => simp only; split <;> simp [mget_mdel, mget_mset, h]

theorem finaliseOne_self (d : Bool) (s : ADB) (a : Addr) : mget (finaliseOne d s a).trie a = pending d s a := by
  unfold finaliseOne pending
  cases mget s.objs a with
  | none => rfl
  | some o => simp only; split <;> simp

theorem fold_finalise_notin (d : Bool) (ds : List Addr) (s : ADB) (a : Addr) (h : a ∉ ds) :
    mget (ds.foldl (finaliseOne d) s).trie a = mget s.trie a ∧ mget (ds.foldl (finaliseOne d) s).objs a = mget s.objs a := by
  induction ds generalizing s with
  | nil => exact ⟨rfl, rfl⟩
  | cons b rest ih =>
    simp only [List.mem_cons, not_or] at h
    have h1 := finaliseOne_other d s b a (fun e => h.1 e.symm)
    have h2 := ih (finaliseOne d s b) h.2
    exact ⟨h2.1.trans h1.1, h2.2.trans h1.2⟩

theorem fold_finalise_in (d : Bool) (ds : List Addr) (hn : ds.Nodup) (s : ADB) (a : Addr) (h : a ∈ ds) :
    mget (ds.foldl (finaliseOne d) s).trie a = pending d s a := by
  induction ds generalizing s with
  | nil => cases h
  | cons b rest ih =>
    simp only [List.nodup_cons] at hn
    simp only [List.foldl]
    by_cases hb : b = a
    · subst hb
      rw [(fold_finalise_notin d rest _ b hn.1).1, finaliseOne_self]
    · have hin : a ∈ rest := by
        rcases List.mem_cons.mp h with h | h
        · exact absurd h.symm hb
        · exact h
      rw [ih hn.2 _ hin]
      have := finaliseOne_other d s b a hb
      unfold pending
      rw [this.1, this.2]

theorem finalise_trie_at (d : Bool) (s : ADB) (hs : s.crashed = false) (hn : s.dirtySet.Nodup) (a : Addr) :
    mget (finalise d s).trie a = if a ∈ s.dirtySet then pending d s a else mget s.trie a := by
  simp only [finalise, hs, Bool.false_eq_true, if_false, clearJournal]
  by_cases h : a ∈ s.dirtySet
  · simp only [h, if_true]; exact fold_finalise_in d _ hn s a h
  · simp only [h, if_false]; exact (fold_finalise_notin d _ s a h).1

/-- end-state conditions under which `Finalise` is a function of what `SimR` compares -/
structure EndOk (s : ADB) : Prop where
  live : s.crashed = false
  nodup : s.dirtySet.Nodup
  inmap : ∀ a ∈ s.dirtySet, (mget s.objs a).isSome = true
  nodel : ∀ p ∈ s.objs, p.2.deleted = false

theorem finalise_leafEq (d : Bool) {r s : ADB} (h : SimR r s) (hr : EndOk r) (hs : EndOk s) (a : Addr) :
    LeafEq (mget (finalise d r).trie a) (mget (finalise d s).trie a) := by
  rw [finalise_trie_at d r hr.live hr.nodup, finalise_trie_at d s hs.live hs.nodup]
  have hd := h.dirty hr.live a
  have F := h.sim.frame hr.live
  by_cases ha : a ∈ r.dirtySet
  · have ha' : a ∈ s.dirtySet := hd.mp ha
    simp only [ha, ha', if_true]
    obtain ⟨o, ho⟩ := Option.isSome_iff_exists.mp (hr.inmap a ha)
    obtain ⟨o', ho'⟩ := Option.isSome_iff_exists.mp (hs.inmap a ha')
    have hdo : o.deleted = false := hr.nodel _ (mget_mem ho)
    have hdo' : o'.deleted = false := hs.nodel _ (mget_mem ho')
    have X := h.x hr.live a
    rw [res_def, res_def, ho, ho'] at X
    simp only [hdo, hdo', Bool.false_eq_true, if_false] at X
    obtain ⟨_, e, hx⟩ := X.of_live
    cases e
    have hemp : o.isEmpty = o'.isEmpty := by
      unfold Obj.isEmpty; rw [hx.codeHash, hx.nonce, hx.cemp, hx.demp]
    unfold pending
    rw [ho, ho']
    simp only [hx.suicided, hemp]
    split
    · trivial
    · exact ⟨hx.nonce, hx.codeHash, fun k => by
        show mget o.flushed.strie k = mget o'.flushed.strie k
        rw [Fx_flushed, Fx_flushed]; exact hx.fx k⟩
  · have ha' : a ∉ s.dirtySet := fun h' => ha (hd.mpr h')
    simp only [ha, ha', if_false, F.trie]
    exact LeafEq.refl _

end Rangers.Proofs.JournalG
