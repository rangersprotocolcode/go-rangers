import Rangers.Proofs.GroupChainRun
/-! Crash points of `save` and of the first start-up (a run of `save`s): every prefix of the physical
writes leaves a state from which start-up recovers. `Rep.orphan`: an unreferenced entry does not disturb `Rep`. -/
namespace Rangers.Model.GroupChain
open Rangers

theorem Rep.orphan {l : List Group} {c : Chain} (r : Rep l c) (id : Bytes) (v : Val)
    (hid : IdOK id) (hfresh : ∀ x ∈ l, x.id ≠ id) :
    Rep l { c with disk := sput c.disk id v } := by
  have hget : ∀ k, k ≠ id → sget (sput c.disk id v) k = sget c.disk k := fun k hk => by
    rw [sget_sput, if_neg hk]
  exact Rep.of_listed r.ne
    (r.listed.frame (fun i => hget _ (hid.ne_hkey i).symm) (fun x hx => hget _ (hfresh x hx)) (hget _ hid.1.symm))
    r.count r.last ((hget _ hid.ne_curKey.symm).trans r.cur) ((hget _ hid.ne_cntKey.symm).trans r.cnt)

/-! `save` has two physical writes, `Put(id, json)` and the batch: a budget of 0 or 1 cuts it, before or after
the JSON; a budget of two or more does not. -/

theorem saveB_zero (c : Chain) (g : Group) : saveB c g 0 = .crashed c.disk c.mirror := rfl

theorem saveB_one (c : Chain) (g : Group) :
    saveB c g 1 = .crashed (sput c.disk g.id (.grp (stamped c.count g))) c.mirror := rfl

theorem saveB_done (c : Chain) (g : Group) (k : Nat) (hk : 2 ≤ k) : saveB c g k = .done (save c g) (k - 2) :=
  if_neg (Nat.not_lt.mpr hk)

theorem saveB_crashed_lt {c : Chain} {g : Group} {k : Nat} {d : Store} {m : List Bytes}
    (h : saveB c g k = .crashed d m) : k < 2 := by
  by_cases hk : k < 2
  · exact hk
  · rw [saveB_done c g k (Nat.le_of_not_lt hk)] at h; cases h

theorem crash_save_fresh {l : List Group} {c : Chain} (r : Rep l c) (g : Group) (gen : List Group)
    (hid : IdOK g.id) (hfresh : ∀ x ∈ l, x.id ≠ g.id) (k : Nat) (hk : k < 2) :
    ∃ d c', saveB c g k = .crashed d c.mirror ∧ restart d c.mirror gen = some (.alive c') ∧ Rep l c' := by
  match k, hk with
  | 0, _ =>
    obtain ⟨c', h1, _, _, _, h5⟩ := rep_restart r c.mirror gen
    exact ⟨_, c', saveB_zero c g, h1, h5⟩
  | 1, _ =>
    obtain ⟨c', h1, _, _, _, h5⟩ :=
      rep_restart (r.orphan g.id (.grp (stamped c.count g)) hid hfresh) c.mirror gen
    exact ⟨_, c', saveB_one c g, h1, h5⟩

theorem firstBootB_fresh {g0 : Group} {rest : List Group} (ok : GenesisOK (g0 :: rest)) {d : Store}
    (hd : FreshFor g0 d) (m : List Bytes) (k : Nat) :
    firstBootB d m (g0 :: rest) k =
      some (saveAllB (g0 :: rest) { disk := d, count := 0, last := g0, mirror := m } k) := by
  simp only [firstBootB, hd curKey (ok.idok g0 (List.mem_cons_self ..)).ne_curKey.symm]

theorem firstBoot_le1 {g0 : Group} {rest : List Group} (ok : GenesisOK (g0 :: rest)) (d : Store)
    (m : List Bytes) (hd : FreshFor g0 d) (k : Nat) (hk : k ≤ 1) :
    ∃ d', firstBootB d m (g0 :: rest) k = some (.crashed d' m) ∧ FreshFor g0 d' := by
  match k, hk with
  | 0, _ => exact ⟨d, by rw [firstBootB_fresh ok hd, saveAllB, saveB_zero], hd⟩
  | 1, _ =>
    refine ⟨sput d g0.id (.grp (stamped 0 g0)), by rw [firstBootB_fresh ok hd, saveAllB, saveB_one], ?_⟩
    intro k hk
    rw [sget_sput, if_neg hk, hd k hk]

theorem saveAllB_crash (gen : List Group) : ∀ (gs : List Group) (l : List Group) (c : Chain), Rep l c →
    Savable l c gs → ∀ (k : Nat) (d : Store) (m : List Bytes),
    saveAllB gs c k = .crashed d m → ∃ c' l', restart d m gen = some (.alive c') ∧ Rep l' c' := by
  intro gs
  induction gs with
  | nil => intro l c _ _ k d m h; cases h
  | cons g t ih =>
    intro l c r hs k d m h
    rw [saveAllB] at h
    by_cases hk : k < 2
    · obtain ⟨d', c', e1, e2, e3⟩ :=
        crash_save_fresh r g gen (hs.idok g (by simp)) (fresh_of_nodup hs.nodup) k hk
      rw [e1] at h
      cases h
      exact ⟨c', l, e2, e3⟩
    · rw [saveB_done c g k (Nat.le_of_not_lt hk)] at h
      exact ih _ _ (hs.rep_save r) hs.tail (k - 2) d m h

/-- A cut anywhere in a genesis run on a store that earlier cuts inside the first genesis save have left
    (`FreshFor`; the empty store of the very first start-up is one). -/
theorem firstBoot_crash {g0 : Group} {rest : List Group} (ok : GenesisOK (g0 :: rest)) (d : Store)
    (m : List Bytes) (hd : FreshFor g0 d) {k : Nat} {d' : Store} {m' : List Bytes}
    (h : firstBootB d m (g0 :: rest) k = some (.crashed d' m')) :
    ∃ c l, restart d' m' (g0 :: rest) = some (.alive c) ∧ Rep l c := by
  by_cases hk : k < 2
  · -- inside the first genesis save: the next start-up runs the genesis branch again
    obtain ⟨d1, e1, f1⟩ := firstBoot_le1 ok d m hd k (Nat.le_of_lt_succ hk)
    rw [e1] at h
    cases h
    obtain ⟨c, e3, r⟩ := rep_init_fresh ok _ _ f1
    exact ⟨c, _, e3, r⟩
  · -- after it: the non-genesis branch, on the genesis groups saved so far
    rw [firstBootB_fresh ok hd, saveAllB, saveB_done _ g0 k (Nat.le_of_not_lt hk)] at h
    exact saveAllB_crash (g0 :: rest) rest [stamped 0 g0] _
      (rep_save_first hd rfl (ok.idok g0 (List.mem_cons_self ..)) ok.linked.1) (ok.savable _) (k - 2) d' m'
      (Option.some.inj h)

end Rangers.Model.GroupChain
