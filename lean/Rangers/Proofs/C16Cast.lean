import Mathlib.Data.ZMod.Basic
import Mathlib.Algebra.Field.ZMod
import Mathlib.Tactic.LinearCombination
import Rangers.Model.VrfCurve
import Rangers.Proofs.C16Curve
import Rangers.Proofs.ZModCast
/-!
Bridge from the executable model (naturals reduced mod p) to the field `ZMod p`:
the model's `add` IS the extended-coordinate formula of `C16Curve.ext_add_affine`
evaluated in `ZMod p`, hence (p prime) it computes the affine Edwards law.
-/
namespace Rangers.Proofs.C16Cast
open Rangers.Model Rangers.Model.VrfCurve Rangers.Proofs.C16Curve

abbrev Fp := ZMod VrfCurve.p

theorem p_pos : 0 < VrfCurve.p := by decide
theorem p_gt_two : ¬ VrfCurve.p ≤ 2 := by decide

-- from here on `p` is an opaque constant (no unfolding of 2^255-19 during elaboration)
attribute [local irreducible] VrfCurve.p

theorem cast_fadd (a b : ℕ) : ((fadd a b : ℕ) : Fp) = (a : Fp) + b := by
  unfold fadd; rw [ZMod.natCast_mod, Nat.cast_add]

theorem cast_fmul (a b : ℕ) : ((fmul a b : ℕ) : Fp) = (a : Fp) * b := by
  unfold fmul; rw [ZMod.natCast_mod, Nat.cast_mul]

theorem cast_fsub (a b : ℕ) : ((fsub a b : ℕ) : Fp) = (a : Fp) - b := ZModCast.sub_mod p_pos a b

theorem cast_fneg (a : ℕ) : ((fneg a : ℕ) : Fp) = -(a : Fp) := ZModCast.neg_mod p_pos a

theorem two_ne_zero_fp : (2 : Fp) ≠ 0 :=
  Nat.cast_ofNat (R := Fp) (n := 2) ▸ ZModCast.natCast_ne_zero_of_lt 2 (by decide) (Nat.lt_of_not_le p_gt_two)

theorem cast_d2 : ((d2Const : ℕ) : Fp) = 2 * (dConst : Fp) := by
  unfold d2Const; rw [ZMod.natCast_mod]; push_cast; ring

theorem model_add_cast (a q : Point) :
    let X1 : Fp := a.X; let Y1 : Fp := a.Y; let Z1 : Fp := a.Z; let T1 : Fp := a.T
    let X2 : Fp := q.X; let Y2 : Fp := q.Y; let Z2 : Fp := q.Z; let T2 : Fp := q.T
    let d : Fp := (dConst : Fp)
    let cX := (Y1 + X1) * (Y2 + X2) - (Y1 - X1) * (Y2 - X2)
    let cY := (Y1 + X1) * (Y2 + X2) + (Y1 - X1) * (Y2 - X2)
    let cZ := (Z1 * Z2 + Z1 * Z2) + T2 * (2 * d) * T1
    let cT := (Z1 * Z2 + Z1 * Z2) - T2 * (2 * d) * T1
    (((VrfCurve.add a q).X : ℕ) : Fp) = cX * cT ∧ (((VrfCurve.add a q).Y : ℕ) : Fp) = cY * cZ ∧
    (((VrfCurve.add a q).Z : ℕ) : Fp) = cZ * cT ∧ (((VrfCurve.add a q).T : ℕ) : Fp) = cX * cY := by
  intro X1 Y1 Z1 T1 X2 Y2 Z2 T2 d cX cY cZ cT
  simp only [VrfCurve.add, addC, Completed.toExtended, cast_fmul, cast_fadd, cast_fsub, cast_d2]
  refine ⟨?_, ?_, ?_, ?_⟩ <;> simp only [cX, cY, cZ, cT, X1, Y1, Z1, T1, X2, Y2, Z2, T2, d]

variable [Fact (Nat.Prime VrfCurve.p)]

noncomputable def affX (a : Point) : Fp := (a.X : Fp) / (a.Z : Fp)
noncomputable def affY (a : Point) : Fp := (a.Y : Fp) / (a.Z : Fp)
/-- representation invariant of extended coordinates -/
def WellFormed (a : Point) : Prop := (a.Z : Fp) ≠ 0 ∧ (a.T : Fp) * a.Z = (a.X : Fp) * a.Y

theorem model_add_affine (a q : Point)
    (ha : WellFormed a) (hq : WellFormed q)
    (hD1 : 1 + (dConst : Fp) * affX a * affX q * affY a * affY q ≠ 0)
    (hD2 : 1 - (dConst : Fp) * affX a * affX q * affY a * affY q ≠ 0) :
    WellFormed (VrfCurve.add a q) ∧
    affX (VrfCurve.add a q) = addX (dConst : Fp) (affX a) (affY a) (affX q) (affY q) ∧
    affY (VrfCurve.add a q) = addY (dConst : Fp) (affX a) (affY a) (affX q) (affY q) := by
  obtain ⟨eX, eY, eZ, eT⟩ := model_add_cast a q
  obtain ⟨hne, hx, hy, ht⟩ := ext_add_affine (dConst : Fp) a.X a.Y a.Z a.T q.X q.Y q.Z q.T two_ne_zero_fp
    ha.1 hq.1 ha.2 hq.2 hD1 hD2
  simp only [WellFormed, affX, affY, eX, eY, eZ, eT]
  exact ⟨⟨hne, ht⟩, hx, hy⟩

theorem model_sub_cast (a q : Point) :
    (((VrfCurve.sub a q).X : ℕ) : Fp) = ((VrfCurve.add a (negPoint q)).X : ℕ) ∧
    (((VrfCurve.sub a q).Y : ℕ) : Fp) = ((VrfCurve.add a (negPoint q)).Y : ℕ) ∧
    (((VrfCurve.sub a q).Z : ℕ) : Fp) = ((VrfCurve.add a (negPoint q)).Z : ℕ) ∧
    (((VrfCurve.sub a q).T : ℕ) : Fp) = ((VrfCurve.add a (negPoint q)).T : ℕ) := by
  simp only [VrfCurve.sub, subC, VrfCurve.add, addC, Completed.toExtended, negPoint, cast_fmul, cast_fadd,
    cast_fsub, cast_fneg, cast_d2]
  refine ⟨?_, ?_, ?_, ?_⟩ <;> ring

theorem negPoint_wellFormed (q : Point) (hq : WellFormed q) : WellFormed (negPoint q) := by
  unfold WellFormed negPoint at *
  simp only [cast_fneg]
  exact ⟨hq.1, by linear_combination -hq.2⟩

theorem negPoint_affine (q : Point) : affX (negPoint q) = -affX q ∧ affY (negPoint q) = affY q := by
  unfold affX affY negPoint
  simp only [cast_fneg]
  exact ⟨neg_div _ _, trivial⟩

theorem model_sub_affine (a q : Point) (ha : WellFormed a) (hq : WellFormed q)
    (hD1 : 1 + (dConst : Fp) * affX a * (-affX q) * affY a * affY q ≠ 0)
    (hD2 : 1 - (dConst : Fp) * affX a * (-affX q) * affY a * affY q ≠ 0) :
    WellFormed (VrfCurve.sub a q) ∧
    affX (VrfCurve.sub a q) = addX (dConst : Fp) (affX a) (affY a) (-affX q) (affY q) ∧
    affY (VrfCurve.sub a q) = addY (dConst : Fp) (affX a) (affY a) (-affX q) (affY q) := by
  obtain ⟨eX, eY, eZ, eT⟩ := model_sub_cast a q
  obtain ⟨nx, ny⟩ := negPoint_affine q
  have h := model_add_affine a (negPoint q) ha (negPoint_wellFormed q hq) (by rwa [nx, ny]) (by rwa [nx, ny])
  simp only [WellFormed, affX, affY, eX, eY, eZ, eT]
  rwa [nx, ny] at h

end Rangers.Proofs.C16Cast
