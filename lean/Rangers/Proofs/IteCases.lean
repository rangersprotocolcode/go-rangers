namespace Rangers

/-- Case split on an `if` under a motive; stands in for `split`, which is many times dearer to check on the unfolded
model functions. -/
theorem ite_cases {α : Sort u} {M : α → Prop} {c : Prop} [Decidable c] {a b : α} (ha : c → M a) (hb : ¬c → M b) :
    M (if c then a else b) := by
  by_cases h : c
  · rw [if_pos h]; exact ha h
  · rw [if_neg h]; exact hb h

end Rangers
