import Rangers.Proofs.MinerSum
import Rangers.Proofs.MinerSort
/-! C20: iterator keys, the three lookup paths, the `RecKeyed` invariant. -/
namespace Rangers.Miner

theorem dedup_eq_adedup (l : List Bytes) : dedup l = adedup l := by
  induction l with
  | nil => rfl
  | cons a l ih => simp only [dedup, adedup, ih]

theorem mem_dedup (a : Bytes) (l : List Bytes) : a ∈ dedup l ↔ a ∈ l := by rw [dedup_eq_adedup]; exact mem_adedup a l

theorem nodup_dedup (l : List Bytes) : (dedup l).Nodup := by rw [dedup_eq_adedup]; exact nodup_adedup l

theorem perm_insertKey (k : Bytes) (l : List Bytes) : (insertKey k l).Perm (k :: l) :=
  insertKey_eq_merge k l ▸ List.merge_perm_append _

theorem perm_isort (l : List Bytes) : (isort l).Perm l := by
  induction l with
  | nil => exact .refl _
  | cons b l ih => exact (perm_insertKey b _).trans ((List.perm_cons b).mpr ih)

theorem mem_keys (s : Store) (k : Bytes) : k ∈ s.keys ↔ k ∈ s.map Prod.fst :=
  (perm_isort _).mem_iff.trans (mem_dedup k _)

theorem nodup_keys (s : Store) : s.keys.Nodup := (perm_isort _).nodup_iff.mpr (nodup_dedup _)

theorem mem_of_get_ne_nil (s : Store) (k : Bytes) (h : s.get k ≠ []) : k ∈ s.map Prod.fst :=
  Decidable.byContradiction fun hk => h (lookup_getD_of_notin s k [] hk)

/-- Every stored value that decodes as a record sits under the key named inside the record and is
    filed in the registry of the record's type. -/
def RecKeyed (cfg : Cfg) (st : State) : Prop :=
  ∀ d k info, (st.live d).get k ≠ [] → cfg.dec ((st.live d).get k) = some info → info.id = k ∧ k ≠ [] ∧ dbOfType info.typ = d

def Flushed (st : State) : Prop := st.trie = st.live

theorem iter_mem (cfg : Cfg) (st : State) (d : DbId) (m : Miner) :
    m ∈ iter cfg st d ↔ ∃ k, k ∈ (st.trie d).keys ∧ iterCurrent cfg st d ((st.trie d).get k) = some m := by
  simp [iter, List.mem_filterMap]

theorem iterCurrent_some (cfg : Cfg) (st : State) (d : DbId) (v : Bytes) (m : Miner) :
    iterCurrent cfg st d v = some m ↔
      v ≠ [] ∧ ∃ info, cfg.dec v = some info ∧ info.id ≠ [] ∧ m = readMiner cfg (st.live d) info info.id := by
  unfold iterCurrent
  by_cases hv : v = []
  · simp [hv]
  · simp only [hv, if_false, ne_eq, not_false_eq_true, true_and]
    cases hd : cfg.dec v with
    | none => simp
    | some info =>
      by_cases hi : info.id = []
      · simp [hi]
      · simp [hi, eq_comm]

theorem getMinerById_some (cfg : Cfg) (st : State) (d : DbId) (id : Bytes) (m : Miner) :
    getMinerById cfg st d id = some m ↔
      (st.live d).get id ≠ [] ∧ ∃ info, cfg.dec ((st.live d).get id) = some info ∧ m = readMiner cfg (st.live d) info id := by
  unfold getMinerById
  by_cases hv : (st.live d).get id = []
  · simp [hv]
  · simp only [hv, if_false, ne_eq, not_false_eq_true, true_and]
    cases hd : cfg.dec ((st.live d).get id) with
    | none => simp
    | some info => simp [eq_comm]

theorem getMinerById_id {cfg : Cfg} {st : State} {d : DbId} {k : Bytes} {m : Miner} (hr : RecKeyed cfg st)
    (h : getMinerById cfg st d k = some m) : m.id = k ∧ k ≠ [] ∧ dbOfType m.typ = d := by
  obtain ⟨hv, info, hdec, rfl⟩ := (getMinerById_some cfg st d k m).mp h
  exact hr d k info hv hdec

theorem iterCurrent_eq {cfg : Cfg} {st : State} (hr : RecKeyed cfg st) (d : DbId) (k : Bytes) :
    iterCurrent cfg st d ((st.live d).get k) = getMinerById cfg st d k := by
  unfold iterCurrent getMinerById
  by_cases hv : (st.live d).get k = []
  · rw [if_pos hv, if_pos hv]
  · rw [if_neg hv, if_neg hv]
    cases hdec : cfg.dec ((st.live d).get k) with
    | none => rfl
    | some info =>
      obtain ⟨hid, hne, _⟩ := hr d k info hv hdec
      show (if info.id = [] then none else some (readMiner cfg (st.live d) info info.id)) = _
      rw [hid, if_neg hne]

theorem iter_eq {cfg : Cfg} {st : State} (hf : Flushed st) (hr : RecKeyed cfg st) (d : DbId) :
    iter cfg st d = ((st.live d).keys).filterMap (getMinerById cfg st d) := by
  unfold iter
  rw [hf]
  exact congrArg (List.filterMap · _) (funext (iterCurrent_eq hr d))

theorem iter_iff (cfg : Cfg) (st : State) (d : DbId) (m : Miner) (hf : Flushed st) (hr : RecKeyed cfg st) :
    m ∈ iter cfg st d ↔ getMinerById cfg st d m.id = some m := by
  rw [iter_eq hf hr, List.mem_filterMap]
  constructor
  · rintro ⟨k, _, hk⟩
    rw [(getMinerById_id hr hk).1]; exact hk
  · intro h
    have hv := ((getMinerById_some cfg st d _ m).mp h).1
    exact ⟨m.id, (mem_keys _ _).mpr (mem_of_get_ne_nil _ _ hv), h⟩

theorem iter_to_id (cfg : Cfg) (st : State) (d : DbId) (m : Miner) (hf : Flushed st) (hr : RecKeyed cfg st)
    (hm : m ∈ iter cfg st d) : getMinerById cfg st d m.id = some m :=
  (iter_iff cfg st d m hf hr).mp hm

theorem id_to_iter (cfg : Cfg) (st : State) (d : DbId) (id : Bytes) (m : Miner) (hf : Flushed st) (hr : RecKeyed cfg st)
    (hm : getMinerById cfg st d id = some m) : m ∈ iter cfg st d :=
  (iter_iff cfg st d m hf hr).mpr ((getMinerById_id hr hm).1 ▸ hm)

theorem iter_ids_nodup (cfg : Cfg) (st : State) (d : DbId) (hf : Flushed st) (hr : RecKeyed cfg st) :
    ((iter cfg st d).map (·.id)).Nodup := by
  rw [iter_eq hf hr, List.map_filterMap]
  refine List.Pairwise.filterMap _ (fun k k' hne i hi i' hi' => ?_) (nodup_keys (st.live d))
  obtain ⟨m, hm, rfl⟩ := Option.map_eq_some_iff.mp hi
  obtain ⟨m', hm', rfl⟩ := Option.map_eq_some_iff.mp hi'
  rw [(getMinerById_id hr hm).1, (getMinerById_id hr hm').1]
  exact hne

theorem byAccount_some (cfg : Cfg) (st : State) (a id : Bytes) (h : byAccount cfg st a = some id) :
    ∃ m, (m ∈ iter cfg st .val ∨ m ∈ iter cfg st .prop) ∧ m.account = a ∧ m.id = id := by
  unfold byAccount at h
  cases hf : (iter cfg st .val ++ iter cfg st .prop).find? (fun m => m.account = a) with
  | none => simp [hf] at h
  | some m =>
    simp [hf] at h
    have hmem := List.mem_of_find?_eq_some hf
    have hp := List.find?_some hf
    exact ⟨m, by simpa using hmem, by simpa using hp, h⟩

theorem byAccount_isSome (cfg : Cfg) (st : State) (m : Miner)
    (h : m ∈ iter cfg st .val ∨ m ∈ iter cfg st .prop) : (byAccount cfg st m.account).isSome := by
  unfold byAccount
  rw [Option.isSome_map, List.find?_isSome]
  exact ⟨m, by simpa using h, by simp⟩

end Rangers.Miner
