import Rangers.Model.RLPEncbuf
/-! `EncodeToBytes` through the two-phase `encbuf` (string data + list heads, `toBytes`) is the recursive `encode`
    (`encodeViaBuf_eq`). -/
namespace Rangers.RLP
open Rangers

mutual
  /-- string data an item contributes to `encbuf.str` -/
  def sdata : Item → Bytes
    | .str b => encString b
    | .list xs => sdataL xs
  def sdataL : List Item → Bytes
    | [] => []
    | x :: xs => sdata x ++ sdataL xs
end

mutual
  /-- total length of the list headers inside an item -/
  def hsz : Item → Nat
    | .str _ => 0
    | .list xs => (encHead 0xc0 0xf7 (encodeList xs).length).length + hszL xs
  def hszL : List Item → Nat
    | [] => 0
    | x :: xs => hsz x + hszL xs
end

mutual
  /-- the list heads an item appends, when its string data starts at offset `off` -/
  def heads : Item → Nat → List (Nat × Nat)
    | .str _, _ => []
    | .list xs, off => (off, (encodeList xs).length) :: headsL xs off
  def headsL : List Item → Nat → List (Nat × Nat)
    | [], _ => []
    | x :: xs, off => heads x off ++ headsL xs (off + (sdata x).length)
end

mutual
  theorem enc_len (it : Item) : (encode it).length = (sdata it).length + hsz it := by
    cases it with
    | str b => simp [encode, sdata, hsz]
    | list xs =>
      simp only [encode, encListPayload, sdata, hsz, List.length_append]
      rw [encL_len xs]; omega
  theorem encL_len (xs : List Item) : (encodeList xs).length = (sdataL xs).length + hszL xs := by
    cases xs with
    | nil => simp [encodeList, sdataL, hszL]
    | cons x xs =>
      simp only [encodeList, sdataL, hszL, List.length_append]
      rw [enc_len x, encL_len xs]; omega
end

theorem encHead_len (s l sz : Nat) : (encHead s l sz).length = if sz < 56 then 1 else 1 + intsize sz := by
  unfold encHead intsize
  split <;> simp <;> omega

theorem set_mid {α : Type} (L : List α) (a a' : α) (T : List α) : (L ++ a :: T).set L.length a' = L ++ a' :: T := by
  induction L with
  | nil => simp
  | cons x xs ih => simp [ih]

theorem get_mid {α : Type} (L : List α) (a : α) (T : List α) : (L ++ a :: T)[L.length]? = some a := by
  induction L with
  | nil => simp
  | cons x xs ih => simpa using ih

mutual
  theorem wItem_spec (it : Item) (w : EncBuf) :
      wItem it w = { str := w.str ++ sdata it, lheads := w.lheads ++ heads it w.str.length, lhsize := w.lhsize + hsz it } := by
    cases it with
    | str b => simp [wItem, EncBuf.encodeString, sdata, heads, hsz]
    | list xs =>
      simp only [wItem, EncBuf.list]
      rw [wItems_spec xs]
      simp only [EncBuf.listEnd, List.append_assoc, List.singleton_append]
      rw [get_mid]
      simp only [EncBuf.size, List.length_append]
      have hsz' : w.str.length + (sdataL xs).length + (w.lhsize + hszL xs) - w.str.length - w.lhsize = (encodeList xs).length := by
        rw [encL_len xs]; omega
      rw [hsz', set_mid]
      simp only [sdata, heads, hsz, encHead_len]
      congr 1
      omega
  theorem wItems_spec (xs : List Item) (w : EncBuf) :
      wItems xs w = { str := w.str ++ sdataL xs, lheads := w.lheads ++ headsL xs w.str.length, lhsize := w.lhsize + hszL xs } := by
    cases xs with
    | nil => simp [wItems, sdataL, headsL, hszL]
    | cons x xs =>
      simp only [wItems]
      rw [wItem_spec x, wItems_spec xs]
      simp only [sdataL, headsL, hszL, List.append_assoc, List.length_append, Nat.add_assoc]
end

/-- the next head (if any) starts at or after position `n` -/
def okT : List (Nat × Nat) → Nat → Prop
  | [], _ => True
  | (o, _) :: _, n => n ≤ o

theorem okT_mono {T : List (Nat × Nat)} {n m : Nat} (h : okT T n) (hm : m ≤ n) : okT T m := by
  cases T with
  | nil => trivial
  | cons t _ => obtain ⟨o, _⟩ := t; simp only [okT] at h ⊢; omega

theorem render_advance (T : List (Nat × Nat)) (S : Bytes) (pos n : Nat) (h : okT T (pos + n)) :
    renderFrom T S pos = (S.drop pos).take n ++ renderFrom T S (pos + n) := by
  cases T with
  | nil =>
    simp only [renderFrom]
    rw [← List.drop_drop, List.take_append_drop]
  | cons t hs =>
    obtain ⟨o, sz⟩ := t
    simp only [okT] at h
    simp only [renderFrom]
    have h1 : o - pos = n + (o - (pos + n)) := by omega
    rw [h1, List.take_add, ← List.drop_drop]
    simp [List.append_assoc]

theorem okT_heads (it : Item) (off : Nat) (T : List (Nat × Nat)) (h : okT T (off + (sdata it).length)) :
    okT (heads it off ++ T) off := by
  cases it with
  | str b => simpa [heads] using okT_mono h (by omega)
  | list xs => simp [heads, okT]

theorem okT_headsL : ∀ (xs : List Item) (off : Nat) (T : List (Nat × Nat)), okT T (off + (sdataL xs).length) →
    okT (headsL xs off ++ T) off := by
  intro xs
  induction xs with
  | nil => intro off T h; simpa [headsL, sdataL] using h
  | cons x xs ih =>
    intro off T h
    simp only [headsL, List.append_assoc]
    apply okT_heads
    apply ih
    simpa [sdataL, Nat.add_assoc] using h

mutual
  theorem render_item (it : Item) (off : Nat) (pre post : Bytes) (T : List (Nat × Nat))
      (hpre : pre.length = off) (hT : okT T (off + (sdata it).length)) :
      renderFrom (heads it off ++ T) (pre ++ (sdata it ++ post)) off
        = encode it ++ renderFrom T (pre ++ (sdata it ++ post)) (off + (sdata it).length) := by
    cases it with
    | str b =>
      simp only [heads, List.nil_append, sdata, encode]
      rw [render_advance T _ off (encString b).length (by simpa [sdata] using hT)]
      congr 1
      rw [List.drop_left' hpre, List.take_left' rfl]
    | list xs =>
      simp only [heads, List.cons_append, renderFrom, Nat.sub_self, List.take_zero, List.nil_append, sdata, encode, encListPayload]
      rw [render_items xs off pre post T hpre (by simpa [sdata] using hT), List.append_assoc]
  theorem render_items (xs : List Item) (off : Nat) (pre post : Bytes) (T : List (Nat × Nat))
      (hpre : pre.length = off) (hT : okT T (off + (sdataL xs).length)) :
      renderFrom (headsL xs off ++ T) (pre ++ (sdataL xs ++ post)) off
        = encodeList xs ++ renderFrom T (pre ++ (sdataL xs ++ post)) (off + (sdataL xs).length) := by
    cases xs with
    | nil => simp [headsL, sdataL, encodeList]
    | cons x xs =>
      simp only [headsL, sdataL, encodeList, List.append_assoc, List.length_append]
      have hT' : okT (headsL xs (off + (sdata x).length) ++ T) (off + (sdata x).length) :=
        okT_headsL xs _ T (by simpa [sdataL, Nat.add_assoc] using hT)
      rw [render_item x off pre (sdataL xs ++ post) _ hpre hT']
      have hS : pre ++ (sdata x ++ (sdataL xs ++ post)) = (pre ++ sdata x) ++ (sdataL xs ++ post) := by simp
      rw [hS, render_items xs (off + (sdata x).length) (pre ++ sdata x) post T (by simp [hpre])
        (by simpa [sdataL, Nat.add_assoc] using hT), Nat.add_assoc]
end

theorem encodeViaBuf_eq (it : Item) : encodeViaBuf it = encode it := by
  unfold encodeViaBuf EncBuf.toBytes
  rw [wItem_spec]
  simp only [EncBuf.empty, List.nil_append, List.length_nil]
  have := render_item it 0 [] [] [] rfl trivial
  simp only [List.append_nil, List.nil_append, Nat.zero_add, renderFrom] at this
  rw [this, List.drop_of_length_le (Nat.le_refl _)]
  simp

end Rangers.RLP
