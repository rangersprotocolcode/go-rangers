import Rangers.Proofs.GroupChainRun
/-! The two readers that walk the predecessor links with a stopping rule — the availability walk and the
common-ancestor choice `getFirstGroupBelowHeight` — as list functions of the iterator's walk, and the fork switch
(`groupChainFork.triggerOnChain`). -/
namespace Rangers.Model.GroupChain
open Rangers

/-- The availability rule on a list (newest first): take groups while `dismiss > h`; at the first
    one that is not, put `gen` (what `GetGroupByHeight(0)` returns) and stop. -/
def availOf (gen : Option Group) (h : Nat) : List Group → List (Option Group)
  | [] => []
  | g :: t => if g.dismiss > h then some g :: availOf gen h t else [gen]

theorem availWalk_eq (d : Store) (h : Nat) : ∀ (fuel : Nat) (g : Group),
    availWalk d h fuel g = availOf (getGroupByHeight d 0) h (iterWalk d fuel g) := by
  intro fuel
  induction fuel with
  | zero => intro g; simp [availWalk, iterWalk, availOf]
  | succ f ih =>
    intro g
    unfold availWalk iterWalk
    by_cases hc : g.dismiss > h
    · cases hp : getGroupById d g.pre with
      | none => simp [hc, availOf]
      | some p => simp [hc, availOf, ih p]
    · cases hp : getGroupById d g.pre <;> simp [hc, availOf]

theorem firstBelowWalk_eq_find (d : Store) (x : Nat) : ∀ (fuel : Nat) (g : Group),
    firstBelowWalk d x fuel g = (iterWalk d fuel g).find? (fun g => decide (g.create ≤ x)) := by
  intro fuel
  induction fuel with
  | zero => intro g; rfl
  | succ f ih =>
    intro g
    unfold firstBelowWalk iterWalk
    by_cases hc : g.create ≤ x
    · cases hp : getGroupById d g.pre <;> simp [hc]
    · cases hp : getGroupById d g.pre with
      | none => simp [hc]
      | some p => simp [hc, ih p]

theorem availOf_mem (gen : Option Group) (h : Nat) (l : List Group) :
    ∀ og ∈ availOf gen h l, og = gen ∨ ∃ g, og = some g ∧ g ∈ l ∧ g.dismiss > h := by
  induction l with
  | nil => intro og hog; simp [availOf] at hog
  | cons a t ih =>
    intro og hog
    rw [availOf] at hog
    split at hog
    · next hc =>
      rcases List.mem_cons.mp hog with rfl | hog
      · exact .inr ⟨a, rfl, List.mem_cons_self .., hc⟩
      · exact (ih og hog).imp_right fun ⟨g, e1, e2, e3⟩ => ⟨g, e1, List.mem_cons_of_mem _ e2, e3⟩
    · exact .inl (List.mem_singleton.mp hog)

theorem availOf_all (gen : Option Group) (h : Nat) (l : List Group) (hall : ∀ g ∈ l, g.dismiss > h) :
    availOf gen h l = l.map some := by
  induction l with
  | nil => rfl
  | cons a t ih =>
    have ha := hall a (by simp)
    simp [availOf, ha, ih (fun g hg => hall g (by simp [hg]))]

def specAddAll (dur : Nat) : List Group → List Group → Chain → List Group
  | [], l, _ => l
  | g :: t, l, c =>
    if addCheck c (prepare dur g) = .ok then
      specAddAll dur t (l ++ [stamped l.length (prepare dur g)]) (save c (prepare dur g))
    else l

theorem addAll_cons_ok {dur : Nat} {g : Group} {c : Chain} (t : List Group)
    (hok : addCheck c (prepare dur g) = .ok) :
    addAll dur (g :: t) c = addAll dur t (save c (prepare dur g)) := by
  simp only [addAll, addGroupD, addGroup, hok]

theorem addAll_cons_rejected {dur : Nat} {g : Group} {c : Chain} (t : List Group)
    (hok : addCheck c (prepare dur g) ≠ .ok) : addAll dur (g :: t) c = (c, false) := by
  simp only [addAll, addGroupD, addGroup_rejected hok]

theorem addAll_spec (dur : Nat) : ∀ (gs : List Group) (l : List Group) (c : Chain), Rep l c →
    (∀ g ∈ gs, IdOK g.id) → l.length + gs.length < lenBound →
    Rep (specAddAll dur gs l c) (addAll dur gs c).1 ∧ l <+: specAddAll dur gs l c ∧
      ((addAll dur gs c).2 = true → (specAddAll dur gs l c).length = l.length + gs.length) := by
  intro gs
  induction gs with
  | nil => intro l c r _ _; exact ⟨r, List.prefix_refl l, fun _ => rfl⟩
  | cons g t ih =>
    intro l c r hid hb
    rw [List.length_cons] at hb
    rw [specAddAll]
    by_cases hok : addCheck c (prepare dur g) = .ok
    · obtain ⟨h1, h2, h3⟩ := ih _ _
        (rep_add r (prepare dur g) (Nat.lt_of_le_of_lt (Nat.add_le_add_left (Nat.succ_pos _) _) hb)
          (hid g (List.mem_cons_self ..)) hok).2
        (fun x hx => hid x (List.mem_cons_of_mem _ hx))
        (by rw [List.length_append, List.length_singleton, Nat.add_assoc, Nat.add_comm 1]; exact hb)
      rw [addAll_cons_ok t hok, if_pos hok]
      refine ⟨h1, (List.prefix_append l _).trans h2, fun e => ?_⟩
      rw [h3 e, List.length_append, List.length_singleton, Nat.add_assoc, Nat.add_comm 1, List.length_cons]
    · rw [addAll_cons_rejected t hok, if_neg hok]
      exact ⟨r, List.prefix_refl l, nofun⟩

theorem shas_save (c : Chain) (g : Group) (k : Bytes) (hk : IdOK k) :
    shas (save c g).disk k = (decide (k = g.id) || shas c.disk k) := by
  rw [shas, save, sget_save, idxRead_id hk]
  by_cases e : k = g.id
  · rw [if_pos e, decide_eq_true e]; rfl
  · rw [if_neg e, decide_eq_false e]; rfl

/-- Acceptance is decided by `shas` and `last` alone, and `save` changes those in a known way (`shas_save`):
    no `Rep` is needed. -/
theorem addAll_accepts (dur : Nat) : ∀ (gs : List Group) (l : List Group) (c : Chain),
    (∀ g ∈ gs, IdOK g.id ∧ IdOK g.parent) → (gs.map (·.id)).Nodup →
    (∀ g ∈ gs, shas c.disk g.id = false) → (∀ g ∈ gs, shas c.disk g.parent = true) →
    Linked c.last.id gs →
    (addAll dur gs c).2 = true ∧
      specAddAll dur gs l c = l ++ stampFrom l.length (gs.map (prepare dur)) := by
  intro gs
  induction gs with
  | nil => intro l c _ _ _ _ _; exact ⟨rfl, (List.append_nil l).symm⟩
  | cons g t ih =>
    intro l c hid hnd hfr hpar hlk
    have hok : addCheck c (prepare dur g) = .ok :=
      addCheck_eq_ok.mpr ⟨hfr g (List.mem_cons_self ..), hpar g (List.mem_cons_self ..), hlk.1.symm⟩
    obtain ⟨hgt, hnd'⟩ := List.nodup_cons.mp hnd
    have := ih (l ++ [stamped l.length (prepare dur g)]) (save c (prepare dur g))
      (fun x hx => hid x (List.mem_cons_of_mem _ hx)) hnd'
      (fun x hx => by
        have hne : x.id ≠ g.id := fun e => hgt (List.mem_map.mpr ⟨x, hx, e⟩)
        rw [shas_save _ _ _ (hid x (List.mem_cons_of_mem _ hx)).1, hfr x (List.mem_cons_of_mem _ hx)]
        exact (Bool.or_false _).trans (decide_eq_false hne))
      (fun x hx => by
        rw [shas_save _ _ _ (hid x (List.mem_cons_of_mem _ hx)).2, hpar x (List.mem_cons_of_mem _ hx)]
        exact Bool.or_true _)
      hlk.2
    rw [addAll_cons_ok t hok, specAddAll, if_pos hok, this.2]
    exact ⟨this.1, by simp [stampFrom, List.append_assoc]⟩

theorem availableByMiner_some (c : Chain) (h : Nat) (m : Bytes)
    (hall : ∀ og ∈ availableAt c h, ∃ g, og = some g) :
    ∃ r, availableByMiner c h m = some r ∧ ∀ g ∈ r, some g ∈ availableAt c h ∧ m ∈ g.members := by
  unfold availableByMiner
  generalize availableAt c h = L at hall
  induction L with
  | nil => exact ⟨[], rfl, fun _ h => (nomatch h)⟩
  | cons a t ih =>
    obtain ⟨g, rfl⟩ := hall _ (List.mem_cons_self ..)
    obtain ⟨r, e, hr⟩ := ih (fun og hog => hall og (List.mem_cons_of_mem _ hog))
    rw [List.foldr_cons, e]
    have hr' : ∀ x ∈ r, some x ∈ some g :: t ∧ m ∈ x.members := fun x hx =>
      ⟨List.mem_cons_of_mem _ (hr x hx).1, (hr x hx).2⟩
    by_cases hm : m ∈ g.members
    · refine ⟨g :: r, by simp only [hm, if_true], fun x hx => ?_⟩
      rcases List.mem_cons.mp hx with rfl | hx
      · exact ⟨List.mem_cons_self .., hm⟩
      · exact hr' x hx
    · exact ⟨r, by simp only [hm, if_false], hr'⟩

end Rangers.Model.GroupChain
