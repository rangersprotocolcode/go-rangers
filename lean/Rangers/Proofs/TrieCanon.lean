import Rangers.Proofs.TrieWF
import Rangers.Proofs.TrieKeys
/- The canonical trie: `canon (iter t) = t` for minimal-form tries, hence uniqueness of the minimal form. -/
namespace Rangers.Trie
open Rangers

theorem canon_nil (f) : canon f [] = .nil := by cases f <;> simp [canon]
theorem canon_single (f : Nat) (e : Key × Bytes) :
    canon (f + 1) [e] = if e.1 = [] then .value e.2 else .short e.1 (.value e.2) := by simp [canon]
theorem canon_many (f : Nat) (J : List (Key × Bytes)) (h : 2 ≤ J.length) :
    canon (f + 1) J =
      if lcpAll J ≠ [] then .short (lcpAll J) (canon f (dropKeys (lcpAll J).length J))
      else .full ((List.range 17).map (fun i => canon f (bucket J i))) := by
  match J, h with
  | _ :: _ :: _, _ => simp [canon]

theorem iter_valid : ∀ t, WF t → ∀ e ∈ iter t, ValidKey e.1 ∧ e.2 ≠ [] := by
  apply WF_induct
  case leaf =>
    intro kk b hkk hb e he
    rw [iter_leaf, List.mem_singleton] at he
    subst he; exact ⟨hkk, hb⟩
  case ext =>
    intro kk cs hne hnib hfull ih e he
    rw [iter_short] at he
    obtain ⟨e', he', rfl⟩ := List.mem_map.mp he
    have := ih e' he'
    exact ⟨(validKey_append kk e'.1 this.1.ne_nil).mpr ⟨hnib, this.1⟩, this.2⟩
  case full =>
    intro cs hwf ih e he
    obtain ⟨j, r, hk, he'⟩ := mem_iter_full.mp he
    rw [hk]
    rcases slot_shape hwf j with h | ⟨rfl, b, hb, hbne⟩ | ⟨hj16, hw, hmem⟩
    · rw [h, iter_nil] at he'; cases he'
    · rw [hb, iter_value, List.mem_singleton, Prod.mk.injEq] at he'
      rw [he'.1, he'.2]
      exact ⟨by simp [ValidKey], hbne⟩
    · have := ih _ hmem hw _ he'
      exact ⟨(validKey_cons j r).mpr (Or.inr ⟨hj16, this.1⟩), this.2⟩

/-- `ih` is `iter_ne_nil` at the children.  The shape recurs (`expandNode_refOf`, `mapM_expand_of_expandFull`, `hashLs_spec`,
    `decodeRef_encC`, `commit_self`): a lemma about the slots takes the node-level theorem as a hypothesis, so that the induction
    proving that theorem can call it with its own induction hypothesis. -/
theorem slot_entry {cs : List Node} (hwf : WF (.full cs)) (ih : ∀ c ∈ cs, WF c → iter c ≠ []) {k : Nat}
    (hne : cs[k]?.getD .nil ≠ .nil) : ∃ e : Key × Bytes, (k :: e.1, e.2) ∈ iter (.full cs) ∧ (k < 16 → e.1 ≠ []) := by
  rcases slot_shape hwf k with h | ⟨rfl, b, hb, _⟩ | ⟨_, hw, hmem⟩
  · exact absurd h hne
  · refine ⟨([], b), mem_iter_full.mpr ⟨16, [], rfl, ?_⟩, fun h => absurd h (by omega)⟩
    rw [hb, iter_value]; exact List.mem_singleton_self _
  · obtain ⟨e, he⟩ := List.exists_mem_of_ne_nil _ (ih _ hmem hw)
    exact ⟨e, mem_iter_full.mpr ⟨k, e.1, rfl, he⟩, fun _ => (iter_valid _ hw e he).1.ne_nil⟩

theorem iter_ne_nil : ∀ t, WF t → iter t ≠ [] := by
  apply WF_induct
  case leaf => intro kk b _ _; rw [iter_leaf]; exact List.cons_ne_nil _ _
  case ext => intro kk cs _ _ _ ih; rw [iter_short]; simpa [prepend] using ih
  case full =>
    intro cs hwf ih
    obtain ⟨j, _, _, _, hne, _⟩ := exists_two_of_countNN cs ((WF_full_iff cs).mp hwf).2.2
    obtain ⟨e, he, _⟩ := slot_entry hwf ih hne
    exact List.ne_nil_of_mem he

theorem lcp_append_left (p a b : Key) : lcp (p ++ a) (p ++ b) = p ++ lcp a b := by
  induction p with
  | nil => rfl
  | cons x p ih => simp [lcp, ih]

theorem lcp_prefix_left (a b : Key) : lcp a b <+: a := by
  induction a generalizing b with
  | nil => simp [lcp]
  | cons x a ih =>
    cases b with
    | nil => simp [lcp]
    | cons y b =>
      simp only [lcp]
      split
      · exact (List.cons_prefix_cons).mpr ⟨rfl, ih b⟩
      · exact List.nil_prefix

theorem lcp_prefix_right (a b : Key) : lcp a b <+: b := by
  induction a generalizing b with
  | nil => simp [lcp]
  | cons x a ih =>
    cases b with
    | nil => simp [lcp]
    | cons y b =>
      simp only [lcp]
      split
      · rename_i h; subst h; exact (List.cons_prefix_cons).mpr ⟨rfl, ih b⟩
      · exact List.nil_prefix

theorem lcpAll_prefix (J : List (Key × Bytes)) : ∀ e ∈ J, lcpAll J <+: e.1 := by
  induction J with
  | nil => simp
  | cons e J ih =>
    cases J with
    | nil => intro e' he'; simp at he'; subst he'; simp [lcpAll]
    | cons e2 rest =>
      intro e' he'
      simp only [lcpAll]
      cases he' with
      | head => exact lcp_prefix_left _ _
      | tail _ h => exact List.IsPrefix.trans (lcp_prefix_right _ _) (ih e' h)

theorem lcpAll_prepend (p : Key) (L : List (Key × Bytes)) (h : L ≠ []) :
    lcpAll (prepend p L) = p ++ lcpAll L := by
  induction L with
  | nil => exact absurd rfl h
  | cons e L ih =>
    cases L with
    | nil => simp [prepend, lcpAll]
    | cons e2 rest =>
      have := ih (by simp)
      simp only [prepend, List.map_cons] at this ⊢
      simp only [lcpAll, this, lcp_append_left]

theorem dropKeys_prepend (p : Key) (L : List (Key × Bytes)) : dropKeys p.length (prepend p L) = L := by
  simp [dropKeys, prepend, List.map_map, Function.comp_def]

theorem lcpAll_eq_nil {L : List (Key × Bytes)} {e1 e2 : Key × Bytes} (h1 : e1 ∈ L) (h2 : e2 ∈ L)
    (h : e1.1.head? ≠ e2.1.head?) : lcpAll L = [] := by
  obtain ⟨s1, hs1⟩ := lcpAll_prefix L e1 h1
  obtain ⟨s2, hs2⟩ := lcpAll_prefix L e2 h2
  cases hp : lcpAll L with
  | nil => rfl
  | cons x p => rw [← hs1, ← hs2, hp] at h; simp at h

theorem height_le_heightL (cs : List Node) : ∀ c ∈ cs, height c ≤ height.heightL cs := by
  induction cs with
  | nil => simp
  | cons x cs ih =>
    intro c hc
    simp only [height.heightL]
    cases hc with
    | head => exact Nat.le_max_left _ _
    | tail _ h => exact Nat.le_trans (ih c h) (Nat.le_max_right _ _)

theorem fuel_short {kk : Key} {v : Node} {f : Nat} (h : height (.short kk v) ≤ f) : ∃ f', f = f' + 1 ∧ height v ≤ f' := by
  simp only [height] at h; exact fuel_succ h

theorem fuel_full {cs : List Node} {f : Nat} (h : height (.full cs) ≤ f) :
    ∃ f', f = f' + 1 ∧ ∀ c ∈ cs, height c ≤ f' := by
  simp only [height] at h
  obtain ⟨f', rfl, hf'⟩ := fuel_succ h
  exact ⟨f', rfl, fun c hc => Nat.le_trans (height_le_heightL cs c hc) hf'⟩

theorem two_entries {cs : List Node} (hwf : WF (.full cs)) :
    ∃ (i j : Nat) (a b : Key × Bytes), i < j ∧ a.1 ≠ [] ∧
      (i :: a.1, a.2) ∈ iter (.full cs) ∧ (j :: b.1, b.2) ∈ iter (.full cs) := by
  obtain ⟨hlen, _, hcnt⟩ := (WF_full_iff cs).mp hwf
  obtain ⟨i, j, hij, hj, hni, hnj⟩ := exists_two_of_countNN cs hcnt
  obtain ⟨a, ha, hane⟩ := slot_entry hwf (fun c _ hw => iter_ne_nil c hw) hni
  obtain ⟨b, hb, _⟩ := slot_entry hwf (fun c _ hw => iter_ne_nil c hw) hnj
  exact ⟨i, j, a, b, hij, hane (by omega), ha, hb⟩

theorem iter_full_shape (cs : List Node) (hwf : WF (.full cs)) :
    2 ≤ (iter (.full cs)).length ∧ lcpAll (iter (.full cs)) = [] := by
  obtain ⟨i, j, a, b, hij, _, m1, m2⟩ := two_entries hwf
  refine ⟨?_, lcpAll_eq_nil m1 m2 (by simp; omega)⟩
  match hJ : iter (.full cs), m1, m2 with
  | [], m1, _ => simp at m1
  | [e], m1, m2 =>
    simp only [List.mem_singleton] at m1 m2
    have := m1.trans m2.symm
    simp at this; omega
  | _ :: _ :: _, _, _ => simp

/-- the step at a full node: its list has empty common prefix (`iter_full_shape`), so `canon` builds a full node, and bucket `i`
    of the list is the list of slot `i` (`bucket_iter_full`) -/
theorem canon_iter : ∀ t, WF t → ∀ f, height t ≤ f → canon f (iter t) = t := by
  apply WF_induct
  case leaf =>
    intro kk b hkk hb f hf
    obtain ⟨f', rfl, -⟩ := fuel_short hf
    rw [iter_leaf, canon_single]
    simp [hkk.ne_nil]
  case ext =>
    intro kk cs hne hnib hfull ih f hf
    obtain ⟨f', rfl, hf'⟩ := fuel_short hf
    obtain ⟨h2, hl⟩ := iter_full_shape cs hfull
    have hne' : iter (.full cs) ≠ [] := by intro h; rw [h] at h2; simp at h2
    rw [iter_short, canon_many _ _ (by simpa [prepend] using h2), lcpAll_prepend _ _ hne', hl, List.append_nil, if_pos hne,
      dropKeys_prepend, ih f' hf']
  case full =>
    intro cs hwf ih f hf
    have hlen := ((WF_full_iff cs).mp hwf).1
    obtain ⟨f', rfl, hf'⟩ := fuel_full hf
    obtain ⟨h2, hl⟩ := iter_full_shape cs hwf
    rw [canon_many _ _ h2, hl, if_neg (by simp)]
    congr 1
    apply List.ext_getElem
    · simp [hlen]
    · intro i h1 h2
      simp only [List.getElem_map, List.getElem_range, bucket_iter_full]
      have hget : cs[i]?.getD .nil = cs[i] := by simp [h2]
      have hs := slot_shape hwf i
      rw [hget] at hs ⊢
      rcases hs with h | ⟨rfl, b, hb, _⟩ | ⟨_, hw, hmem⟩
      · rw [h, iter_nil, canon_nil]
      · have hh := hf' _ (List.getElem_mem h2)
        rw [hb] at hh ⊢
        obtain ⟨f'', rfl, -⟩ := fuel_succ (n := 0) hh
        rw [iter_value, canon_single, if_pos rfl]
      · exact ih _ hmem hw f' (hf' _ hmem)

theorem wf_unique_iter (a b : Node) (ha : WFRoot a) (hb : WFRoot b) (h : iter a = iter b) : a = b := by
  rcases ha with rfl | ha
  · rcases hb with rfl | hb
    · rfl
    · exact absurd (h.symm.trans iter_nil) (iter_ne_nil b hb)
  · rcases hb with rfl | hb
    · exact absurd (h.trans iter_nil) (iter_ne_nil a ha)
    · have h1 := canon_iter a ha (max (height a) (height b)) (Nat.le_max_left _ _)
      have h2 := canon_iter b hb (max (height a) (height b)) (Nat.le_max_right _ _)
      calc a = canon (max (height a) (height b)) (iter a) := h1.symm
        _ = canon (max (height a) (height b)) (iter b) := by rw [h]
        _ = b := h2

/-- the entries of a minimal-form trie sit under terminated keys, so the content under those determines the trie -/
theorem wf_ext {a b : Node} (ha : WFRoot a) (hb : WFRoot b) (h : ∀ κ, ValidKey κ → content a κ = content b κ) : a = b := by
  have sub : ∀ {a b : Node}, WFRoot a → (∀ κ, ValidKey κ → content a κ = content b κ) → ∀ e ∈ iter a, e ∈ iter b := by
    intro a b ha h e he
    rcases ha with rfl | ha
    · rw [iter_nil] at he; cases he
    · exact content_eq_some_iff_mem.mp (h e.1 (iter_valid a ha e he).1 ▸ content_eq_some_iff_mem.mpr he)
  exact wf_unique_iter a b ha hb (sorted_eq_of_mem_iff (sortedKeys_iter a) (sortedKeys_iter b)
    (fun e => ⟨sub ha h e, sub hb (fun κ hκ => (h κ hκ).symm) e⟩))

end Rangers.Trie
