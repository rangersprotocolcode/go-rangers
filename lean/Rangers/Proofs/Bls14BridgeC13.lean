import Rangers.Model.G1
import Rangers.Proofs.C13ModArith
import Rangers.Proofs.Bls14Curve
/-!
Bridge between the two affine G1 models: `Rangers.Model.G1` (C13, curve as a parameter, inverse
by extended Euclid as `big.Int.ModInverse`) and `Rangers.Model.Bls14` (C14, inverse by Fermat as
`gfP.Invert`). On reduced points, at the bn256 parameters and for `p` prime, `neg`, `double`,
`add` and the on-curve test coincide — so the group-law theorems of `Proofs/Bls14Curve.lean`
(`ι_add`, `ι_neg`, `ι_inj`, against Mathlib's `WeierstrassCurve.Affine.Point`) transfer to the C13
model through `conv`.
`mul` (the two loops index bits differently: `testBit` over `bitLen … 0` vs a bit list),
`marshal` and `unmarshal` are bridged in `Proofs/C13G1Bridge.lean`. The other functions that C13 and C14
each model have no bridge: G2 (`Model/G2.lean` is only run by the driver of C13; the group law of `Bls14.Pt2` is
`Proofs/Bls14Twist.lean`), and, with their theorems proved once per copy, the id codec and hex scanning (`Model/IdKey.lean`;
`Bls14.idSerialize`, `bnSetHexString`) and key aggregation (`Shamir.aggregateSeckeys`, `aggregatePoints`;
`Bls14.aggregateSeckeys`, `aggregatePubkeys`).
-/
namespace Rangers.Proofs.Bls14
open Rangers Rangers.Model.Bls14

variable [hp : Fact (Nat.Prime P)]

def c13 : Model.G1.Curve := ⟨P, B⟩

def conv : Pt → Model.G1.Point
  | .inf => .inf
  | .aff x y => .aff x y

omit hp in
theorem c13_fmul (a b : ℕ) : Model.G1.fmul c13 a b = fmul a b := rfl
omit hp in
theorem c13_fsub (a b : ℕ) : Model.G1.fsub c13 a b = fsub a b := rfl
omit hp in
theorem c13_fadd (a b : ℕ) : Model.G1.fadd c13 a b = fadd a b := rfl

theorem c13_finv (a : ℕ) : Model.G1.finv c13 a = finv a := by
  unfold Model.G1.finv
  have hlt : finv a < P := powMod_lt _ _ P_pos
  by_cases h0 : ((a % P : ℕ) : ZMod P) = 0
  · have h0' : (a : F) = 0 := by rwa [ZMod.natCast_mod] at h0
    have : finv a = 0 := by
      have hc := cast_finv a
      rw [h0', inv_zero] at hc
      exact ZModCast.natCast_inj_of_lt hlt P_pos (by rw [hc]; simp)
    simp only [c13]
    rw [Proofs.C13.modInverse_none (a % P) h0, this]
  · obtain ⟨v, hv, hvc, hvlt⟩ := Proofs.C13.modInverse_some (p := P) (a % P) h0
    simp only [c13]
    rw [hv]
    apply ZModCast.natCast_inj_of_lt hvlt hlt
    rw [hvc, cast_finv, ZMod.natCast_mod]

omit hp in
theorem c13_neg (p : Pt) : Model.G1.neg c13 (conv p) = conv p.neg := by
  cases p with
  | inf => rfl
  | aff x y => simp [Model.G1.neg, conv, Pt.neg, c13_fsub, fsub, fneg]

theorem c13_double (p : Pt) (hr : p.reduced = true) :
    Model.G1.double c13 (conv p) = conv p.double := by
  cases p with
  | inf => rfl
  | aff x y =>
    simp only [Pt.reduced, Bool.and_eq_true, decide_eq_true_eq] at hr
    simp only [Model.G1.double, conv, Pt.double, c13_fmul, c13_fsub, c13_finv, fsub_fsub_self]
    by_cases hy : y = 0
    · subst hy; rfl
    · have hb : (y % P == 0) = false := by rw [Nat.mod_eq_of_lt hr.2]; exact beq_false_of_ne hy
      rw [if_neg hy, hb]; rfl

theorem c13_add (p q : Pt) (hpr : p.reduced = true) (hqr : q.reduced = true) :
    Model.G1.add c13 (conv p) (conv q) = conv (p.add q) := by
  cases p with
  | inf => cases q <;> rfl
  | aff x1 y1 =>
    cases q with
    | inf => rfl
    | aff x2 y2 =>
      have h1 := hpr; have h2 := hqr
      simp only [Pt.reduced, Bool.and_eq_true, decide_eq_true_eq] at h1 h2
      simp only [Model.G1.add, conv, Pt.add, Nat.mod_eq_of_lt h1.1, Nat.mod_eq_of_lt h1.2,
        Nat.mod_eq_of_lt h2.1, Nat.mod_eq_of_lt h2.2, beq_iff_eq, c13_fmul, c13_fsub, c13_finv]
      by_cases hx : x1 = x2
      · by_cases hy : y1 = y2
        · simp only [hx, hy, if_true]
          have := c13_double (.aff x2 y2) hqr
          simpa [conv] using this
        · simp [hx, hy]
      · simp [hx]

omit hp in
theorem c13_isOnCurve (x y : ℕ) :
    Model.G1.isOnCurve c13 (.aff x y) = onCurveXY x y := by
  show (fmul y y == fadd (fmul (fmul x x) x) (B % P)) = (y * y % P == (x * x * x + B) % P)
  have m1 : x * x % P * x % P ≡ x * x * x [MOD P] :=
    (Nat.mod_modEq _ _).trans ((Nat.mod_modEq (x * x) P).mul_right x)
  have e : (x * x % P * x % P + B % P) % P = (x * x * x + B) % P := m1.add (Nat.mod_modEq B P)
  simp only [fmul, fadd, e]

end Rangers.Proofs.Bls14
