import Rangers.Model.Bls14Text
import Rangers.Proofs.BigEndian
/-! The textual encodings: printing and scanning base-16 digits. -/
namespace Rangers.Proofs.Bls14
open Rangers Rangers.Model.Bls14

theorem hexDigit_not_sign (d : Nat) (h : d < 16) : hexDigit d ≠ '+' ∧ hexDigit d ≠ '-' := by
  have : ∀ d : Fin 16, hexDigit d.val ≠ '+' ∧ hexDigit d.val ≠ '-' := by decide
  exact this ⟨d, h⟩

theorem scanHex_hexDigit {d : Nat} (hd : d < 16) (cs : List Char) (acc k : Nat) :
    scanHex (hexDigit d :: cs) acc k = scanHex cs (acc * 16 + d) (k + 1) := by
  rw [scanHex, hexVal_hexDigit d hd]

theorem scanHex_natHexAux (f n : Nat) (cs : List Char) (h : n < f) :
    ∃ L, ∀ acc k, scanHex (natHexAux f n cs) acc k = scanHex cs (acc * 16 ^ L + n) (k + L) := by
  induction f generalizing n cs with
  | zero => omega
  | succ f ih =>
    rw [natHexAux]
    split
    · next h16 => exact ⟨1, fun acc k => by rw [scanHex_hexDigit h16, Nat.pow_one]⟩
    · obtain ⟨L, hL⟩ := ih (n / 16) (hexDigit (n % 16) :: cs) (by omega)
      refine ⟨L + 1, fun acc k => ?_⟩
      rw [hL, scanHex_hexDigit (Nat.mod_lt _ (by decide)), Nat.add_assoc k, Nat.pow_succ, ← Nat.mul_assoc, Nat.add_mul,
        Nat.add_assoc, Nat.mul_comm (n / 16), Nat.div_add_mod]

/-- `SetString(Text(16))` gives the number back, for every number. -/
theorem scanHex_natHex (n : Nat) : (scanHex (natHex n) 0 0).1 = n ∧ (scanHex (natHex n) 0 0).2.2 = [] := by
  obtain ⟨L, hL⟩ := scanHex_natHexAux (n + 1) n [] (Nat.lt_succ_self n)
  rw [natHex, hL, Nat.zero_mul, Nat.zero_add]
  exact ⟨rfl, rfl⟩

theorem natHexAux_head (f n : Nat) (cs : List Char) (h : n < f) :
    ∃ d cs', d < 16 ∧ natHexAux f n cs = hexDigit d :: cs' := by
  induction f generalizing n cs with
  | zero => omega
  | succ f ih =>
    rw [natHexAux]
    split
    · next h16 => exact ⟨n, cs, h16, rfl⟩
    · exact ih _ _ (by omega)

theorem natHex_head (n : Nat) : ∃ d cs, d < 16 ∧ natHex n = hexDigit d :: cs :=
  natHexAux_head (n + 1) n [] (Nat.lt_succ_self n)

theorem hex2Bytes_bytes2Hex_append (b : Bytes) (rest : List Char)
    (hr : rest = [] ∨ (∃ c, rest = [c]) ∨ ∃ c cs, rest = c :: cs ∧ hexVal? c = none) :
    hex2Bytes (bytes2Hex b ++ rest) = b := by
  induction b with
  | nil =>
    rcases hr with rfl | ⟨c, rfl⟩ | ⟨c, cs, rfl, hc⟩
    · rfl
    · rfl
    · cases cs with
      | nil => rfl
      | cons c2 cs => simp [bytes2Hex, hex2Bytes, hc]
  | cons x xs ih =>
    simp only [bytes2Hex, List.cons_append, hex2Bytes, hexVal_hi, hexVal_lo, ih, ofNat_div16_mod16]

theorem hex2Bytes_bytes2Hex (b : Bytes) : hex2Bytes (bytes2Hex b) = b := by
  have := hex2Bytes_bytes2Hex_append b [] (Or.inl rfl)
  simpa using this

theorem scanHex_bytes2Hex (b : Bytes) (acc k : Nat) :
    (scanHex (bytes2Hex b) acc k).1 = acc * 256 ^ b.length + beToNat b := by
  induction b generalizing acc k with
  | nil => simp [bytes2Hex, scanHex, beToNat]
  | cons x xs ih =>
    simp only [bytes2Hex, scanHex, hexVal_hi, hexVal_lo]
    rw [ih, beToNat_cons, List.length_cons, Nat.pow_succ]
    have := Nat.div_add_mod x.toNat 16
    have e : (acc * 16 + x.toNat / 16) * 16 + x.toNat % 16 = acc * 256 + x.toNat := by omega
    rw [e, Nat.add_mul, Nat.mul_assoc, Nat.mul_comm 256, Nat.add_assoc]

theorem bytes2Hex_head (x : UInt8) (xs : Bytes) :
    ∃ d cs, d < 16 ∧ bytes2Hex (x :: xs) = hexDigit d :: cs :=
  ⟨x.toNat / 16, _, toNat_div16_lt x, rfl⟩

end Rangers.Proofs.Bls14
