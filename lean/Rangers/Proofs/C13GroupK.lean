import Mathlib.Tactic.Ring
import Mathlib.Tactic.Linarith
import Rangers.Model.Shamir
import Rangers.Proofs.BitLen
/-! `GetGroupK`: the IEEE-754 double quotient followed by `math.Ceil` is the exact integer ceiling
    whenever `n·thr < 2^52`. -/
namespace Rangers.Proofs.C13
open Rangers.Model.Shamir

theorem ceilDiv_le_iff (x P c : Nat) (hP : 0 < P) : (x + P - 1) / P ≤ c ↔ x ≤ c * P := by
  rw [← Nat.lt_succ_iff, Nat.div_lt_iff_lt_mul hP, Nat.succ_mul]; omega

/-- Rounding a quotient to a multiple of `2^-s` (either direction, the upward one only when the
    quotient is inexact) does not change its ceiling, provided the grid is at least as fine as
    `1/b`. -/
theorem ceil_round_aux (a b P q' : Nat) (hb : 0 < b) (hs : b ≤ P)
    (hq : q' = a * P / b ∨ (q' = a * P / b + 1 ∧ 0 < a * P % b)) :
    (q' + P - 1) / P = (a + b - 1) / b := by
  have hP : 0 < P := by omega
  refine eq_of_forall_ge_iff fun c => ?_
  have hmul : a ≤ c * b ↔ a * P ≤ c * P * b := by
    rw [show c * P * b = c * b * P by ring, Nat.mul_le_mul_right_iff hP]
  rw [ceilDiv_le_iff _ _ _ hP, ceilDiv_le_iff _ _ _ hb, hmul]
  rcases hq with rfl | ⟨rfl, hr⟩
  · rw [← Nat.lt_succ_iff, Nat.div_lt_iff_lt_mul hb, Nat.succ_mul]
    refine ⟨fun h => ?_, fun h => by omega⟩
    -- both sides are multiples of `P ≥ b`
    by_contra hc
    have h1 : c * b < a := by
      rw [not_le, show c * P * b = c * b * P by ring] at hc
      exact Nat.lt_of_mul_lt_mul_right hc
    have h2 := Nat.mul_le_mul_right P h1
    rw [Nat.succ_mul, show c * b * P = c * P * b by ring] at h2
    omega
  · rw [Nat.add_one_le_iff, Nat.div_lt_iff_lt_mul hb]
    refine ⟨le_of_lt, fun h => lt_of_le_of_ne h fun he => ?_⟩
    rw [he, Nat.mul_mod_left] at hr
    exact lt_irrefl 0 hr

theorem bitLen_le_of_lt (a k : Nat) (h : a < 2 ^ k) : bitLen a ≤ k := BitLen.le_iff.2 h

theorem lt_two_pow_bitLen (b : Nat) : b < 2 ^ bitLen b := BitLen.le_iff.1 (Nat.le_refl _)

theorem ceil_fdiv53 (a b : Nat) (hb : 0 < b) (ha52 : a < 2 ^ 52) :
    ceilDyadic (fdiv53 a b) = (a + b - 1) / b := by
  have hbl := bitLen_le_of_lt a 52 ha52
  have hbb := lt_two_pow_bitLen b
  unfold fdiv53 ceilDyadic
  simp only
  set s0 := 53 + bitLen b - bitLen a with hs0
  set s := (if 2 ^ 53 ≤ (a <<< s0) / b then s0 - 1 else s0) with hs
  -- `ceil_round_aux` wants the grid `2^-s` at least as fine as `1/b`; as `s ≥ s0 - 1 = 52 + bitLen b - bitLen a`, that asks
  -- `bitLen a ≤ 52`: hence the bound `2^52`, one bit below the `2^53` up to which doubles are exact
  have hsge : bitLen b ≤ s := by
    rw [hs]; split <;> omega
  have hbs : b ≤ 2 ^ s := by
    have : 2 ^ bitLen b ≤ 2 ^ s := Nat.pow_le_pow_right (by omega) hsge
    omega
  rw [Nat.shiftLeft_eq]
  apply ceil_round_aux a b (2 ^ s) _ hb hbs
  split
  · rename_i hcond
    right
    refine ⟨rfl, ?_⟩
    rcases hcond with h | ⟨h, _⟩ <;> omega
  · left; rfl

theorem getGroupK_formula (thr div n : Nat) (hdiv : 0 < div) (hd53 : div < 2 ^ 53) (ha : n * thr < 2 ^ 52) :
    getGroupK thr div n = some ((n * thr + div - 1) / div) := by
  unfold getGroupK
  simp only
  have hd0 : div ≠ 0 := by omega
  simp only [hd0, if_false]
  by_cases h0 : n * thr = 0
  · simp only [h0, if_true, Nat.zero_add]
    congr 1
    exact (Nat.div_eq_of_lt (by omega)).symm
  · simp only [h0, if_false]
    have : ¬ (2 ^ 53 ≤ n * thr ∨ 2 ^ 53 ≤ div) := by omega
    simp only [this, if_false]
    rw [ceil_fdiv53 (n * thr) div hdiv ha]

theorem getGroupK_51 (n : Nat) (hn : n < 2 ^ 46) : getGroupK 51 100 n = some ((n * 51 + 99) / 100) := by
  have := getGroupK_formula 51 100 n (by omega) (by omega) (by omega)
  simpa using this

theorem getGroupK_51_bounds (n k : Nat) (hn0 : 0 < n) (hn : n < 2 ^ 46) (hk : getGroupK 51 100 n = some k) :
    1 ≤ k ∧ k ≤ n ∧ n < 2 * k := by
  rw [getGroupK_51 n hn] at hk
  injection hk with hk
  omega

end Rangers.Proofs.C13
