import Rangers.Proofs.TrieWalk
/- `insert`: its equations along the walk of the key, the branch it builds where the key leaves a short node, and what it does
   to content and minimal form (`insert_spec`, one induction on the walk). -/
namespace Rangers.Trie
open Rangers

theorem insert_short_match_eq (kk : Key) (v : Node) (x : Nat) (r : Key) (val : Node)
    (hm : prefixLen (x :: r) kk = kk.length) :
    insert (.short kk v) (x :: r) val =
      if (insert v ((x :: r).drop kk.length) val).1 = false then (false, .short kk v)
      else (true, .short kk (insert v ((x :: r).drop kk.length) val).2) := by
  simp only [insert, hm, if_true, Bool.not_eq_true']

theorem insert_short_split_eq (kk : Key) (v : Node) (x : Nat) (r : Key) (val : Node)
    (hm : prefixLen (x :: r) kk ≠ kk.length) :
    insert (.short kk v) (x :: r) val = (true, (insert (.short kk v) (x :: r) val).2) := by
  simp only [insert, hm, if_false]
  split <;> rfl

theorem insert_full_eq (cs : List Node) (i : Nat) (r : Key) (val : Node) (hi : i < cs.length) :
    insert (.full cs) (i :: r) val =
      if (insert (cs[i]?.getD .nil) r val).1 = false then (false, .full cs)
      else (true, .full (cs.set i (insert (cs[i]?.getD .nil) r val).2)) := by
  simp only [insert, insertAt_eq cs i r val hi, Bool.not_eq_true']

theorem insert_not_dirty (n : Node) (k : Key) (val : Node) (h : (insert n k val).1 = false) :
    (insert n k val).2 = n := by
  cases n with
  | nil => cases k <;> simp [insert] at h
  | value b =>
    cases k with
    | nil =>
      cases val with
      | value w => simp [insert] at h ⊢; exact h.symm
      | _ => simp [insert] at h
    | cons x r => simp [insert] at h
  | short kk v =>
    cases k with
    | nil => simp [insert] at h
    | cons x r =>
      by_cases hm : prefixLen (x :: r) kk = kk.length
      · rw [insert_short_match_eq _ _ _ _ _ hm] at h ⊢
        split
        · rfl
        · rename_i h1; rw [if_neg h1] at h; cases h
      · rw [insert_short_split_eq _ _ _ _ _ hm] at h; cases h
  | full cs =>
    cases k with
    | nil => simp [insert] at h
    | cons x r =>
      by_cases hx : x < cs.length
      · rw [insert_full_eq _ _ _ _ hx] at h ⊢
        split
        · rfl
        · rename_i h1; rw [if_neg h1] at h; cases h
      · simp [insert, insertAt_oob cs x r val (by omega)]

theorem insert_snd_full (cs : List Node) (i : Nat) (r : Key) (val : Node) (hi : i < cs.length) :
    (insert (.full cs) (i :: r) val).2 = .full (cs.set i (insert (cs[i]?.getD .nil) r val).2) := by
  rw [insert_full_eq _ _ _ _ hi]
  split
  · rename_i h; rw [insert_not_dirty _ r val h, set_getD_self]
  · rfl

theorem insert_nil_key (c val : Node) : (insert c [] val).2 = val := by
  cases c <;> cases val <;> simp [insert]

theorem insert_ext (kk : Key) (hne : kk ≠ []) (v : Node) (r : Key) (val : Node) :
    (insert (.short kk v) (kk ++ r) val).2 = .short kk (insert v r val).2 := by
  obtain ⟨x, s, rfl⟩ := List.exists_cons_of_ne_nil hne
  have hm : prefixLen (x :: (s ++ r)) (x :: s) = (x :: s).length := prefixLen_append_self (x :: s) r
  have hd : (x :: (s ++ r)).drop (x :: s).length = r := List.drop_left (l₁ := x :: s)
  rw [show (x :: s) ++ r = x :: (s ++ r) from rfl, insert_short_match_eq _ _ _ _ _ hm, hd]
  split
  · rename_i h; rw [insert_not_dirty v _ val h]
  · rfl

theorem insert_miss (p : Key) {a b : Nat} (kA kB : Key) (v val : Node) (hab : a ≠ b) :
    insert (.short (p ++ a :: kA) v) (p ++ b :: kB) val =
      (true, mkLeaf p (.full ((emptyFull.set a (mkLeaf kA v)).set b (mkLeaf kB val)))) := by
  have hm := prefixLen_diverge p kA kB hab
  obtain ⟨hA1, hA2, _⟩ := diverge_index p a kA
  obtain ⟨hB1, hB2, hB3⟩ := diverge_index p b kB
  obtain ⟨x, r, hxr⟩ : ∃ x r, p ++ b :: kB = x :: r := List.exists_cons_of_ne_nil (by simp)
  have hne : p.length ≠ (p ++ a :: kA).length := by simp
  rw [hxr] at hm hB1 hB2 hB3 ⊢
  simp only [insert, hm, hne, if_false, hA1, hA2, hB1, hB2, hB3]
  cases p <;> simp [mkLeaf]

theorem insert_full_is_full (cs : List Node) (i : Nat) (r : Key) (val : Node) :
    ∃ cs', (insert (.full cs) (i :: r) val).2 = .full cs' := by
  by_cases hi : i < cs.length
  · exact ⟨_, insert_snd_full cs i r val hi⟩
  · exact ⟨cs, by simp [insert, insertAt_oob cs i r val (by omega)]⟩

theorem iter_mkLeaf (ks : Key) (n : Node) : iter (mkLeaf ks n) = iter (.short ks n) := by
  unfold mkLeaf
  cases ks with
  | nil => simp [iter, prepend]
  | cons x r => rfl

theorem emptyFull_length : emptyFull.length = 17 := by simp [emptyFull]
theorem emptyFull_getD (i : Nat) : emptyFull[i]?.getD .nil = .nil := by
  unfold emptyFull; exact getD_replicate_nil 17 i

theorem content_branch (P kA kB : Key) {a b : Nat} (v : Node) (val : Bytes)
    (ha : a < 17) (hb : b < 17) (hab : a ≠ b) :
    Upd (.short P (.full ((emptyFull.set a (mkLeaf kA v)).set b (mkLeaf kB (.value val)))))
      (.short (P ++ a :: kA) v) (P ++ b :: kB) (some val) := by
  have hla : a < emptyFull.length := by rw [emptyFull_length]; exact ha
  have hlb : b < (emptyFull.set a (mkLeaf kA v)).length := by rw [List.length_set, emptyFull_length]; exact hb
  have hnew : Upd (mkLeaf kB (.value val)) ((emptyFull.set a (mkLeaf kA v))[b]?.getD .nil) kB (some val) := by
    rw [getD_set _ _ _ _ hla, if_neg (Ne.symm hab), emptyFull_getD]
    exact Upd.congr_left (fun k => by rw [content_leaf, content_nil]) (iter_mkLeaf kB _)
  refine ((Upd.slot hlb hnew).short P).congr_right ?_
  have hsingle : ∀ j, j ≠ a → (emptyFull.set a (mkLeaf kA v))[j]?.getD .nil = .nil := fun j hj => by
    rw [getD_set _ _ _ _ hla, if_neg hj, emptyFull_getD]
  -- the old child below `P`, then `a`, then `kA`
  simp only [iter_short, iter_full_single hsingle, getD_set _ _ _ _ hla, if_pos, iter_mkLeaf, prepend_prepend]
  rfl

theorem mkLeaf_ne_nil (ks : Key) (n : Node) (h : n ≠ .nil) : mkLeaf ks n ≠ .nil := by
  unfold mkLeaf; split
  · exact h
  · simp

theorem WF_mkLeaf_full (p : Key) (cs : List Node) (hn : Nibs p) (hwf : WF (.full cs)) : WF (mkLeaf p (.full cs)) := by
  unfold mkLeaf
  split
  · exact hwf
  · rename_i h
    exact WF_ext (by simpa using h) hn hwf

theorem slotOK_mkLeaf_value (b : Nat) (kB : Key) (val : Bytes) (hk : ValidKey (b :: kB)) (hv : val ≠ []) :
    SlotOK b (mkLeaf kB (.value val)) := by
  right
  rcases (validKey_cons b kB).mp hk with ⟨rfl, rfl⟩ | ⟨hb, hkB⟩
  · simp [mkLeaf, hv]
  · have : ¬ b = 16 := by omega
    simp only [this, if_false, mkLeaf, List.isEmpty_iff, hkB.ne_nil]
    exact WF_leaf hkB hv

theorem slotOK_mkLeaf_of_short {p : Key} {a : Nat} {kA : Key} {v : Node} (hwf : WF (.short (p ++ a :: kA) v)) :
    SlotOK a (mkLeaf kA v) ∧ v ≠ .nil := by
  rcases (WF_short_iff _ v).mp hwf with ⟨b, rfl, hkk, hb⟩ | ⟨cs, rfl, _, hnib, hfull⟩
  · exact ⟨slotOK_mkLeaf_value a kA b ((validKey_append p _ (by simp)).mp hkk).2 hb, by simp⟩
  · obtain ⟨ha, hkA⟩ := (nibs_cons a kA).mp ((nibs_append p _).mp hnib).2
    exact ⟨Or.inr (by rw [if_neg (by omega)]; exact WF_mkLeaf_full kA cs hkA hfull), by simp⟩

theorem WF_branch (a b : Nat) (c1 c2 : Node) (ha : a < 17) (hb : b < 17) (hab : a ≠ b)
    (h1 : SlotOK a c1) (h2 : SlotOK b c2) (n1 : c1 ≠ .nil) (n2 : c2 ≠ .nil) :
    WF (.full ((emptyFull.set a c1).set b c2)) := by
  have hs : SlotsOK ((emptyFull.set a c1).set b c2) := (slotsOK_replicate.set ha h1).set hb h2
  refine (WF_full_iff _).mpr ⟨hs.1, hs.2, ?_⟩
  -- two slots of the empty node get occupied, one after the other
  have hla : a < emptyFull.length := by rw [emptyFull_length]; exact ha
  have e1 := countNN_set emptyFull a c1 hla
  have e2 := countNN_set (emptyFull.set a c1) b c2 (by rw [List.length_set, emptyFull_length]; exact hb)
  rw [getD_set _ _ _ _ hla, if_neg (Ne.symm hab)] at e2
  rw [emptyFull_getD, (isNil_false_iff _).mpr n1] at e1
  rw [emptyFull_getD, (isNil_false_iff _).mpr n2] at e2
  have e0 : countNN emptyFull = 0 := countNN_replicate 17
  simp only [isNil, if_true, Bool.false_eq_true, if_false] at e1 e2
  omega

theorem WF_full_set {cs : List Node} (hwf : WF (.full cs)) {i : Nat} (hi : i < 17) {c : Node} (hc : SlotOK i c)
    (hne : c ≠ .nil) : WF (.full (cs.set i c)) := by
  obtain ⟨hs, _, hcnt⟩ := slots_set hwf hi hc
  exact (WF_full_iff _).mpr ⟨hs.1, hs.2, hcnt hne⟩

theorem insert_spec (val : Bytes) {t : Node} {key : Key} (w : Walk t key) :
    Upd (insert t key (.value val)).2 t key (some val) ∧
      (val ≠ [] → ValidKey key → WF (insert t key (.value val)).2) := by
  induction w with
  | nil key =>
    refine ⟨fun k' => ?_, fun hv hk => ?_⟩
    · cases key with
      | nil => rw [insert_nil_key, content_value, content_nil]
      | cons x r => rw [insert_nil, content_leaf, content_nil]
    · obtain ⟨x, r, rfl⟩ := hk.exists_cons; rw [insert_nil]; exact WF_leaf hk hv
  | value b hb =>
    exact ⟨fun k' => by rw [insert_nil_key, content_value, content_value]; split <;> rfl,
      fun _ hk => absurd hk not_validKey_nil⟩
  | miss p a kA b kB v hwf hk hab ha hb =>
    rw [insert_miss p kA kB v _ hab]
    refine ⟨(content_branch p kA kB v val ha hb hab).congr_left (iter_mkLeaf p _), fun hv _ => ?_⟩
    obtain ⟨hp, hkB⟩ := (validKey_append p (b :: kB) (by simp)).mp hk
    obtain ⟨h1, hvn⟩ := slotOK_mkLeaf_of_short hwf
    exact WF_mkLeaf_full p _ hp (WF_branch a b _ _ ha hb hab h1 (slotOK_mkLeaf_value b kB val hkB hv)
      (mkLeaf_ne_nil _ _ hvn) (mkLeaf_ne_nil _ _ (by simp)))
  | ext kk v r hwf hne hk w ih =>
    rw [insert_ext kk hne]
    refine ⟨ih.1.short kk, fun hv _ => ?_⟩
    rcases w.below_short hwf hk with ⟨b, rfl, rfl, hkk, _⟩ | ⟨cs, rfl, hnib, _, hr⟩
    · rw [insert_nil_key]; exact WF_leaf hkk hv
    · obtain ⟨y, r', rfl⟩ := hr.exists_cons
      obtain ⟨cs', h⟩ := insert_full_is_full cs y r' (.value val)
      rw [h]
      exact WF_ext hne hnib (h ▸ ih.2 hv hr)
  | slot cs i r hwf hi hk _ ih =>
    have hlen := ((WF_full_iff cs).mp hwf).1
    rw [insert_snd_full cs i r _ (by omega)]
    refine ⟨Upd.slot (by omega) ih.1, fun hv _ => ?_⟩
    rcases (validKey_cons i r).mp hk with ⟨rfl, rfl⟩ | ⟨hi16, hr⟩
    · rw [insert_nil_key]; exact WF_full_set hwf hi (Or.inr ⟨val, rfl, hv⟩) (by simp)
    · exact WF_full_set hwf hi (.of_wfRoot hi16 (Or.inr (ih.2 hv hr))) (ih.2 hv hr).ne_nil

theorem insert_wf (val : Bytes) (hv : val ≠ []) (t : Node) :
    ∀ key, WFRoot t → ValidKey key → WF (insert t key (.value val)).2 :=
  fun key ht hk => (insert_spec val (walk_of_wf t key ht hk)).2 hv hk

end Rangers.Trie
