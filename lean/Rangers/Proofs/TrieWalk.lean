import Rangers.Proofs.TrieWF
import Rangers.Proofs.TrieKeys
/-
The path of a terminated key through a minimal-form trie (`Walk`), along which `get`, `insert` and
`delete` recurse, and the relation `Upd` between the contents before and after a change at one key.
A property of one of the operations is proved by induction on the walk (the first: `get` reads the
abstract content, `get_eq_content`); the analysis of which steps exist is done once, in `walk_of_wf`.
-/
namespace Rangers.Trie
open Rangers

theorem diverge_append {kk : Key} {v : Node} {key : Key} (hwf : WF (.short kk v)) (hk : ValidKey key)
    (hm : prefixLen key kk ≠ kk.length) :
    ∃ p a kA b kB, kk = p ++ a :: kA ∧ key = p ++ b :: kB ∧ a ≠ b ∧ a < 17 ∧ b < 17 := by
  have hkk : ¬ (key <+: kk) ∧ ∀ y ∈ kk, y ≤ 16 := by
    rcases (WF_short_iff kk v).mp hwf with ⟨b, rfl, hkk, _⟩ | ⟨cs, rfl, _, hnib, _⟩
    · refine ⟨fun h => hm ?_, hkk.le16⟩
      rw [hkk.eq_of_prefix hk h]
      exact (prefixLen_eq_right_iff _ _).mpr (List.prefix_refl _)
    · exact ⟨hk.not_prefix_nibs hnib, fun y hy => Nat.le_of_lt (hnib y hy)⟩
  rcases prefix_or_diverge key kk with h | h | ⟨p, b, kB, a, kA, rfl, rfl, hne⟩
  · exact absurd ((prefixLen_eq_right_iff _ _).mpr h) hm
  · exact absurd h hkk.1
  · exact ⟨p, a, kA, b, kB, rfl, rfl, Ne.symm hne, Nat.lt_succ_of_le (hkk.2 a (by simp)),
      Nat.lt_succ_of_le (hk.le16 b (by simp))⟩

/-- The positions the terminated key `key` passes in the minimal-form trie `t`, each with the rest
    of the key.  The walk ends at an empty position (`nil`), at a value with nothing of the key left
    (`value`: the child of the leaf that holds the key, or the value slot of a full node), or where
    the key leaves the key of a short node after a common part `p` (`miss`); before that it passes
    short nodes whose whole key it has (`ext`) and slots of full nodes (`slot`).  Below the root the
    key of a walk is such a rest, which need not be a terminated key: `nil` holds of any key, `value`
    of the empty one. -/
inductive Walk : Node → Key → Prop where
  | nil (key : Key) : Walk .nil key
  | value (b : Bytes) : b ≠ [] → Walk (.value b) []
  | miss (p : Key) (a : Nat) (kA : Key) (b : Nat) (kB : Key) (v : Node) :
      WF (.short (p ++ a :: kA) v) → ValidKey (p ++ b :: kB) → a ≠ b → a < 17 → b < 17 →
      Walk (.short (p ++ a :: kA) v) (p ++ b :: kB)
  | ext (kk : Key) (v : Node) (r : Key) :
      WF (.short kk v) → kk ≠ [] → ValidKey (kk ++ r) → Walk v r → Walk (.short kk v) (kk ++ r)
  | slot (cs : List Node) (i : Nat) (r : Key) :
      WF (.full cs) → i < 17 → ValidKey (i :: r) → Walk (cs[i]?.getD .nil) r → Walk (.full cs) (i :: r)

theorem walk_of_wf (t : Node) : ∀ key, WFRoot t → ValidKey key → Walk t key := by
  induction t using Node.induct with
  | hnil => intro key _ _; exact .nil key
  | hval b => intro key h; rcases h with h | h <;> simp [WF] at h
  | hshort kk v ih =>
    intro key hwf hk
    have hwf : WF (.short kk v) := hwf.resolve_left (by simp)
    by_cases hm : prefixLen key kk = kk.length
    · obtain ⟨r, rfl⟩ := (prefixLen_eq_right_iff _ _).mp hm
      rcases (WF_short_iff kk v).mp hwf with ⟨b, rfl, hkk, hb⟩ | ⟨cs, rfl, hne, hnib, hfull⟩
      · have hr : r = [] := by simpa using (hk.eq_of_prefix hkk (List.prefix_append _ _)).symm
        subst hr
        exact .ext kk _ [] hwf hkk.ne_nil hk (.value b hb)
      · exact .ext kk _ r hwf hne hk (ih r (Or.inr hfull) (hk.of_append hnib))
    · obtain ⟨p, a, kA, b, kB, rfl, rfl, hab, ha, hb⟩ := diverge_append hwf hk hm
      exact .miss p a kA b kB v hwf hk hab ha hb
  | hfull cs ih =>
    intro key hwf hk
    have hwf : WF (.full cs) := hwf.resolve_left (by simp)
    obtain ⟨i, r, rfl⟩ := hk.exists_cons
    rcases slot_shape hwf i with h0 | ⟨rfl, b, hb, hbne⟩ | ⟨hi16, hw, hmem⟩
    · exact .slot cs i r hwf (Nat.lt_succ_of_le (hk.le16 i List.mem_cons_self)) hk (h0.symm ▸ .nil r)
    · obtain rfl : r = [] := by
        rcases (validKey_cons 16 r).mp hk with ⟨_, h⟩ | ⟨h, _⟩
        · exact h
        · omega
      exact .slot cs 16 [] hwf (by omega) hk (hb.symm ▸ .value b hbne)
    · have hr : ValidKey r := by
        rcases (validKey_cons i r).mp hk with ⟨h, _⟩ | ⟨_, h⟩
        · omega
        · exact h
      exact .slot cs i r hwf (by omega) hk (ih _ hmem r (Or.inr hw) hr)

theorem Walk.below_short {kk : Key} {v : Node} {r : Key} (hwf : WF (.short kk v)) (hk : ValidKey (kk ++ r))
    (w : Walk v r) :
    (∃ b, v = .value b ∧ r = [] ∧ ValidKey kk ∧ b ≠ []) ∨
    (∃ cs, v = .full cs ∧ Nibs kk ∧ WF (.full cs) ∧ ValidKey r) := by
  rcases (WF_short_iff kk v).mp hwf with ⟨b, rfl, hkk, hb⟩ | ⟨cs, rfl, _, hnib, hfull⟩
  · cases w
    exact Or.inl ⟨b, rfl, rfl, hkk, hb⟩
  · exact Or.inr ⟨cs, rfl, hnib, hfull, hk.of_append hnib⟩

theorem get_eq_content {t : Node} {key : Key} (w : Walk t key) : get t key = content t key := by
  induction w with
  | nil key => rw [get_nil, content_nil]
  | value b hb => rw [get_value, content_value, if_pos rfl]
  | miss p a kA b kB v hwf hk hab =>
    rw [get_short, content_short, if_neg (not_prefix_of_diverge p kA kB hab), if_neg (not_prefix_of_diverge p kA kB hab)]
  | ext kk v r hwf hne hk _ ih => rw [get_short, content_short]; simpa using ih
  | slot cs i r hwf hi hk _ ih => rw [get_full_cons, content_full_cons]; exact ih

theorem content_leaf (kk : Key) (b : Bytes) (k : Key) :
    content (.short kk (.value b)) k = if k = kk then some b else none := by
  rw [content_short]
  by_cases h : kk <+: k
  · obtain ⟨s, rfl⟩ := h
    simp [content_value]
  · have : k ≠ kk := by intro h0; subst h0; exact h (List.prefix_refl _)
    simp [h, this]

/-- `t'` holds what `t` holds, except that `key` maps to `x` -/
def Upd (t' t : Node) (key : Key) (x : Option Bytes) : Prop :=
  ∀ k', content t' k' = if k' = key then x else content t k'

theorem Upd.short {c' c : Node} {r : Key} {x : Option Bytes} (h : Upd c' c r x) (kk : Key) :
    Upd (.short kk c') (.short kk c) (kk ++ r) x := by
  intro k'
  rw [content_short, content_short]
  by_cases hp : kk <+: k'
  · obtain ⟨s, rfl⟩ := hp
    simp only [List.prefix_append, if_true, List.drop_left, List.append_cancel_left_eq]
    exact h s
  · have : k' ≠ kk ++ r := fun h0 => hp (h0 ▸ List.prefix_append _ _)
    rw [if_neg hp, if_neg hp, if_neg this]

theorem Upd.slot {cs : List Node} {i : Nat} (hi : i < cs.length) {c' : Node} {r : Key} {x : Option Bytes}
    (h : Upd c' (cs[i]?.getD .nil) r x) : Upd (.full (cs.set i c')) (.full cs) (i :: r) x := by
  intro k'
  cases k' with
  | nil => simp [content_full_nil]
  | cons j r' =>
    rw [content_full_cons, content_full_cons, getD_set _ _ _ _ hi]
    by_cases hji : j = i
    · subst hji; simpa using h r'
    · simp [hji]

theorem Upd.congr_right {t' t t₂ : Node} {key : Key} {x : Option Bytes} (h : Upd t' t key x)
    (he : iter t = iter t₂) : Upd t' t₂ key x := fun k' => by rw [h k', content, content, he]

theorem Upd.congr_left {t' t'' t : Node} {key : Key} {x : Option Bytes} (h : Upd t' t key x)
    (he : iter t'' = iter t') : Upd t'' t key x := fun k' => by rw [← h k', content, content, he]

theorem Upd.of_absent {t : Node} {key : Key} (h : content t key = none) : Upd t t key none := by
  intro k'
  by_cases hk : k' = key
  · rw [if_pos hk, hk, h]
  · rw [if_neg hk]

/-! The two re-shapings that `insert` (where a key leaves a short node) and `delete` (short-node merge,
branch reduction) undo for each other leave the iterated list as it is. -/

theorem prepend_prepend (P Q : Key) (L : List (Key × Bytes)) : prepend P (prepend Q L) = prepend (P ++ Q) L := by
  simp [prepend, List.map_map, Function.comp_def]

theorem iter_short_short (P Q : Key) (v : Node) : iter (.short P (.short Q v)) = iter (.short (P ++ Q) v) := by
  simp only [iter, prepend_prepend]

theorem iter_full_single {cs : List Node} {p : Nat} (h : ∀ j, j ≠ p → cs[j]?.getD .nil = .nil) :
    iter (.full cs) = iter (.short [p] (cs[p]?.getD .nil)) :=
  sorted_eq_of_mem_iff (sortedKeys_iter _) (sortedKeys_iter _) (fun e => by
    obtain ⟨k, v⟩ := e
    rw [mem_iter_full, iter_short, mem_prepend]
    constructor
    · rintro ⟨i, r, rfl, hm⟩
      by_cases hi : i = p
      · subst hi; exact ⟨r, rfl, hm⟩
      · rw [h i hi, iter_nil] at hm; cases hm
    · rintro ⟨r, rfl, hm⟩; exact ⟨p, r, rfl, hm⟩)

end Rangers.Trie
