import Rangers.Model.Trie
/-
Specification-side definitions for the trie model: which keys the exported API
produces, the minimal-form invariant `WF` that `insert`/`delete` maintain, the
abstract content (`content`), histories (`Op`, `run`, `finalMap`), and the
canonical trie of a content list (`canon`).  Core Lean only.
-/
namespace Rangers.Trie
open Rangers

/-- all elements are nibbles -/
def Nibs (k : Key) : Prop := ∀ x ∈ k, x < 16

/-- a key as produced by `keybytesToHex`: nibbles then the terminator 16 -/
def ValidKey : Key → Prop
  | [] => False
  | [x] => x = 16
  | x :: y :: r => x < 16 ∧ ValidKey (y :: r)

/-- number of non-nil slots -/
def countNN : List Node → Nat
  | [] => 0
  | c :: cs => (if isNil c then 0 else 1) + countNN cs

mutual
/-- minimal form of a non-empty subtree that hangs below a nibble path:
    * a short node is a leaf (`key` ends with the terminator, child is a non-empty value) or an
      extension (nibble key, non-empty, child is a full node — never another short node);
    * a full node has 17 slots, slots 0..15 empty or well-formed subtrees, slot 16 empty or a
      non-empty value, and at least two occupied slots. -/
def WF : Node → Prop
  | .nil => False
  | .value _ => False
  | .short k v =>
    match v with
    | .value b => ValidKey k ∧ b ≠ []
    | .full cs => k ≠ [] ∧ Nibs k ∧ WF (.full cs)
    | _ => False
  | .full cs => cs.length = 17 ∧ WFslots cs 0 ∧ 2 ≤ countNN cs
def WFslots : List Node → Nat → Prop
  | [], _ => True
  | c :: cs, i => (c = .nil ∨ (if i = 16 then ∃ b, c = .value b ∧ b ≠ [] else WF c)) ∧ WFslots cs (i + 1)
end

/-- a trie root: empty or in minimal form -/
def WFRoot (t : Node) : Prop := t = .nil ∨ WF t

/-- abstract content: the value stored under a hex path -/
def content (t : Node) (k : Key) : Option Bytes := (iter t).lookup k

/-! ### histories -/

inductive Op where
  | upd (k v : Bytes)
  | del (k : Bytes)
  | get (k : Bytes)
  | hash | commit | reopen | dbcommit
  | cachelimit (n : Nat)
  | iter (start : Bytes)

/-- the model state after one op (what `nstep` does to its state; `Drive/C02` executes the live machine `lstep`) -/
def applyOp (t : Node) : Op → Node
  | .upd k v => update t k v
  | .del k => remove t k
  | _ => t

def run (ops : List Op) : Node := ops.foldl applyOp .nil

/-- what the history says the content is: last write wins, delete and empty write remove -/
def specStep (m : Bytes → Option Bytes) : Op → (Bytes → Option Bytes)
  | .upd k v => fun k' => if k' = k then (if v = [] then none else some v) else m k'
  | .del k => fun k' => if k' = k then none else m k'
  | _ => m

def finalMap (ops : List Op) : Bytes → Option Bytes := ops.foldl specStep (fun _ => none)

/-! ### the canonical trie of a content list (Yellow Paper appendix D structure) -/

/-- longest common prefix of two keys -/
def lcp : Key → Key → Key
  | a :: as, b :: bs => if a = b then a :: lcp as bs else []
  | _, _ => []

def lcpAll : List (Key × Bytes) → Key
  | [] => []
  | [e] => e.1
  | e :: rest => lcp e.1 (lcpAll rest)

/-- the entries whose key starts with nibble `i`, with that nibble removed -/
def bucket (J : List (Key × Bytes)) (i : Nat) : List (Key × Bytes) :=
  J.filterMap (fun e => match e.1 with
    | x :: r => if x = i then some (r, e.2) else none
    | [] => none)

def dropKeys (n : Nat) (J : List (Key × Bytes)) : List (Key × Bytes) := J.map (fun e => (e.1.drop n, e.2))

/-- canonical node for the entries `J` (keys relative to the node, with terminator). -/
def canon : Nat → List (Key × Bytes) → Node
  | 0, _ => .nil
  | _ + 1, [] => .nil
  | _ + 1, [e] => if e.1 = [] then .value e.2 else .short e.1 (.value e.2)
  | f + 1, J =>
    let p := lcpAll J
    if p ≠ [] then .short p (canon f (dropKeys p.length J))
    else .full ((List.range 17).map (fun i => canon f (bucket J i)))

def height : Node → Nat
  | .nil => 0
  | .value _ => 1
  | .short _ v => height v + 1
  | .full cs => heightL cs + 1
where heightL : List Node → Nat
  | [] => 0
  | c :: cs => max (height c) (heightL cs)

end Rangers.Trie

namespace Rangers.Trie
open Rangers
/-! ### where the Go code would panic
The model functions are total; in the branches below the Go code indexes out of range,
fails a type assertion or hits `default: panic("invalid node")`.  `Props.C02.no_panic` and `no_panic_after_history`
show these branches are unreachable for a minimal-form trie and a terminated key, so no
theorem about `get`/`insert`/`delete` holds thanks to a default value. -/

mutual
def getPanics : Node → Key → Bool
  | .nil, _ => false
  | .value _, _ => false
  | .short k v, key =>
    if k.length ≤ key.length ∧ key.take k.length = k then getPanics v (key.drop k.length) else false
  | .full _, [] => true                       -- key[pos] out of range
  | .full cs, i :: rest => getPanicsAt cs i rest
def getPanicsAt : List Node → Nat → Key → Bool
  | [], _, _ => true                          -- Children[i], i ≥ 17
  | c :: _, 0, rest => getPanics c rest
  | _ :: cs, i + 1, rest => getPanicsAt cs i rest
end

mutual
def insertPanics : Node → Key → Node → Bool
  | .value _, [], value =>
    match value with
    | .value _ => false
    | _ => true                                -- value.(valueNode)
  | _, [], _ => false
  | .short k v, key, value =>
    let m := prefixLen key k
    if m = k.length then insertPanics v (key.drop m) value
    else decide (key.length ≤ m) || decide (17 ≤ k.getD m 0) || decide (17 ≤ key.getD m 0)
  | .full cs, i :: rest, value => insertPanicsAt cs i rest value
  | .nil, _, _ => false
  | .value _, _ :: _, _ => true                -- default: panic("invalid node")
def insertPanicsAt : List Node → Nat → Key → Node → Bool
  | [], _, _, _ => true
  | c :: _, 0, rest, value => insertPanics c rest value
  | _ :: cs, i + 1, rest, value => insertPanicsAt cs i rest value
end

mutual
def deletePanics : Node → Key → Bool
  | .short k v, key =>
    let m := prefixLen key k
    if m < k.length then false
    else if m = key.length then false
    else deletePanics v (key.drop k.length)
  | .full _, [] => true
  | .full cs, i :: rest => deletePanicsAt cs i rest
  | .value _, _ => false
  | .nil, _ => false
def deletePanicsAt : List Node → Nat → Key → Bool
  | [], _, _ => true
  | c :: _, 0, rest => deletePanics c rest
  | _ :: cs, i + 1, rest => deletePanicsAt cs i rest
end

end Rangers.Trie
