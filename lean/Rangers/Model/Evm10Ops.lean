import Rangers.Model.Evm10Word
import Rangers.Model.Evm10Table
/-
C10 — stack, memory, jump-destination analysis and the `execute` functions of the
computational opcodes, transcribed from go-rangers `src/vm` (stack.go, memory.go,
analysis.go, contract.go, common.go, instructions.go, eips.go).  Core Lean only.

Conventions
* the stack is a `List Word` with the TOP at the head (`pop` = head, `Back(n)` = index n);
* memory is a `List UInt8` (`Memory.store`);
* a Go run-time panic (index/slice out of range, the explicit `panic` in `Memory.Set`)
  is the explicit result `Err.goPanic` — never a default value.  `Props/C10` proves these
  branches unreachable under the interpreter's checks.
-/
namespace Rangers.Model.Evm10
open U256

inductive Err where
  | invalidOpcode | stackUnderflow | stackOverflow | outOfGas | gasUintOverflow
  | invalidJump | returnDataOutOfBounds | writeProtection | goPanic
  deriving DecidableEq, Repr

def Err.name : Err → String
  | .invalidOpcode => "invalid-opcode" | .stackUnderflow => "stack-underflow"
  | .stackOverflow => "stack-overflow" | .outOfGas => "out-of-gas"
  | .gasUintOverflow => "gas-uint-overflow" | .invalidJump => "invalid-jump"
  | .returnDataOutOfBounds => "returndata-oob" | .writeProtection => "write-protection"
  | .goPanic => "PANIC"

/-! ### memory.go -/
namespace Mem

/-- `Resize(size)` : grow with zero bytes, never shrink. -/
def resize (m : Bytes) (size : Nat) : Bytes :=
  if m.length < size then m ++ List.replicate (size - m.length) 0 else m

/-- `GetPtr(offset, size)` / `GetCopy` : nil for size 0 or when the offset is not below
`len(store)`; otherwise the slice `store[offset:offset+size]`, which is only meaningful
when it ends inside the store (beyond `len` Go would expose spare capacity or panic):
that case is `none`. -/
def getPtr (m : Bytes) (off size : Nat) : Option Bytes :=
  if size = 0 then some []
  else if m.length > off then
    if off + size ≤ m.length then some ((m.drop off).take size) else none
  else some []

/-- `Set(offset, size, value)` : no-op for size 0, panics when the region is not inside
the store, else `copy(store[offset:offset+size], value)` (copies `min size len(value)`). -/
def set (m : Bytes) (off size : Nat) (value : Bytes) : Option Bytes :=
  if size = 0 then some m
  else if off + size > m.length then none
  else
    let v := value.take size
    some (m.take off ++ v ++ m.drop (off + v.length))

/-- `Set32(offset, val)` : zero 32 bytes then write the word big-endian. -/
def set32 (m : Bytes) (off : Nat) (val : Word) : Option Bytes :=
  if off + 32 > m.length then none
  else some (m.take off ++ toBytes32 val ++ m.drop (off + 32))

/-- `store[off] = b` (opMstore8 writes the slice directly). -/
def setByte (m : Bytes) (off : Nat) (b : UInt8) : Option Bytes :=
  if off < m.length then some (m.take off ++ [b] ++ m.drop (off + 1)) else none

/-- `Copy(dst, src, len)` : `copy(store[dst:], store[src:src+len])`, Go's `copy` is
overlap-safe (memmove): the source bytes are those *before* the call. -/
def copy (m : Bytes) (dst src len : Nat) : Option Bytes :=
  if len = 0 then some m
  else if src + len > m.length ∨ dst > m.length then none
  else
    let v := ((m.drop src).take len).take (m.length - dst)
    some (m.take dst ++ v ++ m.drop (dst + v.length))

end Mem

/-! ### common.go -/

/-- `utility.RightPadBytes(slice, l)` : unchanged when already `l` long or longer. -/
def rightPad (bs : Bytes) (l : Nat) : Bytes :=
  if l ≤ bs.length then bs else bs ++ List.replicate (l - bs.length) 0

/-- `getData(data, start, size)` (start, size are uint64 values; `start+size` cannot wrap
for the sizes the interpreter lets through: `memoryGasCost` refuses a memory size above 0x1FFFFFFFE0). -/
def getData (data : Bytes) (start size : Nat) : Bytes :=
  let length := data.length
  let start := if start > length then length else start
  let end_ := start + size
  let end_ := if end_ > length then length else end_
  rightPad ((data.drop start).take (end_ - start)) size

def maxUint64 : Nat := 2 ^ 64 - 1

/-- `toWordSize(size)` -/
def toWordSize (size : Nat) : Nat :=
  if size > maxUint64 - 31 then maxUint64 / 32 + 1 else (size + 31) / 32

/-- `calcMemSize64WithUint(off, length64)` → (size, overflow) -/
def calcMemSize64WithUint (off : Word) (length64 : Nat) : Nat × Bool :=
  if length64 = 0 then (0, false)
  else if !isUint64 off then (0, true)   -- `off.Uint64WithOverflow()` overflowed
  else
    -- `val := offset64 + length64` in uint64, overflow iff `val < offset64`
    ((lo64 off + length64) % 2 ^ 64, decide ((lo64 off + length64) % 2 ^ 64 < lo64 off))

/-- `calcMemSize64(off, l)` -/
def calcMemSize64 (off l : Word) : Nat × Bool :=
  if !isUint64 l then (0, true) else calcMemSize64WithUint off (lo64 l)

/-! ### analysis.go : the JUMPDEST bitmap (a set bit = PUSH data) -/
namespace Bitvec

def modifyAt (l : Bytes) (i : Nat) (f : UInt8 → UInt8) : Bytes :=
  match l, i with
  | [], _ => []
  | b :: bs, 0 => f b :: bs
  | b :: bs, i + 1 => b :: modifyAt bs i f

def sh (x : UInt8) (pos : Nat) : UInt8 := x >>> UInt8.ofNat (pos % 8)

/-- `bits.set(pos)` : `bits[pos/8] |= 0x80 >> (pos % 8)` -/
def set (bits : Bytes) (pos : Nat) : Bytes :=
  modifyAt bits (pos / 8) (fun b => b ||| sh 0x80 pos)

/-- `bits.set8(pos)` : `bits[pos/8] |= 0xFF >> (pos%8); bits[pos/8+1] |= ^(0xFF >> (pos%8))` -/
def set8 (bits : Bytes) (pos : Nat) : Bytes :=
  let bits := modifyAt bits (pos / 8) (fun b => b ||| sh 0xFF pos)
  modifyAt bits (pos / 8 + 1) (fun b => b ||| ~~~ (sh 0xFF pos))

/-- `bits.codeSegment(pos)` : `bits[pos/8] & (0x80 >> (pos%8)) == 0` -/
def codeSegment (bits : Bytes) (pos : Nat) : Bool :=
  (bits.getD (pos / 8) 0 &&& sh 0x80 pos) == 0

/-- `for ; numbits >= 8; numbits -= 8 { bits.set8(pc); pc += 8 }` runs `numbits/8` times. -/
def mark8 : Nat → Bytes → Nat → Bytes × Nat
  | 0, bits, pc => (bits, pc)
  | q + 1, bits, pc => mark8 q (set8 bits pc) (pc + 8)

/-- `for ; numbits > 0; numbits-- { bits.set(pc); pc++ }` -/
def mark1 : Nat → Bytes → Nat → Bytes × Nat
  | 0, bits, pc => (bits, pc)
  | r + 1, bits, pc => mark1 r (set bits pc) (pc + 1)

def isPush (op : UInt8) : Bool := decide (0x60 ≤ op.toNat ∧ op.toNat ≤ 0x7f)

/-- The outer loop of `codeBitmap`; `fuel` bounds the iterations (each advances pc). -/
def loop : Nat → Bytes → Nat → Bytes → Bytes
  | 0, _, _, bits => bits
  | fuel + 1, code, pc, bits =>
    if pc < code.length then
      let op := code.getD pc 0
      if isPush op then
        let numbits := op.toNat - 0x60 + 1
        let (bits, pc) := mark8 (numbits / 8) bits (pc + 1)
        let (bits, pc) := mark1 (numbits % 8) bits pc
        loop fuel code pc bits
      else loop fuel code (pc + 1) bits
    else bits

/-- `codeBitmap(code)` : `len(code)/8+1+4` zero bytes, then the loop. -/
def codeBitmap (code : Bytes) : Bytes :=
  loop code.length code 0 (List.replicate (code.length / 8 + 1 + 4) 0)

end Bitvec

/-! ### the frame -/

structure Frame where
  code : Bytes
  input : Bytes
  /-- `contract.analysis`; `Frame.init` sets it to `codeBitmap code` -/
  bitmap : Bytes
  stack : List Word
  mem : Bytes
  pc : Nat
  gas : Nat
  /-- `Memory.lastGasCost` -/
  lastGasCost : Nat
  /-- `interpreter.returnData` -/
  returnData : Bytes

def Frame.init (code input : Bytes) (gas : Nat) : Frame :=
  { code, input, bitmap := Bitvec.codeBitmap code, stack := [], mem := [], pc := 0, gas,
    lastGasCost := 0, returnData := [] }

/-- `contract.GetOp(n)` : byte n of the code, 0 (STOP) beyond its end. -/
def getOp (code : Bytes) (n : Nat) : Nat := if n < code.length then (code.getD n 0).toNat else 0

/-- `contract.validJumpdest(dest)` -/
def validJumpdest (f : Frame) (dest : Word) : Bool :=
  let (udest, overflow) := uint64WithOverflow dest
  if overflow || decide (udest ≥ f.code.length) then false
  else if (f.code.getD udest 0) != 0x5b then false
  else Bitvec.codeSegment f.bitmap udest

inductive ExecResult where
  /-- the function returned `(res, nil)` -/
  | ok (f : Frame) (res : Bytes)
  | err (e : Err)
  | unmodelled (name : String)

/-- binary operator `x, y := pop(), peek(); y.F(&x, y)` -/
def bin (f : Frame) (g : Word → Word → Word) : ExecResult :=
  match f.stack with
  | x :: y :: rest => .ok { f with stack := g x y :: rest } []
  | _ => .err .goPanic

def un (f : Frame) (g : Word → Word) : ExecResult :=
  match f.stack with
  | x :: rest => .ok { f with stack := g x :: rest } []
  | _ => .err .goPanic

def pushW (f : Frame) (w : Word) : ExecResult := .ok { f with stack := w :: f.stack } []

def opSHL (shift value : Word) : Word :=
  if ltUint64 shift 256 then lsh value (lo64 shift) else 0#256

def opSHR (shift value : Word) : Word :=
  if ltUint64 shift 256 then rsh value (lo64 shift) else 0#256

def opSAR (shift value : Word) : Word :=
  if gtUint64 shift 256 then
    if sign value ≥ 0 then 0#256 else allOnes
  else srsh value (lo64 shift)

def opAddmod (x y z : Word) : Word := if isZero z then 0#256 else addmod x y z

/-- `makePush(size, pushByteSize)` : the value pushed. -/
def pushValue (code : Bytes) (pc n : Nat) : Word :=
  let codeLen := code.length
  let startMin := if pc + 1 < codeLen then pc + 1 else codeLen
  let endMin := if startMin + n < codeLen then startMin + n else codeLen
  setBytes (rightPad ((code.drop startMin).take (endMin - startMin)) n)

/-- The `execute` function named by a jump-table slot, run on a frame whose memory has
already been resized by the interpreter loop.  `H` is the Keccak-256 parameter. -/
def execOp (H : Bytes → Bytes) (e : Exec) (f : Frame) : ExecResult :=
  match e with
  | .opStop => .ok f []
  | .opAdd => bin f add
  | .opSub => bin f sub
  | .opMul => bin f mul
  | .opDiv => bin f div
  | .opSdiv => bin f sdiv
  | .opMod => bin f mod
  | .opSmod => bin f smod
  | .opExp => bin f exp
  | .opSignExtend => bin f (fun back num => extendSign num back)
  | .opNot => un f U256.not
  | .opLt => bin f (fun x y => ofBool (lt x y))
  | .opGt => bin f (fun x y => ofBool (gt x y))
  | .opSlt => bin f (fun x y => ofBool (slt x y))
  | .opSgt => bin f (fun x y => ofBool (sgt x y))
  | .opEq => bin f (fun x y => ofBool (eq x y))
  | .opIszero => un f (fun x => ofBool (isZero x))
  | .opAnd => bin f U256.and
  | .opOr => bin f U256.or
  | .opXor => bin f U256.xor
  | .opByte => bin f (fun th val => byte val th)
  | .opAddmod =>
    match f.stack with
    | x :: y :: z :: rest => .ok { f with stack := opAddmod x y z :: rest } []
    | _ => .err .goPanic
  | .opMulmod =>
    match f.stack with
    | x :: y :: z :: rest => .ok { f with stack := mulmod x y z :: rest } []
    | _ => .err .goPanic
  | .opSHL => bin f opSHL
  | .opSHR => bin f opSHR
  | .opSAR => bin f opSAR
  | .opSha3 =>
    match f.stack with
    | offset :: size :: rest =>
      match Mem.getPtr f.mem (lo64 offset) (lo64 size) with
      | some data => .ok { f with stack := setBytes (H data) :: rest } []
      | none => .err .goPanic
    | _ => .err .goPanic
  | .opCallDataLoad =>
    match f.stack with
    | x :: rest =>
      let (offset, overflow) := uint64WithOverflow x
      if !overflow then .ok { f with stack := setBytes (getData f.input offset 32) :: rest } []
      else .ok { f with stack := 0#256 :: rest } []
    | _ => .err .goPanic
  | .opCallDataSize => pushW f (ofNat f.input.length)
  | .opCallDataCopy =>
    match f.stack with
    | memOffset :: dataOffset :: length :: rest =>
      let (d64, overflow) := uint64WithOverflow dataOffset
      let d64 := if overflow then maxUint64 else d64
      let length64 := lo64 length
      match Mem.set f.mem (lo64 memOffset) length64 (getData f.input d64 length64) with
      | some m => .ok { f with stack := rest, mem := m } []
      | none => .err .goPanic
    | _ => .err .goPanic
  | .opCodeSize => pushW f (ofNat f.code.length)
  | .opCodeCopy =>
    match f.stack with
    | memOffset :: codeOffset :: length :: rest =>
      let (c64, overflow) := uint64WithOverflow codeOffset
      let c64 := if overflow then maxUint64 else c64
      let length64 := lo64 length
      match Mem.set f.mem (lo64 memOffset) length64 (getData f.code c64 length64) with
      | some m => .ok { f with stack := rest, mem := m } []
      | none => .err .goPanic
    | _ => .err .goPanic
  | .opReturnDataSize => pushW f (ofNat f.returnData.length)
  | .opReturnDataCopy =>
    match f.stack with
    | memOffset :: dataOffset :: length :: rest =>
      -- `offset64, overflow := dataOffset.Uint64WithOverflow()`
      if !isUint64 dataOffset then .err .returnDataOutOfBounds
      else
        let end_ := add dataOffset length
        -- `end64, overflow := end.Uint64WithOverflow()`
        if !isUint64 end_ || decide (f.returnData.length < lo64 end_) then .err .returnDataOutOfBounds
        else if lo64 dataOffset > lo64 end_ then .err .goPanic   -- `returnData[offset64:end64]`
        else
          match Mem.set f.mem (lo64 memOffset) (lo64 length)
              ((f.returnData.drop (lo64 dataOffset)).take (lo64 end_ - lo64 dataOffset)) with
          | some m => .ok { f with stack := rest, mem := m } []
          | none => .err .goPanic
    | _ => .err .goPanic
  | .opPop =>
    match f.stack with
    | _ :: rest => .ok { f with stack := rest } []
    | _ => .err .goPanic
  | .opMload =>
    match f.stack with
    | v :: rest =>
      match Mem.getPtr f.mem (lo64 v) 32 with
      | some bs => .ok { f with stack := setBytes bs :: rest } []
      | none => .err .goPanic
    | _ => .err .goPanic
  | .opMstore =>
    match f.stack with
    | mStart :: val :: rest =>
      match Mem.set32 f.mem (lo64 mStart) val with
      | some m => .ok { f with stack := rest, mem := m } []
      | none => .err .goPanic
    | _ => .err .goPanic
  | .opMstore8 =>
    match f.stack with
    | off :: val :: rest =>
      match Mem.setByte f.mem (lo64 off) (UInt8.ofNat (lo64 val)) with
      | some m => .ok { f with stack := rest, mem := m } []
      | none => .err .goPanic
    | _ => .err .goPanic
  | .opJump =>
    match f.stack with
    | pos :: rest =>
      if !validJumpdest f pos then .err .invalidJump
      else .ok { f with stack := rest, pc := lo64 pos } []
    | _ => .err .goPanic
  | .opJumpi =>
    match f.stack with
    | pos :: cond :: rest =>
      if !isZero cond then
        if !validJumpdest f pos then .err .invalidJump
        else .ok { f with stack := rest, pc := lo64 pos } []
      else .ok { f with stack := rest, pc := f.pc + 1 } []
    | _ => .err .goPanic
  | .opJumpdest => .ok f []
  | .opPc => pushW f (ofNat f.pc)
  | .opMsize => pushW f (ofNat f.mem.length)
  | .opGas => pushW f (ofNat f.gas)
  | .opPush0 => pushW f 0#256
  | .opPush1 =>
    let pc := f.pc + 1
    if pc < f.code.length then
      .ok { f with stack := ofNat (f.code.getD pc 0).toNat :: f.stack, pc := pc } []
    else .ok { f with stack := 0#256 :: f.stack, pc := pc } []
  | .push size n =>
    .ok { f with stack := pushValue f.code f.pc n :: f.stack, pc := f.pc + size } []
  | .dup n =>
    -- `st.push(&st.data[st.len()-n])`
    if n = 0 then .err .goPanic
    else match f.stack[n - 1]? with
      | some w => .ok { f with stack := w :: f.stack } []
      | none => .err .goPanic
  | .swap n =>
    -- `makeSwap(n)` swaps `data[len-(n+1)]` with the top
    match f.stack with
    | top :: _ =>
      if n = 0 then .ok f []
      else match f.stack[n]? with
        | some w => .ok { f with stack := (w :: f.stack.tail).set n top } []
        | none => .err .goPanic
    | [] => .err .goPanic
  | .opMcopy =>
    match f.stack with
    | dst :: src :: length :: rest =>
      match Mem.copy f.mem (lo64 dst) (lo64 src) (lo64 length) with
      | some m => .ok { f with stack := rest, mem := m } []
      | none => .err .goPanic
    | _ => .err .goPanic
  | .opReturn =>
    match f.stack with
    | offset :: size :: rest =>
      match Mem.getPtr f.mem (lo64 offset) (lo64 size) with
      | some ret => .ok { f with stack := rest } ret
      | none => .err .goPanic
    | _ => .err .goPanic
  | .opRevert =>
    match f.stack with
    | offset :: size :: rest =>
      match Mem.getPtr f.mem (lo64 offset) (lo64 size) with
      | some ret => .ok { f with stack := rest } ret
      | none => .err .goPanic
    | _ => .err .goPanic
  | .other name => .unmodelled name

end Rangers.Model.Evm10
