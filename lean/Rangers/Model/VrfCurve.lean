import Rangers.Basic.Hex
import Rangers.Model.VrfSha512
/-!
Value-level model of `src/common/ed25519/edwards25519` as used by the VRF:
field elements are naturals mod p = 2^255-19 (the ref10 limb representation is
NOT modelled: `FeMul`, `FeSquare`, `FeInvert`, … are assumed to compute the
field operation they name; that assumption is sampled by the correspondence
run). Group elements keep the extended coordinates (X,Y,Z,T) and the formulas
are the ones the Go code uses (`geAdd`, `GeSub`, `ProjectiveGroupElement.Double`,
`FromBytes`, `ToBytes`), so that degenerate inputs (small-order points, x = 0,
non-canonical y) go through the same arithmetic as in the code.

`GeScalarMult` is the code's sliding window (`slide` + `GeDoubleScalarMultVartime`),
transcribed exactly, so that even an off-curve `pk` (decoding flag ignored by
`ECVRFVerify`) goes through the same arithmetic. `GeScalarMultBase` is the code's signed
radix-16 walk (`signedRadix16`, `baseMulWith`); only the entries of its table of multiples of B,
precomputed constants in the code, are computed by double-and-add (`baseTable`).
-/
namespace Rangers.Model.VrfCurve
open Rangers

def p : Nat := 2 ^ 255 - 19
def dConst : Nat := 37095705934669439343138083508754565189542113879843219016388785533085940283555
def d2Const : Nat := (2 * dConst) % p
def sqrtM1 : Nat := 19681161376707505956807079304988542015446066515923890162744021073123829784752
def montA : Nat := 486662
/-- Order of the prime-order subgroup (the scalar modulus of `ScReduce`/`ScMulAdd`). -/
def L : Nat := 2 ^ 252 + 27742317777372353535851937790883648493

@[inline] def fadd (a b : Nat) : Nat := (a + b) % p
@[inline] def fsub (a b : Nat) : Nat := (a + (p - b % p)) % p
@[inline] def fmul (a b : Nat) : Nat := (a * b) % p
@[inline] def fneg (a : Nat) : Nat := (p - a % p) % p
@[inline] def fsq (a : Nat) : Nat := (a * a) % p

/-- Square-and-multiply, structural on the bit count. -/
def fpowAux : Nat → Nat → Nat → Nat → Nat
  | 0, _, _, acc => acc
  | fuel + 1, b, e, acc =>
    if e = 0 then acc
    else fpowAux fuel (fsq b) (e / 2) (if e % 2 = 1 then fmul acc b else acc)

def fpow (b e : Nat) : Nat := fpowAux 256 (b % p) e 1

/-- `FeInvert`: z^(p-2); maps 0 to 0. -/
def finv (a : Nat) : Nat := fpow a (p - 2)
/-- `fePow22523`: z^((p-5)/8). -/
def fpow22523 (a : Nat) : Nat := fpow a ((p - 5) / 8)
/-- `chi25519`: z^((p-1)/2). -/
def fchi (a : Nat) : Nat := fpow a ((p - 1) / 2)

/-- Little-endian bytes to Nat. -/
def leToNat (bs : Bytes) : Nat := bs.foldr (fun b acc => acc * 256 + b.toNat) 0

/-- `n` little-endian bytes of a Nat (truncating). -/
def natToLE : Nat → Nat → Bytes
  | 0, _ => []
  | n + 1, v => UInt8.ofNat (v % 256) :: natToLE n (v / 256)

/-- Force a byte string to exactly `n` bytes the way `copy(dst[:], src)` into a
    zeroed `[n]byte` does: truncate or right-pad with zeros. -/
def fit (n : Nat) (bs : Bytes) : Bytes := (bs ++ List.replicate (n - bs.length) 0).take n

/-- `FeFromBytes`: 255 low bits, bit 255 ignored; value may exceed p (not reduced). -/
def feFromBytes (s : Bytes) : Nat := leToNat (fit 32 s) % 2 ^ 255

/-- `FeToBytes`: canonical 32-byte little-endian encoding. -/
def feToBytes (a : Nat) : Bytes := natToLE 32 (a % p)

def feIsNegative (a : Nat) : Nat := (a % p) % 2

structure Point where
  X : Nat
  Y : Nat
  Z : Nat
  T : Nat
deriving Repr, DecidableEq

def Point.zero : Point := ⟨0, 1, 1, 0⟩

instance : Inhabited Point := ⟨Point.zero⟩

/-- Completed (P1xP1) element as produced by add/sub/double. -/
structure Completed where
  X : Nat
  Y : Nat
  Z : Nat
  T : Nat

def Completed.toExtended (r : Completed) : Point :=
  ⟨fmul r.X r.T, fmul r.Y r.Z, fmul r.Z r.T, fmul r.X r.Y⟩

/-- `geAdd` with `q.ToCached()` inlined. -/
def addC (a q : Point) : Completed :=
  let ypx := fadd q.Y q.X
  let ymx := fsub q.Y q.X
  let t2d := fmul q.T d2Const
  let rx := fadd a.Y a.X
  let ry := fsub a.Y a.X
  let rz := fmul rx ypx
  let ry := fmul ry ymx
  let rt := fmul t2d a.T
  let t0 := fmul a.Z q.Z
  let t0 := fadd t0 t0
  ⟨fsub rz ry, fadd rz ry, fadd t0 rt, fsub t0 rt⟩

/-- `GeSub` with `q.ToCached()` inlined. -/
def subC (a q : Point) : Completed :=
  let ypx := fadd q.Y q.X
  let ymx := fsub q.Y q.X
  let t2d := fmul q.T d2Const
  let rx := fadd a.Y a.X
  let ry := fsub a.Y a.X
  let rz := fmul rx ymx
  let ry := fmul ry ypx
  let rt := fmul t2d a.T
  let t0 := fmul a.Z q.Z
  let t0 := fadd t0 t0
  ⟨fsub rz ry, fadd rz ry, fsub t0 rt, fadd t0 rt⟩

/-- `ProjectiveGroupElement.Double` (uses X,Y,Z only). -/
def dblC (a : Point) : Completed :=
  let xx := fsq a.X
  let yy := fsq a.Y
  let b2 := fmul 2 (fsq a.Z)
  let aa := fsq (fadd a.X a.Y)
  let ry := fadd yy xx
  let rz := fsub yy xx
  ⟨fsub aa ry, ry, rz, fsub b2 rz⟩

def add (a b : Point) : Point := (addC a b).toExtended
def sub (a b : Point) : Point := (subC a b).toExtended
def dbl (a : Point) : Point := (dblC a).toExtended

/-- `ToBytes` (same code for Extended and Projective elements). -/
def encode (a : Point) : Bytes :=
  let recip := finv a.Z
  let x := fmul a.X recip
  let y := fmul a.Y recip
  let yb := natToLE 32 (y + 2 ^ 255 * feIsNegative x)
  yb

/-- `ExtendedGroupElement.FromBytes`: the point it leaves in the receiver and
    the flag it returns (several callers ignore the flag). -/
def fromBytes (s : Bytes) : Point × Bool :=
  let s := fit 32 s
  let y := feFromBytes s
  let sign := leToNat s / 2 ^ 255
  let u := fsq y
  let v := fmul u dConst
  let u := fsub u 1
  let v := fadd v 1
  let v3 := fmul (fsq v) v
  let x := fmul (fmul (fsq v3) v) u
  let x := fpow22523 x
  let x := fmul (fmul x v3) u
  let vxx := fmul (fsq x) v
  let hasM := fsub vxx u == 0
  let hasP := fadd vxx u == 0
  let x := if hasM then x else fmul x sqrtM1
  let x := if feIsNegative x != sign then fneg x else x
  (⟨x, y % p, 1, fmul x y⟩, hasM || hasP)

/-- `isCanonical` as written: byte-typed arithmetic. `(c - 1) >> 8` and
    `(0xed - 1 - s[0]) >> 8` are shifts of 8-bit values by 8, i.e. always 0,
    so the function returns 1 for every input. Modelled operation by operation
    on `UInt8`, not simplified. -/
def isCanonical (s : Bytes) : UInt8 :=
  let s := fit 32 s
  let c0 : UInt8 := (s.getD 31 0 &&& 0x7f) ^^^ 0x7f
  let c1 : UInt8 := (List.range 30).foldl (fun c i => c ||| (s.getD (30 - i) 0 ^^^ 0xff)) c0
  let c : UInt8 := UInt8.ofNat (((c1 - 1).toNat >>> 8) % 256)
  let dd : UInt8 := UInt8.ofNat (((0xed - 1 - s.getD 0 0 : UInt8).toNat >>> 8) % 256)
  1 - (c &&& dd &&& 1)

/-- `stringToPoint`. -/
def stringToPoint (s : Bytes) : Option Point :=
  let r := fromBytes s
  if isCanonical s == 0 || !r.2 then none else some r.1

/-- Base point: y = 4/5, x even. -/
def basePoint : Point :=
  (fromBytes (natToLE 32 46316835694926478169428394003475163141307993866256225615783033603165251855960)).1

/-- k·P, double-and-add from the most significant bit (structural on the bit count).
    Used for the entries of `baseTable` (in the code: precomputed multiples of B) and by `smulAux`. -/
def daWith {P : Type} (zero : P) (dbl : P → P) (add : P → P → P) (a : P) : Nat → Nat → P
  | 0, _ => zero
  | n + 1, k =>
    let r := dbl (daWith zero dbl add a n (k / 2))
    if k % 2 = 1 then add r a else r

def smulAux (a : Point) (n k : Nat) : Point := daWith Point.zero dbl add a n k

/-! #### `slide` + `GeDoubleScalarMultVartime` (sliding window, exactly as in the code) -/

/-- carry loop of `slide`: from position k upwards turn 1s into 0s until a 0 is found and set to 1
    (runs off the end of the array silently, like the code). -/
def slideCarry : Nat → Nat → Array Int → Array Int
  | 0, _, r => r
  | fuel + 1, k, r =>
    if k ≥ r.size then r
    else if r[k]! = 0 then r.set! k 1
    else slideCarry fuel (k + 1) (r.set! k 0)

/-- inner loop of `slide` for position i, b = 1..6 -/
def slideInner (i : Nat) : Nat → Nat → Array Int → Array Int
  | 0, _, r => r
  | fuel + 1, b, r =>
    if b > 6 ∨ i + b ≥ r.size then r
    else if r[i + b]! = 0 then slideInner i fuel (b + 1) r
    else
      let sh : Int := r[i + b]! * 2 ^ b
      if r[i]! + sh ≤ 15 then
        slideInner i fuel (b + 1) ((r.set! i (r[i]! + sh)).set! (i + b) 0)
      else if r[i]! - sh ≥ -15 then
        slideInner i fuel (b + 1) (slideCarry r.size (i + b) (r.set! i (r[i]! - sh)))
      else r

def slideOuter : Nat → Nat → Array Int → Array Int
  | 0, _, r => r
  | fuel + 1, i, r =>
    if i ≥ r.size then r
    else slideOuter fuel (i + 1) (if r[i]! ≠ 0 then slideInner i 7 1 r else r)

/-- `slide`: signed sliding-window recoding of a 256-bit scalar (digits odd, |d| ≤ 15, or 0),
    least significant first. -/
def slide (k : Nat) : List Int :=
  let bits : Array Int := (Array.range 256).map (fun i => ((k / 2 ^ i % 2 : Nat) : Int))
  (slideOuter 256 0 bits).toList

/-- The main loop of `GeDoubleScalarMultVartime` for one scalar, over any point operations:
    digits most significant first, leading zeros skipped, `tbl j` = (2j+1)·A. -/
def windowLoop {P : Type} (dbl : P → P) (add sub : P → P → P) (tbl : Nat → P) : List Int → P → P
  | [], acc => acc
  | d :: ds, acc =>
    let t := dbl acc
    let t := if d > 0 then add t (tbl (d.toNat / 2))
             else if d < 0 then sub t (tbl ((-d).toNat / 2)) else t
    windowLoop dbl add sub tbl ds t

/-- table A, 3A, …, 15A built as in the code: A2 = 2A, Ai[j+1] = A2 + Ai[j] -/
def oddTable {P : Type} (dbl : P → P) (add : P → P → P) (a : P) : Nat → P
  | 0 => a
  | j + 1 => add (dbl a) (oddTable dbl add a j)

def windowMulWith {P : Type} (zero : P) (dbl : P → P) (add sub : P → P → P) (digitsLSB : List Int) (a : P) : P :=
  let ds := digitsLSB.reverse.dropWhile (fun d => d == 0)
  windowLoop dbl add sub (oddTable dbl add a) ds zero

/-- a·A by the sliding window, on the model's coordinates (X, Y, Z as in the code). -/
def slideMul (k : Nat) (a : Point) : Point := windowMulWith Point.zero dbl add sub (slide k) a

/-- `GeScalarMult`: sliding window, then the result goes through `ToBytes`/`FromBytes`
    (flag ignored) as in the code. Exact also for an off-curve `a`. -/
def smul (k : Nat) (a : Point) : Point := (fromBytes (encode (slideMul k a))).1

/-- the same with double-and-add (agrees with `smul` on curve points) -/
def smulDA (k : Nat) (a : Point) : Point := (fromBytes (encode (smulAux a 256 k))).1

/-! #### `GeScalarMultBase`: signed radix-16 recoding + table of multiples of B, as in the code -/

/-- the 4-bit digits of a scalar, least significant first (`e[2i] = a[i] & 15`, `e[2i+1] = a[i] >> 4`) -/
def nibblesAux : Nat → Nat → List Int
  | 0, _ => []
  | n + 1, k => ((k % 16 : Nat) : Int) :: nibblesAux n (k / 16)

/-- the carry pass: `e[i] += carry; carry = (e[i] + 8) >> 4; e[i] -= carry << 4` for i < 63, then
    `e[63] += carry` -/
def recodeAux : List Int → Int → List Int
  | [], _ => []
  | [e], c => [e + c]
  | e :: e' :: rest, c =>
    let v := e + c
    let c' := (v + 8) / 16
    (v - c' * 16) :: recodeAux (e' :: rest) c'

/-- the 64 signed digits (each in [−8, 8]) `GeScalarMultBase` works with -/
def signedRadix16 (k : Nat) : List Int := recodeAux (nibblesAux 64 k) 0

def evens : List Int → List Int
  | [] => []
  | [a] => [a]
  | a :: _ :: rest => a :: evens rest

def odds : List Int → List Int
  | [] => []
  | [_] => []
  | _ :: b :: rest => b :: odds rest

/-- one pass of `selectPoint` + `geMixedAdd` over the digits of one parity; `tbl pos d` = d·256^pos·B -/
def accumDigits {P : Type} (add : P → P → P) (tbl : Nat → Int → P) : Nat → List Int → P → P
  | _, [], acc => acc
  | pos, d :: ds, acc => accumDigits add tbl (pos + 1) ds (add acc (tbl pos d))

/-- `GeScalarMultBase` over any point operations: odd digits, four doublings, even digits. -/
def baseMulWith {P : Type} (zero : P) (dbl : P → P) (add : P → P → P) (tbl : Nat → Int → P) (e : List Int) : P :=
  let h := accumDigits add tbl 0 (odds e) zero
  let h := dbl (dbl (dbl (dbl h)))
  accumDigits add tbl 0 (evens e) h

/-- −(X, Y, Z, T) -/
def negPoint (q : Point) : Point := ⟨fneg q.X, q.Y, q.Z, fneg q.T⟩

/-- 256^pos · B for pos = 0..31 (the code has the multiples precomputed in `const.go: base`; here they are
    computed once from B) -/
def basePows : Array Point :=
  (List.range 31).foldl (fun (a : Array Point) _ =>
    let q := a.back!
    a.push (dbl (dbl (dbl (dbl (dbl (dbl (dbl (dbl q))))))))) #[basePoint]

def basePow (pos : Nat) : Point := basePows[pos]!

/-- `selectPoint(pos, d)`: |d|·256^pos·B, negated for d < 0, the neutral element for d = 0 -/
def baseTable (pos : Nat) (d : Int) : Point :=
  if d = 0 then Point.zero
  else
    let m := daWith Point.zero dbl add (basePow pos) 5 d.natAbs
    if d < 0 then negPoint m else m

/-- `GeScalarMultBase`. -/
def smulBase (k : Nat) : Point := baseMulWith Point.zero dbl add baseTable (signedRadix16 k)

/-- the same with double-and-add -/
def smulBaseDA (k : Nat) : Point := smulAux basePoint 256 k

/-- `ScReduce` / the reduction inside `ScMulAdd`. -/
def scReduce (v : Nat) : Nat := v % L

/-- Elligator 2 + cofactor clearing (`fromUniform`). -/
def fromUniform (r : Bytes) : Bytes :=
  let r := fit 32 r
  let xSign := leToNat r / 2 ^ 255
  let rr := feFromBytes r
  let rr2 := fadd (fmul 2 (fsq rr)) 1
  let rr2 := finv rr2
  let x := fneg (fmul montA rr2)
  let x2 := fsq x
  let x3 := fmul x x2
  let e := fadd (fmul x2 montA) (fadd x3 x)
  let e := fchi e
  let eb := feToBytes e
  let eIsMinus1 := (eb.getD 1 0).toNat % 2
  let x := if eIsMinus1 = 1 then fsub (fneg x) montA else x
  let yed := fmul (fsub x 1) (finv (fadd x 1))
  let s := natToLE 32 (yed % p + 2 ^ 255 * xSign)
  let p3 := (fromBytes s).1
  encode (dbl (dbl (dbl p3)))

def suite : Bytes := [0x04]

/-- `hashToCurve(m, pk)`. -/
def hashToCurve (m pk : Bytes) : Bytes :=
  let h := VrfSha512.sha512 (suite ++ [0x01] ++ pk ++ m)
  let r := h.take 32
  let r := r.take 31 ++ [r.getD 31 0 &&& 0x7f]
  fromUniform r

/-- `hashPoints`: first 16 bytes of SHA-512(04 02 ‖ enc p1 ‖ … ‖ enc p4). -/
def hashPoints (p1 p2 p3 p4 : Point) : Bytes :=
  (VrfSha512.sha512 (suite ++ [0x02] ++ encode p1 ++ encode p2 ++ encode p3 ++ encode p4)).take 16

/-- `expandSecret`: clamped scalar x and the nonce key. -/
def expandSecret (sk : Bytes) : Nat × Bytes :=
  let dg := VrfSha512.sha512 (sk.take 32)
  let b0 := dg.getD 0 0 &&& 248
  let b31 := (dg.getD 31 0 &&& 127) ||| 64
  let xb := [b0] ++ (dg.take 31).drop 1 ++ [b31]
  (leToNat xb, (dg.drop 32).take 32)

/-- `vrfNonceGeneration`. -/
def nonce (trunc h : Bytes) : Nat :=
  scReduce (leToNat (VrfSha512.sha512 (fit 32 trunc ++ fit 32 h)))

end Rangers.Model.VrfCurve
