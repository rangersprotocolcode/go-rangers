import Rangers.Model.ModArith
/-!
Model of the threshold-key arithmetic of `src/consensus/groupsig` and of the
selection logic of `RecoverGroupSignature` (core Lean only; the driver executes
exactly these definitions).

Scalars and ids are `Nat` (`big.Int ≥ 0`), the group order `r` is a parameter
(the driver passes `Generated.Bn256.order`). Group elements are abstract: every
function that touches points takes the point operations as a record `Ops G`, so
the driver instantiates it with the executable `Model.G1` and the theorems with
any `Module (ZMod r) G`.

What is mirrored, statement by statement:
* `shareSeckey`        — `seckey.go: ShareSeckey` (Horner from the top coefficient, `Mod` after
                         every step, final `NewSeckeyFromBigInt` reduction; index panic on `[]`).
* `aggregateSeckeys`   — `seckey.go: AggregateSeckeys` (nil on empty, sum then one `Mod`).
* `lagrangeDelta`      — the `num/den/ModInverse/delta` block of `sig.go: recoverSignature`;
                         a failed `ModInverse` leaves `den` unchanged (Go ≥ 1.11).
* `recoverWith`        — the accumulation loop of `recoverSignature` (`i == 0` copies, later adds).
* `randomPerm`, `sortInts`, `pickSorted`, `recoverGroupSignature`
                       — `base.Rand.RandomPerm`, `sort.Ints`, `getRandomKSignInfo`,
                         `RecoverGroupSignature`, with the two Go-map iterations and the random
                         draws as explicit parameters.
* `getGroupK`          — `model/param.go: GetGroupK` through a bit-exact model of the IEEE-754
                         double division and `math.Ceil`.
-/
namespace Rangers.Model.Shamir
open Rangers.Model.ModArith

/-! ### Secret sharing (scalars) -/

/-- `ShareSeckey(msec, id)`: `none` is the index-out-of-range panic on an empty
    coefficient list (`msec[len-1]` with `len = 0`). -/
def shareSeckey (r : Nat) (cs : List Nat) (x : Nat) : Option Nat :=
  match cs.reverse with
  | [] => none
  | top :: rest => some ((rest.foldl (fun acc c => (acc * x + c) % r) top) % r)

/-- `AggregateSeckeys(secs)`: `none` is Go's `nil` for an empty slice. -/
def aggregateSeckeys (r : Nat) (secs : List Nat) : Option Nat :=
  match secs with
  | [] => none
  | s :: rest => some ((rest.foldl (fun acc x => acc + x) s) % r)

/-- Member key after the DKG (`groupNodeInfo.genMinerSignSecKey`): every dealer `d` sends
    `ShareSeckey(coeffs_d, id)`, the member aggregates what it received. `dealers` lists the
    dealers' coefficient lists. -/
def memberKey (r : Nat) (dealers : List (List Nat)) (x : Nat) : Option Nat :=
  match dealers.mapM (fun cs => shareSeckey r cs x) with
  | some shares => aggregateSeckeys r shares
  | none => none

/-- The group secret `Σ_d coeffs_d[0] mod r`. The node never computes it; the harness does (with
    `AggregateSeckeys`) to obtain the reference signature. -/
def groupSecret (r : Nat) (dealers : List (List Nat)) : Option Nat :=
  aggregateSeckeys r (dealers.map (fun cs => cs.headD 0))

/-- `AggregatePubkeys` (`pubkey.go`): `none` (Go `nil`) on empty input, else the first key with the
    others added one by one. -/
def aggregatePoints {G : Type} (add : G → G → G) : List G → Option G
  | [] => none
  | p :: ps => some (ps.foldl add p)

/-- Decision core of `VerifySig` (`sig.go`): `PairIsEuqal(Pair(σ, g₂), Pair(H(m), pk))`. The
    nil / on-curve guards in front of it are C14's subject. -/
def verifyCore {G1 G2 GT : Type} (pair : G1 → G2 → GT) (eq : GT → GT → Bool)
    (g2 pk : G2) (hm sig : G1) : Bool :=
  eq (pair sig g2) (pair hm pk)

/-! ### `groupNodeInfo` — collecting share pieces (`group_create/group_node_info.go`) -/

/-- A share piece as `handleSharePiece` sees it: sender id, secret share, the dealer's public key. -/
structure Piece (P : Type) where
  id : Nat
  share : Nat
  pub : P

/-- State of a member's `groupNodeInfo`: group size, `receivedSharePiece` (entries in insertion
    order; a Go map keyed by the sender's id), `minerSignSeckey` (`0` = not valid), `groupPubKey`
    (`none` = empty). -/
structure NodeInfo (P : Type) where
  n : Nat
  received : List (Piece P)
  msk : Nat
  gpk : Option P

def NodeInfo.new {P : Type} (n : Nat) : NodeInfo P := ⟨n, [], 0, none⟩

/-- `handleSharePiece(id, share)` → `(state, status)`: `-1` for a sender already present (the first
    piece is kept, whatever the new one contains); otherwise the piece is stored — no membership test
    here nor in the caller — and when the number of DISTINCT senders equals the group size
    (`gotAllSharePiece`: `len(receivedSharePiece) == groupMemberNum`) the keys are aggregated
    (`aggregateKeys`: only if not both valid yet) and `1` is returned if both are valid, else `-1`;
    `0` in every other case (also for senders beyond the `n`-th, after completion). -/
def handleSharePiece {P : Type} (r : Nat) (addP : P → P → P) (st : NodeInfo P) (pc : Piece P) :
    NodeInfo P × Int :=
  if st.received.any (fun e => e.id == pc.id) then (st, -1)
  else
    let rc := st.received ++ [pc]
    if rc.length = st.n then
      let st' : NodeInfo P :=
        if st.gpk.isNone ∨ st.msk = 0 then
          ⟨st.n, rc, (aggregateSeckeys r (rc.map (·.share))).getD 0, aggregatePoints addP (rc.map (·.pub))⟩
        else ⟨st.n, rc, st.msk, st.gpk⟩
      (st', if st'.gpk.isSome ∧ st'.msk ≠ 0 then 1 else -1)
    else (⟨st.n, rc, st.msk, st.gpk⟩, 0)

/-- A delivery history. -/
def deliverAll {P : Type} (r : Nat) (addP : P → P → P) :
    NodeInfo P → List (Piece P) → NodeInfo P × List Int
  | st, [] => (st, [])
  | st, pc :: rest =>
    let (st', c) := handleSharePiece r addP st pc
    let (st'', cs) := deliverAll r addP st' rest
    (st'', c :: cs)

/-! ### Lagrange coefficients -/

/-- The inner `j` loop of `recoverSignature` for fixed `i`: running `(num, den)`. `j` is the
    position of the head of the remaining list. -/
def numDenAux (r : Nat) (i : Nat) (xi : Nat) : Nat → List Nat → Nat × Nat → Nat × Nat
  | _, [], nd => nd
  | j, xj :: rest, nd =>
    numDenAux r i xi (j + 1) rest
      (if j = i then nd
       else ((nd.1 * xj) % r, emod ((nd.2 : Int) * ((xj : Int) - (xi : Int))) r))

def numDen (r : Nat) (xs : List Nat) (i : Nat) (xi : Nat) : Nat × Nat :=
  numDenAux r i xi 0 xs (1, 1)

/-- `den.ModInverse(den, curveOrder)`: on failure `den` keeps its value. -/
def invOrKeep (r : Nat) (den : Nat) : Nat :=
  match modInverse den r with
  | some v => v
  | none => den

/-- `delta` for position `i` (whose id is `xi`) among the ids `xs`. -/
def lagrangeDelta (r : Nat) (xs : List Nat) (i : Nat) (xi : Nat) : Nat :=
  let nd := numDen r xs i xi
  (nd.1 * invOrKeep r nd.2) % r

def lagrangeAux (r : Nat) (xs : List Nat) : Nat → List Nat → List Nat
  | _, [] => []
  | i, xi :: rest => lagrangeDelta r xs i xi :: lagrangeAux r xs (i + 1) rest

/-- All `delta`s of `recoverSignature` for the id list `xs`, in order. -/
def lagrangeCoeffs (r : Nat) (xs : List Nat) : List Nat := lagrangeAux r xs 0 xs

/-- Scalar twin of `recoverSignature` (Σ δᵢ·sᵢ mod r). -/
def recoverScalar (r : Nat) (xs : List Nat) (shares : List Nat) : Nat :=
  ((List.zipWith (fun d s => d * s) (lagrangeCoeffs r xs) shares).foldl (· + ·) 0) % r

/-! ### Recovery in the group -/

/-- The two point operations `recoverSignature` uses. -/
structure Ops (G : Type) where
  add : G → G → G
  mul : G → Nat → G

/-- Accumulation loop: `sig = δ₀·σ₀`, then `sig = sig + δᵢ·σᵢ`. -/
def accumulate {G : Type} (ops : Ops G) : Option G → List Nat → List G → Option G
  | acc, d :: ds, s :: ss =>
    let t := ops.mul s d
    accumulate ops (some (match acc with | none => t | some a => ops.add a t)) ds ss
  | acc, _, _ => acc

/-- Outcome of a Go call that can panic. -/
inductive Res (α : Type) where
  | ok (a : α)
  | panic
  deriving Repr, DecidableEq

/-- `recoverSignature(sigs, ids)`: `k = len(sigs)`; `ids[i]` for `i < len(xs)` only, so fewer
    ids than signatures is an index panic; surplus ids are ignored (`j < k`). `ok none` is the
    empty `&Signature{}` returned for `k = 0`. -/
def recoverWith {G : Type} (ops : Ops G) (r : Nat) (ids : List Nat) (sigs : List G) : Res (Option G) :=
  if ids.length < sigs.length then .panic
  else
    let xs := ids.take sigs.length
    .ok (accumulate ops none (lagrangeCoeffs r xs) sigs)

/-! ### `RandomPerm`, `sort.Ints`, `getRandomKSignInfo`, `RecoverGroupSignature` -/

def swapList (l : List Nat) (i j : Nat) : List Nat :=
  let a := l.getD i 0
  let b := l.getD j 0
  (l.set i b).set j a

def randomPermAux : Nat → Nat → List Nat → List Nat → List Nat
  | _, 0, _, l => l
  | i, steps + 1, js, l =>
    match js with
    | [] => l
    | jr :: js' => randomPermAux (i + 1) steps js' (swapList l i (jr + i))

/-- `Rand.RandomPerm(n, k)` where `js[i]` is the value `r.Deri(i).Modulo(n-i)` (the only
    place the hash enters). Requires `js.length ≥ k`; the Go code panics (`Modulo(0)`) for
    `k > n`, which callers exclude (`k < n` at the only call site). -/
def randomPerm (n k : Nat) (js : List Nat) : List Nat :=
  (randomPermAux 0 k js (List.range n)).take k

def insertSorted (a : Nat) : List Nat → List Nat
  | [] => [a]
  | b :: bs => if a ≤ b then a :: b :: bs else b :: insertSorted a bs

/-- `sort.Ints` (only the result matters). -/
def sortInts : List Nat → List Nat
  | [] => []
  | a :: as => insertSorted a (sortInts as)

/-- The loop of `getRandomKSignInfo`: walk the map (in iteration order) with counter `i`, take
    the entry when `i == indexs[j]`, stop when all indexes are used. -/
def pickSorted {α : Type} : Nat → List α → List Nat → List α
  | _, [], _ => []
  | _, _, [] => []
  | i, e :: es, d :: ds =>
    if i = d then e :: pickSorted (i + 1) es ds else pickSorted (i + 1) es (d :: ds)

/-- The sources of nondeterminism of `RecoverGroupSignature`: the iteration order of the
    witness map, the draws of `RandomPerm`, the iteration order of the reduced map. -/
structure Choice (α : Type) where
  ord1 : List α → List α
  js : List Nat
  ord2 : List α → List α

/-- `RecoverGroupSignature(memberSignMap, thresholdValue)`; `m` lists the map's entries
    `(id, signature)`, a signature being `none` when its point pointer is nil (zero-valued
    `Signature{}`, or `DeserializeSign` of fewer than 64 bytes). Fewer than `k` entries leave
    zero-valued slots; a nil point in a used slot is dereferenced
    (`new_sig.value.Set(&sigs[i].value)`): panic. `k = 0` with a non-empty map enters
    `getRandomKSignInfo` with an empty index slice and reads `indexs[0]`: panic. -/
def recoverGroupSignature {G : Type} (ops : Ops G) (r : Nat) (k : Nat) (m : List (Nat × Option G))
    (c : Choice (Nat × Option G)) : Res (Option G) :=
  if k = 0 ∧ 0 < m.length then .panic
  else
  let m' := if k < m.length then pickSorted 0 (c.ord1 m) (sortInts (randomPerm m.length k c.js)) else m
  let it := (c.ord2 m').take k
  if it.length < k then .panic
  else
    match it.mapM (fun e => e.2) with
    | none => .panic
    | some sigs => recoverWith ops r (it.map Prod.fst) sigs

/-! ### `GroupSignGenerator` (`model/group_sign.go`, and its twin in `logical/round_sign_piece.go`) -/

/-- State of a generator: threshold, witness map (as the list of its entries), recovered
    signature (`none` = zero-valued `Signature{}`, nil point). -/
structure SignGen (G : Type) where
  k : Nat
  witnesses : List (Nat × Option G)
  groupSign : Option G
  deriving DecidableEq

def SignGen.new {G : Type} (k : Nat) : SignGen G := ⟨k, [], none⟩

/-- `SignRecovered()` = `groupSign.IsValid()`: non-nil point that is on the curve (`isValid`). -/
def signRecovered {G : Type} (isValid : G → Bool) (st : SignGen G) : Bool :=
  match st.groupSign with
  | some g => isValid g
  | none => false

/-- `AddWitnessSign(id, sig)` → `(state, add, generated)`. Already recovered: `(false, true)`.
    Known id: `(false, false)`. Otherwise store; with `len ≥ threshold` call `genGroupSign`,
    which recovers (unless a valid signature is there), stores the result and reports `true`.
    `c` is the choice `RecoverGroupSignature` makes in this call. -/
def addWitnessSign {G : Type} (ops : Ops G) (r : Nat) (isValid : G → Bool) (st : SignGen G)
    (id : Nat) (sig : Option G) (c : Choice (Nat × Option G)) : Res (SignGen G × Bool × Bool) :=
  if signRecovered isValid st then .ok (st, false, true)
  else if st.witnesses.any (fun e => e.1 == id) then .ok (st, false, false)
  else
    let w := st.witnesses ++ [(id, sig)]
    if st.k ≤ w.length then
      match recoverGroupSignature ops r st.k w c with
      | .panic => .panic
      | .ok g => .ok (⟨st.k, w, g⟩, true, true)
    else .ok (⟨st.k, w, st.groupSign⟩, true, false)

/-- Feed a sequence of arrivals, each with the choice made by that call. -/
def feed {G : Type} (ops : Ops G) (r : Nat) (isValid : G → Bool) :
    SignGen G → List (Nat × Option G × Choice (Nat × Option G)) → Res (SignGen G)
  | st, [] => .ok st
  | st, (id, sig, c) :: rest =>
    match addWitnessSign ops r isValid st id sig c with
    | .panic => .panic
    | .ok (st', _, _) => feed ops r isValid st' rest

/-! ### `round1.Update` — block signature and random beacon together (`logical/round_sign_piece.go`) -/

/-- What `round1` holds for one block: the generator of the block signature, the generator of the
    random beacon, `bh.Signature`, `bh.Random` (`none` = not set yet) and `canProcessed`. -/
structure Round1 (G : Type) where
  g : SignGen G
  r : SignGen G
  blockSig : Option G
  blockRandom : Option G
  canProcessed : Bool
  deriving DecidableEq

/-- `round1.Start`: both generators get the same threshold. -/
def Round1.start {G : Type} (k : Nat) : Round1 G := ⟨SignGen.new k, SignGen.new k, none, none, false⟩

/-- The part of `round1.Update` that touches the generators. `checked` stands for all the guards in
    front of it (block exists, sender's key known, piece signed over this block's hash, both
    signatures verify — C15's subject); `rsig = none` is the guard `sig == nil || sig.IsNil()` on the
    random-beacon share. Then: the block-signature share goes to `gSignGenerator`; if it was not added
    (already recovered, or this sender already present) NOTHING else happens; otherwise the beacon share
    goes to `rSignGenerator`, and only if `radd && generate && rgen` the header fields are written and
    `canProcessed` is set. -/
def round1Update {G : Type} (ops : Ops G) (r : Nat) (isValid : G → Bool) (st : Round1 G)
    (id : Nat) (sig rsig : Option G) (checked : Bool)
    (cg cr : Choice (Nat × Option G)) : Res (Round1 G) :=
  if !checked || rsig.isNone then .ok st
  else
    match addWitnessSign ops r isValid st.g id sig cg with
    | .panic => .panic
    | .ok (g', add, generate) =>
      if !add then .ok ⟨g', st.r, st.blockSig, st.blockRandom, st.canProcessed⟩
      else
        match addWitnessSign ops r isValid st.r id rsig cr with
        | .panic => .panic
        | .ok (r', radd, rgen) =>
          if radd && generate && rgen then .ok ⟨g', r', g'.groupSign, r'.groupSign, true⟩
          else .ok ⟨g', r', st.blockSig, st.blockRandom, st.canProcessed⟩

/-! ### `GetGroupK` -/

/-- Bit length (`0` for `0`). -/
def bitLen (n : Nat) : Nat := if n = 0 then 0 else Nat.log2 n + 1

/-- Correctly rounded (nearest, ties to even) quotient of two positive integers `< 2^53` as a
    53-bit significand `q` and binary scale `s`: value `q / 2^s`. With `s0 = 53 + |b| - |a|`
    the scaled quotient lies in `(2^52, 2^54)`, so one conditional step normalises it. -/
def fdiv53 (a b : Nat) : Nat × Nat :=
  let s0 := 53 + bitLen b - bitLen a
  let s := if 2 ^ 53 ≤ (a <<< s0) / b then s0 - 1 else s0
  let n := a <<< s
  let q := n / b
  let rem := n % b
  let q' := if 2 * rem > b ∨ (2 * rem = b ∧ q % 2 = 1) then q + 1 else q
  (q', s)

/-- `math.Ceil` of the dyadic `q / 2^s`. -/
def ceilDyadic (qs : Nat × Nat) : Nat := (qs.1 + 2 ^ qs.2 - 1) / 2 ^ qs.2

/-- `GetGroupK(max) = int(math.Ceil(float64(max*thr) / 100))`. `none` outside the range where
    `float64(max*thr)` and `float64(div)` are exact (`< 2^53`); `max*thr = 0` gives `0`. -/
def getGroupK (thr div : Nat) (n : Nat) : Option Nat :=
  let a := n * thr
  if div = 0 then none
  else if a = 0 then some 0
  else if 2 ^ 53 ≤ a ∨ 2 ^ 53 ≤ div then none
  else some (ceilDyadic (fdiv53 a div))

/-! ### Group size (`model/param.go`) -/

/-- `IsGroupMemberCountLegal`. -/
def isGroupMemberCountLegal (min max cnt : Nat) : Bool := decide (min ≤ cnt) && decide (cnt ≤ max)

/-- `CreateGroupMemberCount(avail)`: `int(math.Ceil(float64(avail / ratio)))` — the division is the
    INTEGER division (so the ceiling does nothing; exact while the quotient is below `2^53`), capped
    at `max`, and `0` (no group) below `min`. `none` = integer division by zero (`ratio = 0`) or a
    quotient outside the exact range. -/
def createGroupMemberCount (min max ratio avail : Nat) : Option Nat :=
  if ratio = 0 then none
  else
    let cnt := avail / ratio
    if 2 ^ 53 ≤ cnt then none
    else if cnt > max then some max
    else if cnt < min then some 0
    else some cnt

/-- `genSharePiece(mems)`: the map `id.GetHexString() ↦ ShareSeckey(coeffs, id)`; `mems` are the
    member ids below `2^256` (distinct ids are distinct keys, `id_key_injective`); an id listed twice
    is one entry. `none` = `ShareSeckey` panicked (no coefficients). -/
def genSharePiece (r : Nat) (cs : List Nat) : List Nat → Option (List (Nat × Nat))
  | [] => some []
  | x :: rest =>
    match shareSeckey r cs x, genSharePiece r cs rest with
    | some v, some m => some ((x, v) :: m.filter (fun e => e.1 != x))
    | _, _ => none

end Rangers.Model.Shamir
