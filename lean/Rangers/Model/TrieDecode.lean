import Rangers.Model.TrieLive
/-
The disk path: `decodeNode` (node.go) on the RLP blob `NodeDatabase.Commit` wrote, with the
RLP splitting it uses (`storage/rlp/raw.go`: readKind, readSize, Split, SplitString, SplitList,
CountValues — only these, as used by node.go).  `none` = any of the Go errors
(unexpected EOF, canon-size, value too large, expected string/list, invalid number of list
elements, oversized embedded node, invalid RLP string size) or the slice panic of
`compactToHex` on an empty key.  Core Lean only.
-/
namespace Rangers.Trie
open Rangers

inductive RKind where
  | byte | string | list
deriving Repr, BEq, DecidableEq

/-- `readSize` -/
def readSize (b : Bytes) (slen : Nat) : Option Nat :=
  if b.length < slen then none
  else
    let s := beToNat (b.take slen)
    if s < 56 ∨ (b.headD 0) = 0 then none else some s

/-- `readKind`: (kind, tagsize, contentsize) -/
def readKind (buf : Bytes) : Option (RKind × Nat × Nat) :=
  match buf with
  | [] => none
  | b :: rest =>
    let x := b.toNat
    let r : Option (RKind × Nat × Nat) :=
      if x < 0x80 then some (.byte, 0, 1)
      else if x < 0xB8 then
        if x - 0x80 = 1 ∧ 0 < rest.length ∧ (rest.headD 0).toNat < 128 then none
        else some (.string, 1, x - 0x80)
      else if x < 0xC0 then (readSize rest (x - 0xB7)).map (fun s => (RKind.string, x - 0xB7 + 1, s))
      else if x < 0xF8 then some (.list, 1, x - 0xC0)
      else (readSize rest (x - 0xF7)).map (fun s => (RKind.list, x - 0xF7 + 1, s))
    r.bind (fun r => if buf.length - r.2.1 < r.2.2 then none else some r)

/-- `Split`: (kind, content, rest) -/
def rlpSplit (b : Bytes) : Option (RKind × Bytes × Bytes) :=
  (readKind b).map (fun r => (r.1, (b.drop r.2.1).take r.2.2, b.drop (r.2.1 + r.2.2)))

/-- `SplitString` -/
def splitString (b : Bytes) : Option (Bytes × Bytes) :=
  (rlpSplit b).bind (fun r => if r.1 == .list then none else some (r.2.1, r.2.2))

/-- `SplitList` -/
def splitList (b : Bytes) : Option (Bytes × Bytes) :=
  (rlpSplit b).bind (fun r => if r.1 == .list then some (r.2.1, r.2.2) else none)

/-- `CountValues` (fuel = an upper bound on the number of values) -/
def countValues : Nat → Bytes → Option Nat
  | 0, b => if b.isEmpty then some 0 else none
  | f + 1, b =>
    if b.isEmpty then some 0
    else (readKind b).bind (fun r => (countValues f (b.drop (r.2.1 + r.2.2))).map (· + 1))

mutual
/-- `decodeNode(hash, buf, cachegen)`; the first argument is fuel (`20 * buf.length + 20` suffices for every blob the hasher writes: `decodeNode_encC`) -/
def decodeNode (gen : Nat) : Nat → Option Bytes → Bytes → Option LNode
  | 0, _, _ => none
  | f + 1, hash, buf =>
    if buf.isEmpty then none
    else
      (splitList buf).bind (fun r =>
        let elems := r.1
        (countValues elems.length elems).bind (fun c =>
          if c = 2 then
            -- decodeShort
            (splitString elems).bind (fun kr =>
              (compactToHex kr.1).bind (fun key =>
                if hasTerm key then
                  (splitString kr.2).map (fun vr => .short key (.value vr.1) { hash := hash, gen := gen, dirty := false })
                else
                  (decodeRef gen f kr.2).map (fun rr => .short key rr.1 { hash := hash, gen := gen, dirty := false })))
          else if c = 17 then
            -- decodeFull
            (decodeRefs gen f 16 elems).bind (fun cr =>
              (splitString cr.2).map (fun vr =>
                .full (cr.1 ++ [if vr.1.length > 0 then LNode.value vr.1 else .nil]) { hash := hash, gen := gen, dirty := false }))
          else none))
/-- `decodeRef`: (node, rest) -/
def decodeRef (gen : Nat) : Nat → Bytes → Option (LNode × Bytes)
  | 0, _ => none
  | f + 1, buf =>
    (rlpSplit buf).bind (fun r =>
      if r.1 == .list then
        -- embedded node; must not be larger than a hash
        if buf.length - r.2.2.length > 32 then none
        else (decodeNode gen f none buf).map (fun n => (n, r.2.2))
      else if r.2.1.length = 0 then some (.nil, r.2.2)
      else if r.2.1.length = 32 then some (.hash r.2.1, r.2.2)
      else none)
/-- the loop over the first 16 children in `decodeFull` -/
def decodeRefs (gen : Nat) : Nat → Nat → Bytes → Option (List LNode × Bytes)
  | 0, _, _ => none
  | _ + 1, 0, buf => some ([], buf)
  | f + 1, n + 1, buf =>
    (decodeRef gen f buf).bind (fun r => (decodeRefs gen f n r.2).map (fun rs => (r.1 :: rs.1, rs.2)))
end

/-- `NodeDatabase.node` for an entry that has been flushed to disk: decode the blob -/
def resolveHashDisk (st : Store) (gen : Nat) (h : Bytes) : Option LNode :=
  (st.lookup h).bind (fun c => decodeNode gen (20 * (encC c).length + 20) (some h) (encC c))

end Rangers.Trie
