/-
Model of the signing round of go-rangers' verify group
(src/consensus/logical: processor_party.go, party.go, round_sign_piece.go,
round_sign_finalizer.go; src/consensus/net/msg_decode.go for the wire step).

Core Lean only, total, executable. Cryptography is a parameter (`Crypto G`):
the model transcribes the control flow of the handlers and calls the oracle
exactly where the Go code calls groupsig.VerifySig / RecoverGroupSignature /
Signature.IsNil / IsValid. Byte strings that are only ever compared or signed
(block hash, previous beacon value, dataHash, message ids) are `Nat` tags.

Sequentialisation: Processor.waitUntilDone (a goroutine) removes a party once
it reported an error or completion; here that happens right after the message
that caused it (`settle` in `Proc.onVerify`), i.e. the model covers the schedules in which
the reaper runs before the next message. Timing (10 s timeout) is not modelled here
(`Event.timeout` of `Model/RoundLife.lean`).
-/
namespace Rangers.Model.Round

abbrev Id := Nat
/-- Tag of a byte string (block hash, beacon value, signed data). Only equality is used. -/
abbrev Data := Nat
abbrev MsgId := Nat

/-- The cryptographic calls made by the round, as an oracle.
`verify id d s` = `groupsig.VerifySig(pk, d, s)` with `pk` the sign public key
registered for `id` in the joined-group info. -/
structure Crypto (G : Type) where
  isNil : G → Bool
  isValid : G → Bool
  verify : Id → Data → G → Bool
  verifyGroup : Data → G → Bool
  recover : List (Id × G) → G
  /-- `getRandomKSignInfo`: the k entries chosen when the map holds more than k. -/
  pick : List (Id × G) → Nat → List (Id × G)

/-- What round0 established before round1 starts, plus the chain stub's answers. -/
structure Env where
  /-- `bh.Hash` -/
  hash : Data
  /-- `preBH.Random` -/
  prevRandom : Data
  /-- `group.GetMemberCount()` -/
  groupSize : Nat
  /-- ids with an entry in `JoinedGroupInfo.MemberSignPubkeyMap` -/
  pkKnown : List Id
  /-- `blockchain.HasBlockByHash(bh.Hash)` -/
  blockExists : Bool
  /-- the translator's fact: `round1.Update` compares `si.GetDataHash()` with `bh.Hash`
      before it counts the share. -/
  bindsHash : Bool
  /-- the translator's fact: the loop of `round1.Start` handles each stored message under its own
      `recover` (a panicking message is dropped, the loop goes on) instead of letting the panic escape. -/
  startRecovers : Bool := false
  deriving Repr

/-- `model.Param.GetGroupK`: ⌈n·51/100⌉. -/
def groupK (n : Nat) : Nat := (n * 51 + 99) / 100

/-- How the signer id bytes behave: `oversize` (> 32 bytes) makes
`ID.Serialize` panic in the first log line of `round1.Update`. -/
inductive IdShape | ok | oversize
  deriving DecidableEq, Repr

/-- A decoded `ConsensusVerifyMessage`. -/
structure VMsg (G : Type) where
  mid : MsgId
  /-- `cvm.BlockHash`: the key the processor files the message under -/
  blockHash : Data
  signer : Id
  idShape : IdShape
  /-- `signerID.IsValid()` (id ≠ 0) -/
  signerNonZero : Bool
  /-- `si.dataHash` -/
  dataHash : Data
  sig : G
  /-- `cvm.RandomSign` -/
  rand : G

/-- What arrives from the network. `UnMarshalConsensusVerifyMessage` fails on a
protobuf error and panics (recovered by `ConsensusHandler.Handle`) when the
`Sign` sub-message is missing or its `DataSign` is empty. -/
inductive Wire (G : Type)
  | protoBad
  | noSign
  | emptyDataSign
  | ok (m : VMsg G)

def decode {G : Type} : Wire G → Option (VMsg G)
  | .ok m => some m
  | _ => none


/-! ### Shape facts re-read from the source by the translator (gen/cmd/c15facts) -/

/-- The guards and effects of `round1.Update` the translator recognises (anything else is `unknown`). -/
inductive UStep
  | typeCheck | checkBlockExisted | pkGuard | bindHash | verifySign | randNil | randVerify
  | gAdd | gAddGuard | rAdd | finish | returnNil | unknown
  deriving DecidableEq, Repr

/-- `round2.checkSignature`. -/
inductive CStep
  | verifyBlockSig | verifyRandomSig | returnNil | unknown
  deriving DecidableEq, Repr

/-- `SignInfo.VerifySign`. -/
inductive VStep
  | signerNonZero | verifyOverDataHash | unknown
  deriving DecidableEq, Repr

/-- `round2.Start`. -/
inductive R2Step
  | finishedGuard | setFinished | checkBlockExisted | checkSignature | generateBlock | generateGuard
  | addOnChainAsync | signalDone | returnNil | unknown
  deriving DecidableEq, Repr

/-- `groupSignGenerator.AddWitnessSign` / `addWitnessForce` / `genGroupSign`. -/
inductive GStep
  | recoveredGuard | force | dupGuard | store | atThreshold | belowThreshold
  | alreadyValid | nilGuard | storeRecovered | emptyNote | returnTrue | unknown
  deriving DecidableEq, Repr

/-- `Processor.loadOrNewSignParty`. -/
inductive PStep
  | lock | deferUnlock | routeToParty | dropFinished | parkAppend | createParty | unknown
  deriving DecidableEq, Repr

/-- route to a live party; drop for a finished key; otherwise (verify message) PARK it by plain append —
no look at what is already parked, in particular no dedup by the (unauthenticated) signer id;
otherwise (cast message) create the party. -/
def expectedLoadPartySteps : List PStep :=
  [.lock, .deferUnlock, .routeToParty, .dropFinished, .parkAppend, .createParty]

def expectedStart2Steps : List R2Step :=
  [.finishedGuard, .setFinished, .checkBlockExisted, .checkSignature, .generateBlock, .generateGuard,
   .addOnChainAsync, .signalDone, .returnNil]

def expectedAddWitnessSignSteps : List GStep := [.recoveredGuard, .force]
def expectedAddWitnessForceSteps : List GStep := [.dupGuard, .store, .atThreshold, .belowThreshold]
def expectedGenGroupSignSteps : List GStep := [.alreadyValid, .nilGuard, .storeRecovered, .emptyNote, .returnTrue]

/-- Package-level variables the functions on the path may mention: only the curve order read by
`recoverSignature`. A verification cache, a pooled point or a scratch buffer added to the path makes
the regenerated list differ. -/
def expectedPathGlobals : List String := ["recoverSignature:curveOrder"]

/-- The statement order `update` (below) transcribes, for either value of the `bindsHash` fact. -/
def expectedUpdateSteps (bindsHash : Bool) : List UStep :=
  [.typeCheck, .checkBlockExisted, .pkGuard] ++ (if bindsHash then [.bindHash] else []) ++
  [.verifySign, .randNil, .randVerify, .gAdd, .gAddGuard, .rAdd, .finish, .returnNil]

def expectedCheckSignatureSteps : List CStep := [.verifyBlockSig, .verifyRandomSig, .returnNil]

def expectedVerifySignSteps : List VStep := [.signerNonZero, .verifyOverDataHash]

/-! ### groupSignGenerator -/

structure Gen (G : Type) where
  threshold : Nat
  /-- `witnessSignMap`, in insertion order (keys are unique) -/
  witness : List (Id × G)
  /-- `groupSign`; `none` is the zero value -/
  groupSign : Option G

def Gen.new {G : Type} (threshold : Nat) : Gen G := ⟨threshold, [], none⟩

/-- `SignRecovered` = `groupSign.IsValid()` (non-nil and on the curve). -/
def Gen.recovered {G : Type} (c : Crypto G) (g : Gen G) : Bool :=
  match g.groupSign with
  | some s => !c.isNil s && c.isValid s
  | none => false

def Gen.has {G : Type} (g : Gen G) (id : Id) : Bool := g.witness.any (fun e => e.1 == id)

/-- `genGroupSign`: `RecoverGroupSignature` never returns nil, so it reports success. -/
def Gen.genGroupSign {G : Type} (c : Crypto G) (g : Gen G) : Gen G × Bool :=
  if g.recovered c then (g, true)
  else
    let chosen := if g.threshold < g.witness.length then c.pick g.witness g.threshold else g.witness
    ({ g with groupSign := some (c.recover (chosen.take g.threshold)) }, true)

/-- `addWitnessForce`: (generator, add, generated). -/
def Gen.addWitnessForce {G : Type} (c : Crypto G) (g : Gen G) (id : Id) (s : G) : Gen G × Bool × Bool :=
  if g.has id then (g, false, false)
  else
    let g1 := { g with witness := g.witness ++ [(id, s)] }
    if g1.witness.length ≥ g1.threshold then
      let r := g1.genGroupSign c
      (r.1, true, r.2)
    else (g1, true, false)

/-- `AddWitnessSign`. -/
def Gen.addWitnessSign {G : Type} (c : Crypto G) (g : Gen G) (id : Id) (s : G) : Gen G × Bool × Bool :=
  if g.recovered c then (g, false, true) else g.addWitnessForce c id s

/-! ### round1 / round2 -/

/-- State shared by round0/1/2 of one party (`baseRound` + `round1` + `round2` fields). -/
structure RState (G : Type) where
  /-- 1 or 2 -/
  number : Nat
  canProcessed : Bool
  started : Bool
  /-- `baseRound.processed` (message ids) -/
  processed : List MsgId
  /-- `futureMessages` in the order `round1.Start` will range over them -/
  future : List (VMsg G)
  gSign : Gen G
  rSign : Gen G
  /-- `bh.Signature`, `bh.Random` (`none`: still what the proposer sent / empty) -/
  bhSignature : Option G
  bhRandom : Option G
  /-- `round2.finished` -/
  finished : Bool
  /-- `GenerateBlock` was called with these `bh.Signature`, `bh.Random` -/
  generated : Option (Option G × Option G)

/-- Why `round1.Update` did what it did (for the evidence distribution; the Go
code only logs it). -/
inductive Outcome
  | panicked | blockExisted | noPubKey | otherHash | badSign | randNil | badRand
  | alreadyHad | added | recovered
  deriving DecidableEq, Repr

def Outcome.toString : Outcome → String
  | .panicked => "panic" | .blockExisted => "exists" | .noPubKey => "nopk"
  | .otherHash => "otherhash" | .badSign => "badsign" | .randNil => "randnil"
  | .badRand => "badrand" | .alreadyHad => "had" | .added => "added" | .recovered => "recovered"

/-- Result of a handler: new state, and `true` when it returned a non-nil `*Error`. -/
structure Step (G : Type) where
  st : RState G
  err : Bool
  out : Outcome

/-- `round1.Update` (round_sign_piece.go). A panic leaves the state untouched
(it happens while the arguments of the first log call are evaluated). -/
def update {G : Type} (c : Crypto G) (env : Env) (st : RState G) (m : VMsg G) : Step G :=
  if m.idShape = .oversize then ⟨st, false, .panicked⟩
  else if env.blockExists then ⟨st, true, .blockExisted⟩
  else if !env.pkKnown.contains m.signer then ⟨st, false, .noPubKey⟩
  else if env.bindsHash && m.dataHash != env.hash then ⟨st, false, .otherHash⟩
  else if !(m.signerNonZero && c.verify m.signer m.dataHash m.sig) then ⟨st, false, .badSign⟩
  else if c.isNil m.rand then ⟨st, false, .randNil⟩
  else if !c.verify m.signer env.prevRandom m.rand then ⟨st, false, .badRand⟩
  else
    let ga := st.gSign.addWitnessSign c m.signer m.sig
    if !ga.2.1 then ⟨st, false, .alreadyHad⟩
    else
      let ra := st.rSign.addWitnessSign c m.signer m.rand
      let st1 := { st with gSign := ga.1, rSign := ra.1 }
      if ra.2.1 && ga.2.2 && ra.2.2 then
        ⟨{ st1 with bhSignature := ga.1.groupSign, bhRandom := ra.1.groupSign, canProcessed := true },
          false, .recovered⟩
      else ⟨st1, false, .added⟩

/-- The loop of `round1.Start` over the stored future messages:
(state, an `Update` returned an error, a panic escaped). The generators keep
whatever the messages before the failing one wrote. -/
def startLoop {G : Type} (c : Crypto G) (env : Env) : RState G → List (VMsg G) → RState G × Bool × Bool
  | st, [] => (st, false, false)
  | st, m :: rest =>
    let r := update c env st m
    if r.out = .panicked then
      (if env.startRecovers then startLoop c env r.st rest else (r.st, false, true))
    else if r.err then (r.st, true, false)
    else startLoop c env r.st rest

/-- `round1.Start`: (state, returned error, panicked). With no stored message it
returns before `started` is set (as the code does). -/
def start1 {G : Type} (c : Crypto G) (env : Env) (st : RState G) : RState G × Bool × Bool :=
  if st.started then (st, false, false)
  else
    let k := groupK env.groupSize
    let st := { st with gSign := Gen.new k, rSign := Gen.new k }
    if st.future.isEmpty then (st, false, false)
    else
      let r := startLoop c env st st.future
      if r.2.1 || r.2.2 then r
      else
        ({ r.1 with processed := r.1.processed ++ st.future.map (·.mid), future := [], started := true },
          false, false)

/-- `groupsig.VerifySig(gpk, d, *DeserializeSign(bytes))` on a header field:
an empty field deserialises to a nil signature, which `VerifySig` rejects, as it
rejects points that are not on the curve. -/
def sigOk {G : Type} (c : Crypto G) (d : Data) : Option G → Bool
  | some s => !c.isNil s && c.isValid s && c.verifyGroup d s
  | none => false

/-- `round2.Start` with `checkSignature` (round_sign_finalizer.go). Returns the
state and whether an error was returned. -/
def start2 {G : Type} (c : Crypto G) (env : Env) (st : RState G) : RState G × Bool :=
  if st.finished then (st, true)
  else
    let st := { st with finished := true }
    if env.blockExists then (st, true)
    else if !sigOk c env.hash st.bhSignature then (st, true)
    else if !sigOk c env.prevRandom st.bhRandom then (st, true)
    else ({ st with generated := some (st.bhSignature, st.bhRandom) }, false)

/-! ### baseParty.Update from round1 on -/

/-- Where the party is. `ended`: `p.rnd == nil`. -/
inductive Phase | r1 | r2 | ended
  deriving DecidableEq, Repr

structure Party (G : Type) where
  phase : Phase
  rs : RState G
  /-- something was sent on `Err` / `Done` and not yet collected -/
  errPending : Bool
  donePending : Bool

/-- `round1.CanAccept` for a verify message: 0 unless the id was seen. -/
def canAccept1 {G : Type} (st : RState G) (m : VMsg G) : Bool :=
  !(st.processed.contains m.mid) && !(st.future.any (fun f => f.mid == m.mid))

/-- The advance loop at the end of `baseParty.Update`. From round1 it can take at
most two steps (→ round2 → ended). -/
def advance {G : Type} (c : Crypto G) (env : Env) (p : Party G) : Party G :=
  match p.phase with
  | .ended => p
  | .r1 =>
    if !p.rs.canProcessed then p
    else
      -- NextRound: canProcessed := true, number := 2; then round2.Start
      let rs := { p.rs with canProcessed := true, number := 2 }
      let r := start2 c env rs
      if r.2 then { p with phase := .r2, rs := r.1, errPending := true }
      else
        -- `r.done <- 1`, Start returned nil; the loop goes on: round2.CanProceed, NextRound = nil
        { p with phase := .ended, rs := r.1, donePending := true }
  | .r2 =>
    if !p.rs.canProcessed then p else { p with phase := .ended }

/-- `baseParty.Update(msg)` for a verify message while the party is in round1 or later.
A panic inside is recovered by the deferred handler: the state stays as it was. -/
def partyUpdate {G : Type} (c : Crypto G) (env : Env) (p : Party G) (m : VMsg G) : Party G × Outcome :=
  match p.phase with
  | .ended => (p, .alreadyHad)
  | .r2 => (advance c env p, .alreadyHad)
  | .r1 =>
    if !canAccept1 p.rs m then (advance c env p, .alreadyHad)
    else
      let r := update c env p.rs m
      if r.out = .panicked then (p, .panicked)
      else if r.err then ({ p with rs := r.st, errPending := true }, r.out)
      else (advance c env { p with rs := r.st }, r.out)

/-- The round state `round0.NextRound` hands to round1 (generators not yet created). -/
def RState.init {G : Type} (processed : List MsgId) (future : List (VMsg G)) : RState G where
  number := 1
  canProcessed := false
  started := false
  processed := processed
  future := future
  gSign := Gen.new 0
  rSign := Gen.new 0
  bhSignature := none
  bhRandom := none
  finished := false
  generated := none

/-- Entering round1 the way `baseParty.Update`'s loop does after round0 finished:
`NextRound` (number 1, canProcessed false, started false), `round1.Start`, and on. -/
def enter {G : Type} (c : Crypto G) (env : Env) (processed : List MsgId) (future : List (VMsg G)) : Party G :=
  let rs : RState G := RState.init processed future
  let r := start1 c env rs
  let p : Party G := { phase := .r1, rs := r.1, errPending := false, donePending := false }
  if r.2.2 then p                                   -- panic recovered in baseParty.Update
  else if r.2.1 then { p with errPending := true }  -- Start returned an error
  else advance c env p

/-! ### Processor.OnMessageVerify -/

/-! ### `Processor.futureMessages` / `finishedParty`: hashicorp/golang-lru

`simplelru.LRU`: a recency list, most recently used first. `Add` of a present key updates the value
and moves it to the front; `Add` of a new key pushes it to the front and evicts the oldest entry when
the size exceeds the capacity; `Get` moves the key to the front; `Peek`/`Contains` do not; `Remove`. -/

structure Lru (V : Type) where
  cap : Nat
  /-- most recently used first -/
  items : List (Data × V)

def Lru.empty {V : Type} (cap : Nat) : Lru V := ⟨cap, []⟩

def Lru.peek {V : Type} (c : Lru V) (k : Data) : Option V :=
  (c.items.find? (fun e => e.1 == k)).map (·.2)

def Lru.contains {V : Type} (c : Lru V) (k : Data) : Bool := c.items.any (fun e => e.1 == k)

def Lru.remove {V : Type} (c : Lru V) (k : Data) : Lru V :=
  { c with items := c.items.filter (fun e => !(e.1 == k)) }

/-- `Add`: the key ends up in front; a new key may push the oldest one out. -/
def Lru.add {V : Type} (c : Lru V) (k : Data) (v : V) : Lru V :=
  if c.contains k then { c with items := (k, v) :: (c.remove k).items }
  else { c with items := ((k, v) :: c.items).take c.cap }

/-- `Get`: value and the cache with the key moved to the front. -/
def Lru.get {V : Type} (c : Lru V) (k : Data) : Option V × Lru V :=
  match c.peek k with
  | some v => (some v, { c with items := (k, v) :: (c.remove k).items })
  | none => (none, c)

/-- `ProcessorfutureMessages` capacity (`Processor.Init`: `common.CreateLRUCache(50)`). -/
def futureCap : Nat := 50

structure Proc (G : Type) where
  party : Party G
  /-- the party is in `partyManager` under the block hash -/
  inManager : Bool
  /-- the block hash is in `finishedParty` -/
  done : Bool
  /-- `Processor.futureMessages`: messages filed under keys with no party -/
  stray : Lru (List (VMsg G))
  /-- how the party ended: "err" / "done" -/
  ending : Option Bool

/-- The parking branch of `loadOrNewSignParty`: `Get(key)` (recency!), append, `Add(key, msgs)`. -/
def park {G : Type} (l : Lru (List (VMsg G))) (k : Data) (m : VMsg G) : Lru (List (VMsg G)) :=
  let r := l.get k
  r.2.add k ((r.1.getD []) ++ [m])

def strayCount {G : Type} (l : Lru (List (VMsg G))) (k : Data) : Nat :=
  match l.peek k with
  | some ms => ms.length
  | none => 0

/-- What `waitUntilDone` does when `Err` or `Done` fires. `ending = some true` for done. -/
def settle {G : Type} (pr : Proc G) : Proc G :=
  if pr.party.errPending then
    { pr with party := { pr.party with errPending := false }, inManager := false, done := true, ending := some false }
  else if pr.party.donePending then
    { pr with party := { pr.party with donePending := false }, inManager := false, done := true, ending := some true }
  else pr

/-- `OnMessageVerify` + `loadOrNewSignParty(…, isNew=false)` followed by the reaper. -/
def Proc.onVerify {G : Type} (c : Crypto G) (env : Env) (pr : Proc G) (m : VMsg G) : Proc G × Outcome :=
  if m.blockHash == env.hash then
    if pr.inManager then
      let r := partyUpdate c env pr.party m
      (settle { pr with party := r.1 }, r.2)
    else if pr.done then (pr, .alreadyHad)
    else ({ pr with stray := park pr.stray m.blockHash m }, .alreadyHad)
  else ({ pr with stray := park pr.stray m.blockHash m }, .alreadyHad)

/-- A network packet: decode (drop on error / recovered panic), then `OnMessageVerify`. -/
def Proc.deliver {G : Type} (c : Crypto G) (env : Env) (pr : Proc G) (w : Wire G) : Proc G × Outcome :=
  match decode w with
  | none => (pr, .panicked)
  | some m => pr.onVerify c env m

/-- The processor right after the party entered round1 with the given stored messages. -/
def Proc.init {G : Type} (c : Crypto G) (env : Env) (future : List (VMsg G)) : Proc G :=
  settle { party := enter c env [] future, inManager := true, done := false, stray := Lru.empty futureCap, ending := none }

/-- The same with the message ids round0 had already processed (the cast message's id). -/
def Proc.initWith {G : Type} (c : Crypto G) (env : Env) (processed : List MsgId) (future : List (VMsg G)) : Proc G :=
  settle { party := enter c env processed future, inManager := true, done := false, stray := Lru.empty futureCap, ending := none }

def Proc.run {G : Type} (c : Crypto G) (env : Env) (pr : Proc G) : List (Wire G) → Proc G
  | [] => pr
  | w :: ws => Proc.run c env (pr.deliver c env w).1 ws

/-- The environment with the chain stub's answer replaced (the block may reach the
chain through another path while the round is collecting). -/
def Env.withChain (env : Env) (b : Bool) : Env := { env with blockExists := b }

/-- A history: each packet arrives while `HasBlockByHash(bh.Hash)` answers `b`. -/
def Proc.runX {G : Type} (c : Crypto G) (env : Env) (pr : Proc G) : List (Bool × Wire G) → Proc G
  | [] => pr
  | (b, w) :: ws => Proc.runX c env (pr.deliver c (env.withChain b) w).1 ws

/-! ### The symbolic group used by the driver (and as the witness that the
crypto hypotheses of the theorems are satisfiable) -/

/-- Symbolic signatures: which key signed which data. -/
inductive Sym
  | nil
  /-- bytes that decode to a point nobody's key produced; `onCurve` = passes `IsValid` -/
  | junk (onCurve : Bool)
  /-- `sk_signer · H(d)` -/
  | share (signer : Id) (d : Data)
  /-- the group signature `sk · H(d)` -/
  | group (d : Data)
  /-- a Lagrange combination that is not a group signature (some part is foreign) -/
  | combo (parts : List (Id × Id × Data))
  deriving DecidableEq, Repr

/-- Entries as stored in a generator: (map key, the share's signer, the share's data). -/
def symParts : List (Id × Sym) → Option (List (Id × Id × Data))
  | [] => some []
  | (i, .share s d) :: rest => (symParts rest).map (fun ps => (i, s, d) :: ps)
  | _ => none

/-- `k` distinct members, each contributing its own share on `d`. -/
def comboIsGroup (k : Nat) (members : List Id) (d : Data) (ps : List (Id × Id × Data)) : Bool :=
  ps.length == k && ps.all (fun p => p.1 == p.2.1 && p.2.2 == d && members.contains p.1) &&
    decide ((ps.map (·.1)).Nodup)

/-- Ideal threshold BLS over a DKG with `members` and threshold `k`: a share verifies exactly under
its signer's key for its data; recovery yields the group signature on `d` exactly when it combines
`k` distinct members' own shares on `d`. -/
def symCrypto (k : Nat) (members : List Id) : Crypto Sym where
  isNil s := s == .nil
  isValid s := match s with
    | .nil => false
    | .junk b => b
    | _ => true
  verify id d s := s == .share id d
  verifyGroup d s := s == .group d
  recover l := match symParts l with
    | some ((i, s, d) :: rest) =>
      if comboIsGroup k members d ((i, s, d) :: rest) then .group d else .combo ((i, s, d) :: rest)
    | some [] => .combo []
    | none => .junk true
  pick l k := l.take k

end Rangers.Model.Round
