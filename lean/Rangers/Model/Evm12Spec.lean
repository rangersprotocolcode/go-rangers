import Rangers.Model.Evm12Tx
/-
C12 model, part 4: the notions the property theorems are stated with (no new behaviour).
-/
namespace Rangers.Model.Evm12

/-- What C04 proves of the journal and what the frame theorems assume of `Env.rv`:
    reverting to a snapshot restores the observation taken at the snapshot. -/
def RevertRestoresObs (rv : World → World → World) : Prop :=
  ∀ saved cur, obs (rv saved cur) = obs saved

/-- ... and leaves the log-stamping context alone (`thash`, `txIndex` are not journaled, they are
    only assigned by `Prepare`). -/
def RevertKeepsTxContext (rv : World → World → World) : Prop :=
  ∀ saved cur, (rv saved cur).thash = saved.thash ∧ (rv saved cur).txIndex = saved.txIndex

theorem restore_restoresObs : RevertRestoresObs restore := fun _ _ => rfl
theorem restore_keepsTxContext : RevertKeepsTxContext restore := fun _ _ => ⟨rfl, rfl⟩

/-- An account object that carries nothing: nonce 0, no code, no storage. A zero-value CALL
    to a precompile (and geth's STATICCALL "touch") creates such an object; it does not survive
    `Finalise(true)`. -/
def Obs.nonEmpty (o : Obs) (a : Addr) : Prop :=
  o.nonce a ≠ 0 ∨ o.code a ≠ .empty ∨ ∃ k, o.stor a k ≠ 0

/-- The observation the static clause protects: as `Obs`, with "the set of existing accounts"
    read as the set of existing NON-EMPTY accounts. -/
structure LiveObs where
  live : Addr → Prop
  nonce : Addr → Nat
  bal : Addr → Nat
  code : Addr → Code
  stor : Addr → Nat → Nat
  logs : List Log
  stake : Addr → Nat
  sui : Addr → Bool

def Obs.toLive (o : Obs) : LiveObs :=
  { live := fun a => o.exist a = true ∧ o.nonEmpty a, nonce := o.nonce, bal := o.bal, code := o.code,
    stor := o.stor, logs := o.logs, stake := o.stake, sui := o.sui }

def liveObs (w : World) : LiveObs := (obs w).toLive

/-- Well-formed observation: an address without account object has no nonce, code or storage
    (true of every `AccountDB`: those live in the object). -/
def Obs.WF (o : Obs) : Prop :=
  ∀ a, o.exist a = false → o.nonce a = 0 ∧ o.code a = .empty ∧ ∀ k, o.stor a k = 0

/-- no AUTHCALL / STAKE / UNSTAKE / UNSTAKEALL / STAKENUM anywhere in the tree -/
def Frame.plain : Frame → Bool
  | .done _ => true
  | .sstore _ _ r => r.plain
  | .tstore _ _ r => r.plain
  | .log _ _ r => r.plain
  | .selfdestruct _ => true
  | .call _ _ _ _ b r => b.plain && r.plain
  | .create _ _ _ _ i r => i.plain && r.plain
  | .authcall .. => false
  | .stake .. => false
  | .unstake .. => false
  | .unstakeall .. => false
  | .stakenum .. => false

/-- `GasCut f f'`: `f'` is what `f` becomes under some allotment of gas -- any frame body may run out
    of gas at any point (everything from there on is replaced by the `oog` ending), at any nesting depth,
    and a CREATE whose init code would have deposited its code may instead be unable to pay for it
    (`retCode` becomes `retBig`). The gas abstraction of the model says: the real EVM with a given gas
    limit behaves like the model on SOME `GasCut` of the program the harness wrote down; the theorems are
    shown for EVERY `GasCut` (`Props/C12.lean`, `*_any_gas`). -/
inductive GasCut : Frame → Frame → Prop where
  | refl (f : Frame) : GasCut f f
  | oog (f : Frame) : GasCut f (.done .oog)
  | deposit (t : Nat) : GasCut (.done (.retCode t)) (.done .retBig)
  | sstore (k v : Nat) {r r' : Frame} : GasCut r r' → GasCut (.sstore k v r) (.sstore k v r')
  | tstore (k v : Nat) {r r' : Frame} : GasCut r r' → GasCut (.tstore k v r) (.tstore k v r')
  | log (n : Fin 5) (t : Nat) {r r' : Frame} : GasCut r r' → GasCut (.log n t r) (.log n t r')
  | call (id : Nat) (kind : CallKind) (tg : Addr) (v : Nat) {b b' r r' : Frame} :
      GasCut b b' → GasCut r r' → GasCut (.call id kind tg v b r) (.call id kind tg v b' r')
  | create (id : Nat) (two : Bool) (salt v : Nat) {b b' r r' : Frame} :
      GasCut b b' → GasCut r r' → GasCut (.create id two salt v b r) (.create id two salt v b' r')
  | authcall (id : Nat) (au : Option Addr) (n : Nat) (tg : Addr) (v : Nat) {b b' r r' : Frame} :
      GasCut b b' → GasCut r r' → GasCut (.authcall id au n tg v b r) (.authcall id au n tg v b' r')
  | stake (a : Nat) {r r' : Frame} : GasCut r r' → GasCut (.stake a r) (.stake a r')
  | unstake (a : Nat) {r r' : Frame} : GasCut r r' → GasCut (.unstake a r) (.unstake a r')
  | unstakeall {r r' : Frame} : GasCut r r' → GasCut (.unstakeall r) (.unstakeall r')
  | stakenum (p : Addr) {r r' : Frame} : GasCut r r' → GasCut (.stakenum p r) (.stakenum p r')

/-- world at the snapshot point of `create` (after the creator's nonce bump and the access-list
    insertion, which Ethereum keeps as well); the unchanged world when the depth or balance check
    refuses, the world after bump and insertion when an address collision is reported -/
def createEntryWorld (env : Env) (depth : Nat) (ro : Bool) (self : Addr) (value : Nat) (addr : Addr)
    (w : World) : World :=
  match createEnter env depth ro self value addr w with
  | .enter saved _ _ _ _ => saved
  | .fail w' _ => w'
  | .skip w' => w'

/-- world at the snapshot point of `AuthCall` (after the authorized account's nonce bump) -/
def authEntryWorld (env : Env) (depth : Nat) (ro : Bool) (authorized target : Addr) (value : Nat)
    (w : World) : World :=
  match authEnter env depth ro authorized target value w with
  | .enter saved _ _ _ _ => saved
  | .fail w' _ => w'
  | .skip w' => w'

/-- `w'` extends `w` by logs stamped with `w`'s current transaction hash only, same tx context -/
def LogsExtend (w w' : World) : Prop :=
  w'.thash = w.thash ∧ w'.txIndex = w.txIndex ∧ ∃ new, w'.logs = w.logs ++ new ∧ ∀ l ∈ new, l.txh = w.thash

/-- the world the first frame of a transaction starts from (vmexecutor.go:80-82) -/
def txStartWorld (cfg : Cfg) (i : Nat) (w : World) (tx : Tx) : World :=
  if cfg.p013 then prepare w tx.hash i else w

end Rangers.Model.Evm12
