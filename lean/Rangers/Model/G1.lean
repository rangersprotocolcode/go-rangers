import Rangers.Basic.Hex
import Rangers.Model.ModArith
/-!
Executable mirror of what `bn256.G1` exposes (core Lean only): affine points of
`y² = x³ + b` over `Nat` mod `p`, with `add`, `double`, `neg`, `mul`, `marshal`,
`unmarshal`, `isOnCurve`.  `p` and `b` are parameters (`Generated.Bn256.fieldP`,
`curveB` in the driver).

The Go code works in Jacobian coordinates on Montgomery-encoded limbs; what it
*exposes* (through `Marshal`) is the affine point, and its add/double formulas
(add-2007-bl, dbl-2009-l) are the chord/tangent rule written projectively — they
never use the curve equation — so this affine transcription agrees with it on
every pair of reduced coordinates, on the curve or not (checked by the correspondence run,
which also feeds off-curve points). Case structure kept from `curve.go`:
* `Add`: infinity on either side returns the other; equal `x` and equal `y` doubles;
  equal `x`, different `y` gives infinity (`z = … · h = 0`).
* `Double`: `y = 0` gives infinity (`z = 2·y·z = 0`).
* `Mul`: MSB-first double-and-add over `bitLen .. 0` of the *unreduced* scalar.
* `Unmarshal`: needs 64 bytes, ignores the rest, reduces each coordinate mod `p` (no range
  check), `(0,0)` is infinity, otherwise the on-curve test; on failure the receiver *keeps*
  the off-curve coordinates (and `Signature.Deserialize` drops the error).
-/
namespace Rangers.Model.G1
open Rangers Rangers.Model.ModArith

inductive Point where
  | inf
  | aff (x y : Nat)
  deriving Repr, DecidableEq, BEq

structure Curve where
  p : Nat
  b : Nat

def fadd (c : Curve) (a b : Nat) : Nat := (a + b) % c.p
def fsub (c : Curve) (a b : Nat) : Nat := (a + (c.p - b % c.p)) % c.p
def fmul (c : Curve) (a b : Nat) : Nat := (a * b) % c.p
/-- Field inverse (`0` for non-invertible input, as `gfP.Invert` = `a^(p-2)` gives for `0`). -/
def finv (c : Curve) (a : Nat) : Nat :=
  match modInverse (a % c.p) c.p with
  | some v => v
  | none => 0

def isOnCurve (c : Curve) : Point → Bool
  | .inf => true
  | .aff x y => fmul c y y == fadd c (fmul c (fmul c x x) x) (c.b % c.p)

def double (c : Curve) : Point → Point
  | .inf => .inf
  | .aff x y =>
    if y = 0 then .inf
    else
      let l := fmul c (fmul c 3 (fmul c x x)) (finv c (fmul c 2 y))
      let x3 := fsub c (fsub c (fmul c l l) x) x
      let y3 := fsub c (fmul c l (fsub c x x3)) y
      .aff x3 y3

def add (c : Curve) : Point → Point → Point
  | .inf, q => q
  | a, .inf => a
  | .aff x1 y1, .aff x2 y2 =>
    if x1 = x2 then
      if y1 = y2 then double c (.aff x1 y1) else .inf
    else
      let l := fmul c (fsub c y2 y1) (finv c (fsub c x2 x1))
      let x3 := fsub c (fsub c (fmul c l l) x1) x2
      let y3 := fsub c (fmul c l (fsub c x1 x3)) y1
      .aff x3 y3

def neg (c : Curve) : Point → Point
  | .inf => .inf
  | .aff x y => .aff x (fsub c 0 y)

/-- `curvePoint.Mul`: `for i := BitLen; i >= 0; i-- { t = 2·sum; if bit i { sum = t + a } else { sum = t } }`. -/
def mulAux (c : Curve) (a : Point) (k : Nat) : Nat → Point → Point
  | 0, sum =>
    let t := double c sum
    if k.testBit 0 then add c t a else t
  | i + 1, sum =>
    let t := double c sum
    mulAux c a k i (if k.testBit (i + 1) then add c t a else t)

def bitLen (n : Nat) : Nat := if n = 0 then 0 else Nat.log2 n + 1

def mul (c : Curve) (a : Point) (k : Nat) : Point := mulAux c a k (bitLen k) .inf

/-- `G1.Marshal`: 64 bytes, all zero for infinity. -/
def marshal : Point → Bytes
  | .inf => List.replicate 64 0
  | .aff x y => padLeft 32 (natToBE x) ++ padLeft 32 (natToBE y)

inductive Unm where
  | ok (pt : Point)
  | short
  | malformed (pt : Point)
  deriving Repr, DecidableEq

/-- `G1.Unmarshal`. -/
def unmarshal (c : Curve) (m : Bytes) : Unm :=
  if m.length < 64 then .short
  else
    let x := beToNat (m.take 32) % c.p
    let y := beToNat ((m.drop 32).take 32) % c.p
    if x = 0 ∧ y = 0 then .ok .inf
    else if isOnCurve c (.aff x y) then .ok (.aff x y) else .malformed (.aff x y)

/-! ### `groupsig.Signature` around a `bn256.G1` (`sig.go`) — `none` is the nil point pointer -/

/-- `Signature.Deserialize` / `DeserializeSign`: empty input is an error before the point is touched;
    otherwise `G1.Unmarshal` with its error DROPPED — fewer than 64 bytes leave the pointer nil, an
    off-curve pair stays in the value. -/
def deserializeSign (c : Curve) (b : Bytes) : Option Point :=
  if b.length = 0 then none
  else match unmarshal c b with
    | .ok p => some p
    | .malformed p => some p
    | .short => none

/-- `Signature.Serialize`: empty for the nil point, else `Marshal`. -/
def serializeSign : Option Point → Bytes
  | none => []
  | some p => marshal p

/-- `Signature.IsValid`: non-empty serialisation and on the curve (infinity counts as on the curve). -/
def sigIsValid (c : Curve) : Option Point → Bool
  | none => false
  | some p => isOnCurve c p

/-- `Sign(sec, msg)` given `H(msg)`: `ScalarMult(H(m), sec)` with the unreduced key. -/
def sign (c : Curve) (hm : Point) (sk : Nat) : Point := mul c hm sk

end Rangers.Model.G1
