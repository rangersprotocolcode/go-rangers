/-
Model of go-rangers' block store (src/core/blockchain*.go) for property C05.

What is modelled, statement by statement, in the order the Go code performs it:
  * the three indexes of `blockChain` (hashDB, heightDB, verifyHashDB), the
    recorded head `bcurrent`, the two intent marks, the executed-transaction
    store of the tx pool and the set of committed state roots   -> `Disk`
  * the volatile part: in-memory head, topBlocks cache, verifiedBlocks cache,
    futureBlocks cache, the pool's pending container              -> `Mem`
  * every physical write as a value of `Write`; `St.write` performs it under a
    write budget: when the budget is exhausted the process is dead (`crashed`),
    and nothing reaches the disk any more
  * `insertBlock`, `remove`, `removeFromCommonAncestor`, `verifyBlock`,
    `addBlockOnChain` (both the exported entry with `consensusVerify` and the
    inner recursive one), `successOnChainCallBack`, `initBlockChain` +
    `ensureChainConsistency` (= `restart`).
Core Lean only (the driver is a compiled executable).
-/
namespace Rangers.Model.ChainStore

/-- A block as far as the store logic looks at it. `valid` says whether the
    roots recorded in the header are the ones execution reproduces
    (`checkStates` passes). `hash` is the block's identity in every index. -/
structure Block where
  hash : Nat
  pre : Nat
  height : Nat
  totalQN : Nat
  pv : Nat
  txs : List Nat
  valid : Bool
  reqId : Nat := 0            -- header `RequestIds["fixed"]`
  txReqs : List Nat := []     -- `RequestId` of each transaction of the block
deriving DecidableEq, Repr, Inhabited

abbrev Map (α : Type) := Nat → Option α

def upd {α : Type} (m : Map α) (k : Nat) (v : Option α) : Map α :=
  fun x => if x = k then v else m x

def updB (m : Nat → Bool) (k : Nat) (v : Bool) : Nat → Bool :=
  fun x => if x = k then v else m x

/-- What survives a process death. -/
structure Disk where
  blocks : Map Block        -- hashDB: hash -> block
  heights : Map Block       -- heightDB: height -> header
  verify : Nat → Bool       -- verifyHashDB has an entry at this height
  current : Option Block    -- heightDB["bcurrent"]
  addMark : Option Block    -- hashDB["addBlockMark"]
  removeMark : Option Block -- hashDB["removeBlockMark"]
  executed : Map Nat        -- tx pool: tx -> hash of the block it was executed in
  roots : Nat → Bool        -- state root of block (by block hash) is committed

/-- What a process death forgets. -/
structure Mem where
  latest : Block            -- chain.latestBlock
  top : Map Block           -- topBlocks cache: height -> header
  verified : List Nat       -- verifiedBlocks cache (block hashes)
  future : Map Block        -- futureBlocks cache: parent hash -> orphan
  pending : List Nat        -- tx pool received container

/-- One physical write. -/
inductive Write where
  | putAddMark (b : Block)
  | delAddMark
  | putRemoveMark (b : Block)
  | delRemoveMark
  | putBlock (b : Block)
  | delBlock (hash : Nat)
  | putHeight (h : Nat) (b : Block)
  | delHeight (h : Nat)
  | putVerify (h : Nat)
  | delVerify (h : Nat)
  | putCurrent (b : Block)
  | commitState (hash : Nat)
  | putExecuted (txs : List Nat) (blockHash : Nat)
  | delExecuted (tx : Nat)
deriving DecidableEq, Repr

def markExec (m : Map Nat) (txs : List Nat) (bh : Nat) : Map Nat :=
  fun t => if t ∈ txs then some bh else m t

def Disk.apply (d : Disk) : Write → Disk
  | .putAddMark b => { d with addMark := some b }
  | .delAddMark => { d with addMark := none }
  | .putRemoveMark b => { d with removeMark := some b }
  | .delRemoveMark => { d with removeMark := none }
  | .putBlock b => { d with blocks := upd d.blocks b.hash (some b) }
  | .delBlock h => { d with blocks := upd d.blocks h none }
  | .putHeight h b => { d with heights := upd d.heights h (some b) }
  | .delHeight h => { d with heights := upd d.heights h none }
  | .putVerify h => { d with verify := updB d.verify h true }
  | .delVerify h => { d with verify := updB d.verify h false }
  | .putCurrent b => { d with current := some b }
  | .commitState h => { d with roots := updB d.roots h true }
  | .putExecuted txs bh => { d with executed := markExec d.executed txs bh }
  | .delExecuted t => { d with executed := upd d.executed t none }

/-- Whole state of one run: disk, memory, and the crash machinery. -/
structure St where
  disk : Disk
  mem : Mem
  log : List Write          -- writes that reached the disk during the current op, newest first
  budget : Option Nat       -- `some k`: the process dies before write number k (0-based) of this op
  crashed : Bool
  refused : Option Write    -- the write the process died in front of
  fuelOut : Bool            -- a recursion bound of the model was hit (the driver prints `FUEL-OUT`)
  p008 : Bool               -- fork configuration: `common.IsProposal008()` (executed-transaction check in verifyBlock)

/-- Perform one physical write, or die in front of it. -/
def St.write (s : St) (w : Write) : St :=
  if s.crashed then s else
  match s.budget with
  | some 0 => { s with crashed := true, refused := some w }
  | some (k + 1) => { s with disk := s.disk.apply w, log := w :: s.log, budget := some k }
  | none => { s with disk := s.disk.apply w, log := w :: s.log }

def St.writes (s : St) : List Write → St
  | [] => s
  | w :: ws => (s.write w).writes ws

def St.setMem (s : St) (m : Mem) : St := { s with mem := m }

/-- `QueryBlockHeaderByHeight(h, true)`: topBlocks cache first, then heightDB. -/
def St.lookupHeight (s : St) (h : Nat) : Option Block :=
  match s.mem.top h with
  | some x => some x
  | none => s.disk.heights h

inductive Res where
  | failed | succ | existed | qnless | nopre
deriving DecidableEq, Repr

def Res.name : Res → String
  | .failed => "failed" | .succ => "succ" | .existed => "existed" | .qnless => "qnless" | .nopre => "nopre"

/-- capacity of the verifiedBlocks LRU (`lru.New(20)` in `initBlockChain`; re-extracted by T-gen) -/
def verifiedCap : Nat := 20

/-- `lru.Cache.Add` on a key list kept most-recent-first: (re)insert at the front, evict the oldest beyond capacity -/
def lruAdd (cap : Nat) (l : List Nat) (k : Nat) : List Nat := (k :: l.filter (fun h => h != k)).take cap

/-- `lru.Cache.Get`: a hit moves the key to the front -/
def lruGet (l : List Nat) (k : Nat) : List Nat := if l.contains k then k :: l.filter (fun h => h != k) else l

/-- `chainPvGreatThanRemote(local, remote)`. -/
def pvGreater (loc rem : Block) : Bool :=
  if loc.pv > rem.pv then true
  else if loc.pv < rem.pv then false
  else loc.hash > rem.hash

/-- `getRequestIdFromTransactions(txs, last)["fixed"]`: the largest request id among the transactions if it is
    non-zero and exceeds the parent's, else the parent's. -/
def requestIdFrom (reqs : List Nat) (last : Nat) : Nat :=
  let m := reqs.foldl (fun acc r => if r > acc then r else acc) 0
  if m ≠ 0 ∧ m > last then m else last

/-- `blockChain.nextPvGreatThanFork(commonAncestor, fork)`: on an equal-QN fork switch the local branch keeps
    the head unless both branches have a block right above the common ancestor and the local one does not win
    the tie-break. `forkLatest` is the fork tip's height, `forkNext` the fork's block at `anc.height+1`. -/
def nextPvGreatThanFork (localLatest : Nat) (localNext : Option Block) (anc : Block) (forkLatest : Nat)
    (forkNext : Option Block) : Bool :=
  if anc.height < forkLatest ∧ anc.height < localLatest then
    match forkNext, localNext with
    | some f, some c => pvGreater c f
    | _, _ => true
  else true

/-- `TxPool.add` on each transaction (memory only). -/
def addPending (pending : List Nat) (executed : Map Nat) : List Nat → List Nat
  | [] => pending
  | t :: ts =>
    if t ∈ pending ∨ (executed t).isSome then addPending pending executed ts
    else addPending (pending ++ [t]) executed ts

/-- first half of `blockChain.remove(block)`: intent mark, the three deletes, cache evictions -/
def removeA (s : St) (x : Block) : St :=
  let s := s.writes [.putRemoveMark x, .delBlock x.hash, .delHeight x.height, .delVerify x.height]
  s.setMem { s.mem with top := upd s.mem.top x.height none,
                        verified := s.mem.verified.filter (fun h => h != x.hash) }

/-- `TxPool.UnMarkExecuted(block)`: nothing at all for a block without transactions -/
def unmark (s : St) (x : Block) : St :=
  if x.txs.isEmpty then s else
    let s := s.writes (x.txs.map .delExecuted)
    s.setMem { s.mem with pending := addPending s.mem.pending s.disk.executed x.txs }

/-- second half of `remove`: head back to the parent `p`, un-mark the transactions, erase the mark -/
def removeB (s : St) (x p : Block) : St :=
  let s := s.setMem { s.mem with latest := p }
  let s := s.write (.putCurrent p)
  let s := unmark s x
  s.write .delRemoveMark

/-- `blockChain.remove(block)`. Returns false (mark left behind) when the parent is not in the
    hash index. -/
def remove (s : St) (x : Block) : St × Bool :=
  let s := removeA s x
  match s.disk.blocks x.pre with
  | none => (s, false)
  | some p => (removeB s x p, true)

/-- The loop of `removeFromCommonAncestor`: heights `base+n, …, base+1`. -/
def removeLoop (base : Nat) : Nat → St → St
  | 0, s => s
  | n + 1, s =>
    let s := match s.lookupHeight (base + n + 1) with
      | none => s
      | some hd =>
        match s.disk.blocks hd.hash with
        | none => s
        | some blk => (remove s blk).1
    removeLoop base n s

def removeFromCommonAncestor (s : St) (anc : Block) : St :=
  removeLoop anc.height (s.mem.latest.height - anc.height) s

/-- `verifyBlock(header, txs, false)` as far as the store is concerned. -/
def verify (s : St) (b : Block) : St × Bool :=
  if s.mem.verified.contains b.hash then (s, true) else
  match s.disk.blocks b.pre with
  | none => (s.setMem { s.mem with future := upd s.mem.future b.pre (some b) }, false)
  | some pre =>
    if s.p008 && b.txs.any (fun t => (s.disk.executed t).isSome) then (s, false)   -- Proposal008
    else if requestIdFrom b.txReqs pre.reqId != b.reqId then (s, false)    -- request id of the header
    else if !b.valid then (s, false)                                       -- checkStates
    else (s.setMem { s.mem with verified := lruAdd verifiedCap s.mem.verified b.hash }, true)

/-- `insertBlock` up to `saveStates`: intent mark, hash index, height index -/
def insertA (s : St) (b : Block) : St :=
  s.writes [.putAddMark b, .putBlock b, .putHeight b.height b]

/-- `TxPool.MarkExecuted`, disk part: one batch for all receipts (none for an empty block) -/
def markTxs (s : St) (b : Block) : St :=
  if b.txs.isEmpty then s else s.write (.putExecuted b.txs b.hash)

/-- memory effects between `MarkExecuted` and `updateLastBlock`: pending container, topBlocks -/
def poolMem (m : Mem) (b : Block) : Mem :=
  { m with pending := m.pending.filter (fun t => !(b.txs.contains t)), top := upd m.top b.height (some b) }

/-- `insertBlock` from `saveStates` on: state commit, verify hash, MarkExecuted, topBlocks,
    recorded head, in-memory head, mark erased -/
def insertB (s : St) (b : Block) : St :=
  let s := s.writes [.commitState b.hash, .putVerify b.height]
  let s := markTxs s b
  let s := s.setMem (poolMem s.mem b)
  let s := s.write (.putCurrent b)
  let s := s.setMem { s.mem with latest := b }
  s.write .delAddMark

/-- the verified cache in `saveStates`: `Get` (hit: move to front), else `checkStates` again and `Add`;
    `none` when the re-execution does not reproduce the roots -/
def saveStatesCache (verified : List Nat) (b : Block) : Option (List Nat) :=
  if verified.contains b.hash then some (lruGet verified b.hash)
  else if b.valid then some (lruAdd verifiedCap verified b.hash)
  else none

/-- `insertBlock`; `cont` is `addBlockOnChain` for the orphan parked under this block
    (`successOnChainCallBack`). -/
def insertBlock (cont : St → Block → St) (s : St) (b : Block) : St × Res :=
  let s := insertA s b
  -- saveStates: cached verification result (a hit refreshes the entry), else execute again
  -- (failure leaves the mark behind)
  match saveStatesCache s.mem.verified b with
  | none => (s, .failed)
  | some v =>
    let s := s.setMem { s.mem with verified := v }
    let s := insertB s b
    match s.mem.future b.hash with
    | some f => (cont s f, .succ)
    | none => (s, .succ)

/-- `addBlockOnChain` (inner, recursive). `fuel` bounds the re-entries (after a
    reorg, and for parked orphans). -/
def addCore : Nat → St → Block → St × Res
  | 0, s, _ => ({ s with fuelOut := true }, .failed)
  | fuel + 1, s, b =>
    let top := s.mem.latest
    if b.hash = top.hash ∨ (s.disk.blocks b.hash).isSome then (s, .existed) else
    match verify s b with
    | (s, false) => (s, .failed)
    | (s, true) =>
      if b.pre = top.hash then insertBlock (fun s f => (addCore fuel s f).1) s b else
      if b.totalQN < top.totalQN then (s, .qnless) else
      match s.disk.blocks b.pre with
      | none => (s, .failed)
      | some anc =>
        if b.totalQN > top.totalQN then addCore fuel (removeFromCommonAncestor s anc) b else
        match s.lookupHeight (anc.height + 1) with
        | none => (s, .failed)
        | some ln =>
          if pvGreater ln b then (s, .qnless)
          else addCore fuel (removeFromCommonAncestor s anc) b

/-- `AddBlockOnChain` (exported): `consensusVerify` with every consensus check
    passing, then the inner function. -/
def addBlock (fuel : Nat) (s : St) (b : Block) : St × Res :=
  if (s.disk.blocks b.pre).isNone then
    (s.setMem { s.mem with future := upd s.mem.future b.pre (some b) }, .nopre)
  else if (s.disk.blocks b.hash).isSome then (s, .existed)
  else addCore fuel s b

/-- The loop of the sync fork switch (`blockChainFork.triggerOnChain`): `tryAddBlockOnChain` — i.e.
    `consensusVerify` then `addBlockOnChain`, exactly `addBlock` — for each fork block in turn, stopping at the
    first one that is not added. -/
def forkAdd (fuel : Nat) : St → List Block → St
  | s, [] => s
  | s, b :: bs =>
    match addBlock fuel s b with
    | (s', .succ) => forkAdd fuel s' bs
    | (s', _) => s'

/-- `triggerOnChain` once its own checks have passed: `removeFromCommonAncestor(commonAncestor)`, then the
    fork's blocks one by one. (Its checks — fork tip QN not lower, `nextPvGreatThanFork` on a tie — read the
    fork store of the sync processor and are not modelled; the theorems hold whatever they decide.) -/
def forkSwitch (fuel : Nat) (s : St) (anc : Block) (bs : List Block) : St :=
  forkAdd fuel (removeFromCommonAncestor s anc) bs

/-- `TxPool.AddTransaction`. -/
def poolAdd (s : St) (t : Nat) : St × Bool :=
  if t ∈ s.mem.pending ∨ (s.disk.executed t).isSome then (s, false)
  else (s.setMem { s.mem with pending := s.mem.pending ++ [t] }, true)

inductive RestartRes where
  | ok | panic | fresh
deriving DecidableEq, Repr

def topBlocksCacheSize : Nat := 100

/-- `buildCache`: heights `[start, latest.height)` from the height index. -/
def buildCache (s : St) : St :=
  let lh := s.mem.latest.height
  let start := if lh < topBlocksCacheSize then 0 else lh - (topBlocksCacheSize - 1)
  s.setMem { s.mem with top := fun h => if start ≤ h ∧ h < lh then s.disk.heights h else none }

/-- `ensureChainConsistency`, first half: a half-added block is removed again -/
def repairAdd (s : St) : St :=
  match s.disk.addMark with
  | some b => ((remove s b).1).write .delAddMark
  | none => s

/-- `ensureChainConsistency`, second half: a half-removed block is removed completely
    (the mark is read after the first half has run) -/
def repairRemove (s : St) : St :=
  match s.disk.removeMark with
  | some b => ((remove s b).1).write .delRemoveMark
  | none => s

/-- Process start on whatever is on disk: `initBlockChain` with
    `ensureChainConsistency`. Memory starts empty. -/
def restart (s : St) : St × RestartRes :=
  match s.disk.current with
  | none => (s, .fresh)       -- empty store: genesis creation (outside the model)
  | some cur =>
    let s := s.setMem { latest := cur, top := fun _ => none, verified := [], future := fun _ => none, pending := [] }
    let s := repairRemove (repairAdd s)
    if !(s.disk.roots s.mem.latest.hash) then (s, .panic)
    else (buildCache s, .ok)

/-- Start an op: fresh log, given budget. -/
def St.arm (s : St) (budget : Option Nat) : St :=
  { s with log := [], budget := budget, crashed := false, refused := none }

def emptyDisk : Disk :=
  { blocks := fun _ => none, heights := fun _ => none, verify := fun _ => false, current := none,
    addMark := none, removeMark := none, executed := fun _ => none, roots := fun _ => false }

/-- The store right after `insertGenesisBlock`. -/
def genesisState (g : Block) : St :=
  { disk := { emptyDisk with blocks := upd (fun _ => none) g.hash (some g),
                             heights := upd (fun _ => none) g.height (some g),
                             verify := updB (fun _ => false) g.height true,
                             current := some g,
                             roots := updB (fun _ => false) g.hash true },
    mem := { latest := g, top := fun _ => none, verified := [], future := fun _ => none, pending := [] },
    log := [], budget := none, crashed := false, refused := none, fuelOut := false, p008 := true }

/-- Fuel the driver supplies: one re-entry after a reorg plus a generous bound on orphan cascades. -/
def defaultFuel : Nat := 64

end Rangers.Model.ChainStore
