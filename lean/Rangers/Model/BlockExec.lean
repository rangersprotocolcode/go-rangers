import Rangers.Basic.Hex
import Rangers.Model.RewardFloat
import Rangers.Generated.NondetSites
import Rangers.Model.WireSha256
/-!
# Block execution (`core.VMExecutor.Execute`) as a pure function — property C01

Content-level model of what one block execution does to the ledger, written so
that every place where the Go code ranges over a `map` takes the iteration order
as an explicit parameter (`Orders`).  "The result does not depend on map order"
is then a theorem with a quantifier over `Orders` (see `Props/C01.lean`), not an
accident of the model.

Scope (what is interpreted): transaction sort (`types.Transactions.Less` under the
proposal flags + Go's insertion sort for ≤ 12 elements), the per-transaction loop
(nonce bookkeeping under p006/p007/p018/p021, `ProcessFee`, snapshot / revert,
receipts, evicted list), the operator-event executor (`service.ChangeAssets` after
the `fix:` commit — targets walked in sorted key order — plus the unfixed
in-map-order fold `changeAssetsIn` the fix replaced), `RefundManager.Add`,
`RefundManager.CheckAndMove`, the three reward loops of
`calculateRewardPerBlock` / `CalculateReward`, and `AccountDB.Finalise`; the miner
executors of types 2, 4, 5, 6 (`execModelled`) and the float expressions of the reward
formula, bit for bit (`rewardInOf`).

The executors of types 7 (OperatorNode), 188 and 200 (EVM) are the uninterpreted
deterministic function `Env.other` (`isOpaqueTyp`; DESIGN 6/C01 "not covered").

Core Lean only (this file is linked into the driver executable).
-/
namespace Rangers.Model.BlockExec
open Rangers

abbrev Addr := Nat

/-- point update of a total map -/
def upd (f : Nat → Nat) (k v : Nat) (a : Nat) : Nat := if a = k then v else f a

/-- one miner of the registry (storage of ProposerDBAddress / ValidatorDBAddress): the info JSON
    written at creation (`applyHeight`, `jsonStatus`; it is what the trie iterator enumerates, so
    only miners already in the parent state — `inParent` — are iterated) and the three keys read
    fresh: stake, account (`hasAccount = false`: key emptied), status. `alive = false`: the id key
    was emptied (`GetMiner` no longer finds it). -/
structure MinerRec where
  id : Nat
  typ : Nat            -- 0 validator, 1 proposer
  stake : Nat
  account : Addr
  hasAccount : Bool
  status : Nat
  jsonStatus : Nat
  applyHeight : Nat
  inParent : Bool
  alive : Bool
  deriving Repr, DecidableEq, Inhabited

/-- Ledger content: native balance, nonce, and the refund escrow
    (`storage(generateAddress(height))[id]`, big-endian amount, absent = 0), and the miner registry. -/
structure St where
  bal : Addr → Nat
  nonce : Addr → Nat
  escrow : Nat → Addr → Nat
  miners : List MinerRec
  diff : Nat → Nat := fun _ => 0     -- storage(DifficultyAddress)[castor id]: blocks proposed in the window
  working : Nat := 0                 -- storage(DifficultyAddress)[TotalWorkingMiners]

def St.empty : St := ⟨fun _ => 0, fun _ => 0, fun _ _ => 0, [], fun _ => 0, 0⟩

def addBal (s : St) (a : Addr) (v : Nat) : St := { s with bal := upd s.bal a (s.bal a + v) }
def subBal (s : St) (a : Addr) (v : Nat) : St := { s with bal := upd s.bal a (s.bal a - v) }
def setNonce (s : St) (a : Addr) (n : Nat) : St := { s with nonce := upd s.nonce a n }
def incNonce (s : St) (a : Addr) : St := setNonce s a (s.nonce a + 1)
def addEscrow (s : St) (h : Nat) (id : Addr) (v : Nat) : St :=
  { s with escrow := fun h' a => if h' = h ∧ a = id then s.escrow h id + v else s.escrow h' a }
def clearEscrow (s : St) (h : Nat) (id : Addr) : St :=
  { s with escrow := fun h' a => if h' = h ∧ a = id then 0 else s.escrow h' a }

/-! ## service.ChangeAssets / transferBalance -/

/-- `utility.StrToBigInt(value)` outcome as the executor sees it: `bad` = parse error or negative. -/
inductive Amt where
  | bad
  | val (n : Nat)
  deriving Repr, DecidableEq, Inhabited

/-- one entry of the user supplied JSON map: raw key bytes, `HexToAddress(key)`, amount -/
structure Target where
  key : Bytes
  addr : Addr
  amt : Amt
  deriving Repr, DecidableEq, Inhabited

/-- `transferBalance`: check, `AddBalance(target)`, `SubBalance(source)`. -/
def transferBalance (s : St) (src tgt : Addr) : Amt → Option St
  | .bad => none
  | .val v => if s.bal src < v then none else some (subBal (addBal s tgt v) src v)

/-- loop state of `ChangeAssets`: `none` once a transfer failed, else the ledger and
    `responseBalance` (`none` = "" , `some left`). -/
abbrev CA := Option (St × Option Nat)

def caStep (src : Addr) (acc : CA) (t : Target) : CA :=
  match acc with
  | none => none
  | some (s, _) =>
    match transferBalance s src t.addr t.amt with
    | none => none
    | some s' => some (s', some (s'.bal src))

/-- the loop body folded over the targets in the order given (the code before the fix
    used Go's map order here) -/
def changeAssetsIn (order : List Target) (s : St) (src : Addr) : CA :=
  order.foldl (caStep src) (some (s, none))

/-- byte-lexicographic `<` on Go strings (`sort.Strings`) -/
def bytesLt (a b : Bytes) : Bool := decide (a < b)

def insertKey (t : Target) : List Target → List Target
  | [] => [t]
  | u :: us => if bytesLt t.key u.key then t :: u :: us else u :: insertKey t us

def sortTargets : List Target → List Target
  | [] => []
  | t :: ts => insertKey t (sortTargets ts)

/-- `service.ChangeAssets` as it is now (keys collected, `sort.Strings`, then the loop). -/
def changeAssets (targets : List Target) (s : St) (src : Addr) : CA :=
  changeAssetsIn (sortTargets targets) s src

/-! ## text rendering (receipt messages are part of the property) -/

def asciiBytes (s : String) : Bytes := s.toList.map (fun c => UInt8.ofNat c.toNat)

def natDigits (n : Nat) : Bytes := asciiBytes (toString n)

/-- `utility.BigIntToStr` for a non-negative amount: 18 decimals, "0" for zero. -/
def bigIntToStr (n : Nat) : Bytes :=
  if n = 0 then asciiBytes "0" else
  let ds := natDigits n
  let len := ds.length
  if len ≤ 18 then asciiBytes "0." ++ List.replicate (18 - len) 48 ++ ds
  else ds.take (len - 18) ++ asciiBytes "." ++ ds.drop (len - 18)

def caMsg : CA → Bool × Bytes
  | none => (false, asciiBytes "Transfer Balance Failed")
  | some (_, none) => (true, asciiBytes "{}")
  | some (_, some left) => (true, asciiBytes "{\"balance\":\"" ++ bigIntToStr left ++ asciiBytes "\"}")

/-! ## transactions, flags, sort -/

structure Flags where
  p006 : Bool
  p007 : Bool
  p016 : Bool
  p018 : Bool
  p021 : Bool
  p023 : Bool
  deriving Repr, DecidableEq, Inhabited

inductive Body where
  | empty                       -- ExtraData == ""
  | badJson (data : Bytes)      -- json.Unmarshal failed
  | transfer (ts : List Target) -- the decoded map (keys pairwise distinct)
  | refund (amount : Option Nat) (minerId : Nat)  -- MinerRefundData: ParseUint(Amount) (none = error), FromHex(MinerId)
  | addStake (minerId : Nat) (delta : Nat)        -- types.Miner payload of a miner-add transaction: id, stake
  | apply (minerId typ stake : Nat) (hasPk hasVrf : Bool) (account : Option Addr)
      -- types.Miner payload of a miner-apply transaction (id present; account = none when absent)
  | changeAccount (minerId : Nat) (account : Option Addr)
  | observed (ok : Bool) (ev : Bool) (msg : Bytes) (sets : List (Addr × Nat × Nat))
      -- correspondence only: what an uninterpreted executor was observed to do (status, message,
      -- balance and nonce of the watched addresses afterwards)
  deriving Repr, DecidableEq, Inhabited

structure Tx where
  hash : Nat        -- big.Int of the 32 hash bytes
  reqId : Nat
  nonce : Nat
  typ : Nat
  srcStr : Bytes    -- the Source string
  src : Addr        -- common.HexToAddress(Source)
  feeAddr : Addr    -- common.HexStringToAddress(Source)  (ProcessFee)
  srcNum : Nat      -- big.Int(common.FromHex(Source))    (sort)
  body : Body
  deriving Repr, DecidableEq, Inhabited

def typOperatorEvent : Nat := 100
def typMinerRefund : Nat := 4
def typMinerAdd : Nat := 5
def typMinerApply : Nat := 2
def typMinerChangeAccount : Nat := 6
def typETHTX : Nat := 188
def typContract : Nat := 200
def isContractTx (t : Nat) : Bool := t == typETHTX || t == typContract
/-- transaction types with a registered executor that this model does not interpret -/
def isOpaqueTyp (t : Nat) : Bool := t == 7 || t == 188 || t == 200

/-- `types.Transactions.Less` (the `panic("equal hash")` branch is `false` here; the driver
    refuses such lists, see `hasEqualHashPair`). -/
def txLess (f : Flags) (a b : Tx) : Bool :=
  if a.reqId == 0 && b.reqId == 0 then
    if f.p023 then
      if a.srcStr == b.srcStr then
        if a.nonce != b.nonce then a.nonce < b.nonce else a.hash > b.hash
      else a.srcNum > b.srcNum
    else if f.p021 then
      if a.srcStr == b.srcStr then a.nonce < b.nonce else a.srcNum > b.srcNum
    else if f.p016 && a.srcStr == b.srcStr then a.nonce < b.nonce
    else a.hash > b.hash
  else a.reqId < b.reqId

/-- inner loop of Go's `insertionSort`: sink `x` into the already processed prefix, which
    is held reversed (nearest element first). -/
def sinkRev (lt : α → α → Bool) (x : α) : List α → List α
  | [] => [x]
  | y :: ys => if lt x y then y :: sinkRev lt x ys else x :: y :: ys

/-- `sort.Sort` for `n ≤ 12` (pdqsort falls back to insertion sort): stable insertion sort. -/
def insertionSort (lt : α → α → Bool) (l : List α) : List α :=
  (l.foldl (fun acc x => sinkRev lt x acc) []).reverse

def sortTxs (f : Flags) (txs : List Tx) : List Tx := insertionSort (txLess f) txs

/-- every earlier element is `Less` than every later one and not vice versa: on such a list
    `Less` is a strict total order, and *any* correct comparison sort returns this list -/
def strictSorted (lt : α → α → Bool) : List α → Bool
  | [] => true
  | a :: l => l.all (fun b => lt a b && !lt b a) && strictSorted lt l

/-- what `sort.Sort` returns, as far as the model can say: insertion sort for ≤ 12 elements (Go's
    own algorithm there); for longer lists only when `Less` is a strict total order on the list
    (then the result is unique, see `sort_result_unique_total`); `none` = not modelled (pdqsort on a
    non-total `Less`). -/
def sortTxsAny (f : Flags) (txs : List Tx) : Option (List Tx) :=
  let out := sortTxs f txs
  if txs.length ≤ 12 then some out
  else if strictSorted (txLess f) out then some out else none

/-- Go's post-condition of `sort.Sort` (`sort.IsSorted`): no adjacent inversion -/
def noAdjInv (lt : α → α → Bool) : List α → Prop
  | [] => True
  | [_] => True
  | a :: b :: l => lt b a = false ∧ noAdjInv lt (b :: l)

/-! ## the per transaction loop -/

/-- what an uninterpreted executor (EVM, miner ops) returns: new ledger, success, message,
    receipt extras (logs / contract address / gas as one opaque number), refunds it queued
    in `context["refund"]` -/
structure OpaqueOut where
  st : St
  ok : Bool
  msg : Bytes
  extra : Nat
  refunds : List (Nat × Addr × Nat)
  evicted : Bool := false   -- `Execute` (not `BeforeExecute`) failed while p018 is off

/-- environment: constants and the uninterpreted deterministic parts -/
structure Env where
  feeAccount : Addr
  fee : Nat
  other : Tx → Nat → St → OpaqueOut

structure Receipt where
  hash : Nat
  failed : Bool
  msg : Bytes
  extra : Nat

/-- loop state: ledger, queued refunds (context), receipts and evicted (both reversed) -/
structure Loop where
  st : St
  refunds : List (Nat × Addr × Nat)
  receipts : List Receipt
  evicted : List Nat

def nonceErrLow : Bytes := asciiBytes "nonce too low"
def nonceErrHigh : Bytes := asciiBytes "nonce too high"

/-- `validateNonce` -/
def validateNonce (f : Flags) (tx : Tx) (s : St) : Option Bytes :=
  if f.p021 && tx.typ != typETHTX then none
  else if f.p018 then
    if s.nonce tx.src > tx.nonce then some nonceErrLow
    else if s.nonce tx.src < tx.nonce then some nonceErrHigh else none
  else none

/-- `baseFeeExecutor.BeforeExecute` = `validateNonce` then `TxPool.ProcessFee`. -/
def beforeExecute (env : Env) (f : Flags) (tx : Tx) (s : St) : St × Bool × Bytes :=
  match validateNonce f tx s with
  | some e => (s, false, e)
  | none =>
    if s.bal tx.feeAddr < env.fee then
      (s, false, asciiBytes "not enough max, addr: " ++ tx.srcStr ++ asciiBytes ", balance: " ++ natDigits (s.bal tx.feeAddr))
    else (addBal (subBal s tx.feeAddr env.fee) env.feeAccount env.fee, true, [])

/-- `operatorExecutor.Execute` → `transfer` → `ChangeAssets`; result: ledger to keep, ok, msg -/
def execOperator (tx : Tx) (s : St) : St × Bool × Bytes :=
  match tx.body with
  | .empty => (s, true, [])
  | .badJson d => (s, false, asciiBytes "bad extraData: " ++ d)
  | .transfer ts =>
    let r := changeAssets ts s tx.src
    match r with
    | none => (s, (caMsg r).1, (caMsg r).2)          -- RevertToSnapshot
    | some (s', _) => (s', (caMsg r).1, (caMsg r).2)
  | _ => (s, false, [])                              -- not produced for operator transactions

/-- p007 epilogue: `SetNonce(source, GetNonce(source)+1)` unless a successful contract tx -/
def p007Bump (f : Flags) (tx : Tx) (ok : Bool) (s : St) : St :=
  if f.p007 && !(isContractTx tx.typ && ok) then incNonce s tx.src else s

def maxU64 : Nat := 18446744073709551615
def weiPerRpg : Nat := 1000000000000000000
def refundDelay : Nat := Rangers.Generated.NondetSites.cRefundHeight
def minStake (typ : Nat) : Nat :=
  if typ = 1 then Rangers.Generated.NondetSites.cProposerStake else Rangers.Generated.NondetSites.cValidatorStake

def updMiner (s : St) (id : Nat) (g : MinerRec → MinerRec) : St :=
  { s with miners := s.miners.map (fun m => if m.id = id ∧ m.alive then g m else m) }

/-- `minerRefundExecutor`'s bookkeeping in `context["refund"]`: the map value is a *copy* of the
    list header, so an id already present at that height is increased in place, a new height gets
    a new list, but a new id at an existing height is appended to the copy only and lost. -/
def queueRefund (q : List (Nat × Addr × Nat)) (e : Nat × Addr × Nat) : List (Nat × Addr × Nat) :=
  if q.any (fun x => x.1 == e.1) then
    (if q.any (fun x => x.1 == e.1 && x.2.1 == e.2.1) then q ++ [e] else q)
  else q ++ [e]

/-- `minerRefundExecutor.Execute` (signed tx, p012 active: refund height = now + 36000, miner
    accounts are not contracts) → `RefundManager.GetRefundStake`. Result: ledger, ok, queue. -/
def execRefund (height : Nat) (tx : Tx) (s : St) (q : List (Nat × Addr × Nat)) :
    St × Bool × List (Nat × Addr × Nat) :=
  match tx.body with
  | .refund (some value) mid =>
    match s.miners.find? (fun m => m.id == mid && m.alive) with
    | none => (s, false, q)                                  -- "miner not existed"
    | some m =>
      if !(m.hasAccount && m.account == tx.src) then (s, false, q)    -- auth error
      else
        let money := if value = maxU64 then m.stake else value
        if m.stake < money then (s, false, q)                -- "not enough stake"
        else
          let left := m.stake - money
          let s' :=
            if (m.typ = 1 ∨ m.typ = 0) ∧ left < minStake m.typ then
              (if left = 0 then
                 updMiner s mid (fun r => { r with stake := 0, hasAccount := false, status := r.jsonStatus, alive := false })
               else updMiner s mid (fun r => { r with stake := left, status := 1 }))   -- RemoveMiner
            else updMiner s mid (fun r => { r with stake := left })                      -- UpdateMiner
          (s', true, queueRefund q (height + refundDelay, m.account, money * weiPerRpg))
  | .refund none _ => (s, false, q)                          -- ParseUint failed
  | .badJson _ => (s, false, q)
  | _ => (s, false, q)

/-- `minerAddExecutor.Execute` → `MinerManager.AddStake`: the stake in wei is
    `Float64ToBigInt(float64(delta))` (bit-exact float), the miner is looked up as proposer first,
    then as validator, the uint64 stake sum wraps, a stake strictly above the minimum resets the
    status to normal, `UpdateMiner` rewrites stake / account / status. -/
def execAddStake (tx : Tx) (s : St) : St × Bool :=
  match tx.body with
  | .addStake mid delta =>
    if delta = 0 then (s, true) else
    let stakeWei := Rangers.Model.RewardFloat.float64ToBigInt (Rangers.Model.RewardFloat.ofNat delta)
    if s.bal tx.src < stakeWei then (s, false)
    else
      let pick := fun (t : Nat) => s.miners.find? (fun m => m.id == mid && m.typ == t && m.alive)
      match (pick 1).orElse (fun _ => pick 0) with
      | none => (s, false)
      | some m =>
        let st := (m.stake + delta) % 18446744073709551616
        let status := if (m.typ = 1 ∨ m.typ = 0) ∧ st > minStake m.typ then 0 else m.status
        let s1 := subBal s tx.src stakeWei
        ({ s1 with miners := s1.miners.map (fun r =>
            if r.id = mid ∧ r.typ = m.typ ∧ r.alive then { r with stake := st, status := status } else r) }, true)
  | _ => (s, false)

/-- `MinerManager.GetMinerIdByAccount`: the two trie iterators (validators, proposers) enumerate the
    entries of the parent state with their keys read fresh; is there one whose account bytes equal
    `account` (`none` = empty bytes, which equals an emptied account key)? -/
def accountOccupied (s : St) (account : Option Addr) : Bool :=
  s.miners.any (fun m => m.inParent &&
    (match account with
     | some a => m.hasAccount && m.account == a
     | none => !m.hasAccount))

/-- `GetMiner(id)`: proposer entry first, then validator entry; only ids whose info key is non-empty -/
def getMiner (s : St) (id : Nat) : Option MinerRec :=
  (s.miners.find? (fun m => m.id == id && m.typ == 1 && m.alive)).orElse
    (fun _ => s.miners.find? (fun m => m.id == id && m.typ == 0 && m.alive))

/-- `minerChangeAccountExecutor.Execute` (accounts are 20-byte values) -/
def execChangeAccount (tx : Tx) (s : St) : St × Bool :=
  match tx.body with
  | .changeAccount mid acct =>
    match getMiner s mid with
    | none => (s, false)                                        -- "fail to getMiner"
    | some cur =>
      let same := match acct with
        | some a => cur.hasAccount && cur.account == a
        | none => !cur.hasAccount
      if same then (s, false)                                   -- "no need to change"
      else if !(cur.hasAccount && cur.account == tx.src) then (s, false)   -- "fail to auth"
      else if accountOccupied s acct then (s, false)            -- "cannot use account … occupied"
      else
        ({ s with miners := s.miners.map (fun r =>
            if r.id = mid ∧ r.typ = cur.typ ∧ r.alive then
              (match acct with
               | some a => { r with account := a, hasAccount := true }
               | none => { r with hasAccount := false })
            else r) }, true)
  | _ => (s, false)

/-- `minerApplyExecutor.Execute` → `MinerManager.AddMiner` (not on mainnet; id present in the
    payload): type, minimum stake, both keys present, balance ≥ `Float64ToBigInt(float64(stake))`,
    id unused, account unused (among the parent-state entries); the new entry applies at
    height + HeightAfterStake and is not seen by the trie iterators of this block. -/
def execApply (height : Nat) (tx : Tx) (s : St) : St × Bool :=
  match tx.body with
  | .apply mid typ stake hasPk hasVrf acct =>
    if typ ≠ 0 ∧ typ ≠ 1 then (s, false)
    else if stake < minStake typ then (s, false)
    else if !(hasPk && hasVrf) then (s, false)
    else
      let stakeWei := Rangers.Model.RewardFloat.float64ToBigInt (Rangers.Model.RewardFloat.ofNat stake)
      let account : Addr := match acct with | some a => a | none => tx.src
      if s.bal tx.src < stakeWei then (s, false)
      else if (getMiner s mid).isSome then (s, false)
      else if accountOccupied s (some account) then (s, false)
      else
        let s1 := subBal s tx.src stakeWei
        ({ s1 with miners := s1.miners ++
            [⟨mid, typ, stake, account, true, 0, 0, height + Rangers.Generated.NondetSites.cHeightAfterStake, false, true⟩] }, true)
  | _ => (s, false)

/-- `core.deductGasFee` (Proposal027, failed contract transaction): the gas fee
    `gasUsed · DefaultGasPrice`, capped by the sender's balance, moves to the fee account -/
def deductGasFee (s : St) (src feeAccount gasUsed : Nat) : St :=
  let fee := gasUsed * Rangers.Generated.NondetSites.cGasPrice
  let paid := if s.bal src < fee then s.bal src else fee
  addBal (subBal s src paid) feeAccount paid

/-- the executors the model interprets; `none` for every other type -/
def execModelled (height : Nat) (tx : Tx) (s : St) (q : List (Nat × Addr × Nat)) :
    Option (St × Bool × Bytes × List (Nat × Addr × Nat)) :=
  if tx.typ = typOperatorEvent then
    let r := execOperator tx s
    some (r.1, r.2.1, r.2.2, q)
  else if tx.typ = typMinerRefund then
    let r := execRefund height tx s q
    some (r.1, r.2.1, [], r.2.2)       -- message text of miner transactions is not modelled
  else if tx.typ = typMinerAdd then
    let r := execAddStake tx s
    some (r.1, r.2, [], q)
  else if tx.typ = typMinerChangeAccount then
    let r := execChangeAccount tx s
    some (r.1, r.2, [], q)
  else if tx.typ = typMinerApply then
    let r := execApply height tx s
    some (r.1, r.2, [], q)
  else none

/-- one iteration of the loop in `VMExecutor.Execute` (situation ≠ "casting") -/
def stepTx (env : Env) (f : Flags) (height : Nat) (L : Loop) (tx : Tx) : Loop :=
  if tx.typ = 0 then L else
  let s0 := if f.p006 && !f.p007 then incNonce L.st tx.src else L.st
  if tx.typ = typOperatorEvent ∨ tx.typ = typMinerRefund ∨ tx.typ = typMinerAdd ∨ tx.typ = typMinerChangeAccount
      ∨ tx.typ = typMinerApply then
    let (s1, ok1, msg1) := beforeExecute env f tx s0
    if ok1 then
      match execModelled height tx s1 L.refunds with
      | some (s2, ok2, msg2, q2) =>
        let ev := if !ok2 && !f.p018 then tx.hash :: L.evicted else L.evicted
        let s3 := if ok2 && tx.srcStr != [] && !f.p006 then incNonce s2 tx.src else s2
        { st := p007Bump f tx ok2 s3, refunds := q2,
          receipts := ⟨tx.hash, !ok2, msg2, 0⟩ :: L.receipts, evicted := ev }
      | none => { L with st := s1, receipts := ⟨tx.hash, true, [], 0⟩ :: L.receipts }
    else
      { st := p007Bump f tx false s1, refunds := L.refunds,
        receipts := ⟨tx.hash, true, (if tx.typ = typOperatorEvent then msg1 else []), 0⟩ :: L.receipts, evicted := L.evicted }
  else if isOpaqueTyp tx.typ then
    let o : OpaqueOut := env.other tx height s0
    { st := o.st, refunds := L.refunds ++ o.refunds,
      receipts := ⟨tx.hash, !o.ok, o.msg, o.extra⟩ :: L.receipts,
      evicted := if o.evicted then tx.hash :: L.evicted else L.evicted }
  else
    -- no executor registered: `success` stays false, nothing else happens
    { L with st := s0, receipts := ⟨tx.hash, true, [], 0⟩ :: L.receipts }

/-! ## after(): refunds, reward, CheckAndMove -/

/-- `RefundManager.Add`: data = map height → list of (id, value); `order` is the order the
    runtime ranges the map in.  Inner list order is the slice order (fixed). -/
def refundAddList (h : Nat) (s : St) (l : List (Addr × Nat)) : St :=
  l.foldl (fun s e => addEscrow s h e.1 e.2) s

def refundAddIn (order : List (Nat × List (Addr × Nat))) (s : St) : St :=
  order.foldl (fun s e => refundAddList e.1 s e.2) s

/-- `RefundManager.CheckAndMove(height)`: `list` = the (addr, value) pairs `GetAllRefund`
    returned (read before the loop), `order` the order they are ranged in. -/
def cmStep (h : Nat) (s : St) (e : Addr × Nat) : St := clearEscrow (addBal s e.1 e.2) h e.1

def checkAndMoveIn (h : Nat) (order : List (Addr × Nat)) (s : St) : St :=
  order.foldl (cmStep h) s

/-- inputs of `calculateRewardPerBlock` after the float arithmetic (`rewardInOf` computes them):
    the castor's account and share, per normal proposer (account, share), per validator
    account (already merged by `GetValidatorsStake`, keys distinct) its share;
    `validators = none` when the group is missing (the function returns nil). -/
structure RewardIn where
  castor : Addr × Nat
  proposers : List (Addr × Nat)
  validators : Option (List (Addr × Nat))
  nextHeight : Nat

/-- the `result` map of `calculateRewardPerBlock` as a total function (absent = 0) together
    with its key set as a list -/
structure RMap where
  val : Addr → Nat
  keys : List Addr

def RMap.addKey (m : RMap) (a : Addr) : List Addr := if m.keys.contains a then m.keys else a :: m.keys
/-- `addReward` -/
def RMap.add (m : RMap) (e : Addr × Nat) : RMap := ⟨upd m.val e.1 (m.val e.1 + e.2), m.addKey e.1⟩
/-- `result[addr] = x` -/
def RMap.assign (m : RMap) (e : Addr × Nat) : RMap := ⟨upd m.val e.1 e.2, m.addKey e.1⟩

def rewardMap (r : RewardIn) (ordP ordV : List (Addr × Nat)) : RMap :=
  let m0 : RMap := RMap.add ⟨fun _ => 0, []⟩ r.castor
  let m1 := ordP.foldl RMap.add m0
  ordV.foldl RMap.assign m1

/-! ### the reward inputs computed from the registry (bit-exact float64, `Model/RewardFloat.lean`) -/

open Rangers.Model.RewardFloat in
/-- header / chain facts the reward needs: `getTotalReward(height)` as a float64 bit pattern (the
    only float value not computed by the model: it contains `math.Pow`), `common.GetRewardBlocks()`,
    the castor id and the members of the signing group (`none`: no GroupId / group unknown). -/
structure RewardCfg where
  totalBits : Nat
  rewardBlocks : Nat
  castor : Nat
  group : Option (List Nat)
  deriving Repr, Inhabited

/-- `getMinerAccount(id, kind)` → `BytesToAddress` (an emptied / missing key gives the zero address) -/
def accountOf (s : St) (id typ : Nat) : Addr :=
  match s.miners.find? (fun m => m.id == id && m.typ == typ) with
  | some m => if m.hasAccount then m.account else 0
  | none => 0

/-- `getMinerStake(id, kind)` -/
def stakeOf (s : St) (id typ : Nat) : Nat :=
  match s.miners.find? (fun m => m.id == id && m.typ == typ) with
  | some m => m.stake
  | none => 0

/-- `membersDetail[addr] = stake + current` -/
def mergeStake (l : List (Addr × Nat)) (a : Addr) (v : Nat) : List (Addr × Nat) :=
  match l with
  | [] => [(a, v)]
  | (i, w) :: r => if i = a then (i, w + v) :: r else (i, w) :: mergeStake r a v

open Rangers.Model.RewardFloat in
/-- `calculateRewardPerBlock`'s inputs to its three loops, computed as the Go code does: the
    proposers the trie iterator yields (entries of the parent state, values read fresh, status
    normal, applied), `float64(stake) / float64(total) * otherReward` per entry, validators merged
    by account, `Float64ToBigInt` of every share; `NextRewardHeight` = ceil(h / n) · n. -/
def rewardInOf (c : RewardCfg) (height : Nat) (s : St) : RewardIn :=
  let total := ofBits c.totalBits
  let castorShare := float64ToBigInt (mul total proposerReward)
  let other := mul total allProposerReward
  let ps := s.miners.filter (fun m => m.inParent && m.typ == 1 && m.status == 0 && decide (m.applyHeight ≤ height))
  let tot : Nat := (ps.map (·.stake)).foldl (· + ·) 0
  let proposers := if tot = 0 then [] else
    ps.map (fun m => (accountOf s m.id 1, float64ToBigInt (mul (div (ofNat m.stake) (ofNat tot)) other)))
  let validators := c.group.map (fun members =>
    let merged : List (Addr × Nat) := members.foldl (fun acc id =>
      let st := stakeOf s id 0
      if st = 0 then acc else mergeStake acc (accountOf s id 0) st) []
    let vtot : Nat := (merged.map (·.2)).foldl (· + ·) 0
    let rv := mul total validatorsReward
    if vtot = 0 then [] else
      merged.map (fun e => (e.1, float64ToBigInt (mul (div (ofNat e.2) (ofNat vtot)) rv))))
  let next := ceilNat (div (ofNat height) (ofNat c.rewardBlocks)) * c.rewardBlocks
  ⟨(accountOf s c.castor 1, castorShare), proposers, validators, next⟩

/-- `CalculateReward` ranges `total` (order `ordT` of its keys) building the refund list, then
    `RefundManager.Add` of `{nextHeight: list}`. -/
def rewardAddIn (h : Nat) (m : RMap) (ordT : List Addr) (s : St) : St :=
  refundAddList h s (ordT.map (fun a => (a, m.val a)))

/-! ## Finalise / IntermediateRoot -/

/-- `AccountDB.Finalise(true)`: for each dirty address write (or delete) the account leaf.
    `leaf a` is the RLP of the finished object (`none` = suicided or empty → delete). -/
def finaliseIn (order : List Addr) (leaf : Addr → Option Nat) (trie : Addr → Option Nat) : Addr → Option Nat :=
  order.foldl (fun t a => fun x => if x = a then leaf a else t x) trie

/-! ## the orders the runtime picks, and the whole block -/

/-- one permutation per map-range site -/
structure Orders where
  refund : List (Nat × List (Addr × Nat)) → List (Nat × List (Addr × Nat))
  proposers : List (Addr × Nat) → List (Addr × Nat)
  validators : List (Addr × Nat) → List (Addr × Nat)
  total : List Addr → List Addr
  checkMove : List (Addr × Nat) → List (Addr × Nat)
  dirty : List Addr → List Addr

def Orders.id : Orders := ⟨fun l => l, fun l => l, fun l => l, fun l => l, fun l => l, fun l => l⟩
def Orders.rev : Orders := ⟨List.reverse, List.reverse, List.reverse, List.reverse, List.reverse, List.reverse⟩
def rotl : List α → List α
  | [] => []
  | a :: l => l ++ [a]
def Orders.rot : Orders := ⟨rotl, rotl, rotl, rotl, rotl, rotl⟩

/-- group queued refunds by height (what the `context["refund"]` map holds): first-seen
    height order, per height the ids in first-seen order with amounts summed. -/
def addRefundInfo (l : List (Addr × Nat)) (id : Addr) (v : Nat) : List (Addr × Nat) :=
  match l with
  | [] => [(id, v)]
  | (i, w) :: r => if i = id then (i, w + v) :: r else (i, w) :: addRefundInfo r id v

def groupRefunds : List (Nat × Addr × Nat) → List (Nat × List (Addr × Nat)) → List (Nat × List (Addr × Nat))
  | [], acc => acc
  | (h, id, v) :: rest, acc =>
    let rec ins : List (Nat × List (Addr × Nat)) → List (Nat × List (Addr × Nat))
      | [] => [(h, [(id, v)])]
      | (h', l) :: r => if h' = h then (h', addRefundInfo l id v) :: r else (h', l) :: ins r
    groupRefunds rest (ins acc)

structure Header where
  height : Nat
  p004Block : Nat
  p010Block : Nat := 0xFFFFFFFFFFFFFFFF
  p019Block : Nat := 0xFFFFFFFFFFFFFFFF
  p025Block : Nat := 0xFFFFFFFFFFFFFFFF
  castor : Nat := 0
  deriving Repr, DecidableEq, Inhabited

/-- what `GetAllRefund(generateAddress(h))` returns, as far as the model's escrow goes:
    the entries of the candidate ids with a non-zero amount. -/
def refundList (s : St) (h : Nat) (ids : List Addr) : List (Addr × Nat) :=
  (ids.filter (fun a => s.escrow h a != 0)).map (fun a => (a, s.escrow h a))

/-- `MinerManager.RemoveMiner(id, account, type, db, 0)` for an account that is not a contract:
    all four keys are emptied -/
def deleteMiner (s : St) (id typ : Nat) : St :=
  { s with miners := s.miners.map (fun m =>
      if m.id = id ∧ m.typ = typ ∧ m.alive then
        { m with stake := 0, hasAccount := false, status := m.jsonStatus, alive := false } else m) }

/-- `removeUnusedValidator` (height = Proposal010Block): the hard-coded ids (list regenerated from
    the source) that are validators are removed -/
def removeUnused010 (s : St) : St :=
  Rangers.Generated.NondetSites.unusedValidators010.foldl (fun s id =>
    if s.miners.any (fun m => m.id == id && m.typ == 0 && m.alive) then deleteMiner s id 0 else s) s

/-- `removeUnusedValidator1` → `MinerManager.RemoveUnusedValidator` (height = Proposal019Block):
    every validator the iterator yields with status normal that is not on the white list -/
def removeUnused019 (s : St) : St :=
  let unused := s.miners.filter (fun m => m.inParent && m.typ == 0 && m.status == 0
    && !(Rangers.Generated.NondetSites.whitelist019.contains m.id))
  unused.foldl (fun s m => deleteMiner s m.id 0) s

/-- `calcDifficulty`, first part (height < Proposal025Block + rewardBlocks; the second part needs
    the header `rewardBlocks` below and is not modelled) -/
def calcDifficulty (hd : Header) (s : St) : St :=
  if hd.height < hd.p025Block then s
  else if s.diff hd.castor = 0 then
    { s with diff := upd s.diff hd.castor 1, working := s.working + 1 }
  else { s with diff := upd s.diff hd.castor (s.diff hd.castor + 1) }

/-- what `Execute` does between the transaction loop and `after()` -/
def specialHeights (hd : Header) (s : St) : St :=
  let s1 := if hd.height = hd.p010Block then removeUnused010 s else s
  if hd.height = hd.p019Block then removeUnused019 s1 else s1

/-- the reward part of `after()`: `CalculateReward` + `RefundManager.Add` of its result -/
def rewardStepIn (ρ : Orders) (reward : Option RewardIn) (s : St) : St :=
  match reward with
  | none => s
  | some r =>
    match r.validators with
    | none => s                          -- calculateRewardPerBlock returned nil
    | some vs =>
      let m := rewardMap r (ρ.proposers r.proposers) (ρ.validators vs)
      rewardAddIn r.nextHeight m (ρ.total m.keys) s

/-- `after()` for situation ≠ "testing" on the main chain, height below Proposal025Block + rewardBlocks (see `calcDifficulty`). -/
def afterIn (ρ : Orders) (hd : Header) (reward : St → Option RewardIn) (ids : List Addr)
    (refunds : List (Nat × Addr × Nat)) (s : St) : St :=
  let s1 := refundAddIn (ρ.refund (groupRefunds refunds [])) (calcDifficulty hd (specialHeights hd s))
  let s2 := rewardStepIn ρ (reward s1) s1
  let s3 := checkAndMoveIn hd.height (ρ.checkMove (refundList s2 hd.height ids)) s2
  if hd.p004Block = hd.height then checkAndMoveIn 0 (ρ.checkMove (refundList s3 0 ids)) s3 else s3

structure Result where
  st : St
  receipts : List Receipt
  evicted : List Nat

/-- `VMExecutor.Execute` for situation ∉ {"casting","testing"}. `reward` gives the reward inputs as
    a function of the ledger after the transactions (`rewardInOf` computes them from the registry;
    `fun _ => none` when `CalculateReward` returns nil). `ids` bounds the escrow ids
    looked at by `CheckAndMove` (the model's stand-in for iterating the storage trie). -/
def execBlock (ρ : Orders) (env : Env) (f : Flags) (hd : Header) (reward : St → Option RewardIn)
    (ids : List Addr) (s : St) (txs : List Tx) : Result :=
  let L := (sortTxs f txs).foldl (stepTx env f hd.height) ⟨s, [], [], []⟩
  ⟨afterIn ρ hd reward ids L.refunds L.st, L.receipts.reverse, L.evicted.reverse⟩

/-! ## calcReceiptsTree -/

def hexLower (bs : Bytes) : Bytes := asciiBytes (String.join (bs.map hexOfByte))

/-- `json.Marshal(receipt)` of a receipt without logs, contract address, gas and result (what every
    transaction the model interprets produces): field order of `types.Receipt`, `Msg` / `Source` are
    `json:"-"`, `result` and `gasUsed` are omitted when empty -/
def receiptJson (height : Nat) (r : Receipt) : Bytes :=
  asciiBytes "{\"status\":" ++ natDigits (if r.failed then 0 else 1)
    ++ asciiBytes ",\"cumulativeGasUsed\":0,\"height\":" ++ natDigits height
    ++ asciiBytes ",\"transactionHash\":\"0x" ++ hexLower (padLeft 32 (natToBE r.hash))
    ++ asciiBytes "\",\"contractAddress\":\"0x0000000000000000000000000000000000000000\",\"logs\":null}"

/-- what `calcReceiptsTree` hashes: the JSON encodings concatenated in list order -/
def receiptsPreimage (height : Nat) (rs : List Receipt) : Bytes :=
  (rs.map (receiptJson height)).flatten

/-- `calcReceiptsTree`: the zero hash for an empty list, else SHA-256 of the concatenation -/
def receiptsRoot (height : Nat) (rs : List Receipt) : Bytes :=
  if rs.isEmpty then List.replicate 32 0 else Rangers.WireSha.sha256 (receiptsPreimage height rs)

/-! ## casting mode -/

/-- `VMExecutor.Execute` for situation = "casting": no sort (the pool hands the list over in
    execution order), and the wall clock may make the loop `break` — the deadline is tested at the
    top of an iteration, before anything of that transaction has touched the ledger — so only the
    first `k` list entries are processed, for a `k` the model leaves arbitrary.  Returns the result
    and the transaction list the proposer packs into the block (the executed ones). -/
def castBlock (ρ : Orders) (env : Env) (f : Flags) (hd : Header) (reward : St → Option RewardIn)
    (ids : List Addr) (s : St) (txs : List Tx) (k : Nat) : Result × List Tx :=
  let run := txs.take k
  let L := run.foldl (stepTx env f hd.height) ⟨s, [], [], []⟩
  (⟨afterIn ρ hd reward ids L.refunds L.st, L.receipts.reverse, L.evicted.reverse⟩,
   run.filter (fun t => t.typ ≠ 0))

/-- `opBlockhash`: the node's chain index (`GetHash`) is asked only for heights in the window
    `lower ≤ n < BlockNumber` (`lower = BlockNumber − 256`, 0 below height 257) -/
def blockhashAsksChain (n cur : Nat) : Bool :=
  decide ((if cur < 257 then 0 else cur - 256) ≤ n ∧ n < cur)

/-- the state root: `trie.Hash()` after `Finalise` over the dirty set in runtime order -/
def rootIn (ρ : Orders) (hash : (Addr → Option Nat) → Nat) (dirty : List Addr)
    (leaf : Addr → Option Nat) (trie : Addr → Option Nat) : Nat :=
  hash (finaliseIn (ρ.dirty dirty) leaf trie)

/-! ## where the flags come from -/

/-- activation heights of the proposals the model looks at (`common.LocalChainConfig`) -/
structure ForkTable where
  p006 : Nat
  p007 : Nat
  p016 : Nat
  p018 : Nat
  p021 : Nat
  p023 : Nat
  deriving Repr, DecidableEq, Inhabited

/-- `common.IsProposalNNN()` = `isForked(base, common.GetBlockHeight())`: the flags are read from
    the *process-wide* chain height `g` (the node's own top), not from the header executed. -/
def flagsAt (t : ForkTable) (g : Nat) : Flags :=
  ⟨decide (g ≥ t.p006), decide (g ≥ t.p007), decide (g ≥ t.p016), decide (g ≥ t.p018), decide (g ≥ t.p021), decide (g ≥ t.p023)⟩

/-- block execution on a node whose chain top is `g` -/
def execBlockAt (ρ : Orders) (env : Env) (t : ForkTable) (g : Nat) (hd : Header) (reward : St → Option RewardIn)
    (ids : List Addr) (s : St) (txs : List Tx) : Result :=
  execBlock ρ env (flagsAt t g) hd reward ids s txs

/-- Go panics in `Less` when two zero-requestId txs of one source share nonce and hash. -/
def hasEqualHashPair (f : Flags) : List Tx → Bool
  | [] => false
  | a :: l => l.any (fun b => f.p023 && a.reqId == 0 && b.reqId == 0 && a.srcStr == b.srcStr
                              && a.nonce == b.nonce && a.hash == b.hash) || hasEqualHashPair f l

end Rangers.Model.BlockExec
