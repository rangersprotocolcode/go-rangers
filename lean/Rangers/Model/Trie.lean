import Rangers.Basic.Hex
/-
Model of go-rangers `src/storage/trie` (content layer): the in-memory
Merkle-Patricia trie with all nodes loaded.  Transcribed from
  trie.go      tryGet / insert / delete
  encoding.go  keybytesToHex / hexToCompact / compactToHex / prefixLen
  hasher.go    hashChildren / store      (hash function `H` is a parameter)
  node.go      EncodeRLP of fullNode / shortNode
  iterator.go  leaf iteration order (children 0..15, then the value slot 16)

Keys inside the trie are hex nibble lists (`List Nat`, nibble < 16) followed by
the terminator 16, exactly as `keybytesToHex` produces them.
`Node.full cs` has 17 slots like `fullNode.Children`.

Cache flags (`nodeFlag{hash,gen,dirty}`) carry no content: they decide only
*whether* a hash is recomputed, and a recomputed hash is a function of the node
(`enc`).  The unloaded form (`hashNode`) is the subject of `Model/TrieStore`.

Core Lean only (the driver is a compiled executable).
-/
namespace Rangers.Trie
open Rangers

/-- hex key: nibbles (0..15), optionally ended by the terminator 16 -/
abbrev Key := List Nat

inductive Node where
  | nil
  | value (b : Bytes)
  | short (k : Key) (v : Node)
  | full (cs : List Node)
deriving Repr, BEq, Inhabited

/-! ## encoding.go -/

/-- `keybytesToHex`: two nibbles per byte, then the terminator 16. -/
def hexOfBytes : Bytes → Key
  | [] => []
  | b :: bs => b.toNat / 16 :: b.toNat % 16 :: hexOfBytes bs

def keybytesToHex (str : Bytes) : Key := hexOfBytes str ++ [16]

/-- `hasTerm` -/
def hasTerm (s : Key) : Bool := s.getLast? == some 16

/-- `decodeNibbles`: pack pairs of nibbles into bytes (`nibbles[ni]<<4 | nibbles[ni+1]`;
    for nibbles < 16 that is `16*a+b`). A trailing odd nibble cannot occur (callers pass even lengths). -/
def decodeNibbles : Key → Bytes
  | a :: b :: r => UInt8.ofNat (a * 16 + b) :: decodeNibbles r
  | _ => []

/-- `hexToCompact` (hex-prefix encoding, Yellow Paper `HP`). -/
def hexToCompact (hex : Key) : Bytes :=
  let term := hasTerm hex
  let hex := if term then hex.dropLast else hex
  let flag : Nat := if term then 32 else 0
  if hex.length % 2 = 1 then
    UInt8.ofNat (flag + 16 + hex.headD 0) :: decodeNibbles hex.tail
  else
    UInt8.ofNat flag :: decodeNibbles hex

/-- `compactToHex`. `none` where the Go code would slice out of range (empty input). -/
def compactToHex (compact : Bytes) : Option Key :=
  match keybytesToHex compact with
  | [] => none
  | b0 :: rest =>
    let base := b0 :: rest
    let base := if b0 < 2 then base.dropLast else base
    let chop := 2 - b0 % 2
    if chop ≤ base.length then some (base.drop chop) else none

/-- `prefixLen` -/
def prefixLen : Key → Key → Nat
  | a :: as, b :: bs => if a = b then prefixLen as bs + 1 else 0
  | _, _ => 0

/-- `hexToKeybytes` (iterator `LeafKey`): drop the terminator, pack nibbles. -/
def hexToKeybytes (hex : Key) : Bytes :=
  decodeNibbles (if hasTerm hex then hex.dropLast else hex)

/-! ## trie.go -/

def emptyFull : List Node := List.replicate 17 .nil

/-- `insert(nil, prefix, key, value)` inlined: empty key returns the value node
    itself, otherwise a fresh short node. -/
def mkLeaf (key : Key) (value : Node) : Node :=
  if key.isEmpty then value else .short key value

mutual
/-- `Trie.tryGet` on a fully loaded trie. -/
def get : Node → Key → Option Bytes
  | .nil, _ => none
  | .value b, _ => some b
  | .short k v, key =>
    if k.length ≤ key.length ∧ key.take k.length = k then get v (key.drop k.length) else none
  | .full _, [] => none               -- Go: index out of range; unreachable for terminated keys (`Props.C02.no_panic`)
  | .full cs, i :: rest => getAt cs i rest
def getAt : List Node → Nat → Key → Option Bytes
  | [], _, _ => none
  | c :: _, 0, rest => get c rest
  | _ :: cs, i + 1, rest => getAt cs i rest
end

mutual
/-- `Trie.insert(n, prefix, key, value)`; result = (dirty, new node). -/
def insert : Node → Key → Node → Bool × Node
  | .value v, [], value =>
    match value with
    | .value w => (v != w, value)
    | _ => (true, value)            -- Go: failed type assertion; unreachable (value is always a valueNode here)
  | _, [], value => (true, value)
  | .short k v, key, value =>
    let m := prefixLen key k
    if m = k.length then
      let r := insert v (key.drop m) value
      if !r.1 then (false, .short k v) else (true, .short k r.2)
    else
      let c1 := mkLeaf (k.drop (m + 1)) v
      let c2 := mkLeaf (key.drop (m + 1)) value
      let branch := Node.full ((emptyFull.set (k.getD m 0) c1).set (key.getD m 0) c2)
      if m = 0 then (true, branch) else (true, .short (key.take m) branch)
  | .full cs, i :: rest, value =>
    let r := insertAt cs i rest value
    if !r.1 then (false, .full cs) else (true, .full r.2)
  | .nil, key, value => (true, .short key value)
  | .value _, _ :: _, _ => (true, .nil)   -- Go: panics "invalid node"; unreachable
def insertAt : List Node → Nat → Key → Node → Bool × List Node
  | [], _, _, _ => (false, [])
  | c :: cs, 0, rest, value => let r := insert c rest value; (r.1, r.2 :: cs)
  | c :: cs, i + 1, rest, value => let r := insertAt cs i rest value; (r.1, c :: r.2)
end

def isNil : Node → Bool
  | .nil => true
  | _ => false

/-- the loop in `delete`: `some pos` iff exactly one slot is non-nil. -/
def soleChild (cs : List Node) : Option Nat :=
  let idx := (List.range cs.length).filter (fun i => !isNil (cs.getD i .nil))
  match idx with
  | [p] => some p
  | _ => none

mutual
/-- `Trie.delete(n, prefix, key)`; result = (dirty, new node). -/
def delete : Node → Key → Bool × Node
  | .short k v, key =>
    let m := prefixLen key k
    if m < k.length then (false, .short k v)
    else if m = key.length then (true, .nil)
    else
      let r := delete v (key.drop k.length)
      if !r.1 then (false, .short k v)
      else match r.2 with
        | .short ck cv => (true, .short (k ++ ck) cv)
        | child => (true, .short k child)
  | .full cs, [] => (false, .full cs)     -- Go: index out of range; unreachable for terminated keys
  | .full cs, i :: rest =>
    let r := deleteAt cs i rest
    if !r.1 then (false, .full cs)
    else
      let cs' := r.2
      match soleChild cs' with
      | some pos =>
        if pos != 16 then
          match cs'.getD pos .nil with
          | .short ck cv => (true, .short (pos :: ck) cv)
          | c => (true, .short [pos] c)
        else (true, .short [pos] (cs'.getD pos .nil))
      | none => (true, .full cs')
  | .value _, _ => (true, .nil)
  | .nil, _ => (false, .nil)
def deleteAt : List Node → Nat → Key → Bool × List Node
  | [], _, _ => (false, [])
  | c :: cs, 0, rest => let r := delete c rest; (r.1, r.2 :: cs)
  | c :: cs, i + 1, rest => let r := deleteAt cs i rest; (r.1, c :: r.2)
end

/-- `Trie.TryUpdate`: an empty value deletes. -/
def update (t : Node) (key value : Bytes) : Node :=
  let k := keybytesToHex key
  if value.length != 0 then (insert t k (.value value)).2 else (delete t k).2

/-- `Trie.TryDelete` -/
def remove (t : Node) (key : Bytes) : Node := (delete t (keybytesToHex key)).2

/-- `Trie.TryGet` -/
def lookup (t : Node) (key : Bytes) : Option Bytes := get t (keybytesToHex key)

/-! ## iterator.go — leaves in the order `nodeIterator` visits them
    (full node: slots 0..15 first, the value slot 16 last). Keys are hex paths
    relative to the node. -/

def prepend (p : Key) (l : List (Key × Bytes)) : List (Key × Bytes) := l.map (fun e => (p ++ e.1, e.2))

mutual
def iter : Node → List (Key × Bytes)
  | .nil => []
  | .value b => [([], b)]
  | .short k v => prepend k (iter v)
  | .full cs => iterL cs 0
def iterL : List Node → Nat → List (Key × Bytes)
  | [], _ => []
  | c :: cs, i => prepend [i] (iter c) ++ iterL cs (i + 1)
end

/-- lexicographic `bytes.Compare(a, b) <= 0` on hex paths -/
def keyLE : Key → Key → Bool
  | [], _ => true
  | _ :: _, [] => false
  | a :: as, b :: bs => if a < b then true else if a = b then keyLE as bs else false

/-- `NewIterator(t.NodeIterator(start))`: leaves whose path is `>=` the hex of
    `start` (no terminator) in path order, as (key bytes, value). -/
def iterFrom (t : Node) (start : Bytes) : List (Bytes × Bytes) :=
  ((iter t).filter (fun e => keyLE (hexOfBytes start) e.1)).map (fun e => (hexToKeybytes e.1, e.2))

/-! ## hasher.go / node.go — RLP of collapsed nodes -/

def rlpHead (off : Nat) (len : Nat) : Bytes :=
  if len < 56 then [UInt8.ofNat (off + len)]
  else let lb := natToBE len; UInt8.ofNat (off + 55 + lb.length) :: lb

/-- RLP of a byte string -/
def rlpString (b : Bytes) : Bytes :=
  match b with
  | [x] => if x < 0x80 then [x] else rlpHead 0x80 1 ++ [x]
  | _ => rlpHead 0x80 b.length ++ b

/-- RLP of a list whose already-encoded items are concatenated in `payload` -/
def rlpList (payload : Bytes) : Bytes := rlpHead 0xc0 payload.length ++ payload

/-- the 32-byte-rule of `hasher.store` (force = false): a node whose RLP is
    shorter than 32 bytes is embedded, otherwise replaced by (the RLP string of) its hash. -/
def embedOrHash (H : Bytes → Bytes) (e : Bytes) : Bytes :=
  if e.length < 32 then e else rlpString (H e)

mutual
/-- RLP of the collapsed node (`hashChildren` then `rlp.Encode`). -/
def enc (H : Bytes → Bytes) : Node → Bytes
  | .nil => [0x80]
  | .value b => rlpString b
  | .short k v =>
    rlpList (rlpString (hexToCompact k) ++
      (match v with
       | .value b => rlpString b           -- `if _, ok := n.Val.(valueNode); !ok {...}`: left as is
       | .nil => [0x80]
       | .short k' v' => embedOrHash H (enc H (.short k' v'))
       | .full cs' => embedOrHash H (enc H (.full cs'))))
  | .full cs => rlpList (encL H cs 0)
/-- slots i..16 of a full node: 0..15 go through `hasher.hash`, slot 16 is copied. -/
def encL (H : Bytes → Bytes) : List Node → Nat → Bytes
  | [], _ => []
  | c :: cs, i =>
    (match c with
     | .nil => [0x80]
     | c => if i < 16 then embedOrHash H (enc H c) else enc H c) ++ encL H cs (i + 1)
end

def emptyRoot : Bytes :=
  [0x56,0xe8,0x1f,0x17,0x1b,0xcc,0x55,0xa6,0xff,0x83,0x45,0xe6,0x92,0xc0,0xf8,0x6e,
   0x5b,0x48,0xe0,0x1b,0x99,0x6c,0xad,0xc0,0x01,0x62,0x2f,0xb5,0xe3,0x63,0xb4,0x21]

/-- `Trie.Hash()`: the root is always hashed (`force = true`), the empty trie has a constant root. -/
def rootHash (H : Bytes → Bytes) : Node → Bytes
  | .nil => emptyRoot
  | t => H (enc H t)

end Rangers.Trie
