import Rangers.Model.Evm11Gas
import Rangers.Model.Evm11Keccak
import Rangers.Model.Evm11Secp
import Rangers.Model.Evm11Precomp
/-!
# C11 model, part 4: the interpreter loop, the frame skeleton, precompile pricing

Transcribed from `src/vm/interpreter.go` (`EVMInterpreter.Run`), `instructions.go`,
`evm.go` (`Call`, `CallCode`, `DelegateCall`, `StaticCall`, `create`, `Create`,
`Create2`), `contracts.go` (`RunPrecompiledContract`, every `RequiredGas`).

* The loop takes **fuel**; `Props.C11C.fuel_suffices_call` / `_create` show the fuel the driver
  supplies is never exhausted.
* Everything the code asks the StateDB, the precompiles' `Run` and the block-hash
  callback is replayed from the oracle tape (`Global`); a call the model did not
  expect, or an expected call that is missing, is the explicit outcome
  `Fault.desync` (a tie failure, never silently defaulted).
* AUTH recovers the signer inside the model (`authRecovers`) and AUTHCALL starts a frame
  (`evmAuthCall`); no definition produces `Fault.unmodelled`.
-/
namespace Rangers.Evm11

inductive Fault
  | outOfGas | invalidOpCode | stackUnderflow | stackOverflow | writeProtection
  | gasUintOverflow | invalidJump | returnDataOutOfBounds | customOpError
  | depth | insufficientBalance | addressCollision | maxCodeSizeExceeded
  | codeStoreOutOfGas | precompileError | reverted
  | desync (expected : String)
  | unmodelled
  | outOfFuel
  | stackBug            -- an `execute` transcription found fewer operands than the table promised
  deriving DecidableEq, Repr, Inhabited

/-- outcomes that are artefacts of the model / the tie, not results of the code:
    they abort the whole run and are reported as such -/
def Fault.isAbort : Fault → Bool
  | .desync _ | .unmodelled | .outOfFuel | .stackBug => true
  | _ => false

/-- immutable execution context (vm.Context + fork flags) -/
structure Ctx where
  table : JumpTable
  gc : GasCfg
  bumpNonce : Bool          -- `!IsProposal006() || IsProposal007()` in evm.create
  origin : Nat
  gasPrice : Word
  coinbase : Nat
  gasLimit : Nat
  number : Nat
  time : Word
  difficulty : Word
  chainId : Word
  deriving Inhabited

structure Frame where
  code : BA
  isCode : Array Bool       -- JUMPDEST analysis (analysis.go): false inside PUSH data
  pc : Nat
  gas : Nat
  stack : List Word         -- head = top
  mem : Mem
  self : Nat                -- contract.Address()
  caller : Nat              -- contract.Caller()
  value : Word
  input : BA
  authorized : Option Nat
  deriving Inhabited

/-! ## word arithmetic (instructions.go over holiman/uint256) -/

def toSigned (a : Word) : Int := if a < 2 ^ 255 then (a : Int) else (a : Int) - (2 ^ 256 : Nat)
def ofSigned (i : Int) : Word := (i % ((2 ^ 256 : Nat) : Int)).toNat

def powMod (b e : Nat) : Nat :=
  let rec go (fuel : Nat) (b e acc : Nat) : Nat :=
    match fuel with
    | 0 => acc
    | f + 1 =>
      if e = 0 then acc
      else go f (b * b % W256) (e / 2) (if e % 2 = 1 then acc * b % W256 else acc)
  go 257 (b % W256) e 1

def evalBin (o : BinOp) (x y : Word) : Word :=
  match o with
  | .add => (x + y) % W256
  | .mul => (x * y) % W256
  | .sub => (x + W256 - y) % W256
  | .div => if y = 0 then 0 else x / y
  | .sdiv =>
    if y = 0 then 0 else
    let a := toSigned x; let b := toSigned y
    ofSigned (Int.tdiv a b)
  | .mod => if y = 0 then 0 else x % y
  | .smod =>
    if y = 0 then 0 else
    let a := toSigned x; let b := toSigned y
    ofSigned (Int.tmod a b)
  | .exp => powMod x y
  | .signextend =>
    -- x = back (byte index), y = num
    if x < 31 then
      let bit := x * 8 + 7
      let mask := 2 ^ (bit + 1) - 1
      if (y >>> bit) % 2 = 1 then (y ||| (W256 - 1 - mask)) % W256 else y &&& mask
    else y
  | .lt => if x < y then 1 else 0
  | .gt => if x > y then 1 else 0
  | .slt => if toSigned x < toSigned y then 1 else 0
  | .sgt => if toSigned x > toSigned y then 1 else 0
  | .eq => if x = y then 1 else 0
  | .and => x &&& y
  | .or => x ||| y
  | .xor => x ^^^ y
  | .byte => if x < 32 then (y >>> (8 * (31 - x))) % 256 else 0
  | .shl => if x < 256 then (y <<< x) % W256 else 0
  | .shr => if x < 256 then y >>> x else 0
  | .sar =>
    if y < 2 ^ 255 then (if x < 256 then y >>> x else 0)
    else if x < 256 then W256 - 1 - ((W256 - 1 - y) >>> x) else W256 - 1

def evalUn (o : UnOp) (x : Word) : Word :=
  match o with
  | .iszero => if x = 0 then 1 else 0
  | .not => W256 - 1 - x % W256

def evalTern (o : TernOp) (x y z : Word) : Word :=
  match o with
  | .addmod => if z = 0 then 0 else (x + y) % z
  | .mulmod => if z = 0 then 0 else (x * y) % z

/-! ## memory access (memory.go) -/

/-- `Memory.GetPtr/GetCopy(offset, size)` once the memory has been resized -/
def memRead (m : Mem) (off size : Nat) : BA :=
  if size = 0 then #[] else m.data.extract off (off + size)

def writeBytes (d : BA) (off : Nat) (val : BA) (n : Nat) : BA :=
  (List.range n).foldl (fun d i => d.setIfInBounds (off + i) (val.getD i 0)) d

/-- `Memory.Set(offset, size, value)`: copies `min(size, len value)` bytes -/
def memWrite (m : Mem) (off size : Nat) (val : BA) : Mem :=
  { m with data := writeBytes m.data off val (min size val.size) }

/-! ## JUMPDEST analysis -/

def analyse (code : BA) : Array Bool :=
  let rec go (fuel pc : Nat) (acc : Array Bool) : Array Bool :=
    match fuel with
    | 0 => acc
    | f + 1 =>
      if pc ≥ code.size then acc else
      let op := (code.getD pc 0).toNat
      if 0x60 ≤ op ∧ op ≤ 0x7f then
        let n := op - 0x5f
        let acc := (List.range n).foldl (fun a i => a.setIfInBounds (pc + 1 + i) false) acc
        go f (pc + n + 1) acc
      else go f (pc + 1) acc
  go code.size 0 (Array.replicate code.size true)

/-! ### the bit-vector encoding of the analysis (`codeBitmap`, `bitvec.set`, `bitvec.set8` of analysis.go)

`analyse` above is what the bit vector *means*; the definitions below are where `codeBitmap`
*writes*: it allocates `len(code)/8 + 1 + 4` bytes and, for a PUSHn at `pc`, marks the n data
positions starting at `pc+1` — eight at a time with `set8(p)` (bytes `p/8` and `p/8+1`), the rest
one by one with `set(p)` (byte `p/8`) — also when the data is truncated by the end of the code. -/

/-- `make(bitvec, len(code)/8+1+4)` -/
def bitvecLen (code : BA) : Nat := code.size / 8 + 1 + 4

/-- byte indices of the bit vector written for `numbits` data positions starting at `p` -/
def pushWrites (p numbits : Nat) : List Nat :=
  ((List.range (numbits / 8)).flatMap (fun k => [(p + 8 * k) / 8, (p + 8 * k) / 8 + 1])) ++
  ((List.range (numbits % 8)).map (fun j => (p + 8 * (numbits / 8) + j) / 8))

/-- all byte indices `codeBitmap(code)` writes, in scan order -/
def bitmapWrites (code : BA) : List Nat :=
  let rec go (fuel pc : Nat) : List Nat :=
    match fuel with
    | 0 => []
    | f + 1 =>
      if pc ≥ code.size then [] else
      let op := (code.getD pc 0).toNat
      if 0x60 ≤ op ∧ op ≤ 0x7f then
        pushWrites (pc + 1) (op - 0x5f) ++ go f (pc + 1 + (op - 0x5f))
      else go f (pc + 1)
  go code.size 0

/-- `Contract.validJumpdest` -/
def validJumpdest (fr : Frame) (dest : Word) : Bool :=
  decide (dest < 2 ^ 64) && decide (dest < fr.code.size) &&
    ((fr.code.getD dest 0) == 0x5b) && fr.isCode.getD dest false

/-! ## precompiles: `RequiredGas` of contracts.go -/

def blsDiscount : Array Nat := #[1200, 888, 764, 641, 594, 547, 500, 453, 438, 423, 408, 394, 379, 364, 349, 334, 330, 326, 322, 318, 314, 310, 306, 302, 298, 294, 289, 285, 281, 277, 273, 269, 268, 266, 265, 263, 262, 260, 259, 257, 256, 254, 253, 251, 250, 248, 247, 245, 244, 242, 241, 239, 238, 236, 235, 233, 232, 231, 229, 228, 226, 225, 223, 222, 221, 220, 219, 219, 218, 217, 216, 216, 215, 214, 213, 213, 212, 211, 211, 210, 209, 208, 208, 207, 206, 205, 205, 204, 203, 202, 202, 201, 200, 199, 199, 198, 197, 196, 196, 195, 194, 193, 193, 192, 191, 191, 190, 189, 188, 188, 187, 186, 185, 185, 184, 183, 182, 182, 181, 180, 179, 179, 178, 177, 176, 176, 175, 174]

def multiExpGas (len per mulGas : Nat) : Nat :=
  let k := len / per
  if k = 0 then 0 else
  let discount := if k < 128 then blsDiscount.getD (k - 1) 0 else blsDiscount.getD 127 0
  wmul (wmul k mulGas) discount / 1000

/-- `bigModExp.RequiredGas` (EIP-198 pricing, math/big arithmetic) -/
def modExpGas (input : BA) : Nat :=
  let baseLen := beNat (getData input 0 32)
  let expLen := beNat (getData input 32 32)
  let modLen := beNat (getData input 64 32)
  let rest := if input.size > 96 then input.extract 96 input.size else #[]
  let expHead : Nat :=
    if rest.size ≤ baseLen then 0
    else if expLen > 32 then beNat (getData rest (lo64 baseLen) 32)
    else beNat (getData rest (lo64 baseLen) (lo64 expLen))
  let msb := if bitLen expHead > 0 then bitLen expHead - 1 else 0
  let adjExpLen := (if expLen > 32 then 8 * (expLen - 32) else 0) + msb
  let x := max modLen baseLen
  let gas :=
    if x ≤ 64 then x * x
    else if x ≤ 1024 then x * x / 4 + (96 * x - 3072)
    else x * x / 16 + (480 * x - 199680)
  let gas := gas * (max adjExpLen 1) / 20
  if bitLen gas > 64 then maxU64 else gas

def precompileGas (addr : Nat) (input : BA) : Nat :=
  let words := (input.size + 31) / 32
  match addr with
  | 1 => 3000
  | 2 => wadd (wmul words 12) 60
  | 3 => wadd (wmul words 120) 600
  | 4 => wadd (wmul words 3) 15
  | 5 => modExpGas input
  | 6 => 150
  | 7 => 6000
  | 8 => 45000 + (input.size / 192) * 34000
  | 9 => if input.size ≠ 213 then 0 else beNat (input.extract 0 4)
  | 10 => 600
  | 11 => 12000
  | 12 => multiExpGas input.size 160 12000
  | 13 => 4500
  | 14 => 55000
  | 15 => multiExpGas input.size 288 55000
  | 16 => 115000 + (input.size / 384) * 23000
  | 17 => 5500
  | 18 => 110000
  | _ => 0

def isPrecompile (addr : Nat) : Bool := decide (1 ≤ addr ∧ addr ≤ 18)

/-- the input-length gate at the top of each precompile's `Run` (contracts.go): `false` means
    `Run` returns an input-length error before touching the input -/
def precompileLenOk (addr : Nat) (n : Nat) : Bool :=
  match addr with
  | 8 => n % 192 == 0
  | 9 => n == 213
  | 10 => n == 256
  | 11 => n == 160
  | 12 => n != 0 && n % 160 == 0
  | 13 => n == 512
  | 14 => n == 288
  | 15 => n != 0 && n % 288 == 0
  | 16 => n != 0 && n % 384 == 0
  | 17 => n == 64
  | 18 => n == 128
  | _ => true

/-- `bigModExp.Run`: the three operand lengths are the header words **truncated to 64 bits**
    (`new(big.Int).SetBytes(…).Uint64()`), whereas `RequiredGas` priced the untruncated words;
    `Run` allocates `getData(input, …, len)` buffers of these sizes (RightPadBytes) and the
    `modLen`-byte left-padded result. Zero when base and modulus lengths are both zero. -/
def modExpRunAlloc (input : BA) : Nat :=
  let b64 := beNat (getData input 0 32) % 2 ^ 64
  let e64 := beNat (getData input 32 32) % 2 ^ 64
  let m64 := beNat (getData input 64 32) % 2 ^ 64
  if b64 = 0 ∧ m64 = 0 then 0 else b64 + e64 + m64 + m64

/-- bytes `Run` allocates whose amount is dictated by the *content* of the input rather than
    by its length (fixed-size paddings of ecrecover / bn256, the modexp operand buffers) -/
def precompileRunAlloc (addr : Nat) (input : BA) : Nat :=
  match addr with
  | 1 => 128 + 65 + 32
  | 5 => modExpRunAlloc input
  | 6 => 64 + 64 + 64
  | 7 => 64 + 32 + 64
  | 9 => 64
  | _ => 0

/-! ## results -/

/-- result of `EVMInterpreter.Run` plus the gas left in the contract -/
structure RunRes where
  ret : BA
  err : Option Fault
  gas : Nat
  g : Global
  deriving Inhabited

/-- result of `evm.Call` / `Create` … -/
structure CallRes where
  ret : BA
  gas : Nat                  -- leftOverGas
  err : Option Fault
  g : Global
  addr : Nat := 0            -- created address
  deriving Inhabited

inductive Req
  | call (k : CallKind) (addr : Nat) (value : Word) (input : BA) (gas : Nat) (retOff retSize : Nat) (inOff : Nat)
  | create (salt : Option Word) (value : Word) (init : BA) (gas : Nat)
  | authcall (authorized : Nat) (addr : Nat) (value : Word) (input : BA) (gas : Nat) (retOff retSize : Nat)
  deriving Inhabited

/-- what a non-failing `execute` changed (gas is deliberately absent: no
    `execute` other than the call family touches `contract.Gas`) -/
structure Upd where
  push : List Word
  mem : Mem
  pc : Nat
  g : Global
  res : BA
  authorized : Option Nat

inductive ExecOut
  | upd (u : Upd)
  | fault (e : Fault) (g : Global)
  | invoke (r : Req) (deduct : Nat) (g : Global)

/-! ## `execute` -/

def envWord (cx : Ctx) (fr : Frame) (g : Global) (o : EnvOp) : Option (Word × Global) :=
  match o with
  | .address => some (fr.self, g)
  | .origin => some (cx.origin, g)
  | .caller => some (fr.caller, g)
  | .callvalue => some (fr.value, g)
  | .calldatasize => some (fr.input.size, g)
  | .codesize => some (fr.code.size, g)
  | .gasprice => some (cx.gasPrice, g)
  | .coinbase => some (cx.coinbase, g)
  | .timestamp => some (cx.time, g)
  | .number => some (cx.number, g)
  | .difficulty => some (cx.difficulty, g)
  | .gaslimit => some (cx.gasLimit, g)
  | .pc => some (fr.pc, g)
  | .msize => some (fr.mem.size, g)
  | .gas => some (fr.gas, g)
  | .chainid => some (cx.chainId, g)
  | .returndatasize => some (g.rd.size, g)
  | .selfbalance => g.askHexNat ("gb:" ++ hexAddr fr.self)
  | .basefee => some (0, g)
  | .blobbasefee => some (0, g)
  | .push0 => some (0, g)

def mapWord (cx : Ctx) (fr : Frame) (g : Global) (o : MapOp) (x : Word) : Option (Word × Global) :=
  match o with
  | .balance => g.askHexNat ("gb:" ++ hexAddr (addrOf x))
  | .calldataload => if x < 2 ^ 64 then some (beNat (getData fr.input x 32), g) else some (0, g)
  | .extcodesize => g.askNat ("gs:" ++ hexAddr (addrOf x))
  | .extcodehash =>
    match g.askBool ("em:" ++ hexAddr (addrOf x)) with
    | none => none
    | some (true, g1) => some (0, g1)
    | some (false, g1) => g1.askHexNat ("gh:" ++ hexAddr (addrOf x))
  | .blockhash =>
    if ¬ x < 2 ^ 64 then some (0, g) else
    let upper := cx.number % 2 ^ 64
    let lower := if upper < 257 then 0 else upper - 256
    if x ≥ lower ∧ x < upper then g.askHexNat ("bh:" ++ toString x) else some (0, g)
  | .mload => some (beNat (memRead fr.mem (lo64 x) 32), g)
  | .sload => g.askHexNat ("gst:" ++ hexAddr fr.self ++ ":" ++ hexWord x)
  | .tload => g.askHexNat ("gts:" ++ hexAddr fr.self ++ ":" ++ hexWord x)
  | .blobhash => some (0, g)
  | .getstake => some (10, g)          -- no miner is registered in the modelled world

def secpN : Nat := 0xFFFFFFFFFFFFFFFFFFFFFFFFFFFFFFFEBAAEDCE6AF48A03BBFD25E8CD0364141

/-- `calAuthHash` + `validateAuthAddr` of instructions.go: keccak(0x03 ‖ chainId ‖ invoker ‖ commit),
    first under the EIP-191 prefix, then raw; true iff the recovered address is `authority` -/
def authRecovers (chainId : Nat) (invoker : Nat) (commit : BA) (r s vAdapt authority : Nat) : Bool :=
  let msg := #[(0x03 : UInt8)] ++ natBE 32 chainId ++ natBE 32 invoker ++ commit
  let hash := Keccak.keccak256 msg
  let prefixed := Keccak.keccak256 ("\x19Ethereum Signed Message:\n32".toUTF8.data ++ hash)
  match Secp.recoverAddress (beNat prefixed) r s vAdapt with
  | some a => if a = authority then true else
      (match Secp.recoverAddress (beNat hash) r s vAdapt with
       | some b => b = authority
       | none => false)
  | none =>
      (match Secp.recoverAddress (beNat hash) r s vAdapt with
       | some b => b = authority
       | none => false)

def hexTopics (ts : List Word) : String := String.intercalate "." (ts.map hexWord)

/-- The transcribed `execute` functions. `args` are the `e.pops` words popped
    (head = former top), `fr` is the frame after gas was charged and memory resized,
    with `fr.stack` already reduced to the words below the operands. -/
def execOp (cx : Ctx) (ro : Bool) (e : Exec) (fr : Frame) (args : List Word) (g : Global)
    (callGasTemp : Nat) : ExecOut :=
  let keep (push : List Word) (g : Global) : ExecOut :=
    .upd ⟨push, fr.mem, fr.pc, g, #[], fr.authorized⟩
  let bug : ExecOut := .fault .stackBug g
  match e with
  | .stop =>
    match args with
    | [] => keep [] g
    | _ => bug
  | .bin o =>
    match args with
    | [x, y] => keep [evalBin o x y] g
    | _ => bug
  | .un o =>
    match args with
    | [x] => keep [evalUn o x] g
    | _ => bug
  | .tern o =>
    match args with
    | [x, y, z] => keep [evalTern o x y z] g
    | _ => bug
  | .sha3 =>
    match args with
    | [off, size] =>
      keep [beNat (Keccak.keccak256 (memRead fr.mem (lo64 off) (lo64 size)))] g
    | _ => bug
  | .env o =>
    match args with
    | [] =>
      match envWord cx fr g o with
      | some (w, g') => keep [w] g'
      | none => .fault (.desync "env") g
    | _ => bug
  | .map o =>
    match args with
    | [x] =>
      match mapWord cx fr g o x with
      | some (w, g') => keep [w] g'
      | none => .fault (.desync "map") g
    | _ => bug
  | .pop =>
    match args with
    | [_] => keep [] g
    | _ => bug
  | .mstore =>
    match args with
    | [off, val] =>
      .upd ⟨[], memWrite fr.mem (lo64 off) 32 (word32 (val % W256)), fr.pc, g, #[], fr.authorized⟩
    | _ => bug
  | .mstore8 =>
    match args with
    | [off, val] =>
      .upd ⟨[], memWrite fr.mem (lo64 off) 1 #[UInt8.ofNat (val % 256)], fr.pc, g, #[], fr.authorized⟩
    | _ => bug
  | .sstore =>
    match args with
    | [loc, val] =>
      match g.tell ("sst:" ++ hexAddr fr.self ++ ":" ++ hexWord loc ++ ":" ++ hexWord val) with
      | some g' => keep [] g'
      | none => .fault (.desync "sst") g
    | _ => bug
  | .tstore =>
    match args with
    | [loc, val] =>
      if ro then .fault .writeProtection g else
      -- AccountDB.SetTransientState reads the old value first (through the concrete type, not the proxy)
      match g.tell ("sts:" ++ hexAddr fr.self ++ ":" ++ hexWord loc ++ ":" ++ hexWord val) with
      | some g' => keep [] g'
      | none => .fault (.desync "sts") g
    | _ => bug
  | .jump =>
    match args with
    | [pos] =>
      if validJumpdest fr pos then .upd ⟨[], fr.mem, pos, g, #[], fr.authorized⟩
      else .fault .invalidJump g
    | _ => bug
  | .jumpi =>
    match args with
    | [pos, cond] =>
      if cond ≠ 0 then
        if validJumpdest fr pos then .upd ⟨[], fr.mem, pos, g, #[], fr.authorized⟩
        else .fault .invalidJump g
      else .upd ⟨[], fr.mem, fr.pc + 1, g, #[], fr.authorized⟩
    | _ => bug
  | .jumpdest =>
    match args with
    | [] => keep [] g
    | _ => bug
  | .push1 =>
    match args with
    | [] =>
      let pc := fr.pc + 1
      let w := if pc < fr.code.size then (fr.code.getD pc 0).toNat else 0
      .upd ⟨[w], fr.mem, pc, g, #[], fr.authorized⟩
    | _ => bug
  | .push adv n =>
    match args with
    | [] =>
      let codeLen := fr.code.size
      let startMin := min codeLen (fr.pc + 1)
      let endMin := min codeLen (startMin + n)
      let sl := fr.code.extract startMin endMin
      let w := beNat (sl ++ Array.replicate (n - sl.size) (0 : UInt8))
      .upd ⟨[w], fr.mem, fr.pc + adv, g, #[], fr.authorized⟩
    | _ => bug
  | .dup n =>
    if n = 0 ∨ args.length ≠ n then .fault .stackBug g
    else keep (args.getD (n - 1) 0 :: args) g
  | .swap n =>
    match args with
    | [] => .fault .stackBug g
    | top :: below =>
      if n = 0 ∨ below.length ≠ n then .fault .stackBug g
      else keep (below.getD (n - 1) 0 :: (below.take (n - 1) ++ [top])) g
  | .log n =>
    match args with
    | mStart :: mSize :: topics =>
      if topics.length ≠ n then .fault .stackBug g else
      let d := memRead fr.mem (lo64 mStart) (lo64 mSize)
      match g.tell ("lg:" ++ hexAddr fr.self ++ ":" ++ hexTopics topics ++ ":" ++ hexBA d) with
      | some g' => keep [] g'
      | none => .fault (.desync "lg") g
    | _ => bug
  | .copy .calldatacopy =>
    match args with
    | [memOff, dataOff, len] =>
      let dOff := if dataOff < 2 ^ 64 then dataOff else maxU64
      .upd ⟨[], memWrite fr.mem (lo64 memOff) (lo64 len) (getData fr.input dOff (lo64 len)), fr.pc, g, #[], fr.authorized⟩
    | _ => bug
  | .copy .codecopy =>
    match args with
    | [memOff, codeOff, len] =>
      let cOff := if codeOff < 2 ^ 64 then codeOff else maxU64
      .upd ⟨[], memWrite fr.mem (lo64 memOff) (lo64 len) (getData fr.code cOff (lo64 len)), fr.pc, g, #[], fr.authorized⟩
    | _ => bug
  | .copy .returndatacopy =>
    match args with
    | [memOff, dataOff, len] =>
      if ¬ dataOff < 2 ^ 64 then .fault .returnDataOutOfBounds g else
      let e := (dataOff + len) % W256
      if ¬ e < 2 ^ 64 ∨ g.rd.size < e then .fault .returnDataOutOfBounds g else
      .upd ⟨[], memWrite fr.mem (lo64 memOff) (lo64 len) (g.rd.extract dataOff e), fr.pc, g, #[], fr.authorized⟩
    | _ => bug
  | .copy .mcopy =>
    match args with
    | [dst, src, len] =>
      let data := memRead fr.mem (lo64 src) (lo64 len)
      .upd ⟨[], memWrite fr.mem (lo64 dst) (lo64 len) data, fr.pc, g, #[], fr.authorized⟩
    | _ => bug
  | .extcodecopy =>
    match args with
    | [a, memOff, codeOff, len] =>
      let cOff := if codeOff < 2 ^ 64 then codeOff else maxU64
      match g.askBytes ("gc:" ++ hexAddr (addrOf a)) with
      | none => .fault (.desync "gc") g
      | some (code, g') =>
        .upd ⟨[], memWrite fr.mem (lo64 memOff) (lo64 len) (getData code cOff (lo64 len)), fr.pc, g', #[], fr.authorized⟩
    | _ => bug
  | .create =>
    match args with
    | [value, off, size] =>
      let input := memRead fr.mem (lo64 off) (lo64 size)
      let gas := wsub fr.gas (fr.gas / 64)
      .invoke (.create none value input gas) gas g
    | _ => bug
  | .create2 =>
    match args with
    | [value, off, size, salt] =>
      let input := memRead fr.mem (lo64 off) (lo64 size)
      let gas := wsub fr.gas (fr.gas / 64)
      .invoke (.create (some salt) value input gas) gas g
    | _ => bug
  | .call .call =>
    match args with
    | [_, addr, value, inOff, inSize, retOff, retSize] =>
      let args := memRead fr.mem (lo64 inOff) (lo64 inSize)
      let gas := if value ≠ 0 then wadd callGasTemp 2300 else callGasTemp
      .invoke (.call .call (addrOf addr) value args gas (lo64 retOff) (lo64 retSize) (lo64 inOff)) 0 g
    | _ => bug
  | .call .callcode =>
    match args with
    | [_, addr, value, inOff, inSize, retOff, retSize] =>
      let args := memRead fr.mem (lo64 inOff) (lo64 inSize)
      let gas := if value ≠ 0 then wadd callGasTemp 2300 else callGasTemp
      .invoke (.call .callcode (addrOf addr) value args gas (lo64 retOff) (lo64 retSize) (lo64 inOff)) 0 g
    | _ => bug
  | .call .delegatecall =>
    match args with
    | [_, addr, inOff, inSize, retOff, retSize] =>
      let args := memRead fr.mem (lo64 inOff) (lo64 inSize)
      .invoke (.call .delegatecall (addrOf addr) 0 args callGasTemp (lo64 retOff) (lo64 retSize) (lo64 inOff)) 0 g
    | _ => bug
  | .call .staticcall =>
    match args with
    | [_, addr, inOff, inSize, retOff, retSize] =>
      let args := memRead fr.mem (lo64 inOff) (lo64 inSize)
      .invoke (.call .staticcall (addrOf addr) 0 args callGasTemp (lo64 retOff) (lo64 retSize) (lo64 inOff)) 0 g
    | _ => bug
  | .ret =>
    match args with
    | [off, size] =>
      .upd ⟨[], fr.mem, fr.pc, g, memRead fr.mem (lo64 off) (lo64 size), fr.authorized⟩
    | _ => bug
  | .revert =>
    match args with
    | [off, size] =>
      .upd ⟨[], fr.mem, fr.pc, g, memRead fr.mem (lo64 off) (lo64 size), fr.authorized⟩
    | _ => bug
  | .selfdestruct =>
    match args with
    | [beneficiary] =>
      match g.askHexNat ("gb:" ++ hexAddr fr.self) with
      | none => .fault (.desync "gb") g
      | some (bal, g1) =>
        match g1.tell ("ab:" ++ hexAddr (addrOf beneficiary) ++ ":" ++ hexNatMin bal) with
        | none => .fault (.desync "ab") g1
        | some g2 =>
          match g2.ask ("su:" ++ hexAddr fr.self) with
          | none => .fault (.desync "su") g2
          | some (_, g3) => keep [] g3
    | _ => bug
  | .printf =>
    match args with
    | [] => keep [] g
    | _ => bug
  | .stake =>
    match args with
    | [_, _] => keep [0] g            -- no miner registered: pushBool(false)
    | _ => bug
  | .unstake =>
    match args with
    | [_, _] => keep [0] g
    | _ => bug
  | .unstakeall =>
    match args with
    | [_] => .fault .customOpError g
    | _ => bug
  | .stakenum =>
    match args with
    | [_] => .fault .customOpError g
    | _ => bug
  | .auth =>
    match args with
    | [authority, off, len] =>
      if lo64 len < 128 then keep [0] g else
      -- after the fix: the four words are read zero-padded from memory (getData)
      let o := lo64 off
      let v := beNat (getData fr.mem.data o 32)
      let r := beNat (getData fr.mem.data (wadd o 32) 32)
      let s := beNat (getData fr.mem.data (wadd o 64) 32)
      let commit := getData fr.mem.data (wadd o 96) 32
      let vAdapt := if v % 256 > 26 then (v % 256 + 256 - 27) % 256 else v % 256
      let valid := r ≥ 1 ∧ s ≥ 1 ∧ s ≤ secpN / 2 ∧ r < secpN ∧ s < secpN ∧ (vAdapt = 0 ∨ vAdapt = 1)
      -- `callContext.authorized = nil` happens before the signature is looked at
      if ¬ valid then .upd ⟨[0], fr.mem, fr.pc, g, #[], none⟩ else
      let ok := authRecovers cx.chainId fr.self commit r s vAdapt (addrOf authority)
      if ok then .upd ⟨[1], fr.mem, fr.pc, g, #[], some (addrOf authority)⟩
      else .upd ⟨[0], fr.mem, fr.pc, g, #[], none⟩
    | _ => bug
  | .authcall =>
    match args with
    | [nonce, _, addr, value, valueExt, argsOff, argsLen, retOff, retLen] =>
      if valueExt ≠ 0 then keep [0] g
      else match fr.authorized with
        | none => keep [0] g
        | some auth =>
          let data := memRead fr.mem (lo64 argsOff) (lo64 argsLen)
          match g.askNat ("gn:" ++ hexAddr auth) with
          | none => .fault (.desync "gn") g
          | some (expected, g1) =>
            if expected < lo64 nonce then
              .upd ⟨[0], memWrite fr.mem (lo64 retOff) (lo64 retLen) "nonce too high".toUTF8.data, fr.pc, g1, #[], fr.authorized⟩
            else if expected > lo64 nonce then
              .upd ⟨[0], memWrite fr.mem (lo64 retOff) (lo64 retLen) "nonce too low".toUTF8.data, fr.pc, g1, #[], fr.authorized⟩
            else
              .invoke (.authcall auth (addrOf addr) value data callGasTemp (lo64 retOff) (lo64 retLen)) 0 g1
    | _ => bug
  | .unknown => .fault .invalidOpCode g

/-! ## `EVMInterpreter.Run`: one iteration up to `execute` -/

inductive PreOut
  | fault (e : Fault) (g : Global)
  | ok (info : OpInfo) (fr : Frame) (args : List Word) (g : Global) (callGasTemp : Nat)

/-- `UseGas` -/
def useGas (gas cost : Nat) : Option Nat := if gas < cost then none else some (gas - cost)

def stepPre (cx : Ctx) (ro : Bool) (fr : Frame) (g : Global) : PreOut :=
  let op := (fr.code.getD fr.pc 0).toNat           -- contract.GetOp(pc): 0 beyond the code
  match cx.table.getD op none with
  | none => .fault .invalidOpCode g
  | some info =>
    let sLen := fr.stack.length
    if sLen < info.minStack then .fault .stackUnderflow g
    else if sLen > info.maxStack then .fault .stackOverflow g
    else if ro ∧ (info.writes ∨ (op = 0xf1 ∧ back fr.stack 2 ≠ 0)) then .fault .writeProtection g
    else
      match useGas fr.gas info.constGas with
      | none => .fault .outOfGas g
      | some gas1 =>
        -- memory size, word-rounded, with both overflow checks
        let ms : Option Nat :=
          match memSizeFn info.mem fr.stack with
          | none => some 0
          | some (sz, ov) =>
            if ov then none else
            let r := safeMul (toWordSize sz) 32
            if r.2 then none else some r.1
        match ms with
        | none => .fault .gasUintOverflow g
        | some memorySize =>
          match dynGas cx.gc info.dyn fr.stack fr.mem memorySize gas1 fr.self g with
          | .desync k => .fault (.desync k) g
          | .err g' => .fault .outOfGas g'
          | .ok cost m' g' cgt =>
            match useGas gas1 cost with
            | none => .fault .outOfGas g'
            | some gas2 =>
              let m'' := if memorySize > 0 then m'.resize memorySize else m'
              .ok info { fr with gas := gas2, mem := m'', stack := fr.stack.drop info.exec.pops }
                (fr.stack.take info.exec.pops) g' cgt

/-! ## frames -/

def emptyCodeHash : Nat := 0xc5d2460186f7233c927e7db2dcc703c0e500b653ca82273b7bfad8045d85a470

def mkFrame (code : BA) (gas self caller : Nat) (value : Word) (input : BA) : Frame :=
  { code := code, isCode := analyse code, pc := 0, gas := gas, stack := [], mem := Mem.empty,
    self := self, caller := caller, value := value, input := input, authorized := none }

abbrev Runner := (depth : Nat) → (ro : Bool) → Frame → Global → RunRes

/-- `run(evm, contract, input, readOnly)` → `Interpreter.Run`: depth++, returnData = nil,
    empty code returns at once. `depth` is `evm.depth` *before* the increment. -/
def runContract (run : Runner) (depth : Nat) (ro : Bool) (fr : Frame) (g : Global) : RunRes :=
  let g := { g with rd := #[] }
  if fr.code.size = 0 then ⟨#[], none, fr.gas, g⟩
  else run (depth + 1) ro fr g

/-- `RunPrecompiledContract` -/
def runPrecompile (addr : Nat) (input : BA) (gas : Nat) (g : Global) : CallRes :=
  let cost := precompileGas addr input
  if gas < cost then ⟨#[], 0, some .outOfGas, g, 0⟩ else
  match g.ask ("pc:" ++ hexAddr addr ++ ":" ++ hexBA input) with
  | none => ⟨#[], 0, some (.desync ("pc:" ++ hexAddr addr ++ ":" ++ hexBA input)), g, 0⟩
  | some (a, g') =>
    if a.startsWith "ok:" then
      -- a `Run` that succeeded passed its input-length gate
      if ¬ precompileLenOk addr input.size then ⟨#[], 0, some (.desync "pc-length-gate"), g', 0⟩ else
      match unhex? (String.ofList (a.toList.drop 3)) with
      | some out =>
        -- where the body of `Run` is modelled, the recorded output must be the model's
        match precompileRunModel addr input with
        | some (some expected) => if expected = out then ⟨out, gas - cost, none, g', 0⟩ else ⟨#[], 0, some (.desync "pc-output"), g', 0⟩
        | some none => ⟨#[], 0, some (.desync "pc-should-fail"), g', 0⟩
        | none => ⟨out, gas - cost, none, g', 0⟩
      | none => ⟨#[], 0, some (.desync "pc-answer"), g', 0⟩
    else
      match precompileRunModel addr input with
      | some (some _) => ⟨#[], 0, some (.desync "pc-should-succeed"), g', 0⟩
      | _ => ⟨#[], gas - cost, some .precompileError, g', 0⟩

/-- common tail of Call/CallCode/DelegateCall/StaticCall: revert + gas confiscation -/
def finishCallRes (snap : String) (ret : BA) (gas : Nat) (err : Option Fault) (g : Global) : CallRes :=
  match err with
  | none => ⟨ret, gas, none, g, 0⟩
  | some e =>
    if e.isAbort then ⟨ret, gas, some e, g, 0⟩ else
    match g.tell ("rv:" ++ snap) with
    | none => ⟨ret, gas, some (.desync "rv"), g, 0⟩
    | some g' => ⟨ret, if e = .reverted then gas else 0, some e, g', 0⟩

/-- `evm.Call / CallCode / DelegateCall / StaticCall` (evm.go). `fr` is the calling
    frame (`caller ContractRef`); at top level a pseudo-frame whose `self` is the origin. -/
def evmCall (run : Runner) (depth : Nat) (ro : Bool) (k : CallKind)
    (callerSelf callerCaller : Nat) (callerValue : Word)
    (addr : Nat) (value : Word) (input : BA) (gas : Nat) (g : Global) : CallRes :=
  if depth > 1024 then ⟨#[], gas, some .depth, g, 0⟩ else
  let bad (k : String) (g : Global) : CallRes := ⟨#[], gas, some (.desync k), g, 0⟩
  -- CanTransfer
  let canTransfer : Option (Bool × Global) :=
    match k with
    | .call =>
      if value ≠ 0 then
        match g.askHexNat ("gb:" ++ hexAddr callerSelf) with
        | some (bal, g') => some (decide (bal ≥ value), g')
        | none => none
      else some (true, g)
    | .callcode =>
      match g.askHexNat ("gb:" ++ hexAddr callerSelf) with
      | some (bal, g') => some (decide (bal ≥ value), g')
      | none => none
    | _ => some (true, g)
  match canTransfer with
  | none => bad "gb" g
  | some (false, g0) => ⟨#[], gas, some .insufficientBalance, g0, 0⟩
  | some (true, g0) =>
  match g0.ask "sp" with
  | none => bad "sp" g0
  | some (snap, g1) =>
  match k with
  | .call =>
    match g1.askBool ("ex:" ++ hexAddr addr) with
    | none => bad "ex" g1
    | some (exist, g2) =>
      if ¬ exist ∧ ¬ isPrecompile addr ∧ value = 0 then ⟨#[], gas, none, g2, 0⟩ else
      let g3? := if exist then some g2 else g2.tell ("ca:" ++ hexAddr addr)
      match g3? with
      | none => bad "ca" g2
      | some g3 =>
      match g3.tell ("sb:" ++ hexAddr callerSelf ++ ":" ++ hexNatMin value) with
      | none => bad "sb" g3
      | some g4 =>
      match g4.tell ("ab:" ++ hexAddr addr ++ ":" ++ hexNatMin value) with
      | none => bad "ab" g4
      | some g5 =>
        if isPrecompile addr then
          let r := runPrecompile addr input gas g5
          finishCallRes snap r.ret r.gas r.err r.g
        else
          match g5.askBytes ("gc:" ++ hexAddr addr) with
          | none => bad "gc" g5
          | some (code, g6) =>
            if code.size = 0 then ⟨#[], gas, none, g6, 0⟩ else
            match g6.ask ("gh:" ++ hexAddr addr) with
            | none => bad "gh" g6
            | some (_, g7) =>
              let r := runContract run depth ro (mkFrame code gas addr callerSelf value input) g7
              finishCallRes snap r.ret r.gas r.err r.g
  | .callcode =>
    if isPrecompile addr then
      let r := runPrecompile addr input gas g1
      finishCallRes snap r.ret r.gas r.err r.g
    else
      match g1.ask ("gh:" ++ hexAddr addr) with
      | none => bad "gh" g1
      | some (_, g2) =>
      match g2.askBytes ("gc:" ++ hexAddr addr) with
      | none => bad "gc" g2
      | some (code, g3) =>
        let r := runContract run depth ro (mkFrame code gas callerSelf callerSelf value input) g3
        finishCallRes snap r.ret r.gas r.err r.g
  | .delegatecall =>
    if isPrecompile addr then
      let r := runPrecompile addr input gas g1
      finishCallRes snap r.ret r.gas r.err r.g
    else
      match g1.ask ("gh:" ++ hexAddr addr) with
      | none => bad "gh" g1
      | some (_, g2) =>
      match g2.askBytes ("gc:" ++ hexAddr addr) with
      | none => bad "gc" g2
      | some (code, g3) =>
        let r := runContract run depth ro (mkFrame code gas callerSelf callerCaller callerValue input) g3
        finishCallRes snap r.ret r.gas r.err r.g
  | .staticcall =>
    match g1.tell ("ab:" ++ hexAddr addr ++ ":") with
    | none => bad "ab" g1
    | some g2 =>
    if isPrecompile addr then
      let r := runPrecompile addr input gas g2
      finishCallRes snap r.ret r.gas r.err r.g
    else
      match g2.ask ("gh:" ++ hexAddr addr) with
      | none => bad "gh" g2
      | some (_, g3) =>
      match g3.askBytes ("gc:" ++ hexAddr addr) with
      | none => bad "gc" g3
      | some (code, g4) =>
        let r := runContract run depth true (mkFrame code gas addr callerSelf 0 input) g4
        finishCallRes snap r.ret r.gas r.err r.g

/-- RLP of `[address, nonce]` (crypto.CreateAddress) -/
def rlpAddrNonce (addr nonce : Nat) : BA :=
  let nb : BA :=
    if nonce = 0 then #[0x80]
    else if nonce < 128 then #[UInt8.ofNat nonce]
    else
      let rec len (fuel n acc : Nat) : Nat :=
        match fuel with
        | 0 => acc
        | f + 1 => if n = 0 then acc else len f (n / 256) (acc + 1)
      let l := len 9 nonce 0
      #[UInt8.ofNat (0x80 + l)] ++ natBE l nonce
  let payload := #[(0x94 : UInt8)] ++ natBE 20 addr ++ nb
  #[UInt8.ofNat (0xc0 + payload.size)] ++ payload

def createAddress (addr nonce : Nat) : Nat :=
  beNat ((Keccak.keccak256 (rlpAddrNonce addr nonce)).extract 12 32)

def createAddress2 (addr : Nat) (salt : Word) (init : BA) : Nat :=
  beNat ((Keccak.keccak256 (#[(0xff : UInt8)] ++ natBE 20 addr ++ word32 salt ++ Keccak.keccak256 init)).extract 12 32)

def maxCodeSize : Nat := 245760

def isAbortErr (e : Option Fault) : Bool :=
  match e with
  | some e => e.isAbort
  | none => false

/-- `evm.create`: code deposit (`createDataGas`, `SetCode`) after a successful init run -/
def createDeposit (p26 : Bool) (address : Nat) (r : RunRes) : CallRes :=
  let createDataGas := wmul r.ret.size 200
  let createDataGas := if p26 then wmul createDataGas gasMagnification else createDataGas
  match useGas r.gas createDataGas with
  | some gasLeft =>
    match r.g.tell ("sc:" ++ hexAddr address ++ ":" ++ hexBA r.ret) with
    | some g' => ⟨r.ret, gasLeft, none, g', address⟩
    | none => ⟨r.ret, r.gas, some (.desync "sc"), r.g, address⟩
  | none => ⟨r.ret, r.gas, some .codeStoreOutOfGas, r.g, address⟩     -- kept: no revert, gas stays

/-- `evm.create`: revert to the snapshot and confiscate the gas unless the init code reverted -/
def createRevert (address : Nat) (snap : String) (tooBig : Bool) (r : RunRes) : CallRes :=
  match r.g.tell ("rv:" ++ snap) with
  | none => ⟨r.ret, r.gas, some (.desync "rv"), r.g, address⟩
  | some g' =>
    ⟨r.ret, if r.err ≠ some .reverted then 0 else r.gas,
      if tooBig ∧ r.err.isNone then some .maxCodeSizeExceeded else r.err, g', address⟩

/-- the part of `evm.create` after the init code ran: size check, code deposit,
    revert + gas confiscation -/
def createFinish (p26 : Bool) (address : Nat) (snap : String) (r : RunRes) : CallRes :=
  if isAbortErr r.err then ⟨r.ret, r.gas, r.err, r.g, address⟩ else
  let tooBig := decide (r.ret.size > maxCodeSize)
  if r.err.isNone ∧ ¬ tooBig then createDeposit p26 address r
  else createRevert address snap tooBig r

/-- `evm.Create` / `evm.Create2` → `evm.create` -/
def evmCreate (cx : Ctx) (run : Runner) (depth : Nat) (ro : Bool) (callerSelf : Nat)
    (salt : Option Word) (value : Word) (init : BA) (gas : Nat) (g : Global) : CallRes :=
  let bad (k : String) (g : Global) : CallRes := ⟨#[], gas, some (.desync k), g, 0⟩
  -- Create: address from the caller's nonce; Create2: from salt and init-code hash
  let addr? : Option (Nat × Global) :=
    match salt with
    | none =>
      match g.askNat ("gn:" ++ hexAddr callerSelf) with
      | some (n, g') => some (createAddress callerSelf n, g')
      | none => none
    | some s => some (createAddress2 callerSelf s init, g)
  match addr? with
  | none => bad "gn" g
  | some (address, g0) =>
  if depth > 1024 then ⟨#[], gas, some .depth, g0, 0⟩ else
  match g0.askHexNat ("gb:" ++ hexAddr callerSelf) with
  | none => bad "gb" g0
  | some (bal, g1) =>
  if bal < value then ⟨#[], gas, some .insufficientBalance, g1, 0⟩ else
  match g1.askNat ("gn:" ++ hexAddr callerSelf) with
  | none => bad "gn" g1
  | some (nonce, g2) =>
  let g3? := if cx.bumpNonce then g2.tell ("sn:" ++ hexAddr callerSelf ++ ":" ++ toString (wadd nonce 1)) else some g2
  match g3? with
  | none => bad "sn" g2
  | some g3 =>
  match g3.tell ("aal:" ++ hexAddr address) with
  | none => bad ("aal:" ++ hexAddr address) g3
  | some g4 =>
  match g4.askHexNat ("gh:" ++ hexAddr address) with
  | none => bad "gh" g4
  | some (hash, g5) =>
  match g5.askNat ("gn:" ++ hexAddr address) with
  | none => bad "gn" g5
  | some (n2, g6) =>
  if n2 ≠ 0 ∨ (hash ≠ 0 ∧ hash ≠ emptyCodeHash) then ⟨#[], 0, some .addressCollision, g6, 0⟩ else
  match g6.ask "sp" with
  | none => bad "sp" g6
  | some (snap, g7) =>
  match g7.tell ("ca:" ++ hexAddr address) with
  | none => bad "ca" g7
  | some g8 =>
  match g8.tell ("sn:" ++ hexAddr address ++ ":1") with
  | none => bad "sn1" g8
  | some g9 =>
  match g9.tell ("sb:" ++ hexAddr callerSelf ++ ":" ++ hexNatMin value) with
  | none => bad "sb" g9
  | some g10 =>
  match g10.tell ("ab:" ++ hexAddr address ++ ":" ++ hexNatMin value) with
  | none => bad "ab" g10
  | some g11 =>
    createFinish cx.gc.p26 address snap
      (runContract run depth ro (mkFrame init gas address callerSelf value #[]) g11)

/-- `evm.AuthCall(sponsor = origin, caller = authorized, …)` (evm.go) -/
def evmAuthCall (cx : Ctx) (run : Runner) (depth : Nat) (ro : Bool) (auth : Nat)
    (addr : Nat) (value : Word) (input : BA) (gas : Nat) (g : Global) : CallRes :=
  if depth > 1024 then ⟨#[], gas, some .depth, g, 0⟩ else
  let bad (k : String) (g : Global) : CallRes := ⟨#[], gas, some (.desync k), g, 0⟩
  let sponsor := cx.origin
  let canTransfer : Option (Bool × Global) :=
    if value ≠ 0 then
      match g.askHexNat ("gb:" ++ hexAddr sponsor) with
      | some (bal, g') => some (decide (bal ≥ value), g')
      | none => none
    else some (true, g)
  match canTransfer with
  | none => bad "gb" g
  | some (false, g0) => ⟨#[], gas, some .insufficientBalance, g0, 0⟩
  | some (true, g0) =>
  match g0.askNat ("gn:" ++ hexAddr auth) with
  | none => bad "gn" g0
  | some (nonce, ga) =>
  match ga.tell ("sn:" ++ hexAddr auth ++ ":" ++ toString (wadd nonce 1)) with
  | none => bad "sn" ga
  | some gb =>
  match gb.ask "sp" with
  | none => bad "sp" gb
  | some (snap, g1) =>
  match g1.askBool ("ex:" ++ hexAddr addr) with
  | none => bad "ex" g1
  | some (exist, g2) =>
    if ¬ exist ∧ ¬ isPrecompile addr ∧ value = 0 then ⟨#[], gas, none, g2, 0⟩ else
    let g3? := if exist then some g2 else g2.tell ("ca:" ++ hexAddr addr)
    match g3? with
    | none => bad "ca" g2
    | some g3 =>
    match g3.tell ("sb:" ++ hexAddr sponsor ++ ":" ++ hexNatMin value) with
    | none => bad "sb" g3
    | some g4 =>
    match g4.tell ("ab:" ++ hexAddr addr ++ ":" ++ hexNatMin value) with
    | none => bad "ab" g4
    | some g5 =>
      if isPrecompile addr then
        let r := runPrecompile addr input gas g5
        finishCallRes snap r.ret r.gas r.err r.g
      else
        match g5.askBytes ("gc:" ++ hexAddr addr) with
        | none => bad "gc" g5
        | some (code, g6) =>
          if code.size = 0 then ⟨#[], gas, none, g6, 0⟩ else
          match g6.ask ("gh:" ++ hexAddr addr) with
          | none => bad "gh" g6
          | some (_, g7) =>
            let r := runContract run depth ro (mkFrame code gas addr auth value input) g7
            finishCallRes snap r.ret r.gas r.err r.g

/-- dispatch of an `ExecOut.invoke` -/
def doInvoke (cx : Ctx) (run : Runner) (depth : Nat) (ro : Bool) (fr : Frame) (r : Req) (g : Global) : CallRes :=
  match r with
  | .call k addr value input gas _ _ _ =>
    evmCall run depth ro k fr.self fr.caller fr.value addr value input gas g
  | .create salt value init gas =>
    evmCreate cx run depth ro fr.self salt value init gas g
  | .authcall auth addr value input gas _ _ =>
    evmAuthCall cx run depth ro auth addr value input gas g

/-- what `opCall…`/`opCreate…` do with the callee's result -/
def resume (fr : Frame) (r : Req) (cr : CallRes) : Frame × BA :=
  match r with
  | .call _ addr _ input _ retOff retSize inOff =>
    let flag : Word := if cr.err.isSome then 0 else 1
    let mem := if cr.err.isNone ∨ cr.err = some .reverted then memWrite fr.mem retOff retSize cr.ret else fr.mem
    -- the identity precompile returns its input slice itself (`dataCopy.Run: return in`), which
    -- aliases the caller's memory: `returnData` is copied only after the result was written
    -- back at `retOffset`, so it sees that write where the two windows overlap
    let res := if addr = 4 ∧ cr.err.isNone ∧ input.size > 0 then memRead mem inOff input.size else cr.ret
    ({ fr with stack := flag :: fr.stack, mem := mem, gas := wadd fr.gas cr.gas }, res)
  | .authcall _ _ _ _ _ retOff retSize =>
    let flag : Word := if cr.err.isSome then 0 else 1
    let mem := if cr.err.isNone ∨ cr.err = some .reverted then memWrite fr.mem retOff retSize cr.ret else fr.mem
    ({ fr with stack := flag :: fr.stack, mem := mem, gas := wadd fr.gas cr.gas }, cr.ret)
  | .create _ _ _ _ =>
    let w : Word := if cr.err.isSome then 0 else cr.addr
    ({ fr with stack := w :: fr.stack, gas := wadd fr.gas cr.gas },
      if cr.err = some .reverted then cr.ret else #[])

/-! ## the loop -/

/-- what `Run` does after `execute` returned without error: set the return data,
    then `reverts` / `halts` / `pc++` as the table's flags say, and loop (`cont`) -/
def finishStep (info : OpInfo) (cont : Frame → Global → RunRes) (fr2 : Frame) (res : BA) (g2 : Global) : RunRes :=
  let g3 := if info.returns then { g2 with rd := res } else g2
  if info.reverts then ⟨res, some .reverted, fr2.gas, g3⟩
  else if info.halts then ⟨res, none, fr2.gas, g3⟩
  else cont (if info.jumps then fr2 else { fr2 with pc := fr2.pc + 1 }) g3

/-- ghost bookkeeping at the head of an iteration -/
def Global.observe (g : Global) (depth stackLen : Nat) : Global :=
  { g with steps := g.steps + 1, hwStack := max g.hwStack stackLen, hwDepth := max g.hwDepth depth }

/-- `EVMInterpreter.Run`'s `for` loop. `depth` is `evm.depth` inside this Run. -/
def runLoop (cx : Ctx) : (fuel : Nat) → Runner
  | 0, _, _, fr, g => ⟨#[], some .outOfFuel, fr.gas, g⟩
  | fuel + 1, depth, ro, fr, g =>
    match stepPre cx ro fr (g.observe depth fr.stack.length) with
    | .fault e g' => ⟨#[], some e, fr.gas, g'⟩
    | .ok info fr1 args g1 cgt =>
      match execOp cx ro info.exec fr1 args g1 cgt with
      | .fault e g2 => ⟨#[], some e, fr1.gas, g2⟩
      | .upd u =>
        finishStep info (runLoop cx fuel depth ro)
          { fr1 with stack := u.push ++ fr1.stack, mem := u.mem, pc := u.pc, authorized := u.authorized } u.res u.g
      | .invoke req deduct g2 =>
        let fr2 := { fr1 with gas := fr1.gas - deduct }
        let cr := doInvoke cx (runLoop cx fuel) depth ro fr2 req g2
        if isAbortErr cr.err then ⟨#[], cr.err, fr2.gas, cr.g⟩
        else finishStep info (runLoop cx fuel depth ro) (resume fr2 req cr).1 (resume fr2 req cr).2 cr.g

/-- top-level `evm.Call` from an externally owned `origin` (contract_executor.go) -/
def topCall (cx : Ctx) (fuel : Nat) (addr : Nat) (value : Word) (input : BA) (gas : Nat) (g : Global) : CallRes :=
  evmCall (runLoop cx fuel) 0 false .call cx.origin cx.origin 0 addr value input gas g

/-- top-level `evm.StaticCall` (what `eth_call`-style read-only entry points use) -/
def topStaticCall (cx : Ctx) (fuel : Nat) (addr : Nat) (input : BA) (gas : Nat) (g : Global) : CallRes :=
  evmCall (runLoop cx fuel) 0 false .staticcall cx.origin cx.origin 0 addr 0 input gas g

/-- top-level `evm.Create` -/
def topCreate (cx : Ctx) (fuel : Nat) (value : Word) (init : BA) (gas : Nat) (g : Global) : CallRes :=
  evmCreate cx (runLoop cx fuel) 0 false cx.origin none value init gas g

end Rangers.Evm11
