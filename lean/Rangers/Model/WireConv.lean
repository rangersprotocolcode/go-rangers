import Rangers.Model.Wire
import Rangers.Model.Json
import Rangers.Model.WireSha256
/-!
C09 model, part 3: the in-memory types of `src/middleware/types` (by content), the
converters of serialization.go in both directions, `MarshalX`/`UnMarshalX`, and the inputs of
the identifying hashes (`BlockHeader.GenHash`, `Transaction.GenHash`, `GroupHeader.GenHash`).

Which pointer dereferences can panic is *not* written down here: it is read from
`Generated.C09` (regenerated from serialization.go on every run).
-/
namespace Rangers.Wire
open Rangers Rangers.Json

inductive Outcome (α : Type) where
  | ok (a : α)
  | err                 -- (zero value, non-nil error)
  | nilObj              -- (nil, nil): neither an object nor an error
  | panic (site : Nat)  -- the goroutine panics (nil pointer dereference) at deref site `fn*100+field`
  deriving Repr, DecidableEq

/-! ### facts read from the source -/

/-- The dereference `*p.Field` in converter `fn` cannot fault: either it is no longer a
    dereference (nil-safe getter) or a `!= nil` test dominates it. -/
def siteSafe (fn field : Nat) : Bool :=
  Generated.C09.derefSites.all (fun s => !(s.fn == fn && s.field == field) || s.guarded)

def derefNat (fn field : Nat) : Option Nat → Outcome Nat
  | some v => .ok v
  | none => if siteSafe fn field then .ok 0 else .panic (fn * 100 + field)

def derefStr (fn field : Nat) : Option Bytes → Outcome Bytes
  | some v => .ok v
  | none => if siteSafe fn field then .ok [] else .panic (fn * 100 + field)

/-! ### in-memory values -/

structure Tx where
  source : Bytes
  target : Bytes
  type : Nat                 -- int32 bit pattern
  time : Bytes
  data : Bytes
  extraData : Bytes
  extraDataType : Nat        -- int32 bit pattern
  subTx : Bytes              -- `json.Marshal(SubTransactions)` ("null" for nil)
  subHash : Bytes            -- 32 bytes
  hash : Bytes               -- 32 bytes
  sign : Option Bytes        -- `*common.Sign` as its 65 bytes r‖s‖recid
  nonce : Nat
  requestId : Nat
  socketRequestId : Bytes
  chainId : Bytes
  deriving Repr, DecidableEq, Inhabited

structure Header where
  hash : Bytes
  height : Nat
  preHash : Bytes
  preTime : GoTime
  proveValue : Option Int
  totalQN : Nat
  curTime : GoTime
  castor : Option Bytes
  groupId : Option Bytes
  signature : Option Bytes
  nonce : Nat
  requestIds : ReqIds
  transactions : Option (List (Bytes × Bytes))
  txTree : Bytes
  receiptTree : Bytes
  stateTree : Bytes
  extraData : Option Bytes
  random : Option Bytes
  evictedTxs : Option (List Bytes)
  deriving Repr, DecidableEq, Inhabited

structure Block where
  header : Option Header     -- `*BlockHeader`, nil possible (PbToBlock keeps a nil header)
  txs : List Tx
  deriving Repr, DecidableEq, Inhabited

structure GroupHeader where
  hash : Bytes
  parent : Option Bytes
  preGroup : Option Bytes
  createBlockHash : Option Bytes
  beginTime : GoTime
  memberRoot : Bytes
  createHeight : Nat
  readyHeight : Nat
  workHeight : Nat
  dismissHeight : Nat
  extends_ : Bytes
  deriving Repr, DecidableEq, Inhabited

structure Group where
  header : GroupHeader
  id : Option Bytes
  pubKey : Option Bytes
  signature : Option Bytes
  members : List Bytes
  groupHeight : Nat
  deriving Repr, DecidableEq, Inhabited

structure Member where
  id : Option Bytes
  pubKey : Option Bytes
  deriving Repr, DecidableEq, Inhabited

/-- `common.BytesToHash`: crop from the left, left-pad with zeros, always 32 bytes. -/
def bytesToHash (b : Bytes) : Bytes :=
  if b.length > 32 then b.drop (b.length - 32) else List.replicate (32 - b.length) 0 ++ b

def optHash (o : Option Bytes) : Bytes := bytesToHash (o.getD [])

/-! ### value → protobuf struct -/

def nonEmpty (b : Bytes) : Option Bytes := if b = [] then none else some b

def txToPb (t : Tx) : PbTx :=
  { data := nonEmpty t.data, nonce := some t.nonce, source := nonEmpty t.source, target := nonEmpty t.target,
    type := some t.type, hash := some t.hash, extraData := some t.extraData,
    extraDataType := some t.extraDataType, sign := t.sign, time := some t.time,
    requestId := some t.requestId, socketRequestId := none, subTransactions := some t.subTx,
    subHash := some t.subHash, chainId := some t.chainId }

/-- `BlockHeaderToPb`; `none` = returns nil because a time does not marshal. -/
def headerToPb (h : Header) : Option PbHeader :=
  match timeToBin h.preTime with
  | none => none
  | some pt =>
    match timeToBin h.curTime with
    | none => none
    | some ct =>
      some { hash := some h.hash, height := some h.height, preHash := some h.preHash, preTime := some pt,
             proveValue := h.proveValue.map (fun v => natToBE v.natAbs), totalQN := some h.totalQN,
             curTime := some ct, castor := h.castor, groupId := h.groupId, signature := h.signature,
             nonce := some h.nonce,
             transactions := (h.transactions.getD []).map (fun p => ⟨some p.1, some p.2⟩),
             txTree := some h.txTree, receiptTree := some h.receiptTree, stateTree := some h.stateTree,
             extraData := h.extraData, random := h.random, proveRoot := none,
             evictedTxs := some (h.evictedTxs.getD []), requestIds := some (encReqIds h.requestIds) }

def groupHeaderToPb (g : GroupHeader) : PbGroupHeader :=
  { hash := some g.hash, parent := g.parent, preGroup := g.preGroup, createBlockHash := g.createBlockHash,
    beginTime := timeToBin g.beginTime, memberRoot := some g.memberRoot,
    createHeight := some g.createHeight, extends_ := some g.extends_ }

def groupToPb (g : Group) : PbGroup :=
  { header := some (groupHeaderToPb g.header), id := g.id, pubKey := g.pubKey, signature := g.signature,
    members := g.members, groupHeight := some g.groupHeight }

/-! ### protobuf struct → value -/

/-- `json.Unmarshal(raw, &subTransactions)` (error ignored) seen through `json.Marshal`: absent, empty
    and `null` give a nil slice; bytes in the modelled `[]UserData` class are decoded and re-rendered
    (sorted maps, omitted empty fields, strings coerced to valid UTF-8); other bytes are left as they
    are (the driver answers `unmodelled` for them). -/
def normSubTx (o : Option Bytes) : Bytes :=
  match o with
  | none => jsonNull
  | some raw =>
    if raw = [] then jsonNull
    else match parseSubTx raw with
      | some l => encSubTx l
      | none => raw

def pbToTx (p : PbTx) : Outcome Tx :=
  match derefStr 1 1 p.data with
  | .ok data =>
    match derefNat 1 2 p.nonce with
    | .ok nonce =>
      match derefNat 1 11 p.requestId with
      | .ok requestId =>
        match derefStr 1 4 p.target with
        | .ok target =>
          match derefNat 1 8 p.extraDataType with
          | .ok edt =>
            match derefNat 1 5 p.type with
            | .ok ty =>
              match derefStr 1 10 p.time with
              | .ok time =>
                match derefStr 1 12 p.socketRequestId with
                | .ok sock =>
                  match derefStr 1 15 p.chainId with
                  | .ok chainId =>
                    .ok { source := p.source.getD [], target := target, type := ty, time := time, data := data,
                          extraData := p.extraData.getD [], extraDataType := edt,
                          subTx := normSubTx p.subTransactions, subHash := optHash p.subHash,
                          hash := optHash p.hash,
                          sign := (match p.sign with
                                   | some b => if b.length = 65 then some b else none
                                   | none => none),
                          nonce := nonce, requestId := requestId, socketRequestId := sock, chainId := chainId }
                  | .err => .err | .nilObj => .nilObj | .panic s => .panic s
                | .err => .err | .nilObj => .nilObj | .panic s => .panic s
              | .err => .err | .nilObj => .nilObj | .panic s => .panic s
            | .err => .err | .nilObj => .nilObj | .panic s => .panic s
          | .err => .err | .nilObj => .nilObj | .panic s => .panic s
        | .err => .err | .nilObj => .nilObj | .panic s => .panic s
      | .err => .err | .nilObj => .nilObj | .panic s => .panic s
    | .err => .err | .nilObj => .nilObj | .panic s => .panic s
  | .err => .err | .nilObj => .nilObj | .panic s => .panic s

def pbToTxs : List PbTx → Outcome (List Tx)
  | [] => .ok []
  | p :: ps =>
    match pbToTx p with
    | .ok t =>
      (match pbToTxs ps with
       | .ok ts => .ok (t :: ts)
       | .err => .err | .nilObj => .nilObj | .panic s => .panic s)
    | .err => .err | .nilObj => .nilObj | .panic s => .panic s

def pbToHeader (p : PbHeader) : Outcome Header :=
  match binToTime (p.preTime.getD []) with
  | none => .nilObj
  | some pt =>
    match binToTime (p.curTime.getD []) with
    | none => .nilObj
    | some ct =>
      match derefNat 2 2 p.height with
      | .ok height =>
        match derefNat 2 11 p.nonce with
        | .ok nonce =>
          match derefNat 2 6 p.totalQN with
          | .ok totalQN =>
            .ok { hash := optHash p.hash, height := height, preHash := optHash p.preHash, preTime := pt,
                  proveValue := p.proveValue.map (fun b => (beToNat b : Int)), totalQN := totalQN, curTime := ct,
                  castor := p.castor, groupId := p.groupId, signature := p.signature, nonce := nonce,
                  requestIds := (match p.requestIds with
                                 | none => .nil
                                 | some raw => decReqIds raw),
                  transactions := some (p.transactions.map (fun t => (optHash t.hash, optHash t.subHash))),
                  txTree := optHash p.txTree, receiptTree := optHash p.receiptTree,
                  stateTree := optHash p.stateTree, extraData := p.extraData, random := p.random,
                  evictedTxs := some ((p.evictedTxs.getD []).map bytesToHash) }
          | .err => .err | .nilObj => .nilObj | .panic s => .panic s
        | .err => .err | .nilObj => .nilObj | .panic s => .panic s
      | .err => .err | .nilObj => .nilObj | .panic s => .panic s

def pbToGroupHeader (o : Option PbGroupHeader) : Outcome GroupHeader :=
  match o with
  | none => if Generated.C09.nilCheckedParams.contains 3 then .nilObj else .panic 300
  | some g =>
    match derefNat 3 7 g.createHeight with
    | .err => .err | .nilObj => .nilObj | .panic s => .panic s
    | .ok ch =>
      match derefStr 3 8 g.extends_ with
      | .ok ext =>
        .ok { hash := optHash g.hash, parent := g.parent, preGroup := g.preGroup,
              createBlockHash := g.createBlockHash,
              beginTime := (binToTime (g.beginTime.getD [])).getD zeroTime,
              memberRoot := optHash g.memberRoot, createHeight := ch, readyHeight := 0, workHeight := 0,
              dismissHeight := 0, extends_ := ext }
      | .err => .err | .nilObj => .nilObj | .panic s => .panic s

def pbToGroup (p : PbGroup) : Outcome Group :=
  match pbToGroupHeader p.header with
  | .ok h =>
    (match derefNat 4 6 p.groupHeight with
     | .ok gh => .ok { header := h, id := p.id, pubKey := p.pubKey, signature := p.signature,
                       members := p.members, groupHeight := gh }
     | .err => .err | .nilObj => .nilObj | .panic s => .panic s)
  | .err => .err | .nilObj => .nilObj | .panic s => .panic s

/-- `PbToBlock`: a header whose times do not parse stays nil inside the block. -/
def pbToBlock (p : PbBlock) : Outcome Block :=
  match p.header with
  | none => .ok ⟨none, []⟩     -- PbToBlockHeader(nil) = nil; unreachable after Unmarshal (Header is required)
  | some ph =>
    match pbToHeader ph with
    | .ok h =>
      (match pbToTxs p.transactions with
       | .ok ts => .ok ⟨some h, ts⟩
       | .err => .err | .nilObj => .nilObj | .panic s => .panic s)
    | .nilObj =>
      (match pbToTxs p.transactions with
       | .ok ts => .ok ⟨none, ts⟩
       | .err => .err | .nilObj => .nilObj | .panic s => .panic s)
    | .err => .err
    | .panic s => .panic s

/-! ### MarshalX / UnMarshalX -/

def marshalTx (t : Tx) : Bytes := encTx (txToPb t)
def marshalTxs (ts : List Tx) : Bytes := encTxSlice (ts.map txToPb)

/-- `MarshalBlockHeader`; `none` = `(nil, nil)`. -/
def marshalHeader (h : Header) : Option Bytes := (headerToPb h).map encHeader

def marshalGroup (g : Group) : Bytes := encGroup (groupToPb g)

/-- `MarshalBlock`. `panic`: nil header (BlockHeaderToPb dereferences it); `err`: the header's
    times do not marshal, so the required `Header` field stays nil and proto.Marshal reports it. -/
def marshalBlock (b : Block) : Outcome Bytes :=
  match b.header with
  | none => .panic 500
  | some h =>
    match headerToPb h with
    | none => .err
    | some ph => .ok (encBlock ⟨some ph, b.txs.map txToPb⟩)

def unmarshalTx (bs : Bytes) : Outcome Tx :=
  match decTx bs with
  | none => .err
  | some p => pbToTx p

def unmarshalTxs (bs : Bytes) : Outcome (List Tx) :=
  match decTxSlice bs with
  | none => .err
  | some ps => pbToTxs ps

def unmarshalHeader (bs : Bytes) : Outcome Header :=
  match decHeader bs with
  | none => .err
  | some p =>
    match pbToHeader p with
    | .nilObj => if Generated.C09.headerNilIsError then .err else .nilObj
    | o => o

def unmarshalBlock (bs : Bytes) : Outcome Block :=
  match decBlock bs with
  | none => .err
  | some p =>
    match pbToBlock p with
    | .ok b => if b.header.isNone && Generated.C09.blockNilHeaderIsError then .err else .ok b
    | o => o

def unmarshalGroup (bs : Bytes) : Outcome Group :=
  match decGroup bs with
  | none => .err
  | some p => pbToGroup p

/-- `PbToGroups`: element-wise `PbToGroup`. -/
def pbToGroups : List PbGroup → Outcome (List Group)
  | [] => .ok []
  | p :: ps =>
    match pbToGroup p with
    | .ok g =>
      (match pbToGroups ps with
       | .ok gs => .ok (g :: gs)
       | .err => .err | .nilObj => .nilObj | .panic s => .panic s)
    | .err => .err | .nilObj => .nilObj | .panic s => .panic s

/-- `proto.Unmarshal` into a `GroupSlice`, then `PbToGroups`. -/
def unmarshalGroups (bs : Bytes) : Outcome (List Group) :=
  match decGroupSlice bs with
  | none => .err
  | some ps => pbToGroups ps

def memberToPb (m : Member) : PbMember := ⟨m.id, m.pubKey⟩
def pbToMember (p : PbMember) : Member := ⟨p.id, p.pubKey⟩

/-- `MarshalMember`: both fields are `required`; proto.Marshal reports a nil one as an error. -/
def marshalMember (m : Member) : Outcome Bytes :=
  if m.id.isNone || m.pubKey.isNone then .err else .ok (encMember (memberToPb m))

def unmarshalMember (bs : Bytes) : Outcome Member :=
  match decMember bs with
  | none => .err
  | some p => .ok (pbToMember p)

/-! ### identifying hashes -/

def i32Dec (v : Nat) : Bytes := if v < 2147483648 then decNat v else 45 :: decNat (4294967296 - v)

/-- input of `Transaction.GenHash`. -/
def txHashInput (t : Tx) : Bytes :=
  t.data ++ decNat t.nonce ++ t.source ++ t.target ++ i32Dec t.type ++ t.time ++ t.extraData ++ t.chainId

def jsonField (name : String) (v : Bytes) : Bytes := quote (ascii name) ++ [58] ++ v

/-- `json.Marshal(header projection)` of `BlockHeader.GenHash`; `none` = json.Marshal fails
    (a time is not RFC 3339 representable) and GenHash hashes the empty string;
    see `headerHashInput`. -/
def headerJson (h : Header) : Option Bytes :=
  match timeRFC3339 h.preTime with
  | none => none
  | some pt =>
    match timeRFC3339 h.curTime with
    | none => none
    | some ct =>
      some (([123] : Bytes) ++ commaSep [
        jsonField "Height" (decNat h.height),
        jsonField "PreHash" (jsonHash h.preHash),
        jsonField "PreTime" (quote pt),
        jsonField "ProveValue" (match h.proveValue with | none => jsonNull | some v => decInt v),
        jsonField "TotalQN" (decNat h.totalQN),
        jsonField "CurTime" (quote ct),
        jsonField "Castor" (jsonBytes h.castor),
        jsonField "GroupId" jsonNull,
        jsonField "Nonce" (decNat h.nonce),
        jsonField "RequestId" (encReqIds h.requestIds),
        jsonField "Transactions" (match h.transactions with
          | none => jsonNull
          | some l => jsonArr (l.map (fun p => jsonArr [jsonHash p.1, jsonHash p.2]))),
        jsonField "TxTree" (jsonHash h.txTree),
        jsonField "ReceiptTree" (jsonHash h.receiptTree),
        jsonField "StateTree" (jsonHash h.stateTree),
        jsonField "ExtraData" (jsonBytes h.extraData),
        jsonField "ProveRoot" (jsonHash (List.replicate 32 0)),
        jsonField "EvictedTxs" (match h.evictedTxs with
          | none => jsonNull
          | some l => jsonArr (l.map jsonHash))] ++ ([125] : Bytes))

def headerHashInput (h : Header) : Bytes := (headerJson h).getD []

def groupHeaderHashInput (g : GroupHeader) : Bytes :=
  g.parent.getD [] ++ g.preGroup.getD [] ++ g.createBlockHash.getD [] ++ g.memberRoot ++
  beFixed 8 g.createHeight ++ g.extends_

def txGenHash (t : Tx) : Bytes := WireSha.sha256 (txHashInput t)
def headerGenHash (h : Header) : Bytes := WireSha.sha256 (headerHashInput h)
def groupHeaderGenHash (g : GroupHeader) : Bytes := WireSha.sha256 (groupHeaderHashInput g)

end Rangers.Wire
