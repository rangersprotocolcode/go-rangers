import Rangers.Model.TxAuthBase
/-!
C07 model: `TxPool.VerifyTransaction(tx, height)` of go-rangers
(`src/service/transaction_pool.go`) with everything it calls except the
cryptographic primitives, which are parameters (`Crypto`).

Go strings are `Bytes`; `Hash` is a 32-byte string; `Sign` holds two big
integers and the recovery id exactly like `common.Sign`.
-/
namespace Rangers.Model.TxAuth
open Rangers

/-- The cryptographic primitives the code calls; never axiomatised, always a parameter. -/
structure Crypto where
  /-- `common.Sha256` -/
  sha256 : Bytes → Bytes
  /-- Keccak-256 (`sha3.NewKeccak256` / `NewLegacyKeccak256`) -/
  keccak : Bytes → Bytes
  /-- curve part of libsecp256k1's `secp256k1_ecdsa_recover`: message, r, s (both in
      [1, N)), recovery id 0..3 ↦ 65-byte uncompressed key, or failure -/
  recoverCore : Bytes → Nat → Nat → Nat → Option Bytes
  /-- curve part of libsecp256k1's verification (`secp256k1_ec_pubkey_parse` +
      `secp256k1_ecdsa_sig_verify`'s equation): key bytes, message, r, s in [1, N) -/
  verifyCore : Bytes → Bytes → Nat → Nat → Bool

/-- `common.Sign`. -/
structure Sign where
  r : Nat
  s : Nat
  recid : UInt8
deriving Repr, DecidableEq

/-- `common.BytesToSign` (nil unless 65 bytes). -/
def bytesToSign (b : Bytes) : Option Sign :=
  if b.length = 65 then
    some { r := beToNat (b.take 32), s := beToNat ((b.drop 32).take 32), recid := (b.drop 64).headD 0 }
  else none

/-- `Sign.Bytes()` for r, s < 2^256 (what `BytesToSign` produces). -/
def Sign.bytes (sg : Sign) : Bytes :=
  padLeft 32 (natToBE sg.r) ++ padLeft 32 (natToBE sg.s) ++ [sg.recid]

/-- `types.Transaction`: the eight hashed fields, hash, signature, and the
    fields no check looks at. -/
structure Tx where
  source : Bytes
  target : Bytes
  type : Int
  time : Bytes
  data : Bytes
  extraData : Bytes
  hash : Bytes
  sign : Option Sign
  nonce : Nat
  chainId : Bytes
  /- not looked at by any authenticity check: -/
  extraDataType : Int
  requestId : Nat
  socketRequestId : Bytes
  subHash : Bytes
deriving Repr, DecidableEq

/-- The part of `common.LocalChainConfig` / `common.Genesis` that selects the chain id. -/
structure ChainCfg where
  chainId : Bytes
  originalChainId : Bytes
  proposal001Block : Nat
  /-- `Genesis.ChainId` when `Genesis != nil` and non-empty (sub-chains) -/
  genesisChainId : Option Bytes
deriving Repr, DecidableEq

/-- `common.ChainId(height)`. -/
def chainIdStr (cfg : ChainCfg) (height : Nat) : Bytes :=
  if height ≥ cfg.proposal001Block then cfg.chainId else cfg.originalChainId

/-- `big.Int.SetString(s, 10)` restricted to what a chain id string can be:
    all-digit, non-empty strings parse; anything else gives nil, which
    `NewEIP155Signer` turns into 0. -/
def parseChainId (s : Bytes) : Nat :=
  if s.isEmpty then 0
  else if s.all (fun c => 48 ≤ c ∧ c ≤ 57) then s.foldl (fun acc c => acc * 10 + (c.toNat - 48)) 0
  else 0

/-- `common.GetChainId(height)` as the signer sees it. -/
def ethChainId (cfg : ChainCfg) (height : Nat) : Nat :=
  match cfg.genesisChainId with
  | some g => if g.isEmpty then parseChainId (chainIdStr cfg height) else parseChainId g
  | none => parseChainId (chainIdStr cfg height)

def typeETHTX : Int := 188

/-- The byte string `Transaction.GenHash` feeds to SHA-256:
    Data‖Nonce‖Source‖Target‖Type‖Time‖ExtraData‖ChainId, no separators. -/
def ser (tx : Tx) : Bytes :=
  tx.data ++ decimal tx.nonce ++ tx.source ++ tx.target ++ decimalInt tx.type ++ tx.time
    ++ tx.extraData ++ tx.chainId

/-- `common.BytesToAddress`: last 20 bytes if longer, else copied to the front. -/
def toAddress (b : Bytes) : Bytes :=
  if b.length > 20 then b.drop (b.length - 20) else b ++ List.replicate (20 - b.length) 0

/-- `BytesToPublicKey(pk)` (`elliptic.Unmarshal`): the coordinates of a 65-byte
    uncompressed key as integers (`big.Int.SetBytes`). -/
def pubX (pk : Bytes) : Nat := beToNat ((pk.drop 1).take 32)
def pubY (pk : Bytes) : Nat := beToNat ((pk.drop 33).take 32)

/-- the digest input of `PublicKey.GetID`: `X.Bytes()` and `Y.Bytes()` each copied
    right-aligned into a 32-byte slot (`copy(digest[32-len(x):], x)`, `copy(digest[64-len(y):], y)`) -/
def getIDInput (pk : Bytes) : Bytes :=
  padLeft 32 (natToBE (pubX pk)) ++ padLeft 32 (natToBE (pubY pk))

/-- `PublicKey.GetAddress().GetHexString()` for a recovered 65-byte key:
    Keccak of the padded coordinates, last 20 bytes, `0x` + lower-case hex. -/
def nativeAddrStr (cr : Crypto) (pk : Bytes) : Bytes :=
  toHex0x (toAddress (cr.keccak (getIDInput pk)))

inductive Verdict where
  | ok | chainId | hash | sign | illegal
deriving Repr, DecidableEq

def Verdict.toString : Verdict → String
  | .ok => "ok" | .chainId => "chainid" | .hash => "hash" | .sign => "sign" | .illegal => "illegal"

def secpN : Nat := 0xfffffffffffffffffffffffffffffffebaaedce6af48a03bbfd25e8cd0364141
def secpHalfN : Nat := secpN / 2

def sigR (sig : Bytes) : Nat := beToNat (sig.take 32)
def sigS (sig : Bytes) : Nat := beToNat ((sig.drop 32).take 32)

/-- libsecp256k1 `secp256k1_ext_ecdsa_recover` as decision logic around the curve
    operation: `…_parse_compact` fails when r or s is ≥ N (scalar overflow),
    `secp256k1_ecdsa_sig_recover` fails when r or s is zero; `sig` is 64 bytes + recovery id. -/
def libRecover (cr : Crypto) (msg sig : Bytes) : Option Bytes :=
  if sigR sig ≥ secpN ∨ sigS sig ≥ secpN then none
  else if sigR sig = 0 ∨ sigS sig = 0 then none
  else cr.recoverCore msg (sigR sig) (sigS sig) ((sig.drop 64).headD 0).toNat

/-- libsecp256k1 `secp256k1_ext_ecdsa_verify`: `…_parse_compact` (overflow), then
    `secp256k1_ecdsa_verify` = **`!secp256k1_scalar_is_high(&s)`** (the low-s rule) ∧ key
    parses ∧ `sig_verify` (zero r/s fail, then the curve equation). -/
def libVerify (cr : Crypto) (pk msg sig64 : Bytes) : Bool :=
  if sigR sig64 ≥ secpN ∨ sigS sig64 ≥ secpN then false
  else if sigS sig64 > secpHalfN then false
  else if sigR sig64 = 0 ∨ sigS sig64 = 0 then false
  else cr.verifyCore pk msg (sigR sig64) (sigS sig64)

/-- `secp256k1.RecoverPubkey` of `src/common/secp256k1/secp256.go` (native path):
    length checks, then `checkSignature` maps a recovery id 27..30 to 0..3 before
    the library call, so the last signature byte has two accepted spellings. -/
def recoverPubkey (cr : Crypto) (msg sig : Bytes) : Option Bytes :=
  if msg.length ≠ 32 then none
  else if sig.length ≠ 65 then none
  else
    let v := (sig.drop 64).headD 0
    let v' := if v > 26 then v - 27 else v
    if v' ≥ 4 then none else libRecover cr msg (sig.take 64 ++ [v'])

/-- `secp256k1.RecoverPubkey` of `src/eth_crypto/secp256k1/secp256.go` (what
    `crypto.Ecrecover` calls on the ETH path): no respelling, recovery id must be < 4. -/
def recoverPubkeyEth (cr : Crypto) (msg sig : Bytes) : Option Bytes :=
  if msg.length ≠ 32 then none
  else if sig.length ≠ 65 then none
  else if (sig.drop 64).headD 0 ≥ 4 then none
  else libRecover cr msg sig

/-- `verifyTransactionSign`. -/
def verifySign (cr : Crypto) (tx : Tx) : Bool :=
  match tx.sign with
  | none => false
  | some sg =>
    match recoverPubkey cr tx.hash sg.bytes with
    | none => false
    | some pk =>
      libVerify cr pk tx.hash (sg.bytes.take 64) && (tx.source == nativeAddrStr cr pk)

/-- native branch of `VerifyTransaction`. -/
def verifyNative (cr : Crypto) (cfg : ChainCfg) (height : Nat) (tx : Tx) : Verdict :=
  if tx.chainId ≠ chainIdStr cfg height then .chainId
  else if tx.hash ≠ cr.sha256 (ser tx) then .hash
  else if verifySign cr tx then .ok else .sign

/-! ### wrapped Ethereum transactions -/

/-- `isProtectedV`. -/
def isProtectedV (v : Nat) : Bool := if v < 256 then v ≠ 27 ∧ v ≠ 28 else true

/-- `deriveChainId` including the uint64 wrap-around of `(v - 35) / 2` for v < 35. -/
def deriveChainId (v : Nat) : Nat :=
  if v < 2 ^ 64 then
    if v = 27 ∨ v = 28 then 0
    else if v ≥ 35 then (v - 35) / 2 else (2 ^ 64 + v - 35) / 2
  else (v - 35) / 2

/-- `recoverPlain(sighash, R, S, Vb, homestead = true)`; `vb` may be negative. -/
def recoverPlain (cr : Crypto) (sighash : Bytes) (r s : Nat) (vb : Int) : Option Bytes :=
  if vb.natAbs ≥ 256 then none
  else
    let v := (vb.natAbs % 2 ^ 64 + 2 ^ 64 - 27) % 256
    if r < 1 ∨ s < 1 then none
    else if s > secpHalfN then none
    else if ¬ (r < secpN ∧ s < secpN ∧ (v = 0 ∨ v = 1)) then none
    else
      let sig := padLeft 32 (natToBE r) ++ padLeft 32 (natToBE s) ++ [UInt8.ofNat v]
      match recoverPubkeyEth cr sighash sig with
      | none => none
      | some pub =>
        if pub.head? ≠ some 4 then none
        else
          let h := (cr.keccak (pub.drop 1)).drop 12
          some (h.take 20 ++ List.replicate (20 - min 20 h.length) 0)

/-- `EIP155Signer(chainId).Sender`, with its Homestead fall-back for v ∈ {27, 28}. -/
def ethSender (cr : Crypto) (chainId : Nat) (e : EthTx) : Option Bytes :=
  if ¬ isProtectedV e.v then
    recoverPlain cr (cr.keccak (sigPreimageHomestead e)) e.r e.s (Int.ofNat e.v)
  else if deriveChainId e.v ≠ chainId then none
  else
    recoverPlain cr (cr.keccak (sigPreimage155 chainId e)) e.r e.s
      (Int.ofNat e.v - Int.ofNat (2 * chainId) - 8)

def jsonField (name value : Bytes) : Bytes := 34 :: name ++ 34 :: 58 :: 34 :: value ++ [34]

/-- `json.Marshal(types.ContractData{…})` as `ConvertTx` fills it (all four
    strings are non-empty digit/hex strings, so nothing is omitted or escaped). -/
def contractDataJson (e : EthTx) : Bytes :=
  123 :: jsonField [103,97,115,80,114,105,99,101] (decimal e.price) ++ 44 ::
    jsonField [103,97,115,76,105,109,105,116] (decimal e.gas) ++ 44 ::
    jsonField [116,114,97,110,115,102,101,114,86,97,108,117,101] (bigIntToStr e.value) ++ 44 ::
    jsonField [97,98,105,68,97,116,97] (toHex0x e.data) ++ [125]

/-- `eth_tx.ConvertTx(ethTx, sender, encodedTx)`; fields it leaves zero are zero. -/
def convertTx (cr : Crypto) (e : EthTx) (sender : Bytes) (enc : Bytes) : Tx :=
  { source := toHex0x sender
    target := match e.to with | some a => toHex0x a | none => []
    type := typeETHTX
    time := []
    data := contractDataJson e
    extraData := toHex0x enc
    hash := cr.keccak (encodeTx e)
    sign := none
    nonce := e.nonce
    chainId := decimal (deriveChainId e.v)
    extraDataType := 0
    requestId := 0
    socketRequestId := []
    subHash := List.replicate 32 0 }

/-- `compareTx`. -/
def compareTx (tx exp : Tx) : Bool :=
  tx.source == exp.source && tx.target == exp.target && tx.type == exp.type
    && tx.extraData == exp.extraData && tx.nonce == exp.nonce && tx.chainId == exp.chainId
    && tx.data == exp.data && tx.hash == exp.hash

/-- `verifyETHTx`. -/
def verifyEth (cr : Crypto) (cfg : ChainCfg) (height : Nat) (tx : Tx) : Verdict :=
  let enc := fromHex tx.extraData
  match decodeTx enc with
  | none => .illegal
  | some e =>
    if encodeTx e ≠ enc then .illegal   -- canonical-payload check (fix: commit 362fc7d of /repo)
    else
    match ethSender cr (ethChainId cfg height) e with
    | none => .illegal
    | some sender =>
      if compareTx tx (convertTx cr e sender enc) then .ok else .illegal

/-- `TxPool.VerifyTransaction`. -/
def verifyTx (cr : Crypto) (cfg : ChainCfg) (height : Nat) (tx : Tx) : Verdict :=
  if tx.type = typeETHTX then verifyEth cr cfg height tx else verifyNative cr cfg height tx

/-! ### `eth_tx.Sender`: the per-object sender cache

`Sender(signer, tx)` returns the cached address when the cached signer `Equal`s the current one
(for EIP-155 signers: same chain id), otherwise derives it, and stores (signer, address) only on
success. -/

structure SigCache where
  chainId : Nat
  sender : Bytes
deriving Repr, DecidableEq

def senderCached (cr : Crypto) (cache : Option SigCache) (chainId : Nat) (e : EthTx) :
    Option Bytes × Option SigCache :=
  let derive : Option Bytes × Option SigCache :=
    match ethSender cr chainId e with
    | none => (none, cache)
    | some a => (some a, some ⟨chainId, a⟩)
  match cache with
  | some sc => if sc.chainId = chainId then (some sc.sender, cache) else derive
  | none => derive

/-- a sequence of `Sender` calls on one transaction object with signers of the given chain ids -/
def senderRun (cr : Crypto) (e : EthTx) : Option SigCache → List Nat → List (Option Bytes)
  | _, [] => []
  | cache, c :: cs =>
    let r := senderCached cr cache c e
    r.1 :: senderRun cr e r.2 cs

/-! ### the signing path (what an honest client / the node's own `SignTx` produces)

`crypto.Sign` / `secp256k1.Sign` are the curve operation (parameter: the 65 bytes r‖s‖recid the
library returns); the Go code around them is modelled: `FrontierSigner.SignatureValues`
(v = sig[64] + 27 in **byte** arithmetic), `EIP155Signer.SignatureValues` (v = sig[64] + 35, byte
arithmetic, plus 2·chainId — but only `if s.chainId.Sign() != 0`: for chain id 0 the Frontier
value 27/28 is kept), `Transaction.WithSignature`, and the native wrapper `secp256k1.Sign`
(`sig[64] += 27`). -/

/-- `FrontierSigner.SignatureValues` (= Homestead): `none` is the panic on a wrong size. -/
def frontierSigValues (sig : Bytes) : Option (Nat × Nat × Nat) :=
  if sig.length ≠ 65 then none
  else some (sigR sig, sigS sig, ((sig.drop 64).headD 0 + 27).toNat)

/-- `EIP155Signer{chainId}.SignatureValues`. -/
def eip155SigValues (chainId : Nat) (sig : Bytes) : Option (Nat × Nat × Nat) :=
  match frontierSigValues sig with
  | none => none
  | some (r, s, v) =>
    if chainId ≠ 0 then some (r, s, ((sig.drop 64).headD 0 + 35).toNat + 2 * chainId)
    else some (r, s, v)

/-- `Transaction.WithSignature` -/
def withSignature (e : EthTx) (rsv : Nat × Nat × Nat) : EthTx :=
  { e with r := rsv.1, s := rsv.2.1, v := rsv.2.2 }

/-- `eth_tx.SignTx(tx, NewEIP155Signer(chainId), key)` given the library's signature `sig`
    of `EIP155Signer.Hash(tx)`. -/
def signTx155 (chainId : Nat) (e : EthTx) (sig : Bytes) : Option EthTx :=
  (eip155SigValues chainId sig).map (withSignature e)

/-- the native wrapper `secp256k1.Sign`: the library's r‖s‖recid with `sig[64] += 27` -/
def nativeSignBytes (raw : Bytes) : Bytes :=
  raw.take 64 ++ [(raw.drop 64).headD 0 + 27]

/-! ### admission of a batch

`WorkerConn.handleMessage(TransactionGotMsg)` (peer batches / sync replies) walks the received
slice in order and hands an element to `TxPool.AddTransaction` exactly when *its own*
`VerifyTransaction` returned nil; `GameExecutor.write` / `runWrite` do the same for a single
transaction.  `TxPool.add` refuses a hash that is already in the pool. -/

/-- the transactions a batch adds to a pool that already holds the hashes `have` -/
def admitBatch (cr : Crypto) (cfg : ChainCfg) (height : Nat) : List Bytes → List Tx → List Tx
  | _, [] => []
  | have_, tx :: rest =>
    if verifyTx cr cfg height tx = .ok ∧ tx.hash ∉ have_ then
      tx :: admitBatch cr cfg height (tx.hash :: have_) rest
    else admitBatch cr cfg height have_ rest

/-- the hashes in the pool after a batch (what was there plus what the batch added) -/
def hashesAfter (cr : Crypto) (cfg : ChainCfg) (height : Nat) : List Bytes → List Tx → List Bytes
  | have_, [] => have_
  | have_, tx :: rest =>
    if verifyTx cr cfg height tx = .ok ∧ tx.hash ∉ have_ then
      hashesAfter cr cfg height (tx.hash :: have_) rest
    else hashesAfter cr cfg height have_ rest

/-- …and after a sequence of batches delivered one after the other to the same handler: the
    handlers keep no state of their own, the pool is the only memory -/
def hashesAfterSeq (cr : Crypto) (cfg : ChainCfg) (height : Nat) (have_ : List Bytes) (batches : List (List Tx)) :
    List Bytes :=
  batches.foldl (hashesAfter cr cfg height) have_

/-- the same loop reporting, per position, whether the element was added (what the
    correspondence stream `batch` compares with the pool after the real handler ran) -/
def admitFlags (cr : Crypto) (cfg : ChainCfg) (height : Nat) : List Bytes → List Tx → List Bool
  | _, [] => []
  | have_, tx :: rest =>
    if verifyTx cr cfg height tx = .ok ∧ tx.hash ∉ have_ then
      true :: admitFlags cr cfg height (tx.hash :: have_) rest
    else false :: admitFlags cr cfg height have_ rest

/-! ### the oracle queries one evaluation makes (used by the driver to insist
that every crypto answer it needed was supplied on the op line) -/

inductive Query where
  | sha (m : Bytes)
  | kec (m : Bytes)
  | rcv (msg : Bytes) (r s recid : Nat)
  | ver (pk msg : Bytes) (r s : Nat)
deriving Repr, DecidableEq

/-- the curve query `libRecover` makes, if it makes one -/
def libRecoverQ (msg sig : Bytes) : List Query :=
  if sigR sig ≥ secpN ∨ sigS sig ≥ secpN then []
  else if sigR sig = 0 ∨ sigS sig = 0 then []
  else [.rcv msg (sigR sig) (sigS sig) ((sig.drop 64).headD 0).toNat]

def libVerifyQ (pk msg sig64 : Bytes) : List Query :=
  if sigR sig64 ≥ secpN ∨ sigS sig64 ≥ secpN then []
  else if sigS sig64 > secpHalfN then []
  else if sigR sig64 = 0 ∨ sigS sig64 = 0 then []
  else [.ver pk msg (sigR sig64) (sigS sig64)]

def recQ (msg sig : Bytes) : List Query :=
  if msg.length ≠ 32 then []
  else if sig.length ≠ 65 then []
  else
    let v := (sig.drop 64).headD 0
    let v' := if v > 26 then v - 27 else v
    if v' ≥ 4 then [] else libRecoverQ msg (sig.take 64 ++ [v'])

def recQEth (msg sig : Bytes) : List Query :=
  if msg.length ≠ 32 then []
  else if sig.length ≠ 65 then []
  else if (sig.drop 64).headD 0 ≥ 4 then []
  else libRecoverQ msg sig

def nativeQueries (cr : Crypto) (cfg : ChainCfg) (height : Nat) (tx : Tx) : List Query :=
  if tx.chainId ≠ chainIdStr cfg height then []
  else .sha (ser tx) ::
    (if tx.hash ≠ cr.sha256 (ser tx) then []
     else match tx.sign with
      | none => []
      | some sg => recQ tx.hash sg.bytes ++
        (match recoverPubkey cr tx.hash sg.bytes with
         | none => []
         | some pk => libVerifyQ pk tx.hash (sg.bytes.take 64) ++
            (if libVerify cr pk tx.hash (sg.bytes.take 64) then [.kec (getIDInput pk)] else [])))

def recoverPlainQueries (cr : Crypto) (sighash : Bytes) (r s : Nat) (vb : Int) : List Query :=
  if vb.natAbs ≥ 256 then []
  else
    let v := (vb.natAbs % 2 ^ 64 + 2 ^ 64 - 27) % 256
    if r < 1 ∨ s < 1 then []
    else if s > secpHalfN then []
    else if ¬ (r < secpN ∧ s < secpN ∧ (v = 0 ∨ v = 1)) then []
    else
      let sig := padLeft 32 (natToBE r) ++ padLeft 32 (natToBE s) ++ [UInt8.ofNat v]
      recQEth sighash sig ++
        (match recoverPubkeyEth cr sighash sig with
         | none => []
         | some pub => if pub.head? ≠ some 4 then [] else [.kec (pub.drop 1)])

def ethSenderQueries (cr : Crypto) (chainId : Nat) (e : EthTx) : List Query :=
  if ¬ isProtectedV e.v then
    .kec (sigPreimageHomestead e) ::
      recoverPlainQueries cr (cr.keccak (sigPreimageHomestead e)) e.r e.s (Int.ofNat e.v)
  else if deriveChainId e.v ≠ chainId then []
  else
    .kec (sigPreimage155 chainId e) ::
      recoverPlainQueries cr (cr.keccak (sigPreimage155 chainId e)) e.r e.s
        (Int.ofNat e.v - Int.ofNat (2 * chainId) - 8)

def ethQueries (cr : Crypto) (cfg : ChainCfg) (height : Nat) (tx : Tx) : List Query :=
  match decodeTx (fromHex tx.extraData) with
  | none => []
  | some e =>
    if encodeTx e ≠ fromHex tx.extraData then [] else
    ethSenderQueries cr (ethChainId cfg height) e ++
      (match ethSender cr (ethChainId cfg height) e with
       | none => []
       | some _ => [.kec (encodeTx e)])

def queries (cr : Crypto) (cfg : ChainCfg) (height : Nat) (tx : Tx) : List Query :=
  if tx.type = typeETHTX then ethQueries cr cfg height tx else nativeQueries cr cfg height tx

end Rangers.Model.TxAuth
