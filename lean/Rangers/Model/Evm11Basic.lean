import Rangers.Basic.Hex
/-!
# C11 model, part 1: words, 64-bit wrap-around arithmetic, byte helpers

Core Lean only.  EVM words are `Nat` reduced mod 2^256 at every producing
operation; gas and sizes are `Nat` with Go's `uint64` wrap-around made explicit
(`wadd`, `wsub`, `wmul`) so that an overflow is *visible* in the model and the
theorems can talk about it with `omega`.
-/
namespace Rangers.Evm11

abbrev Word := Nat

def W256 : Nat := 2 ^ 256
def U64 : Nat := 2 ^ 64
def maxU64 : Nat := 2 ^ 64 - 1

/-- Go `a + b` on uint64. -/
def wadd (a b : Nat) : Nat := (a + b) % 2 ^ 64
/-- Go `a - b` on uint64 (wraps below zero). -/
def wsub (a b : Nat) : Nat := (a % 2 ^ 64 + 2 ^ 64 - b % 2 ^ 64) % 2 ^ 64
/-- Go `a * b` on uint64. -/
def wmul (a b : Nat) : Nat := (a * b) % 2 ^ 64

/-- `utility.SafeAdd`: sum and overflow flag. -/
def safeAdd (a b : Nat) : Nat × Bool := (wadd a b, decide (a + b ≥ 2 ^ 64))
/-- `utility.SafeMul`: product and overflow flag. -/
def safeMul (a b : Nat) : Nat × Bool := (wmul a b, decide (a * b ≥ 2 ^ 64))

/-- `uint256.Int.IsUint64`. -/
def isU64 (w : Word) : Bool := decide (w < 2 ^ 64)
/-- `uint256.Int.Uint64()` : low 64 bits. -/
def lo64 (w : Word) : Nat := w % 2 ^ 64

/-- `toWordSize` of common.go. -/
def toWordSize (size : Nat) : Nat :=
  if size > maxU64 - 31 then maxU64 / 32 + 1 else (size + 31) / 32

/-! ## bytes -/

abbrev BA := Array UInt8

def baOfList (l : List UInt8) : BA := l.toArray

/-- `getData(data, start, size)` of common.go: zero-padded slice
    (`start`, `size` are uint64 values; `end = start + size` wraps like Go; where the wrapped `end` is
    below `start`, Go's `data[start:end]` panics and this definition answers `size` zero bytes). -/
def getData (data : BA) (start size : Nat) : BA :=
  let length := data.size
  let start := if start > length then length else start
  let e := wadd start size
  let e := if e > length then length else e
  let sl := data.extract start e
  sl ++ Array.replicate (size - sl.size) (0 : UInt8)

/-- big-endian bytes to Nat -/
def beNat (b : BA) : Nat := b.foldl (fun acc x => acc * 256 + x.toNat) 0

/-- `n` as exactly `len` big-endian bytes (truncating high bytes). -/
def natBE (len : Nat) (n : Nat) : BA :=
  (Array.range len).map (fun i => UInt8.ofNat ((n >>> (8 * (len - 1 - i))) % 256))

def word32 (w : Word) : BA := natBE 32 w

/-- low 20 bytes of a word, as an address number -/
def addrOf (w : Word) : Nat := w % 2 ^ 160

def hexNib (n : Nat) : Char := if n < 10 then Char.ofNat (48 + n) else Char.ofNat (87 + n)

def hexBA (b : BA) : String :=
  String.ofList (b.foldr (fun x acc => hexNib (x.toNat / 16) :: hexNib (x.toNat % 16) :: acc) [])

def hexAddr (a : Nat) : String := hexBA (natBE 20 a)
def hexWord (w : Nat) : String := hexBA (natBE 32 w)

/-- minimal big-endian hex of a Nat ("" for 0), like `big.Int.Bytes()` in hex -/
def hexNatMin (n : Nat) : String :=
  let rec len (fuel n acc : Nat) : Nat :=
    match fuel with
    | 0 => acc
    | f + 1 => if n = 0 then acc else len f (n / 256) (acc + 1)
  hexBA (natBE (len 40 n 0) n)

def unhex? (s : String) : Option BA :=
  match hexPairs? s.toList with
  | some l => some l.toArray
  | none => none

end Rangers.Evm11
