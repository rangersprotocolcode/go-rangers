import Rangers.Model.Decimal
/-
Model of the native-token ledger of go-rangers (property C06). Core Lean only.

What is transcribed (file:function of /repo in brackets):
 * the balance slot primitives            [storage/account/accountdb_tuntun.go: AddFT/SubFT/SetFT, ERC-20 branch,
                                           which is the only branch `SYSTEM-RPG` ever takes: GetERC20Binding
                                           answers `found` unconditionally for BLANCE_NAME]
 * amount strings                         [utility/data_convert.go: StrToBigInt] = C18's Model/Decimal.lean (exact big.Float)
 * `transferBalance`, `ChangeAssets`      [service/game.go]
 * `ProcessFee`                           [service/transaction_pool.go]
 * contract executor                      [executor/contract_executor.go: decodeContractData, preCheckContractFee,
                                           IntrinsicGas, Execute]
 * EVM frame skeleton                     [vm/evm.go: Call, CallCode, DelegateCall, StaticCall, create, AuthCall;
                                           vm/init.go: CanTransfer, Transfer; vm/instructions.go: opSuicide]
 * the per-transaction pipeline           [core/vmexecutor.go: Execute loop body, deductGasFee]
 * stake lock / refund move at ledger level [service/miner_manager.go: AddStake/AddMiner debit;
                                           service/refund_manager.go: CheckAndMove]

Fork configuration: a parameter (`Flags` below). Its default is every proposal up to 027 active except 025 (the `dev`
chain config from height 12 on; it equals main-net behaviour after Proposal027Block).

Balances are `Nat` (a storage slot holds `big.Int.Bytes()`, which has no sign); amounts travelling through
the code are `Int`, because `big.Int` amounts can be negative and the code stores the absolute value of a
negative sum.
-/
namespace Rangers.Ledger

abbrev Addr := Nat

/-- Association list; first occurrence of a key is the live one. No invariant is needed:
    `get`, `put`, `total` are consistent on any list. -/
abbrev Bal := List (Addr × Nat)

def get : Bal → Addr → Nat
  | [], _ => 0
  | (k, v) :: r, a => if k = a then v else get r a

def put : Bal → Addr → Nat → Bal
  | [], a, v => [(a, v)]
  | (k, x) :: r, a, v => if k = a then (k, v) :: r else (k, x) :: put r a v

def total : Bal → Nat
  | [] => 0
  | (_, v) :: r => v + total r

/-! ### Slot primitives -/

/-- `AccountDB.AddFT` (ERC-20 branch): `remain.Add(remain, amount); SetData(key, remain.Bytes())`.
    `Bytes()` is the absolute value, so a negative sum is stored as its magnitude. Always returns true. -/
def addBal (b : Bal) (a : Addr) (v : Int) : Bal :=
  put b a (((get b a : Nat) : Int) + v).natAbs

/-- `AccountDB.SubFT` (ERC-20 branch): refuses (no change, `false`) iff `remain < amount`;
    otherwise stores `(remain - amount).Bytes()`. A negative amount is never refused. -/
def subBal (b : Bal) (a : Addr) (v : Int) : Bal × Bool :=
  if ((get b a : Nat) : Int) < v then (b, false)
  else (put b a (((get b a : Nat) : Int) - v).natAbs, true)

/-- `vm.CanTransfer` (vm/init.go): refuses a negative amount (since the `fix:` commit recorded in
    known-findings.txt), otherwise `GetBalance(addr).Cmp(amount) >= 0`. -/
def canTransfer (b : Bal) (a : Addr) (v : Int) : Bool :=
  if v < 0 then false else decide (v ≤ ((get b a : Nat) : Int))

/-- `vm.Transfer` (vm/init.go): `SubBalance(sender)` (result dropped) then `AddBalance(recipient)`. -/
def vmTransfer (b : Bal) (src dst : Addr) (v : Int) : Bal :=
  addBal (subBal b src v).1 dst v

/-! ### Amount strings: `utility.StrToBigInt` -/

def isDigit (c : Char) : Bool := '0' ≤ c && c ≤ '9'

def digitsVal (cs : List Char) : Nat := cs.foldl (fun acc c => acc * 10 + (c.toNat - 48)) 0

/-- Result of `utility.StrToBigInt`: an error, or the `big.Int` value. -/
inductive Amount where
  | err
  | val (v : Int)
  deriving Repr, DecidableEq

/-- `utility.StrToBigInt` with the exact `big.ParseFloat(s, 10, 512, AwayFromZero)` / `Float.Mul` / `Float.Int`
    semantics of C18's model (`Rangers.Decimal.StrToBigInt`: every string, binary `p` exponents, exponent
    overflow, the two 512-bit roundings). `panic` (ErrNaN) is unreachable (`Props.C18.strToBigInt_never_panics`)
    and mapped to `err`. -/
def strToBigInt (s : String) : Amount :=
  match Rangers.Decimal.StrToBigInt s.toList with
  | .ok v => .val v
  | .err => .err
  | .panic => .err

/-! ### Constants (tied to the source by `Generated/LedgerFacts.lean`, see Props/C06Sites) -/

def feeAccount : Addr := 0x3966eafd38c5f10cc91eaacaeff1b6682b83ced4
/-- `delta026 = StrToBigInt("0.001")` -/
def txFee : Nat := 1000000000000000
/-- `defaultGasPrice` / `types.DefaultGasPrice` -/
def gasPrice : Nat := 1000000000
/-- `defaultGasLimit` -/
def p015GasLimit : Nat := 6000000
def p017GasLimit : Nat := 30000000
def p026GasLimit : Nat := 900000000
def gasMagnification : Nat := 30
def txGas : Nat := 21000
def txGasCreate : Nat := 53000
def nonZeroByteGas : Nat := 16
def zeroByteGas : Nat := 4
def uint64Max : Nat := 18446744073709551615
def wei : Nat := 1000000000000000000

/-- `n * k`, written by recursion on `n`: proof checking then never multiplies a variable by a large literal `k`
    (the kernel would unfold `Nat.mul` along the literal). Compiled code uses the product (`scale_eq_mul`). -/
def scale (k : Nat) : Nat → Nat
  | 0 => 0
  | n + 1 => scale k n + k

theorem scale_eq (k n : Nat) : scale k n = n * k := by
  induction n with
  | zero => exact (Nat.zero_mul k).symm
  | succ m ih => rw [scale, ih, Nat.succ_mul]

def scaleMul (k n : Nat) : Nat := n * k

@[csimp] theorem scale_eq_mul : @scale = @scaleMul := by
  funext k n; exact scale_eq k n

/-- gas units to wei at the fixed gas price -/
def gasCost (gas : Nat) : Nat := scale gasPrice gas

/-! ### Fork configuration -/

/-- The proposal flags the ledger paths test (`common.IsProposalNNN()` at the block height):
    002 balance writes are journaled (`SetData`) instead of written through (`setData`);
    015 gas accounting of contract transactions (intrinsic gas, pre-check, gas fee);
    017 default gas limit 30M instead of 6M; 018 a transaction refused by `BeforeExecute` is evicted;
    026 transaction fee 0.001 instead of 0.0001 and gas magnification 30; 027 failed contract transactions pay gas.
    Default: everything on (the `dev` schedule, main-net after Proposal027Block). -/
structure Flags where
  p002 : Bool := true
  p015 : Bool := true
  p017 : Bool := true
  p018 : Bool := true
  p026 : Bool := true
  p027 : Bool := true
  /-- 014: the jump table has STAKE / UNSTAKE / UNSTAKEALL / AUTH / AUTHCALL -/
  p014 : Bool := true

/-- `delta = StrToBigInt("0.0001")` before Proposal026 -/
def txFeeOld : Nat := 100000000000000

def txFeeOf (fl : Flags) : Nat := if fl.p026 then txFee else txFeeOld

/-! ### Operator (asset transfer) transactions: service/game.go -/

/-- `transferBalance`: parse, sign test, balance test, credit target, debit source (result dropped).
    `none` = returned false (caller reverts). -/
def transferBalance (b : Bal) (src tgt : Addr) (amount : Amount) : Option Bal :=
  match amount with
  | .err => none
  | .val v =>
    if v < 0 then none
    else if ((get b src : Nat) : Int) < v then none
    else some (subBal (addBal b tgt v) src v).1

/-- `ChangeAssets`: walks the target map in sorted key order (the list is the targets in that order; theorems quantify
    over every list); stops at the first failing transfer. -/
def changeAssets (b : Bal) (src : Addr) : List (Addr × Amount) → Option Bal
  | [] => some b
  | (t, a) :: rest =>
    match transferBalance b src t a with
    | none => none
    | some b' => changeAssets b' src rest

/-- `TxPool.ProcessFee` for a given fee: `none` = "not enough max" error, nothing changed. -/
def processFeeWith (fee : Nat) (b : Bal) (src : Addr) : Option Bal :=
  if get b src < fee then none
  else some (addBal (subBal b src fee).1 feeAccount fee)

def processFee (b : Bal) (src : Addr) : Option Bal := processFeeWith txFee b src

/-- `ChangeAssets` as far as it got: the balances when it stopped. Before Proposal002 nothing restores them. -/
def changeAssetsPartial (b : Bal) (src : Addr) : List (Addr × Amount) → Bal
  | [] => b
  | (t, a) :: rest =>
    match transferBalance b src t a with
    | none => b
    | some b' => changeAssetsPartial b' src rest

/-! ### EVM frame skeleton -/

inductive Action where
  | call (to : Addr) (value : Nat)
  | callcode (to : Addr) (value : Nat)
  | delegatecall (to : Addr)
  | staticcall (to : Addr)
  | create (value : Nat) (init : List Action)
  | suicide (beneficiary : Addr)
  | authcall (to : Addr) (value : Nat)
  | stake (value : Nat)
  | unstake (value : Nat)
  | unstakeAll
  | revert
  | invalid
  | stop

abbrev Script := List Action
abbrev Code := List (Addr × Script)

def codeAt : Code → Addr → Script
  | [], _ => []
  | (k, s) :: r, a => if k = a then s else codeAt r a

/-! ### Miner registry abstracted to the stake table the ledger needs -/

/-- One miner as far as the ledger is concerned (service/miner_manager.go: the slots `id`, `H id` = stake,
    `H (H id)` = account). `visible` = the miner's info record is already in the committed registry trie: the
    account iterator (`GetMinerIdByAccount`) walks the trie, which receives a block's writes only at its end. -/
structure MinerRec where
  id : Nat
  account : Addr
  stake : Nat        -- whole tokens (uint64)
  typ : Nat          -- 0 validator, 1 proposer
  visible : Bool

abbrev Reg := List MinerRec

def regGet : Reg → Nat → Option MinerRec
  | [], _ => none
  | m :: r, id => if m.id = id then some m else regGet r id

/-- `UpdateMiner`: overwrite the slots of that id (insert when new) -/
def regSet : Reg → MinerRec → Reg
  | [], x => [x]
  | m :: r, x => if m.id = x.id then x :: r else m :: regSet r x

def regDel : Reg → Nat → Reg
  | [], _ => []
  | m :: r, id => if m.id = id then r else m :: regDel r id

/-- `GetMinerIdByAccount`: first miner of the committed trie whose (live) account slot equals `a`.
    (With several miners on one account the code answers the first in trie-key order; the harness keeps
    accounts unique.) -/
def byAccount : Reg → Addr → Option MinerRec
  | [], _ => none
  | m :: r, a => if m.visible && m.account = a then some m else byAccount r a

/-- whole tokens to wei (`n * 10^18`); equals `utility.Float64ToBigInt(float64(n))` and `Uint64ToBigInt(n)` for
    n < 2^53. -/
def toWei (n : Nat) : Nat := scale wei n

theorem toWei_eq (n : Nat) : toWei n = n * wei := scale_eq wei n

def stakeSum : Reg → Nat
  | [] => 0
  | m :: r => toWei m.stake + stakeSum r

def minStake (typ : Nat) : Nat := if typ = 1 then 2000 else if typ = 0 then 400 else 0

/-- `RefundManager.GetRefundStake(now, id, account, money)` on the registry: `none` = error;
    otherwise the new registry, the tokens refunded and the miner's account.
    `money = MaxUint64` means "all". A miner left below the minimum stake is removed: deleted when nothing is
    left and its account is not a contract, else kept (status abort) with the remaining stake. -/
def getRefundStake (r : Reg) (hasCode : Addr → Bool) (id : Nat) (account : Addr) (money : Nat) :
    Option (Reg × Nat × Addr) :=
  match regGet r id with
  | none => none
  | some m =>
    if m.account ≠ account then none else
    let money := if money = uint64Max then m.stake else money
    if m.stake < money then none else
    let left := m.stake - money
    let r' := if left < minStake m.typ && left = 0 && !hasCode account then regDel r id
              else regSet r { m with stake := left }
    some (r', money, m.account)

/-! ### The refund / reward escrow -/

/-- The refund/reward escrow: (due height, beneficiary, amount). In the code: storage of the pseudo-accounts
    `sha256("refund" ++ height)`, written by `RefundManager.Add`, emptied by `CheckAndMove`. -/
abbrev Escrow := List (Nat × Addr × Nat)

def escrowTotal : Escrow → Nat
  | [] => 0
  | (_, _, v) :: r => v + escrowTotal r

/-- entries due at height `h`, as the list `CheckAndMove h` pays out -/
def dueAt : Escrow → Nat → List (Addr × Nat)
  | [], _ => []
  | (k, a, v) :: r, h => if k = h then (a, v) :: dueAt r h else dueAt r h

def notDueAt : Escrow → Nat → Escrow
  | [], _ => []
  | (k, a, v) :: r, h => if k = h then notDueAt r h else (k, a, v) :: notDueAt r h

/-- Ledger-relevant part of the account state while a block executes. `burned` is a ghost counter
    (value destroyed by SELFDESTRUCT naming the contract itself); nothing reads it. -/
structure St where
  bal : Bal
  dead : List Addr
  fresh : Nat
  burned : Nat
  reg : Reg := []
  escrow : Escrow := []
  /-- ghost: wei escrowed for refund by UNSTAKE beyond the stake it removed (known finding) -/
  excess : Nat := 0
  /-- height of the block being executed (constant during a block) -/
  height : Nat := 0
  /-- journal of `suicideChange` entries (contract, balance recorded by `Suicide`), newest first -/
  sj : List (Addr × Nat) := []
  /-- the jump table has the Proposal014 opcodes (STAKE, UNSTAKE, UNSTAKEALL, AUTH, AUTHCALL); constant during a block -/
  p014 : Bool := true

/-- Addresses handed to CREATE/CREATE2 frames: above the 160-bit range, so never one of the op-line addresses
    (in the code: keccak of (creator, nonce) / (creator, salt, code); collision with a live address is the
    hash assumption). -/
def freshAddr (n : Nat) : Addr := 2 ^ 160 + n

/-- `opSuicide`: credit the beneficiary with the contract's balance, mark suicided, zero the contract's slot. -/
def suicide (s : St) (self ben : Addr) : St :=
  let v := get s.bal self
  let b1 := addBal s.bal ben v
  { s with bal := put b1 self 0
           sj := (self, get b1 self) :: s.sj
           dead := self :: s.dead
           burned := s.burned + (if ben = self then v else 0) }

/-- A failed frame is reverted to the snapshot taken at frame entry; only the address counter survives. -/
def revertTo (snap after : St) : St := { snap with fresh := after.fresh }

/-- `suicideChange.undo` of the entries made since the snapshot, newest first: `setBalance(contract, prevbalance)` -/
def undoSuicides (b : Bal) : List (Addr × Nat) → Bal
  | [] => b
  | (a, p) :: r => undoSuicides (put b a p) r

/-- `RevertToSnapshot` under the fork flag 002. Journaled (`jr = true`): everything returns to the snapshot.
    Before Proposal002 balance slots are written with `setData`, which bypasses the journal: a revert leaves every
    balance as it is, except that `suicideChange.undo` writes back the balance `Suicide` recorded. Registry, escrow and
    the suicided marks are journaled in both regimes. -/
def revertToJ (jr : Bool) (snap after : St) : St :=
  if jr then revertTo snap after
  else { snap with fresh := after.fresh,
                   bal := undoSuicides after.bal (after.sj.take (after.sj.length - snap.sj.length)) }

def refundDelay : Nat := 36000

def hasCodeIn (code : Code) (a : Addr) : Bool := !(codeAt code a).isEmpty

/-- `opStake` (vm/instructions.go): `target = ParseUint(BigIntToStrWithoutDot(money))` whole tokens; the contract
    must be the account of a (visible) miner; `AddStake(this, miner, target)`: balance test, stake += target,
    `SubBalance(this, target tokens)`. Any failure pushes `false` and changes nothing. -/
def opStake (s : St) (self : Addr) (v : Nat) : St :=
  let t := v / wei
  if t > uint64Max then s else
  match byAccount s.reg self with
  | none => s
  | some m =>
    if t = 0 then s
    else if get s.bal self < toWei t then s
    else match regGet s.reg m.id with
      | none => s
      | some m' => { s with bal := (subBal s.bal self (toWei t)).1, reg := regSet s.reg { m' with stake := m'.stake + t } }

/-- `opUnStake`: `moneyWithoutDecimal, _ := ParseUint(...)` (a range error yields MaxUint64 = "all");
    `GetRefundStake` lowers the stake by that many whole tokens; then **the requested amount `v` itself** is
    escrowed for the transaction origin (plus `real - v` for the miner account when the removed stake exceeds `v`).
    Due height: now + 36000 (Proposal012). -/
def opUnStake (code : Code) (origin : Addr) (s : St) (self : Addr) (v : Nat) : St :=
  match byAccount s.reg self with
  | none => s
  | some m =>
    let mwd := if v / wei > uint64Max then uint64Max else v / wei
    match getRefundStake s.reg (hasCodeIn code) m.id self mwd with
    | none => s
    | some (r', refund, acct) =>
      let real := toWei refund
      let h := s.height + refundDelay
      let e1 := if v < real then s.escrow ++ [(h, acct, real - v)] else s.escrow
      { s with reg := r', escrow := e1 ++ [(h, origin, v)], excess := s.excess + (v - real) }

/-- `opUnStakeAll`: the whole stake is refunded to the miner account; an unknown miner or a refusal is an
    execution error of the frame (`none`). -/
def opUnStakeAll (code : Code) (s : St) (self : Addr) : Option St :=
  match byAccount s.reg self with
  | none => none
  | some m =>
    match getRefundStake s.reg (hasCodeIn code) m.id self uint64Max with
    | none => none
    | some (r', refund, acct) =>
      some { s with reg := r', escrow := s.escrow ++ [(s.height + refundDelay, acct, toWei refund)] }

/-- Executes the actions of one frame running as `self`. `fuel` is the gas bound: each action and each frame
    entry costs at least one unit, running out is the out-of-gas error of that frame.
    `ro` = static context (`interpreter.readOnly`). `origin` = `evm.Origin` (the AUTHCALL sponsor).
    Result: state and whether the frame ended without error. -/
def exec (code : Code) (origin : Addr) (jr : Bool) : Nat → Addr → Bool → Script → St → St × Bool
  | 0, _, _, _, s => (s, false)
  | _ + 1, _, _, [], s => (s, true)
  | f + 1, self, ro, a :: rest, s =>
    match a with
    | .stop => (s, true)
    | .revert => (s, false)
    | .invalid => (s, false)
    | .suicide ben => if ro then (s, false) else (suicide s self ben, true)
    | .call to v =>
      if ro && v != 0 then (s, false) else
      -- evm.Call
      let s1 :=
        if v != 0 && !canTransfer s.bal self v then s
        else
          let r := exec code origin jr f to ro (codeAt code to) { s with bal := vmTransfer s.bal self to v }
          if r.2 then r.1 else revertToJ jr s r.1
      exec code origin jr f self ro rest s1
    | .callcode to v =>
      -- evm.CallCode: balance test only, code of `to` runs as `self`
      let s1 :=
        if !canTransfer s.bal self v then s
        else
          let r := exec code origin jr f self ro (codeAt code to) s
          if r.2 then r.1 else revertToJ jr s r.1
      exec code origin jr f self ro rest s1
    | .delegatecall to =>
      let r := exec code origin jr f self ro (codeAt code to) s
      exec code origin jr f self ro rest (if r.2 then r.1 else revertToJ jr s r.1)
    | .staticcall to =>
      -- evm.StaticCall: AddBalance(addr, 0) touch, then run read-only
      let r := exec code origin jr f to true (codeAt code to) { s with bal := addBal s.bal to 0 }
      exec code origin jr f self ro rest (if r.2 then r.1 else revertToJ jr s r.1)
    | .create v init =>
      if ro then (s, false) else
      -- evm.create
      let s1 :=
        if !canTransfer s.bal self v then s
        else
          let na := freshAddr s.fresh
          let s0 : St := { s with fresh := s.fresh + 1 }
          let r := exec code origin jr f na false init { s0 with bal := vmTransfer s0.bal self na v }
          if r.2 then r.1 else revertToJ jr s0 r.1
      exec code origin jr f self ro rest s1
    | .stake v => if !s.p014 then (s, false) else exec code origin jr f self ro rest (opStake s self v)
    | .unstake v => if !s.p014 then (s, false) else exec code origin jr f self ro rest (opUnStake code origin s self v)
    | .unstakeAll =>
      if !s.p014 then (s, false) else
      match opUnStakeAll code s self with
      | none => (s, false)
      | some s1 => exec code origin jr f self ro rest s1
    | .authcall to v =>
      -- before Proposal014 AUTH / AUTHCALL are invalid opcodes: the frame fails
      if !s.p014 then (s, false) else
      -- evm.AuthCall with a valid authorisation: the sponsor (tx origin) pays the value
      let s1 :=
        if v != 0 && !canTransfer s.bal origin v then s
        else
          let r := exec code origin jr f to ro (codeAt code to) { s with bal := vmTransfer s.bal origin to v }
          if r.2 then r.1 else revertToJ jr s r.1
      exec code origin jr f self ro rest s1

/-- Top-level `evm.Call(origin, addr, input, gas, value)` as issued by the contract executor; `value` is the
    decoded `transferValue`, a `big.Int` that may be negative. -/
def evmCallTop (code : Code) (jr : Bool) (fuel : Nat) (origin addr : Addr) (v : Int) (s : St) : St × Bool :=
  if v != 0 && !canTransfer s.bal origin v then (s, false)
  else
    let r := exec code origin jr fuel addr false (codeAt code addr) { s with bal := vmTransfer s.bal origin addr v }
    if r.2 then r else (revertToJ jr s r.1, false)

/-- Top-level `evm.Create(origin, code, gas, value)`. -/
def evmCreateTop (code : Code) (jr : Bool) (fuel : Nat) (origin : Addr) (v : Int) (init : Script) (s : St) : St × Bool :=
  if !canTransfer s.bal origin v then (s, false)
  else
    let na := freshAddr s.fresh
    let s0 : St := { s with fresh := s.fresh + 1 }
    let r := exec code origin jr fuel na false init { s0 with bal := vmTransfer s0.bal origin na v }
    if r.2 then r else (revertToJ jr s0 r.1, false)

/-! ### Contract transactions: executor/contract_executor.go -/

/-- `strconv.ParseUint(s, 10, 64)` preceded by the `"" / "0"` default of `decodeContractData`. -/
def parseGasLimit (fl : Flags) (s : String) : Option Nat :=
  if s = "" || s = "0" then some (if fl.p017 then p017GasLimit else p015GasLimit)
  else
    let cs := s.toList
    if cs.all isDigit then
      let n := digitsVal cs
      if n ≤ uint64Max then some n else none
    else none

/-- `IntrinsicGas` (magnified under Proposal026) for `nz` non-zero and `z` zero input bytes (no uint64 overflow for
    inputs below 2^40 bytes; the driver refuses longer ones). -/
def intrinsicGas (fl : Flags) (create : Bool) (nz z : Nat) : Nat :=
  ((if create then txGasCreate else txGas) + nz * nonZeroByteGas + z * zeroByteGas) * (if fl.p026 then gasMagnification else 1)

/-- `executor.IntrinsicGas(data, creation)` byte for byte, in uint64 arithmetic: the two overflow guards
    (`(MaxUint64-gas)/perByte < count` → `ErrGasUintOverflow`, here `none`) and the **unchecked** multiplication by
    `GasMagnification` under Proposal026 (wraps modulo 2^64). `intrinsicGas` above is this function on the byte
    counts (`Props.C06Real.intrinsicGas_is_IntrinsicGas`: equal for every input below 2^40 bytes). -/
def intrinsicGasOf (fl : Flags) (create : Bool) (data : List Nat) : Option Nat :=
  let g0 := if create then txGasCreate else txGas
  let nz := (data.filter (fun b => b != 0)).length
  let z := data.length - nz
  if (uint64Max - g0) / nonZeroByteGas < nz then none else
  let g1 := g0 + nz * nonZeroByteGas
  if (uint64Max - g1) / zeroByteGas < z then none else
  let g2 := g1 + z * zeroByteGas
  some (if fl.p026 then (g2 * gasMagnification) % (uint64Max + 1) else g2)

/-- `MinerManager.RemoveMiner(id, account, type, db, left)`: the record is wiped when nothing is left and the account
    holds no code; otherwise the stake slot becomes `left` (and the status `abort`, which is not ledger state).
    `getRefundStake` inlines it (`Props.C06Real.getRefundStake_removes_by_removeMiner`). -/
def removeMiner (r : Reg) (hasCode : Addr → Bool) (m : MinerRec) (left : Nat) : Reg :=
  if left = 0 && !hasCode m.account then regDel r m.id else regSet r { m with stake := left }

structure ContractTx where
  src : Addr
  target : Option Addr        -- none = contract creation
  eth : Bool                  -- TransactionTypeETHTX (jsonrpc executor) rather than TransactionTypeContract
  nonceOk : Bool              -- outcome of validateNonce (only consulted for ETHTX), an input: nonces are not ledger state
  jsonOk : Bool               -- tx.Data unmarshals into types.ContractData
  gasLimit : String
  value : String
  nz : Nat
  z : Nat
  init : Script               -- behaviour of the creation code (ignored for calls)
  gasUsed : Nat               -- gasLimit - leftOverGas as reported by the interpreter (gas metering is C11's model)

inductive Status where
  | success | failed | evicted
  deriving Repr, DecidableEq

/-- Outcome of `BeforeExecute` of the contract / jsonrpc executor.
    `.inl status` = stop with that status; `.inr (bal, rawGasLimit, value)` = go on to Execute. -/
def contractBefore (fl : Flags) (b : Bal) (t : ContractTx) : (Status × Bal) ⊕ (Bal × Nat × Int) :=
  -- a transaction the jsonrpc executor reports as not addable is evicted from Proposal018 on, failed before
  let refused : Status := if t.eth && fl.p018 then .evicted else .failed
  if t.eth && !t.nonceOk then .inl (refused, b) else
  match processFeeWith (txFeeOf fl) b t.src with
  | none => .inl (refused, b)
  | some b1 =>
    if !t.jsonOk then .inl (.failed, b1) else
    match parseGasLimit fl t.gasLimit with
    | none => .inl (.failed, b1)
    | some raw =>
      match strToBigInt t.value with
      | .err => .inl (.failed, b1)
      | .val v =>
        -- preCheckContractFee (Proposal015): balance < gasLimit*price + value  →  ErrInsufficientFunds
        if fl.p015 && decide (((get b1 t.src : Nat) : Int) < ((gasCost raw : Nat) : Int) + v) then .inl (.failed, b1)
        else .inr (b1, raw, v)

/-- Charging a gas fee: clamp `gasUsed * price` to the balance, debit the sender, credit the fee account.
    Transcribes both `deductGasFee` (core/vmexecutor.go) and the fee step of `contractExecutor.Execute`. -/
def chargeGas (b : Bal) (src : Addr) (gasUsed : Nat) : Bal :=
  let want := gasCost gasUsed
  let fee := if get b src < want then get b src else want
  addBal (subBal b src fee).1 feeAccount fee

/-- `deductGasFee` (core/vmexecutor.go) -/
def deductGasFee (b : Bal) (src : Addr) (gasUsed : Nat) : Bal := chargeGas b src gasUsed

/-- `contractExecutor.Execute`. Returns the state, success flag, and the new `context["gasUsed"]`
    (`none` = this call did not assign it). -/
def contractExecute (fl : Flags) (code : Code) (fuel : Nat) (t : ContractTx) (raw : Nat) (v : Int) (s : St) :
    St × Bool × Option Nat :=
  let ig := intrinsicGas fl t.target.isNone t.nz t.z
  if fl.p015 && decide (raw < ig) then (s, false, none) else
  let r := match t.target with
    | none => evmCreateTop code fl.p002 fuel t.src v t.init s
    | some a => evmCallTop code fl.p002 fuel t.src a v s
  -- before Proposal015 there is no gas accounting at all
  if !fl.p015 then (r.1, r.2, none) else
  -- gasFeeUsed = gasUsed * price, clamped to the sender's balance (second `fix:` commit of
  -- known-findings.txt), SubBalance(source) — result dropped — and AddBalance(FeeAccount): the same three
  -- steps as `deductGasFee` in core/vmexecutor.go, hence the same model function
  let b2 := chargeGas r.1.bal t.src t.gasUsed
  ({ r.1 with bal := b2 }, r.2, some t.gasUsed)

/-! ### Miner transactions (executor/miner_executor.go, service/miner_manager.go, service/refund_manager.go) -/

/-- `minerApplyExecutor.Execute` → `MinerManager.AddMiner`: type, minimum stake, keys, balance, id not yet a miner,
    account not yet owning a (visible) miner; then `SubBalance(src, stake tokens)` and the new record.
    `none` = the executor answered false. -/
def minerApply (s : St) (src : Addr) (id typ stake : Nat) (account : Addr) (keysOk : Bool) : Option St :=
  if typ ≠ 0 && typ ≠ 1 then none
  else if stake < minStake typ then none
  else if !keysOk then none
  else if get s.bal src < toWei stake then none
  else if (regGet s.reg id).isSome then none
  else if (byAccount s.reg account).isSome then none
  else some { s with bal := (subBal s.bal src (toWei stake)).1,
                     reg := regSet s.reg { id := id, account := account, stake := stake, typ := typ, visible := false } }

/-- `minerAddExecutor.Execute` → `MinerManager.AddStake`. -/
def minerAdd (s : St) (src : Addr) (id delta : Nat) : Option St :=
  if delta = 0 then some s
  else if get s.bal src < toWei delta then none
  else match regGet s.reg id with
    | none => none
    | some m => some { s with bal := (subBal s.bal src (toWei delta)).1, reg := regSet s.reg { m with stake := m.stake + delta } }

/-- `minerRefundExecutor.Execute`: an unsigned transaction is a successful no-op; the amount must parse as uint64
    (`amount = none` otherwise); `GetRefundStake` with the sender as account; the refund (due now + 36000) is put
    into the executor context and reaches the escrow at the end of the block.
    (Two different accounts refunding into one height in one block: the second entry is dropped by the code —
    C20's subject; the harness keeps one refund per block.) -/
def minerRefund (code : Code) (s : St) (src : Addr) (id : Nat) (amount : Option Nat) (signed : Bool) :
    Option (St × Escrow) :=
  if !signed then some (s, []) else
  match amount with
  | none => none
  | some a =>
    match getRefundStake s.reg (hasCodeIn code) id src a with
    | none => none
    | some (r', refund, acct) => some ({ s with reg := r' }, [(s.height + refundDelay, acct, toWei refund)])

/-- `minerChangeAccountExecutor.Execute` (type 6): the miner must exist, the new account must differ from the current
    one, the sender must be the current account, and the new account must not own a (visible) miner. Only the
    registry changes. -/
def minerChange (s : St) (src : Addr) (id : Nat) (newAcct : Addr) : Option St :=
  match regGet s.reg id with
  | none => none
  | some m =>
    if m.account = newAcct then none
    else if m.account ≠ src then none
    else if (byAccount s.reg newAcct).isSome then none
    else some { s with reg := regSet s.reg { m with account := newAcct } }

/-- `ten = StrToBigInt("10")` of executor/miner_node_executor.go -/
def nodeFee : Nat := 10000000000000000000

/-- `minerNodeExecutor.Execute` (OperatorNode, type 7): balance test against 10 RPG, `SubBalance(owner, ten)` —
    credited to nobody —, the sender must own a (visible) miner, the main-node contract call must yield the new
    contract account (`mainOk`, `newAcct`: inputs), which replaces the miner's account. Any failure after the debit
    makes the caller revert. -/
def nodeTxWith (fee : Nat) (s : St) (src : Addr) (newAcct : Addr) (mainOk : Bool) : Option St :=
  if get s.bal src < fee then none
  else match byAccount s.reg src with
    | none => none
    | some m =>
      match regGet s.reg m.id with
      | none => none
      | some m' =>
        if !mainOk then none
        else some { s with bal := (subBal s.bal src fee).1, reg := regSet s.reg { m' with account := newAcct } }

def nodeTx (s : St) (src : Addr) (newAcct : Addr) (mainOk : Bool) : Option St := nodeTxWith nodeFee s src newAcct mainOk

/-- `RefundManager.CheckAndMove`: every (address, value) of the escrow list is credited. -/
def refundMove (b : Bal) : List (Addr × Nat) → Bal
  | [] => b
  | (a, v) :: r => refundMove (addBal b a v) r

/-! ### Transactions and the per-transaction pipeline of `VMExecutor.Execute` -/

inductive Tx where
  | operator (src : Addr) (dataOk : Bool) (targets : List (Addr × Amount))
  | contract (t : ContractTx)
  | apply (src : Addr) (id typ stake : Nat) (account : Addr) (keysOk : Bool)   -- MinerApply (type 2)
  | addStake (src : Addr) (id delta : Nat)                                     -- MinerAdd (type 5)
  | refund (src : Addr) (id : Nat) (amount : Option Nat) (signed : Bool)       -- MinerRefund (type 3)
  | node (src : Addr) (newAcct : Addr) (mainOk : Bool)                         -- OperatorNode (type 7)
  | changeAccount (src : Addr) (id : Nat) (newAcct : Addr)                     -- MinerChangeAccount (type 6)

/-- Block-scoped executor context: `context["gasUsed"]` is never cleared between transactions. -/
structure Ctx where
  gasUsed : Option Nat
  /-- `context["refund"]`: refunds of miner-refund transactions, added to the escrow by `after()` -/
  pending : Escrow := []

structure World where
  st : St
  code : Code
  ctx : Ctx
  fl : Flags := {}

def defaultFuel : Nat := 4096

/-- One iteration of the transaction loop under the fork flags `w.fl`. -/
def execTx (fuel : Nat) (w : World) : Tx → World × Status
  | .operator src dataOk targets =>
    match processFeeWith (txFeeOf w.fl) w.st.bal src with
    | none => (w, .failed)
    | some b1 =>
      -- snapshot; operatorExecutor.Execute; revert on failure
      if !dataOk then ({ w with st := { w.st with bal := b1 } }, .failed) else
      match changeAssets b1 src targets with
      | none =>
        -- before Proposal002 the revert does not restore the transfers already made
        ({ w with st := { w.st with bal := if w.fl.p002 then b1 else changeAssetsPartial b1 src targets } }, .failed)
      | some b2 => ({ w with st := { w.st with bal := b2 } }, .success)
  | .apply src id typ stake account keysOk =>
    match processFeeWith (txFeeOf w.fl) w.st.bal src with
    | none => (w, .failed)
    | some b1 =>
      match minerApply { w.st with bal := b1 } src id typ stake account keysOk with
      | none => ({ w with st := { w.st with bal := b1 } }, .failed)
      | some s2 => ({ w with st := s2 }, .success)
  | .addStake src id delta =>
    match processFeeWith (txFeeOf w.fl) w.st.bal src with
    | none => (w, .failed)
    | some b1 =>
      match minerAdd { w.st with bal := b1 } src id delta with
      | none => ({ w with st := { w.st with bal := b1 } }, .failed)
      | some s2 => ({ w with st := s2 }, .success)
  | .refund src id amount signed =>
    match processFeeWith (txFeeOf w.fl) w.st.bal src with
    | none => (w, .failed)
    | some b1 =>
      match minerRefund w.code { w.st with bal := b1 } src id amount signed with
      | none => ({ w with st := { w.st with bal := b1 } }, .failed)
      | some (s2, pend) => ({ w with st := s2, ctx := { w.ctx with pending := w.ctx.pending ++ pend } }, .success)
  | .node src newAcct mainOk =>
    match processFeeWith (txFeeOf w.fl) w.st.bal src with
    | none => (w, .failed)
    | some b1 =>
      match nodeTx { w.st with bal := b1 } src newAcct mainOk with
      | none =>
        -- the 10 RPG are debited before the registry steps; before Proposal002 a failure does not give them back
        ({ w with st := { w.st with bal := if w.fl.p002 || decide (get b1 src < nodeFee) then b1
                                            else (subBal b1 src nodeFee).1 } }, .failed)
      | some s2 => ({ w with st := s2 }, .success)
  | .changeAccount src id newAcct =>
    match processFeeWith (txFeeOf w.fl) w.st.bal src with
    | none => (w, .failed)
    | some b1 =>
      match minerChange { w.st with bal := b1 } src id newAcct with
      | none => ({ w with st := { w.st with bal := b1 } }, .failed)
      | some s2 => ({ w with st := s2 }, .success)
  | .contract t =>
    match contractBefore w.fl w.st.bal t with
    | .inl (status, b) => ({ w with st := { w.st with bal := b } }, status)
    | .inr (b1, raw, v) =>
      let s1 : St := { w.st with bal := b1 }
      let r := contractExecute w.fl w.code fuel t raw v s1
      let ctx' : Ctx := match r.2.2 with
        | some g => { w.ctx with gasUsed := some g }
        | none => w.ctx
      if r.2.1 then ({ w with st := r.1, ctx := ctx' }, .success)
      else
        -- RevertToSnapshot, then (Proposal027) deductGasFee with whatever context["gasUsed"] holds
        let s2 := revertToJ w.fl.p002 s1 r.1
        let b3 := match ctx'.gasUsed with
          | some g => if w.fl.p027 then deductGasFee s2.bal t.src g else s2.bal
          | none => s2.bal
        ({ w with st := { s2 with bal := b3 }, ctx := ctx' }, .failed)

/-- A block: fresh context, the transactions in order, then `IntermediateRoot(true)` drops suicided
    accounts (their code disappears; balances live in the token contract's storage and stay). -/
def dropCode : Code → List Addr → Code
  | [], _ => []
  | (k, s) :: r, dead => if dead.contains k then dropCode r dead else (k, s) :: dropCode r dead

def execTxs (fuel : Nat) : World → List Tx → World × List Status
  | w, [] => (w, [])
  | w, t :: ts =>
    let r := execTx fuel w t
    let r2 := execTxs fuel r.1 ts
    (r2.1, r.2 :: r2.2)

/-- `RefundManager.CheckAndMove(h)`: credit every entry due at `h`, remove it from the escrow. -/
def checkAndMove (b : Bal) (e : Escrow) (h : Nat) : Bal × Escrow :=
  (refundMove b (dueAt e h), notDueAt e h)

/-- `VMExecutor.after` at height `h`: `RefundManager.Add` of the context refunds and of the block reward
    (`rewards`: computed by `RewardCalculator.CalculateReward` — an input, its float arithmetic is C01's subject),
    then `CheckAndMove(h)`. -/
def afterBlock (b : Bal) (e : Escrow) (h : Nat) (added : Escrow) : Bal × Escrow :=
  checkAndMove b (e ++ added) h

def markVisible : Reg → Reg
  | [] => []
  | m :: r => { m with visible := true } :: markVisible r

/-- A whole block at height `h`: fresh executor context, the transactions in order, `after()` (context refunds and
    `rewards` into the escrow, pay what is due at `h`), then the commit: registry writes become visible to the
    account iterator, suicided accounts lose their code. -/
def execBlock (fuel : Nat) (w : World) (h : Nat) (txs : List Tx) (rewards : Escrow) : World × List Status :=
  let r := execTxs fuel { w with ctx := { gasUsed := none, pending := [] }, st := { w.st with height := h, p014 := w.fl.p014 } } txs
  let w' := r.1
  let a := afterBlock w'.st.bal w'.st.escrow h (w'.ctx.pending ++ rewards)
  ({ w' with code := dropCode w'.code w'.st.dead,
             st := { w'.st with dead := [], sj := [], bal := a.1, escrow := a.2, reg := markVisible w'.st.reg } }, r.2)

end Rangers.Ledger
