import Rangers.Basic.Hex
/-!
Model of `src/core/groupchain.go` (+ `groupchain_sync.go`, the sqlite mirror of
`middleware/mysql/group_index.go`): the group chain as the node stores it.

The store is the prefixed LevelDB store `group`: RAW BYTE KEYS, exactly as in the
code — a group id, the 8-byte big-endian height, the ASCII keys `gcurrent` and
`gcount` all live in one key space (so an id that collides with an index key
behaves here as it does there). Every `Put`/`Delete` of `remove` is one physical
write, `save` is one `Put` and one atomic batch (`saveGroups`); an operation is
described by the LIST of writes it performs, so that a crash point is a prefix of
that list (for `save`: of its two write groups). Core Lean only (the driver is a compiled executable).
-/
namespace Rangers.Model.GroupChain
open Rangers

/-- What C19 needs of `types.Group`: id, `Header.PreGroup`, `Header.Parent`,
    `GroupHeight`, and `Header.CreateHeight` as a payload that tells two groups
    with the same id apart. -/
structure Group where
  id : Bytes
  pre : Bytes
  parent : Bytes
  height : Nat
  create : Nat
  /-- `Header.DismissHeight` (block height at which the group stops working) -/
  dismiss : Nat := 0
  /-- `Members` (miner ids) -/
  members : List Bytes := []
  deriving DecidableEq, Repr, Inhabited

/-- A stored value: the JSON of a group, a group id (under `gcurrent` / a height
    key), or the 8-byte count. Reading one kind as another follows the code:
    id/count bytes are taken not to be JSON text (an id such as `{}` would be), so
    `getGroupById` yields nil on them. -/
inductive Val where
  | grp (g : Group)
  | ref (id : Bytes)
  | cnt (n : Nat)
  deriving DecidableEq, Repr, Inhabited

abbrev Store := List (Bytes × Val)

def sget : Store → Bytes → Option Val
  | [], _ => none
  | (k', v) :: t, k => if k' = k then some v else sget t k

def sdel (s : Store) (k : Bytes) : Store := s.filter (fun e => decide (e.1 ≠ k))

def sput (s : Store) (k : Bytes) (v : Val) : Store := (k, v) :: sdel s k

def shas (s : Store) (k : Bytes) : Bool := (sget s k).isSome

/-- One physical write. -/
inductive Write where
  | put (k : Bytes) (v : Val)
  | del (k : Bytes)
  deriving DecidableEq, Repr

def applyWrite (s : Store) : Write → Store
  | .put k v => sput s k v
  | .del k => sdel s k

def applyWrites (s : Store) (ws : List Write) : Store := ws.foldl applyWrite s

/-- The store after a crash that let only the first `k` writes through. -/
def applyPrefix (k : Nat) (s : Store) (ws : List Write) : Store := applyWrites s (ws.take k)

def u64 : Nat := 18446744073709551616

/-- `generateKey(i)` = `binary.BigEndian.PutUint64` (the argument is a uint64). -/
def hkey (n : Nat) : Bytes :=
  [UInt8.ofNat (n / 72057594037927936), UInt8.ofNat (n / 281474976710656),
   UInt8.ofNat (n / 1099511627776), UInt8.ofNat (n / 4294967296),
   UInt8.ofNat (n / 16777216), UInt8.ofNat (n / 65536), UInt8.ofNat (n / 256), UInt8.ofNat n]

/-- `"gcurrent"` -/
def curKey : Bytes := [0x67, 0x63, 0x75, 0x72, 0x72, 0x65, 0x6e, 0x74]
/-- `"gcount"` -/
def cntKey : Bytes := [0x67, 0x63, 0x6f, 0x75, 0x6e, 0x74]

/-- `groupChain.getGroupById`: nil when absent or when the bytes are not a group. -/
def getGroupById (d : Store) (id : Bytes) : Option Group :=
  match sget d id with
  | some (.grp g) => some g
  | _ => none

/-- The id a height slot yields. A slot that holds group JSON (only possible when an
    id collides with a height key) is used by the code as an id nobody stored. -/
def slotId (d : Store) (k : Bytes) : Option Bytes :=
  match sget d k with
  | some (.ref id) => some id
  | _ => none

/-- `groupChain.getGroupByHeight` -/
def getGroupByHeight (d : Store) (h : Nat) : Option Group :=
  match slotId d (hkey h) with
  | some id => getGroupById d id
  | none => none

/-- In-memory part of `groupChain` plus the store and the sqlite `groupIndex` mirror. -/
structure Chain where
  disk : Store
  count : Nat
  last : Group
  mirror : List Bytes
  deriving DecidableEq, Repr, Inhabited

inductive AddRes where
  | ok | exists_ | noParent | preMismatch
  /-- `save` returned the error of its batch write (only under an injected write fault) -/
  | writeErr
  /-- `consensusHelper.CheckGroup` refused the group (evaluated after the duplicate-id check) -/
  | checkFail
  deriving DecidableEq, Repr

def mirrorInsert (m : List Bytes) (id : Bytes) : List Bytes := if id ∈ m then m else id :: m
def mirrorDelete (m : List Bytes) (id : Bytes) : List Bytes := m.filter (fun x => decide (x ≠ id))

/-- The group as `save` stores it: `group.GroupHeight = chain.count`. -/
def stamped (count : Nat) (g : Group) : Group := { g with height := count }

/-- `groupChain.save`: the four writes (one `Put`, then three `batch.Put`), in the order of the code. -/
def saveWrites (count : Nat) (g : Group) : List Write :=
  [ .put g.id (.grp (stamped count g)),
    .put curKey (.ref g.id),
    .put (hkey count) (.ref g.id),
    .put cntKey (.cnt ((count + 1) % u64)) ]

/-- The PHYSICAL writes of `save` (after "fix: groupChain.save writes gcurrent, the height slot and
    gcount in one atomic batch"): `Put(id, json)`, then one `NewBatch().Write()` with the three
    index entries. A crash point or a write fault falls between / on these two. -/
def saveGroups (count : Nat) (g : Group) : List (List Write) :=
  [(saveWrites count g).take 1, (saveWrites count g).drop 1]

def save (c : Chain) (g : Group) : Chain :=
  { disk := applyWrites c.disk (saveWrites c.count g),
    count := (c.count + 1) % u64,
    last := stamped c.count g,
    mirror := mirrorInsert c.mirror g.id }

/-- Which branch `AddGroup` takes (the stub consensus helper accepts every group). -/
def addCheck (c : Chain) (g : Group) : AddRes :=
  if shas c.disk g.id then .exists_
  else if !shas c.disk g.parent then .noParent
  else if c.last.id ≠ g.pre then .preMismatch
  else .ok

def addWrites (c : Chain) (g : Group) : List Write :=
  if addCheck c g = .ok then saveWrites c.count g else []

/-- `groupChain.AddGroup` -/
def addGroup (c : Chain) (g : Group) : AddRes × Chain :=
  match addCheck c g with
  | .ok => (.ok, save c g)
  | r => (r, c)

/-- `groupChain.remove`, the writes, given the predecessor that was read
    (`generateKey(chain.count - 1)` is uint64 arithmetic). -/
def removeWrites (count : Nat) (g pre : Group) : List Write :=
  [ .del g.id,
    .put curKey (.ref pre.id),
    .del (hkey ((count + u64 - 1) % u64)),
    .put cntKey (.cnt ((count + u64 - 1) % u64)) ]

def removeWritesOf (c : Chain) (g : Group) : List Write :=
  match getGroupById c.disk g.pre with
  | none => []
  | some pre => removeWrites c.count g pre

/-- `groupChain.remove(group)`; `false` (nothing written) when the predecessor is not stored. -/
def remove (c : Chain) (g : Group) : Bool × Chain :=
  match getGroupById c.disk g.pre with
  | none => (false, c)
  | some pre =>
    (true, { disk := applyWrites c.disk (removeWrites c.count g pre),
             count := (c.count + u64 - 1) % u64,
             last := pre,
             mirror := mirrorDelete c.mirror g.id })

/-- `chain.height()` of groupchain_sync.go -/
def topHeight (c : Chain) : Nat := if c.count > 1 then c.count - 1 else 0

/-- The loop of `removeFromCommonAncestor`: heights `t, t-1, …, h+1`, skipping nil slots. -/
def rmLoop (h : Nat) : Nat → Chain → Chain
  | 0, c => c
  | t + 1, c =>
    if t + 1 > h then
      match getGroupByHeight c.disk (t + 1) with
      | none => rmLoop h t c
      | some g => rmLoop h t (remove c g).2
    else c

/-- `removeFromCommonAncestor(ancestor)` with `ancestor.GroupHeight = h`. -/
def rmTo (c : Chain) (h : Nat) : Chain := rmLoop h (topHeight c) c

/-- Start-up result: a live chain, or the `panic("Unmarshal last group failed…")`. -/
inductive Boot where
  | alive (c : Chain)
  | dead
  deriving DecidableEq, Repr, Inhabited

/-- `refreshCache`: when the mirror's row count differs from `count`, re-insert every
    group reachable from `last` through predecessor links (nothing is deleted). -/
def refreshWalk (d : Store) : Nat → Group → List Bytes → List Bytes
  | 0, _, m => m
  | fuel + 1, g, m =>
    let m' := mirrorInsert m g.id
    match getGroupById d g.pre with
    | none => m'
    | some p => refreshWalk d fuel p m'

def refreshCache (d : Store) (count : Nat) (last : Group) (m : List Bytes) : List Bytes :=
  if m.length = count then m else refreshWalk d (d.length + 1) last m

/-- The stored count as `ByteToUInt64` reads it: absent → 0. `none` = a value this
    model does not interpret (group JSON under `gcount`; needs an id equal to "gcount"
    plus a crash) — the driver then answers `unmodelled`. -/
def readCount (d : Store) : Option Nat :=
  match sget d cntKey with
  | none => some 0
  | some (.cnt n) => some n
  | some _ => none

/-- `initGroupChain` on an existing store; `genesis` is what
    `consensusHelper.GenerateGenesisInfo()` returns. Outer `none` = not interpreted. -/
def restart (d : Store) (mirror : List Bytes) (genesis : List Group) : Option Boot :=
  match sget d curKey with
  | none =>
    match genesis with
    | [] => none
    | g0 :: gs =>
      let c0 : Chain := { disk := d, count := 0, last := g0, mirror := mirror }
      some (.alive ((g0 :: gs).foldl save c0))
  | some (.ref id) =>
    match getGroupById d id with
    | none => some .dead
    | some g =>
      match readCount d with
      | none => none
      | some n => some (.alive { disk := d, count := n, last := g, mirror := refreshCache d n g mirror })
  | some _ => none

/-- `Iterator()`: `Current()`, then `MovePre()` until nil. Fuel = number of stored
    entries + 1 (a longer walk has met some id twice, i.e. a cycle). -/
def iterWalk (d : Store) : Nat → Group → List Group
  | 0, _ => []
  | fuel + 1, g =>
    match getGroupById d g.pre with
    | none => [g]
    | some p => g :: iterWalk d fuel p

def iterList (c : Chain) : List Group := iterWalk c.disk (c.disk.length + 1) c.last

/-- `getSyncGroupsByHeight(height, limit)`: stops at the first empty slot; a slot whose
    id is no longer stored contributes a nil entry. -/
def syncFrom (d : Store) (h : Nat) : Nat → List (Option Group)
  | 0 => []
  | n + 1 =>
    match sget d (hkey h) with
    | some (.ref id) => getGroupById d id :: syncFrom d (h + 1) n
    | some _ => none :: syncFrom d (h + 1) n
    | none => []

/-- `GetSyncGroupsById(id)` -/
def syncById (d : Store) (id : Bytes) : List (Option Group) :=
  match getGroupById d id with
  | none => []
  | some g => syncFrom d ((g.height + 1) % u64) 5

/-! ### Crash points: the same operations when only `k` more physical writes get through -/

/-- Outcome of an operation under a write budget: completed (with the budget left), or
    the process died and only the store (and the sqlite mirror) survive. -/
inductive Run where
  | done (c : Chain) (left : Nat)
  | crashed (d : Store) (m : List Bytes)
  deriving DecidableEq, Repr, Inhabited

def saveB (c : Chain) (g : Group) (k : Nat) : Run :=
  let gs := saveGroups c.count g
  if k < gs.length then .crashed (applyWrites c.disk (gs.take k).flatten) c.mirror
  else .done (save c g) (k - gs.length)

def addB (c : Chain) (g : Group) (k : Nat) : AddRes × Run :=
  match addCheck c g with
  | .ok => (.ok, saveB c g k)
  | r => (r, .done c k)

def removeB (c : Chain) (g : Group) (k : Nat) : Bool × Run :=
  match getGroupById c.disk g.pre with
  | none => (false, .done c k)
  | some pre =>
    let ws := removeWrites c.count g pre
    if k < ws.length then (true, .crashed (applyPrefix k c.disk ws) c.mirror)
    else (true, .done (remove c g).2 (k - ws.length))

def rmLoopB (h : Nat) : Nat → Chain → Nat → Run
  | 0, c, k => .done c k
  | t + 1, c, k =>
    if t + 1 > h then
      match getGroupByHeight c.disk (t + 1) with
      | none => rmLoopB h t c k
      | some g =>
        match (removeB c g k).2 with
        | .done c' k' => rmLoopB h t c' k'
        | r => r
    else .done c k

def rmToB (c : Chain) (h : Nat) (k : Nat) : Run := rmLoopB h (topHeight c) c k

/-! ### Crash points during the very first start-up (the genesis groups being saved) -/

/-- The genesis loop of `initGroupChain` under a write budget. -/
def saveAllB : List Group → Chain → Nat → Run
  | [], c, k => .done c k
  | g :: t, c, k =>
    match saveB c g k with
    | .done c' k' => saveAllB t c' k'
    | r => r

/-- A (re-)run of the genesis branch on store `d` with budget `k`; `none` when `d` already has
    a last-group pointer (start-up then takes the other branch and writes nothing). -/
def firstBootB (d : Store) (m : List Bytes) (gs : List Group) (k : Nat) : Option Run :=
  match sget d curKey, gs with
  | none, g0 :: _ => some (saveAllB gs { disk := d, count := 0, last := g0, mirror := m } k)
  | _, _ => none

/-- `getFirstGroupBelowHeight(x)`: walk the iterator from `last`, return the first group whose
    `CreateHeight ≤ x` (the fork switch picks the common ancestor with it). -/
def firstBelowWalk (d : Store) (x : Nat) : Nat → Group → Option Group
  | 0, _ => none
  | fuel + 1, g =>
    if g.create ≤ x then some g
    else match getGroupById d g.pre with
      | none => none
      | some p => firstBelowWalk d x fuel p

def firstBelow (c : Chain) (x : Nat) : Option Group := firstBelowWalk c.disk x (c.disk.length + 1) c.last

/-! ### Write faults: one `Put`/`Delete` returns an error instead of being performed

`remove` ignores the error value of every store call, and `save` that of its first `Put`, so the
operation carries on: the remaining writes are performed, the in-memory mirror and sqlite are
updated, and the caller is told nothing. Only a failed batch write of `save` is returned. `j` = index (from 0) of the failing write among the writes still to come;
`none` = no fault (left). -/

/-- `save` with its `j`-th physical write failing. `j = 0`: `Put(id, json)` fails, its error is
    ignored, the batch is written and memory advances (the index then names a group that is not
    stored). `j = 1`: the batch fails, `save` returns the error BEFORE touching `count`/`lastGroup`
    and before the sqlite insert; only the (unreferenced) JSON is in the store. Result: the chain,
    whether the error surfaced, the fault index left. -/
def saveF (c : Chain) (g : Group) (j : Option Nat) : Chain × Bool × Option Nat :=
  match j with
  | some 0 => ({ save c g with disk := applyWrites c.disk ((saveWrites c.count g).drop 1) }, false, none)
  | some 1 => ({ c with disk := applyWrites c.disk ((saveWrites c.count g).take 1) }, true, none)
  | some (i + 2) => (save c g, false, some i)
  | none => (save c g, false, none)

def addGroupF (c : Chain) (g : Group) (j : Option Nat) : AddRes × Chain :=
  match addCheck c g with
  | .ok => let r := saveF c g j; (if r.2.1 then .writeErr else .ok, r.1)
  | r => (r, c)

def removeF (c : Chain) (g : Group) (j : Option Nat) : Bool × Chain × Option Nat :=
  match getGroupById c.disk g.pre with
  | none => (false, c, j)
  | some pre =>
    match j with
    | some i =>
      if i < 4 then
        (true, { (remove c g).2 with disk := applyWrites c.disk ((removeWrites c.count g pre).eraseIdx i) }, none)
      else (true, (remove c g).2, some (i - 4))
    | none => (true, (remove c g).2, none)

def rmLoopF (h : Nat) : Nat → Chain → Option Nat → Chain
  | 0, c, _ => c
  | t + 1, c, j =>
    if t + 1 > h then
      match getGroupByHeight c.disk (t + 1) with
      | none => rmLoopF h t c j
      | some g => let r := removeF c g j; rmLoopF h t r.2.1 r.2.2
    else c

def rmToF (c : Chain) (h : Nat) (j : Nat) : Chain := rmLoopF h (topHeight c) c (some j)

/-! ### Faults of the OTHER store: a statement on the sqlite `groupIndex` fails

`save` calls `mysql.InsertGroup(group)` and `remove` calls `mysql.DeleteGroup(group.Id)` AFTER the
LevelDB writes and the in-memory update, and `panic(err)` when the statement fails: the process
dies with store and memory already advanced and the mirror row not written / not removed. A fork
switch (`removeFromCommonAncestor`) is thereby cut after the removal whose statement failed. -/

inductive SqlKind where
  | ins | del
  deriving DecidableEq, Repr

/-- The statement that fails: an insert of / a delete for the row of group `id`. -/
structure SqlFault where
  kind : SqlKind
  id : Bytes
  deriving DecidableEq, Repr

/-- `save` under a failing insert: the chain as `save` leaves it, and whether it panicked. -/
def saveS (c : Chain) (g : Group) (f : SqlFault) : Chain × Bool :=
  if f.kind = .ins ∧ f.id = g.id then ({ save c g with mirror := c.mirror }, true) else (save c g, false)

def addGroupS (c : Chain) (g : Group) (f : SqlFault) : AddRes × Chain × Bool :=
  match addCheck c g with
  | .ok => let r := saveS c g f; (.ok, r.1, r.2)
  | r => (r, c, false)

/-- `remove` under a failing delete: (result, chain, panicked). -/
def removeS (c : Chain) (g : Group) (f : SqlFault) : Bool × Chain × Bool :=
  match getGroupById c.disk g.pre with
  | none => (false, c, false)
  | some _ =>
    if f.kind = .del ∧ f.id = g.id then (true, { (remove c g).2 with mirror := c.mirror }, true)
    else (true, (remove c g).2, false)

/-- The removal loop; stops at the removal that panics. -/
def rmLoopS (h : Nat) (f : SqlFault) : Nat → Chain → Chain × Bool
  | 0, c => (c, false)
  | t + 1, c =>
    if t + 1 > h then
      match getGroupByHeight c.disk (t + 1) with
      | none => rmLoopS h f t c
      | some g =>
        let r := removeS c g f
        if r.2.2 then (r.2.1, true) else rmLoopS h f t r.2.1
    else (c, false)

def rmToS (c : Chain) (h : Nat) (f : SqlFault) : Chain × Bool := rmLoopS h f (topHeight c) c

/-! ### The header rewrite of `AddGroup`, group availability, and the fork switch -/

/-- What `AddGroup` does to the header of an accepted group before `save`:
    `DismissHeight = CreateHeight + GetGroupWorkDuration()` (uint64). `dur` is that duration
    (a configuration value the harness reads from the node and passes in). The dismiss height
    a sender put into the group is overwritten; it does not even travel (`GroupToPbHeader`). -/
def prepare (dur : Nat) (g : Group) : Group := { g with dismiss := (g.create + dur) % u64 }

def addGroupD (dur : Nat) (c : Chain) (g : Group) : AddRes × Chain := addGroup c (prepare dur g)

/-- `availableGroupsAt(h)`: walk the iterator from `last`; a group whose `DismissHeight > h` is
    taken; at the FIRST group that is not, `GetGroupByHeight(0)` (the genesis group, possibly nil)
    is appended instead and the walk stops — older groups are not looked at. -/
def availWalk (d : Store) (h : Nat) : Nat → Group → List (Option Group)
  | 0, _ => []
  | fuel + 1, g =>
    if g.dismiss > h then
      some g :: (match getGroupById d g.pre with
                 | none => []
                 | some p => availWalk d h fuel p)
    else [getGroupByHeight d 0]

def availableAt (c : Chain) (h : Nat) : List (Option Group) :=
  availWalk c.disk h (c.disk.length + 1) c.last

/-- `GetAvailableGroupsByMinerId(h, m)`: the available groups that list `m` as a member
    (`none` = the real code dereferences a nil genesis group and panics). -/
def availableByMiner (c : Chain) (h : Nat) (m : Bytes) : Option (List Group) :=
  (availableAt c h).foldr (fun og acc =>
    match og, acc with
    | some g, some l => some (if m ∈ g.members then g :: l else l)
    | _, _ => none) (some [])

/-- `AddGroup` of each group in turn, stopping at the first one that is not accepted
    (the loop of `groupChainFork.triggerOnChain`). -/
def addAll (dur : Nat) : List Group → Chain → Chain × Bool
  | [], c => (c, true)
  | g :: t, c =>
    match addGroupD dur c g with
    | (.ok, c') => addAll dur t c'
    | (_, c') => (c', false)

/-- `groupChainFork.triggerOnChain` on a fresh fork: `removeFromCommonAncestor(ancestor)` with
    `ancestor.GroupHeight = h`, then `AddGroup` of the fork's groups in height order. -/
def forkSwitch (dur : Nat) (c : Chain) (h : Nat) (gs : List Group) : Chain × Bool :=
  addAll dur gs (rmTo c h)

/-- `AddGroup` of a group the consensus check refuses: `exists` wins over the refusal (the duplicate-id
    check comes first), nothing is written. `AddGroup(nil)` is refused before anything is read. -/
def addGroupRefused (c : Chain) (g : Group) : AddRes × Chain :=
  if shas c.disk g.id then (.exists_, c) else (.checkFail, c)

end Rangers.Model.GroupChain
