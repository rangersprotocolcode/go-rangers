import Rangers.Basic.Hex
import Rangers.Generated.C09Facts
/-!
C09 model, part 1: the proto2 wire format as gogo/protobuf v1.3.1's table-driven
`Unmarshal`/`Marshal` implement it for the messages of `x.pb.go` (the explicit
field-by-field converters of `src/middleware/types/serialization.go` are in `Model/WireConv.lean`).

Core Lean only (the driver `drv_c09` executes exactly these definitions).

Conventions
* `Option Bytes` = a Go `[]byte` / `*string` field: `none` is nil, `some []` is non-nil empty.
* `Option Nat`   = a Go `*uint64` / `*int32` field; int32 values are kept as their 32-bit pattern.
* every error of `proto.Unmarshal` (truncation, bad wire type when skipping, missing
  required field, in the message or in any nested chunk) is the single outcome `err`:
  `UnMarshalX` discards the partial object on any error.
-/
namespace Rangers.Wire
open Rangers

/-! ## Varints (`decodeVarint` / `encodeVarint` of table_unmarshal.go) -/

/-- `decodeVarint`: at most ten bytes, the tenth may only carry bit 63. `fuel` = bytes still allowed. -/
def readVarint : Nat → Bytes → Option (Nat × Bytes)
  | 0, _ => none
  | _ + 1, [] => none
  | f + 1, b :: rest =>
    if b.toNat < 128 then
      (if f = 0 ∧ 2 ≤ b.toNat then none else some (b.toNat, rest))
    else if f = 0 then none
    else match readVarint f rest with
      | none => none
      | some (v, r) => some (b.toNat - 128 + 128 * v, r)

def getVarint (bs : Bytes) : Option (Nat × Bytes) := readVarint 10 bs

/-- `encodeVarint`; `fuel` bounds the loop (9 continuation bytes cover every uint64). -/
def putVarint : Nat → Nat → Bytes
  | 0, n => [UInt8.ofNat n]
  | f + 1, n => if n < 128 then [UInt8.ofNat n] else UInt8.ofNat (n % 128 + 128) :: putVarint f (n / 128)

def encVarint (n : Nat) : Bytes := putVarint 9 n

/-! ## Raw fields: what one pass of `unmarshalInfo.unmarshal` sees at one nesting level -/

inductive Raw where
  | vint (num v : Nat)
  | len (num : Nat) (b : Bytes)
  | other (num wire : Nat)       -- fixed32 / fixed64 / group: never matches a field of our schema
  deriving Repr, DecidableEq, Inhabited

/-- `findEndGroup`: returns the bytes after the matching end-group tag. -/
def findEnd : Nat → Nat → Bytes → Option Bytes
  | 0, _, _ => none
  | f + 1, depth, bs =>
    match getVarint bs with
    | none => none
    | some (x, r) =>
      match x % 8 with
      | 0 => match getVarint r with
        | none => none
        | some (_, r2) => findEnd f depth r2
      | 1 => if r.length < 8 then none else findEnd f depth (r.drop 8)
      | 2 => match getVarint r with
        | none => none
        | some (m, r2) => if r2.length < m then none else findEnd f depth (r2.drop m)
      | 3 => findEnd f (depth + 1) r
      | 4 => if depth ≤ 1 then some r else findEnd f (depth - 1) r
      | 5 => if r.length < 4 then none else findEnd f depth (r.drop 4)
      | _ => none

/-- One iteration of the unmarshal loop: tag, then the payload selected by the wire type. -/
def rawStep (bs : Bytes) : Option (Raw × Bytes) :=
  match getVarint bs with
  | none => none
  | some (x, r) =>
    let num := x / 8
    if num = 0 then none      -- "illegal tag 0"
    else match x % 8 with
    | 0 => match getVarint r with
      | none => none
      | some (v, r2) => some (.vint num v, r2)
    | 1 => if r.length < 8 then none else some (.other num 1, r.drop 8)
    | 2 => match getVarint r with
      | none => none
      | some (m, r2) => if r2.length < m then none else some (.len num (r2.take m), r2.drop m)
    | 3 => match findEnd (r.length + 1) 1 r with
      | none => none
      | some r2 => some (.other num 3, r2)
    | 5 => if r.length < 4 then none else some (.other num 5, r.drop 4)
    | _ => none

def rawFields : Nat → Bytes → Option (List Raw)
  | 0, _ => none
  | _ + 1, [] => some []
  | f + 1, b :: bs =>
    match rawStep (b :: bs) with
    | none => none
    | some (r, rest) =>
      match rawFields f rest with
      | none => none
      | some rs => some (r :: rs)

/-- All fields of one message level; `none` = hard error (`io.ErrUnexpectedEOF`, unknown wire type). -/
def parseRaw (bs : Bytes) : Option (List Raw) := rawFields (bs.length + 1) bs

def encRaw : Raw → Bytes
  | .vint num v => encVarint (num * 8) ++ encVarint v
  | .len num b => encVarint (num * 8 + 2) ++ encVarint b.length ++ b
  | .other _ _ => []

def encRaws : List Raw → Bytes
  | [] => []
  | r :: rs => encRaw r ++ encRaws rs

/-! ### getters: last one wins for scalars, all occurrences for repeated / nested fields.
A known field arriving with another wire type is an unknown field (`errInternalBadWireType`). -/

def lastVint (n : Nat) : List Raw → Option Nat
  | [] => none
  | .vint m v :: rs => match lastVint n rs with
    | some w => some w
    | none => if m = n then some v else none
  | _ :: rs => lastVint n rs

def lastLen (n : Nat) : List Raw → Option Bytes
  | [] => none
  | .len m b :: rs => match lastLen n rs with
    | some w => some w
    | none => if m = n then some b else none
  | _ :: rs => lastLen n rs

def allLen (n : Nat) : List Raw → List Bytes
  | [] => []
  | .len m b :: rs => if m = n then b :: allLen n rs else allLen n rs
  | _ :: rs => allLen n rs

def hasVint (n : Nat) (rs : List Raw) : Bool := (lastVint n rs).isSome
def hasLen (n : Nat) (rs : List Raw) : Bool := (lastLen n rs).isSome

def optVintR (n : Nat) : Option Nat → List Raw
  | none => []
  | some v => [.vint n v]

def optLenR (n : Nat) : Option Bytes → List Raw
  | none => []
  | some b => [.len n b]

def repLenR (n : Nat) : List Bytes → List Raw
  | [] => []
  | b :: bs => .len n b :: repLenR n bs

/-- int32 on the wire: sign-extended to 64 bits; read back by truncation `int32(x)`. -/
def sext32 (v : Nat) : Nat := if v < 2147483648 then v else v + 18446744069414584320
def trunc32 (v : Nat) : Nat := v % 4294967296

def mapM' {α β : Type} (f : α → Option β) : List α → Option (List β)
  | [] => some []
  | a :: as => match f a with
    | none => none
    | some b => match mapM' f as with
      | none => none
      | some bs => some (b :: bs)

def flat {α : Type} : List (List α) → List α
  | [] => []
  | l :: ls => l ++ flat ls

/-- Chunks of a non-repeated nested message field are merged: every chunk must parse and pass
    its own required-field check; the merged value is read from the concatenated raw fields. -/
def mergedChunks (req : List Raw → Bool) (chunks : List Bytes) : Option (List Raw) :=
  match mapM' (fun c => match parseRaw c with
      | none => none
      | some rs => if req rs then some rs else none) chunks with
  | none => none
  | some rss => some (flat rss)

/-! ## The protobuf structs of x.pb.go that serialization.go converts -/

structure PbTxHash where
  hash : Option Bytes
  subHash : Option Bytes
  deriving Repr, DecidableEq, Inhabited

structure PbTx where
  data : Option Bytes
  nonce : Option Nat
  source : Option Bytes
  target : Option Bytes
  type : Option Nat
  hash : Option Bytes
  extraData : Option Bytes
  extraDataType : Option Nat
  sign : Option Bytes
  time : Option Bytes
  requestId : Option Nat
  socketRequestId : Option Bytes
  subTransactions : Option Bytes
  subHash : Option Bytes
  chainId : Option Bytes
  deriving Repr, DecidableEq, Inhabited

structure PbHeader where
  hash : Option Bytes
  height : Option Nat
  preHash : Option Bytes
  preTime : Option Bytes
  proveValue : Option Bytes
  totalQN : Option Nat
  curTime : Option Bytes
  castor : Option Bytes
  groupId : Option Bytes
  signature : Option Bytes
  nonce : Option Nat
  transactions : List PbTxHash
  txTree : Option Bytes
  receiptTree : Option Bytes
  stateTree : Option Bytes
  extraData : Option Bytes
  random : Option Bytes
  proveRoot : Option Bytes
  evictedTxs : Option (List Bytes)      -- `*Hashes`; the inner repeated field
  requestIds : Option Bytes
  deriving Repr, DecidableEq, Inhabited

structure PbBlock where
  header : Option PbHeader
  transactions : List PbTx
  deriving Repr, DecidableEq, Inhabited

structure PbGroupHeader where
  hash : Option Bytes
  parent : Option Bytes
  preGroup : Option Bytes
  createBlockHash : Option Bytes
  beginTime : Option Bytes
  memberRoot : Option Bytes
  createHeight : Option Nat
  extends_ : Option Bytes
  deriving Repr, DecidableEq, Inhabited

structure PbGroup where
  header : Option PbGroupHeader
  id : Option Bytes
  pubKey : Option Bytes
  signature : Option Bytes
  members : List Bytes
  groupHeight : Option Nat
  deriving Repr, DecidableEq, Inhabited

structure PbMember where
  id : Option Bytes
  pubKey : Option Bytes
  deriving Repr, DecidableEq, Inhabited

/-! ### decoders -/

def txHashOfRaws (rs : List Raw) : PbTxHash := ⟨lastLen 1 rs, lastLen 2 rs⟩

def decTxHash (bs : Bytes) : Option PbTxHash :=
  match parseRaw bs with
  | none => none
  | some rs => some (txHashOfRaws rs)

def txOfRaws (rs : List Raw) : PbTx :=
  { data := lastLen 1 rs, nonce := lastVint 2 rs, source := lastLen 3 rs, target := lastLen 4 rs,
    type := (lastVint 5 rs).map trunc32, hash := lastLen 6 rs, extraData := lastLen 7 rs,
    extraDataType := (lastVint 8 rs).map trunc32, sign := lastLen 9 rs, time := lastLen 10 rs,
    requestId := lastVint 11 rs, socketRequestId := lastLen 12 rs, subTransactions := lastLen 13 rs,
    subHash := lastLen 14 rs, chainId := lastLen 15 rs }

def txReq (rs : List Raw) : Bool := hasVint 5 rs

def decTx (bs : Bytes) : Option PbTx :=
  match parseRaw bs with
  | none => none
  | some rs => if txReq rs then some (txOfRaws rs) else none

def decTxSlice (bs : Bytes) : Option (List PbTx) :=
  match parseRaw bs with
  | none => none
  | some rs => mapM' decTx (allLen 1 rs)

def hashesOfRaws (rs : List Raw) : List Bytes := allLen 1 rs

def headerOfRaws (rs : List Raw) : Option PbHeader :=
  match mapM' decTxHash (allLen 12 rs) with
  | none => none
  | some ths =>
    match (match allLen 19 rs with
           | [] => some none
           | c :: cs => match mergedChunks (fun _ => true) (c :: cs) with
             | none => none
             | some ers => some (some (hashesOfRaws ers))) with
    | none => none
    | some ev =>
      some { hash := lastLen 1 rs, height := lastVint 2 rs, preHash := lastLen 3 rs, preTime := lastLen 4 rs,
             proveValue := lastLen 5 rs, totalQN := lastVint 6 rs, curTime := lastLen 7 rs,
             castor := lastLen 8 rs, groupId := lastLen 9 rs, signature := lastLen 10 rs,
             nonce := lastVint 11 rs, transactions := ths, txTree := lastLen 13 rs,
             receiptTree := lastLen 14 rs, stateTree := lastLen 15 rs, extraData := lastLen 16 rs,
             random := lastLen 17 rs, proveRoot := lastLen 18 rs, evictedTxs := ev,
             requestIds := lastLen 20 rs }

def decHeader (bs : Bytes) : Option PbHeader :=
  match parseRaw bs with
  | none => none
  | some rs => headerOfRaws rs

def blockReq (rs : List Raw) : Bool := hasLen 1 rs

def decBlock (bs : Bytes) : Option PbBlock :=
  match parseRaw bs with
  | none => none
  | some rs =>
    if blockReq rs then
      match mergedChunks (fun _ => true) (allLen 1 rs) with
      | none => none
      | some hrs =>
        match headerOfRaws hrs with
        | none => none
        | some h =>
          match mapM' decTx (allLen 2 rs) with
          | none => none
          | some txs => some ⟨some h, txs⟩
    else none

def groupHeaderReq (rs : List Raw) : Bool := hasLen 6 rs && hasVint 7 rs

def groupHeaderOfRaws (rs : List Raw) : PbGroupHeader :=
  { hash := lastLen 1 rs, parent := lastLen 2 rs, preGroup := lastLen 3 rs, createBlockHash := lastLen 4 rs,
    beginTime := lastLen 5 rs, memberRoot := lastLen 6 rs, createHeight := lastVint 7 rs,
    extends_ := lastLen 8 rs }

def groupReq (rs : List Raw) : Bool := hasLen 1 rs

def decGroup (bs : Bytes) : Option PbGroup :=
  match parseRaw bs with
  | none => none
  | some rs =>
    if groupReq rs then
      match mergedChunks groupHeaderReq (allLen 1 rs) with
      | none => none
      | some hrs =>
        some { header := some (groupHeaderOfRaws hrs), id := lastLen 2 rs, pubKey := lastLen 3 rs,
               signature := lastLen 4 rs, members := allLen 5 rs, groupHeight := lastVint 6 rs }
    else none

def memberReq (rs : List Raw) : Bool := hasLen 1 rs && hasLen 2 rs

def decMember (bs : Bytes) : Option PbMember :=
  match parseRaw bs with
  | none => none
  | some rs => if memberReq rs then some ⟨lastLen 1 rs, lastLen 2 rs⟩ else none

/-- `GroupSlice { repeated Group Groups = 1 }`, the argument of `PbToGroups`. -/
def decGroupSlice (bs : Bytes) : Option (List PbGroup) :=
  match parseRaw bs with
  | none => none
  | some rs => mapM' decGroup (allLen 1 rs)

/-! ### encoders (`proto.Marshal`: fields in tag order, nil pointers / nil slices omitted) -/

def rawsOfTxHash (p : PbTxHash) : List Raw := optLenR 1 p.hash ++ optLenR 2 p.subHash

def rawsOfTx (p : PbTx) : List Raw :=
  optLenR 1 p.data ++ optVintR 2 p.nonce ++ optLenR 3 p.source ++ optLenR 4 p.target ++
  optVintR 5 (p.type.map sext32) ++ optLenR 6 p.hash ++ optLenR 7 p.extraData ++
  optVintR 8 (p.extraDataType.map sext32) ++ optLenR 9 p.sign ++ optLenR 10 p.time ++
  optVintR 11 p.requestId ++ optLenR 12 p.socketRequestId ++ optLenR 13 p.subTransactions ++
  optLenR 14 p.subHash ++ optLenR 15 p.chainId

def encTx (p : PbTx) : Bytes := encRaws (rawsOfTx p)

def encTxSlice (ps : List PbTx) : Bytes := encRaws (repLenR 1 (ps.map encTx))

def rawsOfHeader (p : PbHeader) : List Raw :=
  optLenR 1 p.hash ++ optVintR 2 p.height ++ optLenR 3 p.preHash ++ optLenR 4 p.preTime ++
  optLenR 5 p.proveValue ++ optVintR 6 p.totalQN ++ optLenR 7 p.curTime ++ optLenR 8 p.castor ++
  optLenR 9 p.groupId ++ optLenR 10 p.signature ++ optVintR 11 p.nonce ++
  repLenR 12 (p.transactions.map (fun t => encRaws (rawsOfTxHash t))) ++
  optLenR 13 p.txTree ++ optLenR 14 p.receiptTree ++ optLenR 15 p.stateTree ++ optLenR 16 p.extraData ++
  optLenR 17 p.random ++ optLenR 18 p.proveRoot ++
  optLenR 19 (p.evictedTxs.map (fun hs => encRaws (repLenR 1 hs))) ++ optLenR 20 p.requestIds

def encHeader (p : PbHeader) : Bytes := encRaws (rawsOfHeader p)

def rawsOfBlock (p : PbBlock) : List Raw :=
  optLenR 1 (p.header.map encHeader) ++ repLenR 2 (p.transactions.map encTx)

def encBlock (p : PbBlock) : Bytes := encRaws (rawsOfBlock p)

def rawsOfGroupHeader (p : PbGroupHeader) : List Raw :=
  optLenR 1 p.hash ++ optLenR 2 p.parent ++ optLenR 3 p.preGroup ++ optLenR 4 p.createBlockHash ++
  optLenR 5 p.beginTime ++ optLenR 6 p.memberRoot ++ optVintR 7 p.createHeight ++ optLenR 8 p.extends_

def rawsOfGroup (p : PbGroup) : List Raw :=
  optLenR 1 (p.header.map (fun h => encRaws (rawsOfGroupHeader h))) ++ optLenR 2 p.id ++
  optLenR 3 p.pubKey ++ optLenR 4 p.signature ++ repLenR 5 p.members ++ optVintR 6 p.groupHeight

def encGroup (p : PbGroup) : Bytes := encRaws (rawsOfGroup p)

def rawsOfMember (p : PbMember) : List Raw := optLenR 1 p.id ++ optLenR 2 p.pubKey

def encMember (p : PbMember) : Bytes := encRaws (rawsOfMember p)

def encGroupSlice (ps : List PbGroup) : Bytes := encRaws (repLenR 1 (ps.map encGroup))

end Rangers.Wire
