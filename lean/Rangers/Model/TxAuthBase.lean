import Rangers.Basic.Hex
import Rangers.Model.RLP
/-!
C07 helpers (core Lean only): Go string renderings used by the transaction
authenticity code, and the RLP coding of the wrapped Ethereum transaction
payload (`eth_tx.txdata`), exactly as `storage/rlp` decodes/encodes that one
struct type.  Go strings are byte sequences, so every string is `Bytes`.

The RLP layer is C08's model (`Model/RLP.lean`); only the typing of the nine items as
`eth_tx.txdata` lives here.
-/
namespace Rangers.Model.TxAuth
open Rangers

/-! ## decimal renderings: strconv.FormatUint / strconv.Itoa / big.Int.String (non-negative) -/

def digitByte (d : Nat) : UInt8 := UInt8.ofNat (48 + d)

/-- Least significant digit first. `fuel > n` always suffices (`valRev_decRev`). -/
def decRev : Nat → Nat → Bytes
  | 0, _ => []
  | f + 1, n => if n < 10 then [digitByte n] else digitByte (n % 10) :: decRev f (n / 10)

/-- `strconv.FormatUint(n, 10)` = `big.Int.String()` for n ≥ 0. -/
def decimal (n : Nat) : Bytes := (decRev (n + 1) n).reverse

/-- `strconv.Itoa`. -/
def decimalInt (i : Int) : Bytes :=
  if i < 0 then 45 :: decimal i.natAbs else decimal i.natAbs

/-- value of a least-significant-first digit string (inverse of `decRev`). -/
def valRev : Bytes → Nat
  | [] => 0
  | d :: ds => (d.toNat - 48) + 10 * valRev ds

/-! ## hex strings: common.ToHex / common.FromHex / hex.DecodeString (errors ignored) -/

def nibbleByte (n : Nat) : UInt8 := if n < 10 then UInt8.ofNat (48 + n) else UInt8.ofNat (87 + n)

def hexChars : Bytes → Bytes
  | [] => []
  | b :: bs => nibbleByte (b.toNat / 16) :: nibbleByte (b.toNat % 16) :: hexChars bs

/-- `common.ToHex`: "0x" + lower-case hex, "0x0" for the empty string. -/
def toHex0x (bs : Bytes) : Bytes :=
  48 :: 120 :: (if bs.isEmpty then [48] else hexChars bs)

def nibbleVal? (c : UInt8) : Option Nat :=
  if 48 ≤ c ∧ c ≤ 57 then some (c.toNat - 48)
  else if 97 ≤ c ∧ c ≤ 102 then some (c.toNat - 87)
  else if 65 ≤ c ∧ c ≤ 70 then some (c.toNat - 55)
  else none

/-- `hex.DecodeString` with the error dropped (`common.Hex2Bytes`): the pairs
    decoded before the first invalid character; a trailing odd character is ignored. -/
def hexDecodePrefix : Bytes → Bytes
  | a :: b :: rest =>
    match nibbleVal? a, nibbleVal? b with
    | some x, some y => UInt8.ofNat (x * 16 + y) :: hexDecodePrefix rest
    | _, _ => []
  | _ => []

/-- `common.FromHex`. -/
def fromHex (s : Bytes) : Bytes :=
  if s.length > 1 then
    let s1 := match s with
      | 48 :: 120 :: r => r
      | 48 :: 88 :: r => r
      | _ => s
    let s2 := if s1.length % 2 = 1 then 48 :: s1 else s1
    hexDecodePrefix s2
  else []

/-! ## utility.BigIntToStr (18 decimals), non-negative argument -/

/-- `utility.BigIntToStr` on a non-negative big.Int. -/
def bigIntToStr (n : Nat) : Bytes :=
  if n = 0 then [48] else
  let number := decimal n
  let len := number.length
  if len ≤ 18 then
    48 :: 46 :: (List.replicate (18 - len) 48 ++ number)
  else
    number.take (len - 18) ++ 46 :: number.drop (len - 18)

/-! ## RLP of the payload struct — on top of the C08 model (`Model/RLP.lean`)

`rlp.DecodeBytes(b, new(eth_tx.Transaction))` is the generic item decoder of C08
(`RLP.decodeBytes`: canonical sizes, canonical single bytes, exact length, no trailing
data — `Props/C08.lean` proves it lossless and canonical) followed by the typing of the
nine items as the fields of `eth_tx.txdata` (`txOfItem`): two `uint64`, five `*big.Int`,
one byte string and the `rlp:"nil"` recipient.  The field typing uses C08's
`uintOfContent` / `bigOfContent` (`integers_canonical`, `big_integers_canonical`).
-/

/-- The consensus content of an Ethereum legacy transaction (`eth_tx.txdata`). -/
structure EthTx where
  nonce : Nat
  price : Nat
  gas : Nat
  to : Option Bytes
  value : Nat
  data : Bytes
  v : Nat
  r : Nat
  s : Nat
deriving Repr, DecidableEq

def okOpt {α : Type} : Except RLP.Err α → Option α
  | .ok a => some a
  | .error _ => none

/-- `makeOptionalPtrDecoder` over `decodeByteArray` for `*common.Address` with tag
    `rlp:"nil"`: an item of size 0 that is not a single byte — the empty string **or the
    empty list** — is nil; otherwise a string of exactly 20 bytes. -/
def toOfItem : RLP.Item → Option (Option Bytes)
  | .str [] => some none
  | .list [] => some none
  | .str a => if a.length = 20 then some (some a) else none
  | .list _ => none

/-- typing of the decoded item as `eth_tx.txdata` -/
def txOfItem : RLP.Item → Option EthTx
  | .list [.str n, .str p, .str g, to, .str vl, .str d, .str v, .str r, .str s] =>
    match okOpt (RLP.uintOfContent 64 n), okOpt (RLP.bigOfContent p), okOpt (RLP.uintOfContent 64 g),
          toOfItem to, okOpt (RLP.bigOfContent vl), okOpt (RLP.bigOfContent v),
          okOpt (RLP.bigOfContent r), okOpt (RLP.bigOfContent s) with
    | some nonce, some price, some gas, some to, some value, some v, some r, some s =>
      some { nonce, price, gas, to, value, data := d, v, r, s }
    | _, _, _, _, _, _, _, _ => none
  | _ => none

/-- `rlp.DecodeBytes(enc, new(eth_tx.Transaction))`. -/
def decodeTx (enc : Bytes) : Option EthTx :=
  match RLP.decodeBytes enc with
  | .ok it => txOfItem it
  | .error _ => none

def toItem : Option Bytes → RLP.Item
  | none => .str []
  | some a => .str a

/-- the six signed content fields as items (`uint64` and `*big.Int` both write the minimal
    big-endian form, `writeUint` / `writeBigInt`) -/
def coreItems (e : EthTx) : List RLP.Item :=
  [.str (RLP.toBE e.nonce), .str (RLP.toBE e.price), .str (RLP.toBE e.gas), toItem e.to,
   .str (RLP.toBE e.value), .str e.data]

/-- the item `rlp.Encode(&tx.data)` writes -/
def itemOfTx (e : EthTx) : RLP.Item :=
  .list (coreItems e ++ [.str (RLP.toBE e.v), .str (RLP.toBE e.r), .str (RLP.toBE e.s)])

/-- `rlp.Encode(&tx.data)` — the preimage of `Transaction.Hash()`. -/
def encodeTx (e : EthTx) : Bytes := RLP.encode (itemOfTx e)

/-- preimage of `EIP155Signer.Hash`: the six fields, chain id, 0, 0. -/
def sigPreimage155 (chainId : Nat) (e : EthTx) : Bytes :=
  RLP.encode (.list (coreItems e ++ [.str (RLP.toBE chainId), .str [], .str []]))

/-- preimage of `HomesteadSigner.Hash` (= FrontierSigner.Hash). -/
def sigPreimageHomestead (e : EthTx) : Bytes := RLP.encode (.list (coreItems e))

end Rangers.Model.TxAuth
