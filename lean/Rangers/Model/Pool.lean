import Rangers.Basic.Hex
/-!
# Model of the go-rangers transaction pool (property C17)

Transcribes, as total computable core-Lean definitions,
`src/service/transaction_pool.go` (`TxPool`: add / AddTransaction / PackForCast /
checkNonce / MarkExecuted / UnMarkExecuted / GetTransaction / IsExisted / GetGateNonce),
`src/service/simple_container.go` (`simpleContainer`: push with limit, remove, growRing) and
`src/middleware/types/transaction.go` (`Transactions.Less` for every proposal set, with its
`panic("equal hash")` branch), plus `common.FromHex` / `common.HexToAddress` as far as
`Less` and `checkNonce` use them.

What is *code as it is* (defects included):
* `push` drops silently when the container is full, `add` still answers `ok`.
* `MarkExecuted` writes records only for receipts; a receipt whose hash has no transaction in
  the block's list makes `refreshGateNonce(nil)` panic after the record was put into the shared
  batch (it is then written by the next successful `MarkExecuted`).
* gate nonces put by `AddTransaction` stay in the shared batch until the next block is marked.
* the nonce walk is keyed by the `Source` *string* while the state nonce is read at
  `HexToAddress(Source)` (left-aligned copy for short inputs, last 20 bytes for long ones).
* expected nonce arithmetic is `uint64` (wraps).

`sort.Sort` is modelled by Go's insertion sort (`insertionSort` in package sort, used for
slices of at most 12 elements and the leaf case of pdqsort): element `i` moves left while
`Less(i, i-1)`. For longer slices the result of pdqsort coincides with it whenever `Less`
is a strict total order on the elements present; the driver answers `unmodelled` otherwise
(see `sortDetermined`). The theorems in `Props/C17.lean` that speak about order are stated
for *every* permutation of the pending list that is sorted w.r.t. `Less`, so they do not
depend on the algorithm.
-/
namespace Rangers.Pool
open Rangers

/-- Fork flags read by `PackForCast` (`IsProposal018`) and `Transactions.Less` (016/021/023). -/
structure Cfg where
  p016 : Bool
  p018 : Bool
  p021 : Bool
  p023 : Bool
  deriving DecidableEq, Repr

/-- The fields of `types.Transaction` the pool looks at. `tag` stands for the identity of the
Go object (the pool stores pointers); `gate` is `SubTransactions[0].Address` when there is
exactly one sub-transaction and 0 otherwise (what `refreshGateNonce` reads). -/
structure Tx where
  tag : Nat
  hash : Nat
  src : Bytes
  nonce : Nat
  req : Nat
  gate : Nat
  deriving DecidableEq, Repr

def u64 : Nat := 18446744073709551616

/-! ## common.FromHex / HexToAddress -/

def hexNib? (b : UInt8) : Option Nat :=
  let n := b.toNat
  if 48 ≤ n ∧ n ≤ 57 then some (n - 48)
  else if 97 ≤ n ∧ n ≤ 102 then some (n - 87)
  else if 65 ≤ n ∧ n ≤ 70 then some (n - 55)
  else none

/-- `hex.DecodeString` with the error dropped (`Hex2Bytes`): the bytes decoded before the
first invalid character. Input length is even at the only call site. -/
def decodePairs : List UInt8 → Bytes
  | a :: b :: rest =>
    match hexNib? a, hexNib? b with
    | some x, some y => UInt8.ofNat (x * 16 + y) :: decodePairs rest
    | _, _ => []
  | _ => []

def has0x (s : Bytes) : Bool :=
  match s with
  | a :: b :: _ => a == 48 && (b == 120 || b == 88)
  | _ => false

/-- `common.FromHex`. -/
def fromHex (s : Bytes) : Bytes :=
  if s.length > 1 then
    let s1 := if has0x s then s.drop 2 else s
    let s2 := if s1.length % 2 == 1 then (48 : UInt8) :: s1 else s1
    decodePairs s2
  else []

/-- `new(big.Int).SetBytes(common.FromHex(Source))`. -/
def srcVal (s : Bytes) : Nat := beToNat (fromHex s)

/-- `common.HexToAddress(Source)` as a number: `Address.SetBytes` keeps the last 20 bytes of a
longer input and copies a shorter one to the *front* of the zeroed array. -/
def addrOf (s : Bytes) : Nat :=
  let b := fromHex s
  if b.length > 20 then beToNat (b.drop (b.length - 20))
  else beToNat (b ++ List.replicate (20 - b.length) 0)

/-! ## Transactions.Less -/

/-- Outcome of one `Less(i, j)` call. -/
inductive Cmp where
  | lt      -- returned true
  | ge      -- returned false
  | panic   -- `panic("equal hash: …")`
  deriving DecidableEq, Repr

def Cmp.ofBool (b : Bool) : Cmp := if b then .lt else .ge

def lessRes (c : Cfg) (a b : Tx) : Cmp :=
  if a.req = 0 ∧ b.req = 0 then
    if c.p023 then
      if a.src = b.src then
        if a.nonce ≠ b.nonce then Cmp.ofBool (decide (a.nonce < b.nonce))
        else if a.hash = b.hash then .panic
        else Cmp.ofBool (decide (b.hash < a.hash))
      else Cmp.ofBool (decide (srcVal b.src < srcVal a.src))
    else if c.p021 then
      if a.src = b.src then Cmp.ofBool (decide (a.nonce < b.nonce))
      else Cmp.ofBool (decide (srcVal b.src < srcVal a.src))
    else if c.p016 ∧ a.src = b.src then Cmp.ofBool (decide (a.nonce < b.nonce))
    else Cmp.ofBool (decide (b.hash < a.hash))
  else Cmp.ofBool (decide (a.req < b.req))

/-- `Less` as a Boolean (panic counted as `false`; use only where `lessRes ≠ panic` is known). -/
def less (c : Cfg) (a b : Tx) : Bool := lessRes c a b == .lt

/-! ## sort.Sort (insertion sort of package sort) -/

/-- The sorted prefix is kept reversed (last element first); `x` moves left while `Less(x, y)`. -/
def insRev (c : Cfg) (x : Tx) : List Tx → Option (List Tx)
  | [] => some [x]
  | y :: ys =>
    match lessRes c x y with
    | .lt => (insRev c x ys).map (fun r => y :: r)
    | .ge => some (x :: y :: ys)
    | .panic => none

def sortRev (c : Cfg) : List Tx → List Tx → Option (List Tx)
  | [], acc => some acc
  | x :: xs, acc =>
    match insRev c x acc with
    | some acc' => sortRev c xs acc'
    | none => none

/-- `sort.Sort(types.Transactions(l))`; `none` = a comparison panicked. -/
def goSort (c : Cfg) (l : List Tx) : Option (List Tx) := (sortRev c l []).map List.reverse

/-- `l` is strictly increasing for `Less` on *every* pair (and `Less` is asymmetric on it): then
`Less` restricted to these elements is a strict total order and every correct comparison sort
returns exactly `l`. -/
def strictChain (c : Cfg) : List Tx → Bool
  | [] => true
  | x :: xs => xs.all (fun y => lessRes c x y == .lt && lessRes c y x == .ge) && strictChain c xs

/-- When does the model's sort determine what `sort.Sort` (pdqsort) returns? -/
def sortDetermined (c : Cfg) (input sorted : List Tx) : Bool :=
  decide (input.length ≤ 12) || strictChain c sorted

/-! ## checkNonce -/

abbrev NonceMap := List (Bytes × Nat)

def nmGet (m : NonceMap) (s : Bytes) : Option Nat :=
  match m with
  | [] => none
  | (k, v) :: r => if k = s then some v else nmGet r s

def nmSet (m : NonceMap) (s : Bytes) (v : Nat) : NonceMap :=
  match m with
  | [] => [(s, v)]
  | (k, w) :: r => if k = s then (k, v) :: r else (k, w) :: nmSet r s v

/-- `nonceMap[src]`, falling back to `stateDB.GetNonce(HexToAddress(src))`. -/
def expectedOf (σ : Nat → Nat) (m : NonceMap) (s : Bytes) : Nat :=
  match nmGet m s with
  | some e => e
  | none => σ (addrOf s)

/-- The loop of `checkNonce` over the sorted slice; first argument = how many more
transactions may be appended before `len(packedTxs) >= txCountPerBlock` breaks the loop. -/
def walk (σ : Nat → Nat) : Nat → NonceMap → List Tx → List Tx
  | _, _, [] => []
  | 0, _, _ :: _ => []
  | k + 1, m, t :: ts =>
    if t.req = 0 then
      let e := expectedOf σ m t.src
      let m1 := nmSet m t.src e
      if e < t.nonce then walk σ (k + 1) m1 ts
      else if e = t.nonce then t :: walk σ k (nmSet m1 t.src ((e + 1) % u64)) ts
      else t :: walk σ k m1 ts
    else t :: walk σ k m ts

/-! ## simpleContainer and TxPool state -/

structure Entry where
  tx : Tx
  ring : Nat
  deriving DecidableEq, Repr

/-- One pending operation of the shared `pool.batch`. -/
inductive BOp where
  | putTx (h : Nat) (tx : Option Tx) (z : Nat)  -- executed record for hash `h` (marshalled tx, `z` bytes of JSON)
  | putGate (n : Nat)                           -- 8 bytes
  deriving DecidableEq, Repr

structure Pool where
  limit : Nat
  pending : List Entry                 -- gmap.ListMap in insertion order (+ ring of txAnnualRingMap)
  executed : List (Nat × Option Tx)    -- LevelDB "tx": hash ↦ record
  gate : Nat                           -- value under key "tx" (0 = absent)
  batch : List BOp
  evicted : List Nat := []             -- `evictedTxs` LRU (hashicorp/golang-lru), most recently used first
  detached : Bool := false             -- `Clear()` ran: `executed` was replaced, `batch` still writes to the old store
  shared : Bool := false               -- `executed` is the prefixed store "tx" of the shared LevelDB (after `Clear()`)
  deriving Repr

def Pool.empty (limit : Nat) : Pool := { limit := limit, pending := [], executed := [], gate := 0, batch := [] }

def rcvTxPoolSize : Nat := 50000
def txCountPerBlock : Nat := 200
def expiredRing : Nat := 5
def txCacheSize : Nat := 1000
/-- `100*1024`: `MarkExecuted` writes the batch inside its loop once `ValueSize()` exceeds this. -/
def batchWriteThreshold : Nat := 102400

def Pool.hashes (s : Pool) : List Nat := s.pending.map (fun e => e.tx.hash)
def Pool.txs (s : Pool) : List Tx := s.pending.map (fun e => e.tx)
def Pool.execHashes (s : Pool) : List Nat := s.executed.map (fun r => r.1)

def Pool.contains (s : Pool) (h : Nat) : Bool := s.hashes.contains h
def Pool.isExecuted (s : Pool) (h : Nat) : Bool := s.execHashes.contains h
/-- `isTransactionExisted`. -/
def Pool.existed (s : Pool) (h : Nat) : Bool := s.contains h || s.isExecuted h

/-- `simpleContainer.push` for a hash that is not in the container (the only way `add` calls it). -/
def Pool.push (s : Pool) (tx : Tx) : Pool :=
  if s.pending.length < s.limit then { s with pending := s.pending ++ [⟨tx, 0⟩] } else s

inductive AddRes where
  | ok | exist
  deriving DecidableEq, Repr

/-- `TxPool.add` for a non-nil transaction. -/
def Pool.add (s : Pool) (tx : Tx) : Pool × AddRes :=
  if s.existed tx.hash then (s, .exist) else (s.push tx, .ok)

def Pool.refreshGate (s : Pool) (tx : Tx) : Pool :=
  if tx.gate ≠ 0 then { s with batch := s.batch ++ [.putGate tx.gate] } else s

/-- `TxPool.AddTransaction`. -/
def Pool.addTransaction (s : Pool) (tx : Tx) : Pool × AddRes :=
  match s.add tx with
  | (s', .ok) => (s'.refreshGate tx, .ok)
  | (s', .exist) => (s', .exist)

/-- `simpleContainer.remove`. -/
def Pool.removeHashes (s : Pool) (hs : List Nat) : Pool :=
  { s with pending := s.pending.filter (fun e => !hs.contains e.tx.hash) }

def execPut (ex : List (Nat × Option Tx)) (h : Nat) (v : Option Tx) : List (Nat × Option Tx) :=
  (h, v) :: ex.filter (fun r => r.1 != h)

def execDel (ex : List (Nat × Option Tx)) (h : Nat) : List (Nat × Option Tx) :=
  ex.filter (fun r => r.1 != h)

/-- One record of a physical batch write. After `Clear()` the batch is still bound to the store that
nobody reads any more: its writes are invisible. -/
def applyBOp (s : Pool) : BOp → Pool
  | .putTx h v _ => if s.detached then s else { s with executed := execPut s.executed h v }
  | .putGate n => if s.detached then s else { s with gate := n }

/-- `batch.Write(); batch.Reset()`. -/
def Pool.flush (s : Pool) : Pool :=
  { (s.batch.foldl applyBOp s) with batch := [] }

/-- `batch.ValueSize()`: bytes of values put since the last `Reset`. -/
def bsize : List BOp → Nat
  | [] => 0
  | .putTx _ _ z :: r => z + bsize r
  | .putGate _ :: r => 8 + bsize r

/-- `findTxInList(txs, hash, receiptIndex)`. -/
def findTx (txs : List Tx) (h : Nat) (i : Nat) : Option Tx :=
  match txs[i]? with
  | some t => if t.hash = h then some t else txs.find? (fun t => t.hash == h)
  | none => txs.find? (fun t => t.hash == h)

/-- How a `MarkExecuted` call ended. -/
inductive MarkRes where
  | ok
  | panic   -- receipt without transaction: nil dereference in `refreshGateNonce`
  | crash   -- process death right before a physical batch write (write gate of the harness)
  deriving DecidableEq, Repr

/-- The receipt loop of `MarkExecuted`. `rs` = (receipt hash, byte size of its JSON record); `i` = receipt
index; `ws` = number of records of each physical write done so far (newest first); `crashAt = some k`:
the process dies right before the `k`-th physical write of this call. -/
def markLoop (txs : List Tx) (crashAt : Option Nat) : List (Nat × Nat) → Nat → List Nat → Pool → Pool × List Nat × MarkRes
  | [], _, ws, s => (s, ws, .ok)
  | (h, z) :: rs, i, ws, s =>
    match findTx txs h i with
    | none => ({ s with batch := s.batch ++ [.putTx h none z] }, ws, .panic)
    | some t =>
      let s1 : Pool := { s with batch := s.batch ++ [.putTx h (some t) z] }
      if bsize s1.batch > batchWriteThreshold then
        if crashAt = some (ws.length + 1) then (s1, ws, .crash)
        else markLoop txs crashAt rs (i + 1) (s1.batch.length :: ws) (s1.flush.refreshGate t)
      else markLoop txs crashAt rs (i + 1) ws (s1.refreshGate t)

/-- `lru.Cache.Add`: an existing key moves to the front, a new one may push out the oldest. -/
def lruAdd (cap : Nat) (l : List Nat) (h : Nat) : List Nat :=
  let l' := h :: l.filter (fun x => x != h)
  if l'.length > cap then l'.dropLast else l'

def lruRemove (l : List Nat) (h : Nat) : List Nat := l.filter (fun x => x != h)

def Pool.evictAll (s : Pool) (hs : List Nat) : Pool :=
  { s with evicted := hs.foldl (lruAdd txCacheSize) s.evicted }

/-- `TxPool.MarkExecuted(header, receipts, txs, evicted)` in full: `rs` = the receipts' (tx hash, record size).
Returns the state, the record counts of the physical writes (oldest first) and how the call ended. -/
def Pool.markExecutedZ (s : Pool) (rs : List (Nat × Nat)) (txs : List Tx) (evicted : List Nat) (crashAt : Option Nat) :
    Pool × List Nat × MarkRes :=
  if rs = [] then ((s.evictAll evicted).removeHashes evicted, [], .ok)
  else
    match markLoop txs crashAt rs 0 [] s with
    | (s1, ws, .ok) =>
      if bsize s1.batch > 0 then
        if crashAt = some (ws.length + 1) then (s1, ws.reverse, .crash)
        else (((s1.flush).evictAll evicted).removeHashes (rs.map (·.1) ++ evicted), (s1.batch.length :: ws).reverse, .ok)
      else ((s1.evictAll evicted).removeHashes (rs.map (·.1) ++ evicted), ws.reverse, .ok)
    | (s1, ws, r) => (s1, ws.reverse, r)

/-- `MarkExecuted` without a crash, record sizes not given (taken as 1 byte: a JSON record is never empty).
The size-aware function agrees with it, for every choice of sizes, on everything but where inside the call
the writes happen (`Proofs/PoolMark.markExecutedZ_ok`). Second component: the call panicked. -/
def Pool.markExecuted (s : Pool) (receipts : List Nat) (txs : List Tx) (evicted : List Nat) : Pool × Bool :=
  match s.markExecutedZ (receipts.map (fun h => (h, 1))) txs evicted none with
  | (s', _, r) => (s', r != .ok)

/-- `MarkExecuted` when the end-of-block `batch.Write()` *returns an error* (store closed, disk full): the code
drops the error (generated fact `droppedErrors`), resets the batch and carries on with the removal. Modelled from
the source; there is no injection point on the real pool without a further hook, so the tie is the fact only. -/
def Pool.markExecutedWriteError (s : Pool) (rs : List (Nat × Nat)) (txs : List Tx) (evicted : List Nat) : Pool :=
  match markLoop txs none rs 0 [] s with
  | (s1, _, _) => ((({ s1 with batch := [] } : Pool)).evictAll evicted).removeHashes (rs.map (·.1) ++ evicted)

def Pool.delExec (s : Pool) (h : Nat) : Pool := { s with executed := execDel s.executed h }

/-- `TxPool.UnMarkExecuted(block)`: `txs` = `block.Transactions`, `evicted` = `header.EvictedTxs`. -/
def Pool.unmarkE (s : Pool) (txs : List Tx) (evicted : List Nat) : Pool :=
  if txs = [] then s
  else txs.foldl (fun s t => ((s.delExec t.hash).add t).1) { s with evicted := evicted.foldl lruRemove s.evicted }

/-- The part of `UnMarkExecuted` the property is about (executed records deleted, transactions re-added). -/
def Pool.unmark (s : Pool) (txs : List Tx) : Pool :=
  txs.foldl (fun s t => ((s.delExec t.hash).add t).1) s

/-- `TxPool.Clear()`: `db.NewDatabase("tx")` (a prefixed view of the node's shared LevelDB) replaces `executed`.
The first time this is an empty store, and the batch stays bound to the old one, so no record ever reaches
what the pool reads. A later `Clear()` opens the same shared store again. The batch is reset, the container renewed. -/
def Pool.clear (s : Pool) : Pool :=
  if s.shared then { s with batch := [], pending := [], limit := rcvTxPoolSize }
  else { s with executed := [], gate := 0, batch := [], pending := [], limit := rcvTxPoolSize, detached := true, shared := true }

/-- Process restart of the pool (`VerifC05RestartTxPool`): everything in memory is gone, the store stays. -/
def Pool.restart (s : Pool) : Pool :=
  { s with pending := [], batch := [], evicted := [], limit := rcvTxPoolSize, detached := false }

/-- `simpleContainer.growRing`. -/
def Pool.expire (s : Pool) : Pool :=
  let grown := s.pending.map (fun e => ({ e with ring := e.ring + 1 } : Entry))
  { s with pending := grown.filter (fun e => decide (e.ring < expiredRing)) }

/-- `PackForCast`: `none` = `sort.Sort` panicked inside `Less`. -/
def Pool.pack (c : Cfg) (σ : Nat → Nat) (s : Pool) : Option (List Tx) :=
  if c.p018 then
    match goSort c s.txs with
    | some sorted => some ((walk σ txCountPerBlock [] sorted).take txCountPerBlock)
    | none => none
  else some (s.txs.take txCountPerBlock)

inductive GetRes where
  | pending (t : Tx)
  | executed (t : Option Tx)
  | nil
  deriving DecidableEq, Repr

def execGet (ex : List (Nat × Option Tx)) (h : Nat) : Option (Option Tx) :=
  match ex with
  | [] => none
  | (k, v) :: r => if k = h then some v else execGet r h

/-- `GetTransaction(hash)`. -/
def Pool.get (s : Pool) (h : Nat) : GetRes :=
  match s.pending.find? (fun e => e.tx.hash == h) with
  | some e => .pending e.tx
  | none =>
    match execGet s.executed h with
    | some v => .executed v
    | none => .nil

end Rangers.Pool
