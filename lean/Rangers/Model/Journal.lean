import Rangers.Basic.Hex
/-!
# Model of `src/storage/account` (AccountDB, accountObject, journal) — property C04

Transcription of the code as it is (see design/C04.md for the function-by-function map):

* `accountdb.go`      : getAccountObject / createObject, every exported mutator and reader,
                        Snapshot / RevertToSnapshot, Finalise / IntermediateRoot / Commit, Prepare, Reset, Clean
* `account_object.go` : GetData / GetCommittedData (both *write* `cachedStorage`), SetData / setData,
                        the one-shot `onDirty` callback (`armed`), `empty()`, `touch()`
* `account_object_ft.go`, `accountdb_tuntun.go` : balances as storage slots of the bound token
                        contract (journaled only when Proposal002 is active), per-account FT slots
* `transition.go`     : the undo method of every journal entry kind
* `access_list.go`, `transient_storage.go`

Go maps are association lists keyed by byte strings; `nil` and empty byte slices are identified
(`[]`): every consumer in the package uses `len(v) == 0` / `bytes.Compare`, and `trie.TryUpdate`
deletes on an empty value.  A Go panic becomes the sticky flag `crashed` (explicit error branch:
nothing is silently defaulted).  The account trie and storage tries are kept as *content*
(key ↦ value); the hash of a content is property C02's business.

Core Lean only: this file is linked into the driver executable `drv_c04`.
-/
namespace Rangers.Model.Journal
open Rangers

abbrev Addr := Bytes
abbrev Key := Bytes
abbrev Val := Bytes
abbrev Hash := Bytes

/-! ## association lists (Go maps) -/

def mget {α : Type} : List (Bytes × α) → Bytes → Option α
  | [], _ => none
  | (k', v) :: t, k => if k' = k then some v else mget t k

/-- assignment `m[k] = v`: replace in place, else append -/
def mset {α : Type} : List (Bytes × α) → Bytes → α → List (Bytes × α)
  | [], k, v => [(k, v)]
  | (k', v') :: t, k, v => if k' = k then (k, v) :: t else (k', v') :: mset t k v

/-- `delete(m, k)` -/
def mdel {α : Type} (m : List (Bytes × α)) (k : Bytes) : List (Bytes × α) :=
  m.filter (fun p => decide (p.1 ≠ k))

/-- a Go `map[K]struct{}` -/
def sadd (m : List Bytes) (k : Bytes) : List Bytes := if k ∈ m then m else m ++ [k]
def sdel (m : List Bytes) (k : Bytes) : List Bytes := m.filter (fun x => decide (x ≠ k))

def U64 : Nat := 18446744073709551616

/-- `sha3.Sum256(nil)` — the package's `emptyCodeHash` (SHA3-256, *not* Keccak). -/
def emptyCodeHash : Hash :=
  [0xa7,0xff,0xc6,0xf8,0xbf,0x1e,0xd7,0x66,0x51,0xc1,0x47,0x56,0xa0,0x61,0xd6,0x62,
   0xf5,0x80,0xff,0x4d,0xe4,0x3b,0x49,0xfa,0x82,0xd8,0x0a,0x4b,0x80,0xf8,0x43,0x4a]

def zeroHash : Hash := List.replicate 32 0

/-- `common.BytesToHash`: crop from the left to 32 bytes, left-pad with zeros. -/
def toHash (b : Bytes) : Hash :=
  if b.length > 32 then b.drop (b.length - 32) else List.replicate (32 - b.length) 0 ++ b

/-! ## state -/

/-- content of one leaf of the account trie: `Account{Nonce, Root, NFTSetDefinitionHash}` with
    `Root` replaced by the content of the storage trie it commits to -/
structure Leaf where
  nonce : Nat
  storage : List (Key × Val)
  codeHash : Hash
deriving DecidableEq, Repr

/-- `accountObject` -/
structure Obj where
  nonce : Nat
  codeHash : Hash
  /-- `nftSet` (code cache; `none` = nil) -/
  code : Option Bytes
  dirtyCode : Bool
  /-- content of the live storage trie `ao.trie` (flushed slots) -/
  strie : List (Key × Val)
  /-- `cachedStorage`, with key presence -/
  cached : List (Key × Val)
  /-- `dirtyStorage`, with key presence -/
  dirty : List (Key × Val)
  suicided : Bool
  touched : Bool
  deleted : Bool
  /-- `onDirty != nil` -/
  armed : Bool
deriving DecidableEq, Repr

structure LogRec where
  addr : Addr
  topics : Bytes
  data : Bytes
  thash : Hash
  bhash : Hash
  txIndex : Nat
  index : Nat
deriving DecidableEq, Repr

/-- the 11 reachable journal entry kinds of `transition.go` (`resetObjectChange` is only
    appended by `createObject(addr, prev)` with `prev != nil`, which no caller does) -/
inductive Entry where
  | create (a : Addr)
  | suicide (a : Addr) (prev : Bool) (prevBal : Nat)
  | nonce (a : Addr) (prev : Nat)
  | storage (a : Addr) (k : Key) (prev : Val)
  | code (a : Addr) (prevCode : Option Bytes) (prevHash : Hash)
  | refund (prev : Nat)
  | addLog (th : Hash)
  | touch (a : Addr) (prev : Bool) (prevDirty : Bool)
  | alAddr (a : Addr)
  | alSlot (a : Addr) (slot : Hash)
  | transient (a : Addr) (k : Hash) (prev : Hash)
deriving DecidableEq, Repr

/-- `accessList`: `addresses map[Address]int` (-1 = no slots) and `slots []map[Hash]struct{}` -/
structure AccessList where
  addrs : List (Addr × Int)
  slots : List (List Hash)
deriving DecidableEq, Repr

/-- what is fixed for the lifetime of a process: the bound token contract
    (`rpgContractAddress`), `ripemd`, the Proposal002 flag and the slot key of an address's
    balance, `GetERC20Key(addr, position)` (a Keccak image: a parameter of the model). -/
structure Cfg where
  tok : Addr
  ripemd : Addr
  p002 : Bool
  balKey : Addr → Key

structure ADB where
  /-- content of `adb.trie` -/
  trie : List (Addr × Leaf)
  /-- content of the account trie at the last `Commit` (what `NewAccountDB(root)` / `Reset(root)` open) -/
  committed : List (Addr × Leaf)
  /-- code blobs in the trie database (`InsertBlob` at `Commit`) -/
  codes : List (Hash × Bytes)
  objs : List (Addr × Obj)
  dirtySet : List Addr
  journal : List Entry
  /-- `validRevisions` as (id, journalIndex) -/
  revisions : List (Nat × Nat)
  nextRev : Nat
  refund : Nat
  logs : List (Hash × List LogRec)
  logSize : Nat
  al : AccessList
  transient : List (Addr × List (Hash × Hash))
  thash : Hash
  bhash : Hash
  txIndex : Nat
  /-- a Go panic happened (sticky) -/
  crashed : Bool
deriving Repr

def ADB.empty : ADB :=
  { trie := [], committed := [], codes := [], objs := [], dirtySet := [], journal := [],
    revisions := [], nextRev := 0, refund := 0, logs := [], logSize := 0,
    al := ⟨[], []⟩, transient := [], thash := zeroHash, bhash := zeroHash, txIndex := 0,
    crashed := false }

def crash (s : ADB) : ADB := { s with crashed := true }

/-! ## account objects -/

/-- `newAccountObject(db, addr, data, MarkAccountObjectDirty)` for a leaf read from the trie -/
def Obj.ofLeaf (l : Leaf) : Obj :=
  { nonce := l.nonce, codeHash := l.codeHash, code := none, dirtyCode := false,
    strie := l.storage, cached := [], dirty := [],
    suicided := false, touched := false, deleted := false, armed := true }

/-- the object `createObject` stores: `Account{}` after `setNonce(0)` fired `onDirty` -/
def Obj.fresh : Obj :=
  { nonce := 0, codeHash := emptyCodeHash, code := none, dirtyCode := false,
    strie := [], cached := [], dirty := [],
    suicided := false, touched := false, deleted := false, armed := false }

/-- `accountObject.empty()` -/
def Obj.isEmpty (o : Obj) : Bool :=
  decide (o.codeHash = emptyCodeHash) && decide (o.nonce = 0) && o.cached.isEmpty && o.dirty.isEmpty

/-- value `GetData` answers (pure part) -/
def Obj.get (o : Obj) (k : Key) : Val :=
  match mget o.cached k with
  | some v => v
  | none => (mget o.strie k).getD []

/-- `GetData`: a miss that finds a non-nil value in the storage trie caches it -/
def Obj.read (o : Obj) (k : Key) : Obj × Val :=
  match mget o.cached k with
  | some v => (o, v)
  | none =>
    match mget o.strie k with
    | some v => ({ o with cached := mset o.cached k v }, v)
    | none => (o, [])

/-- `GetCommittedData`: reads the storage trie and *overwrites* the cache entry when non-nil -/
def Obj.readCommitted (o : Obj) (k : Key) : Obj × Val :=
  match mget o.strie k with
  | some v => ({ o with cached := mset o.cached k v }, v)
  | none => (o, [])

def putObj (s : ADB) (a : Addr) (o : Obj) : ADB := { s with objs := mset s.objs a o }

/-- store a modified object and run its one-shot `onDirty` callback -/
def markDirty (s : ADB) (a : Addr) (o : Obj) : ADB :=
  if o.armed then
    { s with objs := mset s.objs a { o with armed := false }, dirtySet := sadd s.dirtySet a }
  else { s with objs := mset s.objs a o }

/-- `getAccountObject(addr, false)`: a trie hit is stored in `accountObjects` -/
def resolve (s : ADB) (a : Addr) : ADB × Option Obj :=
  match mget s.objs a with
  | some o => if o.deleted then (s, none) else (s, some o)
  | none =>
    match mget s.trie a with
    | some l => (putObj s a (Obj.ofLeaf l), some (Obj.ofLeaf l))
    | none => (s, none)

/-- `getOrNewAccountObject(addr)`; note a `deleted` object yields nil, not a new object -/
def resolveNew (s : ADB) (a : Addr) : ADB × Option Obj :=
  match mget s.objs a with
  | some o => if o.deleted then (s, none) else (s, some o)
  | none =>
    match mget s.trie a with
    | some l => (putObj s a (Obj.ofLeaf l), some (Obj.ofLeaf l))
    | none =>
      ({ s with objs := mset s.objs a Obj.fresh, dirtySet := sadd s.dirtySet a,
                journal := s.journal ++ [Entry.create a] }, some Obj.fresh)

/-- `accountObject.setData` on the object stored at `a` -/
def setDataRaw (s : ADB) (a : Addr) (k : Key) (v : Val) : ADB :=
  match mget s.objs a with
  | none => crash s
  | some o => markDirty s a { o with cached := mset o.cached k v, dirty := mset o.dirty k v }

/-- `accountObject.GetData` on the object stored at `a` -/
def readAt (s : ADB) (a : Addr) (k : Key) : ADB × Val :=
  match mget s.objs a with
  | none => (crash s, [])
  | some o => let (o1, v) := o.read k; (putObj s a o1, v)

/-- `accountObject.SetData` on the object stored at `a` -/
def setDataJ (s : ADB) (a : Addr) (k : Key) (v : Val) : ADB :=
  let (s1, pre) := readAt s a k
  if s1.crashed then s1
  else if v = pre then s1
  else setDataRaw { s1 with journal := s1.journal ++ [Entry.storage a k pre] } a k v

/-- `accountObject.setNonce` -/
def setNonceRaw (s : ADB) (a : Addr) (n : Nat) : ADB :=
  match mget s.objs a with
  | none => crash s
  | some o => markDirty s a { o with nonce := n }

/-- code as `nftSetDefinition(db)` returns it: cache, else empty for the empty hash, else the blob -/
def codeLookup (s : ADB) (o : Obj) : Option Bytes :=
  match o.code with
  | some c => some c
  | none => if o.codeHash = emptyCodeHash then none else mget s.codes o.codeHash

/-- `nftSetDefinition(db)`: fills the `nftSet` cache -/
def loadCode (s : ADB) (a : Addr) : ADB × Option Bytes :=
  match mget s.objs a with
  | none => (crash s, none)
  | some o => let c := codeLookup s o; (putObj s a { o with code := c }, c)

/-- `accountObject.setNFTSetDefinition` -/
def setCodeRaw (s : ADB) (a : Addr) (h : Hash) (c : Option Bytes) : ADB :=
  match mget s.objs a with
  | none => crash s
  | some o => markDirty s a { o with code := c, codeHash := h, dirtyCode := true }

/-! ## mutators of AccountDB -/

def setNonce (s : ADB) (a : Addr) (n : Nat) : ADB :=
  if s.crashed then s else
  match resolveNew s a with
  | (s1, none) => s1
  | (s1, some o) => setNonceRaw { s1 with journal := s1.journal ++ [Entry.nonce a o.nonce] } a n

def increaseNonce (s : ADB) (a : Addr) : ADB × Nat :=
  if s.crashed then (s, 0) else
  match resolveNew s a with
  | (s1, none) => (s1, 0)
  | (s1, some o) =>
    (setNonceRaw { s1 with journal := s1.journal ++ [Entry.nonce a o.nonce] } a ((o.nonce + 1) % U64),
     (o.nonce + 1) % U64)

def setData (s : ADB) (a : Addr) (k : Key) (v : Val) : ADB :=
  if s.crashed then s else
  match resolveNew s a with
  | (s1, none) => s1
  | (s1, some _) => setDataJ s1 a k v

def createAccount (s : ADB) (a : Addr) : ADB :=
  if s.crashed then s else (resolveNew s a).1

def setCode (s : ADB) (a : Addr) (code : Bytes) (h : Hash) : ADB :=
  if s.crashed then s else
  match resolveNew s a with
  | (s1, none) => s1
  | (s1, some _) =>
    let (s2, prev) := loadCode s1 a
    match mget s2.objs a with
    | none => crash s2
    | some o => setCodeRaw { s2 with journal := s2.journal ++ [Entry.code a prev o.codeHash] } a h (some code)

/-- `GetFT(addr, BLANCE_NAME)`: goes through `getOrNewAccountObject(contract)` (may journal a
    creation) and dereferences the result without a nil check -/
def getBalance (c : Cfg) (s : ADB) (a : Addr) : ADB × Nat :=
  if s.crashed then (s, 0) else
  match resolveNew s c.tok with
  | (s1, none) => (crash s1, 0)
  | (s1, some _) => let (s2, v) := readAt s1 c.tok (c.balKey a); (s2, beToNat v)

/-- the write at the end of `AddFT` / `SubFT` on the bound contract -/
def balWrite (c : Cfg) (s : ADB) (a : Addr) (n : Nat) : ADB :=
  if c.p002 then setDataJ s c.tok (c.balKey a) (natToBE n) else setDataRaw s c.tok (c.balKey a) (natToBE n)

def addBalance (c : Cfg) (s : ADB) (a : Addr) (n : Nat) : ADB :=
  let (s1, b) := getBalance c s a
  if s1.crashed then s1 else balWrite c s1 a (b + n)

/-- `SubFT(addr, BLANCE_NAME, n)`: (left, ok) -/
def subBalance (c : Cfg) (s : ADB) (a : Addr) (n : Nat) : ADB × Nat × Bool :=
  let (s1, b) := getBalance c s a
  if s1.crashed then (s1, 0, false)
  else if b < n then (s1, b, false)
  else (balWrite c s1 a (b - n), b - n, true)

/-- `SetFT(addr, BLANCE_NAME, n)`: always the journaled `SetData` -/
def setBalance (c : Cfg) (s : ADB) (a : Addr) (n : Nat) : ADB :=
  if s.crashed then s else
  match resolveNew s c.tok with
  | (s1, none) => crash s1
  | (s1, some _) => setDataJ s1 c.tok (c.balKey a) (natToBE n)

/-- the lower-case `setBalance`: un-journaled `setData` on the contract -/
def setBalanceRaw (c : Cfg) (s : ADB) (a : Addr) (n : Nat) : ADB :=
  match resolveNew s c.tok with
  | (s1, none) => crash s1
  | (s1, some _) => setDataRaw s1 c.tok (c.balKey a) (natToBE n)

/-- `Transfer`: the result of `SubBalance` is ignored -/
def transfer (c : Cfg) (s : ADB) (from_ to : Addr) (n : Nat) : ADB :=
  if s.crashed then s else
  if n = 0 then s else
  let (s1, _) := subBalance c s from_ n
  if s1.crashed then s1 else addBalance c s1 to n

/-- `accountObject.touch` -/
def touch (s : ADB) (a : Addr) : ADB :=
  match mget s.objs a with
  | none => crash s
  | some o =>
    markDirty { s with journal := s.journal ++ [Entry.touch a o.touched (!o.armed)] } a { o with touched := true }

/-- `AddFT(addr, name, n)` for a name without ERC20 binding; `k` = bytes of `GenerateFTKey(name)` -/
def addFT (s : ADB) (a : Addr) (k : Key) (n : Nat) : ADB :=
  if s.crashed then s else
  match resolveNew s a with
  | (s1, none) => crash s1
  | (s1, some o) =>
    if n = 0 then (if o.isEmpty then touch s1 a else s1)
    else
      let (s2, v) := readAt s1 a k
      if s2.crashed then s2 else setDataJ s2 a k (natToBE (beToNat v + n))

/-- `SubFT(addr, name, n)` for an unbound name: (left, ok); `nil` left is reported as 0 -/
def subFT (s : ADB) (a : Addr) (k : Key) (n : Nat) : ADB × Nat × Bool :=
  if s.crashed then (s, 0, false) else
  match resolveNew s a with
  | (s1, none) => (crash s1, 0, false)
  | (s1, some _) =>
    let (s2, v) := readAt s1 a k
    if s2.crashed then (s2, 0, false)
    else if n = 0 then (s2, beToNat v, true)
    else if v = [] ∨ beToNat v < n then (s2, 0, false)
    else (setDataJ s2 a k (natToBE (beToNat v - n)), beToNat v - n, true)

def setFT (s : ADB) (a : Addr) (k : Key) (n : Nat) : ADB :=
  if s.crashed then s else
  match resolveNew s a with
  | (s1, none) => crash s1
  | (s1, some _) => setDataJ s1 a k (natToBE n)

def getFT (s : ADB) (a : Addr) (k : Key) : ADB × Nat :=
  if s.crashed then (s, 0) else
  match resolveNew s a with
  | (s1, none) => (crash s1, 0)
  | (s1, some _) => let (s2, v) := readAt s1 a k; (s2, beToNat v)

/-- `Suicide` -/
def suicide (c : Cfg) (s : ADB) (a : Addr) : ADB × Bool :=
  if s.crashed then (s, false) else
  match resolve s a with
  | (s1, none) => (s1, false)
  | (s1, some o) =>
    let (s2, bal) := getBalance c s1 a
    if s2.crashed then (s2, false) else
    let s3 := { s2 with journal := s2.journal ++ [Entry.suicide a o.suicided bal] }
    match mget s3.objs a with
    | none => (crash s3, false)
    | some o3 =>
      let s4 := markDirty s3 a { o3 with suicided := true }
      (setBalanceRaw c s4 a 0, true)

def addRefund (s : ADB) (g : Nat) : ADB :=
  if s.crashed then s else
  { s with journal := s.journal ++ [Entry.refund s.refund], refund := (s.refund + g) % U64 }

def subRefund (s : ADB) (g : Nat) : ADB :=
  if s.crashed then s else
  let s1 := { s with journal := s.journal ++ [Entry.refund s.refund] }
  if g > s.refund then crash s1 else { s1 with refund := s.refund - g }

def addLog (s : ADB) (addr : Addr) (topics data : Bytes) : ADB :=
  if s.crashed then s else
  let r : LogRec := { addr := addr, topics := topics, data := data, thash := s.thash, bhash := s.bhash,
                      txIndex := s.txIndex, index := s.logSize }
  { s with journal := s.journal ++ [Entry.addLog s.thash],
           logs := mset s.logs s.thash ((mget s.logs s.thash).getD [] ++ [r]),
           logSize := (s.logSize + 1) % U64 }

/-! ### access list -/

def AccessList.containsAddr (al : AccessList) (a : Addr) : Bool := (mget al.addrs a).isSome

/-- `Contains`: (addressPresent, slotPresent); `none` = index out of range panic -/
def AccessList.contains (al : AccessList) (a : Addr) (slot : Hash) : Option (Bool × Bool) :=
  match mget al.addrs a with
  | none => some (false, false)
  | some idx =>
    if idx = -1 then some (true, false)
    else if idx < 0 then none
    else match al.slots[idx.toNat]? with
      | none => none
      | some m => some (true, decide (slot ∈ m))

def AccessList.addAddress (al : AccessList) (a : Addr) : AccessList × Bool :=
  match mget al.addrs a with
  | some _ => (al, false)
  | none => ({ al with addrs := mset al.addrs a (-1) }, true)

/-- `AddSlot`: (list, addrChange, slotChange); `none` = panic -/
def AccessList.addSlot (al : AccessList) (a : Addr) (slot : Hash) : Option (AccessList × Bool × Bool) :=
  match mget al.addrs a with
  | none => some ({ addrs := mset al.addrs a (Int.ofNat al.slots.length), slots := al.slots ++ [[slot]] }, true, true)
  | some idx =>
    if idx = -1 then
      some ({ addrs := mset al.addrs a (Int.ofNat al.slots.length), slots := al.slots ++ [[slot]] }, false, true)
    else if idx < 0 then none
    else match al.slots[idx.toNat]? with
      | none => none
      | some m =>
        if slot ∈ m then some (al, false, false)
        else some ({ al with slots := al.slots.set idx.toNat (m ++ [slot]) }, false, true)

/-- `DeleteSlot`; `none` = panic -/
def AccessList.deleteSlot (al : AccessList) (a : Addr) (slot : Hash) : Option AccessList :=
  match mget al.addrs a with
  | none => none
  | some idx =>
    if idx < 0 then none
    else match al.slots[idx.toNat]? with
      | none => none
      | some m =>
        let m' := sdel m slot
        if m'.isEmpty then some { addrs := mset al.addrs a (-1), slots := al.slots.take idx.toNat }
        else some { al with slots := al.slots.set idx.toNat m' }

def AccessList.deleteAddress (al : AccessList) (a : Addr) : AccessList := { al with addrs := mdel al.addrs a }

def addAddressToAccessList (s : ADB) (a : Addr) : ADB :=
  if s.crashed then s else
  let (al, ch) := s.al.addAddress a
  if ch then { s with al := al, journal := s.journal ++ [Entry.alAddr a] } else s

def addSlotToAccessList (s : ADB) (a : Addr) (slot : Hash) : ADB :=
  if s.crashed then s else
  match s.al.addSlot a slot with
  | none => crash s
  | some (al, addrMod, slotMod) =>
    let j1 := if addrMod then s.journal ++ [Entry.alAddr a] else s.journal
    let j2 := if slotMod then j1 ++ [Entry.alSlot a slot] else j1
    { s with al := al, journal := j2 }

/-! ### transient storage -/

def isZero (h : Bytes) : Bool := h.all (fun b => b == 0)

def tget (t : List (Addr × List (Hash × Hash))) (a : Addr) (k : Hash) : Hash :=
  match mget t a with
  | none => zeroHash
  | some m => toHash ((mget m k).getD [])

/-- `transientStorage.Set` -/
def tset (t : List (Addr × List (Hash × Hash))) (a : Addr) (k v : Hash) : List (Addr × List (Hash × Hash)) :=
  if isZero v then
    match mget t a with
    | none => t
    | some m => let m' := mdel m k; if m'.isEmpty then mdel t a else mset t a m'
  else
    match mget t a with
    | none => mset t a [(k, v)]
    | some m => mset t a (mset m k v)

def setTransientState (s : ADB) (a : Addr) (k v : Hash) : ADB :=
  if s.crashed then s else
  let prev := tget s.transient a k
  if prev = v then s
  else { s with journal := s.journal ++ [Entry.transient a k prev], transient := tset s.transient a k v }

/-! ## snapshots -/

def snapshot (s : ADB) : ADB × Nat :=
  if s.crashed then (s, 0) else
  ({ s with revisions := s.revisions ++ [(s.nextRev, s.journal.length)], nextRev := s.nextRev + 1 }, s.nextRev)

/-- one `undo` method of `transition.go` -/
def undo (c : Cfg) (s : ADB) (e : Entry) : ADB :=
  if s.crashed then s else
  match e with
  | .create a => { s with objs := mdel s.objs a, dirtySet := sdel s.dirtySet a }
  | .suicide a prev prevBal =>
    match resolve s a with
    | (s1, none) => s1
    | (s1, some o) => setBalanceRaw c (putObj s1 a { o with suicided := prev }) a prevBal
  | .nonce a prev =>
    match resolve s a with
    | (s1, none) => crash s1
    | (s1, some _) => setNonceRaw s1 a prev
  | .storage a k prev =>
    match resolve s a with
    | (s1, none) => crash s1
    | (s1, some _) => setDataRaw s1 a k prev
  | .code a prevCode prevHash =>
    match resolve s a with
    | (s1, none) => crash s1
    | (s1, some _) => setCodeRaw s1 a (toHash prevHash) prevCode
  | .refund prev => { s with refund := prev }
  | .addLog th =>
    match (mget s.logs th).getD [] with
    | [] => crash s
    | [_] => { s with logs := mdel s.logs th, logSize := (s.logSize + U64 - 1) % U64 }
    | l => { s with logs := mset s.logs th l.dropLast, logSize := (s.logSize + U64 - 1) % U64 }
  | .touch a prev prevDirty =>
    if !prev && decide (a ≠ c.ripemd) then
      match resolve s a with
      | (s1, none) => crash s1
      | (s1, some o) =>
        let s2 := putObj s1 a { o with touched := prev }
        if !prevDirty then { s2 with dirtySet := sdel s2.dirtySet a } else s2
    else s
  | .alAddr a => { s with al := s.al.deleteAddress a }
  | .alSlot a slot =>
    match s.al.deleteSlot a slot with
    | none => crash s
    | some al => { s with al := al }
  | .transient a k prev => { s with transient := tset s.transient a k prev }

/-- undo a journal suffix, last entry first -/
def undoAll (c : Cfg) (s : ADB) (es : List Entry) : ADB := es.reverse.foldl (undo c) s

/-- first index whose revision id is ≥ `id` (what `sort.Search` finds on the id-sorted stack) -/
def findRev : List (Nat × Nat) → Nat → Nat → Option (Nat × Nat × Nat)
  | [], _, _ => none
  | (rid, j) :: t, id, i => if rid ≥ id then some (i, rid, j) else findRev t id (i + 1)

/-- `RevertToSnapshot` -/
def revert (c : Cfg) (s : ADB) (id : Nat) : ADB :=
  if s.crashed then s else
  match findRev s.revisions id 0 with
  | none => crash s
  | some (i, rid, j) =>
    if rid ≠ id then crash s else
    let s1 := undoAll c s (s.journal.drop j)
    if s1.crashed then s1
    else { s1 with journal := s.journal.take j, revisions := s.revisions.take i }

/-! ## transaction / block boundary -/

def prepare (s : ADB) (th bh : Hash) (ti : Nat) : ADB :=
  if s.crashed then s else { s with thash := th, bhash := bh, txIndex := ti, al := ⟨[], []⟩ }

/-- `updateTrie`: flush the dirty slots into the storage trie.  `dirtyStorage` is a Go map (unique keys,
    arbitrary iteration order); on the association list the fold is written so that, should a key
    occur twice, the entry `mget` sees (the first) is the one that counts. -/
def flush (strie : List (Key × Val)) (dirty : List (Key × Val)) : List (Key × Val) :=
  dirty.foldr (fun p t => if p.2 = [] then mdel t p.1 else mset t p.1 p.2) strie

def Obj.flushed (o : Obj) : Obj := { o with strie := flush o.strie o.dirty, dirty := [] }

def Obj.leaf (o : Obj) : Leaf := { nonce := o.nonce, storage := o.strie, codeHash := o.codeHash }

def clearJournal (s : ADB) : ADB := { s with journal := [], revisions := [], refund := 0 }

/-- body of the `Finalise` loop for one dirty address -/
def finaliseOne (del : Bool) (s : ADB) (a : Addr) : ADB :=
  match mget s.objs a with
  | none => s
  | some o =>
    if o.suicided || (del && o.isEmpty) then
      { s with objs := mset s.objs a { o with deleted := true }, trie := mdel s.trie a }
    else
      let o1 := o.flushed
      { s with objs := mset s.objs a o1, trie := mset s.trie a o1.leaf }

/-- `Finalise(deleteEmptyObjects)`; `IntermediateRoot` = this, then the hash of `trie` -/
def finalise (del : Bool) (s : ADB) : ADB :=
  if s.crashed then s else clearJournal (s.dirtySet.foldl (finaliseOne del) s)

/-- body of the `Commit` range loop for one cached object -/
def commitOne (del : Bool) (s : ADB) (a : Addr) : ADB :=
  match mget s.objs a with
  | none => s
  | some o =>
    let isDirty := decide (a ∈ s.dirtySet)
    let s1 :=
      if o.suicided || (isDirty && del && o.isEmpty) then
        { s with objs := mset s.objs a { o with deleted := true }, trie := mdel s.trie a }
      else if isDirty then
        let (codes, o0) :=
          match o.code with
          | some c => if o.dirtyCode then (mset s.codes o.codeHash c, { o with dirtyCode := false }) else (s.codes, o)
          | none => (s.codes, o)
        let o1 := o0.flushed
        { s with codes := codes, objs := mset s.objs a o1, trie := mset s.trie a o1.leaf }
      else s
    { s1 with dirtySet := sdel s1.dirtySet a }

/-- `Commit(deleteEmptyObjects)` -/
def commit (del : Bool) (s : ADB) : ADB :=
  if s.crashed then s else
  let s1 := (s.objs.map (·.1)).foldl (commitOne del) s
  let s2 := clearJournal s1
  { s2 with committed := s2.trie }

/-- `NewAccountDB(lastCommittedRoot, sameDatabase)` -/
def reopen (s : ADB) : ADB :=
  { ADB.empty with trie := s.committed, committed := s.committed, codes := s.codes }

/-- `Reset(lastCommittedRoot)`: transient storage and `nextRevisionID` survive -/
def reset (s : ADB) : ADB :=
  if s.crashed then s else
  { s with trie := s.committed, objs := [], dirtySet := [], journal := [], revisions := [], refund := 0,
           al := ⟨[], []⟩, thash := zeroHash, bhash := zeroHash, txIndex := 0, logs := [], logSize := 0 }

/-- `Clean()` -/
def clean (s : ADB) : ADB :=
  if s.crashed then s else clearJournal { s with objs := [], dirtySet := [] }

/-! ## readers (they load objects and fill caches, so they return a state too) -/

def exist (s : ADB) (a : Addr) : ADB × Bool :=
  if s.crashed then (s, false) else
  match resolve s a with
  | (s1, none) => (s1, false)
  | (s1, some _) => (s1, true)

def isEmptyQ (s : ADB) (a : Addr) : ADB × Bool :=
  if s.crashed then (s, false) else
  match resolve s a with
  | (s1, none) => (s1, true)
  | (s1, some o) => (s1, o.isEmpty)

def getNonce (s : ADB) (a : Addr) : ADB × Nat :=
  if s.crashed then (s, 0) else
  match resolve s a with
  | (s1, none) => (s1, 0)
  | (s1, some o) => (s1, o.nonce)

def getData (s : ADB) (a : Addr) (k : Key) : ADB × Val :=
  if s.crashed then (s, []) else
  match resolve s a with
  | (s1, none) => (s1, [])
  | (s1, some _) => readAt s1 a k

def getCommitted (s : ADB) (a : Addr) (k : Key) : ADB × Val :=
  if s.crashed then (s, []) else
  match resolve s a with
  | (s1, none) => (s1, [])
  | (s1, some o) => let (o1, v) := o.readCommitted k; (putObj s1 a o1, v)

def hasSuicided (s : ADB) (a : Addr) : ADB × Bool :=
  if s.crashed then (s, false) else
  match resolve s a with
  | (s1, none) => (s1, false)
  | (s1, some o) => (s1, o.suicided)

def getCode (s : ADB) (a : Addr) : ADB × Bytes :=
  if s.crashed then (s, []) else
  match resolve s a with
  | (s1, none) => (s1, [])
  | (s1, some _) => let (s2, c) := loadCode s1 a; (s2, c.getD [])

/-- `GetCodeSize` does not fill the object's code cache -/
def getCodeSize (s : ADB) (a : Addr) : ADB × Nat :=
  if s.crashed then (s, 0) else
  match resolve s a with
  | (s1, none) => (s1, 0)
  | (s1, some o) => (s1, ((codeLookup s1 o).getD []).length)

def getCodeHash (s : ADB) (a : Addr) : ADB × Hash :=
  if s.crashed then (s, zeroHash) else
  match resolve s a with
  | (s1, none) => (s1, zeroHash)
  | (s1, some o) => (s1, toHash o.codeHash)

def getLogs (s : ADB) (th : Hash) : List LogRec := (mget s.logs th).getD []

/-- `CanTransfer(addr, amount)` for a non-negative amount: `GetBalance(addr) >= amount` -/
def canTransfer (c : Cfg) (s : ADB) (a : Addr) (n : Nat) : ADB × Bool :=
  let r := getBalance c s a; (r.1, decide (r.2 ≥ n))

/-- `IsContract(addr)`: `GetCode` is non-nil and non-empty -/
def isContract (s : ADB) (a : Addr) : ADB × Bool :=
  let r := getCode s a; (r.1, !r.2.isEmpty)

/-- `GetState(addr, hash)`: `GetData` through `common.BytesToHash` -/
def getState (s : ADB) (a : Addr) (k : Key) : ADB × Hash :=
  let r := getData s a k; (r.1, toHash r.2)

/-- `common.BytesToAddress` (`Address.SetBytes`): longer input is cropped from the left to 20 bytes, shorter input
    is copied to the FRONT, i.e. right-padded with zeros (unlike `BytesToHash`, which left-pads) -/
def toAddr (b : Bytes) : Addr :=
  if b.length > 20 then b.drop (b.length - 20) else b ++ List.replicate (20 - b.length) 0

/-- `SetStorage(addr, map)` ("debugging only"): `getOrNewAccountObject`, then `SetData` per entry. The Go map is
    iterated in arbitrary order; the entries have distinct keys, so every order gives the same object and the same
    number of journal entries (`kvs` is the map in some order). A nil object is dereferenced only if there is an entry. -/
def setStorage (s : ADB) (a : Addr) (kvs : List (Key × Val)) : ADB :=
  if s.crashed then s else
  match resolveNew s a with
  | (s1, none) => if kvs.isEmpty then s1 else crash s1
  | (s1, some _) => kvs.foldl (fun acc p => setDataJ acc a p.1 p.2) s1

/-- `getAllRefund`'s cache fill: every slot of the storage trie that is not cached yet is copied into `cachedStorage` -/
def Obj.cacheAll (o : Obj) : Obj :=
  { o with cached := o.strie.foldl (fun c p => if (mget c p.1).isSome then c else mset c p.1 p.2) o.cached }

/-- `GetAllRefund(addr)`: `getOrNewAccountObject` (may journal a creation, nil is dereferenced), then the map
    key-as-address ↦ value-as-integer over the cached slots and the storage-trie slots not cached (later entries of the
    list overwrite earlier ones with the same address, as map assignment does) -/
def getAllRefund (s : ADB) (a : Addr) : ADB × List (Addr × Nat) :=
  if s.crashed then (s, []) else
  match resolveNew s a with
  | (s1, none) => (crash s1, [])
  | (s1, some o) =>
    let o1 := o.cacheAll
    (putObj s1 a o1, o1.cached.foldl (fun r p => mset r (toAddr p.1) (beToNat p.2)) [])

/-- `utility.UInt64ToByte`: 8 bytes big endian -/
def u64BE (n : Nat) : Bytes := padLeft 8 (natToBE (n % U64))

/-- `AddERC20Binding(name, contract, position, decimal)`; `bind` = `GenerateERC20Binding(name)` (a SHA-256 image:
    parameter). The three writes are ordinary journaled `SetData`s. -/
def addERC20Binding (s : ADB) (bind contract : Addr) (pos dec : Nat) : ADB × Bool :=
  if s.crashed then (s, false) else
  match exist s bind with
  | (s1, true) => (s1, false)
  | (s1, false) =>
    (setData (setData (setData s1 bind [0x63] contract) bind [0x70] (u64BE pos)) bind [0x64] (u64BE dec), true)

/-! ## pure views used by the theorems (what a query would answer, without the caching) -/

inductive Res where
  | absent
  | deleted
  | live (o : Obj)
deriving DecidableEq, Repr

/-- how `getAccountObject(a, false)` resolves `a` -/
def res (s : ADB) (a : Addr) : Res :=
  match mget s.objs a with
  | some o => if o.deleted then .deleted else .live o
  | none =>
    match mget s.trie a with
    | some l => .live (Obj.ofLeaf l)
    | none => .absent

/-- every query named in the property statement, for one address / key / tx hash -/
structure Observation where
  crashed : Bool
  exist : Bool
  nonce : Nat
  slot : Val
  code : Bytes
  codeHash : Hash
  suicided : Bool
  balance : Nat
  refund : Nat
  logs : List LogRec
  logSize : Nat
  inAL : Bool
  slotInAL : Option (Bool × Bool)
  transient : Hash
deriving DecidableEq, Repr

def liveObj (s : ADB) (a : Addr) : Option Obj :=
  match res s a with
  | .live o => some o
  | _ => none

/-- the observation at (address `a`, storage key `k`, tx hash `th`, access-list slot / transient key `h`) -/
def obs (c : Cfg) (s : ADB) (a : Addr) (k : Key) (th h : Hash) : Observation :=
  { crashed := s.crashed
    exist := (liveObj s a).isSome
    nonce := ((liveObj s a).map (·.nonce)).getD 0
    slot := ((liveObj s a).map (·.get k)).getD []
    code := ((liveObj s a).map (fun o => (codeLookup s o).getD [])).getD []
    codeHash := ((liveObj s a).map (fun o => toHash o.codeHash)).getD zeroHash
    suicided := ((liveObj s a).map (·.suicided)).getD false
    balance := ((liveObj s c.tok).map (fun o => beToNat (o.get (c.balKey a)))).getD 0
    refund := s.refund
    logs := getLogs s th
    logSize := s.logSize
    inAL := s.al.containsAddr a
    slotInAL := s.al.contains a h
    transient := tget s.transient a h }

/-! ## op language of the driver and of the theorems -/

inductive Op where
  | setNonce (a : Addr) (n : Nat)
  | incNonce (a : Addr)
  | setData (a : Addr) (k : Key) (v : Val)
  | create (a : Addr)
  | setCode (a : Addr) (code : Bytes) (h : Hash)
  | suicide (a : Addr)
  | addBal (a : Addr) (n : Nat)
  | subBal (a : Addr) (n : Nat)
  | setBal (a : Addr) (n : Nat)
  | transfer (a b : Addr) (n : Nat)
  | addFT (a : Addr) (k : Key) (n : Nat)
  | subFT (a : Addr) (k : Key) (n : Nat)
  | setFT (a : Addr) (k : Key) (n : Nat)
  | addRefund (g : Nat)
  | subRefund (g : Nat)
  | addLog (a : Addr) (topics data : Bytes)
  | alAddr (a : Addr)
  | alSlot (a : Addr) (slot : Hash)
  | tset (a : Addr) (k v : Hash)
  | snapshot
  | revert (id : Nat)
  -- readers with side effects on caches
  | qExist (a : Addr)
  | qEmpty (a : Addr)
  | qBal (a : Addr)
  | qNonce (a : Addr)
  | qData (a : Addr) (k : Key)
  | qCommitted (a : Addr) (k : Key)
  | qSuicided (a : Addr)
  | qCode (a : Addr)
  | qCodeSize (a : Addr)
  | qCodeHash (a : Addr)
  | qFT (a : Addr) (k : Key)
  | setStorage (a : Addr) (kvs : List (Key × Val))
  | qAllRefund (a : Addr)
  | addBinding (bind contract : Addr) (pos dec : Nat)
deriving DecidableEq, Repr

/-- state transformer of an op (the answer is computed by the driver from the same functions) -/
def step (c : Cfg) (s : ADB) : Op → ADB
  | .setNonce a n => setNonce s a n
  | .incNonce a => (increaseNonce s a).1
  | .setData a k v => setData s a k v
  | .create a => createAccount s a
  | .setCode a code h => setCode s a code h
  | .suicide a => (suicide c s a).1
  | .addBal a n => addBalance c s a n
  | .subBal a n => (subBalance c s a n).1
  | .setBal a n => setBalance c s a n
  | .transfer a b n => transfer c s a b n
  | .addFT a k n => addFT s a k n
  | .subFT a k n => (subFT s a k n).1
  | .setFT a k n => setFT s a k n
  | .addRefund g => addRefund s g
  | .subRefund g => subRefund s g
  | .addLog a t d => addLog s a t d
  | .alAddr a => addAddressToAccessList s a
  | .alSlot a sl => addSlotToAccessList s a sl
  | .tset a k v => setTransientState s a k v
  | .snapshot => (snapshot s).1
  | .revert id => revert c s id
  | .qExist a => (exist s a).1
  | .qEmpty a => (isEmptyQ s a).1
  | .qBal a => (getBalance c s a).1
  | .qNonce a => (getNonce s a).1
  | .qData a k => (getData s a k).1
  | .qCommitted a k => (getCommitted s a k).1
  | .qSuicided a => (hasSuicided s a).1
  | .qCode a => (getCode s a).1
  | .qCodeSize a => (getCodeSize s a).1
  | .qCodeHash a => (getCodeHash s a).1
  | .qFT a k => (getFT s a k).1
  | .setStorage a kvs => setStorage s a kvs
  | .qAllRefund a => (getAllRefund s a).1
  | .addBinding b ct p d => (addERC20Binding s b ct p d).1

def run (c : Cfg) (s : ADB) (ops : List Op) : ADB := ops.foldl (step c) s

end Rangers.Model.Journal
