import Rangers.Model.RLP
/-!
# RLP — the stateful `Stream` of decode.go (core Lean only)

Fields are the Go fields (`remaining`, `limited`, `kind` with `none` = -1, `size`,
`byteval`, `kinderr`, `stack` with the top of stack at the head); `inp` is what the
underlying `bytes.Reader` still holds.  Two ghost fields record what the totality clause
of C08 is about: `consumed` (bytes taken from the reader) and `allocs` (every size passed
to `make` in `Bytes`/`Raw`).

Every method returns its Go result *and* the stream state, also on error (the Go code
keeps using a stream after some errors, e.g. after `EOL`).

`uint64` subtraction `tos.size - tos.pos` is modelled by truncated `Nat` subtraction;
`Props/C08Stream.lean` (`stream_inv`) proves `pos ≤ size` for every reachable state, so no
wrap-around is ever in play.
-/
namespace Rangers.RLP
open Rangers

structure Stream where
  inp : Bytes
  remaining : Nat
  limited : Bool
  kind : Option Kind
  size : Nat
  byteval : UInt8
  kinderr : Option Err
  stack : List (Nat × Nat)
  consumed : Nat
  allocs : List Nat
  deriving Repr

abbrev Res (α : Type) := Except Err α × Stream

/-- `NewStream(bytes.NewReader(b), limit)`; `limit = 0` auto-detects `len(b)` (bytes.Reader). -/
def newStream (b : Bytes) (limit : Nat) : Stream :=
  { inp := b, remaining := if limit > 0 then limit else b.length, limited := true,
    kind := none, size := 0, byteval := 0, kinderr := none, stack := [], consumed := 0, allocs := [] }

/-- `NewStream(r, 0)` for a reader that is neither `*bytes.Reader` nor `*strings.Reader`. -/
def newStreamUnlimited (b : Bytes) : Stream :=
  { newStream b 0 with remaining := 0, limited := false }

/-- the input-limit half of `willRead` -/
def willReadLimit (s : Stream) (n : Nat) : Option Err × Stream :=
  if s.limited then
    if n > s.remaining then (some .valueTooLarge, s)
    else (none, { s with remaining := s.remaining - n })
  else (none, s)

/-- `willRead(n)` -/
def willRead (s : Stream) (n : Nat) : Option Err × Stream :=
  let s := { s with kind := none }
  match s.stack with
  | (p, sz) :: rest =>
    if n > sz - p then (some .elemTooLarge, s)
    else willReadLimit { s with stack := (p + n, sz) :: rest } n
  | [] => willReadLimit s n

/-- `readByte()` -/
def readByte (s : Stream) : Res UInt8 :=
  match willRead s 1 with
  | (some e, s) => (.error e, s)
  | (none, s) =>
    match s.inp with
    | [] => (.error .eof, s)
    | b :: tl => (.ok b, { s with inp := tl, consumed := s.consumed + 1 })

/-- `readFull(buf)` with `len(buf) = n`; returns the bytes read. -/
def readFull (s : Stream) (n : Nat) : Res Bytes :=
  match willRead s n with
  | (some e, s) => (.error e, s)
  | (none, s) =>
    if n ≤ s.inp.length then
      (.ok (s.inp.take n), { s with inp := s.inp.drop n, consumed := s.consumed + n })
    else (.error .eof, { s with inp := [], consumed := s.consumed + s.inp.length })

/-- `readUint(size)`, `size ≤ 8` at every call site. -/
def readUint (s : Stream) (size : Nat) : Res Nat :=
  if size = 0 then (.ok 0, { s with kind := none })
  else if size = 1 then
    match readByte s with
    | (.ok b, s) => (.ok b.toNat, s)
    | (.error e, s) => (.error e, s)
  else
    match readFull s size with
    | (.error e, s) => (.error e, s)
    | (.ok bs, s) =>
      match bs with
      | [] => (.error .eof, s)
      | b0 :: _ => if b0.toNat = 0 then (.error .canonSize, s) else (.ok (beNat bs), s)

/-- long-form header: `size, err = readUint(n); if err == nil && size < 56 {err = ErrCanonSize}` -/
def readLongSize (s : Stream) (n : Nat) : (Nat × Option Err) × Stream :=
  match readUint s n with
  | (.error e, s) => ((0, some e), s)
  | (.ok size, s) => if size < 56 then ((size, some .canonSize), s) else ((size, none), s)

/-- `Stream.readKind()`: Go returns `(kind, size, err)` and the caller stores all three. -/
def sReadKind (s : Stream) : (Kind × Nat × Option Err) × Stream :=
  match readByte s with
  | (.error e, s) =>
    let e' := if s.stack.isEmpty then
        (match e with | .eof => Err.ioeof | .valueTooLarge => Err.ioeof | x => x) else e
    ((.byte, 0, some e'), s)
  | (.ok b, s) =>
    let s := { s with byteval := 0 }
    let t := b.toNat
    if t < 0x80 then ((.byte, 0, none), { s with byteval := b })
    else if t < 0xb8 then ((.string, t - 0x80, none), s)
    else if t < 0xc0 then
      let ((size, err), s) := readLongSize s (t - 0xb7)
      ((.string, size, err), s)
    else if t < 0xf8 then ((.list, t - 0xc0, none), s)
    else
      let ((size, err), s) := readLongSize s (t - 0xf7)
      ((.list, size, err), s)

/-- the bound check `Kind()` performs after a successful `readKind` -/
def kindBoundErr (s : Stream) (size : Nat) : Option Err :=
  match s.stack with
  | [] => if s.limited ∧ size > s.remaining then some .valueTooLarge else none
  | (p, sz) :: _ => if size > sz - p then some .elemTooLarge else none

/-- `tos != nil && tos.pos == tos.size` -/
def atEnd : List (Nat × Nat) → Bool
  | (p, sz) :: _ => decide (p = sz)
  | [] => false

/-- the `s.kind < 0` branch of `Kind()`: read the next header and cache it -/
def sKindFresh (s : Stream) : Res (Kind × Nat) :=
  let s := { s with kinderr := none }
  if atEnd s.stack = true then (.error .eol, s)
  else
    let r := sReadKind s
    let err : Option Err := match r.1.2.2 with
      | some e => some e
      | none => kindBoundErr r.2 r.1.2.1
    (match err with | none => .ok (r.1.1, r.1.2.1) | some e => .error e,
     { r.2 with kind := some r.1.1, size := r.1.2.1, kinderr := err })

/-- `Kind()` -/
def sKind (s : Stream) : Res (Kind × Nat) :=
  match s.kind with
  | some k =>
    (match s.kinderr with | none => .ok (k, s.size) | some e => .error e, s)
  | none => sKindFresh s

/-- `Bytes()` -/
def sBytes (s : Stream) : Res Bytes :=
  match sKind s with
  | (.error e, s) => (.error e, s)
  | (.ok (k, size), s) =>
    match k with
    | .byte => (.ok [s.byteval], { s with kind := none })
    | .string =>
      let s := { s with allocs := size :: s.allocs }
      match readFull s size with
      | (.error e, s) => (.error e, s)
      | (.ok b, s) =>
        if size = 1 ∧ headLt128 b = true then (.error .canonSize, s)
        else (.ok b, s)
    | .list => (.error .expectedString, s)

/-- `Raw()` -/
def sRaw (s : Stream) : Res Bytes :=
  match sKind s with
  | (.error e, s) => (.error e, s)
  | (.ok (k, size), s) =>
    match k with
    | .byte => (.ok [s.byteval], { s with kind := none })
    | _ =>
      let s := { s with allocs := (headsize size + size) :: s.allocs }
      match readFull s size with
      | (.error e, s) => (.error e, s)
      | (.ok b, s) =>
        if k = .string then (.ok (encHead 0x80 0xb7 size ++ b), s)
        else (.ok (encHead 0xc0 0xf7 size ++ b), s)

/-- `uint(maxbits)` -/
def sUint (s : Stream) (maxbits : Nat) : Res Nat :=
  match sKind s with
  | (.error e, s) => (.error e, s)
  | (.ok (k, size), s) =>
    match k with
    | .byte =>
      if s.byteval.toNat = 0 then (.error .canonInt, s)
      else (.ok s.byteval.toNat, { s with kind := none })
    | .string =>
      if size > maxbits / 8 then (.error .uintOverflow, s)
      else
        match readUint s size with
        | (.error .canonSize, s) => (.error .canonInt, s)
        | (.error e, s) => (.error e, s)
        | (.ok v, s) => if size > 0 ∧ v < 128 then (.error .canonSize, s) else (.ok v, s)
    | .list => (.error .expectedString, s)

/-- `Bool()` -/
def sBool (s : Stream) : Res Bool :=
  match sUint s 8 with
  | (.error e, s) => (.error e, s)
  | (.ok n, s) => if n = 0 then (.ok false, s) else if n = 1 then (.ok true, s) else (.error .badBool, s)

/-- `List()` -/
def sList (s : Stream) : Res Nat :=
  match sKind s with
  | (.error e, s) => (.error e, s)
  | (.ok (k, size), s) =>
    if k ≠ .list then (.error .expectedList, s)
    else (.ok size, { s with stack := (0, size) :: s.stack, kind := none, size := 0 })

/-- `ListEnd()` -/
def sListEnd (s : Stream) : Option Err × Stream :=
  match s.stack with
  | [] => (some .notInList, s)
  | (p, sz) :: rest =>
    if p ≠ sz then (some .notAtEOL, s)
    else
      let rest' := match rest with
        | [] => []
        | (p', sz') :: r => (p' + sz, sz') :: r
      (none, { s with stack := rest', kind := none, size := 0 })

/-! ## `decodeInterface` through the stream -/

mutual
  /-- `decodeInterface` -/
  def sDecodeAny : Nat → Stream → Res Item
    | 0, s => (.error .fuel, s)
    | f + 1, s =>
      match sKind s with
      | (.error e, s) => (.error e, s)
      | (.ok (k, _), s) =>
        if k = .list then
          match sList s with
          | (.error e, s) => (.error e, s)
          | (.ok size, s) =>
            if size = 0 then
              match sListEnd s with
              | (some e, s) => (.error e, s)
              | (none, s) => (.ok (.list []), s)
            else
              match sAnyElems f s with
              | (.error e, s) => (.error e, s)
              | (.ok xs, s) =>
                match sListEnd s with
                | (some e, s) => (.error e, s)
                | (none, s) => (.ok (.list xs), s)
        else
          match sBytes s with
          | (.error e, s) => (.error e, s)
          | (.ok b, s) => (.ok (.str b), s)
  /-- `decodeSliceElems` with `decodeInterface` as element decoder -/
  def sAnyElems : Nat → Stream → Res (List Item)
    | 0, s => (.error .fuel, s)
    | f + 1, s =>
      match sDecodeAny f s with
      | (.error .eol, s) => (.ok [], s)
      | (.error e, s) => (.error e, s)
      | (.ok x, s) =>
        match sAnyElems f s with
        | (.error e, s) => (.error e, s)
        | (.ok xs, s) => (.ok (x :: xs), s)
end

/-- Fuel for `sDecodeAny` from any stream state: the first value may come from a cached
    `Kind` (no byte consumed), every later recursive call consumes at least one byte or fails. -/
def anyFuel (s : Stream) : Nat := 2 * s.inp.length + 4

/-- `DecodeBytes(b, &interface{})`, error-exact. -/
def sDecodeBytesAny (b : Bytes) : Except Err Item :=
  match sDecodeAny (anyFuel (newStream b b.length)) (newStream b b.length) with
  | (.error e, _) => .error e
  | (.ok it, s) => if s.inp.isEmpty then .ok it else .error .moreThanOne

end Rangers.RLP

namespace Rangers.RLP

/-- The public `Stream` methods, as data (what a caller — a typed decoder, a `DecodeRLP`
    implementation, the op scripts of the correspondence run — can do to a stream). -/
inductive SOp
  | kind | bytes | raw | uint (bits : Nat) | bool | list | listEnd | any
  deriving Repr

/-- State after one method call (results are dropped; see the individual methods). -/
def SOp.run (op : SOp) (s : Stream) : Stream :=
  match op with
  | .kind => (sKind s).2
  | .bytes => (sBytes s).2
  | .raw => (sRaw s).2
  | .uint bits => (sUint s bits).2
  | .bool => (sBool s).2
  | .list => (sList s).2
  | .listEnd => (sListEnd s).2
  | .any => (sDecodeAny (anyFuel s) s).2

def runOps : List SOp → Stream → Stream
  | [], s => s
  | op :: ops, s => runOps ops (op.run s)

end Rangers.RLP
