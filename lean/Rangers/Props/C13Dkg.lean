import Mathlib.Data.ZMod.Basic
import Rangers.Proofs.C13Deliver
/-!
# C13 — "members sum the shares they receive": the delivery side of the DKG

Theorems about `Model.Shamir.handleSharePiece` / `deliverAll` (the model of
`group_create.groupNodeInfo.handleSharePiece`, `gotAllSharePiece`, `aggregateKeys`, executed by the
driver's `deliver` op and tied to the code on delivery histories with re-deliveries, replaced pieces,
strangers and late arrivals).
-/
namespace Rangers.Props.C13Dkg
open Rangers.Model.Shamir Rangers.Proofs.C13

variable {P : Type}

/-- **Status codes and completion.** On a well-formed state: a piece from a sender already present
    is refused with `-1` and changes nothing (whatever it contains); otherwise it is stored; `1`
    (completed) can only be returned by the delivery that brings the number of DISTINCT senders to the
    group size `n`; group size and well-formedness are preserved. -/
theorem handle_share_piece_status (r : Nat) (addP : P → P → P) (st : NodeInfo P) (pc : Piece P)
    (hok : NodeOk r addP st) :
    (handleSharePiece r addP st pc).1.n = st.n ∧
    (handleSharePiece r addP st pc).1.received = addNew st.received pc ∧
    NodeOk r addP (handleSharePiece r addP st pc).1 ∧
    ((handleSharePiece r addP st pc).2 = 1 →
      ¬ st.received.any (fun e => e.id == pc.id) = true ∧ st.received.length + 1 = st.n) ∧
    (st.received.any (fun e => e.id == pc.id) = true →
      (handleSharePiece r addP st pc).1 = st ∧ (handleSharePiece r addP st pc).2 = -1) :=
  handleSharePiece_spec r addP st pc hok

/-- **Duplicates and re-deliveries are irrelevant.** After ANY delivery history a fresh node stores
    exactly the first occurrence of every sender and its keys are `keysOf` them (aggregated over the
    first `n` distinct senders once there are `n`, nothing before); hence two histories with the same
    first-occurrence list leave the same pieces and the same keys. -/
theorem dkg_keys_depend_only_on_first_occurrences (r : Nat) (addP : P → P → P) (n : Nat)
    (h1 h2 : List (Piece P)) :
    (deliverAll r addP (NodeInfo.new n) h1).1.received = h1.foldl addNew [] ∧
    ((deliverAll r addP (NodeInfo.new n) h1).1.msk, (deliverAll r addP (NodeInfo.new n) h1).1.gpk) =
      keysOf r addP n (h1.foldl addNew []) ∧
    (h1.foldl addNew [] = h2.foldl addNew [] →
      (deliverAll r addP (NodeInfo.new n) h1).1.msk = (deliverAll r addP (NodeInfo.new n) h2).1.msk ∧
      (deliverAll r addP (NodeInfo.new n) h1).1.gpk = (deliverAll r addP (NodeInfo.new n) h2).1.gpk) := by
  have key : ∀ h : List (Piece P),
      (deliverAll r addP (NodeInfo.new n) h).1.received = h.foldl addNew [] ∧
      ((deliverAll r addP (NodeInfo.new n) h).1.msk, (deliverAll r addP (NodeInfo.new n) h).1.gpk) =
        keysOf r addP n (h.foldl addNew []) := fun h => by
    obtain ⟨hn, hr, hk⟩ := deliverAll_spec r addP h (NodeInfo.new n) (nodeOk_new r addP n)
    exact ⟨hr, by unfold NodeOk at hk; rwa [hn, hr] at hk⟩
  exact ⟨(key h1).1, (key h1).2, fun h => Prod.mk.inj ((key h1).2.trans (h ▸ (key h2).2.symm))⟩

/-- If the first `n` distinct
    senders of a delivery history are exactly the `n` dealers' pieces `honest` (in any order, with any
    duplicates, replaced pieces or later strangers in between and after), the member's signing key is
    the sum of the dealers' shares mod `r` and its group public key the sum of the dealers' public
    keys. -/
theorem dkg_member_keys_from_any_history {G : Type} [AddCommGroup G] (r n : Nat)
    (honest : List (Piece G)) (hpos : 0 < n) (h : List (Piece G))
    (hlen : n ≤ (h.foldl addNew []).length) (hfirst : ((h.foldl addNew []).take n).Perm honest) :
    (deliverAll r (· + ·) (NodeInfo.new n) h).1.msk = (honest.map (·.share)).sum % r ∧
    (deliverAll r (· + ·) (NodeInfo.new n) h).1.gpk = some (honest.map (·.pub)).sum := by
  obtain ⟨_, hk, _⟩ := dkg_keys_depend_only_on_first_occurrences r (· + ·) n h h
  rw [keysOf_perm r n _ honest hpos hlen hfirst] at hk
  simp only [Prod.mk.injEq] at hk
  exact hk

/-- non-vacuity (`r = 13`, public keys in `ZMod 13`, `n = 3`): dealers 5, 6, 7; history
    `5, 5 again, 6, a different piece from 5, 7, 6 again, a stranger 9`: statuses `0,-1,0,-1,1,-1,0`,
    key `(4+5+6) mod 13 = 2`, group key `1+2+3 = 6`. -/
example :
    (deliverAll 13 (· + ·) (NodeInfo.new 3 : NodeInfo (ZMod 13))
      [⟨5, 4, 1⟩, ⟨5, 4, 1⟩, ⟨6, 5, 2⟩, ⟨5, 9, 9⟩, ⟨7, 6, 3⟩, ⟨6, 5, 2⟩, ⟨9, 1, 1⟩]).2 = [0, -1, 0, -1, 1, -1, 0] ∧
    (deliverAll 13 (· + ·) (NodeInfo.new 3 : NodeInfo (ZMod 13))
      [⟨5, 4, 1⟩, ⟨5, 4, 1⟩, ⟨6, 5, 2⟩, ⟨5, 9, 9⟩, ⟨7, 6, 3⟩, ⟨6, 5, 2⟩, ⟨9, 1, 1⟩]).1.msk = 2 ∧
    (deliverAll 13 (· + ·) (NodeInfo.new 3 : NodeInfo (ZMod 13))
      [⟨5, 4, 1⟩, ⟨5, 4, 1⟩, ⟨6, 5, 2⟩, ⟨5, 9, 9⟩, ⟨7, 6, 3⟩, ⟨6, 5, 2⟩, ⟨9, 1, 1⟩]).1.gpk = some 6 := by
  decide +kernel

/-- The hypothesis `hfirst` is needed: neither `handleSharePiece` nor its caller
    `handleSharePieceMessage` tests that the sender is a member of the group, so a stranger's piece
    arriving before the last dealer's is counted — the node completes on it and aggregates the
    stranger's share instead of the last dealer's (known finding `dkg-nonmember-piece-counted`;
    replayed on the implementation by `corpus/C13/stranger.ops`). -/
theorem stranger_before_completion_counts :
    (deliverAll 13 (· + ·) (NodeInfo.new 3 : NodeInfo (ZMod 13))
      [⟨5, 4, 1⟩, ⟨6, 5, 2⟩, ⟨9, 1, 1⟩, ⟨7, 6, 3⟩]).2 = [0, 0, 1, 0] ∧
    (deliverAll 13 (· + ·) (NodeInfo.new 3 : NodeInfo (ZMod 13))
      [⟨5, 4, 1⟩, ⟨6, 5, 2⟩, ⟨9, 1, 1⟩, ⟨7, 6, 3⟩]).1.msk = 10 ∧
    (deliverAll 13 (· + ·) (NodeInfo.new 3 : NodeInfo (ZMod 13))
      [⟨5, 4, 1⟩, ⟨6, 5, 2⟩, ⟨7, 6, 3⟩]).1.msk = 2 := by
  decide +kernel

end Rangers.Props.C13Dkg
