import Rangers.Proofs.Evm12InvInst
/-!
# C12: invariants carried through every frame tree, transaction and block

`run_inv` (Proofs/Evm12Inv) is an induction principle over frame trees: a predicate kept by every primitive
state access and by reverting to a world that satisfied it is kept by every frame body (and, with
`inv_preserved_by_block`, by every block of transactions). Two instances (`wf_prim`, `logsIndexed_prim` of
Proofs/Evm12InvInst) are applied here (a third, `LogsExtend`, carries `receipt_logs_exact` in `Props/C12B`):

* `Obs.WF` -- no nonce / code / storage without account object: a hypothesis of the static theorems
  (`static_no_write_partial`), shown here to hold in every world reachable from a well-formed one
  (`wf_preserved_by_*`, `static_no_write_reachable`).
* `LogsIndexed` -- `Log.Index` is the position of the log among the surviving logs of the block
  (`log_indices_consecutive_*`): a frame that fails after LOG does not leave the block-wide counter advanced.
  Needs of `RevertToSnapshot` also that it puts `logSize` back (`RevertRestoresLogSize`; generated fact
  `add_log_undo_as_modelled`).

And the refusal clauses (`refused_*_untouched`): an entry point that refuses up-front (depth limit, value above
the balance) hands back the very world it was given -- nonces included; `create` may have bumped the creator's
nonce only when it reports an address collision.
-/
namespace Rangers.Props.C12D
open Rangers.Model.Evm12

/-- the four call entry points: whatever they refuse before running, the world handed back is the one given -/
theorem refused_call_untouched (env : Env) (depth : Nat) (ro : Bool) (self : Addr) (kind : CallKind)
    (target : Addr) (value : Nat) (w w' : World) (e : Err)
    (h : callEnter env depth ro self kind target value w = .fail w' e) : w' = w :=
  (h ▸ callEnter_sat env depth ro self kind target value w).1

/-- `AuthCall`: depth and balance are checked before the authorized account's nonce is bumped -/
theorem refused_authcall_untouched (env : Env) (depth : Nat) (ro : Bool) (au target : Addr) (value : Nat)
    (w w' : World) (e : Err) (h : authEnter env depth ro au target value w = .fail w' e) : w' = w :=
  (h ▸ authEnter_sat env depth ro au target value w).1

/-- `create`: a refusal for depth or balance leaves the world untouched -- in particular the creator's
    nonce; only an address collision is reported after the nonce bump and the access-list insertion -/
theorem refused_create_untouched (env : Env) (depth : Nat) (ro : Bool) (self : Addr) (value : Nat) (addr : Addr)
    (w w' : World) (e : Err) (h : createEnter env depth ro self value addr w = .fail w' e) :
    (e = .collision ∧ w' = (if env.createBumpsNonce then w.setNonce self (w.getNonce self + 1) else w).addAccess addr)
    ∨ ((e = .depth ∨ e = .insufficientBalance) ∧ w' = w) :=
  (h ▸ createEnter_sat env depth ro self value addr w).2

/-- non-vacuity: a CREATE with an endowment above the balance is refused and the creator's nonce stays -/
example :
    let env : Env := { origin := .base 10, rv := restore }
    let w : World := (({} : World).setNonce (.base 20) 3).addBalance (.base 20) 5
    (createFrame env 1 false (.base 20) false 0 6 (.done .stop) w).err = some .insufficientBalance
    ∧ (createFrame env 1 false (.base 20) false 0 6 (.done .stop) w).world.getNonce (.base 20) = 3
    ∧ (createFrame env 1 false (.base 20) false 0 5 (.done .stop) w).world.getNonce (.base 20) = 4 := by
  decide +kernel

theorem wf_preserved_by_frame (env : Env) (hrv : RevertRestoresObs env.rv) (body : Frame) (depth : Nat) (ro : Bool)
    (self : Addr) (w : World) (clogs : List Log) (tr : List Event) (hwf : (obs w).WF) :
    (obs (run env depth ro self w clogs tr body).world).WF :=
  run_inv (wf_prim env hrv) body depth ro self w clogs tr hwf

protected theorem inv_preserved_by_tx {P : World → Prop} (cfg : Cfg) (rv : World → World → World)
    (hP : ∀ origin, PrimInv (cfg.env rv origin) P) (hprep : ∀ w h i, P w → P (prepare w h i))
    (i : Nat) (w : World) (tx : Tx) (hw : P w) : P (execTx cfg rv i w tx).1 :=
  Model.Evm12.inv_preserved_by_tx cfg rv hP hprep i w tx hw

protected theorem inv_preserved_by_block {P : World → Prop} (cfg : Cfg) (rv : World → World → World)
    (hP : ∀ origin, PrimInv (cfg.env rv origin) P) (hprep : ∀ w h i, P w → P (prepare w h i)) :
    ∀ (txs : List Tx) (i : Nat) (w : World), P w → P (execBlock cfg rv i w txs).1 :=
  Model.Evm12.inv_preserved_by_block cfg rv hP hprep

theorem wf_preserved_by_block (cfg : Cfg) (rv : World → World → World) (hrv : RevertRestoresObs rv)
    (txs : List Tx) (i : Nat) (w : World) (hwf : (obs w).WF) : (obs (execBlock cfg rv i w txs).1).WF :=
  inv_preserved_by_block (P := fun w => (obs w).WF) cfg rv (fun o => wf_prim (cfg.env rv o) hrv)
    (fun _ _ _ hw => hw) txs i w hwf

/-- the static clause without the well-formedness hypothesis, for every world reachable from genesis: run any
    block of transactions from the empty state, then any read-only frame: the live observation does not move -/
theorem static_no_write_reachable (cfg : Cfg) (rv : World → World → World) (hrv : RevertRestoresObs rv)
    (txs : List Tx) (env : Env) (henv : RevertRestoresObs env.rv) (body : Frame) (hplain : body.plain = true)
    (depth : Nat) (self : Addr) (clogs : List Log) (tr : List Event) :
    liveObs (run env depth true self (execBlock cfg rv 0 {} txs).1 clogs tr body).world
      = liveObs (execBlock cfg rv 0 {} txs).1 :=
  (static_run env henv body hplain depth self _ clogs tr
    (wf_preserved_by_block cfg rv hrv txs 0 {} (fun _ _ => ⟨rfl, rfl, fun _ => rfl⟩))).1

/-- a frame tree keeps the numbering of the block's logs: whatever fails and is reverted in between, the
    surviving logs carry `Index` 0, 1, 2, … -/
theorem log_indices_consecutive_frame (env : Env) (hrv : RevertRestoresObs env.rv)
    (hls : RevertRestoresLogSize env.rv) (body : Frame) (depth : Nat) (ro : Bool) (self : Addr) (w : World)
    (clogs : List Log) (tr : List Event) (hw : LogsIndexed w) :
    LogsIndexed (run env depth ro self w clogs tr body).world :=
  run_inv (logsIndexed_prim env hrv hls) body depth ro self w clogs tr hw

/-- ... and so does a whole block of transactions on one state object: in the final world the i-th log has
    `Index = i`, across transactions, failed transactions and reverted frames included -/
theorem log_indices_consecutive_block (cfg : Cfg) (rv : World → World → World) (hrv : RevertRestoresObs rv)
    (hls : RevertRestoresLogSize rv) (txs : List Tx) (w : World) (hw : LogsIndexed w) :
    let w' := (execBlock cfg rv 0 w txs).1
    w'.logSize = w'.logs.length ∧ ∀ (i : Nat) (h : i < w'.logs.length), (w'.logs[i]).index = i :=
  inv_preserved_by_block (P := LogsIndexed) cfg rv (fun o => logsIndexed_prim (cfg.env rv o) hrv hls)
    (fun _ _ _ hw => hw) txs 0 w hw

example : LogsIndexed {} := ⟨rfl, fun _ h => absurd h (by simp)⟩
example : RevertRestoresObs restore ∧ RevertRestoresLogSize restore := ⟨restore_restoresObs, restore_restoresLogSize⟩

/-- non-vacuity: the first LOG of a transaction sits in a reverting
    sub-frame, the surviving logs of this and the next transaction are numbered 0 and 1 -/
example :
    let w0 : World := (({} : World).setCode (.base 20) .hosted).setCode (.base 21) .hosted
    let t1 : Tx := { hash := 1, origin := .base 10, kind := .call (.base 20), value := 0,
                     body := .call 1 .call (.base 21) 0 (.log 0 13 (.done .revert)) (.log 0 16 (.done .stop)) }
    let t2 : Tx := { hash := 2, origin := .base 10, kind := .call (.base 21), value := 0, body := .log 1 21 (.done .stop) }
    ((execBlock {} restore 0 w0 [t1, t2]).1.logs.map (fun l => (l.tag, l.index))) = [(16, 0), (21, 1)] := by
  decide +kernel

end Rangers.Props.C12D
