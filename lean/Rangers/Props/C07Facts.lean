import Rangers.Generated.C07Facts
import Rangers.Generated.C08Types
import Rangers.Model.TxAuth
/-!
# C07 — T-gen tie

`Rangers.Generated.C07` is re-extracted from the go-rangers source on every run
(`gen/cmd/c07facts`, go/ast).  The theorems below say that the model *is* the
interpretation of the extracted shape: the hashed byte string is the
concatenation of exactly the extracted `buffer.Write` arguments in their order,
`compareTx` compares exactly the extracted fields, and the call sequences /
constants are the ones the model follows.  Re-ordering a write,
dropping a comparison, adding or removing a check call, or changing the type
constant makes one of these fail to check.
-/
namespace Rangers.Props.C07Facts
open Rangers Rangers.Model.TxAuth Rangers.Generated.C07

/-- meaning of one `buffer.Write` argument of `GenHash` -/
def writeBytes (tx : Tx) (w : String) : Option Bytes :=
  if w = "[]byte(tx.Data)" then some tx.data
  else if w = "[]byte(strconv.FormatUint(tx.Nonce,10))" then some (decimal tx.nonce)
  else if w = "[]byte(tx.Source)" then some tx.source
  else if w = "[]byte(tx.Target)" then some tx.target
  else if w = "[]byte(strconv.Itoa(int(tx.Type)))" then some (decimalInt tx.type)
  else if w = "[]byte(tx.Time)" then some tx.time
  else if w = "[]byte(tx.ExtraData)" then some tx.extraData
  else if w = "[]byte(tx.ChainId)" then some tx.chainId
  else none

def interpWrites (tx : Tx) : List String → Option Bytes
  | [] => some []
  | w :: ws =>
    match writeBytes tx w, interpWrites tx ws with
    | some a, some b => some (a ++ b)
    | _, _ => none

/-- The model's hashed byte string is the concatenation of the source's
    `buffer.Write` arguments, in the source's order. -/
theorem ser_is_genhash_writes (tx : Tx) : interpWrites tx genHashWrites = some (ser tx) := by
  simp only [genHashWrites, interpWrites, writeBytes, String.reduceEq, ↓reduceIte, ser, List.append_assoc,
    List.append_nil]

theorem genhash_returns_sha256_of_buffer :
    genHashReturns = ["common.Hash{}", "common.BytesToHash(common.Sha256(buffer.Bytes()))"] := rfl

/-- meaning of one `tx.F != expectedTx.F` comparison of `compareTx` -/
def fieldEq (a b : Tx) (f : String) : Option Bool :=
  if f = "Source" then some (a.source == b.source)
  else if f = "Target" then some (a.target == b.target)
  else if f = "Type" then some (a.type == b.type)
  else if f = "ExtraData" then some (a.extraData == b.extraData)
  else if f = "Nonce" then some (a.nonce == b.nonce)
  else if f = "ChainId" then some (a.chainId == b.chainId)
  else if f = "Data" then some (a.data == b.data)
  else if f = "Hash" then some (a.hash == b.hash)
  else none

def interpCmp (a b : Tx) : List String → Option Bool
  | [] => some true
  | f :: fs =>
    match fieldEq a b f, interpCmp a b fs with
    | some x, some y => some (x && y)
    | _, _ => none

/-- The model's `compareTx` compares exactly the fields the source compares. -/
theorem compareTx_is_compared_fields (a b : Tx) : interpCmp a b compareTxFields = some (compareTx a b) := by
  simp only [compareTxFields, interpCmp, fieldEq, String.reduceEq, ↓reduceIte, compareTx, Bool.and_true,
    Bool.and_assoc]

theorem type_constant : transactionTypeETHTX = typeETHTX := rfl

/-- `VerifyTransaction`: ETH branch first (guarded by the type), then chain id, hash, signature. -/
theorem verify_call_order :
    verifyTransactionCalls = ["verifyETHTx", "verifyTxChainId", "verifyTransactionHash", "verifyTransactionSign"] ∧
    verifyTransactionGuards = ["tx.Type==types.TransactionTypeETHTX", "nil!=err", "nil!=err", "nil!=err"] :=
  ⟨rfl, rfl⟩

/-- `verifyETHTx`: decode, canonical re-encoding check, signer of this chain, sender, convert, compare. -/
theorem verify_eth_call_order :
    verifyETHTxCalls = ["common.FromHex", "rlp.DecodeBytes", "rlp.EncodeToBytes", "bytes.Equal",
      "eth_tx.NewEIP155Signer", "common.GetChainId", "eth_tx.Sender", "eth_tx.ConvertTx", "compareTx"] := rfl

theorem verify_native_call_order :
    verifyTxChainIdCalls = ["common.ChainId"] ∧ verifyTransactionHashCalls = ["tx.GenHash"] ∧
    verifyTransactionSignCalls = ["tx.Sign.RecoverPubkey", "pk.Verify", "pk.GetAddress"] := ⟨rfl, rfl, rfl⟩

theorem convert_assignments :
    convertTxAssigns = ["data.AbiData=common.ToHex(txRaw.Data())", "data.GasLimit=strconv.FormatUint(txRaw.Gas(),10)",
      "data.GasPrice=txRaw.GasPrice().String()", "data.TransferValue=utility.BigIntToStr(transferValue)",
      "result.ChainId=txRaw.ChainId().String()", "result.Data=string(dataByes)",
      "result.ExtraData=common.ToHex(encodedTx)", "result.Hash=txRaw.Hash()",
      "result.Nonce=txRaw.data.AccountNonce", "result.Source=sender.String()",
      "result.Target=txRaw.To().String()", "result.Type=types.TransactionTypeETHTX"] := rfl

/-- JSON keys and their order in `Data` (`omitempty` never triggers: all four strings are non-empty). -/
theorem contract_data_fields :
    contractDataFields = ["GasPrice string json:'gasPrice,omitempty'", "GasLimit string json:'gasLimit,omitempty'",
      "TransferValue string json:'transferValue,omitempty'", "AbiData string json:'abiData,omitempty'"] := rfl

/-- The secp256k1 decision layer the model's `recoverPubkey` / `recoverPubkeyEth` / `libVerify`
    follow: the native wrapper respells 27.. as 0.. before the `>= 4` check, the
    ETH wrapper does not; the library's verify starts with the low-s test; each path imports
    its own wrapper. -/
theorem secp_layer_shape :
    checkSignatureCommon = ["if len(sig)!=65", "if sig[64]>26", "sig[64]-=27", "if sig[64]>=4"] ∧
    checkSignatureEth = ["if len(sig)!=65", "if sig[64]>=4"] ∧
    recoverPubkeyCommonCalls = ["len", "checkSignature", "C.secp256k1_ext_ecdsa_recover"] ∧
    recoverPubkeyEthCalls = ["len", "checkSignature", "C.secp256k1_ext_ecdsa_recover"] ∧
    ecdsaVerifyReturnCommon = ["return (!secp256k1_scalar_is_high(&s) && secp256k1_pubkey_load(ctx, &q, pubkey) && secp256k1_ecdsa_sig_verify(&ctx->ecmult_ctx, &r, &s, &q, &m))"] ∧
    secpImportNative = ["com.tuntun.rangers/node/src/common/secp256k1"] ∧
    secpImportEth = ["com.tuntun.rangers/node/src/eth_crypto/secp256k1"] :=
  ⟨rfl, rfl, rfl, rfl, rfl, rfl, rfl⟩

/-- At source level no check reads `SubTransactions`, `SubHash`, `ExtraDataType`, `RequestId` or
    `SocketRequestId` (the model's `unauthenticated_fields_ignored`): the selectors on `tx` in
    the whole verification path are exactly these (`ToTxJson` only feeds a log line). A check
    that starts reading another field — or stops reading one — breaks this obligation. -/
theorem verify_reads_only_authenticated_fields :
    verifyFieldsRead = ["VerifyTransaction: Hash,Type", "verifyTxChainId: ChainId,Hash",
      "verifyTransactionHash: GenHash,Hash", "verifyTransactionSign: Hash,Sign,Source",
      "verifyETHTx: ExtraData,Hash,ToTxJson",
      "compareTx: ChainId,Data,ExtraData,Hash,Nonce,Source,Target,Type",
      "GenHash: ChainId,Data,ExtraData,Nonce,Source,Target,Time,Type"] := rfl

/-- The fixed-width serialisations the model pads inside itself (`getIDInput`, `Sign.bytes`,
    `toAddress`, `bytesToSign`): `GetID` copies each coordinate right-aligned into its 32-byte
    slot, `Sign.Bytes` does the same for r and s, `Address.SetBytes` keeps the last 20 bytes,
    `BytesToSign` splits 32/32/1. A changed padding breaks this obligation (and `addr` ops). -/
theorem padding_shape :
    getIDBody = ["x := pk.PubKey.X.Bytes()", "y := pk.PubKey.Y.Bytes()", "digest := make([]byte, 64)",
      "copy(digest[32-len(x):], x)", "copy(digest[64-len(y):], y)", "d := sha3.NewKeccak256()",
      "d.Write(digest)", "hash := d.Sum(nil)", "return hash"] ∧
    getAddressBody = ["addrBuf := pk.GetID()", "return BytesToAddress(addrBuf[:])"] ∧
    addressSetBytesBody = ["if len(b) > len(a) { b = b[len(b)-AddressLength:] }", "copy(a[:], b[:])"] ∧
    signBytesBody = ["rb := s.r.Bytes()", "sb := s.s.Bytes()", "r := make([]byte, SignLength)",
      "copy(r[32-len(rb):32], rb)", "copy(r[64-len(sb):64], sb)", "r[64] = s.recid", "return r"] ∧
    bytesToSignBody = ["if len(b) == 65 { var r, s big.Int br := b[:32] r = *r.SetBytes(br) sr := b[32:64] s = *s.SetBytes(sr) recid := b[64] return &Sign{r, s, recid} } else { return nil }"] :=
  ⟨rfl, rfl, rfl, rfl, rfl⟩

/-- Shared state on the verification path: no function on the path
    assigns a package-level variable or calls a store; the only fork flag read is
    `IsProposal001` (through `common.ChainId`); the package-level reads are the logger, the
    error values, `big8`, the chain configuration (`LocalChainConfig`, `Genesis`) and the two
    hasher pools; the only caches are the per-object `hash`/`from` atomics of a freshly
    decoded `eth_tx.Transaction`.  A new cache, a `sync.Once`, a new flag read or a store
    call on the path changes this list. -/
theorem path_shared_state :
    pathSharedState = [
      ("service.TxPool.VerifyTransaction", "", "txPoolLogger", "", "", ""),
      ("service.verifyTxChainId", "", "ErrChainId,txPoolLogger", "", "", ""),
      ("service.verifyTransactionHash", "", "ErrHash,txPoolLogger", "", "", ""),
      ("service.verifyTransactionSign", "", "ErrSign,txPoolLogger", "", "", ""),
      ("service.verifyETHTx", "", "ErrIllegal,ErrNil,txPoolLogger", "", "", ""),
      ("service.compareTx", "", "", "", "", ""),
      ("types.Transaction.GenHash", "", "", "", "", ""),
      ("eth_tx.ConvertTx", "", "", "", "", ""),
      ("eth_tx.Transaction.Hash", "", "", "", "", "tx.hash.Load,tx.hash.Store"),
      ("eth_tx.rlpHash", "", "hasherPool", "", "", "hasherPool.Get,hasherPool.Put"),
      ("eth_tx.isProtectedV", "", "", "", "", ""),
      ("eth_tx.Sender", "", "", "", "", "tx.from.Load,tx.from.Store"),
      ("eth_tx.EIP155Signer.Sender", "", "ErrInvalidChainId,big8", "", "", ""),
      ("eth_tx.HomesteadSigner.Sender", "", "", "", "", ""),
      ("eth_tx.EIP155Signer.Hash", "", "", "", "", ""),
      ("eth_tx.NewEIP155Signer", "", "", "", "", ""),
      ("eth_tx.recoverPlain", "", "ErrInvalidSig", "", "", ""),
      ("eth_tx.deriveChainId", "", "", "", "", ""),
      ("common.ChainId", "", "LocalChainConfig", "IsProposal001", "", ""),
      ("common.GetChainId", "", "Genesis", "", "", ""),
      ("common.IsProposal001", "", "LocalChainConfig", "isForked", "", ""),
      ("common.Sha256", "", "hasherPool", "", "", "hasherPool.Get,hasherPool.Put"),
      ("common.Sign.RecoverPubkey", "", "", "", "", ""),
      ("common.Sign.Bytes", "", "", "", "", ""),
      ("common.PublicKey.Verify", "", "", "", "", ""),
      ("common.PublicKey.GetAddress", "", "", "", "", ""),
      ("common.PublicKey.GetID", "", "", "", "", ""),
      ("common.BytesToPublicKey", "", "", "", "", ""),
      ("common.FromHex", "", "", "", "", ""),
      ("common.ToHex", "", "", "", "", "")] := rfl

/-- no function on the path writes a package-level variable or calls a store; the only fork
    flag is `IsProposal001` (via `isForked`) -/
theorem path_writes_nothing :
    pathSharedState.all (fun e => e.2.1 == "" && e.2.2.2.2.1 == "" &&
      (e.2.2.2.1 == "" || e.2.2.2.1 == "IsProposal001" || e.2.2.2.1 == "isForked")) = true := by decide +kernel

/-- The built-in chain configurations (the only inputs of `chainIdStr`): main net switches
    its chain id 8888 → 2025 at height 894116; the others never switch. -/
theorem chain_configs :
    chainConfigs = ["mainNetChainConfig ChainId='2025' OriginalChainId='8888' Proposal001Block=894116",
      "robinChainConfig ChainId='9527' OriginalChainId='9527' Proposal001Block=0",
      "devNetChainConfig ChainId='9500' OriginalChainId='9500' Proposal001Block=0",
      "subNetChainConfig ChainId='9500' OriginalChainId='9500' Proposal001Block=0"] ∧
    chainConfigSelection = ["devNetChainConfig",
      "mainNetChainConfig",
      "robinChainConfig",
      "subNetChainConfig"] := ⟨rfl, rfl⟩

/-- Every top-level guard of the verification path (`VerifyTransaction`, the three native checks,
    `verifyETHTx`, `compareTx`, `EIP155Signer.Sender`, `recoverPlain`), pinned: condition and
    the last statement of the guarded block. -/
theorem path_guards :
    pathGuards = [
      ("VerifyTransaction", "tx.Type==types.TransactionTypeETHTX", "return verifyETHTx(tx, height)", "return"),
      ("VerifyTransaction", "nil!=err", "return err", "return"),
      ("VerifyTransaction", "nil!=err", "return err", "return"),
      ("VerifyTransaction", "nil!=err", "return err", "return"),
      ("verifyTxChainId", "tx.ChainId!=expectedChainId", "return ErrChainId", "return"),
      ("verifyTransactionHash", "tx.Hash!=expectHash", "return ErrHash", "return"),
      ("verifyTransactionSign", "tx.Sign==nil", "return ErrSign", "return"),
      ("verifyTransactionSign", "err!=nil", "return ErrSign", "return"),
      ("verifyTransactionSign", "!pk.Verify(hashByte,tx.Sign)", "return ErrSign", "return"),
      ("verifyTransactionSign", "tx.Source!=expectAddr", "return ErrSign", "return"),
      ("verifyETHTx", "tx==nil", "return ErrNil", "return"),
      ("verifyETHTx", "err!=nil", "return ErrIllegal", "return"),
      ("verifyETHTx", "err!=nil||!bytes.Equal(canonicalTx,encodedTx)", "return ErrIllegal", "return"),
      ("verifyETHTx", "err!=nil", "return ErrIllegal", "return"),
      ("verifyETHTx", "!compareTx(tx,expectedTx)", "return ErrIllegal", "return"),
      ("compareTx", "tx==nil||expectedTx==nil", "return false", "return"),
      ("compareTx", "tx.Source!=expectedTx.Source||tx.Target!=expectedTx.Target||tx.Type!=expectedTx.Type||tx.ExtraData!=expectedTx.ExtraData", "return false", "return"),
      ("compareTx", "tx.Nonce!=expectedTx.Nonce||tx.ChainId!=expectedTx.ChainId||tx.Data!=expectedTx.Data||tx.Hash!=expectedTx.Hash", "return false", "return"),
      ("Sender", "!tx.Protected()", "return HomesteadSigner{}.Sender(tx)", "return"),
      ("Sender", "tx.ChainId().Cmp(s.chainId)!=0", "return common.Address{}, ErrInvalidChainId", "return"),
      ("recoverPlain", "Vb.BitLen()>8", "return common.Address{}, ErrInvalidSig", "return"),
      ("recoverPlain", "!crypto.ValidateSignatureValues(V,R,S,homestead)", "return common.Address{}, ErrInvalidSig", "return"),
      ("recoverPlain", "err!=nil", "return common.Address{}, err", "return"),
      ("recoverPlain", "len(pub)==0||pub[0]!=4", "return common.Address{}, errors.New(\"invalid public key\")", "return")] := rfl

/-- … and each of them ends by *returning*: no error branch logs and falls through (the model's
    `none`/error results stop the evaluation in exactly the same places). -/
theorem every_guard_returns : pathGuards.all (fun g => g.2.2.2 == "return") = true := by decide +kernel

/-- chain id by height: `ChainId` asks `IsProposal001(height)` = `height >= Proposal001Block`
    (so the current id is in force AT the fork block), `GetChainId` prefers a non-empty
    `Genesis.ChainId` (the model's `chainIdStr` / `ethChainId`). -/
theorem chain_id_shape :
    chainIdBody = ["if IsProposal001(height) { return LocalChainConfig.ChainId } else { return LocalChainConfig.OriginalChainId }"] ∧
    getChainIdBody = ["var chainIdStr string", "if nil != Genesis && 0 != len(Genesis.ChainId) { chainIdStr = Genesis.ChainId } else { chainIdStr = ChainId(height) }", "chainId, _ := big.NewInt(0).SetString(chainIdStr, 10)", "return chainId"] ∧
    isProposal001Body = ["return isForked(LocalChainConfig.Proposal001Block, height)"] ∧ isForkedBody = ["return height >= base"] := ⟨rfl, rfl, rfl, rfl⟩

/-- The signing path the model's `frontierSigValues`, `eip155SigValues`, `withSignature`,
    `signTx155`, `nativeSignBytes` follow: size check → panic, `sig[64] + 27` and `sig[64] + 35` in
    byte arithmetic, the `chainId.Sign() != 0` guard (the chain-id-0 quirk), `WithSignature`
    replacing exactly R, S, V, `SignTx` = Hash → Sign → WithSignature, the native wrapper's
    `sig[64] += 27` (absent in the eth_crypto copy). -/
theorem sign_path_shape :
    signPathBodies = ["FrontierSigner.SignatureValues: if len(sig) != crypto.SignatureLength { panic(fmt.Sprintf('wrong size for signature: got %d, want %d', len(sig), crypto.SignatureLength)) }",
      "FrontierSigner.SignatureValues: r = new(big.Int).SetBytes(sig[:32])",
      "FrontierSigner.SignatureValues: s = new(big.Int).SetBytes(sig[32:64])",
      "FrontierSigner.SignatureValues: v = new(big.Int).SetBytes([]byte{sig[64] + 27})",
      "FrontierSigner.SignatureValues: return r, s, v, nil",
      "EIP155Signer.SignatureValues: R, S, V, err = HomesteadSigner{}.SignatureValues(tx, sig)",
      "EIP155Signer.SignatureValues: if err != nil { return nil, nil, nil, err }",
      "EIP155Signer.SignatureValues: if s.chainId.Sign() != 0 { V = big.NewInt(int64(sig[64] + 35)) V.Add(V, s.chainIdMul) }",
      "EIP155Signer.SignatureValues: return R, S, V, nil",
      "HomesteadSigner.SignatureValues: return hs.FrontierSigner.SignatureValues(tx, sig)",
      "Transaction.WithSignature: r, s, v, err := signer.SignatureValues(tx, sig)",
      "Transaction.WithSignature: if err != nil { return nil, err }",
      "Transaction.WithSignature: cpy := &Transaction{ data: tx.data, time: tx.time, }",
      "Transaction.WithSignature: cpy.data.R, cpy.data.S, cpy.data.V = r, s, v",
      "Transaction.WithSignature: return cpy, nil",
      ".SignTx: h := s.Hash(tx)",
      ".SignTx: sig, err := crypto.Sign(h[:], prv)",
      ".SignTx: if err != nil { return nil, err }",
      ".SignTx: return tx.WithSignature(s, sig)",
      "PrivateKey.Sign: var sign Sign",
      "PrivateKey.Sign: sig, err := secp256k1.Sign(hash, pk.PrivKey.D.Bytes())",
      "PrivateKey.Sign: if err == nil { if len(sig) != 65 { fmt.Printf('secp256k1 sign wrong! hash = %v\n', hash) } sign = *BytesToSign(sig) } else { panic(fmt.Sprintf('Sign Failed, reason : %v.\n', err.Error())) }",
      "PrivateKey.Sign: return sign",
      "secp256k1.Sign: sig[64] = byte(recid)",
      "secp256k1.Sign: sig[64] += 27",
      "eth_crypto/secp256k1.Sign: sig[64] = byte(recid)"] := rfl

/-- `eth_tx.Sender`: cached address returned only when the cached signer `Equal`s the current one
    (EIP-155: same chain id); the cache is written only after a successful derivation. -/
theorem sender_cache_shape :
    senderCacheBody = ["if sc := tx.from.Load(); sc != nil { sigCache := sc.(sigCache) if sigCache.signer.Equal(signer) { return sigCache.from, nil } }",
      "addr, err := signer.Sender(tx)",
      "if err != nil { return common.Address{}, err }",
      "tx.from.Store(sigCache{signer: signer, from: addr})",
      "return addr, nil",
      "eip155, ok := s2.(EIP155Signer)",
      "return ok && eip155.chainId.Cmp(s.chainId) == 0"] := rfl

theorem signer_call_order :
    eip155SenderCalls = ["tx.Protected", "HomesteadSigner{}.Sender", "tx.ChainId().Cmp", "tx.ChainId",
      "new(big.Int).Sub", "new", "V.Sub", "recoverPlain", "s.Hash"] ∧
    recoverPlainCalls = ["Vb.BitLen", "crypto.ValidateSignatureValues", "crypto.Ecrecover", "crypto.Keccak256"] :=
  ⟨rfl, rfl⟩

/-- The reflected shape of `eth_tx.txdata` (C08's T-gen, regenerated by this check too) is
    the one `txOfItem` types the nine items with: uint64, big, uint64, `rlp:"nil"` *[20]byte,
    big, bytes, big, big, big.  A changed field type, order or tag breaks this obligation. -/
theorem txdata_shape :
    Rangers.Generated.C08.eth_tx_txdata =
      .struct [(.none, .uint 64), (.none, .big), (.none, .uint 64), (.nilOK, .ptr (.barr 20)),
        (.none, .big), (.none, .bytes), (.none, .big), (.none, .big), (.none, .big)] := rfl

end Rangers.Props.C07Facts
