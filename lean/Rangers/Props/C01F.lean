import Rangers.Model.ContractPre
import Rangers.Props.C01
/-!
# C01 (continued) — the miner executors, the gas fee, the contract pre-execution functions, the receipts root

Every executor the model interprets is a total function of (transaction, ledger).  A refused transaction
leaves the ledger as it was (so the outcome cannot depend on how far a refused transaction got); an
accepted miner-apply appends one registry entry with `inParent = false`, which the trie iterators of this
block do not enumerate (`execApply_accepted`); `deductGasFee` moves the fee, capped by the sender's
balance, to the fee account.  The functions of `Model/ContractPre.lean` are not part of `execBlock` — the
contract executor is `Env.other` there: the theorems say what they compute, and the tie to the code is the
driver's correspondence streams `igas` and `dcd`.  `receiptsRoot` is what `calcReceiptsTree` hashes.
-/
namespace Rangers.Props.C01F
open Rangers Rangers.Model.BlockExec Rangers.Model.ContractPre Rangers.Props.C01
open List

/-- what an executor returns from ledger `s`: `s` untouched and `false`, or `true` and a ledger satisfying `P` -/
inductive Outcome (s : St) (P : St → Prop) : St × Bool → Prop
  | refused : Outcome s P (s, false)
  | accepted {s' : St} (h : P s') : Outcome s P (s', true)

theorem Outcome.unchanged {s : St} {P : St → Prop} {r : St × Bool} (h : Outcome s P r) : r.2 = false → r.1 = s := by
  cases h with
  | refused => exact fun _ => rfl
  | accepted _ => exact fun hf => nomatch hf

theorem Outcome.of_accepted {s : St} {P : St → Prop} {r : St × Bool} (h : Outcome s P r) : r.2 = true → P r.1 := by
  cases h with
  | refused => exact fun hf => nomatch hf
  | accepted hP => exact fun _ => hP

theorem execApply_outcome (h : Nat) (tx : Tx) (s : St) :
    Outcome s (fun s' => ∃ mid typ stake account,
        ¬ s.bal tx.src < Rangers.Model.RewardFloat.float64ToBigInt (Rangers.Model.RewardFloat.ofNat stake) ∧
        s' = { subBal s tx.src (Rangers.Model.RewardFloat.float64ToBigInt (Rangers.Model.RewardFloat.ofNat stake)) with
            miners := s.miners ++ [⟨mid, typ, stake, account, true, 0, 0,
              h + Rangers.Generated.NondetSites.cHeightAfterStake, false, true⟩] })
      (execApply h tx s) := by
  unfold execApply
  generalize tx.body = b
  cases b
  case apply mid typ stake hasPk hasVrf acct =>
    exact ite_cases (fun _ => .refused) fun _ => ite_cases (fun _ => .refused) fun _ => ite_cases (fun _ => .refused) fun _ =>
      ite_cases (fun _ => .refused) fun hbal => ite_cases (fun _ => .refused) fun _ => ite_cases (fun _ => .refused) fun _ =>
        .accepted ⟨_, _, _, _, hbal, rfl⟩
  all_goals exact .refused

theorem execChangeAccount_outcome (tx : Tx) (s : St) :
    Outcome s (fun s' => ∃ ms, s' = { s with miners := ms }) (execChangeAccount tx s) := by
  unfold execChangeAccount
  generalize tx.body = b
  cases b
  case changeAccount mid acct =>
    dsimp only
    generalize getMiner s mid = o
    cases o
    case none => exact .refused
    case some cur =>
      exact ite_cases (fun _ => .refused) fun _ => ite_cases (fun _ => .refused) fun _ =>
        ite_cases (fun _ => .refused) fun _ => .accepted ⟨_, rfl⟩
  all_goals exact .refused

theorem execAddStake_outcome (tx : Tx) (s : St) : Outcome s (fun _ => True) (execAddStake tx s) := by
  unfold execAddStake
  generalize tx.body = b
  cases b
  case addStake mid delta =>
    dsimp only
    refine ite_cases (fun _ => .accepted trivial) fun _ => ite_cases (fun _ => .refused) fun _ => ?_
    generalize Option.orElse _ _ = o
    cases o
    case none => exact .refused
    case some m => exact .accepted trivial
  all_goals exact .refused

/-- `execRefund` also returns the refund queue: a predicate on the triple where the others have `Outcome` -/
theorem execRefund_cases {M : St × Bool × List (Nat × Addr × Nat) → Prop} (h : Nat) (tx : Tx) (s : St)
    (q : List (Nat × Addr × Nat)) (refused : M (s, false, q)) (accepted : ∀ s' q', M (s', true, q')) :
    M (execRefund h tx s q) := by
  unfold execRefund
  generalize tx.body = b
  cases b
  case refund amount mid =>
    cases amount
    case none => exact refused
    case some value =>
      dsimp only
      generalize find? _ s.miners = o
      cases o
      case none => exact refused
      case some m =>
        refine ite_cases (fun _ => refused) fun _ => ?_
        refine ite_cases (fun _ => refused) fun _ => ?_
        exact accepted _ _
  all_goals exact refused

theorem execApply_refused_unchanged (h : Nat) (tx : Tx) (s : St) :
    (execApply h tx s).2 = false → (execApply h tx s).1 = s :=
  (execApply_outcome h tx s).unchanged

theorem execChangeAccount_refused_unchanged (tx : Tx) (s : St) :
    (execChangeAccount tx s).2 = false → (execChangeAccount tx s).1 = s :=
  (execChangeAccount_outcome tx s).unchanged

theorem execAddStake_refused_unchanged (tx : Tx) (s : St) :
    (execAddStake tx s).2 = false → (execAddStake tx s).1 = s :=
  (execAddStake_outcome tx s).unchanged

theorem execRefund_refused_unchanged (h : Nat) (tx : Tx) (s : St) (q : List (Nat × Addr × Nat)) :
    (execRefund h tx s q).2.1 = false → (execRefund h tx s q).1 = s ∧ (execRefund h tx s q).2.2 = q :=
  execRefund_cases (M := fun r => r.2.1 = false → r.1 = s ∧ r.2.2 = q) h tx s q (fun _ => ⟨rfl, rfl⟩)
    (fun _ _ hf => nomatch hf)

theorem execChangeAccount_only_registry (tx : Tx) (s : St) :
    (execChangeAccount tx s).1.bal = s.bal ∧ (execChangeAccount tx s).1.nonce = s.nonce
      ∧ (execChangeAccount tx s).1.escrow = s.escrow := by
  cases hok : (execChangeAccount tx s).2 with
  | false =>
    rw [(execChangeAccount_outcome tx s).unchanged hok]
    exact ⟨rfl, rfl, rfl⟩
  | true =>
    obtain ⟨ms, h⟩ := (execChangeAccount_outcome tx s).of_accepted hok
    rw [h]
    exact ⟨rfl, rfl, rfl⟩

/-- an accepted miner-apply moves exactly the stake out of the sender's balance and appends exactly
    one registry entry, which the trie iterators of this block do not enumerate (`inParent = false`) -/
theorem execApply_accepted (h : Nat) (tx : Tx) (s : St) :
    (execApply h tx s).2 = true →
    ∃ r : MinerRec, (execApply h tx s).1.miners = s.miners ++ [r] ∧ r.inParent = false ∧ r.alive = true
      ∧ r.applyHeight = h + Rangers.Generated.NondetSites.cHeightAfterStake
      ∧ (execApply h tx s).1.bal tx.src + Rangers.Model.RewardFloat.float64ToBigInt (Rangers.Model.RewardFloat.ofNat r.stake) = s.bal tx.src := by
  intro hok
  obtain ⟨mid, typ, stake, account, hbal, h'⟩ := (execApply_outcome h tx s).of_accepted hok
  rw [h']
  refine ⟨_, rfl, rfl, rfl, rfl, ?_⟩
  simp only [subBal, upd, if_true]
  exact Nat.sub_add_cancel (Nat.le_of_not_lt hbal)

example : (execApply 100 ⟨1, 0, 0, 2, [], 7, 7, 7, .apply 9 0 400 true true none⟩
    { St.empty with bal := fun a => if a = 7 then 400 * weiPerRpg else 0 }).2 = true := by decide

theorem pay_bal (s : St) {src dst : Nat} (p : Nat) (hne : src ≠ dst) :
    (addBal (subBal s src p) dst p).bal src = s.bal src - p ∧ (addBal (subBal s src p) dst p).bal dst = s.bal dst + p := by
  simp only [addBal, subBal, upd, if_true, if_neg hne, if_neg (Ne.symm hne), and_self]

theorem deductGasFee_conserves (s : St) (src fee gasUsed : Nat) (hne : src ≠ fee) :
    (deductGasFee s src fee gasUsed).bal src + (deductGasFee s src fee gasUsed).bal fee = s.bal src + s.bal fee := by
  unfold deductGasFee
  dsimp only
  have hle : (if s.bal src < gasUsed * Rangers.Generated.NondetSites.cGasPrice then s.bal src
      else gasUsed * Rangers.Generated.NondetSites.cGasPrice) ≤ s.bal src := by
    split
    · exact Nat.le_refl _
    · exact Nat.le_of_not_lt ‹_›
  rw [(pay_bal s _ hne).1, (pay_bal s _ hne).2, ← Nat.add_assoc, Nat.add_right_comm, Nat.sub_add_cancel hle]

theorem deductGasFee_capped (s : St) (src fee gasUsed : Nat) (hne : src ≠ fee) :
    (deductGasFee s src fee gasUsed).bal src = s.bal src - gasUsed * Rangers.Generated.NondetSites.cGasPrice := by
  unfold deductGasFee
  dsimp only
  rw [(pay_bal s _ hne).1]
  split
  · rw [Nat.sub_self, Nat.sub_eq_zero_of_le (Nat.le_of_lt ‹_›)]
  · rfl

example : (deductGasFee { St.empty with bal := fun a => if a = 1 then 5 else 0 } 1 2 3).bal 2 = 5 := by decide

theorem count_nonzero_perm {l₁ l₂ : Bytes} (p : l₁ ~ l₂) :
    (l₁.filter (fun b => b != 0)).length = (l₂.filter (fun b => b != 0)).length :=
  (p.filter _).length_eq

/-- the intrinsic gas depends only on how many zero and non-zero bytes the payload has -/
theorem intrinsicGas_perm (d₁ d₂ : Bytes) (c p26 : Bool) (p : d₁ ~ d₂) :
    intrinsicGas d₁ c p26 = intrinsicGas d₂ c p26 := by
  have h3 : d₁.isEmpty = d₂.isEmpty :=
    Bool.eq_iff_iff.mpr (by simp only [List.isEmpty_iff_length_eq_zero, p.length_eq])
  unfold intrinsicGas
  rw [count_nonzero_perm p, p.length_eq, h3]

/-- closed form before Proposal026, whenever the overflow guards pass -/
theorem intrinsicGas_formula (d : Bytes) (c : Bool) (g : Nat) (h : intrinsicGas d c false = some g) :
    g = (if c then Rangers.Generated.NondetSites.cTxGasContractCreation else Rangers.Generated.NondetSites.cTxGas)
      + (d.filter (fun b => b != 0)).length * Rangers.Generated.NondetSites.cTxDataNonZeroGas
      + (d.length - (d.filter (fun b => b != 0)).length) * Rangers.Generated.NondetSites.cTxDataZeroGas := by
  unfold intrinsicGas at h
  simp only [Bool.false_eq_true, if_false] at h
  generalize (if c = true then Rangers.Generated.NondetSites.cTxGasContractCreation else Rangers.Generated.NondetSites.cTxGas) = base at *
  by_cases he : d.isEmpty = true
  · rw [if_pos he] at h
    cases List.isEmpty_iff.mp he
    exact (Option.some.inj h).symm
  · rw [if_neg he] at h
    split at h
    · cases h
    · split at h
      · cases h
      · exact (Option.some.inj h).symm

/-- the two overflow guards of `IntrinsicGas` — `a` gas per non-zero byte, `b ≤ a` per zero byte, limit `m` — pass
    when `len` bytes at the dearer rate still fit under the limit -/
theorem guards_pass {m base nz len a b : Nat} (ha : 0 < a) (hb : 0 < b) (hba : b ≤ a) (hnz : nz ≤ len)
    (hm : len * a + base ≤ m) :
    ¬ (m - base) / a < nz ∧ ¬ (m - (base + nz * a)) / b < len - nz := by
  have hcost : nz * a + (len - nz) * b ≤ len * a :=
    calc nz * a + (len - nz) * b ≤ nz * a + (len - nz) * a := Nat.add_le_add_left (Nat.mul_le_mul_left _ hba) _
      _ = len * a := by rw [← Nat.add_mul, Nat.add_sub_cancel' hnz]
  refine ⟨Nat.not_lt.mpr ((Nat.le_div_iff_mul_le ha).mpr (Nat.le_sub_of_add_le ?_)),
    Nat.not_lt.mpr ((Nat.le_div_iff_mul_le hb).mpr (Nat.le_sub_of_add_le ?_))⟩
  · exact Nat.le_trans (Nat.add_le_add_right (Nat.le_trans (Nat.le_add_right _ _) hcost) base) hm
  · rw [Nat.add_comm base, ← Nat.add_assoc, Nat.add_comm ((len - nz) * b)]
    exact Nat.le_trans (Nat.add_le_add_right hcost base) hm

/-- 2^32 stands for any bound `B` on the payload length with `B · cTxDataNonZeroGas + 53000 ≤ 2^64 − 1`; 53000 is
    `cTxGasContractCreation`, the larger of the two base costs. -/
theorem intrinsicGas_total (d : Bytes) (c p26 : Bool) (hlen : d.length < 4294967296) :
    (intrinsicGas d c p26).isSome = true := by
  have hb : (if c = true then Rangers.Generated.NondetSites.cTxGasContractCreation else Rangers.Generated.NondetSites.cTxGas) ≤ 53000 := by
    cases c <;> decide
  have hcost : d.length * Rangers.Generated.NondetSites.cTxDataNonZeroGas ≤ 4294967296 * Rangers.Generated.NondetSites.cTxDataNonZeroGas :=
    Nat.mul_le_mul_right _ (Nat.le_of_lt hlen)
  obtain ⟨h1, h2⟩ := guards_pass (a := Rangers.Generated.NondetSites.cTxDataNonZeroGas)
    (b := Rangers.Generated.NondetSites.cTxDataZeroGas) (by decide) (by decide) (by decide)
    (List.length_filter_le (fun b => b != 0) d)
    (Nat.le_trans (Nat.add_le_add hcost hb)
      (by decide : 4294967296 * Rangers.Generated.NondetSites.cTxDataNonZeroGas + 53000 ≤ Rangers.Model.ContractPre.maxU64))
  unfold intrinsicGas
  dsimp only
  by_cases he : d.isEmpty = true
  · rw [if_pos he]
    rfl
  · rw [if_neg he]
    exact (if_neg h1).trans (if_neg h2) ▸ rfl

example : intrinsicGas [0, 1, 2, 0] true false = some (53000 + 2 * 16 + 2 * 4) := by decide +kernel
example : intrinsicGas [] false true = some (21000 * 30) := by decide

theorem parseUint_range (s : Bytes) (v : Nat) (h : parseUint s = some v) : v ≤ Rangers.Model.ContractPre.maxU64 := by
  unfold parseUint at h
  split at h
  · cases h
  · split at h
    · dsimp only at h
      split at h
      · cases h
        assumption
      · cases h
    · cases h

/-- `preCheckContractFee` is exactly "balance covers gasLimit·price + value" once Proposal015 is active -/
theorem preCheck_iff (balance raw value : Nat) :
    preCheckContractFee true balance raw value = true ↔ raw * Rangers.Generated.NondetSites.cGasPrice + value ≤ balance := by
  unfold preCheckContractFee
  simp

theorem wrapSub_eq {a b m : Nat} (hb : b ≤ a) (ha : a < m) : (a + m - b) % m = a - b := by
  rw [Nat.add_comm, Nat.add_sub_assoc hb, Nat.add_mod_left, Nat.mod_eq_of_lt (Nat.lt_of_le_of_lt (Nat.sub_le a b) ha)]

/-- with Proposal026 active and an intrinsic gas below the cap (any payload under 56 MB) nothing wraps:
    the EVM gets `min(raw, cap) − intrinsic` -/
theorem evmGasLimit_p026 (p017 : Bool) (raw intrinsic g : Nat) (hraw : raw ≤ Rangers.Model.ContractPre.maxU64)
    (hi : intrinsic ≤ Rangers.Generated.NondetSites.cP026GasLimit)
    (h : evmGasLimit true p017 true raw intrinsic = some g) :
    g + intrinsic = min raw Rangers.Generated.NondetSites.cP026GasLimit := by
  unfold evmGasLimit at h
  simp only [Bool.not_true, Bool.false_eq_true, if_false, if_true] at h
  by_cases hlt : raw < intrinsic
  · rw [if_pos hlt] at h
    cases h
  · rw [if_neg hlt] at h
    cases h
    have hcap : (if raw > Rangers.Generated.NondetSites.cP026GasLimit then Rangers.Generated.NondetSites.cP026GasLimit else raw)
        = min raw Rangers.Generated.NondetSites.cP026GasLimit := by
      by_cases hc : raw > Rangers.Generated.NondetSites.cP026GasLimit
      · rw [if_pos hc, Nat.min_eq_right (Nat.le_of_lt hc)]
      · rw [if_neg hc, Nat.min_eq_left (Nat.le_of_not_lt hc)]
    have hle : intrinsic ≤ min raw Rangers.Generated.NondetSites.cP026GasLimit :=
      Nat.le_min.mpr ⟨Nat.le_of_not_lt hlt, hi⟩
    rw [hcap, wrapSub_eq hle (Nat.lt_succ_of_le (Nat.le_trans (Nat.min_le_left _ _) hraw)), Nat.sub_add_cancel hle]

/-- quirk of the code between Proposal017 and Proposal026: the cap is applied to the limit but the
    guard compared the *uncapped* limit with the intrinsic gas, so a payload whose intrinsic gas exceeds
    the cap makes the uint64 subtraction wrap (model witness; needs a payload of about 2 MB) -/
example : evmGasLimit true true false 40000000 31000000 = some (30000000 + 18446744073709551616 - 31000000) := by decide

example : rawGasLimit [] true = some 30000000 ∧ rawGasLimit [48] false = some 6000000 ∧ rawGasLimit [43, 49] true = none := by decide

theorem receiptsPreimage_append (h : Nat) (r₁ r₂ : List Receipt) :
    receiptsPreimage h (r₁ ++ r₂) = receiptsPreimage h r₁ ++ receiptsPreimage h r₂ := by
  unfold receiptsPreimage
  simp

/-- the root is a function of height, statuses and transaction hashes in order — nothing else of a
    receipt (message text, source) reaches it -/
theorem receiptsRoot_ignores_msg (h : Nat) (rs : List Receipt) (f : Receipt → Bytes) :
    receiptsRoot h (rs.map (fun r => { r with msg := f r })) = receiptsRoot h rs := by
  unfold receiptsRoot receiptsPreimage
  simp only [List.isEmpty_map, List.map_map]
  congr 2

theorem receiptsPreimage_order_matters :
    receiptsPreimage 5 [⟨1, false, [], 0⟩, ⟨2, true, [], 0⟩] ≠ receiptsPreimage 5 [⟨2, true, [], 0⟩, ⟨1, false, [], 0⟩] := by
  -- the kernel stops at the first differing byte (the status digit)
  decide +kernel

-- `receiptJson` evaluated on one receipt: 207 bytes at a one-digit height, 64 of them the hex digits of the hash
set_option maxRecDepth 20000 in
example : (receiptJson 7 ⟨255, false, [], 0⟩).length = 207 := by
  -- the bytes of a string literal without decoding it: a literal unifies with `String.ofList` of its characters
  have hlit (l : List Char) : asciiBytes (String.ofList l) = l.map (fun c => UInt8.ofNat c.toNat) := by
    unfold asciiBytes
    rw [String.toList_ofList]
  have hhex (bs : Bytes) : (hexLower bs).length = 2 * bs.length := by
    unfold hexLower asciiBytes
    rw [List.length_map, String.toList_join, List.flatMap_map]
    induction bs with
    | nil => rfl
    | cons b bs ih =>
      rw [List.flatMap_cons, List.length_append, ih]
      simp only [hexOfByte, String.toList_ofList, List.length_cons, List.length_nil]
      omega
  unfold receiptJson
  -- the literals go first, while they sit under `++`: once they are summands of a `+`, the kernel's
  -- evaluation of Nat arithmetic decodes each string byte by byte, quadratic in its length
  rw [hlit, hlit, hlit, hlit]
  simp only [List.length_append, List.length_map, hhex]
  decide +kernel

end Rangers.Props.C01F
