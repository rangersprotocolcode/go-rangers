import Rangers.Props.C01
/-!
# C01 (continued) — casting mode and the wall clock; BLOCKHASH and the local chain index

The proposer executes in situation "casting": the wall clock decides where the loop stops.  What
the property needs is that, *wherever* the deadline strikes, the (ledger, receipts, evicted) the
proposer computed for the list it actually packed is what a verifier computes for that list.
-/
namespace Rangers.Props.C01E
open Rangers Rangers.Model.BlockExec Rangers.Props.C01
open List

theorem foldl_skip_type0 (env : Env) (f : Flags) (h : Nat) (txs : List Tx) (L : Loop) :
    (txs.filter (fun t => t.typ ≠ 0)).foldl (stepTx env f h) L = txs.foldl (stepTx env f h) L := by
  rw [foldl_filter]
  congr
  funext L t
  by_cases h0 : t.typ = 0
  · rw [stepTx_skip env f h L h0]
    simp [h0]
  · simp [h0]

/-- For every cut-off `k` (every instant at which the deadline can
    strike), every iteration order, environment, flags, header, reward and parent ledger: the result
    of casting equals the verifier's `execBlock` on the packed list, provided the packed list is in
    the verifier's execution order (`PackForCast` hands the transactions over sorted).  In
    particular nothing of transaction `k+1` has touched the ledger when the loop breaks. -/
theorem cast_cutoff_consistent (ρ : Orders) (env : Env) (f : Flags) (hd : Header) (rw : St → Option RewardIn)
    (ids : List Addr) (s : St) (txs : List Tx) (k : Nat)
    (hsorted : sortTxs f (castBlock ρ env f hd rw ids s txs k).2 = (castBlock ρ env f hd rw ids s txs k).2) :
    (castBlock ρ env f hd rw ids s txs k).1 = execBlock ρ env f hd rw ids s (castBlock ρ env f hd rw ids s txs k).2 := by
  unfold execBlock
  rw [hsorted]
  unfold castBlock
  simp only
  rw [foldl_skip_type0]

theorem cast_cutoff_consistent_any_orders (ρ₁ ρ₂ : Orders) (v₁ : OrdersValid ρ₁) (v₂ : OrdersValid ρ₂) (env : Env) (f : Flags)
    (hd : Header) (rw : St → Option RewardIn) (ids : List Addr) (s : St) (txs : List Tx) (k : Nat)
    (hmap : ∀ s r vs, rw s = some r → r.validators = some vs → (vs.map Prod.fst).Nodup)
    (hsorted : sortTxs f (castBlock ρ₁ env f hd rw ids s txs k).2 = (castBlock ρ₁ env f hd rw ids s txs k).2) :
    (castBlock ρ₁ env f hd rw ids s txs k).1 = execBlock ρ₂ env f hd rw ids s (castBlock ρ₁ env f hd rw ids s txs k).2 := by
  rw [cast_cutoff_consistent ρ₁ env f hd rw ids s txs k hsorted]
  exact exec_deterministic ρ₁ ρ₂ v₁ v₂ env f hd rw ids s _ hmap

/-- the packed list is a prefix of the input without the type-0 entries: the clock can only shorten it -/
theorem cast_packed_prefix (ρ : Orders) (env : Env) (f : Flags) (hd : Header) (rw : St → Option RewardIn)
    (ids : List Addr) (s : St) (txs : List Tx) (k : Nat) :
    (castBlock ρ env f hd rw ids s txs k).2 <+: txs.filter (fun t => t.typ ≠ 0) := by
  unfold castBlock
  simp only
  conv => rhs; rw [← take_append_drop k txs, filter_append]
  exact prefix_append _ _

example : sortTxs ⟨true, true, true, true, true, true⟩
      (castBlock Orders.id ⟨99, 1, fun _ _ s => ⟨s, false, [], 0, [], false⟩⟩ ⟨true, true, true, true, true, true⟩
        { height := 5, p004Block := 1 } (fun _ => none) [] St.empty [txA, txB] 1).2
    = (castBlock Orders.id ⟨99, 1, fun _ _ s => ⟨s, false, [], 0, [], false⟩⟩ ⟨true, true, true, true, true, true⟩
        { height := 5, p004Block := 1 } (fun _ => none) [] St.empty [txA, txB] 1).2 := by decide +kernel

def csEnv : Env := ⟨99, 0, fun _ _ s => ⟨s, false, [], 0, [], false⟩⟩
def csFlags : Flags := ⟨true, true, true, true, true, true⟩
def csSt : St := { St.empty with bal := fun a => if a = 1 then 10 else 0 }
/-- two transfers of one source, nonces 0 and 1; only the first one executed can be paid -/
def csTx0 : Tx := ⟨7, 0, 0, 100, [49], 1, 1, 1, .transfer [⟨[50], 2, .val 8⟩]⟩
def csTx1 : Tx := ⟨9, 0, 1, 100, [49], 1, 1, 1, .transfer [⟨[51], 3, .val 5⟩]⟩

/-- The proposer does not sort in casting mode.  Handed the two transactions in the order
    [nonce 1, nonce 0] it executes them in that order, while a verifier of the packed list sorts it to
    [nonce 0, nonce 1]: the receipts differ.  So `cast_cutoff_consistent` really needs the pool to
    deliver the list in execution order (C17's ordering claim); the executor itself does not enforce it.
    (Replayed on the implementation by the searcher: `cast-unsorted-disagree` in the evidence, a quirk and not a violation.) -/
theorem cast_unsorted_counterexample :
    ((castBlock Orders.id csEnv csFlags { height := 5, p004Block := 1 } (fun _ => none) [] csSt [csTx1, csTx0] 2).1.receipts.map (fun r => (r.hash, r.failed)))
      ≠ ((execBlock Orders.id csEnv csFlags { height := 5, p004Block := 1 } (fun _ => none) [] csSt
          (castBlock Orders.id csEnv csFlags { height := 5, p004Block := 1 } (fun _ => none) [] csSt [csTx1, csTx0] 2).2).receipts.map (fun r => (r.hash, r.failed))) := by
  decide +kernel

/-- BLOCKHASH never asks the node's chain index about the height being executed or above: the
    admissible arguments are ancestors, which all replicas executing on this parent share -/
theorem blockhash_reads_only_ancestors (n cur : Nat) (h : blockhashAsksChain n cur = true) : n < cur := by
  unfold blockhashAsksChain at h
  exact (of_decide_eq_true h).2

theorem blockhash_window_256 (n cur : Nat) (h : blockhashAsksChain n cur = true) : cur ≤ n + 256 := by
  unfold blockhashAsksChain at h
  have := (of_decide_eq_true h).1
  split at this
  · exact Nat.le_trans (Nat.le_of_lt_succ ‹_›) (Nat.le_add_left 256 n)
  · exact Nat.le_add_of_sub_le this

example : blockhashAsksChain 299 300 = true ∧ blockhashAsksChain 300 300 = false
    ∧ blockhashAsksChain 44 300 = true ∧ blockhashAsksChain 43 300 = false := by decide

end Rangers.Props.C01E
