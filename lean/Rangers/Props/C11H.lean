import Rangers.Props.C11G
/-!
# C11 — bodies of the modelled precompiles, AUTHCALL's 63/64 rule, what the executor hands to the EVM

Output sizes and length gates of the precompile bodies (`*_size`, `blake2FRun_gate`,
`runModel_respects_gate`), `modexp_alloc_priced_full`, `authCallGas_le`, the intrinsic gas in exact
arithmetic (`intrinsicGas_exact`) and the executor's gas cap (`executor_gas_capped`, with the
counterexample to its unconditional form).
-/
namespace Rangers.Props.C11H
open Rangers.Evm11 Rangers.Props.C11B Rangers.Props.C11G
open Rangers.Proofs.Evm11 (wsub_exact wmul_exact wadd_exact)

theorem natBE_size (len n : Nat) : (natBE len n).size = len := by simp [natBE]

/-- **ecrecover is total and answers nothing or exactly one 32-byte word**, for every input
    (truncated, over-long, garbage v, unrecoverable signature) -/
theorem ecrecoverRun_size (input : BA) : (ecrecoverRun input).size = 0 ∨ (ecrecoverRun input).size = 32 := by
  unfold ecrecoverRun
  simp only
  split
  · left; rfl
  · split
    · left; rfl
    · right; exact natBE_size 32 _

theorem dataCopy_identity (input : BA) : precompileRunModel 4 input = some (some input) := by
  simp [precompileRunModel]

theorem leftPad_size (b : BA) (l : Nat) : l ≤ (leftPad b l).size := by
  unfold leftPad
  split
  · assumption
  · simp only [Array.size_append, Array.size_replicate]; omega

/-- **MODEXP answers at least `modLen` bytes** (the zero-filled `modLen` bytes for a zero modulus)
    unless base and modulus lengths are both zero (`modExpRun_empty`) -/
theorem modExpRun_size (input : BA)
    (h : ¬ (beNat (getData input 0 32) % 2 ^ 64 = 0 ∧ beNat (getData input 64 32) % 2 ^ 64 = 0)) :
    beNat (getData input 64 32) % 2 ^ 64 ≤ (modExpRun input).size := by
  unfold modExpRun
  simp only [h, if_false]
  exact leftPad_size _ _

/-- with base and modulus lengths both zero MODEXP answers nothing -/
theorem modExpRun_empty (input : BA)
    (h : beNat (getData input 0 32) % 2 ^ 64 = 0 ∧ beNat (getData input 64 32) % 2 ^ 64 = 0) :
    modExpRun input = #[] := by
  unfold modExpRun
  simp only [h, and_self, if_true]

theorem blake2FRun_gate (input : BA) :
    blake2FRun input = none ↔ (input.size ≠ 213 ∨ ((input.getD 212 0).toNat ≠ 0 ∧ (input.getD 212 0).toNat ≠ 1)) := by
  unfold blake2FRun
  simp only
  constructor
  · intro h
    by_cases h1 : input.size ≠ 213
    · left; exact h1
    · right
      rw [if_neg h1] at h
      by_cases h2 : (input.getD 212 0).toNat ≠ 0 ∧ (input.getD 212 0).toNat ≠ 1
      · exact h2
      · rw [if_neg h2] at h; cases h
  · intro h
    rcases h with h | h
    · rw [if_pos h]
    · by_cases h1 : input.size ≠ 213
      · rw [if_pos h1]
      · rw [if_neg h1, if_pos h]

/-- a modelled body that produces an output passed the input-length gate the model uses for the tape -/
theorem runModel_respects_gate (addr : Nat) (input out : BA)
    (h : precompileRunModel addr input = some (some out)) : precompileLenOk addr input.size = true := by
  unfold precompileRunModel at h
  split at h
  · rfl
  · rfl
  · rfl
  · split at h
    · cases h
    · simp only [Option.some.injEq] at h
      have hg : ¬ (input.size ≠ 213 ∨ ((input.getD 212 0).toNat ≠ 0 ∧ (input.getD 212 0).toNat ≠ 1)) := by
        intro hh
        rw [(blake2FRun_gate input).mpr hh] at h
        cases h
      simp only [not_or, Decidable.not_not] at hg
      simp [precompileLenOk, hg.1]
  · cases h

/-- `Props.C11G.modexp_alloc_priced` for every input: at the saturated price `2^64−1` the
    bound holds trivially, because `Run` only ever sees the lengths truncated to 64 bits -/
theorem modexp_alloc_priced_full (input : BA) : modExpRunAlloc input ≤ 6 * modExpGas input + 3200 := by
  by_cases h : modExpGas input < maxU64
  · exact modexp_alloc_priced input h
  · have hge : modExpGas input ≥ maxU64 := Nat.le_of_not_lt h
    unfold modExpRunAlloc
    simp only
    have h1 : beNat (getData input 0 32) % 2 ^ 64 < 2 ^ 64 := Nat.mod_lt _ (by omega)
    have h2 : beNat (getData input 32 32) % 2 ^ 64 < 2 ^ 64 := Nat.mod_lt _ (by omega)
    have h3 : beNat (getData input 64 32) % 2 ^ 64 < 2 ^ 64 := Nat.mod_lt _ (by omega)
    unfold maxU64 at hge
    split <;> omega

/-- **AUTHCALL obeys the 63/64 rule**: when the base cost is covered the forwarded gas is at
    most all-but-one-64th of the rest, and at most the requested amount when one is given -/
theorem authCallGas_le (avail base : Nat) (cc : Word) (ha : avail < 2 ^ 64) (hb : base ≤ avail) :
    authCallGas avail base cc ≤ (avail - base) - (avail - base) / 64 ∧
    (cc < 2 ^ 64 → cc ≠ 0 → authCallGas avail base cc ≤ cc) := by
  unfold authCallGas
  simp only
  rw [allButOne64th ha hb]
  generalize (avail - base) - (avail - base) / 64 = x
  constructor
  · split
    · omega
    · split <;> omega
  · intro hcc h0
    split
    · rename_i h; cases h with
      | inl h => exact absurd hcc h
      | inr h => exact absurd h h0
    · split <;> omega

example : authCallGas 6400 0 0 = 6300 ∧ authCallGas 6400 0 100 = 100 := by decide

theorem countNz_le (l : List UInt8) (n : Nat) :
    l.foldl (fun n b => if b != 0 then n + 1 else n) n ≤ n + l.length := by
  induction l generalizing n with
  | nil => simp
  | cons x t ih =>
    simp only [List.foldl_cons, List.length_cons]
    split
    · have := ih (n + 1); omega
    · have := ih n; omega

/-- For any data shorter than 2^40 bytes the intrinsic gas is the exact
    `(21000 | 53000) + 16·nonzero + 4·zero`, times 30 under Proposal026: no overflow branch, no wrap
    (also not in the unchecked final product). -/
theorem intrinsicGas_exact (p26 creation : Bool) (data : BA) (h : data.size < 2 ^ 40) :
    intrinsicGas p26 data creation =
      some (((if creation then 53000 else 21000) + 16 * (data.foldl (fun n b => if b != 0 then n + 1 else n) 0)
        + 4 * (data.size - (data.foldl (fun n b => if b != 0 then n + 1 else n) 0))) * (if p26 then 30 else 1)) := by
  have hnz : data.foldl (fun n b => if b != 0 then n + 1 else n) 0 ≤ data.size := by
    have := countNz_le data.toList 0
    simp only [Nat.zero_add, Array.length_toList] at this
    simpa [Array.foldl_toList] using this
  unfold intrinsicGas
  simp only
  generalize data.foldl (fun n b => if b != 0 then n + 1 else n) 0 = nz at *
  have hg0 : (if creation = true then 53000 else 21000) ≤ 53000 := by split <;> omega
  generalize (if creation = true then 53000 else 21000) = g0 at *
  by_cases h0 : data.size = 0
  · rw [if_pos h0]
    have : nz = 0 := by omega
    subst this
    rw [h0, wmul_exact (by omega)]
    cases p26 <;> simp only [Bool.false_eq_true, if_false, if_true, Option.some.injEq] <;> omega
  · rw [if_neg h0, wmul_exact (a := nz) (by omega), wadd_exact (a := g0) (by omega),
      wmul_exact (a := data.size - nz) (by omega), wadd_exact (a := g0 + nz * 16) (by omega),
      wmul_exact (b := 30) (by omega), if_neg (by unfold maxU64; omega), if_neg (by unfold maxU64; omega)]
    cases p26 <;> simp only [Bool.false_eq_true, if_false, if_true, Option.some.injEq] <;> omega

/-- Before Proposal015, and from Proposal017 or Proposal026 on, the gas the
    contract executor hands to `evm.Call / Create` is at most 9·10^8 < 2^44 — *provided the intrinsic gas
    is at most 3·10^7, the Proposal017 cap* (the code only checks it against the uncapped limit). -/
theorem executor_gas_capped (p15 p17 p26 : Bool) (gasLimit intrinsic : Nat) (hg : gasLimit < 2 ^ 64)
    (hi : intrinsic ≤ gasLimit) (hi2 : intrinsic ≤ 30000000)
    (hflags : p15 = false ∨ p17 = true ∨ p26 = true) :
    executorVmGas p15 p17 p26 gasLimit intrinsic ≤ 900000000 := by
  unfold executorVmGas
  cases p15 with
  | false => simp
  | true =>
    simp only [if_true]
    -- a limit capped at 9·10^8 that still covers the intrinsic gas: the subtraction does not wrap
    have key : ∀ g2, g2 ≤ 900000000 → intrinsic ≤ g2 → wsub g2 intrinsic ≤ 900000000 := fun g2 h1 h2 => by
      rw [wsub_exact g2 intrinsic (by omega) h2]; omega
    rcases hflags with h | h | h
    · cases h
    · subst h
      cases p26 <;> simp only [Bool.false_eq_true, if_false, if_true, true_and] <;>
        (apply key <;> split <;> omega)
    · subst h
      simp only [if_true]
      apply key <;> split <;> omega

/-- the full statement "the executor never hands the EVM 2^44 gas or more", with what the code
    actually checks (`intrinsic ≤` the transaction's own gas limit) -/
def FullStatementExecutorGasCap : Prop :=
  ∀ p15 p17 p26 gasLimit intrinsic, gasLimit < 2 ^ 64 → intrinsic ≤ gasLimit →
    executorVmGas p15 p17 p26 gasLimit intrinsic < 2 ^ 44

/-- **… is false, on current heights too**: with every proposal active, 1 900 000 non-zero bytes of
    call data have an intrinsic gas of 912 630 000 > the 9·10^8 cap; the check passes against the
    transaction's limit 912 631 000, the limit is then capped and `capped − intrinsic` wraps: the
    callee runs with 2^64 − 12 630 000 gas.  Replayed on `contractExecutor.Execute`
    (known finding `executor-gas-cap-underflow`).  (It also fails in the historical window
    Proposal015 ≤ height < Proposal017, where the limit is not capped at all.) -/
theorem executor_gas_cap_counterexample : ¬ FullStatementExecutorGasCap := by
  intro h
  have := h true true true 912631000 912630000 (by decide) (by decide)
  revert this
  decide

example : executorVmGas true true true 912631000 912630000 = 2 ^ 64 - 12630000 := by decide
example : intrinsicGas true #[1, 0, 2] false = some ((21000 + 2 * 16 + 4) * 30) := by decide
/-- 1 900 000 non-zero bytes: (21000 + 16·1900000)·30 = 912 630 000 -/
example : (21000 + 16 * 1900000) * 30 = 912630000 := by decide

end Rangers.Props.C11H
