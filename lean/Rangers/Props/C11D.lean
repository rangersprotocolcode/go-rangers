import Rangers.Props.C11C
/-!
# C11 — stack bound, depth bound, read-only discipline, jumps, faults are ordinary failures

In file order: the stack never exceeds 1024 words (`stack_bounded_*`); no frame beyond depth 1025
(`depth_*`, `no_frame_beyond_1025`); writes under a static call fault, the order of the checks in
`stepPre` (stack, then read-only; undefined opcode first), and the static flag is inherited by every
kind of callee (`static_is_sticky_*`); jumps land on a JUMPDEST inside the code or fault; the
writes of the jump-destination bitmap stay inside it; a fault of `stepPre` is one of six ordinary
errors or the tie's `desync`, a failed call consumes its gas and a reverted one keeps it.
-/
namespace Rangers.Props.C11D
open Rangers.Evm11 Rangers.Props.C11 Rangers.Props.C11B Rangers.Props.C11C
open Rangers.Proofs.Evm11

/-- a fresh frame starts with an empty stack -/
theorem stack_bounded_init (code : BA) (gas self caller : Nat) (value : Word) (input : BA) :
    (mkFrame code gas self caller value input).stack.length ≤ 1024 := by simp [mkFrame]

/-- **stack_bounded (step).** Whatever the stack was, if the loop iteration gets past the
    `minStack/maxStack` validation then the stack the loop continues with — after an ordinary
    `execute`, or after a nested call/create pushed its result — has at most 1024 words.
    Uses only `table_stack_consistent` (min/max are `pops` / `1024 + pops − pushes` of the
    transcribed function) and the shape of `execute`'s result (`execOp_upd`, `InvokeOk.shape`). -/
theorem stack_bounded_step (cx : Ctx) (ht : TableOk cx.table) (ro : Bool) (fr : Frame) (g : Global)
    (info : OpInfo) (fr1 : Frame) (args : List Word) (g1 : Global) (cgt : Nat)
    (hpre : stepPre cx ro fr g = .ok info fr1 args g1 cgt) :
    (∀ u, execOp cx ro info.exec fr1 args g1 cgt = .upd u → (u.push ++ fr1.stack).length ≤ 1024) ∧
    (∀ req d g2 cr, execOp cx ro info.exec fr1 args g1 cgt = .invoke req d g2 →
      (resume { fr1 with gas := fr1.gas - d } req cr).1.stack.length ≤ 1024) := by
  have hroom := stack_after (stepPre_ok hpre) (ht _ _ (stepPre_ok hpre).entry)
  constructor
  · intro u hex
    rw [List.length_append, (execOp_upd hex).push]
    exact hroom
  · intro req d g2 cr hex
    rw [(resume_spec _ req cr).2, Nat.add_comm, ← (execOp_invoke hex).shape.1]
    exact hroom

-- non-vacuity: the hypothesis is satisfiable — ADD on a two-word stack passes the validation
set_option maxRecDepth 20000 in
example : ∃ info fr1 args g1 cgt,
    stepPre demoCtx false { (mkFrame #[0x01] 1000 0 0 0 #[]) with stack := [1, 2] } (Global.start [])
      = .ok info fr1 args g1 cgt := ⟨_, _, _, _, _, rfl⟩

/-- the depth test of `evm.Call` & co.: at `evm.depth > 1024` nothing is run -/
theorem depth_limit_call (run : Runner) (depth : Nat) (ro : Bool) (k : CallKind) (cs cc : Nat) (cv : Word)
    (addr : Nat) (value : Word) (input : BA) (gas : Nat) (g : Global) (h : depth > 1024) :
    evmCall run depth ro k cs cc cv addr value input gas g = ⟨#[], gas, some .depth, g, 0⟩ := by
  unfold evmCall
  rw [if_pos h]

/-- `Interpreter.Run` executes at `evm.depth + 1` -/
theorem runContract_congr {run run' : Runner} {depth : Nat} {ro : Bool}
    (h : ∀ fr g, run (depth + 1) ro fr g = run' (depth + 1) ro fr g) (fr : Frame) (g : Global) :
    runContract run depth ro fr g = runContract run' depth ro fr g := by
  unfold runContract
  simp only [h]

/-- `evmCall` and, below, `evmCreate` depend on the runner only through `runContract` at their own depth, with their own
    read-only flag or `true`: the general form of `depth_bounded_*` and `static_is_sticky_*`, which are proved from
    `OneFrame.congr` directly. -/
theorem evmCall_congr {run run' : Runner} {depth : Nat} {ro : Bool}
    (h : ∀ fr g, runContract run depth ro fr g = runContract run' depth ro fr g)
    (ht : ∀ fr g, runContract run depth true fr g = runContract run' depth true fr g) :
    evmCall run depth ro = evmCall run' depth ro := by
  funext k cs cc cv addr value input gas g
  refine evmCall_oneFrame.congr (fun _ => ?_)
  cases k
  case staticcall => exact ht
  all_goals exact h

theorem evmCreate_congr {run run' : Runner} {depth : Nat} {ro : Bool} (cx : Ctx)
    (h : ∀ fr g, runContract run depth ro fr g = runContract run' depth ro fr g) :
    evmCreate cx run depth ro = evmCreate cx run' depth ro := by
  funext cs salt value init gas g
  exact evmCreate_oneFrame.congr (fun _ => h)

/-- **depth_bounded.** `evm.Call/CallCode/DelegateCall/StaticCall` behave the same for any two
    runners that agree on depths ≤ 1025: no frame is ever started at interpreter depth
    1026 or more (`evm.depth` of a running frame is 1 … 1025, i.e. EVM call depth 0 … 1024). -/
theorem depth_bounded_call (run run' : Runner) (hrr : ∀ d, d ≤ 1025 → ∀ ro fr g, run d ro fr g = run' d ro fr g)
    (depth : Nat) (ro : Bool) (k : CallKind) (cs cc : Nat) (cv : Word)
    (addr : Nat) (value : Word) (input : BA) (gas : Nat) (g : Global) :
    evmCall run depth ro k cs cc cv addr value input gas g = evmCall run' depth ro k cs cc cv addr value input gas g :=
  evmCall_oneFrame.congr (fun hd => runContract_congr (hrr (depth + 1) (Nat.succ_le_succ hd) _))

theorem depth_bounded_create (cx : Ctx) (run run' : Runner)
    (hrr : ∀ d, d ≤ 1025 → ∀ ro fr g, run d ro fr g = run' d ro fr g)
    (depth : Nat) (ro : Bool) (cs : Nat) (salt : Option Word) (value : Word) (init : BA) (gas : Nat) (g : Global) :
    evmCreate cx run depth ro cs salt value init gas g = evmCreate cx run' depth ro cs salt value init gas g :=
  evmCreate_oneFrame.congr (fun hd => runContract_congr (hrr (depth + 1) (Nat.succ_le_succ hd) ro))

/-- a frame running at depth 1025 cannot start another one: every CALL-family operation
    it executes fails with `ErrDepth` and gets its gas back -/
theorem no_frame_beyond_1025 (cx : Ctx) (fuel : Nat) (ro : Bool) (fr : Frame) (k : CallKind) (addr : Nat)
    (value : Word) (input : BA) (gas ro' rs io : Nat) (g : Global) :
    doInvoke cx (runLoop cx fuel) 1025 ro fr (.call k addr value input gas ro' rs io) g
      = ⟨#[], gas, some .depth, g, 0⟩ := by
  unfold doInvoke
  exact depth_limit_call _ _ _ _ _ _ _ _ _ _ _ _ (by omega)

/-- In a read-only frame, an operation that gets past the validation
    is not flagged `writes` and is not a CALL with value: every flagged operation and every
    value-bearing CALL ends the frame with `ErrWriteProtection` (or an earlier ordinary fault). -/
theorem write_in_static_faults (cx : Ctx) (fr : Frame) (g : Global) (info : OpInfo) (fr1 : Frame)
    (args : List Word) (g1 : Global) (cgt : Nat) (h : stepPre cx true fr g = .ok info fr1 args g1 cgt) :
    info.writes = false ∧ ¬ ((fr.code.getD fr.pc 0).toNat = 0xf1 ∧ back fr.stack 2 ≠ 0) := by
  have := stepPre_spec cx true fr g
  rw [h] at this
  exact this.2 rfl

/-- **order of the checks** (Go order, asserted by the T-gen fact `Run.loopOrder`): the stack is
    validated before the read-only test looks at `stack.Back(2)`, so an under-full stack is a
    stack underflow of that frame in every context — read-only or not — and the read-only test
    never indexes below the stack. -/
theorem stack_fault_precedes_read_only (cx : Ctx) (ro : Bool) (fr : Frame) (g : Global) (info : OpInfo)
    (hent : cx.table.getD (fr.code.getD fr.pc 0).toNat none = some info)
    (h : fr.stack.length < info.minStack) : stepPre cx ro fr g = .fault .stackUnderflow g := by
  unfold stepPre
  simp only [hent, h, if_true]

theorem undefined_opcode_first (cx : Ctx) (ro : Bool) (fr : Frame) (g : Global)
    (hent : cx.table.getD (fr.code.getD fr.pc 0).toNat none = none) :
    stepPre cx ro fr g = .fault .invalidOpCode g := by
  unfold stepPre
  simp only [hent]

/-- TSTORE tests the flag itself -/
theorem tstore_in_static_faults (cx : Ctx) (fr : Frame) (loc val : Word) (g : Global) (cgt : Nat) :
    execOp cx true .tstore fr [loc, val] g cgt = .fault .writeProtection g := rfl

/-- **static_is_sticky.** The frames started from a read-only frame are read-only whatever the
    call kind: `evm.Call/CallCode/DelegateCall/StaticCall`, `create` and `AuthCall` issued with
    `ro = true` only ever consult the runner with `ro = true` (the Go code: `in.readOnly` is
    set once by the first STATICCALL frame and reset only by that frame's deferred function,
    asserted by the T-gen fact `Run.readOnlyEntry`). And a frame's own flag is a parameter of its
    loop: no callee can change it (`runLoop` passes the same `ro` to every iteration). -/
theorem static_is_sticky_call (run run' : Runner) (hrr : ∀ d fr g, run d true fr g = run' d true fr g)
    (depth : Nat) (k : CallKind) (cs cc : Nat) (cv : Word)
    (addr : Nat) (value : Word) (input : BA) (gas : Nat) (g : Global) :
    evmCall run depth true k cs cc cv addr value input gas g = evmCall run' depth true k cs cc cv addr value input gas g :=
  evmCall_oneFrame.congr (fun _ => (Bool.or_true _).symm ▸ runContract_congr (hrr _))

theorem static_is_sticky_create (cx : Ctx) (run run' : Runner) (hrr : ∀ d fr g, run d true fr g = run' d true fr g)
    (depth : Nat) (cs : Nat) (salt : Option Word) (value : Word) (init : BA) (gas : Nat) (g : Global) :
    evmCreate cx run depth true cs salt value init gas g = evmCreate cx run' depth true cs salt value init gas g :=
  evmCreate_oneFrame.congr (fun _ => runContract_congr (hrr _))

theorem static_is_sticky_authcall (cx : Ctx) (run run' : Runner) (hrr : ∀ d fr g, run d true fr g = run' d true fr g)
    (depth : Nat) (auth addr : Nat) (value : Word) (input : BA) (gas : Nat) (g : Global) :
    evmAuthCall cx run depth true auth addr value input gas g = evmAuthCall cx run' depth true auth addr value input gas g :=
  evmAuthCall_oneFrame.congr (fun _ => runContract_congr (hrr _))

/-- STATICCALL makes its callee read-only even from a writable frame -/
theorem staticcall_enters_static (run run' : Runner) (hrr : ∀ d fr g, run d true fr g = run' d true fr g)
    (depth : Nat) (ro : Bool) (cs cc : Nat) (cv : Word)
    (addr : Nat) (value : Word) (input : BA) (gas : Nat) (g : Global) :
    evmCall run depth ro .staticcall cs cc cv addr value input gas g
      = evmCall run' depth ro .staticcall cs cc cv addr value input gas g :=
  evmCall_oneFrame.congr (fun _ => runContract_congr (hrr _))

/-- A destination the model accepts lies strictly inside the code
    (`dest < len(code)`, so `Code[dest]` exists — the destination equal to the code length is
    refused), fits 64 bits, holds the JUMPDEST byte and is not inside PUSH data. -/
theorem validJumpdest_in_code (fr : Frame) (dest : Word) (h : validJumpdest fr dest = true) :
    dest < fr.code.size ∧ dest < 2 ^ 64 ∧ fr.code.getD dest 0 = 0x5b ∧ fr.isCode.getD dest false = true := by
  unfold validJumpdest at h
  simp only [Bool.and_eq_true, decide_eq_true_eq, beq_iff_eq] at h
  exact ⟨h.1.1.2, h.1.1.1, h.1.2, h.2⟩

/-- JUMP to any other destination ends the frame with `ErrInvalidJump` -/
theorem bad_jump_faults (cx : Ctx) (ro : Bool) (fr : Frame) (pos : Word) (g : Global) (cgt : Nat)
    (h : validJumpdest fr pos = false) :
    execOp cx ro .jump fr [pos] g cgt = .fault .invalidJump g := by
  show (if validJumpdest fr pos = true then _ else _) = _
  rw [h]
  rfl

/-- and so does JUMPI with a non-zero condition -/
theorem bad_jumpi_faults (cx : Ctx) (ro : Bool) (fr : Frame) (pos cond : Word) (g : Global) (cgt : Nat)
    (hc : cond ≠ 0) (h : validJumpdest fr pos = false) :
    execOp cx ro .jumpi fr [pos, cond] g cgt = .fault .invalidJump g := by
  show (if cond ≠ 0 then (if validJumpdest fr pos = true then _ else _) else _) = _
  rw [if_pos hc, h]
  rfl

/-- a taken jump lands on a valid destination: the next `pc` is the destination -/
theorem jump_lands_on_jumpdest (cx : Ctx) (ro : Bool) (fr : Frame) (pos : Word) (g : Global) (cgt : Nat) (u : Upd)
    (h : execOp cx ro .jump fr [pos] g cgt = .upd u) : u.pc = pos ∧ validJumpdest fr pos = true := by
  change (if validJumpdest fr pos = true then _ else _) = _ at h
  split at h
  · rename_i hv; cases h; exact ⟨rfl, hv⟩
  · cases h

/-- non-vacuity: in `PUSH1 4 JUMP INVALID JUMPDEST` destination 4 is valid, 5 (= code length) and 3 are not -/
example : validJumpdest (mkFrame #[0x60, 0x04, 0x56, 0xfe, 0x5b] 0 0 0 0 #[]) 4 = true ∧
    validJumpdest (mkFrame #[0x60, 0x04, 0x56, 0xfe, 0x5b] 0 0 0 0 #[]) 5 = false ∧
    validJumpdest (mkFrame #[0x60, 0x04, 0x56, 0xfe, 0x5b] 0 0 0 0 #[]) 3 = false := by decide

theorem pushWrites_bound (len p n : Nat) (hp : p ≤ len) (hn : n ≤ 32) :
    ∀ i ∈ pushWrites p n, i < len / 8 + 1 + 4 := by
  intro i hi
  unfold pushWrites at hi
  simp only [List.mem_append, List.mem_flatMap, List.mem_range, List.mem_cons, List.mem_map,
    List.not_mem_nil, or_false] at hi
  rcases hi with ⟨k, hk, hi⟩ | ⟨j, hj, hi⟩
  · rcases hi with hi | hi <;> omega
  · omega

theorem bitmapWrites_go_bound (code : BA) :
    ∀ (fuel pc : Nat), ∀ i ∈ bitmapWrites.go code fuel pc, i < bitvecLen code := by
  intro fuel
  induction fuel with
  | zero => intro pc i hi; simp [bitmapWrites.go] at hi
  | succ f ih =>
    intro pc i hi
    unfold bitmapWrites.go at hi
    split at hi
    · simp at hi
    · rename_i hpc
      simp only at hi
      split at hi
      · rename_i hop
        rw [List.mem_append] at hi
        rcases hi with hi | hi
        · unfold bitvecLen
          exact pushWrites_bound code.size (pc + 1) _ (by omega) (by omega) i hi
        · exact ih _ i hi
      · exact ih _ i hi

/-- Every byte `codeBitmap` writes — for any code, in particular code whose
    length is a multiple of 8 and whose last byte is a PUSH32 opcode with all of its data cut off —
    lies inside the `len(code)/8 + 1 + 4` bytes it allocated (the allocation expression is asserted by
    the T-gen fact `analysis.codeBitmap`): the lazy JUMPDEST analysis cannot index out of range. -/
theorem bitmap_writes_in_range (code : BA) : ∀ i ∈ bitmapWrites code, i < bitvecLen code :=
  bitmapWrites_go_bound code code.size 0

/-- the bound is tight: 8 bytes ending in a truncated PUSH32 write byte index 5 of the 6 allocated
    (one byte less — `(len+7)/8+4` — would be out of range) -/
example : bitmapWrites #[0x5b, 0x5b, 0x5b, 0x5b, 0x5b, 0x5b, 0x5b, 0x7f] = [1, 2, 2, 3, 3, 4, 4, 5] ∧
    bitvecLen #[0x5b, 0x5b, 0x5b, 0x5b, 0x5b, 0x5b, 0x5b, 0x7f] = 6 := by decide

/-- the faults the property names (and the others the code can raise) -/
def OrdinaryFault (e : Fault) : Prop := e.isAbort = false

/-- **faults_are_failures (loop).** Any fault raised by the validation / gas part of a loop
    iteration is one of the ordinary EVM faults (out of gas, invalid opcode, stack
    under/overflow, write protection, gas overflow) or the tie's `desync`; never the
    `stackBug` / `outOfFuel` artefacts. -/
theorem stepPre_faults (cx : Ctx) (ro : Bool) (fr : Frame) (g g' : Global) (e : Fault)
    (h : stepPre cx ro fr g = .fault e g') :
    e = .invalidOpCode ∨ e = .stackUnderflow ∨ e = .stackOverflow ∨ e = .writeProtection ∨
    e = .outOfGas ∨ e = .gasUintOverflow ∨ (∃ k, e = .desync k) := by
  have := stepPre_spec cx ro fr g
  rw [h] at this
  exact this

/-- **faults_are_failures (call).** Whatever went wrong inside a callee — any fault other than
    `revert` — the caller sees an ordinary failed call that consumed all the gas it was given
    (model artefacts excepted), exactly like `evm.Call`'s `if err != ErrExecutionReverted { gas = 0 }`. -/
theorem failed_call_consumes_gas (snap : String) (ret : BA) (rgas : Nat) (e : Fault) (g : Global)
    (hne : e ≠ .reverted) (hab : e.isAbort = false) :
    (finishCallRes snap ret rgas (some e) g).gas = 0 ∨
    (∃ k, (finishCallRes snap ret rgas (some e) g).err = some (.desync k)) := by
  unfold finishCallRes
  simp only [hab, Bool.false_eq_true, if_false]
  split
  · right; exact ⟨_, rfl⟩
  · left; simp [hne]

theorem reverted_call_keeps_gas (snap : String) (ret : BA) (rgas : Nat) (g g' : Global)
    (h : g.tell ("rv:" ++ snap) = some g') :
    finishCallRes snap ret rgas (some .reverted) g = ⟨ret, rgas, some .reverted, g', 0⟩ := by
  unfold finishCallRes
  simp [Fault.isAbort, h]

end Rangers.Props.C11D
