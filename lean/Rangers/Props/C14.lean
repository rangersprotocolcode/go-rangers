import Rangers.Model.Bls14Verify
import Rangers.Proofs.Bls14Bytes
import Rangers.Proofs.Bls14Field
import Rangers.Proofs.Bls14Model
/-!
# C14 — BLS verification accepts exactly the one valid signature; encodings faithful

This file: the decision logic of `VerifySig` (guards, totality, what the verdict
depends on) and the G1 / signature encoding (round trip, canonicity of `G1.Unmarshal`).
The other encodings are in `Props/C14E.lean`, uniqueness of the accepted signature from bilinearity and
non-degeneracy in `Props/C14U.lean`. All statements are about `Rangers.Model.Bls14`, the model `drv_c14` executes.
-/
namespace Rangers.Props.C14
open Rangers Rangers.Model.Bls14 Rangers.Proofs.Bls14

theorem verifySig_eq (pe : PairEq) (hm : Pt) (pub : Pub) (sig : Sig) :
    verifySig pe hm pub sig =
      match sig, pub with
      | .pt s, .pt k => if s.onCurve && pe s g2Gen hm k then .accept else .reject
      | _, _ => .reject := by
  cases sig with
  | nil => rfl
  | pt s =>
    cases pub with
    | nil => by_cases hc : s.onCurve = true <;> simp [verifySig, Sig.isNil, sig_isValid_pt, Pub.isValid, hc]
    | pt k =>
      by_cases hc : s.onCurve = true <;>
        simp [verifySig, Sig.isNil, sig_isValid_pt, Pub.isValid, hc]

/-- The complete characterisation of acceptance: both values non-nil, the signature point on the
    curve, and the pairing comparison true. Nothing else leads to `accept`. -/
theorem verify_accept_iff (pe : PairEq) (hm : Pt) (pub : Pub) (sig : Sig) :
    verifySig pe hm pub sig = .accept ↔
      ∃ s k, sig = .pt s ∧ pub = .pt k ∧ s.onCurve = true ∧ pe s g2Gen hm k = true := by
  rw [verifySig_eq]
  cases sig with
  | nil => simp
  | pt s => cases pub <;> simp

example : verifySig (fun _ _ _ _ => true) g1Gen (.pt g2Gen) (.pt g1Gen) = .accept := by
  rw [verify_accept_iff]; exact ⟨g1Gen, g2Gen, rfl, rfl, by decide, rfl⟩

/-- `VerifySig` never dereferences a nil pointer: the `IsNil` guard precedes `IsValid`. -/
theorem verify_never_panics (pe : PairEq) (hm : Pt) (pub : Pub) (sig : Sig) :
    verifySig pe hm pub sig ≠ .panic := by
  rw [verifySig_eq]
  split
  · split <;> simp
  · simp

theorem reject_of_not_accept {pe : PairEq} {hm : Pt} {pub : Pub} {sig : Sig}
    (h : verifySig pe hm pub sig ≠ .accept) : verifySig pe hm pub sig = .reject := by
  have hp := verify_never_panics pe hm pub sig
  cases hv : verifySig pe hm pub sig <;> simp_all

/-- Guard clause of the property: a nil signature, a signature point off the curve, or a nil
    public key is rejected, and the verdict does not depend on the pairing at all
    (it is the same for every `pe`, i.e. no pairing result is consulted). -/
theorem verify_guards (pe : PairEq) (hm : Pt) (pub : Pub) (sig : Sig)
    (h : sig = .nil ∨ (∃ s, sig = .pt s ∧ s.onCurve = false) ∨ pub = .nil) :
    verifySig pe hm pub sig = .reject := by
  apply reject_of_not_accept
  rw [Ne, verify_accept_iff]
  rintro ⟨s, k, hs, hk, hc, _⟩
  rcases h with h | ⟨s', hs', hc'⟩ | h
  · rw [h] at hs; cases hs
  · rw [hs'] at hs; cases hs; rw [hc] at hc'; cases hc'
  · rw [h] at hk; cases hk

example : ∃ s, ((G1Val.pt (Pt.aff 1 3) : Sig) = .pt s ∧ s.onCurve = false) := ⟨_, rfl, by decide⟩

/-- When all guards pass the verdict is exactly the pairing comparison. -/
theorem verify_eq_pairing (pe : PairEq) (hm s : Pt) (k : Pt2) (hc : s.onCurve = true) :
    verifySig pe hm (.pt k) (.pt s) = if pe s g2Gen hm k then .accept else .reject := by
  rw [verifySig_eq]
  simp only [hc, Bool.true_and]

example : (Pt.aff 1 (P - 2)).onCurve = true := by decide

/-- Truncated encodings: fewer than 64 bytes never change the receiver and report `short`. -/
theorem g1_unmarshal_short (recv : G1Val) (b : Bytes) (h : b.length < 64) :
    g1Unmarshal recv b = (recv, .short) := by
  rw [g1Unmarshal_eq, if_pos h]

/-- …hence a truncated signature is rejected by `VerifySig` whatever the pairing. -/
theorem verify_truncated_rejected (pe : PairEq) (hm : Pt) (pkb sigb : Bytes) (h : sigb.length < 64) :
    verifyBytes pe hm pkb sigb = .reject := by
  unfold verifyBytes
  apply verify_guards; left
  rw [deserializeSign_eq, g1_unmarshal_short _ _ h]

example : ([1, 2, 3] : Bytes).length < 64 := by decide

def rawX (b : Bytes) : Nat := beToNat (b.take 32)
def rawY (b : Bytes) : Nat := beToNat ((b.drop 32).take 32)

/-- Soundness of `Unmarshal`: status `ok` means the receiver holds infinity or a reduced point
    satisfying the curve equation ("points not on the curve" never get status ok), and the rest
    is what follows the first 64 bytes. -/
theorem g1_unmarshal_ok (recv : G1Val) (b rest : Bytes) (v : G1Val)
    (h : g1Unmarshal recv b = (v, .ok rest)) :
    64 ≤ b.length ∧ rest = b.drop 64 ∧
      ∃ q, v = .pt q ∧ q.onCurve = true ∧ q.reduced = true := by
  rw [g1Unmarshal_eq] at h
  split at h
  · cases h
  · next hl =>
    split at h
    · next hc =>
      cases h
      exact ⟨Nat.not_lt.1 hl, rfl, _, rfl, hc, g1Read_reduced b⟩
    · cases h

/-- A signature whose coordinates do not satisfy the curve equation is rejected
    without consulting the pairing. -/
theorem verify_offcurve_rejected (pe : PairEq) (hm : Pt) (pkb sigb : Bytes)
    (hl : 64 ≤ sigb.length) (hnz : ¬ (rawX sigb % P = 0 ∧ rawY sigb % P = 0))
    (hoff : onCurveXY (rawX sigb % P) (rawY sigb % P) = false) :
    verifyBytes pe hm pkb sigb = .reject := by
  unfold verifyBytes
  apply verify_guards; right; left
  refine ⟨.aff (rawX sigb % P) (rawY sigb % P), ?_, hoff⟩
  have hq : g1Read sigb = .aff (rawX sigb % P) (rawY sigb % P) :=
    if_neg hnz
  rw [deserializeSign_eq, g1Unmarshal_eq, if_neg (by omega), hq]

/-- Completeness and the over-long lead in one statement: the canonical encoding of a valid
    point, followed by ANY bytes, decodes to that point with those bytes as `rest`. -/
theorem g1_unmarshal_marshal_append (recv : G1Val) (q : Pt) (rest : Bytes)
    (hc : q.onCurve = true) (hr : q.reduced = true) :
    g1Unmarshal recv (g1Marshal q ++ rest) = (.pt q, .ok rest) := by
  rw [g1Unmarshal_eq, if_neg (by rw [List.length_append, g1_marshal_length]; omega), g1Read_marshal_append q rest hc hr,
    if_pos hc, List.drop_left' (g1_marshal_length q)]

/-- `Unmarshal (Marshal P) = P` for every on-curve point and for infinity. -/
theorem g1_marshal_unmarshal (recv : G1Val) (q : Pt)
    (hc : q.onCurve = true) (hr : q.reduced = true) :
    g1Unmarshal recv (g1Marshal q) = (.pt q, .ok []) := by
  have := g1_unmarshal_marshal_append recv q [] hc hr
  simpa using this

example : g1Gen.onCurve = true ∧ g1Gen.reduced = true := by decide
example : Pt.inf.onCurve = true ∧ Pt.inf.reduced = true := by decide

/-- Signatures survive Serialize/Deserialize unchanged. -/
theorem sig_roundtrip (q : Pt) (hc : q.onCurve = true) (hr : q.reduced = true) :
    deserializeSign (Sig.serialize (.pt q)) = .pt q := by
  rw [deserializeSign_eq, Sig.serialize, g1_marshal_unmarshal .nil q hc hr]

/-- No range check: adding `p` to the x-coordinate (when it still fits in 32 bytes) does not change
    what `Unmarshal` returns. -/
theorem g1_unmarshal_unreduced (recv : G1Val) (x y : Nat) (rest : Bytes)
    (hx : x + P < 256 ^ 32) :
    g1Unmarshal recv (beFixed 32 (x + P) ++ beFixed 32 y ++ rest) =
      g1Unmarshal recv (beFixed 32 x ++ beFixed 32 y ++ rest) := by
  have l := beFixed_length 32
  rw [g1Unmarshal_fields _ _ _ _ (l _) (l _), g1Unmarshal_fields _ _ _ _ (l _) (l _),
    beToNat_beFixed_of_lt 32 (x + P) hx, beToNat_beFixed_of_lt 32 x (by omega), Nat.add_mod_right]

/-- **FullStatement** `g1_unmarshal_canonical`: a byte string that decodes is the canonical
    encoding of what it decodes to. -/
def FullStatement_g1_unmarshal_canonical : Prop :=
  ∀ (b rest : Bytes) (q : Pt), g1Unmarshal .nil b = (.pt q, .ok rest) → g1Marshal q = b

/-- False of the model (and of the code: `corpus/C14/edge.ops`, known finding
    `overlong-sig-accepted`): the generator followed by `ff`. -/
theorem g1_unmarshal_canonical_counterexample : ¬ FullStatement_g1_unmarshal_canonical := by
  intro h
  have := h (g1Marshal g1Gen ++ [0xff]) [0xff] g1Gen
    (g1_unmarshal_marshal_append .nil g1Gen [0xff] (by decide) (by decide))
  have hl := congrArg List.length this
  simp [g1_marshal_length] at hl

/-- …and a second, independent witness of exactly 64 bytes: `(1 + p, p − 2)` (known finding
    `unreduced-sig-accepted`). -/
theorem g1_unmarshal_canonical_counterexample_unreduced :
    ∃ b : Bytes, b.length = 64 ∧ g1Unmarshal .nil b = (.pt g1Gen, .ok []) ∧ g1Marshal g1Gen ≠ b := by
  refine ⟨beFixed 32 (1 + P) ++ beFixed 32 (P - 2), by simp [beFixed_length], ?_, ?_⟩
  · have h := g1_unmarshal_unreduced .nil 1 (P - 2) [] (by decide)
    simp only [List.append_nil] at h
    rw [h]
    exact g1_marshal_unmarshal .nil g1Gen (by decide) (by decide)
  · intro h
    have h' : beFixed 32 1 ++ beFixed 32 (P - 2) = beFixed 32 (1 + P) ++ beFixed 32 (P - 2) := h
    have := List.append_cancel_right h'
    have := beFixed_inj 32 1 (1 + P) (by decide) (by decide) this
    revert this; decide

/-- An encoding is canonical when it has exactly 64 bytes and both coordinates are `< p`. -/
def Canonical (b : Bytes) : Prop := b.length = 64 ∧ rawX b < P ∧ rawY b < P

/-- On canonical encodings decoding is injective —
    the only ways to alias a point are the two recorded findings. -/
theorem g1_unmarshal_canonical_partial (b rest : Bytes) (q : Pt) (hcan : Canonical b)
    (h : g1Unmarshal .nil b = (.pt q, .ok rest)) : g1Marshal q = b ∧ rest = [] := by
  obtain ⟨hl, hx, hy⟩ := hcan
  have hrest := (g1_unmarshal_ok _ _ _ _ h).2.1
  rw [g1Unmarshal_eq, if_neg (by omega)] at h
  cases G1Val.pt.inj (Prod.mk.inj h).1
  exact ⟨g1Marshal_g1Read b hl hx hy, by rw [hrest, List.drop_of_length_le (by omega)]⟩

theorem canonical_g1Marshal (q : Pt) (hr : q.reduced = true) : Canonical (g1Marshal q) := by
  have h := coordsOf_lt q hr
  refine ⟨g1_marshal_length q, ?_, ?_⟩
  · show fieldAt (g1Marshal q) 0 < P
    rw [g1Marshal_eq, fieldAt_zero _ _ (beFixed_length 32 _), beToNat_beFixed_of_lt 32 _ (Nat.lt_trans h.1 P_lt)]
    exact h.1
  · show fieldAt (g1Marshal q) 1 < P
    rw [g1Marshal_eq, ← List.append_nil (beFixed 32 (coordsOf q).2), fieldAt_succ _ _ 0 (beFixed_length 32 _),
      fieldAt_zero _ _ (beFixed_length 32 _), beToNat_beFixed_of_lt 32 _ (Nat.lt_trans h.2 P_lt)]
    exact h.2

example : Canonical (g1Marshal g1Gen) := canonical_g1Marshal g1Gen (by decide)

end Rangers.Props.C14
