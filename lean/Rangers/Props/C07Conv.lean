import Rangers.Proofs.TxAuthDecimal
import Rangers.Model.Json
import Rangers.Props.C18
/-!
# C07 — the renderings in `ConvertTx` rest on C18 (decimal) and C09 (JSON)

The declared `Data` of a wrapped Ethereum transaction is the JSON of four strings. The
decimal renderings are the ones C18 models and proves loss-free; the JSON frame is C09's
`quote` / `commaSep`.
-/
namespace Rangers.Props.C07
open Rangers Rangers.Model.TxAuth

/-- Nonce, chain id, gas price and gas limit are rendered by `Nat.toDigits 10`
    (`strconv.FormatUint`, `big.Int.String`), the value by C18's `BigIntToStr`. -/
theorem conv_renderings_are_c18 (e : EthTx) :
    decimal e.price = (Nat.toDigits 10 e.price).map charByte ∧
    decimal e.gas = (Nat.toDigits 10 e.gas).map charByte ∧
    decimal (deriveChainId e.v) = (Nat.toDigits 10 (deriveChainId e.v)).map charByte ∧
    bigIntToStr e.value = (Decimal.BigIntToStr (e.value : Int)).map charByte :=
  ⟨decimal_eq_toDigits _, decimal_eq_toDigits _, decimal_eq_toDigits _, bigIntToStr_eq_c18 _⟩

/-- The value an accepted wrapped transaction declares is exact: the `transferValue`
    string in `Data` is C18's `BigIntToStr` of the payload's value, which the contract
    executor's `StrToBigInt` reads back unchanged (C18 `evm_value_unchanged`), for every
    256-bit value. -/
theorem eth_value_string_exact (e : EthTx) (h : e.value < 2 ^ 256) :
    ∃ s : Decimal.Str, bigIntToStr e.value = s.map charByte ∧
      Decimal.StrToBigInt s = .ok (e.value : Int) := by
  refine ⟨Decimal.BigIntToStr (e.value : Int), bigIntToStr_eq_c18 _, ?_⟩
  have := Props.C18.evm_value_unchanged (e.value : Int) (Int.natCast_nonneg _) (by exact_mod_cast h)
  exact this

example : bigIntToStr 1500000000000000000 = "1.500000000000000000".toList.map charByte := by decide +kernel

theorem jsonField_eq_quote (name value : Bytes) :
    jsonField name value = Json.quote name ++ [58] ++ Json.quote value := by
  simp only [jsonField, Json.quote, List.append_assoc, List.cons_append, List.nil_append]

/-- The JSON `ConvertTx` declares is C09's frame: `{` + comma-separated `"key":"value"`
    pairs (C09 `Json.quote`, `Json.commaSep`) + `}`, keys and order as in `types.ContractData`. -/
theorem contractDataJson_is_c09_frame (e : EthTx) :
    contractDataJson e =
      [123] ++ Json.commaSep [
        Json.quote [103,97,115,80,114,105,99,101] ++ [58] ++ Json.quote (decimal e.price),
        Json.quote [103,97,115,76,105,109,105,116] ++ [58] ++ Json.quote (decimal e.gas),
        Json.quote [116,114,97,110,115,102,101,114,86,97,108,117,101] ++ [58] ++ Json.quote (bigIntToStr e.value),
        Json.quote [97,98,105,68,97,116,97] ++ [58] ++ Json.quote (toHex0x e.data)] ++ [125] := by
  simp only [jsonField_eq_quote, contractDataJson, Json.commaSep, List.append_assoc, List.cons_append,
    List.nil_append]

/-- the key bytes above are the ASCII of the struct tags -/
theorem contractData_keys :
    Json.ascii "gasPrice" = [103,97,115,80,114,105,99,101] ∧
    Json.ascii "gasLimit" = [103,97,115,76,105,109,105,116] ∧
    Json.ascii "transferValue" = [116,114,97,110,115,102,101,114,86,97,108,117,101] ∧
    Json.ascii "abiData" = [97,98,105,68,97,116,97] := by decide +kernel

end Rangers.Props.C07
