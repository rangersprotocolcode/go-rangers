import Rangers.Proofs.DecimalFormat
import Rangers.Proofs.DecimalAux
import Mathlib.Tactic.SplitIfs
/-!
# C18 — the other amount helpers of `data_convert.go`

`Float64ToBigInt` (stakes: `MinerManager.AddStake`/`AddMiner` call it on `float64(uint64)`),
`Uint64ToBigInt` (refunds), `strconv.ParseUint(BigIntToStrWithoutDot(·))` (VM stake
instructions), `BigIntBase10toN` / `GenerateCallDataBigInt`. All theorems are about
`Rangers.Model.Decimal`, compared with the Go code by the ops `stake`, `f64`, `u64`,
`stakearg`, `basen`, `calldata`.
-/
namespace Rangers.Props.C18Aux
open Rangers.Decimal

/-- **Float64ToBigInt is exact on the double it is given**: for every finite non-zero
    float64 `±m·2^e` the result is `trunc(±m·2^e·10^18)`; no binary rounding happens inside
    (whatever loss there is happened in the float64 arithmetic of the caller). -/
theorem float64_exact (bits : Nat) (neg : Bool) (m : Nat) (e : Int)
    (h : f64Decode bits = .fin neg m e) :
    float64ToBigInt bits = .ok (toInt (.fin neg (m * 1000000000000000000) e)) := by
  unfold float64ToBigInt
  rw [h]
  unfold f64Decode at h
  dsimp only at h
  have hf : bits % 2 ^ 52 < 2 ^ 52 := Nat.mod_lt _ (by positivity)
  have hee : bits / 2 ^ 52 % 2048 < 2048 := Nat.mod_lt _ (by norm_num)
  generalize bits % 2 ^ 52 = f at h hf
  generalize bits / 2 ^ 52 % 2048 = ee at h hee
  split_ifs at h with h1 h2 h3 h4
  all_goals (try (simp only [BF.fin.injEq] at h))
  · obtain ⟨_, rfl, rfl⟩ := h
    exact f64_mul_exact _ _ _ (by omega) (by omega) (by norm_num) (by norm_num)
  · obtain ⟨_, rfl, rfl⟩ := h
    exact f64_mul_exact _ _ _ (by positivity) (by omega) (by omega) (by omega)

example : f64Decode 4607182418800017408 = .fin false (2 ^ 52) (-52) ∧
    float64ToBigInt 4607182418800017408 = .ok 1000000000000000000 := by decide +kernel

/-- `Float64ToBigInt` panics on the quiet NaN `0x7ff8…0`; ±Inf and ±0 give 0. -/
theorem float64_specials :
    float64ToBigInt 0x7ff8000000000000 = .panic ∧ float64ToBigInt 0x7ff0000000000000 = .ok 0 ∧
    float64ToBigInt 0xfff0000000000000 = .ok 0 ∧ float64ToBigInt 0 = .ok 0 ∧
    float64ToBigInt 0x8000000000000000 = .ok 0 := by decide +kernel

/-- **Stake conversion, all of uint64**: `Float64ToBigInt(float64(n))` is `10^18` times the
    float64 nearest to `n` (ties to even) — `float64(n)` is where a stake can be altered. -/
theorem stake_value (n : Nat) (hn : 0 < n) (hn2 : n < 2 ^ 64) :
    stakeToBigInt n =
      .ok (((roundMant .nearestEven 53 n false).1 * 2 ^ (roundMant .nearestEven 53 n false).2
            * 1000000000000000000 : ℕ) : Int) := by
  unfold stakeToBigInt u64ToF64
  rw [if_neg (by omega)]
  have hb64 : bitLen n ≤ 64 := bitLen_le_of_lt hn2
  have hpos := roundMant_pos .nearestEven 53 n false (by norm_num) hn
  have hs := roundMant_snd_le .nearestEven 53 n false
  have hle : (roundMant .nearestEven 53 n false).1 ≤ 2 ^ 53 := by
    by_cases hfit : bitLen n ≤ 53
    · rw [roundMant_fits _ _ hfit]
      exact Nat.le_of_lt (lt_of_lt_of_le (lt_two_pow_bitLen n) (Nat.pow_le_pow_right (by norm_num) hfit))
    · exact roundMant_fst_le_two_pow _ _ (Nat.not_le.mp hfit)
  rw [f64_mul_exact false _ _ hpos hle (by omega) (by omega), toInt_fin, if_neg Bool.false_ne_true,
    Int.toNat_natCast, Int.toNat_neg_natCast, pow_zero, Nat.div_one, Nat.mul_right_comm]

/-- **Stake exactness domain**: below `2^53` whole coins the stake is converted exactly,
    and agrees with what `Uint64ToBigInt` (the refund path) computes for the same number. -/
theorem stake_exact (n : Nat) (h : n < 2 ^ 53) :
    stakeToBigInt n = .ok ((n : Int) * 10 ^ 18) ∧ stakeToBigInt n = .ok (uint64ToBigInt n) := by
  have key : stakeToBigInt n = .ok ((n : Int) * 10 ^ 18) := by
    rcases Nat.eq_zero_or_pos n with h0 | h0
    · subst h0; decide +kernel
    · rw [stake_value n h0 (lt_trans h (by norm_num)),
        roundMant_fits .nearestEven false (bitLen_le_of_lt h)]
      push_cast; ring_nf
  exact ⟨key, by rw [key]; unfold uint64ToBigInt; norm_num⟩

example : stakeToBigInt 9007199254740991 = .ok (9007199254740991 * 10 ^ 18) := by decide +kernel

/-- what one would like: exact for every uint64 stake -/
def FullStatementStakeExact : Prop := ∀ n : Nat, n < 2 ^ 64 → stakeToBigInt n = .ok ((n : Int) * 10 ^ 18)

/-- `stake_exact` is the provable restriction (`n < 2^53`) of `FullStatementStakeExact`. -/
theorem stake_exact_partial (n : Nat) (h : n < 2 ^ 53) : stakeToBigInt n = .ok ((n : Int) * 10 ^ 18) :=
  (stake_exact n h).1

/-- `2^53 + 1` coins are charged as `2^53` coins (replayed on the real code: corpus
    `stake 9007199254740993`), while the refund path (`Uint64ToBigInt`) is exact: the two
    disagree above `2^53`. Far above any reachable stake; recorded for C20/C06. -/
theorem stake_exact_counterexample : ¬ FullStatementStakeExact := by
  intro h
  have := h (2 ^ 53 + 1) (by norm_num)
  revert this
  decide +kernel

/-- The whole-coin part: for `money ≥ 0` the VM reads `⌊money / 10^18⌋` when it fits 64
    bits and fails otherwise; a negative amount fails (the '-' is not a digit). -/
theorem stakeArg_value (money : Int) (h : 0 ≤ money) :
    stakeArg money =
      if money.natAbs / 10 ^ 18 < 2 ^ 64 then some (money.natAbs / 10 ^ 18) else none := by
  unfold stakeArg BigIntToStrWithoutDot BigIntToStr
  by_cases h0 : money = 0
  · subst h0; decide +kernel
  · rw [if_neg h0]
    obtain ⟨ds, hd, hne, hs, hv⟩ := bigIntToStr_intPart money 18 (by norm_num)
    rw [Nat.cast_ofNat] at hs
    rw [hs, if_neg (by omega), List.nil_append, parseUint64, if_neg hne,
      List.all_eq_true.mpr hd, hv]
    simp

example : stakeArg 1234567890123456789012 = some 1234 ∧ stakeArg (-5) = none ∧
    stakeArg (2 ^ 64 * 10 ^ 18) = none := by decide +kernel

/-- `Uint64ToBigInt n = n · 10^18` (refund path), and the VM's whole-coin reader gives `n` back. -/
theorem uint64_exact (n : Nat) (h : n < 2 ^ 64) :
    uint64ToBigInt n = (n : Int) * 10 ^ 18 ∧ stakeArg (uint64ToBigInt n) = some n := by
  have h1 : uint64ToBigInt n = (n : Int) * 10 ^ 18 := by unfold uint64ToBigInt; norm_num
  refine ⟨h1, ?_⟩
  rw [stakeArg_value _ (by rw [h1]; positivity), h1]
  have : ((n : Int) * 10 ^ 18).natAbs = n * 10 ^ 18 := by
    rw [Int.natAbs_mul, Int.natAbs_pow]; rfl
  rw [this, Nat.mul_div_cancel _ (by positivity), if_pos h]

/-- **BigIntBase10toN is a faithful base-`b` numeral** (`2 ≤ b ≤ 16`): reading the digits
    back gives `n`, and the result is empty exactly for `n = 0`. -/
theorem baseN_roundtrip (n b : Nat) (hb1 : 2 ≤ b) (hb2 : b ≤ 16) :
    ofBaseDigits b (bigIntBase10toN n b) = n ∧ (bigIntBase10toN n b = [] ↔ n = 0) := by
  have key : ∀ n, ofBaseDigits b (Nat.toDigits b n) = n := by
    intro n
    induction n using Nat.base_induction b (by omega) with
    | single m hm =>
      rw [Nat.toDigits_of_lt_base hm]
      simp [ofBaseDigits, digVal36_digitChar m (by omega : m < 16)]
    | digit m k hk hm ih =>
      rw [← Nat.toDigits_append_toDigits (by omega) hm hk, Nat.toDigits_of_lt_base hk]
      unfold ofBaseDigits at ih ⊢
      rw [List.foldl_append, ih]
      simp [digVal36_digitChar k (by omega : k < 16)]
  unfold bigIntBase10toN
  by_cases h0 : n = 0
  · subst h0; simp [ofBaseDigits]
  · rw [if_neg h0]
    exact ⟨key n, by simp [h0, Nat.toDigits_ne_nil]⟩

example : bigIntBase10toN 255 16 = "ff".toList ∧ bigIntBase10toN 0 16 = [] := by decide +kernel

/-- **Call-data word**: for `n < 2^256` the padded string has exactly 64 hex digits and its
    value is `n` (so it is the 32-byte big-endian word of `n`). -/
theorem callData_word (n : Nat) (h : n < 2 ^ 256) :
    (callDataBigInt n).length = 64 ∧ ofBaseDigits 16 (callDataBigInt n) = n := by
  unfold callDataBigInt
  dsimp only
  have hlen : (bigIntBase10toN n 16).length ≤ 64 := by
    unfold bigIntBase10toN
    by_cases h0 : n = 0
    · simp [h0]
    · rw [if_neg h0]
      rw [Nat.length_toDigits_le_iff (by norm_num) (by norm_num)]
      calc n < 2 ^ 256 := h
        _ = 16 ^ 64 := by norm_num
  constructor
  · rw [List.length_append, List.length_replicate]; omega
  · have hz : ∀ k (l : Str), ofBaseDigits 16 (List.replicate k '0' ++ l) = ofBaseDigits 16 l := by
      intro k l
      induction k with
      | zero => simp
      | succ k ih =>
        rw [List.replicate_succ, List.cons_append]
        unfold ofBaseDigits at ih ⊢
        rw [List.foldl_cons]
        have : 16 * 0 + digVal36 '0' = 0 := by decide
        rw [this]; exact ih
    rw [hz]
    exact (baseN_roundtrip n 16 (by norm_num) (by norm_num)).1

example : callDataBigInt 255 = (List.replicate 62 '0' ++ "ff".toList) := by decide +kernel

end Rangers.Props.C18Aux
