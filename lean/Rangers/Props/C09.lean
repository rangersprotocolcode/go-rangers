import Rangers.Model.WireConv
/-!
# C09 — block/header/transaction/group wire codecs are lossless and total

Property theorems about the model the driver `drv_c09` executes (`Model/Wire.lean`,
`Model/WireConv.lean`, `Model/Json.lean`). Part 1: ties to the source (T-gen: the facts of `Generated.C09`,
regenerated from the working tree on every run) and totality.
-/
namespace Rangers.Props.C09
open Rangers Rangers.Wire Rangers.Json

/-- The field table the model's decoders and encoders are written against, in the coding of
    `Generated.C09.protoSchema`: (message, field number, wire kind, label) with message 1 Transaction,
    2 TransactionSlice, 3 BlockHeader, 4 TransactionHash, 5 Block, 6 GroupHeader, 7 Group, 8 Hashes, 9 Member;
    kind 0 varint, 2 length-delimited; label 0 optional, 1 required, 2 repeated. `schema_matches_source` compares
    it with the struct tags of x.pb.go. The field numbers in `txOfRaws`, `rawsOfTx`, `txReq`, … are literals of
    their own: no theorem compares them with this table. -/
def modelSchema : List (Nat × Nat × Nat × Nat) := [
  (1, 1, 2, 0), (1, 2, 0, 0), (1, 3, 2, 0), (1, 4, 2, 0), (1, 5, 0, 1), (1, 6, 2, 0), (1, 7, 2, 0),
  (1, 8, 0, 0), (1, 9, 2, 0), (1, 10, 2, 0), (1, 11, 0, 0), (1, 12, 2, 0), (1, 13, 2, 0), (1, 14, 2, 0),
  (1, 15, 2, 0),
  (2, 1, 2, 2),
  (3, 1, 2, 0), (3, 2, 0, 0), (3, 3, 2, 0), (3, 4, 2, 0), (3, 5, 2, 0), (3, 6, 0, 0), (3, 7, 2, 0),
  (3, 8, 2, 0), (3, 9, 2, 0), (3, 10, 2, 0), (3, 11, 0, 0), (3, 12, 2, 2), (3, 13, 2, 0), (3, 14, 2, 0),
  (3, 15, 2, 0), (3, 16, 2, 0), (3, 17, 2, 0), (3, 18, 2, 0), (3, 19, 2, 0), (3, 20, 2, 0),
  (4, 1, 2, 0), (4, 2, 2, 0),
  (5, 1, 2, 1), (5, 2, 2, 2),
  (6, 1, 2, 0), (6, 2, 2, 0), (6, 3, 2, 0), (6, 4, 2, 0), (6, 5, 2, 0), (6, 6, 2, 1), (6, 7, 0, 1),
  (6, 8, 2, 0),
  (7, 1, 2, 1), (7, 2, 2, 0), (7, 3, 2, 0), (7, 4, 2, 0), (7, 5, 2, 2), (7, 6, 0, 0),
  (8, 1, 2, 2),
  (9, 1, 2, 1), (9, 2, 2, 1)]

theorem schema_matches_source : Generated.C09.protoSchema = modelSchema := by decide

/-- Every pointer dereference the translator found in serialization.go is one the model knows
    (a converter it models: `fn` 1 pbToTransaction, 2 PbToBlockHeader, 3 PbToGroupHeader, 4 PbToGroup;
    a field of that converter's message). A dereference added anywhere else in the file shows up as
    `fn = 9` or `field = 0` and breaks this obligation. -/
def knownSite (s : Generated.C09.DerefSite) : Bool :=
  (s.fn == 1 && [1, 2, 4, 5, 8, 10, 11, 12, 15].contains s.field) ||
  (s.fn == 2 && [2, 6, 11].contains s.field) ||
  (s.fn == 3 && [7, 8].contains s.field) ||
  (s.fn == 4 && [6].contains s.field)

theorem sites_known : Generated.C09.derefSites.all knownSite = true := by decide

/-- No dereference of an optional field is left unguarded in the source. -/
theorem sites_guarded :
    Generated.C09.derefSites.all (fun s => s.guarded || s.required) = true := by decide

/-- The parsers report a header whose times do not decode as an error. -/
theorem nil_header_is_error :
    Generated.C09.headerNilIsError = true ∧ Generated.C09.blockNilHeaderIsError = true := by decide

/-- The model treats every `Marshal*` / `UnMarshal*` / converter as a pure function of its argument
    (a marshal result is a value, not a view of a buffer another call rewrites). The source agrees:
    no function of serialization.go touches a package-level variable other than the logger. -/
theorem codec_is_stateless : Generated.C09.sharedStateRefs = 0 := by decide

/-! ## parse_total: parsing arbitrary bytes yields an object or an error, never a panic, never (nil, nil) -/

def IsObjOrErr {α : Type} : Outcome α → Prop
  | .ok _ => True
  | .err => True
  | .nilObj => False
  | .panic _ => False

theorem derefNat_safe (fn field : Nat) (h : siteSafe fn field = true) (o : Option Nat) :
    derefNat fn field o = .ok (o.getD 0) := by
  cases o <;> simp [derefNat, h]

theorem derefStr_safe (fn field : Nat) (h : siteSafe fn field = true) (o : Option Bytes) :
    derefStr fn field o = .ok (o.getD []) := by
  cases o <;> simp [derefStr, h]

theorem derefNat_some (fn field v : Nat) : derefNat fn field (some v) = .ok v := rfl

/-- Every dereference the translator lists is guarded, so in this tree no site can fault, whatever its numbers.
    A regenerated `Generated/C09Facts.lean` with an unguarded site breaks this and with it every theorem below
    that opens a converter. It asks more than `sites_guarded`, which lets a required field go unguarded (Unmarshal
    has rejected a message without it): the model's converters are functions of every `PbX`, also of one that no
    Unmarshal returned, and `siteSafe` does not look at `required`. -/
theorem siteSafe_all (fn field : Nat) : siteSafe fn field = true :=
  List.all_eq_true.mpr fun s hs => Bool.or_eq_true_iff.mpr (Or.inr
    (List.all_eq_true.mp (by decide : Generated.C09.derefSites.all (·.guarded) = true) s hs))

theorem derefNat_eq (fn field : Nat) (o : Option Nat) : derefNat fn field o = .ok (o.getD 0) :=
  derefNat_safe fn field (siteSafe_all fn field) o

theorem derefStr_eq (fn field : Nat) (o : Option Bytes) : derefStr fn field o = .ok (o.getD []) :=
  derefStr_safe fn field (siteSafe_all fn field) o

theorem pbToTx_eq (p : PbTx) : pbToTx p = .ok
    { source := p.source.getD [], target := p.target.getD [], type := p.type.getD 0, time := p.time.getD [],
      data := p.data.getD [], extraData := p.extraData.getD [], extraDataType := p.extraDataType.getD 0,
      subTx := normSubTx p.subTransactions, subHash := optHash p.subHash, hash := optHash p.hash,
      sign := p.sign.bind (fun b => if b.length = 65 then some b else none),
      nonce := p.nonce.getD 0, requestId := p.requestId.getD 0, socketRequestId := p.socketRequestId.getD [],
      chainId := p.chainId.getD [] } := by
  simp only [pbToTx, derefStr_eq, derefNat_eq]
  cases p.sign <;> rfl

theorem pbToTx_total (p : PbTx) : ∃ t, pbToTx p = .ok t := ⟨_, pbToTx_eq p⟩

theorem pbToTxs_total (ps : List PbTx) : ∃ ts, pbToTxs ps = .ok ts := by
  induction ps with
  | nil => exact ⟨[], rfl⟩
  | cons p ps ih =>
    obtain ⟨t, ht⟩ := pbToTx_total p
    obtain ⟨ts, hts⟩ := ih
    exact ⟨t :: ts, by simp only [pbToTxs, ht, hts]⟩

theorem parse_total_tx (bs : Bytes) : IsObjOrErr (unmarshalTx bs) := by
  unfold unmarshalTx
  cases decTx bs with
  | none => trivial
  | some p => obtain ⟨t, ht⟩ := pbToTx_total p; simp only [ht]; trivial

theorem parse_total_txs (bs : Bytes) : IsObjOrErr (unmarshalTxs bs) := by
  unfold unmarshalTxs
  cases decTxSlice bs with
  | none => trivial
  | some ps => obtain ⟨ts, hts⟩ := pbToTxs_total ps; simp only [hts]; trivial

theorem pbToHeader_ok_or_nil (p : PbHeader) : (∃ h, pbToHeader p = .ok h) ∨ pbToHeader p = .nilObj := by
  simp only [pbToHeader, derefNat_eq]
  cases binToTime (p.preTime.getD []) with
  | none => exact Or.inr rfl
  | some pt =>
    cases binToTime (p.curTime.getD []) with
    | none => exact Or.inr rfl
    | some ct => exact Or.inl ⟨_, rfl⟩

theorem parse_total_header (bs : Bytes) : IsObjOrErr (unmarshalHeader bs) := by
  unfold unmarshalHeader
  cases decHeader bs with
  | none => trivial
  | some p =>
    rcases pbToHeader_ok_or_nil p with ⟨h, hh⟩ | hn
    · simp only [hh]; trivial
    · simp only [hn, nil_header_is_error.1, if_true]; trivial

/-- A parsed block is an error or an object *with* a header (what `newBlockHandler` dereferences). -/
theorem parse_total_block (bs : Bytes) :
    IsObjOrErr (unmarshalBlock bs) ∧ ∀ b, unmarshalBlock bs = .ok b → b.header.isSome = true := by
  unfold unmarshalBlock
  cases decBlock bs with
  | none => exact ⟨trivial, fun b h => by cases h⟩
  | some p =>
    obtain ⟨ts, hts⟩ := pbToTxs_total p.transactions
    have hb : Generated.C09.blockNilHeaderIsError = true := nil_header_is_error.2
    cases hph : p.header with
    | none =>
      simp only [pbToBlock, hph, hb]
      exact ⟨trivial, fun b h => by cases h⟩
    | some ph =>
      rcases pbToHeader_ok_or_nil ph with ⟨h, hh⟩ | hn
      · simp only [pbToBlock, hph, hh, hts, hb]
        exact ⟨trivial, fun b h => by cases h; rfl⟩
      · simp only [pbToBlock, hph, hn, hts, hb]
        exact ⟨trivial, fun b h => by cases h⟩

/-- `Header` is a required field of `Group`: after a successful Unmarshal it is present, so the
    unchecked `PbToGroupHeader(g.Header)` is never entered with nil. -/
theorem decGroup_header_some (bs : Bytes) (p : PbGroup) (h : decGroup bs = some p) :
    ∃ g, p.header = some g := by
  revert h
  fun_cases decGroup bs <;> intro h <;> cases h
  exact ⟨_, rfl⟩

theorem pbToGroup_parsed_ok (p : PbGroup) (h : ∃ g, p.header = some g) : ∃ g, pbToGroup p = .ok g := by
  obtain ⟨gh, hg⟩ := h
  simp only [pbToGroup, hg, pbToGroupHeader, derefNat_eq, derefStr_eq]
  exact ⟨_, rfl⟩

theorem parse_total_group (bs : Bytes) : IsObjOrErr (unmarshalGroup bs) := by
  unfold unmarshalGroup
  cases hd : decGroup bs with
  | none => trivial
  | some p =>
    obtain ⟨g, hg⟩ := pbToGroup_parsed_ok p (decGroup_header_some bs p hd)
    simp only [hg]
    trivial

/-- Non-vacuity: inputs with absent optional fields are errors or objects in the model (the getters
    are nil-safe), and a well-formed message is an object. -/
example : (match unmarshalTx [0x28, 0x01] with
    | .ok t => t.type == 1 && t.nonce == 0 && t.chainId == [] && t.hash == List.replicate 32 0
    | _ => false) = true := by decide
example : unmarshalHeader [] = .err := by decide
example : unmarshalBlock [0x0a, 0x00] = .err := by decide

end Rangers.Props.C09
