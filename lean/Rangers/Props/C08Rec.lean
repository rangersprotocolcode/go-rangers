import Rangers.Model.RLPTyped
import Rangers.Props.C08Typed
import Rangers.Props.C08Round
/-!
# C08 — recursive Go types

`Ty` has no recursion construct; a self-referential Go type is modelled by its unfolding to a depth
`d` (`treeTy d`, `treeTTy d`, `treePTy d`, `linkTy d`, `maTy d`/`mbTy d` in `Model/RLPTyped.lean`).
The canonicity and round-trip theorems hold for EVERY unfolding depth (they are instances of the
general typed theorems); that the Go type behaves as its unfolding for values that fit the depth is
the tie (`enc`/`dec` ops on the fixture types `Tree`, `TreeT`, `TreeP`, `Link`, `MA`, `MB`, with the
expected bytes of the searcher taken from the specification encoder over the value's item tree).
-/
namespace Rangers.Props.C08
open Rangers Rangers.RLP

theorem treeTy_plain : ∀ d, (treeTy d).plain := by
  intro d; induction d with
  | zero => simp [treeTy, Ty.plain_struct, Ty.plain, plainFs]
  | succ d ih => simp [treeTy, Ty.plain_struct, Ty.plain, plainFs, ih]

theorem treeTTy_plain : ∀ d, (treeTTy d).plain := by
  intro d; induction d with
  | zero => simp [treeTTy, Ty.plain_struct, Ty.plain, plainFs]
  | succ d ih => simp [treeTTy, Ty.plain_struct, Ty.plain, plainFs, ih]

theorem treePTy_plain : ∀ d, (treePTy d).plain := by
  intro d; induction d with
  | zero => simp [treePTy, Ty.plain_struct, Ty.plain, plainFs]
  | succ d ih => simp [treePTy, Ty.plain_struct, Ty.plain, plainFs, ih]

theorem maTy_plain : ∀ d, (maTy d).plain := by
  intro d; induction d with
  | zero => simp [maTy, Ty.plain_struct, Ty.plain, plainFs]
  | succ d ih => simp [maTy, Ty.plain_struct, Ty.plain, plainFs, ih]

/-- trees (slice, tail slice, pointer slice children) and the mutually recursive pair: whatever the
    decoder accepts at any unfolding depth is the encoder's output for the decoded value -/
theorem recursive_types_canonical (d : Nat) (b : Bytes) (v : Val) :
    (decodeTy (treeTy d) b = .ok v → encT (treeTy d) v = .ok b) ∧
    (decodeTy (treeTTy d) b = .ok v → encT (treeTTy d) v = .ok b) ∧
    (decodeTy (treePTy d) b = .ok v → encT (treePTy d) v = .ok b) ∧
    (decodeTy (maTy d) b = .ok v → encT (maTy d) v = .ok b) ∧
    (decodeTy (mbTy d) b = .ok v → encT (mbTy d) v = .ok b) :=
  ⟨typed_canonical_partial _ b v (treeTy_plain d), typed_canonical_partial _ b v (treeTTy_plain d),
   typed_canonical_partial _ b v (treePTy_plain d), typed_canonical_partial _ b v (maTy_plain d),
   typed_canonical_partial _ b v (by simp [mbTy, Ty.plain_struct, Ty.plain, plainFs, maTy_plain d])⟩

/-- … and every well-formed value of any of the recursive types (the `rlp:"nil"` linked list
    included) decodes from its encoding to its normal form, at every unfolding depth -/
theorem recursive_types_roundtrip (d : Nat) (v : Val) (enc : Bytes) :
    (WFV (treeTy d) v → encT (treeTy d) v = .ok enc → decodeTy (treeTy d) enc = .ok (norm (treeTy d) v)) ∧
    (WFV (treeTTy d) v → encT (treeTTy d) v = .ok enc → decodeTy (treeTTy d) enc = .ok (norm (treeTTy d) v)) ∧
    (WFV (treePTy d) v → encT (treePTy d) v = .ok enc → decodeTy (treePTy d) enc = .ok (norm (treePTy d) v)) ∧
    (WFV (linkTy d) v → encT (linkTy d) v = .ok enc → decodeTy (linkTy d) enc = .ok (norm (linkTy d) v)) ∧
    (WFV (maTy d) v → encT (maTy d) v = .ok enc → decodeTy (maTy d) enc = .ok (norm (maTy d) v)) :=
  ⟨typed_roundtrip _ v enc, typed_roundtrip _ v enc, typed_roundtrip _ v enc, typed_roundtrip _ v enc, typed_roundtrip _ v enc⟩

-- non-vacuity: a two-level tree and a two-cell list
set_option maxRecDepth 32768 in
example : decodeTy (treeTy 3) [0xc5, 0x05, 0xc3, 0xc2, 0x06, 0xc0] = .ok (.list [.num 5, .list [.list [.num 6, .list []]]]) := by rfl
set_option maxRecDepth 32768 in
example : encT (linkTy 2) (.list [.num 5, .some (.list [.num 6, .nil])]) = .ok [0xc4, 0x05, 0xc2, 0x06, 0xc0] := by rfl

end Rangers.Props.C08
