import Rangers.Props.C11D
import Rangers.Props.C11E
/-!
# C11 — trace-level invariants: every state of every frame the loop reaches

`runLoopG` is `runLoop` with an **assertion at the head of every iteration**: the frame
must satisfy `frameOk mag gas0 prev fr` — gas not above the gas at the previous iteration of this
frame (`prev`), gas below 2^64, at most 1024 stack words, memory word-aligned, below the
guard with `lastGasCost = Cmem(size/32)`, and `fr.gas + Cmem(size/32) * mag ≤ gas0`: what the
frame has spent of its initial gas `gas0` covers the fee of the memory it holds.  A failed assertion makes the
guarded loop return `none`.  `trace_invariants` proves that from any frame satisfying the
assertion the guarded loop returns `some` of exactly what `runLoop` returns: no assertion
ever fails, at any iteration, for any code, oracle, fuel, fork configuration.  Nested
frames are covered because the theorem holds for *every* frame and fuel, and every frame
`evm.Call/Create` starts is a fresh one holding the gas of the call (`Props.C11C.OneFrame.frame`, `frameOk_fresh`).
-/
namespace Rangers.Props.C11F
open Rangers.Evm11 Rangers.Props.C11 Rangers.Props.C11B Rangers.Props.C11C Rangers.Props.C11D Rangers.Props.C11E
open Rangers.Proofs.Evm11

/-- the per-iteration assertion; `gas0` is the gas the frame started with, `mag` the Proposal026
    magnification: the last clause says the gas spent so far covers the full quadratic fee of the
    memory the frame holds now -/
def frameOk (mag gas0 prev : Nat) (fr : Frame) : Prop :=
  fr.gas ≤ prev ∧ fr.gas < 2 ^ 64 ∧ fr.stack.length ≤ 1024 ∧ MemInv fr.mem ∧
  fr.gas + cmem (fr.mem.size / 32) * mag ≤ gas0

def magOf (cx : Ctx) : Nat := if cx.gc.p26 then 30 else 1

instance (mag gas0 prev : Nat) (fr : Frame) : Decidable (frameOk mag gas0 prev fr) := by
  unfold frameOk
  have : Decidable (MemInv fr.mem) :=
    if h : fr.mem.size % 32 = 0 ∧ fr.mem.size ≤ 0x1FFFFFFFE0 ∧ fr.mem.lastGasCost = cmem (fr.mem.size / 32) then
      isTrue ⟨h.1, h.2.1, h.2.2⟩
    else isFalse (fun hm => h ⟨hm.aligned, hm.bounded, hm.paid⟩)
  infer_instance

/-- `finishStep` whose continuation may report a failed assertion -/
def finishStepG (info : OpInfo) (cont : Frame → Global → Option RunRes) (fr2 : Frame) (res : BA) (g2 : Global) : Option RunRes :=
  let g3 := if info.returns then { g2 with rd := res } else g2
  if info.reverts then some ⟨res, some .reverted, fr2.gas, g3⟩
  else if info.halts then some ⟨res, none, fr2.gas, g3⟩
  else cont (if info.jumps then fr2 else { fr2 with pc := fr2.pc + 1 }) g3

/-- `runLoop` with the assertion `frameOk prev fr` at the head of every iteration
    (`prev` = the gas this frame had one iteration earlier); nested frames run the plain `runLoop` -/
def runLoopG (cx : Ctx) (gas0 : Nat) : (fuel : Nat) → (depth : Nat) → (ro : Bool) → Frame → Global → (prev : Nat) → Option RunRes
  | 0, _, _, fr, g, prev => if frameOk (magOf cx) gas0 prev fr then some ⟨#[], some .outOfFuel, fr.gas, g⟩ else none
  | fuel + 1, depth, ro, fr, g, prev =>
    if ¬ frameOk (magOf cx) gas0 prev fr then none else
    match stepPre cx ro fr (g.observe depth fr.stack.length) with
    | .fault e g' => some ⟨#[], some e, fr.gas, g'⟩
    | .ok info fr1 args g1 cgt =>
      match execOp cx ro info.exec fr1 args g1 cgt with
      | .fault e g2 => some ⟨#[], some e, fr1.gas, g2⟩
      | .upd u =>
        finishStepG info (fun fr3 g3 => runLoopG cx gas0 fuel depth ro fr3 g3 fr.gas)
          { fr1 with stack := u.push ++ fr1.stack, mem := u.mem, pc := u.pc, authorized := u.authorized } u.res u.g
      | .invoke req deduct g2 =>
        let fr2 := { fr1 with gas := fr1.gas - deduct }
        let cr := doInvoke cx (runLoop cx fuel) depth ro fr2 req g2
        if isAbortErr cr.err then some ⟨#[], cr.err, fr2.gas, cr.g⟩
        else finishStepG info (fun fr3 g3 => runLoopG cx gas0 fuel depth ro fr3 g3 fr.gas)
          (resume fr2 req cr).1 (resume fr2 req cr).2 cr.g

theorem finishStepG_eq (info : OpInfo) (contG : Frame → Global → Option RunRes) (cont : Frame → Global → RunRes)
    (fr2 : Frame) (res : BA) (g2 : Global)
    (h : ∀ fr3 g3, fr3.gas = fr2.gas → fr3.stack = fr2.stack → fr3.mem = fr2.mem → contG fr3 g3 = some (cont fr3 g3)) :
    finishStepG info contG fr2 res g2 = some (finishStep info cont fr2 res g2) := by
  unfold finishStepG finishStep
  simp only
  by_cases hr : info.reverts = true
  · rw [if_pos hr, if_pos hr]
  rw [if_neg hr, if_neg hr]
  by_cases hh : info.halts = true
  · rw [if_pos hh, if_pos hh]
  rw [if_neg hh, if_neg hh]
  apply h <;> (split <;> rfl)

theorem frameOk_fresh (mag : Nat) (code : BA) (gas self caller : Nat) (value : Word) (input : BA) (h : gas < 2 ^ 64) :
    frameOk mag gas gas (mkFrame code gas self caller value input) := by
  refine ⟨Nat.le_refl _, h, by simp [mkFrame], memInv_empty, ?_⟩
  simp [mkFrame, Mem.empty, Mem.size, cmem]

/-- the first half of `Props.C11C.resume_mem` on its own; `trace_invariants` gets both halves through `IterOk.fin` -/
theorem resume_mem_size (fr : Frame) (r : Req) (cr : CallRes) : (resume fr r cr).1.mem.size = fr.mem.size :=
  (resume_mem fr r cr).1

theorem runLoopG_succ (cx : Ctx) (gas0 fuel depth : Nat) (ro : Bool) (fr : Frame) (g : Global) (prev : Nat)
    (hok : frameOk (magOf cx) gas0 prev fr) :
    runLoopG cx gas0 (fuel + 1) depth ro fr g prev =
      match iter cx (runLoop cx fuel) depth ro fr g with
      | .done r => some r
      | .fin info fr2 res g2 =>
        finishStepG info (fun fr3 g3 => runLoopG cx gas0 fuel depth ro fr3 g3 fr.gas) fr2 res g2 := by
  rw [runLoopG, if_neg (not_not_intro hok), iter]
  cases stepPre cx ro fr (g.observe depth fr.stack.length) with
  | fault e g' => rfl
  | ok info fr1 args g1 cgt =>
    dsimp only
    cases execOp cx ro info.exec fr1 args g1 cgt with
    | fault e g2 => rfl
    | upd u => rfl
    | invoke req deduct g2 =>
      dsimp only
      split <;> rfl

theorem cmem_mono {a b : Nat} (h : a ≤ b) : cmem a ≤ cmem b := by
  have := Nat.mul_self_le_mul_self h
  unfold cmem; omega

/-- From any frame satisfying the assertion, the loop with an assertion
    at every iteration head never fails an assertion and computes exactly what `runLoop`
    computes: at *every* iteration of *every* run — gas has not increased since the previous
    iteration of the frame (also across a nested call or create), the stack has at most 1024
    words, memory is word aligned, below the guard and paid for in full, and **cumulatively**:
    the gas the frame has spent since it started (`gas0 − gas`, which includes what nested frames
    kept) is at least `Cmem(current memory words) × magnification` — every byte of memory the
    frame ever grew has been charged. -/
theorem trace_invariants (cx : Ctx) (ht : TableOk cx.table) :
    ∀ (gas0 fuel depth : Nat) (ro : Bool) (fr : Frame) (g : Global) (prev : Nat), frameOk (magOf cx) gas0 prev fr →
      runLoopG cx gas0 fuel depth ro fr g prev = some (runLoop cx fuel depth ro fr g) := by
  intro gas0 fuel
  induction fuel with
  | zero =>
    intro depth ro fr g prev hok
    unfold runLoopG runLoop
    rw [if_pos hok]
  | succ fuel ih =>
    intro depth ro fr g prev hok
    rw [runLoopG_succ _ _ _ _ _ _ _ _ hok, runLoop_succ]
    obtain ⟨_, hlt, hst, hmi, hpaid⟩ := hok
    -- only the gas half of `RunOk` is wanted of the nested frames: with `F := False` the fuel half is empty
    have hit := iter_ok (F := False) cx ht (runLoop cx fuel) depth ro fr g
      (fun G hG d ro' fr' g' hg' hs' => ⟨(runLoop_good cx ht fuel G (by omega) d ro' fr' g' hg' hs').1, False.elim⟩)
    generalize iter cx (runLoop cx fuel) depth ro fr g = it at hit
    cases hit with
    | done gas err => rfl
    | fin pre stack size last gas le phi =>
      rename_i info fr1 args g1 cgt fr2 res g2
      refine finishStepG_eq _ _ _ _ _ _ (fun fr3 g3 hg3 hs3 hm3 => ih depth ro fr3 g3 fr.gas ?_)
      obtain ⟨hinv, hgrow, hfee⟩ := memory_paid_step cx ht ro fr _ info fr1 args g1 cgt hmi pre
      rw [frameOk, hg3, hs3, hm3]
      refine ⟨le, Nat.lt_of_le_of_lt le hlt, stack, memInv_of_size hinv size last, ?_⟩
      -- the fee of this step and the fee paid so far add up to the fee of the memory held now
      have hm1 := Nat.mul_le_mul_right (magOf cx) (cmem_mono (Nat.div_le_div_right (c := 32) hgrow))
      have h3 : _ + (cmem _ - cmem _) * magOf cx + _ ≤ fr.gas := hfee
      rw [Nat.sub_mul] at h3
      rw [size]
      omega

/-- the same for the 8 generated tables, started from a fresh frame -/
theorem trace_invariants_fresh (cx : Ctx) (hcx : GenCtx cx) (fuel depth : Nat) (ro : Bool)
    (code : BA) (gas self caller : Nat) (value : Word) (input : BA) (g : Global) (h : gas < 2 ^ 64) :
    runLoopG cx gas fuel depth ro (mkFrame code gas self caller value input) g gas
      = some (runLoop cx fuel depth ro (mkFrame code gas self caller value input) g) :=
  trace_invariants cx (genCtx_tableOk hcx) gas fuel depth ro _ g gas (frameOk_fresh _ code gas self caller value input h)

/-- the assertion is not vacuous: a frame whose gas exceeds `prev` is rejected at once -/
example (cx : Ctx) (depth : Nat) (ro : Bool) (g : Global) :
    runLoopG cx 100 5 depth ro (mkFrame #[0x5b] 100 0 0 0 #[]) g 99 = none := by
  unfold runLoopG
  rw [if_pos]
  intro h
  exact absurd h.1 (by simp [mkFrame])

end Rangers.Props.C11F
