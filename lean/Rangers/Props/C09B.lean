import Rangers.Proofs.C09Msgs
import Rangers.Proofs.C09Conv
import Rangers.Props.C09
/-!
# C09, part 2 — lossless round trips, the one-pass fixed point, hash stability

`wire_roundtrip` (framing: `proto.Unmarshal (proto.Marshal p) = p`), `convert_roundtrip` (serialization.go
converters), their composition for `MarshalX`/`UnMarshalX`, `hash_stable`, `prove_value_transport`.
The `wire_roundtrip_*` theorems give the property's name to `decTx_encTx`, `decHeader_encHeader`, … of
`Proofs/C09Msgs.lean`; later proofs use those.
-/
namespace Rangers.Props.C09
open Rangers Rangers.Wire Rangers.Json

theorem varint_roundtrip (n : Nat) (rest : Bytes) (h : n < 2 ^ 64) :
    getVarint (encVarint n ++ rest) = some (n, rest) := getVarint_enc n rest h

theorem wire_roundtrip_raw (rs : List Raw) (h : RawsWF rs) : parseRaw (encRaws rs) = some rs :=
  parseRaw_encRaws rs h

example : RawsWF [.vint 2 18446744073709551615, .len 536870911 [1, 2, 3]] := by
  intro r hr
  simp at hr
  rcases hr with rfl | rfl <;> simp [RawWF]

theorem wire_roundtrip_tx (p : PbTx) (hwf : RawsWF (rawsOfTx p)) (h1 : OptI32OK p.type)
    (h2 : OptI32OK p.extraDataType) (ht : p.type.isSome) : decTx (encTx p) = some p :=
  decTx_encTx p ⟨hwf, h1, h2, ht⟩

theorem wire_roundtrip_txs (ps : List PbTx) (hlen : ∀ p ∈ ps, (encTx p).length < 2 ^ 64)
    (h : ∀ p ∈ ps, RawsWF (rawsOfTx p) ∧ OptI32OK p.type ∧ OptI32OK p.extraDataType ∧ p.type.isSome) :
    decTxSlice (encTxSlice ps) = some ps := decTxSlice_encTxSlice ps hlen h

theorem wire_roundtrip_header (p : PbHeader) (h : PbHeaderWF p) : decHeader (encHeader p) = some p :=
  decHeader_encHeader p h

/-- What one Marshal/UnMarshal pass makes of an arbitrary in-memory transaction. -/
def normTx (t : Tx) : Tx :=
  { t with subTx := normSubTx (some t.subTx),
           subHash := bytesToHash t.subHash, hash := bytesToHash t.hash,
           sign := (match t.sign with
                    | some b => if b.length = 65 then some b else none
                    | none => none),
           socketRequestId := [] }

theorem nonEmpty_getD (b : Bytes) : (nonEmpty b).getD [] = b := by
  unfold nonEmpty
  split <;> simp_all

/-- convert_roundtrip (transactions): `pbToTransaction (transactionToPb t) = norm t`, for every `t`. -/
theorem tx_convert_roundtrip (t : Tx) : pbToTx (txToPb t) = .ok (normTx t) := by
  rw [pbToTx_eq]
  simp only [txToPb, nonEmpty_getD, Option.getD_some, Option.getD_none, optHash, normTx]
  cases t.sign <;> rfl

theorem jsonNull_ne_nil : jsonNull ≠ [] := by decide

/-- Decoding and re-rendering the SubTransactions JSON a second time changes nothing. -/
def SubTxStable (x : Bytes) : Prop := normSubTx (some (normSubTx (some x))) = normSubTx (some x)

example : SubTxStable jsonNull := by unfold SubTxStable; decide +kernel
example : SubTxStable [] := by unfold SubTxStable; decide +kernel
example : SubTxStable (ascii "[{\"address\":7,\"balance\":\"1.5\",\"coin\":{\"b\":\"<\",\"a\":\"1\"},\"Assets\":null}]") := by
  rw [ascii_ofList]; unfold SubTxStable; decide +kernel

def FullStatement_normTx_idem : Prop := ∀ t : Tx, normTx (normTx t) = normTx t

/-- The fixed-point law: a second pass changes nothing — proved for every transaction whose
    SubTransactions JSON is stable under decode/re-render (`SubTxStable`; it holds for `null`, the empty
    string and, by `decide`, for sample values; the general statement needs the inverse property of the
    JSON string escaper/unquoter and is not proved, nor refuted). -/
theorem normTx_idem_partial (t : Tx) (hs : SubTxStable t.subTx) : normTx (normTx t) = normTx t := by
  simp only [SubTxStable] at hs
  simp only [normTx, bytesToHash_id _ (bytesToHash_length _), hs]
  cases t.sign with
  | none => rfl
  | some b => by_cases hb : b.length = 65 <;> simp [hb]

/-- The bytes `MarshalTransaction` emits fit the 64-bit framing and the int32 fields are int32. -/
def TxFits (t : Tx) : Prop :=
  RawsWF (rawsOfTx (txToPb t)) ∧ t.type < 2 ^ 32 ∧ t.extraDataType < 2 ^ 32

theorem tx_roundtrip (t : Tx) (h : TxFits t) : unmarshalTx (marshalTx t) = .ok (normTx t) := by
  unfold unmarshalTx marshalTx
  -- `transactionToPb` always writes both int32 fields, `Type` among them
  have hd := decTx_encTx (txToPb t)
    ⟨h.1, fun _ hv => Option.some.inj hv ▸ h.2.1, fun _ hv => Option.some.inj hv ▸ h.2.2, rfl⟩
  simp only [hd, tx_convert_roundtrip]

/-- hash_stable (transactions): the codec never touches an input of `Transaction.GenHash`. -/
theorem tx_hash_stable (t : Tx) : txHashInput (normTx t) = txHashInput t := rfl

theorem tx_genhash_stable (t : Tx) (h : TxFits t) :
    ∃ t', unmarshalTx (marshalTx t) = .ok t' ∧ txGenHash t' = txGenHash t :=
  ⟨normTx t, tx_roundtrip t h, by unfold txGenHash; rw [tx_hash_stable]⟩

/-- In-memory transactions the node builds: 32-byte hashes, a 65-byte signature or none,
    `SubTransactions` as json.Marshal renders a value that came out of json.Unmarshal (so decoding and
    re-rendering it gives the same bytes). -/
def TxValid (t : Tx) : Prop :=
  t.hash.length = 32 ∧ t.subHash.length = 32 ∧ normSubTx (some t.subTx) = t.subTx ∧
  ∀ b, t.sign = some b → b.length = 65

theorem normTx_of_valid (t : Tx) (h : TxValid t) : normTx t = { t with socketRequestId := [] } := by
  obtain ⟨h1, h2, h3, h4⟩ := h
  simp only [normTx, bytesToHash_id _ h1, bytesToHash_id _ h2, h3]
  cases hs : t.sign with
  | none => rfl
  | some b => simp only [h4 b hs, if_true]

theorem normTx_of_carried (t : Tx) (hv : TxValid t) (hs : t.socketRequestId = []) : normTx t = t := by
  rw [normTx_of_valid t hv]
  cases t
  simp_all

/-- Full statement: every valid transaction comes back with the same content. -/
def FullStatement_tx_lossless : Prop :=
  ∀ t : Tx, TxFits t → TxValid t → unmarshalTx (marshalTx t) = .ok t

/-- Proved restriction: … when `SocketRequestId` is empty (transactionToPb never writes that field). -/
theorem tx_lossless_partial (t : Tx) (hf : TxFits t) (hv : TxValid t) (hs : t.socketRequestId = []) :
    unmarshalTx (marshalTx t) = .ok t := by
  rw [tx_roundtrip t hf, normTx_of_carried t hv hs]

def witnessTx : Tx :=
  { source := [], target := [], type := 1, time := [], data := [], extraData := [], extraDataType := 0,
    subTx := jsonNull, subHash := List.replicate 32 0, hash := List.replicate 32 0, sign := none, nonce := 0,
    requestId := 0, socketRequestId := [0x35, 0x30, 0x36], chainId := [] }

instance : DecidablePred RawWF := fun r =>
  match r with
  | .vint n v => inferInstanceAs (Decidable (1 ≤ n ∧ n < 2 ^ 61 ∧ v < 2 ^ 64))
  | .len n b => inferInstanceAs (Decidable (1 ≤ n ∧ n < 2 ^ 61 ∧ b.length < 2 ^ 64))
  | .other _ _ => inferInstanceAs (Decidable False)

instance (rs : List Raw) : Decidable (RawsWF rs) := inferInstanceAs (Decidable (∀ r ∈ rs, RawWF r))

instance (t : Tx) : Decidable (TxFits t) :=
  inferInstanceAs (Decidable (RawsWF (rawsOfTx (txToPb t)) ∧ t.type < 2 ^ 32 ∧ t.extraDataType < 2 ^ 32))

theorem witnessTx_valid : TxValid witnessTx := ⟨rfl, rfl, by decide, by intro b hb; cases hb⟩

example : TxFits witnessTx := by decide +kernel

/-- The known finding `tx-roundtrip-socket-request-id-dropped`, as a theorem about the model. -/
theorem tx_lossless_counterexample : ¬ FullStatement_tx_lossless := by
  intro H
  have fits : TxFits witnessTx := by decide +kernel
  have h := H witnessTx fits witnessTx_valid
  rw [tx_roundtrip witnessTx fits] at h
  exact absurd (congrArg Tx.socketRequestId (Outcome.ok.inj h)) (by decide)

/-- What one Marshal/UnMarshal pass makes of an arbitrary in-memory header: hashes are 32 bytes,
    a negative prove value loses its sign (`big.Int.Bytes`), nil `Transactions`/`EvictedTxs`
    become empty slices. -/
def normHeader (h : Header) : Header :=
  { h with hash := bytesToHash h.hash, preHash := bytesToHash h.preHash,
           proveValue := h.proveValue.map (fun v => (v.natAbs : Int)),
           transactions := some ((h.transactions.getD []).map (fun p => (bytesToHash p.1, bytesToHash p.2))),
           txTree := bytesToHash h.txTree, receiptTree := bytesToHash h.receiptTree,
           stateTree := bytesToHash h.stateTree,
           evictedTxs := some ((h.evictedTxs.getD []).map bytesToHash) }

/-- `json.Unmarshal (json.Marshal m) = m` for this RequestIds map. -/
def ReqIdsStable (r : ReqIds) : Prop := decReqIds (encReqIds r) = r

example : ReqIdsStable .nil := by unfold ReqIdsStable; decide +kernel
example : ReqIdsStable (.map []) := by unfold ReqIdsStable; decide +kernel
example : ReqIdsStable (.map [([0x66, 0x69, 0x78, 0x65, 0x64], 1024)]) := by unfold ReqIdsStable; decide +kernel
example : ReqIdsStable (.map [([0x31], 18446744073709551615), ([0x61, 0x62], 0)]) := by
  unfold ReqIdsStable; decide +kernel

/-- Times that `time.MarshalBinary` carries (see `TimeOK`) and a RequestIds map JSON carries. -/
def HeaderOK (h : Header) : Prop := TimeOK h.preTime ∧ TimeOK h.curTime ∧ ReqIdsStable h.requestIds

/-- convert_roundtrip (headers): `PbToBlockHeader (BlockHeaderToPb h) = norm h`. -/
theorem header_convert_roundtrip (h : Header) (ok : HeaderOK h) :
    ∃ p, headerToPb h = some p ∧ pbToHeader p = .ok (normHeader h) := by
  obtain ⟨bp, hbp, hbp'⟩ := binToTime_timeToBin h.preTime ok.1
  obtain ⟨bc, hbc, hbc'⟩ := binToTime_timeToBin h.curTime ok.2.1
  have hr : decReqIds (encReqIds h.requestIds) = h.requestIds := ok.2.2
  refine ⟨_, (by simp only [headerToPb, hbp, hbc]; rfl), ?_⟩
  simp only [pbToHeader, Option.getD_some, hbp', hbc', derefNat_eq, optHash, hr, normHeader, List.map_map, Option.map_map]
  congr 2
  cases h.proveValue with
  | none => rfl
  | some v => simp [beToNat_natToBE]

/-- What the node produces itself (`CastBlock`, `runTransactions`) or obtains by parsing. -/
def Producible (h : Header) : Prop :=
  h.transactions.isSome ∧ h.evictedTxs.isSome ∧ (∀ v, h.proveValue = some v → 0 ≤ v) ∧
  h.hash.length = 32 ∧ h.preHash.length = 32 ∧ h.txTree.length = 32 ∧ h.receiptTree.length = 32 ∧
  h.stateTree.length = 32 ∧ (∀ p ∈ h.transactions.getD [], p.1.length = 32 ∧ p.2.length = 32) ∧
  (∀ x ∈ h.evictedTxs.getD [], x.length = 32)

protected theorem map_fix {α : Type} (f : α → α) (l : List α) (h : ∀ x ∈ l, f x = x) : l.map f = l :=
  (List.map_congr_left h).trans (List.map_id l)

theorem normHeader_of_producible (h : Header) (hp : Producible h) : normHeader h = h := by
  obtain ⟨h1, h2, h3, h4, h5, h6, h7, h8, h9, h10⟩ := hp
  obtain ⟨l, hl⟩ := Option.isSome_iff_exists.mp h1
  obtain ⟨e, he⟩ := Option.isSome_iff_exists.mp h2
  rw [hl] at h9
  rw [he] at h10
  have e1 : h.proveValue.map (fun v => (v.natAbs : Int)) = h.proveValue := by
    cases hv : h.proveValue with
    | none => rfl
    | some v => exact congrArg some (Int.natAbs_of_nonneg (h3 v hv))
  have e2 : l.map (fun p => (bytesToHash p.1, bytesToHash p.2)) = l :=
    C09.map_fix _ l (fun p hp => by rw [bytesToHash_id _ (h9 p hp).1, bytesToHash_id _ (h9 p hp).2])
  have e3 : e.map bytesToHash = e := C09.map_fix _ e (fun x hx => bytesToHash_id _ (h10 x hx))
  simp only [normHeader, bytesToHash_id _ h4, bytesToHash_id _ h5, bytesToHash_id _ h6, bytesToHash_id _ h7,
    bytesToHash_id _ h8, e1, hl, he, Option.getD_some, e2, e3]
  rw [← hl, ← he]

theorem producible_norm (h : Header) : Producible (normHeader h) := by
  refine ⟨rfl, rfl, ?_, bytesToHash_length _, bytesToHash_length _, bytesToHash_length _, bytesToHash_length _,
    bytesToHash_length _, List.forall_mem_map.mpr (fun _ _ => ⟨bytesToHash_length _, bytesToHash_length _⟩),
    List.forall_mem_map.mpr (fun _ _ => bytesToHash_length _)⟩
  intro v hv
  obtain ⟨w, _, rfl⟩ := Option.map_eq_some_iff.mp hv
  exact Int.natCast_nonneg _

/-- The fixed-point law for arbitrary in-memory headers: one pass reaches a fixed point. -/
theorem normHeader_idem (h : Header) : normHeader (normHeader h) = normHeader h :=
  normHeader_of_producible _ (producible_norm h)

/-- hash_stable (headers): for producible headers the pass changes neither content nor hash input. -/
theorem header_hash_stable (h : Header) (hp : Producible h) :
    headerHashInput (normHeader h) = headerHashInput h := by
  rw [normHeader_of_producible h hp]

/-- Everything `MarshalBlockHeader` emits fits the 64-bit framing. -/
def HeaderFits (h : Header) : Prop := ∀ p, headerToPb h = some p → PbHeaderWF p

/-- Marshal then UnMarshal of any in-memory header yields `norm h` (never an error, never nil). -/
theorem header_roundtrip (h : Header) (ok : HeaderOK h) (fits : HeaderFits h) :
    ∃ b, marshalHeader h = some b ∧ unmarshalHeader b = .ok (normHeader h) := by
  obtain ⟨p, hp, hc⟩ := header_convert_roundtrip h ok
  refine ⟨encHeader p, by simp [marshalHeader, hp], ?_⟩
  simp only [unmarshalHeader, decHeader_encHeader p (fits p hp), hc]

/-- The property for headers: a producible header is stored, reloaded or relayed with the same
    content and therefore the same `GenHash`. -/
theorem header_lossless (h : Header) (ok : HeaderOK h) (fits : HeaderFits h) (hp : Producible h) :
    ∃ b, marshalHeader h = some b ∧ unmarshalHeader b = .ok h ∧
      ∀ h', unmarshalHeader b = .ok h' → headerGenHash h' = headerGenHash h := by
  obtain ⟨b, hb, hu⟩ := header_roundtrip h ok fits
  rw [normHeader_of_producible h hp] at hu
  exact ⟨b, hb, hu, fun h' hh => by rw [hu] at hh; cases hh; rfl⟩

theorem pbToHeader_ok (p : PbHeader) (h : Header) (hh : pbToHeader p = .ok h) :
    Producible h ∧ (h.requestIds = .nil ∨ ∃ raw, h.requestIds = decReqIds raw) := by
  revert hh
  fun_cases pbToHeader p <;> intro hh <;> cases hh
  refine ⟨⟨rfl, rfl, ?_, bytesToHash_length _, bytesToHash_length _, bytesToHash_length _,
    bytesToHash_length _, bytesToHash_length _, ?_, ?_⟩, ?_⟩
  · intro v hv
    obtain ⟨w, _, rfl⟩ := Option.map_eq_some_iff.mp hv
    exact Int.natCast_nonneg _
  · exact List.forall_mem_map.mpr (fun _ _ => ⟨bytesToHash_length _, bytesToHash_length _⟩)
  · exact List.forall_mem_map.mpr (fun _ _ => bytesToHash_length _)
  · cases p.requestIds with
    | none => exact Or.inl rfl
    | some raw => exact Or.inr ⟨raw, rfl⟩

/-- producible_of_parsed: whatever `PbToBlockHeader` returns is producible (so a header obtained by
    parsing is a fixed point of the next pass as soon as its times and RequestIds are carried). -/
theorem producible_of_parsed (p : PbHeader) (h : Header) (hh : pbToHeader p = .ok h) : Producible h :=
  (pbToHeader_ok p h hh).1

theorem unmarshalHeader_ok (bs : Bytes) (h : Header) (hu : unmarshalHeader bs = .ok h) :
    ∃ p, pbToHeader p = .ok h := by
  revert hu
  fun_cases unmarshalHeader bs <;> intro hu
  · cases hu
  · cases hu
  · cases hu
  · exact ⟨_, hu⟩

/-- prove_value_transport, the byte level only: the bytes `BlockHeaderToPb` writes for a prove value
    (`natToBE`, `big.Int.Bytes`) are read back by `PbToBlockHeader` (`beToNat`, `SetBytes`) as the same integer, and so
    are they behind any number of leading zero bytes. The converters do not occur here: the prove value through
    them is part of `header_convert_roundtrip`. -/
theorem prove_value_transport (v : Nat) (zeros : Nat) :
    beToNat (natToBE v) = v ∧ beToNat (List.replicate zeros 0 ++ natToBE v) = v :=
  ⟨beToNat_natToBE v, (beToNat_zeros_append zeros _).trans (beToNat_natToBE v)⟩

end Rangers.Props.C09
