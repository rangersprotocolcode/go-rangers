import Rangers.Model.Round
import Rangers.Generated.C15Facts
import Rangers.Proofs.Round
import Rangers.Proofs.RoundSrc
/-!
C15 — verifiers count only signature shares valid for the block being signed.

Theorems are about `Rangers.Model.Round` (the model the driver `drv_c15` executes),
instantiated with the facts the translator re-reads from the source on every run
(`Rangers.Generated.C15Facts`, through `FromSource`). Cryptography is an oracle `Crypto G`; nothing is
assumed of it in this file (`Lawful`, C13 + C14, enters in `Props/C15B`).
-/
namespace Rangers.Props.C15
open Rangers.Model.Round Rangers.Proofs.Round
open Rangers.Generated

variable {G : Type}

/-- `Proofs.Round.GenOk` written out, so that the statement of clause 1 mentions the model alone. -/
def SharesValid (c : Crypto G) (env : Env) (d : Data) (g : Gen G) : Prop :=
  (∀ e ∈ g.witness, e.1 ∈ env.pkKnown ∧ c.verify e.1 d e.2 = true) ∧ (g.witness.map (·.1)).Nodup

/-- Clause 1 (full strength, no cryptographic assumption): for every
oracle, every stored early message, every sequence of packets in any order and
with any content, and any answers of the chain stub, every entry of `gSign` is
the sender's valid share for `bh.Hash`, every entry of `rSign` the sender's valid
share for `preBH.Random`, senders have a registered key, none appears twice. -/
theorem only_valid_shares (c : Crypto G) (env : Env) (hsrc : FromSource env)
    (future : List (VMsg G)) (ws : List (Bool × Wire G)) :
    let st := (Proc.runX c env (Proc.init c env future) ws).party.rs
    SharesValid c env env.hash st.gSign ∧ SharesValid c env env.prevRandom st.rSign := by
  intro st
  have hb := fromSource_binds hsrc
  have h : Inv c env st := runX_kept (Inv.kept c env hb) ws _ (initWith_kept (Kept.plain (Inv.kept c env hb)) [] future)
  exact ⟨⟨h.g.valid, h.g.nodup⟩, ⟨h.r.valid, h.r.nodup⟩⟩

/-- The same statement for a handler that does *not* compare `dataHash` with the block hash
(`bindsHash := false`; `fixed:` entry 988b5b3 of known-findings.txt). -/
def FullStatementUnbound : Prop :=
  ∀ (c : Crypto Sym) (env : Env), env.bindsHash = false →
    ∀ (future : List (VMsg Sym)) (ws : List (Bool × Wire Sym)),
      SharesValid c env env.hash (Proc.runX c env (Proc.init c env future) ws).party.rs.gSign

/-- Without the binding check the invariant is false: the foreign share is counted. -/
theorem only_valid_shares_unbound_counterexample : ¬ FullStatementUnbound := by
  intro h
  have := (h (symCrypto 2 [0, 1, 2]) leadEnv rfl [] [(false, .ok leadMsg)]).1 (0, .share 0 2) (by decide +kernel)
  exact absurd this.2 (by decide)

/-- Non-vacuity: the handler with the binding check ignores the message on the same input. -/
example : (Proc.runX (symCrypto 2 [0, 1, 2]) { leadEnv with bindsHash := true }
    (Proc.init (symCrypto 2 [0, 1, 2]) { leadEnv with bindsHash := true } [])
    [(false, .ok leadMsg)]).party.rs.gSign.witness = [] := by decide +kernel

theorem non_member_ignored (c : Crypto G) (env : Env) (st : RState G) (m : VMsg G)
    (h : m.signer ∉ env.pkKnown) : (update c env st m).st = st :=
  update_rejected st fun a => h a.member

theorem other_hash_ignored (c : Crypto G) (env : Env) (hsrc : FromSource env) (st : RState G) (m : VMsg G)
    (h : m.dataHash ≠ env.hash) : (update c env st m).st = st :=
  update_rejected st fun a => h (a.bound (fromSource_binds hsrc))

/-- A share that does not verify under the sender's key for the block hash changes nothing
(replayed share of another member, garbage point, share over another hash filed as this one). -/
theorem bad_share_ignored (c : Crypto G) (env : Env) (hsrc : FromSource env) (st : RState G) (m : VMsg G)
    (h : c.verify m.signer env.hash m.sig = false) : (update c env st m).st = st := by
  refine update_rejected st fun a => ?_
  have hs := a.share
  rw [a.bound (fromSource_binds hsrc), h] at hs
  cases hs

theorem bad_beacon_share_ignored (c : Crypto G) (env : Env) (st : RState G) (m : VMsg G)
    (h : c.isNil m.rand = true ∨ c.verify m.signer env.prevRandom m.rand = false) :
    (update c env st m).st = st := by
  refine update_rejected st fun a => ?_
  rcases h with h | h
  · rw [a.beaconNonNil] at h; cases h
  · rw [a.beacon] at h; cases h

theorem duplicate_ignored (c : Crypto G) (env : Env) (st : RState G) (m : VMsg G)
    (h : st.gSign.has m.signer = true) : (update c env st m).st = st :=
  update_refused env (.inr h)

/-- A packet that does not decode (protobuf error, missing `Sign`, empty `DataSign`) changes nothing. -/
theorem undecodable_ignored (c : Crypto G) (env : Env) (pr : Proc G) (w : Wire G) (h : decode w = none) :
    (pr.deliver c env w).1 = pr := by
  unfold Proc.deliver
  rw [h]

/-- A message filed under any other block hash never reaches the round: the round state is untouched. -/
theorem misfiled_never_reaches_round (c : Crypto G) (env : Env) (pr : Proc G) (m : VMsg G)
    (h : m.blockHash ≠ env.hash) : (pr.onVerify c env m).1.party = pr.party := by
  obtain ⟨s, e⟩ := onVerify_skip c env pr m fun e => absurd e h
  rw [e]

end Rangers.Props.C15
