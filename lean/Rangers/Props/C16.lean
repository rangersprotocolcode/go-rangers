import Mathlib.Data.ZMod.Basic
import Rangers.Model.Vrf
import Rangers.Proofs.C16Bytes
import Rangers.Proofs.C16Vrf
/-!
C16: proof framing, header transport, completeness and determinism of the VRF.

The theorems are about `Model.Vrf.proveWith` / `verifyWith` — the functions the
driver executes at `ed25519Ops` — for EVERY interface `o` satisfying `Lawful o`
(group laws; for the concrete curve that is the trusted base, see design/C16.md).
-/
namespace Rangers.Props.C16
open Rangers Rangers.Model Rangers.Model.Vrf Rangers.Proofs.C16Bytes Rangers.Proofs.C16Vrf

/-- An 80-byte proof stored as the header's big integer and read back
    (`ProveValue.Bytes()`, which drops leading zero bytes) is restored exactly by
    `tryZeroPadding`. -/
theorem transport_roundtrip (pi : Bytes) (h : pi.length = proveSize) :
    tryZeroPadding (ofBig (toBig pi)) = pi :=
  pad_ofBig_toBig pi h

/-- non-vacuity: transport really shortens a proof that starts with zero bytes -/
example : (ofBig (toBig (0 :: 0 :: List.replicate 78 7))).length = 78 := by
  unfold ofBig toBig; rw [natToBE_beToNat]; decide

theorem transport_verify {P : Type} (o : Ops P) (pk pi m : Bytes) (h : pi.length = proveSize) :
    verifyWith o pk (ofBig (toBig pi)) m = verifyWith o pk pi m :=
  verifyWith_transport o pk pi m (Nat.le_of_eq h)

/-- `verifyBlockVRF`'s VRF step on the header value equals `ECVRFVerify` on the proposer's proof. -/
theorem header_verify_eq (pk pi m : Bytes) (h : pi.length = proveSize) :
    verifyHeader pk (toBig pi) m = verify pk pi m :=
  transport_verify ed25519Ops pk pi m h

/-- The lottery output survives transport: both the qualification rule
    (`outputOf`) and `VRFProve2Value` read `pi[:32]` of the original proof. -/
theorem output_survives_transport (pi : Bytes) (h : pi.length = proveSize) :
    outputOf (ofBig (toBig pi)) = pi.take 32 ∧
    prove2Value (toBig pi) = some (beToNat (pi.take 32)) := by
  have hl : ¬ pi.length < 32 := by simp [proveSize] at h; omega
  constructor
  · unfold outputOf; rw [transport_roundtrip pi h]
  · unfold prove2Value proof2Hash
    rw [transport_roundtrip pi h]
    simp [hl]

/-- Without the padding in `VRFProve2Value` (`fixed:` entry f6cd83c of known-findings.txt) a proof
    with a leading zero byte gets a different value. -/
theorem prove2Value_unpadded_differs :
    ∃ pi : Bytes, pi.length = proveSize ∧
      prove2ValueUnpadded (toBig pi) ≠ some (beToNat (pi.take 32)) :=
  ⟨0 :: List.replicate 79 1, by decide, by
    unfold prove2ValueUnpadded ofBig toBig; rw [natToBE_beToNat]; decide⟩

/-- The slicing of `decodeProof` can never go out of range: every caller pads first. -/
theorem verify_slices_total (pi : Bytes) : slices (tryZeroPadding pi) ≠ none := by
  rw [slices_of_len (pad_length_ge pi)]; simp

/-- The framing loses nothing: two 80-byte proofs with the same three slices are equal
    (no bit of the proof is ignored by `decodeProof`). -/
theorem slices_injective (p q : Bytes) (hp : p.length = proveSize) (hq : q.length = proveSize)
    (h : slices p = slices q) : p = q := by
  have h80 : proveSize = 80 := rfl
  rw [slices_of_len (by omega), slices_of_len (by omega)] at h
  simp only [Option.some.injEq, Prod.mk.injEq] at h
  obtain ⟨h1, h2, h3⟩ := h
  have e : ∀ r : Bytes, r.length = 80 →
      r = r.take 32 ++ ((r.drop 32).take 16 ++ (r.drop 48).take 32) := by
    intro r hr
    have h48 : r.drop 48 = (r.drop 32).drop 16 := by rw [List.drop_drop]
    have hl : (r.drop 48).length = 32 := by simp [hr]
    calc r = r.take 32 ++ r.drop 32 := (List.take_append_drop 32 r).symm
      _ = r.take 32 ++ ((r.drop 32).take 16 ++ (r.drop 32).drop 16) := by
        rw [List.take_append_drop 16 (r.drop 32)]
      _ = r.take 32 ++ ((r.drop 32).take 16 ++ (r.drop 48).take 32) := by
        have ht : (r.drop 48).take 32 = r.drop 48 := List.take_of_length_le (by omega)
        rw [ht, h48]
  rw [e p (by omega), e q (by omega), h1, h2, h3]

/-- Completeness: an honestly generated proof verifies under the matching public
    key for that message (algebra: `U = sB − cY = kB`, `V = sH − cΓ = kH`). -/
theorem prove_verifies {P : Type} [AddCommGroup P] (o : Ops P) (law : Lawful o) (sk m pi : Bytes)
    (hpk : sk.drop 32 = o.encode (o.smulBase (o.expandSecret sk).1))
    (h : proveWith o sk m = .ok pi) :
    verifyWith o (sk.drop 32) pi m = .ok true := by
  obtain ⟨hlen, rfl⟩ := proveWith_ok h
  have key := verifyParts_shifted o law (sk.drop 32) m (o.expandSecret sk).1
    (o.nonce (o.expandSecret sk).2 (o.hashToCurve m (sk.drop 32))) 0 (by simp [hlen]) hpk (by simp)
  simp only [add_zero] at key
  exact (verifyWith_three o (sk.drop 32) m _ _ _ (law.encode_len _) (chal_length law _ _ _ _)
    (respond_length o _ _ _)).trans key

/-- … and still verifies after being carried as the header's big integer. -/
theorem prove_verifies_after_transport {P : Type} [AddCommGroup P] (o : Ops P) (law : Lawful o)
    (sk m pi : Bytes)
    (hpk : sk.drop 32 = o.encode (o.smulBase (o.expandSecret sk).1))
    (h : proveWith o sk m = .ok pi) :
    verifyWith o (sk.drop 32) (ofBig (toBig pi)) m = .ok true := by
  have hlen : pi.length = proveSize := by
    rw [(proveWith_ok h).2]
    exact honestProof_length law.encode_len law.hash_len _ _ _ _
  rw [transport_verify o _ pi m hlen]
  exact prove_verifies o law sk m pi hpk h

/-- Proof generation is a function of `(sk, m)` only: there is no other input
    (no randomness, no state) in `ECVRFProve`. -/
theorem prove_deterministic {P : Type} (o : Ops P) (sk m pi pi' : Bytes)
    (h : proveWith o sk m = .ok pi) (h' : proveWith o sk m = .ok pi') : pi = pi' := by
  rw [h] at h'; injection h'

end Rangers.Props.C16
