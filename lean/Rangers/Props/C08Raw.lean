import Rangers.Model.RLP
import Rangers.Proofs.RLPItem
/-!
# C08 — raw.go agrees with the item decoder (`raw_agrees`)

`Split`, `SplitString`/`SplitList` and `CountValues` (the functions the trie uses) cut a byte
string at exactly the item boundaries the generic decoder finds, and count exactly its items.
-/
namespace Rangers.Props.C08
open Rangers Rangers.RLP

/-- `Split` finds the same boundary as the decoder: same rest, the input is the canonical encoding of
    the decoded item followed by that rest, and the kind is `list` exactly for a list item.  Nothing is
    said about the content `c`. -/
theorem split_agrees (b : Bytes) (it : Item) (rest : Bytes) (h : decodeItem b = .ok (it, rest)) :
    ∃ k c, split b = .ok (k, c, rest) ∧ b = encode it ++ rest ∧
      (k = .list ↔ ∃ xs, it = .list xs) := by
  -- `decodeItem b` is `decItemF (itemFuel b) b`, and `itemFuel b` is the successor of `2 * b.length + 1`
  obtain ⟨k, c, hk, hc⟩ := decItemF_succ_ok (f := 2 * b.length + 1) h
  refine ⟨k, c, hk, (decItemF_ok_iff.1 h).1, ?_⟩
  rcases hc with ⟨rfl, xs, _, rfl⟩ | ⟨hk', rfl⟩
  · exact ⟨fun _ => ⟨xs, rfl⟩, fun _ => rfl⟩
  · exact ⟨fun h => absurd h hk', nofun⟩

/-- Where the decoder returns a list, `SplitList` returns the encoding of its elements and the same rest
    (one direction only: `Split` does not look inside, so it also accepts lists whose elements the
    decoder rejects). -/
theorem splitList_agrees (b : Bytes) (xs : List Item) (rest : Bytes) (h : decodeItem b = .ok (.list xs, rest)) :
    splitList b = .ok (encodeList xs, rest) := by
  obtain ⟨k, c, hk, hc⟩ := decItemF_succ_ok (f := 2 * b.length + 1) h
  rcases hc with ⟨rfl, ys, hd, hys⟩ | ⟨_, hstr⟩
  · cases hys
    simp only [splitList, hk, ne_eq, not_true_eq_false, if_false, ← (decItemsF_ok_iff.1 hd).1]
  · cases hstr

theorem countValuesF_cons (f : Nat) (x : UInt8) (tl : Bytes) (i : Nat) :
    countValuesF (f + 1) (x :: tl) i = (split (x :: tl)).bind fun r => countValuesF f r.2.2 (i + 1) := by
  rw [countValuesF]
  unfold split
  cases readKind (x :: tl) <;> rfl

theorem countF_ok : ∀ f g (b : Bytes) (xs : List Item) (i : Nat), decItemsF f b = .ok xs → b.length + 1 ≤ g →
    countValuesF g b i = .ok (i + xs.length) := by
  intro f
  induction f with
  | zero => nofun
  | succ f ih =>
    intro g b xs i h hg
    cases g with
    | zero => omega
    | succ g =>
      cases b with
      | nil => cases h; rfl
      | cons x tl =>
        rw [decItemsF_cons] at h
        obtain ⟨⟨y, rest⟩, hd, h⟩ := bind_ok_iff.1 h
        obtain ⟨ys, hd2, h⟩ := bind_ok_iff.1 h
        cases h
        -- the first item ends where `Split` cuts
        obtain ⟨k, c, hk⟩ : ∃ k c, split (x :: tl) = .ok (k, c, rest) := by
          cases f with
          | zero => cases hd
          | succ f' => obtain ⟨k, c, hk, _⟩ := decItemF_succ_ok hd; exact ⟨k, c, hk⟩
        have hlen : rest.length + 1 ≤ g := by
          have hl := congrArg List.length (decItemF_ok_iff.1 hd).1
          have : 0 < (encode y).length := List.length_pos_iff.2 (encode_ne_nil y)
          simp only [List.length_append, List.length_cons] at hl hg
          omega
        rw [countValuesF_cons, hk]
        show countValuesF g rest (i + 1) = _
        rw [ih g rest ys (i + 1) hd2 hlen, List.length_cons, Nat.add_assoc, Nat.add_comm 1]

/-- `CountValues` on a list payload the decoder accepts returns the number of decoded items. -/
theorem count_agrees (b : Bytes) (xs : List Item) (f : Nat) (h : decItemsF f b = .ok xs) :
    countValues b = .ok xs.length := by
  unfold countValues
  have := countF_ok f (b.length + 1) b xs 0 h (Nat.le_refl _)
  simpa using this

set_option maxRecDepth 8192 in
example : split [0xc2, 0x01, 0x80, 0x05] = .ok (.list, [0x01, 0x80], [0x05]) := by rfl
set_option maxRecDepth 8192 in
example : countValues [0x01, 0x80, 0xc0] = .ok 3 := by rfl

end Rangers.Props.C08
