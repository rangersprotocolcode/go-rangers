import Rangers.Model.RLPTyped
import Rangers.Proofs.RLPTypedComplete
import Rangers.Proofs.RLPTypedFuel
import Rangers.Generated.C08Types
/-!
# C08 — typed coders: lossless ("encoding any supported value and decoding returns an equal value")

`typed_roundtrip_fuel`: for every type and every well-formed value `v` of it (`WFV`), decoding the
encoding returns `norm ty v` and exactly the bytes that followed — `norm` maps nil pointers,
nil `*big.Int` and nil `interface{}` to the zero value (documented Go-RLP behaviour) and is the
identity on everything else; on the node's own types it is the identity (`*_norm_id`).
-/
namespace Rangers.Props.C08
open Rangers Rangers.RLP Rangers.Generated.C08

/-- Lossless, with the recursion fuel explicit: any fuel ≥ `vfuel v + 1` works, where `vfuel v`
    (`Proofs/RLPTypedRT`) is a generous bound on the recursion depth computed from the value alone. -/
theorem typed_roundtrip_fuel (ty : Ty) (v : Val) (enc rest : Bytes) (f : Nat)
    (hwf : WFV ty v) (henc : encT ty v = .ok enc) (hf : vfuel v + 1 ≤ f) :
    decT f ty (enc ++ rest) = .ok (norm ty v, rest) :=
  (typed_complete f).1 ty v enc rest hwf henc (by cases ty <;> simp only [anyExtra] <;> omega)

/-- Total: the typed decoder's recursion fuel is never the reason for a rejection. -/
theorem decodeTy_total (ty : Ty) (b : Bytes) : decodeTy ty b ≠ .error .fuel := by
  unfold decodeTy
  have := typed_fuel_suffices ty b
  cases hd : decT (typedFuel ty b) ty b with
  | error e => simp only; intro h; injection h with h; subst h; exact this hd
  | ok r => obtain ⟨v, rest⟩ := r; simp only; split <;> simp

/-- Lossless at the level of `DecodeBytes`/`EncodeToBytes`: for every type and every well-formed
    value, decoding the encoding returns the (normalised) value. -/
theorem typed_roundtrip (ty : Ty) (v : Val) (enc : Bytes) (hwf : WFV ty v) (henc : encT ty v = .ok enc) :
    decodeTy ty enc = .ok (norm ty v) := by
  have h1 := typed_roundtrip_fuel ty v enc [] (vfuel v + 1) hwf henc (Nat.le_refl _)
  rw [List.append_nil] at h1
  exact decodeTy_ok_iff.2 (decT_typedFuel h1)

-- non-vacuity: a well-formed account record
example : WFV account_Account (.list [.num 7, .bytes (List.replicate 32 0xab), .bytes [0x01, 0x02]]) := by
  refine ⟨⟨⟨Or.inr (Or.inr (Or.inr rfl)), by decide⟩, ⟨rfl, by decide⟩, show [(0x01 : UInt8), 0x02].length < 2 ^ 64 by decide, trivial⟩,
    fun p hp => ?_⟩
  cases hp
  decide

theorem norm_leaf_id (ty : Ty) (v : Val)
    (h : ty = .uint 8 ∨ ty = .uint 16 ∨ ty = .uint 32 ∨ ty = .uint 64 ∨ ty = .bool ∨ ty = .str ∨ ty = .bytes ∨ ty = .raw
         ∨ (∃ n, ty = .barr n)) : norm ty v = v := by
  rcases h with h | h | h | h | h | h | h | h | ⟨n, h⟩ <;> subst h <;> exact norm_leaf rfl (by nofun) v

theorem account_norm_id (v : Val) (h : WFV account_Account v) : norm account_Account v = v := by
  unfold account_Account
  cases v with
  | list vs =>
    simp only [norm]
    rw [normF_none_id]
    intro p hp
    simp only [List.mem_cons, List.not_mem_nil, or_false] at hp
    rcases hp with rfl | rfl | rfl <;> exact ⟨rfl, fun v => norm_leaf_id _ v (by simp)⟩
  | _ => rfl

/-- account records round-trip exactly -/
theorem account_roundtrip (v : Val) (enc : Bytes) (hwf : WFV account_Account v)
    (henc : encT account_Account v = .ok enc) : decodeTy account_Account enc = .ok v := by
  have := typed_roundtrip _ v enc hwf henc
  rwa [account_norm_id v hwf] at this

theorem norm_big_id (p : Val) (h : p ≠ .nil) : norm .big p = p := by
  cases p <;> simp [norm] at h ⊢

/-- `norm` is the identity on `eth_tx.txdata` values whose five `*big.Int` fields are set (what
    `eth_tx.newTransaction` guarantees: it allocates all of them); the recipient may be nil
    (contract creation) or an address. -/
theorem txdata_norm_id (n p g r a pl v' r' s' : Val) (h : WFV eth_tx_txdata (.list [n, p, g, r, a, pl, v', r', s']))
    (hp : p ≠ .nil) (ha : a ≠ .nil) (hv : v' ≠ .nil) (hr : r' ≠ .nil) (hs : s' ≠ .nil) :
    norm eth_tx_txdata (.list [n, p, g, r, a, pl, v', r', s']) = .list [n, p, g, r, a, pl, v', r', s'] := by
  unfold eth_tx_txdata at h ⊢
  obtain ⟨hf, _⟩ := h
  have hu : ∀ x, norm (.uint 64) x = x := fun x => norm_leaf_id _ x (by simp)
  have hby : ∀ x, norm .bytes x = x := fun x => norm_leaf_id _ x (by simp)
  have hba : ∀ x, norm (.barr 20) x = x := fun x => norm_leaf_id _ x (by simp)
  cases r with
  | nil => simp [norm, normF, hu, hby, norm_big_id, hp, ha, hv, hr, hs]
  | some x => simp [norm, normF, hu, hby, hba, norm_big_id, hp, ha, hv, hr, hs]
  | num _ => exact hf.2.2.2.elim
  | bool _ => exact hf.2.2.2.elim
  | bytes _ => exact hf.2.2.2.elim
  | list _ => exact hf.2.2.2.elim

/-- a byte-string leaf of an `interface{}` value is unchanged by `norm` (whole trees: `norm_any_ofItem`) -/
theorem any_bytes_norm_id (b : Bytes) : norm .any (.bytes b) = .bytes b := by simp only [norm]

theorem normL_raw_id : ∀ vs : List Val, normL .raw vs = vs :=
  normL_id (norm_leaf rfl (by nofun))

/-- RawValue elements at every position of a list round-trip exactly: a `[]RawValue` whose elements
    are each one well-formed item (the empty string `80` and the empty list `c0` included, anywhere)
    decodes from its encoding to itself. -/
theorem raw_slice_roundtrip (vs : List Val) (enc : Bytes) (hwf : WFV (.slice .raw) (.list vs))
    (henc : encT (.slice .raw) (.list vs) = .ok enc) : decodeTy (.slice .raw) enc = .ok (.list vs) := by
  have := typed_roundtrip (.slice .raw) (.list vs) enc hwf henc
  rwa [norm, normL_raw_id] at this

set_option maxRecDepth 16384 in
example : decodeTy (.slice .raw) [0xc3, 0x80, 0xc0, 0x05] = .ok (.list [.bytes [0x80], .bytes [0xc0], .bytes [0x05]]) := by rfl

end Rangers.Props.C08
