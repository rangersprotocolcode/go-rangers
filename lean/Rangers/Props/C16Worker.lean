import Rangers.Model.VrfWorker
import Rangers.Generated.C16Sites
/-!
C16: the VRF worker's status logic, as far as it bears on the statement
(a proof is used only for the block/height it was made for).
-/
namespace Rangers.Props.C16Worker
open Rangers Rangers.Model.VrfWorker

/-- The status only moves forward (prove → proposed → success), whatever events arrive. -/
theorem status_monotone (w : Worker) (evs : List Ev) : w.status.code ≤ (run w evs).status.code := by
  induction evs generalizing w with
  | nil => exact Nat.le_refl _
  | cons e es ih =>
    have h1 : w.status.code ≤ (step w e).status.code := by
      cases e <;> simp only [step, markProposed, markSuccess, cas] <;> split <;>
        simp_all [Status.code]
    exact Nat.le_trans h1 (ih (step w e))

theorem binding_invariant (w : Worker) (evs : List Ev) :
    (run w evs).baseHash = w.baseHash ∧ (run w evs).castHeight = w.castHeight ∧
    (run w evs).expire = w.expire := by
  induction evs generalizing w with
  | nil => exact ⟨rfl, rfl, rfl⟩
  | cons e es ih =>
    have h1 : (step w e).baseHash = w.baseHash ∧ (step w e).castHeight = w.castHeight ∧
        (step w e).expire = w.expire := by
      cases e <;> simp only [step, markProposed, markSuccess, cas] <;> split <;> simp
    obtain ⟨a, b, c⟩ := ih (step w e)
    exact ⟨a.trans h1.1, b.trans h1.2.1, c.trans h1.2.2⟩

/-- `success` is reached only through `proposed`: from `prove`, `markSuccess` alone does nothing. -/
theorem success_needs_proposed (w : Worker) (h : w.status = .prove) :
    (markSuccess w).status = .prove ∧ (markSuccess (markProposed w)).status = .success := by
  simp [markSuccess, markProposed, cas, h]

/-- The guard accepts only the block hash and height the worker was created for, and never
    after expiry — in any status, after any events. -/
theorem workingOn_sound (w : Worker) (evs : List Ev) (hash : Bytes) (ht : Nat) (now : Int)
    (h : workingOn (run w evs) hash ht now = true) :
    hash = w.baseHash ∧ ht = w.castHeight ∧ now ≤ w.expire := by
  obtain ⟨a, b, c⟩ := binding_invariant w evs
  unfold workingOn timeout at h
  simp only [Bool.and_eq_true, beq_iff_eq, Bool.not_eq_true', decide_eq_false_iff_not] at h
  rw [a, b, c] at h
  exact ⟨h.1.1, h.1.2, by omega⟩

/-- non-vacuity: a worker that is working on its block before expiry -/
example : workingOn (run ⟨[1, 2], 7, 100, .prove⟩ [.markProposed, .markSuccess]) [1, 2] 7 100 = true ∧
    (run ⟨[1, 2], 7, 100, .prove⟩ [.markProposed, .markSuccess]).status = .success := by decide

/-- T-gen: constants, CAS arguments and guard expression of vrf_worker.go are what the model transcribes -/
theorem worker_source_facts :
    Generated.C16Sites.workerConsts = ["prove=0", "proposed=1", "success=2"] ∧
    Generated.C16Sites.markProposedCAS = ["prove", "proposed"] ∧
    Generated.C16Sites.markSuccessCAS = ["proposed", "success"] ∧
    Generated.C16Sites.workingOnExpr =
      "bh.Hash == vrf.baseBH.Hash && castHeight == vrf.castHeight && !vrf.timeout()" ∧
    Generated.C16Sites.timeoutExpr = "utility.GetTime().After(vrf.expire)" := ⟨rfl, rfl, rfl, rfl, rfl⟩

end Rangers.Props.C16Worker
