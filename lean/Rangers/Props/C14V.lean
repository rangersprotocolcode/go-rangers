import Rangers.Proofs.Bls14Twist
import Rangers.Props.C14W
import Rangers.Props.C14T
/-!
# C14 — the model's G2 arithmetic is the group law of the twist

GF(p²) is `QuadraticAlgebra (ZMod p) (-1) 0` — a field because `p ≡ 3 (mod 4)` — and the twist
`y² = x³ + 3/ξ` over it is a Mathlib `WeierstrassCurve`. `Pt2.neg / add / double / mul` (tied to
`G2.Neg / Add / ScalarMult` by the correspondence run) are its group operations; in particular the
twist is CLOSED under them, so the public-key round-trip theorems of `Props/C14T` hold here without
their "on the twist" hypothesis (`…_roundtrip_full`), and the key pair `(sk, sk·g₂)` of
`GeneratePubkey` satisfies the `Honest` relation of `Props/C14U` by proof.
Hypothesis: `p` prime (as in C14W).

`g2_*_is_group_law`, `g2_mul_is_scalar_mul`, `g2_meaning_injective` give the property's names to
`ι₂_neg`, `ι₂_add`, `ι₂_mul`, `ι₂_inj` of `Proofs/Bls14Twist.lean`; build on the `ι₂_*` lemmas.
-/
namespace Rangers.Props.C14
open Rangers Rangers.Model.Bls14 Rangers.Proofs.Bls14

variable [hp : Fact (Nat.Prime P)]

theorem g2_neg_is_group_law (a : Pt2) (ha : Valid2 a) : Valid2 a.neg ∧ ι₂ a.neg = -ι₂ a :=
  ι₂_neg a ha

/-- `Pt2.add` — chord, tangent, opposite points, identity — is the group law of the twist, and the
    twist is closed under it. -/
theorem g2_add_is_group_law (a b : Pt2) (ha : Valid2 a) (hb : Valid2 b) :
    Valid2 (a.add b) ∧ ι₂ (a.add b) = ι₂ a + ι₂ b :=
  ι₂_add a b ha hb

theorem g2_mul_is_scalar_mul (a : Pt2) (ha : Valid2 a) (k : ℕ) (hk : k < 2 ^ 512) :
    Valid2 (Pt2.mul a k) ∧ ι₂ (Pt2.mul a k) = k • ι₂ a :=
  ι₂_mul a ha k hk

theorem g2_meaning_injective (a b : Pt2) (ha : Valid2 a) (hb : Valid2 b) (h : ι₂ a = ι₂ b) : a = b :=
  ι₂_inj a b ha hb h

omit hp in
theorem g2Gen_valid : Valid2 g2Gen := ⟨by decide, by decide⟩

/-- Every key `GeneratePubkey` produces is a point of the twist with reduced coordinates. -/
theorem generated_pubkey_valid (sk : ℕ) (hsk : sk < 2 ^ 512) : Valid2 (Pt2.mul g2Gen sk) :=
  (ι₂_mul g2Gen g2Gen_valid sk hsk).1

/-- `generated_pubkey_roundtrip` at full strength: for every secret key, the generated public
    key survives `Serialize` / `ByteToPublicKey` — unless it is the identity (the key of `sk ≡ 0`),
    which is the one value that does not (`identity_pubkey_not_roundtrip`). No "on the twist"
    hypothesis. -/
theorem generated_pubkey_roundtrip_full (sk : ℕ) (hsk : sk < 2 ^ 512)
    (hne : Pt2.mul g2Gen sk ≠ .inf) :
    byteToPublicKey (Pub.serialize (generatePubkey sk)) = generatePubkey sk := by
  have hv := generated_pubkey_valid sk hsk
  cases h : Pt2.mul g2Gen sk with
  | inf => exact absurd h hne
  | aff x y =>
    rw [h] at hv
    exact generated_pubkey_roundtrip sk x y (by simp [generatePubkey, h]) hv.1

example : Pt2.mul g2Gen 1 ≠ .inf := by decide +kernel

/-- Aggregates of valid keys are valid, and survive the round trip unless they are the identity. -/
theorem aggregated_pubkey_roundtrip_full (p : Pt2) (ps : List Pt2) (hp' : Valid2 p)
    (hps : ∀ q ∈ ps, Valid2 q) (r : Pt2) (h : aggregatePubkeys (p :: ps) = some r) :
    Valid2 r ∧ (r ≠ .inf → byteToPublicKey (Pub.serialize (.pt r)) = .pt r) := by
  have hv : Valid2 r := by
    simp only [aggregatePubkeys, Option.some.injEq] at h
    subst h
    exact List.foldlRecOn (motive := Valid2) _ _ hp' fun s hs q hq => (ι₂_add s q hs (hps q hq)).1
  refine ⟨hv, fun hne => ?_⟩
  cases r with
  | inf => exact absurd rfl hne
  | aff x y => exact pubkey_roundtrip_of_reduced x y hv.2 hv.1

section pairing
variable {GT : Type} [CommGroup GT]
  (e : W.Point → W2.Point → GT) (bil : Bilinear e) (nd : ∀ a, e a (ι₂ g2Gen) = 1 → a = 0)

/-- **The key pair of the node verifies its own signatures.** Both groups are the real ones
    (Mathlib's curve and twist), the key is what `GeneratePubkey` computes, the signature what
    `Sign` computes; ASSUMED is only the pairing (bilinear, trivial kernel against `g₂`). -/
theorem keypair_verifies (sk : ℕ) (hsk : sk < 2 ^ 512) (hm : Pt) (hv : Valid hm) :
    verifySig (curveInterp e bil ι₂ nd).pairEq hm (generatePubkey sk) (sign sk hm) = .accept :=
  sign_verifies e bil ι₂ nd sk hsk hm hv (Pt2.mul g2Gen sk) (ι₂_mul g2Gen g2Gen_valid sk hsk).2

/-- …and nothing else is accepted under that key. -/
theorem keypair_accepts_only_its_signature (sk : ℕ) (hsk : sk < 2 ^ 512) (hm : Pt) (hv : Valid hm)
    (sig : Sig) (hsr : ∀ s, sig = .pt s → s.reduced = true) :
    verifySig (curveInterp e bil ι₂ nd).pairEq hm (generatePubkey sk) sig = .accept ↔ sig = sign sk hm :=
  only_sign_verifies e bil ι₂ nd sk hsk hm hv (Pt2.mul g2Gen sk) (ι₂_mul g2Gen g2Gen_valid sk hsk).2 sig hsr

end pairing

end Rangers.Props.C14
