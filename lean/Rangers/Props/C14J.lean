import Rangers.Proofs.Bls14Jac
import Rangers.Props.C14W
/-!
# C14 — the Jacobian arithmetic the node executes is inside the proof

`Model/Bls14Jac.lean` transcribes `curvePoint.Add / Double / Mul / Neg / MakeAffine` of
`bn256/curve.go` statement by statement (Jacobian `(x, y, z)`, the code's own case analysis,
the extra leading zero bit of `Mul`, the `z == 1` shortcut of `MakeAffine`). For every reduced
input — on the curve or not, normalised or not — the point `Marshal` would write after each
operation is the affine operation of `Model/Bls14G1.lean` on the points `Marshal` would write
for the inputs. With `Props/C14W` (affine model = Mathlib's elliptic-curve group law) the
signature `Sign` computes is `sk • H(m)` in the group, and it verifies.
Hypothesis as in C14W: `p` prime (field inverses).
-/
namespace Rangers.Props.C14
open Rangers Rangers.Model.Bls14 Rangers.Proofs.Bls14

variable [hp : Fact (Nat.Prime P)]

/-- `curvePoint.Add` (add-2007-bl, infinity / doubling / opposite-point exits as coded). -/
theorem jacobian_add_is_affine_add (a b : Jac) (ha : JRed a) (hb : JRed b) :
    (jAdd a b).toPt = Pt.add a.toPt b.toPt ∧ JRed (jAdd a b) :=
  ⟨toPt_jAdd a b ha hb, jAdd_red a b ha hb⟩

/-- `curvePoint.Double` (dbl-2009-l, no special case for infinity or `y = 0`). -/
theorem jacobian_double_is_affine_double (a : Jac) (ha : JRed a) :
    (jDouble a).toPt = Pt.double a.toPt ∧ JRed (jDouble a) :=
  ⟨toPt_jDouble a ha, jDouble_red a⟩

/-- `curvePoint.Neg`. -/
theorem jacobian_neg_is_affine_neg (a : Jac) (ha : JRed a) :
    (jNeg a).toPt = a.toPt.neg ∧ JRed (jNeg a) :=
  ⟨toPt_jNeg a ha, jNeg_red a ha⟩

/-- `curvePoint.Mul`: bits `BitLen … 0`, `t = 2·sum; sum = bit ? t + a : t`, for every scalar. -/
theorem jacobian_mul_is_affine_mul (a : Jac) (ha : JRed a) (k : ℕ) :
    (jMul a k).toPt = Pt.mul a.toPt k :=
  toPt_jMul a ha k

omit hp in
example : JRed (Jac.ofPt g1Gen) ∧ JRed Jac.infinity ∧ JRed ⟨5, 7, 11⟩ := by
  refine ⟨⟨?_, ?_, ?_⟩, ⟨?_, ?_, ?_⟩, ⟨?_, ?_, ?_⟩⟩ <;> decide

/-- What `Sign` computes in Jacobian coordinates serialises to the affine model's signature. -/
theorem sign_as_executed (sk : ℕ) (hm : Pt) (hr : hm.reduced = true) :
    jMarshal (signJ sk hm) = Sig.serialize (sign sk hm) := by
  have h := toPt_ofPt hm hr
  simp only [jMarshal, signJ, Sig.serialize, sign]
  rw [toPt_jMul _ h.2, h.1]

/-- …hence it is `sk • H(m)` in the elliptic-curve group (Mathlib), and a valid point. -/
theorem sign_as_executed_is_scalar_mul (sk : ℕ) (hsk : sk < 2 ^ 512) (hm : Pt) (hv : Valid hm) :
    Valid (signJ sk hm).toPt ∧ ι (signJ sk hm).toPt = sk • ι hm := by
  have h := toPt_ofPt hm hv.2
  simp only [signJ]
  rw [toPt_jMul _ h.2, h.1]
  exact ι_mul hm hv sk hsk

section pairing
variable {G2 GT : Type} [AddCommGroup G2] [CommGroup GT]
  (e : W.Point → G2 → GT) (bil : Bilinear e) (κ : Pt2 → G2) (nd : ∀ a, e a (κ g2Gen) = 1 → a = 0)

/-- **Completeness for the executed code path**: the value `ScalarMult(H(m), sk)` computes in
    Jacobian coordinates, once marshalled and parsed back, is accepted under `pk = sk·g₂`. -/
theorem sign_as_executed_verifies (sk : ℕ) (hsk : sk < 2 ^ 512) (hm : Pt) (hv : Valid hm) (pk : Pt2)
    (hpk : κ pk = sk • κ g2Gen) :
    verifySig (curveInterp e bil κ nd).pairEq hm (.pt pk) (deserializeSign (jMarshal (signJ sk hm)))
      = .accept := by
  rw [sign_as_executed sk hm hv.2]
  have H := sign_is_honest e bil κ nd sk hsk hm hv pk hpk
  have : deserializeSign (Sig.serialize (sign sk hm)) = sign sk hm :=
    sig_roundtrip _ H.onCurve H.reduced
  rw [this]
  exact sign_verifies e bil κ nd sk hsk hm hv pk hpk

end pairing

end Rangers.Props.C14
