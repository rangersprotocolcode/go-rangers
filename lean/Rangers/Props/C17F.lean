import Rangers.Props.C17
import Rangers.Model.PoolChain
/-!
# C17, part F — the chain's side of the contract is a theorem, not a hypothesis

`Props/C17.at_most_once` is about histories that obey `HOp.WF` (receipts belong to the block, a marked block
carries nothing already executed on the chain, only the top block is removed). Here the histories are *produced* by
the model of `AddBlockOnChain` (`Model/PoolChain.lean`, tied to `core.blockChain` by the `chain-reorg` stream: result
code of every delivery and the pool's content afterwards): for **arbitrary** delivered blocks — any parent, weight,
prove value, transactions, skip and evicted lists — every pool call the chain makes is well-formed, so
at-most-once holds for chain-driven histories without any assumption on the blocks.
-/
namespace Rangers.Props.C17F
open Rangers Rangers.Pool Rangers.Pool.Chain Rangers.Props.C17

/-- what the pool is told about a block -/
def toBlock (b : CBlock) : Block := ⟨b.receipts, b.txs, b.evicted⟩

def blocksOf (ch : List CBlock) : List Block := ch.map toBlock

/-- Every receipt `saveStates` hands over belongs to a transaction of the block (`VMExecutor.Execute` appends
transaction and receipt together). -/
theorem receipts_covered (b : CBlock) : Covered b.receipts b.txs := by
  intro h hh
  simp only [CBlock.receipts, List.mem_filter, List.mem_map] at hh
  obtain ⟨⟨t, ht, e⟩, _⟩ := hh
  exact ⟨t, ht, e⟩

theorem executedOn_suffix {a b : List Block} (h : a <:+ b) : ∀ x, x ∈ executedOn a → x ∈ executedOn b := by
  obtain ⟨pre, rfl⟩ := h
  induction pre with
  | nil => intro x hx; exact hx
  | cons p ps ih =>
    intro x hx
    simp only [List.cons_append, executedOn, List.mem_append]
    exact Or.inr (ih x hx)

theorem removeTo_reach (limit : Nat) (anc : Nat) (ch : List CBlock) (p : Pool) (h : Reach limit p (blocksOf ch)) :
    Reach limit (removeTo anc ch p).2 (blocksOf (removeTo anc ch p).1) ∧ (removeTo anc ch p).1 <:+ ch := by
  fun_induction removeTo anc ch p with
  | case1 p => exact ⟨h, List.suffix_refl _⟩
  | case2 b rest p _ => exact ⟨h, List.suffix_refl _⟩
  | case3 b rest p _ ih =>
    obtain ⟨h2, h3⟩ := ih (Reach.step (limit := limit) HOp.remove h trivial)
    exact ⟨h2, h3.trans (List.suffix_cons b rest)⟩

theorem fresh_spec {p : Pool} {b : CBlock} (h : fresh p b = true) : ∀ t ∈ b.txs, t.hash ∉ p.execHashes := by
  intro t ht hm
  simp only [fresh, List.all_eq_true] at h
  have := h t ht
  simp [isExecuted_iff.mpr hm] at this

/-- inserting a block the proposal-008 test let through, on a chain that is a suffix of the one it was tested
against, is a well-formed `mark` -/
theorem insert_reach (limit : Nat) (st : CSt) (b : CBlock) (p0 : Pool) (ch0 : List CBlock)
    (h0 : Reach limit p0 (blocksOf ch0)) (hf : fresh p0 b = true)
    (hs : Reach limit st.pool (blocksOf st.chain)) (hsuf : st.chain <:+ ch0) :
    Reach limit (Chain.insert st b).pool (blocksOf (Chain.insert st b).chain) := by
  obtain ⟨_, hx, _⟩ := history_refines limit p0 (blocksOf ch0) h0
  have hfresh : ∀ t ∈ b.txs, t.hash ∉ executedOn (blocksOf st.chain) := by
    intro t ht hm
    have hsuf' : blocksOf st.chain <:+ blocksOf ch0 := by
      obtain ⟨pre, e⟩ := hsuf
      exact ⟨blocksOf pre, by rw [← e]; simp [blocksOf]⟩
    exact fresh_spec hf t ht ((hx _).mpr (executedOn_suffix hsuf' _ hm))
  exact Reach.step (limit := limit) (HOp.mark (toBlock b)) hs ⟨receipts_covered b, hfresh⟩

theorem addBlock_cases (st : CSt) (b : CBlock) {st' : CSt} {r : Res} (h : addBlock st b = (st', r)) :
    (r ≠ .succ ∧ st'.pool = st.pool ∧ st'.chain = st.chain) ∨
    (r = .succ ∧ fresh st.pool b = true ∧
      (st' = Chain.insert st b ∨
       st' = Chain.insert { st with pool := (removeTo b.pre st.chain st.pool).2, chain := (removeTo b.pre st.chain st.pool).1 } b)) := by
  have fr : ¬ (!fresh st.pool b) = true → fresh st.pool b = true := fun hx => by
    cases hf : fresh st.pool b
    · rw [hf] at hx; exact absurd rfl hx
    · rfl
  obtain rfl : (addBlock st b).1 = st' := congrArg Prod.fst h
  obtain rfl : (addBlock st b).2 = r := congrArg Prod.snd h
  -- every leaf of `AddBlockOnChain` returns the pool and chain it was given, except the three that insert (leaves counted
  -- in the order of the definition's text)
  fun_cases addBlock st b
  case case5 => exact Or.inr ⟨rfl, fr ‹_›, Or.inl rfl⟩   -- `b` extends the head
  case case7 => exact Or.inr ⟨rfl, fr ‹_›, Or.inr rfl⟩   -- heavier fork: after `removeFromCommonAncestor`
  case case10 => exact Or.inr ⟨rfl, fr ‹_›, Or.inr rfl⟩  -- equal weight, the local block does not beat `b`: likewise
  all_goals exact Or.inl ⟨(fun e => nomatch e), rfl, rfl⟩

/-- **Every pool call `AddBlockOnChain` makes is well-formed**: a reachable (pool, chain) pair stays reachable,
whatever block is delivered. -/
theorem addBlock_reach (limit : Nat) (st : CSt) (b : CBlock) (h : Reach limit st.pool (blocksOf st.chain)) :
    Reach limit (addBlock st b).1.pool (blocksOf (addBlock st b).1.chain) := by
  rcases addBlock_cases st b (st' := (addBlock st b).1) (r := (addBlock st b).2) rfl with ⟨_, hp, hc⟩ | ⟨_, hf, he | he⟩
  · rw [hp, hc]; exact h
  · rw [he]; exact insert_reach limit st b st.pool st.chain h hf h (List.suffix_refl _)
  · rw [he]
    obtain ⟨h2, h3⟩ := removeTo_reach limit b.pre st.chain st.pool h
    exact insert_reach limit _ b st.pool st.chain h hf h2 h3

/-- What the node's goroutines do to the pool between blocks. -/
inductive Event where
  | deliver (b : CBlock)   -- AddBlockOnChain
  | submit (t : Tx)        -- AddTransaction
  | tick                   -- ring timer

def run (st : CSt) : Event → CSt
  | .deliver b => (addBlock st b).1
  | .submit t => { st with pool := (st.pool.addTransaction t).1 }
  | .tick => { st with pool := st.pool.expire }

/-- start-up: the empty pool under a chain that holds the genesis block, which carries no transactions; to the pool it is
an empty block that was marked (`boot_reach`) -/
def boot (limit : Nat) (genesis : Nat) : CSt := { pool := Pool.empty limit, chain := [⟨genesis, 0, 0, 0, 0, [], [], []⟩] }

theorem boot_reach (limit genesis : Nat) : Reach limit (boot limit genesis).pool (blocksOf (boot limit genesis).chain) :=
  Reach.step (limit := limit) (HOp.mark ⟨[], [], []⟩) Reach.init ⟨(fun _ h => nomatch h), (fun _ h => nomatch h)⟩

theorem run_reach (limit : Nat) (st : CSt) (e : Event) (h : Reach limit st.pool (blocksOf st.chain)) :
    Reach limit (run st e).pool (blocksOf (run st e).chain) := by
  cases e with
  | deliver b => exact addBlock_reach limit st b h
  | submit t => exact Reach.step (limit := limit) (HOp.add t) h trivial
  | tick => exact Reach.step (limit := limit) HOp.expire h trivial

/-- **At most once, with the chain in the loop.** From start-up, after any sequence of block deliveries (blocks
of any shape: forks, duplicates, orphans, blocks carrying executed transactions, lying evicted lists),
submissions and timer ticks: a transaction executed in a block of the canonical chain is refused by
`AddTransaction` and is in no batch `PackForCast` returns. No hypothesis about the histories is left. -/
theorem chain_at_most_once (limit genesis : Nat) (events : List Event) (k : Nat)
    (hk : k ∈ executedOn (blocksOf (events.foldl run (boot limit genesis)).chain)) :
    (∀ t : Tx, t.hash = k → (events.foldl run (boot limit genesis)).pool.addTransaction t =
        ((events.foldl run (boot limit genesis)).pool, .exist)) ∧
    (∀ (c : Cfg) (σ : Nat → Nat) (l : List Tx), (events.foldl run (boot limit genesis)).pool.pack c σ = some l →
        ∀ t ∈ l, t.hash ≠ k) := by
  have hr : Reach limit (events.foldl run (boot limit genesis)).pool (blocksOf (events.foldl run (boot limit genesis)).chain) :=
    List.foldlRecOn (motive := fun st => Reach limit st.pool (blocksOf st.chain)) events run (boot_reach limit genesis)
      (fun st h e _ => run_reach limit st e h)
  exact at_most_once limit _ _ hr k hk

/-- A delivery that does not end with `AddBlockSucc` leaves pool and chain untouched (only a parked orphan is noted). -/
theorem addBlock_rejected_noop (st : CSt) (b : CBlock) (h : (addBlock st b).2 ≠ .succ) :
    (addBlock st b).1.pool = st.pool ∧ (addBlock st b).1.chain = st.chain := by
  rcases addBlock_cases st b (st' := (addBlock st b).1) (r := (addBlock st b).2) rfl with ⟨_, hp, hc⟩ | ⟨hr, _⟩
  · exact ⟨hp, hc⟩
  · exact absurd hr h

/-- **What this node casts, its own chain accepts.** `CastBlock` builds its block from `PackForCast` (then keeps the
executed subset): whatever subset and order execution keeps, the block passes the proposal-008 test of `verifyBlock`
on the state it was packed from — a caster never proposes a transaction that is executed on its chain. -/
theorem cast_block_fresh (c : Cfg) (σ : Nat → Nat) (s : Pool) (l kept : List Tx) (hi : Inv s)
    (hp : s.pack c σ = some l) (hk : ∀ t ∈ kept, t ∈ l) (id pre h qn pv : Nat) (skip ev : List Nat) :
    fresh s ⟨id, pre, h, qn, pv, kept, skip, ev⟩ = true := by
  simp only [fresh, List.all_eq_true, Bool.not_eq_true']
  intro t ht
  exact pack_disjoint_executed c σ s l hi hp t (hk t ht)

example : fresh sA ⟨7, 0, 1, 1, 1, [tA], [], []⟩ = true := by decide +kernel

def gB : CBlock := ⟨100, 0, 0, 0, 0, [], [], []⟩
def b1 : CBlock := ⟨101, 100, 1, 1, 5, [tA], [], []⟩
def b2 : CBlock := ⟨102, 100, 1, 9, 5, [], [], []⟩

/-- non-vacuity: a block with a transaction goes on the chain, a heavier empty fork removes it again, and a fork
block that still carries the executed transaction is refused -/
example : ((addBlock ⟨Pool.empty 5, [gB], []⟩ b1).2 = .succ) ∧
    ((addBlock (addBlock ⟨Pool.empty 5, [gB], []⟩ b1).1 b2).2 = .succ) ∧
    ((addBlock (addBlock ⟨Pool.empty 5, [gB], []⟩ b1).1 b2).1.pool.contains 11 = true) ∧
    ((addBlock (addBlock ⟨Pool.empty 5, [gB], []⟩ b1).1 ⟨103, 100, 1, 9, 5, [tA], [], []⟩).2 = .failed) := by decide +kernel

end Rangers.Props.C17F
