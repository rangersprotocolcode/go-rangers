import Rangers.Generated.Evm11Tables
/-!
# C11 — EVM execution is total and resource-bounded: facts about the generated tables (T-gen)

Every theorem here is about `Rangers.Evm11.Gen.*`, which `gen/cmd/c11facts`
rewrites from the go-rangers working tree on every run (live jump table of all 8
fork combinations, gas constants, source skeleton of the memory-size and gas
functions).  A new opcode, a re-pointed function, a changed constant or stack
bound, a re-ordered `stack.Back(n)` breaks one of these obligations.
The behavioural theorems (termination, gas, stack, memory, depth) are in
`Props/C11B.lean` … `Props/C11H.lean`; they take these facts as their only knowledge of the table
(`Props.C11C.EntryOk`).
-/
namespace Rangers.Props.C11
open Rangers.Evm11

/-- the constants the transcription in `Model/Evm11Gas.lean`, `Evm11Interp.lean` uses -/
def expectedConstants : List (String × Nat) := [
  ("StackLimit", 1024), ("CallCreateDepth", 1024), ("MemoryGas", 3), ("QuadCoeffDiv", 512),
  ("CopyGas", 3), ("Sha3WordGas", 6), ("LogGas", 375), ("LogTopicGas", 375), ("LogDataGas", 8),
  ("ExpGas", 10), ("ExpByteFrontier", 10), ("ExpByteEIP158", 50),
  ("CallValueTransferGas", 9000), ("CallNewAccountGas", 25000), ("CallStipend", 2300),
  ("SstoreSetGas", 20000), ("SstoreSetGasEIP2200", 20000),
  ("SelfdestructGasEIP150", 5000), ("CreateBySelfdestructGas", 25000), ("SelfdestructRefundGas", 24000),
  ("CreateDataGas", 200), ("MaxCodeSize", 245760),
  ("ColdAccountAccessCostEIP2929", 2600), ("WarmStorageReadCostEIP2929", 100),
  ("AuthCallValueTransferGas", 6700), ("GasMagnification", 30)]

/-- the gas and limit constants of the source are the ones the model was transcribed with -/
theorem constants_match : Gen.constants = expectedConstants := rfl

def expectedSkeleton : List (String × List String) := [
  ("Run.loopOrder", ["abort-poll", "getop", "lookup", "nil->invalid-opcode", "stack-validation", "read-only", "cost=constantGas", "use-constant-gas", "memory-size", "dynamic-gas", "resize", "execute", "set-return-data", "err/reverts/halts/pc++"]),
  ("Run.readOnlyCheck", ["if $in.readOnly", "if operation.writes || (op == CALL && stack.Back(2).Sign() != 0)", "return nil, nil, ErrWriteProtection"]),
  ("Run.readOnlyEntry", ["if $ro && !$in.readOnly", "$in.readOnly = true", "defer $in.readOnly = false"]),
  ("analysis.codeBitmap", ["bits := make(bitvec, len(code)/8+1+4)", "for pc < uint64(len(code))", "pc := uint64(0)", "op := OpCode(code[pc])", "if op >= PUSH1 && op <= PUSH32", "numbits := op - PUSH1 + 1", "for numbits >= 8", "numbits -= 8", "pc += 8", "for numbits > 0"]),
  ("authCallGas", []),
  ("callGas", []),
  ("contract.AsDelegate", ["parent := $c.caller.(*Contract)", "$c.CallerAddress = parent.CallerAddress", "$c.value = parent.value", "return c"]),
  ("contract.GetByte", ["if n < uint64(len($c.Code))", "return $c.Code[n]", "return 0"]),
  ("contract.GetOp", ["return OpCode($c.GetByte(n))"]),
  ("contract.UseGas", ["if $c.Gas < gas", "return false", "$c.Gas -= gas", "return true"]),
  ("contract.isCode", ["if $c.analysis != nil", "return $c.analysis.codeSegment(udest)", "if $c.CodeHash != (common.Hash{})", "analysis, exist := $c.jumpdests[$c.CodeHash]", "if !exist", "analysis = codeBitmap($c.Code)", "$c.jumpdests[$c.CodeHash] = analysis", "$c.analysis = analysis", "return analysis.codeSegment(udest)", "if $c.analysis == nil", "$c.analysis = codeBitmap($c.Code)", "return $c.analysis.codeSegment(udest)"]),
  ("contract.validJumpdest", ["udest, overflow := dest.Uint64WithOverflow()", "if overflow || udest >= uint64(len($c.Code))", "return false", "if OpCode($c.Code[udest]) != JUMPDEST", "return false", "return $c.isCode(udest)"]),
  ("executor.Execute", ["gasLimit := contractRawData.GasLimit", "if common.IsProposal015()", "if contractRawData.GasLimit < intrinsicGas", "vmCtx.GasLimit = defaultGasLimit", "gasLimitTemp := gasLimit", "if common.IsProposal015()", "if common.IsProposal017() && gasLimit > p017defaultGasLimit", "gasLimit = p017defaultGasLimit", "if common.IsProposal026()", "gasLimit = gasLimitTemp", "if gasLimit > p026defaultGasLimit", "gasLimit = p026defaultGasLimit", "vmCtx.GasLimit = gasLimit - intrinsicGas", "result, contractAddress, leftOverGas, logs, err = vmInstance.Create(caller, input, vmCtx.GasLimit, transferValue)", "if common.IsProposal007()", "result, leftOverGas, logs, err = vmInstance.Call(caller, contractAddress, input, vmCtx.GasLimit, transferValue)", "if common.IsProposal015()", "gasUsed := gasLimit - leftOverGas"]),
  ("executor.IntrinsicGas", ["if contractCreation", "gas = vm.TxGasContractCreation", "gas = vm.TxGas", "if len(data) > 0", "if byt != 0", "if (math.MaxUint64-gas)/nonZeroGas < nz", "return 0, vm.ErrGasUintOverflow", "gas += nz * nonZeroGas", "if (math.MaxUint64-gas)/vm.TxDataZeroGas < z", "return 0, vm.ErrGasUintOverflow", "gas += z * vm.TxDataZeroGas", "if common.IsProposal026()", "return gas * common.GasMagnification, nil", "return gas, nil"]),
  ("executor.gasConstants", ["defaultGasLimit=6000000", "p017defaultGasLimit=30000000", "p026defaultGasLimit=900000000"]),
  ("flags.Call", []),
  ("flags.NewEVMInterpreter", ["Proposal014Block", "Proposal022Block", "Proposal026Block"]),
  ("flags.RunPrecompiledContract", []),
  ("flags.create", ["common.IsSub", "common.IsProposal006", "common.IsProposal007", "common.IsProposal026"]),
  ("frame.AuthCall", ["NewContract(caller, AccountRef(addrCopy), value, gas)", "contract.SetCallCode(&addrCopy, GetCodeHash(addrCopy), code)", "run(evm, contract, input, false)"]),
  ("frame.Call", ["NewContract(caller, AccountRef(addrCopy), value, gas)", "contract.SetCallCode(&addrCopy, GetCodeHash(addrCopy), code)", "run(evm, contract, input, false)"]),
  ("frame.CallCode", ["NewContract(caller, AccountRef(caller.Address()), value, gas)", "contract.SetCallCode(&addrCopy, GetCodeHash(addrCopy), GetCode(addrCopy))", "run(evm, contract, input, false)"]),
  ("frame.DelegateCall", ["AsDelegate", "NewContract(caller, AccountRef(caller.Address()), nil, gas)", "contract.SetCallCode(&addrCopy, GetCodeHash(addrCopy), GetCode(addrCopy))", "run(evm, contract, input, false)"]),
  ("frame.StaticCall", ["NewContract(caller, AccountRef(addrCopy), new(big.Int), gas)", "contract.SetCallCode(&addrCopy, GetCodeHash(addrCopy), GetCode(addrCopy))", "run(evm, contract, input, true)"]),
  ("frame.create", ["NewContract(caller, AccountRef(address), value, gas)", "contract.SetCodeOptionalHash(&address, codeAndHash)", "run(evm, contract, nil, false)"]),
  ("gasAuthCall", ["B3", "B2", "memoryGasCost", "SafeAdd", "authCallGas", "B1", "SafeAdd"]),
  ("gasCall", ["B2", "B1", "memoryGasCost", "SafeAdd", "callGas", "B0", "SafeAdd"]),
  ("gasCallCode", ["memoryGasCost", "B2", "SafeAdd", "callGas", "B0", "SafeAdd"]),
  ("gasCreate2", ["memoryGasCost", "B2", "SafeMul,Sha3WordGas", "toWordSize", "SafeAdd", "IsProposal026", "SafeMul,GasMagnification"]),
  ("gasDelegateCall", ["memoryGasCost", "callGas", "B0", "SafeAdd"]),
  ("gasExpEIP158", ["SafeAdd,ExpGas", "IsProposal026", "rawmul:GasMagnification"]),
  ("gasExpFrontier", ["SafeAdd,ExpGas", "IsProposal026", "rawmul:GasMagnification"]),
  ("gasSStore", ["IsProposal026", "IsProposal015", "rawmul:GasMagnification"]),
  ("gasSStoreEIP2200", ["IsProposal026", "IsProposal015", "rawmul:GasMagnification"]),
  ("gasSelfdestruct", ["B0"]),
  ("gasSha3", ["memoryGasCost", "B1", "SafeMul,Sha3WordGas", "toWordSize", "SafeAdd", "IsProposal026", "SafeMul,GasMagnification"]),
  ("gasStaticCall", ["memoryGasCost", "callGas", "B0", "SafeAdd"]),
  ("makeGasLog", ["B1", "memoryGasCost", "SafeAdd,LogGas", "SafeAdd", "SafeMul,LogDataGas", "SafeAdd", "IsProposal026", "SafeMul,GasMagnification"]),
  ("memoryAuthCall", ["calcMemSize64", "B7", "B8", "calcMemSize64", "B5", "B6"]),
  ("memoryCall", ["calcMemSize64", "B5", "B6", "calcMemSize64", "B3", "B4"]),
  ("memoryCallDataCopy", ["calcMemSize64", "B0", "B2"]),
  ("memoryCodeCopy", ["calcMemSize64", "B0", "B2"]),
  ("memoryCopierGas", ["memoryGasCost", "B(stackpos)", "SafeMul,CopyGas", "toWordSize", "SafeAdd", "IsProposal026", "SafeMul,GasMagnification"]),
  ("memoryCreate", ["calcMemSize64", "B1", "B2"]),
  ("memoryCreate2", ["calcMemSize64", "B1", "B2"]),
  ("memoryDelegateCall", ["calcMemSize64", "B4", "B5", "calcMemSize64", "B2", "B3"]),
  ("memoryExtCodeCopy", ["calcMemSize64", "B1", "B3"]),
  ("memoryGasCost", ["toWordSize", "IsProposal026", "rawmul:GasMagnification"]),
  ("memoryLog", ["calcMemSize64", "B0", "B1"]),
  ("memoryMLoad", ["calcMemSize64WithUint,32", "B0"]),
  ("memoryMStore", ["calcMemSize64WithUint,32", "B0"]),
  ("memoryMStore8", ["calcMemSize64WithUint,1", "B0"]),
  ("memoryMcopy", ["B0", "B1", "B1", "calcMemSize64", "B2"]),
  ("memoryReturn", ["calcMemSize64", "B0", "B1"]),
  ("memoryReturnDataCopy", ["calcMemSize64", "B0", "B2"]),
  ("memoryRevert", ["calcMemSize64", "B0", "B1"]),
  ("memorySha3", ["calcMemSize64", "B0", "B1"]),
  ("memoryStaticCall", ["calcMemSize64", "B4", "B5", "calcMemSize64", "B2", "B3"]),
  ("pkgstate.pools", ["newReturnStack:rStackPool.Get", "newstack:stackPool.Get", "returnRStack:rStackPool.Put", "returnStack:stackPool.Put"]),
  ("pkgstate.writes", ["InitVM:logger", "init:PrecompiledAddresses"]),
  ("pureMemoryGascost", ["memoryGasCost"])
]

/-- which stack positions each memory-size / gas function reads, which helpers it
    calls and with which constants, in source order (go/ast), is what was transcribed;
    in particular the four magnifications that can exceed 2^64 go through `SafeMul`.
    `Run.readOnlyEntry` / `Run.readOnlyCheck` record the read-only discipline of the loop that the
    model renders by passing `ro` down functionally: the interpreter-wide flag is set only if
    not already set (`$ro && !$in.readOnly`) and reset only by the frame that set it (the
    deferred `$in.readOnly = false` inside that `if`), and the per-iteration write test.
    `Run.loopOrder`: the order of the checks in the loop is the order `stepPre` transcribes —
    table lookup, nil → invalid opcode, **stack validation, then the read-only test** (which reads
    `stack.Back(2)` and is only safe after the validation), constant gas, memory size, dynamic
    gas, resize, execute, return data, err/reverts/halts/pc++.
    `frame.*`: how each of `Call / CallCode / DelegateCall / StaticCall / AuthCall / create` builds
    the callee frame — which address is `self`, **which account's code hash keys the shared
    JUMPDEST-analysis cache** (always the account whose code runs), which code runs, the read-only
    argument of `run`.  `contract.*` / `analysis.codeBitmap`: every condition, assignment and return
    of `validJumpdest` (`udest >= len(code)` refuses the destination *equal* to the code length),
    `isCode` (cache key `CodeHash`), `GetByte`, `UseGas`, `AsDelegate`, and the loop structure of
    the bitmap construction.
    `executor.*`: the gas-limit constants of the contract executor (6·10^6 / 3·10^7 / 9·10^8), every
    condition and assignment of `Execute` that touches the gas limit, and the whole of `IntrinsicGas`
    (`Evm11.intrinsicGas`, `Evm11.executorVmGas` of `Model/Evm11Precomp.lean`).
    `pkgstate.writes` / `pkgstate.pools`: the only package-level variables of `src/vm` any function
    assigns are the logger (`InitVM`) and the precompile address list (`init`); the only shared
    mutable objects on the execution path are the two `sync.Pool`s of stacks (a new package-level
    scratch buffer, cache or flag breaks this obligation).  `flags.*`: the fork-flag reads of
    `create` and `NewEVMInterpreter` are the ones the model's `Ctx` carries. -/
theorem source_skeleton_matches : Gen.sourceSkeleton = expectedSkeleton := rfl

def Exec.isUnknown : Exec → Bool | .unknown => true | _ => false
def MemFn.isUnknown : MemFn → Bool | .unknown => true | _ => false
def DynFn.isUnknown : DynFn → Bool | .unknown => true | _ => false

def entryKnown (o : OpInfo) : Bool :=
  !Exec.isUnknown o.exec && !MemFn.isUnknown o.mem && !DynFn.isUnknown o.dyn

/-- a Boolean check of every defined slot of every fork configuration -/
def allEntries (p : OpInfo → Bool) : Bool :=
  Gen.allTables.all (fun t => t.toList.all (fun e => match e with | none => true | some o => p o))

theorem allEntries_spec {p : OpInfo → Bool} (h : allEntries p = true) :
    ∀ t ∈ Gen.allTables, ∀ o, some o ∈ t.toList → p o = true := by
  intro t ht o ho
  unfold allEntries at h
  rw [List.all_eq_true] at h
  have h1 := h t ht
  rw [List.all_eq_true] at h1
  exact h1 (some o) ho

/-- every defined slot of every fork configuration points at functions the model transcribes -/
theorem table_known : allEntries entryKnown = true := by decide +kernel

def entryStackOk (o : OpInfo) : Bool :=
  o.minStack == o.exec.pops && o.maxStack + o.exec.pushes == 1024 + o.exec.pops

/-- `minStack`/`maxStack` of every entry are `pops` / `1024 + pops − pushes` of the
    transcribed `execute` function -/
theorem table_stack_consistent : allEntries entryStackOk = true := by decide +kernel

/-- all tables have exactly 256 slots (so `GetOp` of any byte indexes inside) -/
theorem table_size : Gen.allTables.all (fun t => t.toList.length == 256) = true := by decide +kernel

def memArgsBelow (n : Nat) : MemFn → Bool
  | .none | .unknown => true
  | .two o l => o < n && l < n
  | .fixed o _ => o < n
  | .max2 a b c d => a < n && b < n && c < n && d < n
  | .mcopy => 2 < n

def dynArgsBelow (n : Nat) : DynFn → Bool
  | .copier p => p < n
  | .log _ | .sha3 | .expFrontier | .expEIP158 => 1 < n
  | .create2 => 2 < n
  | .call | .callcode => 2 < n
  | .delegatecall | .staticcall | .selfdestruct => 0 < n
  | .authcall => 3 < n
  | _ => true

/-- stack positions read by the memory-size / dynamic-gas function of an entry lie below its `minStack`:
    on a stack that has passed the validation `back` does not meet its default there -/
theorem table_args_in_range : allEntries (fun o => memArgsBelow o.minStack o.mem && dynArgsBelow o.minStack o.dyn) = true := by
  decide +kernel

/-- Every operation that neither halts nor reverts either has a constant gas of at
    least 1, or is EXP / LOGn (whose dynamic gas is at least 10 / 375), or is SSTORE
    (free before Proposal015, but it removes two stack items): the termination
    measure `2·gas + stack height` of `Props.C11C.phi_decreases` strictly decreases. -/
def entryCosts (o : OpInfo) : Bool :=
  o.halts || o.reverts || decide (o.constGas ≥ 1) ||
    (match o.exec with | .sstore => true | _ => false) ||
    (match o.dyn with | .log _ | .expFrontier | .expEIP158 => true | _ => false)

theorem nonhalting_costs : allEntries entryCosts = true := by decide +kernel

theorem pushes_at_most_one_more : allEntries (fun o => decide (o.exec.pushes ≤ o.exec.pops + 1)) = true := by
  decide +kernel

/-- operations that move `pc` themselves are exactly JUMP and JUMPI, and cost ≥ 8 (`GasMidStep`, the constant gas of JUMP
    in `jump_table.go`; JUMPI has `GasSlowStep` = 10), so a loop pays on every turn -/
def entryJumps (o : OpInfo) : Bool :=
  (o.jumps == (match o.exec with | .jump | .jumpi => true | _ => false)) &&
  (!o.jumps || decide (o.constGas ≥ 8))

theorem jumps_are_jump_jumpi : allEntries entryJumps = true := by decide +kernel

/-- constant gas of the operations that start a frame, from below; `Props.C11C.invoke_gas` needs the least of the
    three bounds, 100 -/
def entryCallCosts (o : OpInfo) : Bool :=
  match o.exec with
  | .call _ => decide (o.constGas ≥ 700) && !o.halts && !o.reverts && !o.jumps
  | .create | .create2 => decide (o.constGas ≥ 32000) && !o.halts && !o.reverts && !o.jumps
  | .authcall => decide (o.constGas ≥ 100) && !o.halts && !o.reverts && !o.jumps
  | _ => true

theorem calls_cost : allEntries entryCallCosts = true := by decide +kernel

def entryFlags (o : OpInfo) : Bool :=
  (o.reverts == (match o.exec with | .revert => true | _ => false)) &&
  (o.halts == (match o.exec with | .stop | .ret | .selfdestruct => true | _ => false))

theorem flags_as_transcribed : allEntries entryFlags = true := by decide +kernel

/-- state-modifying operations carry the `writes` flag in every configuration
    (TSTORE checks `readOnly` itself, CALL with value is checked by the loop) -/
def entryWrites (o : OpInfo) : Bool :=
  match o.exec with
  | .sstore | .log _ | .create | .create2 | .selfdestruct => o.writes
  | _ => true

theorem writers_flagged : allEntries entryWrites = true := by decide +kernel

/-- Full statement of "every state-writing operation is refused in a read-only frame by the
    loop's `writes` test": every entry whose `execute` mutates the state carries the flag.
    (TSTORE tests `readOnly` itself and CALL-with-value is tested by the loop: `Props.C11D`.) -/
def entryStaticGuard (o : OpInfo) : Bool :=
  match o.exec with
  | .sstore | .log _ | .create | .create2 | .selfdestruct | .authcall => o.writes
  | _ => true

def FullStatementStaticGuard : Prop := allEntries entryStaticGuard = true

/-- proved part: everything except AUTHCALL (= `writers_flagged`) -/
theorem static_guard_partial :
    allEntries (fun o => match o.exec with | .authcall => true | _ => entryStaticGuard o) = true := by
  have h : (fun o : OpInfo => match o.exec with | .authcall => true | _ => entryStaticGuard o) = entryWrites := by
    funext o; unfold entryStaticGuard entryWrites; cases o.exec <;> rfl
  exact (congrArg allEntries h).trans writers_flagged

/-- **the full statement is false of the code**: AUTHCALL (0xf7, Proposal014 table) has no `writes`
    flag and is not covered by the loop's value test (which names CALL only), although
    `evm.AuthCall` bumps the authorised account's nonce and transfers the value from the sponsor.
    Replayed on the implementation: known finding `authcall-writes-inside-static`. -/
theorem static_guard_counterexample : ¬ FullStatementStaticGuard := by
  unfold FullStatementStaticGuard
  decide +kernel

/-- DUPn / SWAPn have 1 ≤ n ≤ 16 (no table entry leads to the transcription's `n = 0` branch) -/
def entryDupSwap (o : OpInfo) : Bool :=
  match o.exec with
  | .dup n | .swap n => decide (1 ≤ n ∧ n ≤ 16)
  | _ => true

theorem dup_swap_range : allEntries entryDupSwap = true := by decide +kernel

/-- the call family is priced by its own gas function (which is what makes the
    2300 stipend smaller than the 9000 paid for the value transfer) -/
def entryCallDyn (o : OpInfo) : Bool :=
  match o.exec with
  | .call .call => o.dyn == .call
  | .call .callcode => o.dyn == .callcode
  | .call .delegatecall => o.dyn == .delegatecall
  | .call .staticcall => o.dyn == .staticcall
  | .authcall => o.dyn == .authcall
  | _ => true

theorem calls_priced_by_their_gas_function : allEntries entryCallDyn = true := by decide +kernel

/-- an operation that names a memory-size function is priced by a gas function that
    charges the memory fee for that size -/
def entryMemPaid (o : OpInfo) : Bool :=
  match o.mem with
  | .none => true
  | _ => match o.dyn with
    | .pureMem | .copier _ | .sha3 | .create2 | .log _ | .call | .callcode | .delegatecall | .staticcall | .authcall => true
    | _ => false

theorem memory_users_pay_memory : allEntries entryMemPaid = true := by decide +kernel

/-- slot 0 (also what `GetOp` returns beyond the end of the code) is STOP: free and halting -/
theorem slot0_is_stop : Gen.allTables.all (fun t => t.toList.head? == some (some ⟨.stop, 0, 0, 1024, .none, .none, true, false, false, false, false⟩)) = true := by
  decide +kernel

end Rangers.Props.C11
