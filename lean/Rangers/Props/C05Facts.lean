import Rangers.Model.ChainStore
import Rangers.Generated.C05Facts
/-!
# C05 — facts re-extracted from the source on every run (T-gen)

`Rangers.Generated.C05Facts` is rewritten by `gen/cmd/c05facts` from `src/core/*.go` of the working tree.
The theorems below are closed computations over those generated lists: a moved statement in
`insertBlock` / `remove` / `ensureChainConsistency`, a cache eviction with the wrong key, a new caller of a
block-adding or block-removing function, or a new direct writer of an index store makes one of them false.
-/
namespace Rangers.Props.C05Facts
open Rangers.Model.ChainStore Rangers.Generated.C05Facts

/-- name of a write token, as the correspondence prints it (without block labels) -/
def tokName : Write → String
  | .putAddMark _ => "am" | .delAddMark => "-am" | .putRemoveMark _ => "rm" | .delRemoveMark => "-rm"
  | .putBlock _ => "bh" | .delBlock _ => "-bh" | .putHeight _ _ => "hh" | .delHeight _ => "-hh"
  | .putVerify _ => "vh" | .delVerify _ => "-vh" | .putCurrent _ => "cur" | .commitState _ => "st"
  | .putExecuted _ _ => "tx" | .delExecuted _ => "-tx"

/-- the physical writes each source-level call of `insertBlock` / `remove` stands for (memory-only calls: none);
    an unknown call maps to a token no model write has -/
def callTok (c : String) : List String :=
  if c = "markAddBlock" then ["am"] else if c = "saveBlockByHash" then ["bh"]
  else if c = "saveBlockByHeight" then ["hh"] else if c = "saveStates" then ["st"]
  else if c = "updateVerifyHash" then ["vh"] else if c = "updateTxPool" then ["tx"]
  else if c = "topBlocks.Add(remoteBlock.Header.Height, remoteBlock.Header)" then []
  else if c = "updateLastBlock" then ["cur"] else if c = "eraseAddBlockMark" then ["-am"]
  else if c = "successOnChainCallBack" then []
  else if c = "getReceipts" then [] else if c = "markRemoveBlock" then ["rm"]
  else if c = "hashDB.Delete(hash.Bytes())" then ["-bh"]
  else if c = "heightDB.Delete(generateHeightKey(height))" then ["-hh"]
  else if c = "verifyHashDB.Delete(utility.UInt64ToByte(height))" then ["-vh"]
  else if c = "topBlocks.Remove(height)" then [] else if c = "verifiedBlocks.Remove(hash)" then []
  else if c = "queryBlockByHash" then []
  else if c = "heightDB.Put([]byte(latestBlockKey), preHeaderByte)" then ["cur"]
  else if c = "transactionPool.UnMarkExecuted(block)" then ["-tx"]
  else if c = "eraseRemoveBlockMark" then ["-rm"] else if c = "notifyRemovedLogs" then []
  else ["?" ++ c]

def sampleG : Block := { hash := 1, pre := 0, height := 0, totalQN := 0, pv := 0, txs := [], valid := true }
def sampleB : Block := { hash := 2, pre := 1, height := 1, totalQN := 1, pv := 1, txs := [7], valid := true }
/-- the model inserting a one-transaction block on genesis … -/
def sampleInserted : St := insertB (insertA (genesisState sampleG) sampleB) sampleB
/-- … and removing it again -/
def sampleRemoved : St := (remove (sampleInserted.arm none) sampleB).1

/-- The pool is updated (executed marks written) before the recorded head moves and before the add mark is
    erased — the order `inv_crash_pool` depends on. -/
theorem txpool_before_head_and_mark :
    insertBlockCalls.idxOf "updateTxPool" < insertBlockCalls.idxOf "updateLastBlock" ∧
    insertBlockCalls.idxOf "updateLastBlock" < insertBlockCalls.idxOf "eraseAddBlockMark" ∧
    insertBlockCalls.idxOf "markAddBlock" = 0 ∧ insertBlockCalls.idxOf "eraseAddBlockMark" < insertBlockCalls.length := by
  decide +kernel

/-- The write sequence of the model's `insertBlock` IS the source's statement order (memory-only statements
    may move between the writes, every call must be a known one). -/
theorem insert_order_is_model :
    (insertBlockCalls.map callTok).flatten = sampleInserted.log.reverse.map tokName := by decide +kernel

/-- `remove` evicts the height-keyed cache by height and the hash-keyed cache by hash (wherever among the
    memory-only statements; a call with any other argument is unknown to `callTok` and breaks
    `remove_order_is_model`). -/
theorem cache_eviction_keys :
    "topBlocks.Remove(height)" ∈ removeCalls ∧ "verifiedBlocks.Remove(hash)" ∈ removeCalls ∧
    "topBlocks.Add(remoteBlock.Header.Height, remoteBlock.Header)" ∈ insertBlockCalls := by decide +kernel

/-- The write sequence of the model's `remove` IS the source's statement order (memory-only statements may
    move between the writes, every call must be a known one). -/
theorem remove_order_is_model :
    (removeCalls.map callTok).flatten = sampleRemoved.log.reverse.map tokName := by decide +kernel

/-- start-up repair: add mark first (remove, erase), then the remove mark, read after the first half ran -/
theorem ensure_order : ensureChainConsistencyCalls =
    ["hashDB.Get([]byte(addBlockMark))", "remove", "eraseAddBlockMark",
     "hashDB.Get([]byte(removeBlockMark))", "remove", "eraseRemoveBlockMark"] := rfl

/-- The LRU capacities the model assumes are the ones `initBlockChain` creates the caches with. -/
theorem cache_capacities :
    cacheCaps = [("topBlocks", "100"), ("futureBlocks", "100"), ("verifiedBlocks", toString verifiedCap),
                 ("verifiedBodyCache", "10")] ∧ toString topBlocksCacheSize = "100" := ⟨rfl, rfl⟩

/-- The fork-configuration reads on the add / remove / repair path are exactly these: Proposal008 (the
    executed-transaction check, the model's `p008` flag, sessions run on both sides of it) and 020/023 in
    `verifyBlock`/`checkStates` (tx-root validation and the `setHash` rewrite, switched on by the harness). A new
    `IsProposalNNN` branch on the path breaks this fact. -/
theorem flag_reads : flagReads =
    [("checkStates", "IsProposal020"), ("checkStates", "IsProposal023"),
     ("verifyBlock", "IsProposal008"), ("verifyBlock", "IsProposal020")] := rfl

/-- No function on the path assigns package-level state (all state is in the `blockChain` object, its stores
    and the pool): results cannot depend on process-local history through a package variable. -/
theorem no_global_writes : globalWrites = [] := rfl

/-- The sync fork switch drives the chain only through these calls (the model's `forkSwitch`:
    `removeFromCommonAncestor`, then per block `consensusVerify` + `addBlockOnChain` = `addBlock`). -/
theorem fork_switch_calls :
    triggerOnChainCalls = ["QueryBlockHeaderByHeight", "nextPvGreatThanFork", "removeFromCommonAncestor"] ∧
    tryAddBlockOnChainCalls = ["consensusVerify", "addBlockOnChain"] := ⟨rfl, rfl⟩

/-- `chainPvGreatThanRemote` decides in this order: prove value greater → true, smaller → false, then hash
    greater → true, else false — the branch order and comparison operators of the model's `pvGreater` (operand
    order is tied by the direct stream `pure-functions`). -/
theorem pv_skeleton : chainPvGreatThanRemoteSkeleton =
    ["if (_ > 0)", "return true", "if (_ < 0)", "return false", "if (_ > 0)", "return true", "return false"] := rfl

/-- `getRequestIdFromTransactions`: running maximum with `>`, adopted only if non-zero and `>` the parent's
    — `requestIdFrom`. -/
theorem request_id_skeleton : getRequestIdFromTransactionsSkeleton =
    ["if ((nil != _) && (0 != _(_)))", "if (_.RequestId > _)", "if ((0 != _) && (_ > _[\"fixed\"]))", "return _"] := rfl

/-- `nextPvGreatThanFork`: both `<` guards on the common ancestor's height, both blocks present, else `true`. -/
theorem next_pv_skeleton : nextPvGreatThanForkSkeleton =
    ["if ((_ < _.latestBlock.Height) && (_ < _.latestBlock.Height))", "if ((_ != nil) && (_ != nil))",
     "return _(_,_.Header)", "return true"] := rfl

/-- `verifyBlock`'s guards in the model's order: cache hit → 0; no parent → (park) 2; Proposal008 executed check
    → -1; missing transactions → 1; header request id → -1; tx root (pre-020) → -1; `checkStates` → -1; 0. -/
theorem verify_skeleton : verifyBlockSkeleton =
    ["if _.verifiedBlocks.Contains(_.Hash)", "return nil,0", "if (nil == _)", "if (_ != nil)", "return nil,2",
     "if _.IsProposal008()", "if (_.transactionPool.GetExecuted(_.Hash) != nil)", "return nil,-1", "if _", "return _,1",
     "if (_[\"fixed\"] != _.RequestIds[\"fixed\"])", "return nil,-1",
     "if (!_.IsProposal020() && !_.validateTxRoot(_.TxTree,_))", "return nil,-1", "if !_", "return nil,-1",
     "if (_(_.Transactions) != 0)", "return nil,0"] := rfl

/-- `consensusVerify`: nil → failed; no parent → NoPreOnChain; already indexed → BlockExisted; then the two
    consensus checks (stubbed to accept in the harness) — the order of the model's `addBlock`. -/
theorem consensus_verify_skeleton : consensusVerifySkeleton =
    ["if (_ == nil)", "return _.AddBlockFailed,false", "if !_.hasPreBlock(*_.Header)", "return _.NoPreOnChain,false",
     "if (_.queryBlockHeaderByHash(_.Header.Hash) != nil)", "return _.BlockExisted,false", "if !_",
     "return _.DependOnGroup,false", "if !_", "if ((_ == _.ErrSelectGroupNil) || (_ == _.ErrSelectGroupInequal))",
     "return _.AddBlockFailed,false", "return _.ValidateBlockOk,true"] := rfl

def allowedCallers (callee : String) : List String :=
  if callee = "blockChain.insertBlock" then ["blockChain.addBlockOnChain"]
  else if callee = "blockChain.remove" then ["blockChain.removeFromCommonAncestor", "blockChain.ensureChainConsistency"]
  else if callee = "blockChain.ensureChainConsistency" then ["initBlockChain"]
  else if callee = "blockChain.addBlockOnChain" then
    ["blockChain.AddBlockOnChain", "blockChain.addBlockOnChain", "blockChain.successOnChainCallBack", "tryAddBlockOnChain"]
  else if callee = "blockChain.removeFromCommonAncestor" then ["blockChain.addBlockOnChain", "blockChainFork.triggerOnChain"]
  else if callee = "blockChain.AddBlockOnChain" then ["ChainHandler.newBlockHandler"]
  else []

/-- Every call site of a block-adding / block-removing function of `blockChain` in package core is one of the
    known ones, no receiver is of unknown type: `insertBlock` only from `addBlockOnChain`, `remove` only from
    `removeFromCommonAncestor` and start-up repair, `addBlockOnChain` only from the exported entry, its own
    re-entry, the orphan callback and the sync fork switch (`tryAddBlockOnChain`, which runs `consensusVerify`
    first). The sync fork switch (`blockChainFork.triggerOnChain`) also calls `removeFromCommonAncestor`
    directly: a second fork-choice path, outside the property's quantifier (blocks delivered through the
    add-block entry point); the model has it as `forkSwitch` (`Props/C05.fork_switch_inv`,
    `fork_switch_can_lower_head`) — listed here so that it stays the only one. -/
theorem callers_guarded : callers.all (fun p => (allowedCallers p.1).contains p.2) = true := by decide +kernel

def allowedWriters (w : String) : List String :=
  if w = "hashDB.Put" then ["blockChain.markAddBlock", "blockChain.markRemoveBlock", "blockChain.saveBlockByHash"]
  else if w = "hashDB.Delete" then ["blockChain.eraseAddBlockMark", "blockChain.eraseRemoveBlockMark", "blockChain.remove"]
  else if w = "heightDB.Put" then ["blockChain.remove", "blockChain.saveBlockByHeight", "blockChain.updateLastBlock"]
  else if w = "heightDB.Delete" then ["blockChain.remove"]
  else if w = "verifyHashDB.Put" then ["blockChain.updateVerifyHash"]
  else if w = "verifyHashDB.Delete" then ["blockChain.remove"]
  else []

/-- Only the functions the model accounts for write the three index stores. -/
theorem writers_inventory : writers.all (fun p => (allowedWriters p.1).contains p.2) = true := by decide +kernel

end Rangers.Props.C05Facts
