import Rangers.Generated.Bls14Consts
import Rangers.Generated.Bls14Shape
import Rangers.Model.Bls14Verify
/-!
# C14 — translator facts (T-gen)

`gen/cmd/c14facts` re-reads `src/consensus/groupsig` on every run and regenerates
`Generated/Bls14Consts.lean` (numbers the whole model is parametrised by) and
`Generated/Bls14Shape.lean` (normalised bodies of `VerifySig` and of every wrapper the model
transcribes). Each theorem below pins one generated shape to the shape the model was written
against: a new / removed / re-ordered-with-effect guard, another callee, another argument or
another constant makes the corresponding obligation fail. Renaming a local or re-ordering
independent statements does not (the translator normalises those away).
(File produced by gen/cmd/c14facts/accept_shapes.py; see there before editing.)
-/
namespace Rangers.Props.C14
open Rangers Rangers.Model.Bls14
open Rangers.Generated.Bls14

/-- sig.go: VerifySig -/
theorem shape_verifySig : Shape.verifySig = [
  "guard[!$0.IsValid()] -> return false",
  "guard[$2.IsNil() || !$2.IsValid()] -> return false",
  "guard[$2.value.IsNil()] -> return false",
  "return bn_curve.PairIsEuqal(bn_curve.Pair(&$2.value, bn_curve.GetG2Base()), bn_curve.Pair(hashToG1(string($1)), &$0.value))"
] := rfl

/-- sig.go: Signature.IsValid -/
theorem shape_sigIsValid : Shape.sigIsValid = [
  "guard[len($r.Serialize()) == 0] -> return false",
  "return $r.value.IsValid()"
] := rfl

/-- sig.go: Signature.IsNil -/
theorem shape_sigIsNil : Shape.sigIsNil = [
  "return $r.value.IsNil()"
] := rfl

/-- sig.go: Signature.Serialize -/
theorem shape_sigSerialize : Shape.sigSerialize = [
  "guard[$r.IsNil()] -> return []byte{}",
  "return $r.value.Marshal()"
] := rfl

/-- sig.go: Signature.Deserialize -/
theorem shape_sigDeserialize : Shape.sigDeserialize = [
  "guard[len($0) == 0] -> return fmt.Errorf(\"signature Deserialized failed.\")",
  "do $r.value.Unmarshal($0)",
  "return nil"
] := rfl

/-- sig.go: DeserializeSign -/
theorem shape_deserializeSign : Shape.deserializeSign = [
  "do &Signature{}.Deserialize($0)",
  "return &Signature{}"
] := rfl

/-- sig.go: Sign -/
theorem shape_sign : Shape.sign = [
  "do $out:sig.value.ScalarMult(hashToG1(string($1)), $0.GetBigInt())",
  "return $out:sig"
] := rfl

/-- pubkey.go: Pubkey.IsValid -/
theorem shape_pubIsValid : Shape.pubIsValid = [
  "return !$r.IsEmpty()"
] := rfl

/-- pubkey.go: Pubkey.IsEmpty -/
theorem shape_pubIsEmpty : Shape.pubIsEmpty = [
  "return $r.value.IsEmpty()"
] := rfl

/-- pubkey.go: Pubkey.Serialize -/
theorem shape_pubSerialize : Shape.pubSerialize = [
  "return $r.value.Marshal()"
] := rfl

/-- pubkey.go: Pubkey.Deserialize -/
theorem shape_pubDeserialize : Shape.pubDeserialize = [
  "do _, error := $r.value.Unmarshal($0)",
  "return error"
] := rfl

/-- pubkey.go: ByteToPublicKey -/
theorem shape_byteToPublicKey : Shape.byteToPublicKey = [
  "if $e := $L0:Pubkey.Deserialize($0); $e != nil -> return Pubkey{}",
  "return $L0:Pubkey"
] := rfl

/-- id.go: ID.Serialize -/
theorem shape_idSerialize : Shape.idSerialize = [
  "guard[len($r.value.serialize()) == ID_LENGTH] -> return $r.value.serialize()",
  "guard[len($r.value.serialize()) > ID_LENGTH] -> panic",
  "do copy(make([]byte, ID_LENGTH)[ID_LENGTH - len($r.value.serialize()):ID_LENGTH], $r.value.serialize())",
  "return make([]byte, ID_LENGTH)"
] := rfl

/-- bn256.go: G1.IsValid -/
theorem shape_g1IsValid : Shape.g1IsValid = [
  "return $r.p.IsOnCurve()"
] := rfl

/-- bn256.go: G1.IsNil -/
theorem shape_g1IsNil : Shape.g1IsNil = [
  "return $r.p == nil"
] := rfl

/-- bn256.go: G2.IsEmpty -/
theorem shape_g2IsEmpty : Shape.g2IsEmpty = [
  "return $r.p == nil"
] := rfl

/-- bn256.go: PairIsEuqal -/
theorem shape_pairIsEqual : Shape.pairIsEqual = [
  "return bytes.Equal($0.Marshal(), $1.Marshal())"
] := rfl

/-- bn256.go: exits of G1.Unmarshal with their path conditions -/
theorem shape_g1UnmarshalExits : Shape.g1UnmarshalExits = [
  "[len($0) < 2 * numBytes] -> return nil, errors.New(\"bn256: not enough data\")",
  "[!($r.p.x == gfP{0} && $r.p.y == gfP{0})][!$r.p.IsOnCurve()] -> return nil, errors.New(\"bn256: malformed point\")",
  " -> return $0[2 * numBytes:], nil"
] := rfl

/-- bn256.go: exits of G2.Unmarshal with their path conditions -/
theorem shape_g2UnmarshalExits : Shape.g2UnmarshalExits = [
  "[len($0) < 4 * numBytes] -> return nil, errors.New(\"bn256: not enough data\")",
  "[!($r.p.x.IsZero() && $r.p.y.IsZero())][!$r.p.IsOnCurve()] -> return nil, errors.New(\"bn256: malformed point\")",
  " -> return $0[4 * numBytes:], nil"
] := rfl

/-- curve.go: curvePoint.IsOnCurve exits -/
theorem shape_curveIsOnCurve : Shape.curveIsOnCurve = [
  "[$r.IsInfinity()] -> return true",
  " -> return *y2 == *x3"
] := rfl

/-- bn_curve.go: hashToG1 -/
theorem shape_hashToG1 : Shape.hashToG1 = [
  "do &bn_curve.G1{}.HashToPoint([]byte($0))",
  "return &bn_curve.G1{}"
] := rfl

/-- bn256.go: the try-and-increment loop of hashToCurvePoint is unbounded and is left only by returning a point -/
theorem shape_hashToCurvePointLoop : Shape.hashToCurvePointLoop = [
  "for: init=- cond=- post=- returns-inside=1 statements-after=0"
] := rfl

/-- bn256.go: hashToCurvePoint -/
theorem shape_hashToCurvePoint : Shape.hashToCurvePoint = [
  "do new(big.Int).SetBytes(sha256.Sum256($0)[:]).Mod(new(big.Int).SetBytes(sha256.Sum256($0)[:]), P)",
  "stmt *ast.ForStmt: for { xxx := new(big.Int).Mul(x, x) xxx.Mul(xxx, x) t := new(big.Int).Add(xxx, bi_curveB) y := new(big.Int).ModSqrt(t, P) if y != nil { return x, y } x.Add(x, one) }"
] := rfl

/-- bn256.go: G1.HashToPoint -/
theorem shape_hashToPoint : Shape.hashToPoint = [
  "do x, y := hashToCurvePoint($0)",
  "do Px, Py := &gfP{}, &gfP{}",
  "unrecognised-if: if len(x_str) == 32 { Px.Unmarshal(x_str) } else { buf_x := make([]byte, 32) copy(buf_x[32-len(x_str):32], x_str) Px.Unmarshal(buf_x) }",
  "do montEncode(Px, Px)",
  "unrecognised-if: if len(y_str) == 32 { Py.Unmarshal(y_str) } else { buf_y := make([]byte, 32) copy(buf_y[32-len(y_str):32], y_str) Py.Unmarshal(buf_y) }",
  "do montEncode(Py, Py)",
  "unrecognised-if: if e.p == nil { e.p = &curvePoint{} }",
  "do $r.p.x.Set(Px)",
  "do $r.p.y.Set(Py)",
  "do $r.p.z.Set(newGFp(1))",
  "do $r.p.t.Set(newGFp(1))",
  "unrecognised-if: if e.IsValid() { return nil } else { return errors.New(\"hash to point failed.\") }"
] := rfl

/-- bn_curve.go: package-level variables hashToG1 touches (must stay empty: no cache, no state) -/
theorem shape_hashToG1State : Shape.hashToG1State = [] := rfl

/-- bn_curve.go: callees of hashToG1 -/
theorem shape_hashToG1Calls : Shape.hashToG1Calls = [
  ".HashToPoint"
] := rfl

/-- bn256.go: package-level variables G1.HashToPoint touches -/
theorem shape_hashToPointState : Shape.hashToPointState = [] := rfl

/-- bn256.go: callees of G1.HashToPoint -/
theorem shape_hashToPointCalls : Shape.hashToPointCalls = [
  ".Bytes",
  ".IsValid",
  ".Set",
  ".Unmarshal",
  "copy",
  "errors.New",
  "hashToCurvePoint",
  "len",
  "make",
  "montEncode",
  "newGFp"
] := rfl

/-- bn256.go: package-level variables hashToCurvePoint touches (only the modulus) -/
theorem shape_hashToCurvePointState : Shape.hashToCurvePointState = [
  "P"
] := rfl

/-- bn256.go: callees of hashToCurvePoint -/
theorem shape_hashToCurvePointCalls : Shape.hashToCurvePointCalls = [
  ".Add",
  ".Mod",
  ".ModSqrt",
  ".Mul",
  ".SetBytes",
  ".SetInt64",
  "big.NewInt",
  "sha256.Sum256"
] := rfl

/-- bn256/*.go: every write-capable use of a package-level variable inside a function body (assign / incdec / &v / method call with v as receiver) -/
theorem shape_bn256PackageState : Shape.bn256PackageState = [] := rfl

/-- sig.go, pubkey.go: methods invoked on / addresses taken of the shared-pointer field `.value` of a receiver or parameter -/
theorem shape_groupsigValueUses : Shape.groupsigValueUses = [
  "GeneratePubkey: arg.value.getBigInt()",
  "Pubkey.Deserialize: arg.value.Unmarshal()",
  "Pubkey.GetHexString: arg.value.Marshal()",
  "Pubkey.IsEmpty: arg.value.IsEmpty()",
  "Pubkey.IsEqual: arg.value.Marshal()",
  "Pubkey.Serialize: arg.value.Marshal()",
  "Pubkey.SetHexString: arg.value.Unmarshal()",
  "Pubkey.add: &arg.value",
  "Pubkey.add: arg.value.Add()",
  "Signature.Deserialize: arg.value.Unmarshal()",
  "Signature.GetHexString: arg.value.Marshal()",
  "Signature.IsEqual: arg.value.Marshal()",
  "Signature.IsNil: arg.value.IsNil()",
  "Signature.IsValid: arg.value.IsValid()",
  "Signature.Serialize: arg.value.Marshal()",
  "Signature.SetHexString: arg.value.IsNil()",
  "Signature.SetHexString: arg.value.Unmarshal()",
  "Signature.add: &arg.value",
  "Signature.add: arg.value.Add()",
  "Signature.mul: &arg.value",
  "Signature.mul: arg.value.ScalarMult()",
  "VerifySig: &arg.value",
  "VerifySig: arg.value.IsNil()"
] := rfl

/-- bn_curve.go: BnInt.getHexString -/
theorem shape_bnIntGetHexString : Shape.bnIntGetHexString = [
  "return PREFIX + $r.v.Text(16)"
] := rfl

/-- bn_curve.go: BnInt.setHexString -/
theorem shape_bnIntSetHexString : Shape.bnIntSetHexString = [
  "guard[len($0) < len(PREFIX) || $0[:len(PREFIX)] != PREFIX] -> return fmt.Errorf(\"arg failed\")",
  "do $r.v.SetString($0[len(PREFIX):][:], 16)",
  "return nil"
] := rfl

/-- sig.go: Signature.GetHexString -/
theorem shape_sigGetHexString : Shape.sigGetHexString = [
  "return PREFIX + common.Bytes2Hex($r.value.Marshal())"
] := rfl

/-- sig.go: Signature.SetHexString -/
theorem shape_sigSetHexString : Shape.sigSetHexString = [
  "guard[len($0) < len(PREFIX) || $0[:len(PREFIX)] != PREFIX] -> return fmt.Errorf(\"arg failed\")",
  "unrecognised-if: if sig.value.IsNil() { sig.value = bn_curve.G1{} }",
  "do $r.value.Unmarshal(common.Hex2Bytes($0[len(PREFIX):]))",
  "return nil"
] := rfl

/-- pubkey.go: Pubkey.GetHexString -/
theorem shape_pubGetHexString : Shape.pubGetHexString = [
  "return PREFIX + common.Bytes2Hex($r.value.Marshal())"
] := rfl

/-- pubkey.go: Pubkey.SetHexString -/
theorem shape_pubSetHexString : Shape.pubSetHexString = [
  "guard[len($0) < len(PREFIX) || $0[:len(PREFIX)] != PREFIX] -> return fmt.Errorf(\"arg failed\")",
  "do $r.value.Unmarshal(common.Hex2Bytes($0[len(PREFIX):]))",
  "return nil"
] := rfl

/-- pubkey.go: Pubkey.UnmarshalJSON -/
theorem shape_pubUnmarshalJSON : Shape.pubUnmarshalJSON = [
  "guard[len(string($0[:])) < 2] -> return fmt.Errorf(\"data size less than min.\")",
  "do string($0[:]) = string($0[:])[1:len(string($0[:])) - 1]",
  "return $r.SetHexString(string($0[:]))"
] := rfl

/-- id.go: ID.GetHexString -/
theorem shape_idGetHexString : Shape.idGetHexString = [
  "return common.ToHex($r.Serialize())"
] := rfl

/-- id.go: ID.SetHexString -/
theorem shape_idSetHexString : Shape.idSetHexString = [
  "return $r.value.setHexString($0)"
] := rfl

/-- id.go: ID.UnmarshalJSON -/
theorem shape_idUnmarshalJSON : Shape.idUnmarshalJSON = [
  "guard[len(string($0[:])) < 2] -> return fmt.Errorf(\"data size less than min.\")",
  "do string($0[:]) = string($0[:])[1:len(string($0[:])) - 1]",
  "return $r.SetHexString(string($0[:]))"
] := rfl

/-- common/bytes.go: Hex2Bytes -/
theorem shape_commonHex2Bytes : Shape.commonHex2Bytes = [
  "do h, _ := hex.DecodeString($0)",
  "return h"
] := rfl

/-- common/bytes.go: Bytes2Hex -/
theorem shape_commonBytes2Hex : Shape.commonBytes2Hex = [
  "return hex.EncodeToString($0)"
] := rfl

/-- common/bytes.go: ToHex -/
theorem shape_commonToHex : Shape.commonToHex = [
  "unrecognised-if: if len(hex) == 0 { hex = \"0\" }",
  "return \"0x\" + Bytes2Hex($0)"
] := rfl

/-- sig.go: Signature.IsEqual -/
theorem shape_sigIsEqual : Shape.sigIsEqual = [
  "return bytes.Equal($r.value.Marshal(), $0.value.Marshal())"
] := rfl

/-- pubkey.go: Pubkey.IsEqual -/
theorem shape_pubIsEqual : Shape.pubIsEqual = [
  "return bytes.Equal($r.value.Marshal(), $0.value.Marshal())"
] := rfl

/-- pubkey.go: Pubkey.GetAddress -/
theorem shape_pubGetAddress : Shape.pubGetAddress = [
  "return common.BytesToAddress(sha3.Sum256($r.Serialize())[:])"
] := rfl

/-- pubkey.go: AggregatePubkeys -/
theorem shape_aggregatePubkeys : Shape.aggregatePubkeys = [
  "unrecognised-if: if len(pubs) == 0 { log.Printf(\"AggregatePubkeys no pubs\") return nil }",
  "do new(Pubkey).value.Set(&$0[0].value)",
  "stmt *ast.ForStmt: for i := 1; i < len(pubs); i++ { pub.add(&pubs[i]) }",
  "return new(Pubkey)"
] := rfl

/-- pubkey.go: GeneratePubkey -/
theorem shape_generatePubkey : Shape.generatePubkey = [
  "do new(Pubkey).value.ScalarBaseMult($0.value.getBigInt())",
  "return new(Pubkey)"
] := rfl

/-- seckey.go: Seckey.IsValid -/
theorem shape_seckeyIsValid : Shape.seckeyIsValid = [
  "return $r.GetBigInt().Cmp(big.NewInt(0)) != 0"
] := rfl

/-- seckey.go: Seckey.IsEqual -/
theorem shape_seckeyIsEqual : Shape.seckeyIsEqual = [
  "return $r.value.isEqual(&$0.value)"
] := rfl

/-- seckey.go: AggregateSeckeys -/
theorem shape_aggregateSeckeys : Shape.aggregateSeckeys = [
  "unrecognised-if: if len(secs) == 0 { log.Printf(\"AggregateSeckeys no secs\") return nil }",
  "do new(Seckey).value.setBigInt($0[0].value.getBigInt())",
  "stmt *ast.ForStmt: for i := 1; i < len(secs); i++ { sec.value.add(&secs[i].value) }",
  "do new(big.Int).Set(new(Seckey).value.getBigInt())",
  "do new(Seckey).value.setBigInt(new(big.Int).Mod(new(big.Int), curveOrder))",
  "return new(Seckey)"
] := rfl

/-- seckey.go: newSeckeyFromByte -/
theorem shape_newSeckeyFromByte : Shape.newSeckeyFromByte = [
  "unrecognised-if: if err != nil { log.Printf(\"NewSeckeyFromByte %s\\n\", err) return nil }",
  "do new(Seckey).value.mod()",
  "return new(Seckey)"
] := rfl

/-- seckey.go: NewSeckeyFromRand -/
theorem shape_newSeckeyFromRand : Shape.newSeckeyFromRand = [
  "return newSeckeyFromByte($0.Bytes())"
] := rfl

/-- seckey.go: NewSeckeyFromBigInt -/
theorem shape_newSeckeyFromBigInt : Shape.newSeckeyFromBigInt = [
  "do &big.Int{}.Set($0)",
  "do $0.Mod(&big.Int{}, curveOrder)",
  "do new(Seckey).value.setBigInt($0)",
  "return new(Seckey)"
] := rfl

/-- id.go: ID.IsValid -/
theorem shape_idIsValid : Shape.idIsValid = [
  "return $r.GetBigInt().Cmp(big.NewInt(0)) != 0"
] := rfl

/-- id.go: ID.ToAddress -/
theorem shape_idToAddress : Shape.idToAddress = [
  "return common.BytesToAddress($r.Serialize())"
] := rfl

/-- id.go: NewIDFromPubkey -/
theorem shape_newIDFromPubkey : Shape.newIDFromPubkey = [
  "return newIDFromBigInt(new(big.Int).SetBytes(sha3.Sum256($0.Serialize())[:]))"
] := rfl

/-- common/types.go: Address.SetBytes -/
theorem shape_addressSetBytes : Shape.addressSetBytes = [
  "unrecognised-if: if len(b) > len(a) { b = b[len(b)-AddressLength:] }",
  "do copy($r[:], $0[:])"
] := rfl

/-- common/utils.go: ShortHex12 -/
theorem shape_shortHex12 : Shape.shortHex12 = [
  "guard[len($0) < 12] -> return $0",
  "return $0[0:6] + \"-\" + $0[len($0) - 6:]"
] := rfl

/-- bn_curve.go: BnInt.mod -/
theorem shape_bnIntMod : Shape.bnIntMod = [
  "do $r.v.Mod(&$r.v, bn_curve.Order)",
  "return nil"
] := rfl

/-- bn_curve.go: BnInt.add -/
theorem shape_bnIntAdd : Shape.bnIntAdd = [
  "do $r.v.Add(&$r.v, &$0.v)",
  "return nil"
] := rfl

/-- groupsig/*.go: everything used from other go-rangers packages (no chain configuration, no fork flags, no block height) -/
theorem shape_groupsigExternalUses : Shape.groupsigExternalUses = [
  "src/common.Address",
  "src/common.Bytes2Hex",
  "src/common.BytesToAddress",
  "src/common.Hex2Bytes",
  "src/common.ShortHex12",
  "src/common.ToHex",
  "src/consensus/base.NewRand",
  "src/consensus/base.Rand"
] := rfl

/-- bn256/*.go: everything used from other go-rangers packages (nothing) -/
theorem shape_bn256ExternalUses : Shape.bn256ExternalUses = [] := rfl

/-- The constants are mutually consistent and are the ones the byte-level proofs rely on:
    `p2` spells `P`, `P ≡ 3 (mod 4)` (square roots by one exponentiation), `P` fits in
    `numBytes` bytes but `2P` does not (so `x + p` is the only alias), `Order < P`. -/
theorem consts_consistent :
    fieldPWords = fieldP ∧ fieldP % 4 = 3 ∧ groupOrder < fieldP ∧ numBytes = 32 ∧ idLength = 32 ∧
    fieldP < 256 ^ numBytes ∧ 256 ^ numBytes < 2 * fieldP ∧ curveB = 3 := by decide

/-- Both generators satisfy their curve equations, and `twistB · (i + 3) = 3`. -/
theorem generators_on_curve :
    g1Gen.onCurve = true ∧ g1Gen.reduced = true ∧ g2Gen.onCurve = true ∧
    F2.mul twistB ⟨1, 3⟩ = ⟨0, 3⟩ := by decide

end Rangers.Props.C14
