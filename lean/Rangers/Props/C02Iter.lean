import Rangers.Proofs.TrieIterMachine
import Rangers.Props.C02
/-!
# C02, the NodeIterator stack machine (`Model/TrieIter.lean`)

Proved: **full iteration** (`NodeIterator(nil)`, what `Iterator` consumers such as `MinerIterator` use)
by the stack machine — `seek`, `peek`, `nextChild`, `push`, `pop`, `Next`, leaf selection — returns
exactly `iterFrom t []`, for every minimal-form trie (`iterator_machine_full`: the frame stack stands
for the pairs still to come, `pendingOut`, and one `Next` reports the first of them, `step_spec`),
hence after any history exactly the live pairs in
hex-path order, a key after its proper extensions (`machine_iter_complete`, `machine_order_bytes`);
the slot order of `nextChild`; witnesses by kernel evaluation.
Not proved: iteration from a non-empty start key (`seekLoop` with `descend = HasPrefix(key, path)`);
that case is checked at run time (the driver runs machine and `iterFrom` side by side on every
`iter` op and flags a difference) and by the correspondence run against the Go iterator.
-/
namespace Rangers.Props.C02Iter
open Rangers Rangers.Trie

/-- **the stack machine = the specification**, full iteration -/
theorem iterator_machine_full (t : Node) (ht : WFRoot t) : iterMachine t [] = iterFrom t [] :=
  iterMachine_full t ht

/-- after any history the machine returns exactly the live pairs -/
theorem machine_iter_complete (ops : List Op) (k v : Bytes) :
    (k, v) ∈ iterMachine (run ops) [] ↔ finalMap ops k = some v := by
  rw [iterMachine_full _ (C02.run_wf ops)]; exact C02.iter_complete ops k v

/-- …in the order of the known finding: bytewise ascending except that a key follows every
    longer key it is a proper prefix of -/
theorem machine_order_bytes (ops : List Op) :
    (iterMachine (run ops) []).Pairwise
      (fun e1 e2 => (e1.1 < e2.1 ∧ ¬ e1.1 <+: e2.1) ∨ (e2.1 <+: e1.1 ∧ e2.1 ≠ e1.1)) := by
  rw [iterMachine_full _ (C02.run_wf ops)]; exact C02.iter_order_bytes ops

-- non-vacuity: `WFRoot`, the hypothesis of `iterMachine_full`, holds of a run in which one key is a prefix of another
example : WFRoot (run [.upd [0] [1], .upd [0, 0] [2]]) := C02.run_wf _

/-- `nextChild` on a full node returns the first occupied slot at or after `from`, in ascending
    slot order — so the value slot 16 comes after every child slot 0..15 -/
theorem firstChild_spec (cs : List Node) (frm i : Nat) (c : Node) (h : firstChild cs frm = some (i, c)) :
    frm ≤ i ∧ i < cs.length ∧ c = cs.getD i .nil ∧ c ≠ .nil ∧
    ∀ j, frm ≤ j → j < i → cs.getD j .nil = .nil :=
  firstChild_some h

/-- the stack machine on the finding's witness: after writing keys `00` and `0000`, the longer
    key is returned first (compare `Props.C02.iter_ascending_counterexample`) -/
theorem machine_prefix_key_order :
    iterMachine (run [.upd [0] [1], .upd [0, 0] [2]]) [] = [([0, 0], [2]), ([0], [1])] := by decide +kernel

/-- seek: iteration from a start key returns the paths `>=` it in path order — including a key
    that is bytewise smaller than the start key when it is a proper prefix of it (`00` for start `0001`) -/
theorem machine_seek_witness :
    iterMachine (run [.upd [0] [1], .upd [0, 0] [2], .upd [0, 2] [3], .upd [1] [4]]) [0, 1]
      = [([0, 2], [3]), ([0], [1]), ([1], [4])] ∧
    iterFrom (run [.upd [0] [1], .upd [0, 0] [2], .upd [0, 2] [3], .upd [1] [4]]) [0, 1]
      = [([0, 2], [3]), ([0], [1]), ([1], [4])] := by decide +kernel

end Rangers.Props.C02Iter
