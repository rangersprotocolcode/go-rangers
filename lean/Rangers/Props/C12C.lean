import Rangers.Props.C04
import Rangers.Model.Evm12World
/-!
# C12 ⇐ C04: where `RevertRestoresObs` comes from

The frame theorems of `Props/C12.lean` / `C12B.lean` assume of `RevertToSnapshot` only `RevertRestoresObs rv`.
This file connects that hypothesis to C04's `revert_restores_obs_partial` about the journal model
`Rangers.Model.Journal` (which `drv_c04` executes against the real `AccountDB`): every component of the C12
observation is a C04 query on the journal state (`project`), so a revert implemented by the journal restores it
under exactly C04's side conditions (`c04_revert_restores_c12_obs`, in general form
`JournalImpl.revert_restores_obs`), and the journal ops behind the frame model's mutators lie in C04's proved
domain (`c12_mutators_in_c04_domain`).

NOT proved here (covered by the two correspondence runs against the same real `AccountDB` instead): that each
C12 world mutator commutes with the abstraction function (a full simulation between `Evm12World` and `Journal`).
-/
namespace Rangers.Props.C12C
open Rangers Rangers.Model
open Rangers.Model.Journal (ADB Cfg Op LogRec)

/-- how symbolic C12 entities are laid out in the real state -/
structure Bridge where
  addr : Evm12.Addr → Journal.Addr
  slot : Nat → Journal.Key
  hash : Nat → Journal.Hash
  code : Bytes → Evm12.Code
  log : LogRec → Evm12.Log
  /-- the miner database account and the slot holding the stake of the miner registered for an account -/
  minerDb : Journal.Addr
  stakeKey : Evm12.Addr → Journal.Key

/-- the C12 observation in query form (logs per transaction hash, as `GetLogs` answers) -/
structure Queries where
  exist : Evm12.Addr → Bool
  nonce : Evm12.Addr → Nat
  bal : Evm12.Addr → Nat
  code : Evm12.Addr → Evm12.Code
  stor : Evm12.Addr → Nat → Nat
  getLogs : Nat → List Evm12.Log
  stake : Evm12.Addr → Nat
  sui : Evm12.Addr → Bool

def queriesOf (w : Evm12.World) : Queries :=
  { exist := w.exists?, nonce := w.getNonce, bal := w.getBalance, code := w.getCode, stor := w.getState,
    getLogs := w.getLogs, stake := w.getStake, sui := w.hasSuicided }

theorem queries_of_obs {w w' : Evm12.World} (h : Evm12.obs w' = Evm12.obs w) : queriesOf w' = queriesOf w := by
  -- the queries are a function of the observation (`GetLogs(hash)` filters the block's log list)
  have key : ∀ w, queriesOf w = (fun o : Evm12.Obs =>
      ({ exist := o.exist, nonce := o.nonce, bal := o.bal, code := o.code, stor := o.stor,
         getLogs := fun th => o.logs.filter (fun l => l.txh == th), stake := o.stake, sui := o.sui } : Queries))
      (Evm12.obs w) := fun _ => rfl
  rw [key, key, h]

/-- projection of a journal state to the C12 queries: each one is a C04 query -/
def project (b : Bridge) (c : Cfg) (s : ADB) : Queries :=
  let q := fun (a : Journal.Addr) (k : Journal.Key) (th : Journal.Hash) => Journal.obs c s a k th []
  { exist := fun a => (q (b.addr a) [] []).exist
    nonce := fun a => (q (b.addr a) [] []).nonce
    bal := fun a => (q (b.addr a) [] []).balance
    code := fun a => b.code (q (b.addr a) [] []).code
    stor := fun a k => beToNat (q (b.addr a) (b.slot k) []).slot
    getLogs := fun th => (q [] [] (b.hash th)).logs.map b.log
    stake := fun a => beToNat (q b.minerDb (b.stakeKey a) []).slot
    sui := fun a => (q (b.addr a) [] []).suicided }

theorem c12_obs_from_c04_queries (b : Bridge) (c : Cfg) (s s' : ADB)
    (h : ∀ a k th hh, Journal.obs c s' a k th hh = Journal.obs c s a k th hh) :
    project b c s' = project b c s := by
  simp only [project, h]

/-- **C04 ⇒ the hypothesis of C12**, under exactly C04's side conditions -- Proposal002 on, state not crashed,
    revision stack accounted for (`RevsOk`, `Inv`), every op of the region `StepOk` (covered op; `SetCode` on a
    32-byte code hash, `Suicide` on a canonical balance slot, `AddLog` with `logSize + 1 < 2^64` and no empty log
    list for the hash; no `GetCommittedState`, whose cache side effect is C04's own counterexample), the revert
    itself not panicking: snapshot, any region (nested snapshots and reverts included), revert -- the projected
    C12 observation is the one at the snapshot. -/
theorem c04_revert_restores_c12_obs (b : Bridge) (c : Cfg) (hp : c.p002 = true) (s : ADB) (G : List ADB)
    (ops : List Op) (hs : s.crashed = false) (ok : Proofs.Journal.RevsOk s) (inv : Proofs.Journal.Inv c s G)
    (hrun : Proofs.Journal.RunOk (C04.StepOk c) c (Journal.snapshot s).1 ops)
    (hnc : (Journal.revert c (Journal.run c (Journal.snapshot s).1 ops) (Journal.snapshot s).2).crashed = false) :
    project b c (Journal.revert c (Journal.run c (Journal.snapshot s).1 ops) (Journal.snapshot s).2)
      = project b c s :=
  c12_obs_from_c04_queries b c s _
    (fun a k th hh => C04.revert_restores_obs_partial c hp s G ops hs ok inv hrun hnc a k th hh)

/-- non-vacuity: C04's demo region (writes of every covered kind with nested snapshots) satisfies the
    side conditions from the empty state -/
example : Proofs.Journal.RunOk (C04.StepOk C04.c0) C04.c0 (Journal.snapshot ADB.empty).1 C04.demoOps := by
  decide +kernel

/-- the journal ops behind the mutators and getters of the C12 frame model are all in C04's domain: `Covered`, or
    one of the three ops with a side condition. Neither `GetCommittedState` nor `AddSlotToAccessList` is issued by
    the frames (the SSTORE gas function of this code base is flat and never reads the committed value; EIP-2929
    is off). -/
theorem c12_mutators_in_c04_domain (a t : Journal.Addr) (k v : Bytes) (n id : Nat) (code h topics data : Bytes) :
    C04.Covered (.setData a k v) = true ∧ C04.Covered (.setNonce a n) = true ∧ C04.Covered (.create a) = true
    ∧ C04.Covered (.addBal a n) = true ∧ C04.Covered (.subBal a n) = true ∧ C04.Covered (.transfer a t n) = true
    ∧ C04.Covered (.tset a k v) = true ∧ C04.Covered (.alAddr a) = true
    ∧ C04.Covered .snapshot = true ∧ C04.Covered (.revert id) = true
    ∧ C04.Covered (.qExist a) = true ∧ C04.Covered (.qNonce a) = true ∧ C04.Covered (.qBal a) = true
    ∧ C04.Covered (.qData a k) = true ∧ C04.Covered (.qCode a) = true ∧ C04.Covered (.qCodeHash a) = true
    ∧ C04.Covered (.qSuicided a) = true ∧ C04.Covered (.qEmpty a) = true
    ∧ (∀ c s, C04.StepOk c s (.setCode a code h) ↔ C04.CodeHashOk s a)
    ∧ (∀ c s, C04.StepOk c s (.suicide a) ↔ Proofs.Journal.SuicideOk c s a)
    ∧ (∀ c s, C04.StepOk c s (.addLog a topics data) ↔ Proofs.Journal.AddLogOk s)
    ∧ C04.Covered (.qCommitted a k) = false := by
  refine ⟨rfl, rfl, rfl, rfl, rfl, rfl, rfl, rfl, rfl, rfl, rfl, rfl, rfl, rfl, rfl, rfl, rfl, rfl, ?_, ?_, ?_, rfl⟩
  · intro c s; exact Iff.rfl
  · intro c s; exact Iff.rfl
  · intro c s; exact Iff.rfl

/-- A journaled implementation of the C12 world: an abstraction function whose observation is determined
    by the C04 queries (e.g. via `project`). -/
structure JournalImpl where
  c : Cfg
  abs : ADB → Evm12.World
  determined : ∀ s s', (∀ a k th hh, Journal.obs c s' a k th hh = Journal.obs c s a k th hh) →
    Evm12.obs (abs s') = Evm12.obs (abs s)

/-- non-vacuity: an abstraction that reads two accounts' nonce, balance and one slot off the journal -/
example (c : Cfg) : JournalImpl :=
  { c := c
    abs := fun s =>
      { nonce := [(.base 1, (Journal.obs c s [1] [] [] []).nonce), (.base 2, (Journal.obs c s [2] [] [] []).nonce)]
        bal := [(.base 1, (Journal.obs c s [1] [] [] []).balance)]
        stor := [((.base 2, 0), beToNat (Journal.obs c s [2] [0] [] []).slot)] }
    determined := by
      intro s s' h
      simp only [h] }

/-- the composition in general form: the world abstracted from the reverted journal has the observation
    of the world abstracted at the snapshot -- `RevertRestoresObs` for `rv (abs s) _ := abs (revert …)` -/
theorem JournalImpl.revert_restores_obs (J : JournalImpl) (hp : J.c.p002 = true) (s : ADB) (G : List ADB)
    (ops : List Op) (hs : s.crashed = false) (ok : Proofs.Journal.RevsOk s) (inv : Proofs.Journal.Inv J.c s G)
    (hrun : Proofs.Journal.RunOk (C04.StepOk J.c) J.c (Journal.snapshot s).1 ops)
    (hnc : (Journal.revert J.c (Journal.run J.c (Journal.snapshot s).1 ops) (Journal.snapshot s).2).crashed = false) :
    Evm12.obs (J.abs (Journal.revert J.c (Journal.run J.c (Journal.snapshot s).1 ops) (Journal.snapshot s).2))
      = Evm12.obs (J.abs s) :=
  J.determined s _ (fun a k th hh => C04.revert_restores_obs_partial J.c hp s G ops hs ok inv hrun hnc a k th hh)

end Rangers.Props.C12C
