import Rangers.Model.RoundWire
import Rangers.Proofs.BigEndian
/-!
C15, wire level: what the node's decoder does with the byte fields of a verify message
(`Model/RoundWire.lean`, tied by the T-corr stream `wire` against the real
`UnMarshalConsensusVerifyMessage`). The signer id is an unauthenticated field: these theorems say which
byte strings name the same member, which make `ID.Serialize` panic, and that nothing but an empty
`DataSign` is rejected at this level.
-/
namespace Rangers.Props.C15
open Rangers Rangers.Model.Round

theorem foldl_be_lt (b : Bytes) : ∀ acc : Nat,
    b.foldl (fun acc x => acc * 256 + x.toNat) acc < (acc + 1) * 256 ^ b.length := by
  intro acc
  rw [beToNat_foldl, Nat.add_mul, Nat.one_mul]
  exact Nat.add_lt_add_left (beToNat_lt b) _

theorem idOfBytes_lt (b : Bytes) : idOfBytes b < 256 ^ b.length := beToNat_lt b

/-- Any number of leading zero bytes names the same member
(`idenc=pad`, `pad1`, `strip` of the harness; 31-, 32-, 33-, 34-byte encodings of one id). -/
theorem padded_id_same_member (z : Nat) (b : Bytes) :
    idOfBytes (List.replicate z 0 ++ b) = idOfBytes b :=
  beToNat_zeros_append z b

example : idOfBytes [0, 0, 1, 2] = idOfBytes [1, 2] ∧ idOfBytes [1, 2] = 258 := by decide

theorem padded_id_same_oversize (z : Nat) (b : Bytes) :
    idOversize (List.replicate z 0 ++ b) = idOversize b := by
  simp [idOversize, padded_id_same_member]

theorem oversize_iff (b : Bytes) : idOversize b = true ↔ 2 ^ 256 ≤ idOfBytes b := by
  simp [idOversize]

/-- A signer-id field of at most 32 bytes never makes `ID.Serialize` panic, whatever its content. -/
theorem short_id_never_oversize (b : Bytes) (h : b.length ≤ 32) : idOversize b = false := by
  have h2 : 256 ^ b.length ≤ 256 ^ 32 := Nat.pow_le_pow_right (by decide) h
  have h3 : (256 : Nat) ^ 32 = 2 ^ 256 := by decide
  exact decide_eq_false (Nat.not_le.mpr (h3 ▸ Nat.lt_of_lt_of_le (idOfBytes_lt b) h2))

example : idOversize (1 :: List.replicate 32 0) = true ∧ idOversize (0 :: List.replicate 32 255) = false := by
  decide

theorem bytesToHash_length (b : Bytes) : (bytesToHash b).length = 32 := by
  unfold bytesToHash
  by_cases h : b.length > 32
  · rw [if_pos h, List.length_drop]; omega
  · rw [if_neg h]; exact padLeft_length 32 b (Nat.le_of_not_lt h)

theorem bytesToHash_of_32 (b : Bytes) (h : b.length = 32) : bytesToHash b = b := by
  unfold bytesToHash
  rw [if_neg (by omega)]
  simp [padLeft, h]

/-- `common.BytesToHash` is idempotent: a block hash / data hash that went through the decoder once is canonical. -/
theorem bytesToHash_idem (b : Bytes) : bytesToHash (bytesToHash b) = bytesToHash b :=
  bytesToHash_of_32 _ (bytesToHash_length b)

/-- Longer input keeps its LAST 32 bytes: two different wire `BlockHash` fields can file a message under
the same party key. -/
theorem bytesToHash_crops_left (pre b : Bytes) (h : b.length = 32) : bytesToHash (pre ++ b) = b := by
  unfold bytesToHash
  by_cases hp : pre = []
  · subst hp; simp [h, padLeft]
  · have : 0 < pre.length := List.length_pos_iff.mpr hp
    rw [if_pos (by simp only [List.length_append]; omega)]
    simp only [List.length_append, h, Nat.add_sub_cancel]
    exact List.drop_left

example : bytesToHash ([9, 9] ++ List.replicate 32 7) = List.replicate 32 7 := by decide

/-- At field level the decoder drops a packet iff `DataSign` is
empty; every other content — any lengths, any ids, garbage points — reaches `OnMessageVerify`. -/
theorem decode_rejects_only_empty_datasign (f : VFields) :
    decodeFields f = none ↔ f.dataSign = [] := by
  unfold decodeFields
  cases h : f.dataSign with
  | nil => simp
  | cons x xs => simp

/-- A nil signature is rejected later, by `VerifySig` or by the nil check of the beacon share. -/
theorem sigNil_iff_short (b : Bytes) : sigIsNil b = true ↔ b.length < 64 := by simp [sigIsNil]

/-- Re-encoding the signer id with leading zero bytes changes nothing the
round can see. -/
theorem decode_padding_invariant (f : VFields) (z : Nat) :
    decodeFields { f with signMember := List.replicate z 0 ++ f.signMember } = decodeFields f := by
  unfold decodeFields
  simp only [padded_id_same_member, padded_id_same_oversize]

end Rangers.Props.C15
