import Rangers.Proofs.C13Codec
import Rangers.Proofs.C13GroupK
/-!
# C13 — encodings and parameters the recovery depends on

* the id ↔ map-key round trip (`ID.Serialize`, `GetHexString`, `SetHexString`): `RecoverGroupSignature`
  reads every Lagrange abscissa back from a map key;
* `Signature.Serialize` / `Deserialize` on valid points;
* the group size chosen by `CreateGroupMemberCount` and the `genSharePiece` map.
All about definitions the driver executes (`idkey`, `idparse`, `membercount`, `recover`, `dkg` ops).
-/
namespace Rangers.Props.C13Codec
open Rangers Rangers.Model Rangers.Model.IdKey Rangers.Model.Shamir Rangers.Proofs.C13 Rangers.Proofs.C13G1

/-- For every id below `2^256` — leading zero bytes or not — the key
    `GetHexString` produces is read back by `SetHexString` as the same id. -/
theorem id_key_roundtrip (x : Nat) (hx : x < 2 ^ 256) :
    ∃ cs, idHexChars x = some cs ∧ idSetHex cs = .ok x := by
  have hl := (natToBE_length_le_32 x).2 hx
  refine ⟨'0' :: 'x' :: hexChars (padLeft 32 (natToBE x)), by simp [idHexChars, idSerialize, hl], ?_⟩
  have hne : (hexChars (padLeft 32 (natToBE x))).isEmpty = false := by
    cases hp : padLeft 32 (natToBE x) with
    | nil => have := padLeft32_length x hx; rw [hp] at this; cases this
    | cons b bs => rfl
  simp only [idSetHex, hne, Bool.false_eq_true, if_false]
  rw [parseHexAux_hexChars, show List.foldl _ 0 _ = beToNat _ from rfl, beToNat_padLeft, beToNat_natToBE]

/-- Distinct ids have distinct map keys (so a witness map is faithfully a list keyed by `Nat` ids). -/
theorem id_key_injective (x y : Nat) (hx : x < 2 ^ 256) (hy : y < 2 ^ 256)
    (h : idHexChars x = idHexChars y) : x = y := by
  obtain ⟨cx, h1, h2⟩ := id_key_roundtrip x hx
  obtain ⟨cy, h3, h4⟩ := id_key_roundtrip y hy
  rw [h1, h3] at h
  injection h with h
  subst h
  rw [h2] at h4
  injection h4

/-- `ID.Serialize` panics exactly on values of more than 32 bytes. -/
theorem id_serialize_panics_iff (x : Nat) : idSerialize x = none ↔ 2 ^ 256 ≤ x := by
  rw [← not_lt, ← natToBE_length_le_32, idSerialize]
  split <;> simp [*]

example : idHexChars 0x0a0b = some ("0x0000000000000000000000000000000000000000000000000000000000000a0b".toList) ∧
    idSetHex "0x0000000000000000000000000000000000000000000000000000000000000a0b".toList = .ok 0x0a0b ∧
    idSetHex "0X0a".toList = .argFailed ∧ idSetHex "0x".toList = .undefined := by
  -- a literal unifies with `String.ofList` of its characters; left to the kernel, each is decoded byte
  -- by byte, quadratic in its length
  rw [String.toList_ofList, String.toList_ofList, String.toList_ofList]
  decide +kernel

/-- A valid signature point (on the curve, coordinates reduced,
    infinity included) survives `Serialize` / `DeserializeSign` unchanged. -/
theorem sign_serialize_roundtrip (q : G1.Point) (hv : Valid1 q) :
    G1.deserializeSign bnCurve (G1.serializeSign (some q)) = some q ∧
    G1.sigIsValid bnCurve (some q) = true :=
  ⟨sign_roundtrip q hv, by rw [show G1.sigIsValid bnCurve (some q) = G1.isOnCurve bnCurve q from rfl, isOnCurve_eq]; exact hv.1⟩

/-- The empty and the too-short encodings give the nil signature, which is not valid. -/
theorem sign_deserialize_short (b : Bytes) (h : b.length < 64) :
    G1.deserializeSign bnCurve b = none ∧ G1.sigIsValid bnCurve (G1.deserializeSign bnCurve b) = false := by
  rw [deserializeSign_models_agree, if_pos h]
  exact ⟨rfl, rfl⟩

/-- `CreateGroupMemberCount` returns `0` (no group) or a legal size. -/
theorem member_count_range (min max ratio avail c : Nat) (hmm : min ≤ max)
    (h : createGroupMemberCount min max ratio avail = some c) :
    c = 0 ∨ (min ≤ c ∧ c ≤ max ∧ isGroupMemberCountLegal min max c = true) := by
  simp only [isGroupMemberCountLegal, Bool.and_eq_true, decide_eq_true_eq]
  simp only [createGroupMemberCount] at h
  split_ifs at h <;> cases h <;> omega

example : createGroupMemberCount 5 10 1 7 = some 7 ∧ createGroupMemberCount 5 10 1 4 = some 0 ∧
    createGroupMemberCount 5 10 2 30 = some 10 ∧ createGroupMemberCount 5 10 0 30 = none := by decide

/-- Every legal group size has a threshold `1 ≤ k ≤ n` (with the node's constants). -/
theorem legal_size_has_threshold (min max n : Nat) (hmin : 1 ≤ min) (hmax : max < 2 ^ 46)
    (hl : isGroupMemberCountLegal min max n = true) :
    ∃ k, getGroupK 51 100 n = some k ∧ 1 ≤ k ∧ k ≤ n ∧ n < 2 * k := by
  simp only [isGroupMemberCountLegal, Bool.and_eq_true, decide_eq_true_eq] at hl
  have hn : n < 2 ^ 46 := by omega
  exact ⟨_, getGroupK_51 n hn, getGroupK_51_bounds n _ (by omega) hn (getGroupK_51 n hn)⟩

/-- The map a dealer sends out holds, for every listed member, exactly
    `ShareSeckey(coeffs, id)`, one entry per distinct id. -/
theorem gen_share_piece_lookup (r : Nat) (cs : List Nat) : ∀ (ids : List Nat) (m : List (Nat × Nat)),
    genSharePiece r cs ids = some m →
      (m.map Prod.fst).Nodup ∧ (∀ x, x ∈ ids ↔ x ∈ m.map Prod.fst) ∧
      ∀ e ∈ m, shareSeckey r cs e.1 = some e.2 := by
  intro ids
  induction ids with
  | nil => intro m h; simp [genSharePiece] at h; subst h; simp
  | cons x rest ih =>
    intro m h
    unfold genSharePiece at h
    cases hs : shareSeckey r cs x with
    | none => simp [hs] at h
    | some v =>
      cases hg : genSharePiece r cs rest with
      | none => simp [hs, hg] at h
      | some m' =>
        simp only [hs, hg, Option.some.injEq] at h
        subst h
        obtain ⟨hnd, hmem, hval⟩ := ih m' hg
        refine ⟨?_, ?_, ?_⟩
        · simp only [List.map_cons, List.nodup_cons]
          constructor
          · intro hx
            obtain ⟨e, he, hex⟩ := List.mem_map.1 hx
            have := (List.mem_filter.1 he).2
            simp [hex] at this
          · exact (hnd.sublist ((List.filter_sublist).map _))
        · intro y
          simp only [List.mem_cons, List.map_cons]
          constructor
          · rintro (rfl | hy)
            · exact Or.inl rfl
            · by_cases hyx : y = x
              · exact Or.inl hyx
              · right
                obtain ⟨e, he, hey⟩ := List.mem_map.1 ((hmem y).1 hy)
                exact List.mem_map.2 ⟨e, List.mem_filter.2 ⟨he, by simp [hey, hyx]⟩, hey⟩
          · rintro (rfl | hy)
            · exact Or.inl rfl
            · right
              obtain ⟨e, he, hey⟩ := List.mem_map.1 hy
              exact (hmem y).2 (List.mem_map.2 ⟨e, (List.mem_filter.1 he).1, hey⟩)
        · intro e he
          rcases List.mem_cons.1 he with rfl | he
          · exact hs
          · exact hval e (List.mem_filter.1 he).1

example : genSharePiece 13 [5, 3] [1, 2, 1] = some [(1, 8), (2, 11)] := by decide

end Rangers.Props.C13Codec
