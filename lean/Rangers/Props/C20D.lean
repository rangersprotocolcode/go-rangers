import Rangers.Props.C20
/-!
# C20 (continued) — the operator-node transaction (type 7), further readers and house-keeping writers

`runNode`/`execNode` (Model/Miner.lean) model `minerNodeExecutor.Execute` with the EVM call to the main-node contract
as an external input `create2 : Option Bytes`; the correspondence stream drives the real executor against a stand-in
contract. Then `GetValidatorsStake` and `RemoveUnusedValidator`, and counterexamples to the conservation theorems
without their two arithmetic hypotheses (`debit_exact_counterexample`, `add_wraps_counterexample`).
-/
namespace Rangers.Props.C20D
open Rangers Rangers.Miner

/-- What `Execute` of the operator-node executor accepts: the sender can pay the price, controls a miner (as the
    block-stale by-account lookup sees it after the debit), the contract answered with an address; the only registry
    change is that miner's account. -/
def NodeAccepted (cfg : Cfg) (st : State) (src : Bytes) (c2 : Option Bytes) (st' : State) : Prop :=
  ∃ id m a, nodePrice ≤ st.balOf (toAddr src) ∧ c2 = some a ∧
    byAccount cfg (st.subBal (toAddr src) nodePrice) src = some id ∧
    getMiner cfg (st.subBal (toAddr src) nodePrice) id = some m ∧
    st' = updateMiner cfg (st.subBal (toAddr src) nodePrice) { m with account := a } none

theorem execNode_outcome (cfg : Cfg) (st : State) (src : Bytes) (c2 : Option Bytes) :
    Outcome (NodeAccepted cfg st src c2) st (execNode cfg st src c2) := by
  refine Outcome.guard (by simp) fun hb => ?_
  cases hid : byAccount cfg (st.subBal (toAddr src) nodePrice) src with
  | none => exact .fail (by simp)
  | some id =>
    dsimp only
    cases hm : getMiner cfg (st.subBal (toAddr src) nodePrice) id with
    | none => exact .fail (by simp)
    | some m =>
      cases c2 with
      | none => exact .fail (by simp)
      | some a => exact Or.inl ⟨rfl, id, m, a, by omega, rfl, hid, hm, rfl⟩

theorem execNode_fail (cfg : Cfg) (st : State) (src : Bytes) (c2 : Option Bytes) :
    (execNode cfg st src c2).1 ≠ "ok" → (execNode cfg st src c2).2 = st :=
  (execNode_outcome cfg st src c2).of_fail

/-- Full strength: a rejected operator-node transaction changes nothing but the fee (the 10-token debit that precedes
    the checks is journaled and reverted). -/
theorem node_rejected_only_fee (cfg : Cfg) (st : State) (src : Bytes) (c2 : Option Bytes)
    (h : (runNode cfg st src c2).1 ≠ "ok") :
    (runNode cfg st src c2).2 = st ∨ processFee st src = some (runNode cfg st src c2).2 := by
  unfold runNode at h ⊢
  cases hf : processFee st src with
  | none => left; rfl
  | some st1 =>
    right
    simp only [hf] at h ⊢
    by_cases hok : (execNode cfg st1 src c2).1 = "ok"
    · simp only [hok, if_true] at h; exact absurd rfl h
    · simp only [hok, if_false]

theorem node_accepted (cfg : Cfg) (st : State) (src : Bytes) (c2 : Option Bytes) (h : (runNode cfg st src c2).1 = "ok") :
    ∃ st1, processFee st src = some st1 ∧ NodeAccepted cfg st1 src c2 (runNode cfg st src c2).2 := by
  unfold runNode at h ⊢
  cases hf : processFee st src with
  | none => simp only [hf] at h; exact absurd h (by decide +kernel)
  | some st1 =>
    simp only [hf] at h ⊢
    by_cases hok : (execNode cfg st1 src c2).1 = "ok"
    · rw [if_pos hok]; exact ⟨st1, rfl, (execNode_outcome cfg st1 src c2).of_ok hok⟩
    · rw [if_neg hok] at h; exact absurd h hok

/-- The price is destroyed: after an accepted operator-node transaction the sum of all balances is lower by exactly
    10 tokens (the fee moved to the fee account), nothing is escrowed or scheduled for it (finding
    `operator-node-burns-10-rpg`). -/
theorem node_burns_price (cfg : Cfg) (st : State) (src : Bytes) (c2 : Option Bytes) (h : (runNode cfg st src c2).1 = "ok") :
    balTotal (runNode cfg st src c2).2 + nodePrice = balTotal st ∧
      (runNode cfg st src c2).2.escrow = st.escrow ∧ (runNode cfg st src c2).2.pending = st.pending := by
  obtain ⟨st1, hfee, id, m, a, hle, _, _, _, hst⟩ := node_accepted cfg st src c2 h
  have hl := processFee_live st st1 src hfee
  have hf := (updateMiner_writes cfg (st1.subBal (toAddr src) nodePrice) { m with account := a } none).fields
  rw [hst, balTotal_of_bal _ _ hf.1, hf.2.1, hf.2.2.1, ← balTotal_processFee st st1 src hfee]
  exact ⟨balTotal_subBal st1 (toAddr src) nodePrice hle, hl.2.2.2.1, hl.2.2.1⟩

/-- … while the invariant survives and only the 10 tokens are missing from the conserved sum: with `node_burns_price`,
    the stakes recorded for `U` add up to what they did. -/
theorem node_wealth (cfg : Cfg) (U : List Bytes) (st : State) (src : Bytes) (c2 : Option Bytes) (hraw : RawOK cfg)
    (hs : SepU cfg U) (hn : U.Nodup) (hinv : Inv cfg U st) (h : (runNode cfg st src c2).1 = "ok")
    (hdec : ∀ a, c2 = some a → cfg.dec a = none) (hU : ∀ id, byAccount cfg st src = some id → id ∈ U) :
    Inv cfg U (runNode cfg st src c2).2 ∧ wealth cfg U (runNode cfg st src c2).2 + nodePrice = wealth cfg U st := by
  obtain ⟨st1, hfee, id, m, a, hle, hc2, hid, hm, hst⟩ := node_accepted cfg st src c2 h
  obtain ⟨hinv1, hw1⟩ := inv_fee cfg U st st1 src hinv hfee
  have hl := processFee_live st st1 src hfee
  obtain ⟨hinv2, hw2⟩ := inv_wealth_burn cfg U st1 (st1.subBal (toAddr src) nodePrice) nodePrice rfl
    (balTotal_subBal st1 (toAddr src) nodePrice hle) rfl rfl hinv1
  have hidU : id ∈ U := by
    apply hU
    rw [← byAccount_congr cfg st (st1.subBal (toAddr src) nodePrice) hl.1 hl.2.1]; exact hid
  have hrk' : RecKeyed cfg (updateMiner cfg (st1.subBal (toAddr src) nodePrice) { m with account := a } none) :=
    recKeyed_updateMiner_none _ _ _ hraw hinv2.rk (.of_dec_none (hdec a hc2))
  obtain ⟨hinv3, hw3⟩ := chacc_preserves cfg U (st1.subBal (toAddr src) nodePrice) id a m hs hn hinv2 hidU hm hrk'
  rw [hst, hw3, hw2, hw1]
  exact ⟨hinv3, rfl⟩

def stNode : State := run toyCfg funded [.tx (.apply addr1 [0x11] 0 800 [] [1] [1]), .tx (.apply addr2 [0x22] 1 2000 [] [1] [1]), .endBlock 101]

example : (runNode toyCfg stNode addr1 (some (List.replicate 20 0xfb))).1 = "ok" ∧
    ((getMinerById toyCfg (runNode toyCfg stNode addr1 (some (List.replicate 20 0xfb))).2 .val [0x11]).map (·.account))
      = some (List.replicate 20 0xfb) ∧
    balTotal (runNode toyCfg stNode addr1 (some (List.replicate 20 0xfb))).2 + nodePrice = balTotal stNode := by decide +kernel
example : (runNode toyCfg stNode addr1 none).1 = "fail:create2" ∧ (runNode toyCfg funded addr1 none).1 = "fail:nominer" := by decide +kernel

/-- "An account controls at most one miner" for the operator-node transaction: the new controlling account is never
    one that already controls a miner. -/
def FullStatementNodeKeepsAccountsUnique : Prop :=
  ∀ cfg st src a id' m', (runNode cfg st src (some a)).1 = "ok" →
    getMiner cfg st id' = some m' → m'.account = a → m'.account = src

/-- False of the code: unlike the change-account transaction the operator-node executor never asks
    `GetMinerIdByAccount(newAccount)`. Witness (also corpus 07, model = code): miner 0x22 already has the address the
    contract answers. With the real main-node contract the answer is a fresh create2 address, so this is a documented
    quirk, not a finding. -/
theorem node_account_check_counterexample : ¬ FullStatementNodeKeepsAccountsUnique := by
  intro h
  have e : (getMiner toyCfg stNode [0x22]).map (·.account) = some addr2 ∧
      (runNode toyCfg stNode addr1 (some addr2)).1 = "ok" := by decide +kernel
  obtain ⟨m', hm', hacc⟩ := Option.map_eq_some_iff.mp e.1
  have := h toyCfg stNode addr1 addr2 [0x22] m' e.2 hm' hacc
  rw [hacc] at this
  exact absurd this (by decide)

theorem validatorsStake_fold (cfg : Cfg) (st : State) (ms : List Bytes) (acc : Nat × List (Bytes × Nat)) (hacc : acc.1 < 2 ^ 64) :
    (ms.foldl (fun acc id =>
      let s := u64 ((st.live .val).get (slotStake cfg id))
      if s = 0 then acc
      else ((acc.1 + s) % 2 ^ 64, mapAdd acc.2 (toAddr ((st.live .val).get (slotAcct cfg id))) s)) acc).1
      = (acc.1 + (ms.map (stakeAt cfg st .val)).sum) % 2 ^ 64 := by
  refine foldl_fst_total ms (stakeAt cfg st .val) (2 ^ 64) (by decide) _ (fun acc id hacc => ?_) acc hacc
  show (if stakeAt cfg st .val id = 0 then acc else _).1 = _
  split
  · rename_i hz; rw [hz]; exact (Nat.mod_eq_of_lt hacc).symm
  · rfl

/-- Full strength: the total `GetValidatorsStake` returns for a member list is the (`uint64`) sum of the stakes the
    validator registry records for them (members without stake contribute nothing). -/
theorem validatorsStake_total (cfg : Cfg) (st : State) (ms : List Bytes) :
    (validatorsStake cfg st ms).1 = (ms.map (stakeAt cfg st .val)).sum % 2 ^ 64 := by
  unfold validatorsStake
  rw [validatorsStake_fold cfg st ms (0, []) (by decide), Nat.zero_add]

example : (validatorsStake toyCfg stNode [[0x11], [0x22], [0x11]]).1 = 1600 := by decide +kernel

theorem removeMiner_other (cfg : Cfg) (st : State) (id acc : Bytes) (l : Nat) :
    (removeMiner cfg st id acc typeValidator l).live .prop = st.live .prop ∧
    (removeMiner cfg st id acc typeValidator l).live .zero = st.live .zero ∧
    (removeMiner cfg st id acc typeValidator l).bal = st.bal ∧ (removeMiner cfg st id acc typeValidator l).escrow = st.escrow ∧
    (removeMiner cfg st id acc typeValidator l).pending = st.pending ∧ (removeMiner cfg st id acc typeValidator l).pk = st.pk := by
  have hw := removeMiner_writes cfg st id acc typeValidator l
  have hf := hw.fields
  exact ⟨hw.live_ne nofun, hw.live_ne nofun, hf.1, hf.2.2.1, hf.2.1, hf.2.2.2.2.2⟩

/-- `RemoveUnusedValidator` touches the validator registry only: proposers, balances, escrow, the block's refund
    context and the key cache are untouched — in particular NOTHING is refunded for the stakes it removes (robin-only
    house-keeping at Proposal010Block / Proposal019Block; documented quirk, not reachable on mainnet). -/
theorem purge_touches_validators_only (cfg : Cfg) (st : State) (white : List Bytes) :
    (removeUnusedValidator cfg st white).live .prop = st.live .prop ∧ (removeUnusedValidator cfg st white).bal = st.bal ∧
    (removeUnusedValidator cfg st white).escrow = st.escrow ∧ (removeUnusedValidator cfg st white).pending = st.pending := by
  refine List.foldlRecOn
    (motive := fun s : State => s.live .prop = st.live .prop ∧ s.bal = st.bal ∧ s.escrow = st.escrow ∧ s.pending = st.pending)
    _ _ ⟨rfl, rfl, rfl, rfl⟩ (fun s ⟨h1, h2, h3, h4⟩ m _ => ?_)
  obtain ⟨g1, _, g3, g4, g5, _⟩ := removeMiner_other cfg s m.id m.account 0
  exact ⟨g1.trans h1, g3.trans h2, g4.trans h3, g5.trans h4⟩

/-- What it does to the validators: with no whitelist the committed validator 0x11 of `stNode` is gone, its 800 tokens
    of stake with it, and no balance or escrow entry appears. -/
example : getMinerById toyCfg (removeUnusedValidator toyCfg stNode []) .val [0x11] = none ∧
    stakeAt toyCfg (removeUnusedValidator toyCfg stNode []) .val [0x11] = 0 ∧
    (getMinerById toyCfg (removeUnusedValidator toyCfg stNode [[0x11]]) .val [0x11]).isSome = true ∧
    balTotal (removeUnusedValidator toyCfg stNode []) = balTotal stNode := by decide +kernel

/-- "What is debited for a stake is the stake" (needed by `lock_conservation_*`, which assume stake < 2^53). -/
def FullStatementDebitExact : Prop := ∀ s, s ≤ maxU64 → stakeWei s = s * wei

/-- False of the code: the debit goes through `float64(stake)`; 2^53+1 tokens are debited as 2^53. Replayed on the real
    code by corpus 04/06 (payer with 2^120 wei) and reported as `outside_hypothesis` by the searcher: not reachable while
    fewer than 2^53 tokens exist. -/
theorem debit_exact_counterexample : ¬ FullStatementDebitExact := by
  intro h
  exact absurd (h (2 ^ 53 + 1) (by decide +kernel)) (by decide +kernel)

def richState : State := { State.empty 100 with bal := [(addr1, 2 ^ 130)] }

/-- "An accepted add-stake of `delta` raises the recorded stake by `delta`" (the run theorems assume no `uint64` wrap). -/
def FullStatementAddRaisesStake : Prop :=
  ∀ cfg st src id delta d, C20.Reachable cfg st → (runTx cfg st (.add src id delta)).1 = "ok" →
    stakeAt cfg st d id ≤ stakeAt cfg (runTx cfg st (.add src id delta)).2 d id

/-- False of the code: `miner.Stake + delta` wraps (the `< 0` test on a `uint64` never fires). Witness: stake 400,
    add 2^64 − 400 → stake 0. Needs a payer holding ≥ 1.8·10^37 wei: same unreachable corner as above. -/
theorem add_wraps_counterexample : ¬ FullStatementAddRaisesStake := by
  intro h
  have hr : C20.Reachable toyCfg (run toyCfg richState [.tx (.apply addr1 [0x11] 0 400 [] [1] [1]), .endBlock 101]) :=
    C20.reachable_run toyCfg 100 _ _ (by decide +kernel)
  have := h toyCfg _ addr1 [0x11] (2 ^ 64 - 400) .val hr
  exact absurd this (by decide +kernel)

end Rangers.Props.C20D
