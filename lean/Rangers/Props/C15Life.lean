import Rangers.Model.RoundLife
import Rangers.Proofs.RoundLifeP
import Rangers.Proofs.RoundLive
import Rangers.Proofs.RoundSrc
import Rangers.Props.C15
import Rangers.Props.C15B
/-!
C15 over the whole life cycle of a SignParty (`Model/RoundLife.lean`): creation by the cast message,
round0's store rule for verify messages, the pre-change key, the changeId step, acceptance inside
`baseParty.Update` or from a chain notification, the reaper and its timeout.

`ord` is the order in which `round1.Start` ranges over the stored messages (Go map iteration): the
safety theorems hold for every function, not only permutations; `life_one_faulty_cannot_block_in_update`
needs `ord [] = []`.
-/
namespace Rangers.Props.C15
open Rangers.Model.Round Rangers.Proofs.Round
open Rangers.Generated

variable {G : Type}

/-- Clause 1 over the life cycle (full strength, no cryptographic assumption): for every history of cast
messages with any verdicts, chain notifications, verify packets (any content, filed under any key, at
any stage — before a party exists, while round0 waits and stores them, after it was accepted, after it
was reaped), timeouts at any point, and every iteration order of the stored messages: every entry of
`gSign` is a registered sender's valid share for `bh.Hash`, every entry of `rSign` its valid share for
`preBH.Random`, no sender twice. The replay of stored messages by `round1.Start` is covered. -/
theorem life_only_valid_shares (c : Crypto G) (env : Env) (hsrc : FromSource env)
    (ord : List (VMsg G) → List (VMsg G)) (key0 : Data) (evs : List (Event G)) :
    let st := (Life.run c env ord (Life.new key0) evs).proc.party.rs
    SharesValid c env env.hash st.gSign ∧ SharesValid c env env.prevRandom st.rSign := by
  intro st
  have h : Inv c env st := lifeRun_kept (Inv.kept c env (fromSource_binds hsrc)) ord evs (Life.new key0)
    ⟨GenOk.new c env _ _, GenOk.new c env _ _⟩
  exact ⟨⟨h.g.valid, h.g.nodup⟩, ⟨h.r.valid, h.r.nodup⟩⟩

/-- Full strength, no cryptographic assumption: in every history —
timeouts and reaping included — whatever `GenerateBlock` was handed passed `round2.checkSignature`: the
block signature verifies over `bh.Hash` and the beacon value over `preBH.Random` under the group key. -/
theorem never_generates_invalid_block (c : Crypto G) (env : Env) (hsrc : FromSource env)
    (ord : List (VMsg G) → List (VMsg G)) (key0 : Data) (evs : List (Event G)) (a b : Option G)
    (h : (Life.run c env ord (Life.new key0) evs).proc.party.rs.generated = some (a, b)) :
    sigOk c env.hash a = true ∧ sigOk c env.prevRandom b = true :=
  lifeRun_kept (P := GenValid c env) (fun b => GenValid.kept c (env.withChain b)) ord evs
    (Life.new key0) (fun _ _ => nofun) a b h

/-- Full strength: once the reaper removed the party — after an error, after
completion, after the timeout, or while still in round0 — no event of any kind changes the round state
or the way it ended (messages are dropped or filed for a party that never comes). -/
theorem reaped_party_is_inert (c : Crypto G) (env : Env) (ord : List (VMsg G) → List (VMsg G))
    (l : Life G) (hdead : Dead l) (evs : List (Event G)) :
    (Life.run c env ord l evs).proc.party = l.proc.party ∧
    (Life.run c env ord l evs).proc.ending = l.proc.ending ∧ Dead (Life.run c env ord l evs) :=
  run_dead c env ord evs l hdead

/-- A timeout makes a live party dead (non-vacuity of `reaped_party_is_inert`'s hypothesis), and does
not touch the round state. -/
theorem timeout_reaps (l : Life G) (h : l.stage = .r0 ∨ l.stage = .r0ready ∨ l.stage = .signing) :
    Dead l.onTimeout ∧ l.onTimeout.proc.party = l.proc.party := by
  rcases h with h | h | h
  · simp [Life.onTimeout, h, Dead]
  · simp [Life.onTimeout, h, Dead]
  · unfold Life.onTimeout
    rw [h]
    simp only []
    by_cases hm : l.proc.inManager = true
    · rw [if_pos hm]; exact ⟨Or.inr ⟨rfl, rfl⟩, rfl⟩
    · rw [if_neg hm]; exact ⟨Or.inr ⟨h, by simpa using hm⟩, rfl⟩

/-- The store rule of round0: a verify message is stored once per message id, never after its id was
processed. -/
theorem storeRule_spec (processed0 : List MsgId) (stored : List (VMsg G)) (m : VMsg G) :
    (m.mid ∈ processed0 ∨ m.mid ∈ stored.map (·.mid) → storeRule processed0 stored m = stored) ∧
    (m.mid ∉ processed0 → m.mid ∉ stored.map (·.mid) → storeRule processed0 stored m = stored ++ [m]) :=
  ⟨fun h => if_pos ((idKnown_iff _ _ _).mpr h),
    fun h1 h2 => if_neg fun h => ((idKnown_iff _ _ _).mp h).elim h1 h2⟩

/-! ### liveness over the life cycle, proposal accepted from a chain notification: false of a `round1.Start` whose loop
lets a stored message's panic escape

Finding `stored-share-lost-by-start-panic` (a `fixed:` line of `known-findings.txt`): `round1.Start` of /repo hands each
stored message to `updateStored`, which recovers the panic (`C15Facts.startRecovers = true`). The statement and the
counterexample below take `env.startRecovers = false`, the loop without that `recover`. -/

/-- Liveness stated over the life cycle for the notification path: the party waits, packets arrive,
a chain notification accepts the proposal, more packets arrive — among them the honest messages of
≥ k members. -/
def FullStatementLifeLiveness : Prop :=
  ∀ (c : Crypto Sym) (env : Env), env.bindsHash = true → env.startRecovers = false →
    env.blockExists = false → 0 < env.groupSize →
    ∀ (sh : Id → Data → Sym) (gs : Data → Sym), Lawful c env sh gs →
      ∀ (key0 : Data) (early late : List (Wire Sym)) (honest : List (Id × MsgId)),
        (honest.map (·.1)).Nodup → groupK env.groupSize ≤ honest.length →
        (∀ p ∈ honest, p.1 ∈ env.pkKnown ∧ Wire.ok (honestMsg env sh p.1 p.2) ∈ late) →
        (Life.run c env id (Life.new key0)
          ([Event.cast 1000 .wait] ++ early.map (Event.packet false) ++ [Event.notify .accept] ++
            late.map (Event.packet false))).proc.ending = some true

/-- the handler binds the hash; `round1.Start` lets a stored message's panic escape its loop -/
def liveEnv : Env := { leadEnv with bindsHash := true, startRecovers := false }

/-- filed under the pre-change key (tag 9), signer id longer than 32 bytes -/
def oversizeMsg : VMsg Sym :=
  { mid := 7, blockHash := 9, signer := 0, idShape := .oversize, signerNonZero := true, dataHash := 0,
    sig := .share 0 0, rand := .share 0 1 }

/-- Group of 3 (k = 2), `startRecovers = false`. While round0 waits, a message with an over-long signer id is
filed under the party's pre-change key and stored. The proposal is accepted from a chain notification;
honest member 1's share is the next message: round0 stores it, `round1.Start` ranges over the stored
messages, the first one panics in `ID.Serialize`, the panic escapes the loop and member 1's share is never
processed. Honest member 2's share is counted; with 2 = k honest members heard the block is not finalised. -/
theorem life_liveness_counterexample : ¬ FullStatementLifeLiveness := by
  intro h
  have hl : Lawful (symCrypto 2 [0, 1, 2]) liveEnv (fun i d => Sym.share i d) (fun d => Sym.group d) :=
    symCrypto_lawful liveEnv (by decide)
  have := h (symCrypto 2 [0, 1, 2]) liveEnv rfl rfl rfl (by decide) _ _ hl 9
    [.ok oversizeMsg]
    [.ok (honestMsg liveEnv (fun i d => Sym.share i d) 1 1), .ok (honestMsg liveEnv (fun i d => Sym.share i d) 2 2)]
    [(1, 1), (2, 2)] (by decide) (by decide) (lead_honest rfl (by simp) (by simp))
  exact absurd this (by decide +kernel)

/-- With the other iteration order the same history finalises the block: the outcome depends on Go's
map order. -/
example :
    (Life.run (symCrypto 2 [0, 1, 2]) liveEnv List.reverse (Life.new 9)
      [.cast 1000 .wait, .packet false (.ok oversizeMsg), .notify .accept,
       .packet false (.ok (honestMsg liveEnv (fun i d => Sym.share i d) 1 1)),
       .packet false (.ok (honestMsg liveEnv (fun i d => Sym.share i d) 2 2))]).proc.ending = some true := by
  decide +kernel

/-- With a `round1.Start` that drops a panicking stored message and goes on (`startRecovers`: `updateStored` of
/repo), the same history finalises the block in the order that failed above. -/
example :
    (Life.run (symCrypto 2 [0, 1, 2]) { liveEnv with startRecovers := true } id (Life.new 9)
      [.cast 1000 .wait, .packet false (.ok oversizeMsg), .notify .accept,
       .packet false (.ok (honestMsg liveEnv (fun i d => Sym.share i d) 1 1)),
       .packet false (.ok (honestMsg liveEnv (fun i d => Sym.share i d) 2 2))]).proc.ending = some true := by
  decide +kernel

/-- `Processor.futureMessages` holding `acc` under the block hash and nothing else; no entry at all for `acc = []`,
since `park` never files an empty list. -/
def parkedOf (env : Env) (acc : List (VMsg G)) : Lru (List (VMsg G)) :=
  if acc.isEmpty then Lru.empty futureCap else ⟨futureCap, [(env.hash, acc)]⟩

theorem park_parkedOf (env : Env) (acc : List (VMsg G)) (m : VMsg G) :
    park (parkedOf env acc) env.hash m = parkedOf env (acc ++ [m]) := by
  cases acc with
  | nil => simp [parkedOf, park, Lru.get, Lru.peek, Lru.add, Lru.contains, Lru.empty, futureCap]
  | cons x xs =>
    simp [parkedOf, park, Lru.get, Lru.peek, Lru.add, Lru.contains, Lru.remove, futureCap]

theorem parkedOf_peek (env : Env) (acc : List (VMsg G)) :
    ((parkedOf env acc).peek env.hash).getD [] = acc ∧ ((parkedOf env acc).remove env.hash) = Lru.empty futureCap := by
  cases acc with
  | nil => simp [parkedOf, Lru.peek, Lru.remove, Lru.empty]
  | cons x xs => simp [parkedOf, Lru.peek, Lru.remove, Lru.empty]

theorem initWith_stray (c : Crypto G) (env : Env) (p : List MsgId) (f : List (VMsg G)) :
    (Proc.initWith c env p f).stray = Lru.empty futureCap := by
  unfold Proc.initWith settle
  split; · rfl
  split <;> rfl

/-- The one real step of `life_one_faulty_cannot_block_in_update`. The cache already holds an arbitrary `acc` so
that the induction on `pre` goes through (each packet moves from `pre` to `acc`). The chain answers `env.blockExists`
to the early packets: `env.withChain env.blockExists` is `env` by structure eta, whatever its value. -/
theorem parked_then_cast (c : Crypto G) (env : Env) (ord : List (VMsg G) → List (VMsg G))
    (key0 : Data) (mid : MsgId) :
    ∀ (pre acc : List (VMsg G)), (∀ m ∈ pre, m.blockHash = env.hash) →
      Life.run c env ord { (Life.new key0 : Life G) with parked := parkedOf env acc }
        (pre.map (fun m => Event.packet env.blockExists (.ok m)) ++ [Event.cast mid .accept]) =
      { (Life.new key0 : Life G) with
        stage := .signing, processed0 := [mid], key0Done := true,
        proc := dispatch c env (Proc.initWith c env [mid] (ord [])) (acc ++ pre) } := by
  intro pre
  induction pre with
  | nil =>
    intro acc _
    have hp := parkedOf_peek env acc
    simp only [List.map_nil, List.nil_append, Life.run, Life.step, Life.onCast, Life.new, Life.enterSigning,
      Life.pfuture, hp.1, hp.2, List.append_nil]
    congr 2
    exact (initWith_stray c env [mid] (ord [])).symm ▸ rfl
  | cons m rest ih =>
    intro acc hm
    have h1 : m.blockHash = env.hash := hm m (by simp)
    have := ih (acc ++ [m]) (fun x hx => hm x (by simp [hx]))
    simp only [List.map_cons, List.cons_append, Life.run, Life.step, Life.onPacket, decode, Life.new, h1,
      park_parkedOf]
    simp only [Life.new, List.append_assoc, List.singleton_append] at this
    exact this

/-- Packets filed under the block hash while no party exists, then a cast message accepted inside
`baseParty.Update`: round1 gets exactly the processor of `Model/Round.lean`, started with the cast message's id and
fed the parked packets. -/
theorem life_accept_in_update_reduces (c : Crypto G) (env : Env) (ord : List (VMsg G) → List (VMsg G))
    (key0 : Data) (mid : MsgId) (pre : List (VMsg G)) (hpre : ∀ m ∈ pre, m.blockHash = env.hash) :
    (Life.run c env ord (Life.new key0)
      (pre.map (fun m => Event.packet env.blockExists (.ok m)) ++ [Event.cast mid .accept])).proc =
    dispatch c env (Proc.initWith c env [mid] (ord [])) pre :=
  congrArg Life.proc (parked_then_cast c env ord key0 mid pre [] hpre)

theorem lifeRun_append (c : Crypto G) (env : Env) (ord : List (VMsg G) → List (VMsg G)) (a b : List (Event G)) :
    ∀ l : Life G, Life.run c env ord l (a ++ b) = Life.run c env ord (Life.run c env ord l a) b := by
  induction a with
  | nil => intro l; rfl
  | cons e rest ih => intro l; exact ih _

theorem dispatch_eq_run (c : Crypto G) (env : Env) (ms : List (VMsg G)) :
    ∀ pr : Proc G, dispatch c env pr ms = Proc.run c env pr (ms.map Wire.ok) := by
  induction ms with
  | nil => intro pr; rfl
  | cons m rest ih => intro pr; exact ih _

theorem procRun_append (c : Crypto G) (env : Env) (a b : List (Wire G)) :
    ∀ pr : Proc G, Proc.run c env pr (a ++ b) = Proc.run c env (Proc.run c env pr a) b := by
  induction a with
  | nil => intro pr; rfl
  | cons x xs ih => intro pr; exact ih _

/-- In stage `signing` a packet not filed under the pre-change key goes straight to `Proc.deliver`. -/
theorem lifeRun_signing (c : Crypto G) (env : Env) (hex : env.blockExists = false)
    (ord : List (VMsg G) → List (VMsg G)) (late : List (Wire G)) :
    ∀ l : Life G, l.stage = .signing →
      (∀ w ∈ late, ∀ m, decode w = some m → m.blockHash ≠ l.key0) →
      (Life.run c env ord l (late.map (Event.packet false))).proc = Proc.run c env l.proc late := by
  induction late with
  | nil => intro l _ _; rfl
  | cons w rest ih =>
    intro l hs hk
    have hw : env.withChain false = env := hex ▸ rfl
    have hstep : (l.step c env ord (.packet false w)).stage = .signing ∧
        (l.step c env ord (.packet false w)).key0 = l.key0 ∧
        (l.step c env ord (.packet false w)).proc = (l.proc.deliver c env w).1 := by
      simp only [Life.step, hw, Life.onPacket, Proc.deliver]
      cases hd : decode w with
      | none => exact ⟨hs, rfl, rfl⟩
      | some m =>
        have hne := hk w (by simp) m hd
        simp only [hs]
        rw [if_neg (by simp [hne])]
        exact ⟨rfl, rfl, rfl⟩
    simp only [List.map_cons, Life.run, Proc.run]
    rw [ih _ hstep.1 (fun w' hw' m hm => by rw [hstep.2.1]; exact hk w' (by simp [hw']) m hm), hstep.2.2]

/-- The life-cycle form of clause 3, for the acceptance path inside `baseParty.Update`: verify packets filed under
the block hash may arrive before any party exists; the cast message is accepted; more packets arrive (none filed
under the pre-change key). If the honest messages of ≥ k registered members are among the packets, the party ends
`done` with the two group signatures, whatever else was delivered and in whatever order. -/
theorem life_one_faulty_cannot_block_in_update (c : Crypto G) (env : Env) (hsrc : FromSource env)
    (hex : env.blockExists = false) (hn : 0 < env.groupSize)
    (sh : Id → Data → G) (gs : Data → G) (hl : Lawful c env sh gs)
    (ord : List (VMsg G) → List (VMsg G)) (hord : ord [] = [])
    (key0 : Data) (mid : MsgId) (pre : List (VMsg G)) (hpre : ∀ m ∈ pre, m.blockHash = env.hash)
    (late : List (Wire G)) (hlate : ∀ w ∈ late, ∀ m, decode w = some m → m.blockHash ≠ key0)
    (honest : List (Id × MsgId)) (hnd : (honest.map (·.1)).Nodup) (hlen : groupK env.groupSize ≤ honest.length)
    (hmem : ∀ p ∈ honest, p.1 ∈ env.pkKnown ∧
      Wire.ok (honestMsg env sh p.1 p.2) ∈ pre.map Wire.ok ++ late ∧ p.2 ≠ mid) :
    let l := Life.run c env ord (Life.new key0)
      (pre.map (fun m => Event.packet env.blockExists (.ok m)) ++ [Event.cast mid .accept] ++
        late.map (Event.packet false))
    l.proc.ending = some true ∧
    l.proc.party.rs.generated = some (some (gs env.hash), some (gs env.prevRandom)) := by
  intro l
  have hproc : l.proc = Proc.run c env (Proc.initWith c env [mid] []) (pre.map Wire.ok ++ late) := by
    have e : Life.run c env ord (Life.new key0)
        (pre.map (fun m => Event.packet env.blockExists (.ok m)) ++ [Event.cast mid .accept]) = _ :=
      parked_then_cast c env ord key0 mid pre [] hpre
    show (Life.run c env ord (Life.new key0) _).proc = _
    rw [lifeRun_append, e, lifeRun_signing c env hex ord late _ rfl hlate, hord, dispatch_eq_run, procRun_append]
    rfl
  have := one_faulty_cannot_block_after_cast c env hsrc hex hn sh gs hl [mid] [] (pre.map Wire.ok ++ late)
    honest hnd hlen (by
      intro p hp
      obtain ⟨a, b, cne⟩ := hmem p hp
      exact ⟨a, b, by simpa using cne⟩)
  rw [hproc]
  exact ⟨this.1, this.2.1⟩

/-! ### the parked-message cache is an LRU of 50 keys

KNOWN FINDING `parked-shares-evicted-by-lru`, replayed on the implementation by the searcher
(`lead-lru-evict-*`). -/

theorem lru_remove_length_lt {V : Type} (l : Lru V) (k : Data) (h : l.contains k = true) :
    (l.remove k).items.length < l.items.length := by
  obtain ⟨e, he, hek⟩ := List.any_eq_true.mp h
  exact List.length_filter_lt_length_iff_exists.mpr ⟨e, he, by simp [hek]⟩

theorem lru_get_bounded {V : Type} (l : Lru V) (k : Data) (h : l.items.length ≤ l.cap) :
    (l.get k).2.items.length ≤ l.cap ∧ (l.get k).2.cap = l.cap := by
  unfold Lru.get
  cases hp : l.peek k with
  | none => exact ⟨h, rfl⟩
  | some v =>
    have hc : l.contains k = true := by
      cases hf : l.items.find? (fun e => e.1 == k) with
      | none => simp [Lru.peek, hf] at hp
      | some e => exact List.any_eq_true.mpr ⟨e, List.mem_of_find?_eq_some hf, by simpa using List.find?_some hf⟩
    have := lru_remove_length_lt l k hc
    exact ⟨by simp only [List.length_cons]; omega, rfl⟩

theorem lru_add_bounded {V : Type} (l : Lru V) (k : Data) (v : V) (h : l.items.length ≤ l.cap) :
    (l.add k v).items.length ≤ l.cap ∧ (l.add k v).cap = l.cap := by
  unfold Lru.add
  split
  · rename_i hc
    have := lru_remove_length_lt l k hc
    exact ⟨by simp only [List.length_cons]; omega, rfl⟩
  · exact ⟨by simp only [List.length_take]; exact Nat.min_le_left _ _, rfl⟩

/-- The cache never holds more keys than its capacity. -/
theorem park_bounded (l : Lru (List (VMsg G))) (k : Data) (m : VMsg G) (h : l.items.length ≤ l.cap) :
    (park l k m).items.length ≤ l.cap ∧ (park l k m).cap = l.cap := by
  have g := lru_get_bounded l k h
  have a := lru_add_bounded (l.get k).2 k ((l.get k).1.getD [] ++ [m]) (g.2 ▸ g.1)
  exact ⟨g.2 ▸ a.1, a.2.trans g.2⟩

/-- Liveness with arbitrary packets between the parked genuine shares and the cast message. -/
def FullStatementParkedLiveness : Prop :=
  ∀ (c : Crypto Sym) (env : Env), env.bindsHash = true → env.blockExists = false → 0 < env.groupSize →
    ∀ (sh : Id → Data → Sym) (gs : Data → Sym), Lawful c env sh gs →
      ∀ (key0 : Data) (mid : MsgId) (early late : List (Wire Sym)) (honest : List (Id × MsgId)),
        (honest.map (·.1)).Nodup → groupK env.groupSize ≤ honest.length →
        (∀ p ∈ honest, p.1 ∈ env.pkKnown ∧ Wire.ok (honestMsg env sh p.1 p.2) ∈ early ++ late) →
        (Life.run c env id (Life.new key0)
          (early.map (Event.packet false) ++ [Event.cast mid .accept] ++ late.map (Event.packet false))).proc.ending
          = some true

/-- a message filed under another block hash `d` -/
def otherKeyMsg (d : Data) : VMsg Sym :=
  { mid := 100 + d, blockHash := d, signer := 7, idShape := .ok, signerNonZero := true, dataHash := d,
    sig := .junk false, rand := .junk false }

/-- Group of 3 (k = 2); honest member 1's share is parked under the block hash before
any party exists; 50 messages filed under 50 other hashes follow; the LRU (capacity 50 keys) evicts the
block hash; the cast message is accepted; honest member 2's share arrives live: one share, no block. -/
theorem parked_liveness_counterexample : ¬ FullStatementParkedLiveness := by
  intro h
  have hl : Lawful (symCrypto 2 [0, 1, 2]) liveEnv (fun i d => Sym.share i d) (fun d => Sym.group d) :=
    symCrypto_lawful liveEnv (by decide)
  have := h (symCrypto 2 [0, 1, 2]) liveEnv rfl rfl (by decide) _ _ hl 9 1000
    (.ok (honestMsg liveEnv (fun i d => Sym.share i d) 1 1) :: (List.range 50).map (fun j => .ok (otherKeyMsg (10 + j))))
    [.ok (honestMsg liveEnv (fun i d => Sym.share i d) 2 2)]
    [(1, 1), (2, 2)] (by decide) (by decide) (lead_honest rfl (by simp) (by simp))
  exact absurd this (by decide +kernel)

/-- With 49 other keys nothing is evicted and the same history finalises the block (the boundary). -/
example :
    (Life.run (symCrypto 2 [0, 1, 2]) liveEnv id (Life.new 9)
      ((Wire.ok (honestMsg liveEnv (fun i d => Sym.share i d) 1 1) ::
          (List.range 49).map (fun j => Wire.ok (otherKeyMsg (10 + j)))).map (Event.packet false) ++
        [Event.cast 1000 .accept] ++
        [Event.packet false (.ok (honestMsg liveEnv (fun i d => Sym.share i d) 2 2))])).proc.ending = some true := by
  decide +kernel

end Rangers.Props.C15
