import Rangers.Props.C01
/-!
# C01 (continued) — process-local inputs

The proposal flags are not part of (parent state, header, transaction list): the Go code reads
them from the process-wide `common.GetBlockHeight()`.  Full statement, the provable restriction,
and the counterexample (replayed on the implementation by the searcher scenario
`lead-global-height-flags`; recorded in known-findings.txt, key `flags-from-process-chain-height`).
-/
namespace Rangers.Props.C01B
open Rangers Rangers.Model.BlockExec Rangers.Props.C01

/-- what the property asks: the chain height of the executing node does not matter -/
def FullStatementChainHeightIrrelevant : Prop :=
  ∀ (ρ : Orders) (env : Env) (t : ForkTable) (g₁ g₂ : Nat) (hd : Header) (rw : St → Option RewardIn)
    (ids : List Addr) (s : St) (txs : List Tx),
    (execBlockAt ρ env t g₁ hd rw ids s txs).receipts.map (·.hash)
      = (execBlockAt ρ env t g₂ hd rw ids s txs).receipts.map (·.hash)

def SameSide (t : ForkTable) (g₁ g₂ : Nat) : Prop :=
  (g₁ ≥ t.p006 ↔ g₂ ≥ t.p006) ∧ (g₁ ≥ t.p007 ↔ g₂ ≥ t.p007) ∧ (g₁ ≥ t.p016 ↔ g₂ ≥ t.p016) ∧
  (g₁ ≥ t.p018 ↔ g₂ ≥ t.p018) ∧ (g₁ ≥ t.p021 ↔ g₂ ≥ t.p021) ∧ (g₁ ≥ t.p023 ↔ g₂ ≥ t.p023)

theorem flagsAt_sameSide (t : ForkTable) (g₁ g₂ : Nat) (h : SameSide t g₁ g₂) : flagsAt t g₁ = flagsAt t g₂ := by
  obtain ⟨h1, h2, h3, h4, h5, h6⟩ := h
  unfold flagsAt
  simp only [decide_eq_decide.mpr h1, decide_eq_decide.mpr h2, decide_eq_decide.mpr h3,
    decide_eq_decide.mpr h4, decide_eq_decide.mpr h5, decide_eq_decide.mpr h6]

/-- Provable restriction: replicas whose chain tops are on the same side of every activation height
    (in particular: every replica that executes the block on top of its own chain, `g = height-1`)
    compute the same result, under any iteration orders. -/
theorem chain_height_irrelevant_partial (ρ₁ ρ₂ : Orders) (v₁ : OrdersValid ρ₁) (v₂ : OrdersValid ρ₂) (env : Env)
    (t : ForkTable) (g₁ g₂ : Nat) (hs : SameSide t g₁ g₂) (hd : Header) (rw : St → Option RewardIn) (ids : List Addr)
    (s : St) (txs : List Tx)
    (hmap : ∀ s r vs, rw s = some r → r.validators = some vs → (vs.map Prod.fst).Nodup) :
    execBlockAt ρ₁ env t g₁ hd rw ids s txs = execBlockAt ρ₂ env t g₂ hd rw ids s txs := by
  unfold execBlockAt
  rw [flagsAt_sameSide t g₁ g₂ hs]
  exact exec_deterministic ρ₁ ρ₂ v₁ v₂ env _ hd rw ids s txs hmap

def devTable : ForkTable := ⟨0, 0, 0, 0, 0, 12⟩
example : SameSide devTable 11 10 := by unfold SameSide devTable; decide
example : ¬ SameSide devTable 11 15 := by unfold SameSide devTable; decide

def cexEnv : Env :=
  { feeAccount := 99, fee := 1,
    other := fun _ _ s => { st := s, ok := false, msg := [], extra := 0, refunds := [], evicted := false } }
def cexTx1 : Tx :=
  { hash := 0x10, reqId := 0, nonce := 0, typ := 100, srcStr := [97], src := 1, feeAddr := 1, srcNum := 1, body := .empty }
def cexTx2 : Tx := { cexTx1 with hash := 0x20 }

/-- dev fork table (Proposal023 = 12), block of two transactions of one source with equal nonce:
    a node whose top is 11 executes them in list order, a node whose top is 15 (fork path) sorts by
    hash descending — the receipts (and with real transfers the ledger) differ. -/
theorem chain_height_counterexample : ¬ FullStatementChainHeightIrrelevant := by
  intro h
  have := h Orders.id cexEnv devTable 11 15 { height := 12, p004Block := 1 } (fun _ => none) [] St.empty [cexTx1, cexTx2]
  unfold execBlockAt at this
  rw [receipts_in_list_order, receipts_in_list_order] at this
  revert this
  decide +kernel

/-! ## exactly which executions are affected

`checkStates` / `runTransactions` execute block `h` on top of the node's own chain, so the
process-wide height is `h - 1` on every such replica.  Only `verifyStateAndReceipt` (situation
"fork") executes a block while the local top is something else. -/

def heightsOf (t : ForkTable) : List Nat := [t.p006, t.p007, t.p016, t.p018, t.p021, t.p023]

def ActivationBetween (t : ForkTable) (g₁ g₂ : Nat) : Prop :=
  ∃ b ∈ heightsOf t, min g₁ g₂ < b ∧ b ≤ max g₁ g₂

theorem same_side_of_not_between {g₁ g₂ b : Nat} (h : ¬ (min g₁ g₂ < b ∧ b ≤ max g₁ g₂)) : g₁ ≥ b ↔ g₂ ≥ b := by
  by_cases hle : g₁ ≤ g₂
  · rw [Nat.min_eq_left hle, Nat.max_eq_right hle] at h
    exact ⟨fun h1 => Nat.le_trans h1 hle, fun h2 => Nat.le_of_not_lt fun hlt => h ⟨hlt, h2⟩⟩
  · have hge : g₂ ≤ g₁ := Nat.le_of_not_le hle
    rw [Nat.min_eq_right hge, Nat.max_eq_left hge] at h
    exact ⟨fun h1 => Nat.le_of_not_lt fun hlt => h ⟨hlt, h1⟩, fun h2 => Nat.le_trans h2 hge⟩

theorem sameSide_of_no_activation_between (t : ForkTable) (g₁ g₂ : Nat) (h : ¬ ActivationBetween t g₁ g₂) :
    SameSide t g₁ g₂ := by
  have key : ∀ b ∈ heightsOf t, (g₁ ≥ b ↔ g₂ ≥ b) :=
    fun b hb => same_side_of_not_between fun hc => h ⟨b, hb, hc⟩
  unfold SameSide
  simp only [heightsOf, List.mem_cons, List.mem_nil_iff, or_false, forall_eq_or_imp, forall_eq] at key
  exact key

/-- all replicas that execute the block on top of their own chain (normal and casting path:
    process height = header height − 1) agree, whatever iteration orders they pick -/
theorem normal_path_replicas_agree (ρ₁ ρ₂ : Orders) (v₁ : OrdersValid ρ₁) (v₂ : OrdersValid ρ₂) (env : Env)
    (t : ForkTable) (hd : Header) (rw : St → Option RewardIn) (ids : List Addr) (s : St) (txs : List Tx)
    (hmap : ∀ s r vs, rw s = some r → r.validators = some vs → (vs.map Prod.fst).Nodup) :
    execBlockAt ρ₁ env t (hd.height - 1) hd rw ids s txs = execBlockAt ρ₂ env t (hd.height - 1) hd rw ids s txs :=
  chain_height_irrelevant_partial ρ₁ ρ₂ v₁ v₂ env t _ _
    ⟨Iff.rfl, Iff.rfl, Iff.rfl, Iff.rfl, Iff.rfl, Iff.rfl⟩ hd rw ids s txs hmap

/-- A replica whose process-wide height is `g` (fork path) can disagree with the replicas on the
    normal path only if an activation height lies between `g` and `header.Height − 1`. -/
theorem affected_only_if_activation_between (ρ₁ ρ₂ : Orders) (v₁ : OrdersValid ρ₁) (v₂ : OrdersValid ρ₂) (env : Env)
    (t : ForkTable) (g : Nat) (hd : Header) (rw : St → Option RewardIn) (ids : List Addr) (s : St) (txs : List Tx)
    (hmap : ∀ s r vs, rw s = some r → r.validators = some vs → (vs.map Prod.fst).Nodup)
    (hne : execBlockAt ρ₁ env t g hd rw ids s txs ≠ execBlockAt ρ₂ env t (hd.height - 1) hd rw ids s txs) :
    ActivationBetween t g (hd.height - 1) := by
  apply Classical.byContradiction
  intro hno
  exact hne (chain_height_irrelevant_partial ρ₁ ρ₂ v₁ v₂ env t g (hd.height - 1)
    (sameSide_of_no_activation_between t g _ hno) hd rw ids s txs hmap)

example : ActivationBetween devTable 15 (12 - 1) := ⟨12, by decide, by decide⟩
example : ¬ ActivationBetween devTable 20 (14 - 1) := by
  unfold ActivationBetween
  decide

end Rangers.Props.C01B
