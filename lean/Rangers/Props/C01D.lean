import Rangers.Props.C01
/-!
# C01 (continued) — the reward inputs computed from the miner registry

`rewardInOf` derives the three loop inputs of `calculateRewardPerBlock` from the registry with
bit-exact float64 arithmetic.  The validator list it produces has pairwise distinct accounts (it
is built like the Go map `membersDetail`), so `exec_deterministic` applies without any hypothesis
about the reward inputs.
-/
namespace Rangers.Props.C01D
open Rangers Rangers.Model.BlockExec Rangers.Props.C01
open List

theorem mergeStake_keys (l : List (Addr × Nat)) (a : Addr) (v : Nat) (x : Addr) :
    x ∈ (mergeStake l a v).map Prod.fst ↔ x = a ∨ x ∈ l.map Prod.fst := by
  induction l with
  | nil => simp [mergeStake]
  | cons e l ih =>
    obtain ⟨i, w⟩ := e
    simp only [mergeStake]
    split
    · rename_i h
      simp only [map_cons, mem_cons, h, or_self_left]
    · simp only [map_cons, mem_cons, ih, or_left_comm]

theorem mergeStake_nodup (l : List (Addr × Nat)) (a : Addr) (v : Nat) (h : (l.map Prod.fst).Nodup) :
    ((mergeStake l a v).map Prod.fst).Nodup := by
  induction l with
  | nil => simp [mergeStake]
  | cons e l ih =>
    obtain ⟨i, w⟩ := e
    simp only [map_cons, nodup_cons] at h
    simp only [mergeStake]
    split
    · exact nodup_cons.mpr h
    · rename_i hne
      refine nodup_cons.mpr ⟨fun hm => ?_, ih h.2⟩
      exact ((mergeStake_keys l a v i).mp hm).elim hne h.1

theorem merged_nodup (s : St) (members : List Nat) (acc : List (Addr × Nat)) (h : (acc.map Prod.fst).Nodup) :
    ((members.foldl (fun acc id =>
        let st := stakeOf s id 0
        if st = 0 then acc else mergeStake acc (accountOf s id 0) st) acc).map Prod.fst).Nodup := by
  induction members generalizing acc with
  | nil => exact h
  | cons m ms ih =>
    simp only [foldl_cons]
    apply ih
    split
    · exact h
    · exact mergeStake_nodup _ _ _ h

theorem rewardInOf_validators_nodup (c : RewardCfg) (height : Nat) (s : St) (vs : List (Addr × Nat))
    (h : (rewardInOf c height s).validators = some vs) : (vs.map Prod.fst).Nodup := by
  unfold rewardInOf at h
  simp only at h
  cases hg : c.group with
  | none => simp [hg] at h
  | some members =>
    simp only [hg, Option.map_some, Option.some.injEq] at h
    subst h
    split
    · exact Pairwise.nil
    · rw [map_map]
      exact merged_nodup s members [] Pairwise.nil

/-- `exec_deterministic` with the reward inputs computed from the registry: `rewardInOf_validators_nodup` discharges
    its hypothesis about the validator keys. -/
theorem exec_deterministic_registry (ρ₁ ρ₂ : Orders) (v₁ : OrdersValid ρ₁) (v₂ : OrdersValid ρ₂) (env : Env) (f : Flags)
    (hd : Header) (c : RewardCfg) (ids : List Addr) (s : St) (txs : List Tx) :
    execBlock ρ₁ env f hd (fun s' => some (rewardInOf c hd.height s')) ids s txs
      = execBlock ρ₂ env f hd (fun s' => some (rewardInOf c hd.height s')) ids s txs := by
  apply exec_deterministic ρ₁ ρ₂ v₁ v₂
  intro s' r vs h1 h2
  simp only [Option.some.injEq] at h1
  subst h1
  exact rewardInOf_validators_nodup c hd.height s' vs h2

def regEx : St := { St.empty with miners := [
  ⟨1, 1, 2000, 10, true, 0, 0, 0, true, true⟩, ⟨2, 1, 6000, 11, true, 0, 0, 0, true, true⟩,
  ⟨3, 0, 400, 12, true, 0, 0, 0, true, true⟩, ⟨4, 0, 800, 12, true, 0, 0, 0, true, true⟩] }
/-- 0x3FF0000000000000 = 1.0 as total reward: proposer shares 0.25·0.5 and 0.75·0.5 RPG, the two
    validators share one account and are merged -/
example : (rewardInOf ⟨0x3FF0000000000000, 7200, 2, some [3, 4]⟩ 100 regEx).proposers
    = [(10, 125000000000000000), (11, 375000000000000000)] := by decide +kernel
example : ((rewardInOf ⟨0x3FF0000000000000, 7200, 2, some [3, 4]⟩ 100 regEx).validators.map (·.map Prod.fst)) = some [12] := by decide +kernel

end Rangers.Props.C01D
