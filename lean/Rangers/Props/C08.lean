import Rangers.Model.RLP
import Rangers.Proofs.RLPItem
/-!
# C08 — RLP coding is canonical, lossless and total: the generic item coder

Theorems about `decodeItem` / `decodeBytes` / `encode` of `Model/RLP.lean` (the functions the
driver executes for `anyp`, `split`, `count`).  `Props/C08Stream.lean` has the `Stream`
invariants, `Props/C08Typed.lean` the typed coders.
-/
namespace Rangers.Props.C08
open Rangers Rangers.RLP

/-- Lossless: decoding the encoding of any item the encoder can produce (all payloads
    < 2^64 bytes) returns the item and exactly the bytes that followed it. -/
theorem decode_encode (it : Item) (rest : Bytes) (h : it.sizeOK) :
    decodeItem (encode it ++ rest) = .ok (it, rest) :=
  decodeItem_of_fuel (decItemF_ok_iff.2 ⟨rfl, h, Nat.le_refl _⟩)

example : (Item.list [.str [0x00], .str [], .list [.str [0x80, 0x01]]]).sizeOK := by
  simp [Item.sizeOK, Item.sizeOKs, encodeList, encode, encString, encHead, encListPayload]

/-- Canonical: a byte string the decoder accepts is exactly the encoder's output for the decoded
    item followed by the unread rest — every item has one accepted encoding. -/
theorem encode_decode (b : Bytes) (it : Item) (rest : Bytes)
    (h : decodeItem b = .ok (it, rest)) : b = encode it ++ rest :=
  (decItemF_ok_iff.1 h).1

example : decodeItem [0xc2, 0x00, 0x05, 0xff] = .ok (.list [.str [0x00], .str [0x05]], [0xff]) := by rfl

/-- Total: the model's recursion fuel is never the reason for a rejection. -/
theorem decodeItem_total (b : Bytes) : decodeItem b ≠ .error .fuel :=
  (decItemF_fuel_suffices _).1 b (by unfold itemFuel; omega)

/-- `DecodeBytes`: no trailing data — an accepted input is the encoding, nothing more. -/
theorem decodeBytes_canonical (b : Bytes) (it : Item) (h : decodeBytes b = .ok it) : b = encode it := by
  have := encode_decode b it [] (decodeBytes_ok_iff.1 h)
  rwa [List.append_nil] at this

theorem decodeBytes_encode (it : Item) (h : it.sizeOK) : decodeBytes (encode it) = .ok it := by
  have := decode_encode it [] h
  rw [List.append_nil] at this
  exact decodeBytes_ok_iff.2 this

theorem decode_unique (b₁ b₂ : Bytes) (it : Item)
    (h₁ : decodeBytes b₁ = .ok it) (h₂ : decodeBytes b₂ = .ok it) : b₁ = b₂ := by
  rw [decodeBytes_canonical b₁ it h₁, decodeBytes_canonical b₂ it h₂]

set_option maxRecDepth 8192 in
example : decodeBytes [0x82, 0x04, 0x00] = .ok (.str [0x04, 0x00]) := by rfl

theorem trailing_rejected (it : Item) (x : UInt8) (rest : Bytes) (h : it.sizeOK) :
    decodeBytes (encode it ++ x :: rest) = .error .moreThanOne := by
  simp [decodeBytes, decode_encode it (x :: rest) h]

/-- Single bytes below 0x80 must be unprefixed: `81 xx` is rejected. -/
theorem single_byte_unprefixed (x : UInt8) (rest : Bytes) (hx : x.toNat < 0x80) :
    readKind (0x81 :: x :: rest) = .error .canonSize := by
  have : headLt128 (x :: rest) = true := by simp [headLt128, hx]
  simp [readKind, this]

/-- Minimal length prefixes: an accepted long-form header (more than one header byte) carries a
    size ≥ 56 whose big-endian bytes have no leading zero; an accepted header is the one the
    encoder writes for that size. -/
theorem header_minimal (buf : Bytes) (k : Kind) (ts cs : Nat) (h : readKind buf = .ok (k, ts, cs)) :
    (k = .byte → ts = 0 ∧ cs = 1) ∧
    (k = .string → buf.take ts = encHead 0x80 0xb7 cs) ∧
    (k = .list → buf.take ts = encHead 0xc0 0xf7 cs) ∧
    (1 < ts → 56 ≤ cs) := by
  obtain ⟨c, rest, rfl, hf, rfl, hlen⟩ := readHead_ok_iff.1 ((readKind_iff_readHead _ _ _ _).1 h).1
  -- the header is what precedes the content in `frame k c`
  have hhead : k ≠ .byte → (frame k c ++ rest).take ts = encHead (smallTag k) (largeTag k) c.length := by
    intro hk
    rw [frame_of_ne hk, List.length_append] at hlen
    rw [frame_of_ne hk, List.append_assoc]
    exact List.take_left' (by omega)
  refine ⟨?_, fun hk => by subst hk; exact hhead nofun, fun hk => by subst hk; exact hhead nofun, ?_⟩
  · rintro rfl
    obtain ⟨x, rfl, _⟩ := hf.2 rfl
    exact ⟨Nat.add_right_cancel (hlen.trans (Nat.zero_add 1).symm), rfl⟩
  · intro hts
    by_cases hk : k = .byte
    · subst hk
      obtain ⟨x, rfl, _⟩ := hf.2 rfl
      have := Nat.add_right_cancel (hlen.trans (Nat.zero_add 1).symm)
      omega
    · by_cases h56 : c.length < 56
      · rw [frame_of_ne hk, encHead_small _ _ h56, List.length_append, List.length_singleton] at hlen
        omega
      · omega

example : readKind [0xb8, 0x37] = .error .canonSize := by rfl
example : readKind [0xb9, 0x00, 0x38] = .error .canonSize := by rfl

theorem big_integers_canonical (c : Bytes) (n : Nat) : bigOfContent c = .ok n ↔ c = toBE n :=
  bigOfContent_ok_iff c n

/-- Integers: the content accepted as an unsigned integer of `bits` bits is exactly the minimal
    big-endian form `toBE n` (what `putint` writes for `n ≠ 0`): no leading zero, nothing for 0. -/
theorem integers_canonical (bits : Nat) (c : Bytes) (n : Nat) :
    uintOfContent bits c = .ok n ↔ (c = toBE n ∧ c.length ≤ bits / 8) := by
  have h : uintOfContent bits c = if c.length > bits / 8 then .error .uintOverflow else bigOfContent c := by
    unfold uintOfContent bigOfContent; rfl
  rw [h]
  by_cases hl : c.length > bits / 8
  · rw [if_pos hl]; exact ⟨nofun, fun h => by omega⟩
  · rw [if_neg hl, big_integers_canonical]; exact ⟨fun h => ⟨h, by omega⟩, fun h => h.1⟩

example : uintOfContent 64 [0x00, 0x01] = .error .canonInt := by rfl
example : uintOfContent 64 [0x04, 0x00] = .ok 1024 := by rfl

end Rangers.Props.C08
