import Rangers.Props.C04
/-!
# C04 — the readers the driver prints, the transaction / block boundary, and the by-ways of the package

* `reader_*` : the answer each reader function gives (what `drv_c04` prints and the harness compares with the real
  accessor) is the corresponding field of `obs` — so the restoration theorems, stated on `obs`, are statements about
  the answers of `Exist`, `GetNonce`, `GetData`, `HasSuicided`, `GetCodeHash`, `GetCode`, `GetBalance`.
* `*_ends_snapshots` : `Finalise`, `Commit`, `Reset`, `Clean` drop the journal and the revision stack — afterwards
  `RevertToSnapshot` of any id panics; `Prepare` only replaces tx context and access list.
* `toAddr_length`, `getAllRefund_*`, `addERC20Binding_existing`, the examples on `SetStorage` : the by-ways `toAddr`,
  `GetAllRefund`, `AddERC20Binding`, `SetStorage`.
-/
namespace Rangers.Props.C04D
open Rangers Rangers.Model.Journal Rangers.Proofs.Journal Rangers.Props.C04

theorem liveObj_of_res {s : ADB} {a : Addr} : liveObj s a = (match res s a with | .live o => some o | _ => none) := rfl

theorem reader_exist (c : Cfg) (s : ADB) (hs : s.crashed = false) (a : Addr) (k : Key) (th h : Hash) :
    (exist s a).2 = (obs c s a k th h).exist := by
  simp only [obs, exist, hs, Bool.false_eq_true, if_false, ← resolve_snd]
  rcases resolve s a with ⟨s1, _ | o⟩ <;> rfl

theorem reader_nonce (c : Cfg) (s : ADB) (hs : s.crashed = false) (a : Addr) (k : Key) (th h : Hash) :
    (getNonce s a).2 = (obs c s a k th h).nonce := by
  simp only [obs, getNonce, hs, Bool.false_eq_true, if_false, ← resolve_snd]
  rcases resolve s a with ⟨s1, _ | o⟩ <;> rfl

theorem reader_suicided (c : Cfg) (s : ADB) (hs : s.crashed = false) (a : Addr) (k : Key) (th h : Hash) :
    (hasSuicided s a).2 = (obs c s a k th h).suicided := by
  simp only [obs, hasSuicided, hs, Bool.false_eq_true, if_false, ← resolve_snd]
  rcases resolve s a with ⟨s1, _ | o⟩ <;> rfl

theorem reader_codeHash (c : Cfg) (s : ADB) (hs : s.crashed = false) (a : Addr) (k : Key) (th h : Hash) :
    (getCodeHash s a).2 = (obs c s a k th h).codeHash := by
  simp only [obs, getCodeHash, hs, Bool.false_eq_true, if_false, ← resolve_snd]
  rcases resolve s a with ⟨s1, _ | o⟩ <;> rfl

theorem reader_data (c : Cfg) (s : ADB) (hs : s.crashed = false) (a : Addr) (k : Key) (th h : Hash) :
    (getData s a k).2 = (obs c s a k th h).slot := by
  simp only [obs, getData, hs, Bool.false_eq_true, if_false, liveObj_of_res]
  cases hr : res s a with
  | absent => rw [(resolve_absent hr).1]; rfl
  | deleted => rw [resolve_deleted hr]; rfl
  | live o =>
    obtain ⟨s1, e, m, hd, _⟩ := resolve_live hr
    rw [e]
    exact (readAt_eq k m).2

theorem reader_code (c : Cfg) (s : ADB) (hs : s.crashed = false) (a : Addr) (k : Key) (th h : Hash) :
    (getCode s a).2 = (obs c s a k th h).code := by
  simp only [obs, getCode, hs, Bool.false_eq_true, if_false, liveObj_of_res]
  cases hr : res s a with
  | absent => rw [(resolve_absent hr).1]; rfl
  | deleted => rw [resolve_deleted hr]; rfl
  | live o =>
    obtain ⟨s1, e, m, hd, hf, _⟩ := resolve_live hr
    rw [e]
    simp only [(loadCode_eq m).2, codeLookup_eq]
    rw [hf]; rfl

theorem reader_balance (c : Cfg) (s : ADB) (hs : s.crashed = false) (a : Addr) (k : Key) (th h : Hash) :
    (getBalance c s a).2 = (obs c s a k th h).balance := by
  simp only [obs, getBalance, hs, Bool.false_eq_true, if_false, liveObj_of_res]
  cases hr : res s c.tok with
  | deleted => rw [resolveNew_deleted hr]; rfl
  | absent =>
    rw [resolveNew_absent hr]
    simp [readAt, Obj.read, Obj.fresh, mget, beToNat]
  | live o =>
    obtain ⟨s1, e, m, hd, _⟩ := resolve_live hr
    rw [resolveNew_live hr, e]
    simp only [Option.map_some, Option.getD_some]
    rw [(readAt_eq (c.balKey a) m).2]

theorem revert_nil (c : Cfg) {s : ADB} (h : s.revisions = []) (id : Nat) : (revert c s id).crashed = true := by
  unfold revert; split
  · assumption
  · rw [h]; rfl

theorem finalise_ends_snapshots (c : Cfg) (d : Bool) (s : ADB) (hs : s.crashed = false) (id : Nat) :
    (finalise d s).journal = [] ∧ (finalise d s).revisions = [] ∧ (finalise d s).refund = 0 ∧
    (revert c (finalise d s) id).crashed = true := by
  rw [show finalise d s = clearJournal (s.dirtySet.foldl (finaliseOne d) s) from if_neg (by simp [hs])]
  exact ⟨rfl, rfl, rfl, revert_nil c rfl id⟩

theorem commit_ends_snapshots (c : Cfg) (d : Bool) (s : ADB) (hs : s.crashed = false) (id : Nat) :
    (commit d s).journal = [] ∧ (commit d s).revisions = [] ∧ (commit d s).committed = (commit d s).trie ∧
    (revert c (commit d s) id).crashed = true := by
  rw [show commit d s = _ from if_neg (by simp [hs])]
  exact ⟨rfl, rfl, rfl, revert_nil c rfl id⟩

theorem reset_ends_snapshots (c : Cfg) (s : ADB) (hs : s.crashed = false) (id : Nat) :
    (reset s).journal = [] ∧ (reset s).revisions = [] ∧ (reset s).objs = [] ∧ (reset s).dirtySet = [] ∧
    (reset s).trie = s.committed ∧ (reset s).transient = s.transient ∧ (reset s).nextRev = s.nextRev ∧
    (revert c (reset s) id).crashed = true := by
  rw [show reset s = _ from if_neg (by simp [hs])]
  exact ⟨rfl, rfl, rfl, rfl, rfl, rfl, rfl, revert_nil c rfl id⟩

theorem clean_ends_snapshots (c : Cfg) (s : ADB) (hs : s.crashed = false) (id : Nat) :
    (clean s).journal = [] ∧ (clean s).revisions = [] ∧ (clean s).objs = [] ∧ (clean s).dirtySet = [] ∧
    (clean s).trie = s.trie ∧ (revert c (clean s) id).crashed = true := by
  rw [show clean s = _ from if_neg (by simp [hs])]
  exact ⟨rfl, rfl, rfl, rfl, rfl, revert_nil c rfl id⟩

/-- `Prepare` replaces the tx context and the access list and touches nothing a snapshot records elsewhere: the
    journal keeps entries of the old access list — which is why `Prepare` is a boundary op, not a region op -/
theorem prepare_only_context (s : ADB) (hs : s.crashed = false) (th bh : Hash) (ti : Nat) :
    prepare s th bh ti = { s with thash := th, bhash := bh, txIndex := ti, al := ⟨[], []⟩ } := by
  simp [prepare, hs]

/-- `NewAccountDB(lastCommittedRoot)`: nothing of the old session survives but the committed trie and the code blobs -/
theorem reopen_fresh (s : ADB) :
    (reopen s).trie = s.committed ∧ (reopen s).objs = [] ∧ (reopen s).dirtySet = [] ∧ (reopen s).journal = [] ∧
    (reopen s).revisions = [] ∧ (reopen s).nextRev = 0 ∧ (reopen s).codes = s.codes ∧ (reopen s).crashed = false := by
  simp [reopen, ADB.empty]

/-- the three thin readers are their underlying reader as far as the state goes (so they are covered by the
    restoration theorem through `GetBalance`, `GetCode`, `GetData`); `GetState` and `CanTransfer` answer a function of what
    the underlying reader answers -/
theorem thin_readers (c : Cfg) (s : ADB) (a : Addr) (k : Key) (n : Nat) :
    (canTransfer c s a n).1 = (getBalance c s a).1 ∧ (isContract s a).1 = (getCode s a).1 ∧
    (getState s a k).1 = (getData s a k).1 ∧ (getState s a k).2 = toHash (getData s a k).2 ∧
    (canTransfer c s a n).2 = decide ((getBalance c s a).2 ≥ n) := ⟨rfl, rfl, rfl, rfl, rfl⟩

theorem toAddr_length (b : Bytes) : (toAddr b).length = 20 := by
  unfold toAddr; split
  · rename_i h; rw [List.length_drop]; exact Nat.sub_sub_self (Nat.le_of_lt h)
  · rename_i h; rw [List.length_append, List.length_replicate]; exact Nat.add_sub_cancel' (Nat.le_of_not_gt h)

/-- the quirk: `BytesToAddress` right-pads short input, `BytesToHash` left-pads it -/
example : toAddr [1, 2] = [1, 2] ++ List.replicate 18 0 ∧ toHash [1, 2] = List.replicate 30 0 ++ [1, 2] := by decide +kernel

/-- `GetAllRefund` on an existing account changes no answer of any query of the property (it only fills the read
    cache); on a missing account it creates it (a journaled creation, as `GetBalance` does for the token contract) -/
theorem getAllRefund_preserves_obs (c : Cfg) (s : ADB) (a : Addr) (o : Obj) (hs : s.crashed = false)
    (hr : res s a = .live o) (b : Addr) (k : Key) (th h : Hash) :
    obs c (getAllRefund s a).1 b k th h = obs c s b k th h := by
  obtain ⟨s1, e, _, _, hf, _⟩ := resolve_live hr
  have hst : (getAllRefund s a).1 = putObj s1 a o.cacheAll := by
    simp [getAllRefund, hs, resolveNew_live hr, e]
  have hc : (getAllRefund s a).1.crashed = false := by rw [hst]; show s1.crashed = false; rw [hf]; exact hs
  -- no creation, so nothing is journaled: the state is the `Sim`-equal one `revAt_getAllRefund` speaks of
  have hsim := (Proofs.JournalG.revAt_getAllRefund Proofs.JournalG.absorbs_objSim c s a False.elim).rel
    (by rw [hst]; show s1.journal = s.journal; rw [hf]) hc
  exact obs_of_sim c (simP_sim.mp hsim) hc b k th h

theorem getAllRefund_creates_absent (c : Cfg) (s : ADB) (a : Addr) (hs : s.crashed = false) (hr : res s a = .absent)
    (k : Key) (th h : Hash) :
    (obs c (getAllRefund s a).1 a k th h).exist = true ∧ (obs c s a k th h).exist = false := by
  have hst : ∃ u, (getAllRefund s a).1 = putObj u a Obj.fresh.cacheAll := by
    simp only [getAllRefund, hs, Bool.false_eq_true, if_false, resolveNew_absent hr]
    exact ⟨_, rfl⟩
  obtain ⟨u, hu⟩ := hst
  constructor
  · simp only [obs, liveObj_of_res, hu]
    rw [res_putObj u a a _ rfl]; simp
  · simp [obs, liveObj_of_res, hr]

/-- … but it is one more trigger of the `empty()` finding: afterwards the storage-only account is no longer "empty" -/
example : emptyView sStorageOnly A1 = true ∧ emptyView (getAllRefund sStorageOnly A1).1 A1 = false ∧
    (getAllRefund sStorageOnly A1).2 = [(toAddr [0x6b], 7)] := by decide +kernel

/-- `SetStorage` journals like `SetData`: a reverted `SetStorage` is undone (instance of the headline theorem) -/
example : let s := setNonce ADB.empty A1 1
    let r := revert c0 (setStorage (snapshot s).1 A1 [(toHash [1], toHash [2]), (toHash [3], toHash [4])]) (snapshot s).2
    r.crashed = false ∧ obs c0 r A1 (toHash [1]) [] [] = obs c0 s A1 (toHash [1]) [] [] ∧
    (obs c0 (setStorage s A1 [(toHash [1], toHash [2])]) A1 (toHash [1]) [] []).slot = toHash [2] := by decide +kernel

/-- `AddERC20Binding` refuses an existing binding account (that it otherwise writes the three records: the example below) -/
theorem addERC20Binding_existing (s : ADB) (bind contract : Addr) (pos dec : Nat) (hs : s.crashed = false)
    (o : Obj) (hr : res s bind = .live o) : (addERC20Binding s bind contract pos dec).2 = false := by
  obtain ⟨s1, e, _⟩ := resolve_live hr
  simp [addERC20Binding, hs, exist, e]

example : (addERC20Binding ADB.empty [0xb1] A1 3 18).2 = true ∧
    (obs c0 (addERC20Binding ADB.empty [0xb1] A1 3 18).1 [0xb1] [0x70] [] []).slot = [0, 0, 0, 0, 0, 0, 0, 3] ∧
    (addERC20Binding (addERC20Binding ADB.empty [0xb1] A1 3 18).1 [0xb1] A1 4 18).2 = false := by decide +kernel

end Rangers.Props.C04D
