import Rangers.Model.RLPStream
import Rangers.Proofs.RLPStreamInv
/-!
# C08 — totality clauses for the `Stream` decoder

For a stream created by `DecodeBytes(b, …)` / `NewStream(bytes.NewReader(b), limit)` and
*any* sequence of the public methods (`Kind`, `Bytes`, `Raw`, `Uint`/`uintN`, `Bool`, `List`,
`ListEnd`, generic `Decode`), in any order, including after errors:

* `stream_no_wraparound`  every `listpos` on the stack has `pos ≤ size` (the `uint64`
  subtraction `tos.size - tos.pos` never wraps);
* `bounded_reads`         bytes taken from the reader never exceed the declared input;
* `bounded_allocs`        every `make` in `Bytes`/`Raw` is at most the declared input (+ ≤ 9 header bytes in `Raw`).

And for a single call in any state: a successful `Raw()` or `Bytes()` leaves `Kind` re-armed
(`raw_rearms_kind`, `bytes_rearms_kind`).
-/
namespace Rangers.Props.C08
open Rangers Rangers.RLP

/-- The declared input of `newStream b limit`. -/
def declared (b : Bytes) (limit : Nat) : Nat := if limit > 0 then limit else b.length

theorem stream_inv (b : Bytes) (limit : Nat) (ops : List SOp) (hL : declared b limit < 2 ^ 64) :
    SInv (declared b limit) (runOps ops (newStream b limit)) :=
  runOps_inv hL ops _ (newStream_inv b limit)

theorem stream_no_wraparound (b : Bytes) (limit : Nat) (ops : List SOp) (hL : declared b limit < 2 ^ 64) :
    ∀ e ∈ (runOps ops (newStream b limit)).stack, e.1 ≤ e.2 :=
  stackOK_pos_le _ _ (stream_inv b limit ops hL).stk

/-- The in-list bound check computed in `uint64` (`tos.size - tos.pos` with wrap-around) is the
    truncated `Nat` subtraction the model uses, in every reachable state. -/
theorem in_list_check_exact (b : Bytes) (limit : Nat) (ops : List SOp) (hL : declared b limit < 2 ^ 64) :
    ∀ e ∈ (runOps ops (newStream b limit)).stack, (e.2 + 2 ^ 64 - e.1) % 2 ^ 64 = (e.2 - e.1) % 2 ^ 64 := by
  intro e he
  have := stream_no_wraparound b limit ops hL e he
  have h : e.2 + 2 ^ 64 - e.1 = (e.2 - e.1) + 2 ^ 64 := by omega
  rw [h, Nat.add_mod_right]

/-- Why the *form* of the check matters (T-gen `bound_checks_no_addition`): with one byte of a
    9-byte list consumed, an element declaring 2^64-1 bytes is refused by `size > listSize - pos`
    but would pass `pos + size > listSize` evaluated in `uint64`. -/
theorem additive_check_would_wrap :
    (2 ^ 64 - 1 > 9 - 1) ∧ ¬ ((1 + (2 ^ 64 - 1)) % 2 ^ 64 > 9) := by decide +kernel

theorem bounded_reads (b : Bytes) (limit : Nat) (ops : List SOp) (hL : declared b limit < 2 ^ 64) :
    (runOps ops (newStream b limit)).consumed ≤ declared b limit := by
  have := (stream_inv b limit ops hL).rd
  omega

theorem bounded_allocs (b : Bytes) (limit : Nat) (ops : List SOp) (hL : declared b limit < 2 ^ 64) :
    ∀ a ∈ (runOps ops (newStream b limit)).allocs, a ≤ declared b limit + 9 :=
  (stream_inv b limit ops hL).al

/-- `DecodeBytes` (limit = `len(b)`): at most `len(b)` bytes read, no allocation above `len(b) + 9`. -/
theorem decodeBytes_bounded (b : Bytes) (ops : List SOp) (hL : b.length < 2 ^ 64) :
    (runOps ops (newStream b b.length)).consumed ≤ b.length ∧
    ∀ a ∈ (runOps ops (newStream b b.length)).allocs, a ≤ b.length + 9 := by
  have hd : declared b b.length = b.length := by unfold declared; split <;> rfl
  have h1 := bounded_reads b b.length ops (by rw [hd]; exact hL)
  have h2 := bounded_allocs b b.length ops (by rw [hd]; exact hL)
  rw [hd] at h1 h2
  exact ⟨h1, h2⟩

-- non-vacuity: a script that really allocates and reads (huge declared size is refused before any allocation)
example : (runOps [.list, .bytes, .listEnd] (newStream [0xc3, 0x82, 0x01, 0x02] 0)).allocs = [2] := by rfl
example : (runOps [.bytes] (newStream [0xbf, 0xff, 0xff, 0xff, 0xff, 0xff, 0xff, 0xff, 0xff] 0)).allocs = [] := by rfl
example : (sBytes (newStream [0xbf, 0xff, 0xff, 0xff, 0xff, 0xff, 0xff, 0xff, 0xff] 0)).1 = .error .valueTooLarge := by rfl

theorem willRead_kind (s : Stream) (n : Nat) : (willRead s n).2.kind = none := by
  have hl : ∀ s' : Stream, (willReadLimit s' n).2.kind = s'.kind := by
    intro s'
    unfold willReadLimit
    split
    · split <;> rfl
    · rfl
  unfold willRead
  simp only
  split
  · split
    · rfl
    · exact hl _
  · exact hl _

theorem readFull_kind (s : Stream) (n : Nat) : (readFull s n).2.kind = none := by
  have := willRead_kind s n
  unfold readFull
  cases hw : willRead s n with
  | mk oe s1 =>
    rw [hw] at this
    cases oe with
    | some e => exact this
    | none => simp only; split <;> exact this

theorem readByte_kind (s : Stream) : (readByte s).2.kind = none := by
  have := willRead_kind s 1
  unfold readByte
  cases hw : willRead s 1 with
  | mk oe s1 =>
    rw [hw] at this
    cases oe with
    | some e => exact this
    | none => simp only; split <;> exact this

theorem readUint_kind (s : Stream) (n : Nat) : (readUint s n).2.kind = none := by
  unfold readUint
  split
  · rfl
  · split
    · have := readByte_kind s
      cases hb : readByte s with
      | mk r s1 => rw [hb] at this; cases r <;> exact this
    · have := readFull_kind s n
      cases hb : readFull s n with
      | mk r s1 =>
        rw [hb] at this
        cases r with
        | error e => exact this
        | ok bs => cases bs with
          | nil => exact this
          | cons b0 tl => simp only; split <;> exact this

/-- A successful `Raw()` has consumed its element: `Kind` is re-armed, so the next read starts at the
    next element — for every element, empty strings and empty lists included. -/
theorem raw_rearms_kind (s : Stream) (b : Bytes) (h : (sRaw s).1 = .ok b) : (sRaw s).2.kind = none := by
  unfold sRaw at h ⊢
  cases hr : sKind s with
  | mk r s1 =>
    rw [hr] at h
    cases r with
    | error e => cases h
    | ok ks =>
      obtain ⟨k, size⟩ := ks
      simp only at h ⊢
      have hf := readFull_kind { s1 with allocs := (headsize size + size) :: s1.allocs } size
      cases k with
      | byte => rfl
      | string | list =>
        simp only at h ⊢
        cases hrr : readFull { s1 with allocs := (headsize size + size) :: s1.allocs } size with
        | mk r2 s2 =>
          rw [hrr] at hf h
          cases r2 with
          | error e => cases h
          | ok c => simp only; split <;> exact hf

/-- the same for `Bytes()` -/
theorem bytes_rearms_kind (s : Stream) (b : Bytes) (h : (sBytes s).1 = .ok b) : (sBytes s).2.kind = none := by
  unfold sBytes at h ⊢
  cases hr : sKind s with
  | mk r s1 =>
    rw [hr] at h
    cases r with
    | error e => cases h
    | ok ks =>
      obtain ⟨k, size⟩ := ks
      simp only at h ⊢
      cases k with
      | byte => rfl
      | list => cases h
      | string =>
        simp only at h ⊢
        have hf := readFull_kind { s1 with allocs := size :: s1.allocs } size
        cases hrr : readFull { s1 with allocs := size :: s1.allocs } size with
        | mk r2 s2 =>
          rw [hrr] at hf h
          cases r2 with
          | error e => cases h
          | ok c =>
            simp only at h ⊢
            split
            · rename_i hc
              simp [hc] at h
            · exact hf

-- non-vacuity: Raw on an empty string in the middle of a list, then the next element is read
example : (runOps [.list, .raw, .raw] (newStream [0xc2, 0x80, 0x05] 0)).consumed = 3 := by rfl
example : (sRaw (runOps [.list] (newStream [0xc2, 0x80, 0x05] 0))).1 = .ok [0x80] := by rfl

end Rangers.Props.C08
