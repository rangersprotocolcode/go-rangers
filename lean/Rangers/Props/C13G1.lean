import Rangers.Proofs.C13Dkg
import Rangers.Proofs.C13SignGen
import Rangers.Proofs.C13G1Recover
import Rangers.Proofs.C13G1Bridge
import Rangers.Proofs.C13Jac
import Rangers.Drive.C13
import Mathlib.Data.List.Dedup
/-!
# C13 at the point level — the executable G1 of the driver, at the parameters of the code

`Props/C13.lean` proves recovery for an arbitrary `ZMod r`-module and *assumes* (`LawfulOps`) that
the point operations are module operations. Here that assumption is discharged for the operations
the driver actually runs (`Model.G1` at `bn256.P`, `curveB`, tied to `bn256.G1` by the
correspondence run):

* proved: `Model.G1.add/double/mul` on valid points (on the curve, coordinates reduced) are addition
  and scalar multiplication of Mathlib's Weierstrass group `E(F_p)`, `E : y² = x³ + 3`, and the
  meaning map is injective (via `Proofs/Bls14Curve.lean`: add/double through the C14 model, the
  `testBit` scalar loop as an instance of its loop lemma `foldr_double_add`); `r = bn256.Order` is prime
  (Pratt certificate);
* still assumed, as explicit hypotheses: `p = bn256.P` is prime (`[Fact (Nat.Prime P)]`) and
  `CurveKilledByOrder` (`r•Q = 0` for every `Q ∈ E(F_p)`, i.e. `#E(F_p) = r`); both sampled by the
  searcher every run.

Conclusions are equalities between *executable model points*: the recovered point is literally
`G1.mul hm gsk`.
-/
namespace Rangers.Props.C13G1
open Polynomial Rangers Rangers.Model Rangers.Model.Shamir Rangers.Model.Bls14 Rangers.Proofs.Bls14
open Rangers.Proofs.C13 Rangers.Proofs.C13G1 Rangers.Generated

/-- The theorems below are about exactly what `drv_c13` executes. -/
theorem driver_runs_this_model :
    Rangers.Drive.C13.ops = g1ops ∧ Rangers.Drive.C13.r = Bn256.order ∧ Rangers.Drive.C13.curve = bnCurve :=
  ⟨rfl, rfl, rfl⟩

/-- The C13 and C14 translators read the same field prime, curve constant and group order. -/
theorem translators_agree : Bn256.fieldP = P ∧ Bn256.curveB = B ∧ Bn256.order = R := ⟨rfl, rfl, rfl⟩

/-- The executable model at the real parameters on a test vector: `hm` = the generator,
    `f = 7 + 5X`, ids 1 and 2 (deltas `2` and `r − 1`, so one full-length scalar multiplication).
    Evaluated by the kernel, the scalar multiplications of the loop through `C13Jac.mulJ` (one modular
    inversion each instead of one per bit); stated here, where no hypothesis is in scope. -/
theorem recoverWith_generator_shares :
    recoverWith g1ops Bn256.order [1, 2]
        ([1, 2].map (fun x => G1.mul bnCurve (.aff 1 (Bn256.fieldP - 2)) ((shareSeckey Bn256.order [7, 5] x).getD 0))) =
      .ok (some (G1.mul bnCurve (.aff 1 (Bn256.fieldP - 2)) 7)) := by
  rw [show g1ops = ⟨G1.add bnCurve, Proofs.C13Jac.mulJ bnCurve⟩ from
    congrArg _ (funext₂ (Proofs.C13Jac.mul_eq_mulJ bnCurve))]
  decide +kernel

variable [hp : Fact (Nat.Prime P)]

/-- On valid points the executable `add`, `double`, `mul` (any scalar,
    reduced or not) are the group operations of `E(F_p)`, results stay valid, and distinct valid
    points are distinct group elements. -/
theorem g1_model_is_group_law :
    (∀ a b, Valid1 a → Valid1 b →
      Valid1 (G1.add bnCurve a b) ∧ μ (G1.add bnCurve a b) = μ a + μ b) ∧
    (∀ a, Valid1 a → Valid1 (G1.double bnCurve a) ∧ μ (G1.double bnCurve a) = μ a + μ a) ∧
    (∀ a k, Valid1 a → Valid1 (G1.mul bnCurve a k) ∧ μ (G1.mul bnCurve a k) = k • μ a) ∧
    (∀ a b, Valid1 a → Valid1 b → μ a = μ b → a = b) :=
  ⟨g1_add_law, g1_double_law, fun a k ha => g1_mul_law a ha k, μ_inj⟩

/-- The C13 model (`Model.G1` at the bn256 parameters — extended-Euclid inverse,
    `testBit` scalar loop, `padLeft ∘ natToBE` encoding) and the C14 model (`Model.Bls14.Pt` — Fermat
    inverse, bit-list scalar loop, `beFixed` encoding) are the same functions on valid points:
    negation, doubling, addition, the on-curve test (`Proofs/Bls14BridgeC13.lean`),
    scalar multiplication and `Marshal` (`Proofs/C13G1Bridge.lean`). So each property's
    correspondence run also ties the other property's model to `bn256.G1`. -/
theorem g1_models_agree :
    (∀ p : Pt, G1.neg bnCurve (conv p) = conv p.neg) ∧
    (∀ p : Pt, p.reduced = true → G1.double bnCurve (conv p) = conv p.double) ∧
    (∀ p q : Pt, p.reduced = true → q.reduced = true → G1.add bnCurve (conv p) (conv q) = conv (p.add q)) ∧
    (∀ x y : Nat, G1.isOnCurve bnCurve (.aff x y) = onCurveXY x y) ∧
    (∀ (p : Pt) (k : Nat), Valid p → k < 2 ^ 512 → G1.mul bnCurve (conv p) k = conv (Pt.mul p k)) ∧
    (∀ p : Pt, p.reduced = true → G1.marshal (conv p) = g1Marshal p) :=
  ⟨c13_neg, c13_double, c13_add, c13_isOnCurve, fun p k hv hk => mul_models_agree p hv k hk,
   marshal_models_agree⟩

omit hp in
/-- non-vacuity: the generator `(1, p−2)` and infinity are valid points. -/
example : Valid1 (.aff 1 (Bn256.fieldP - 2)) ∧ Valid1 .inf := by
  refine ⟨⟨?_, ?_⟩, ⟨rfl, rfl⟩⟩ <;> decide

/-- `_partial`: ids distinct mod `r`. For a valid message point `hm`,
    any list of ≥ `deg f + 1` ids in any order, the executable `recoverSignature` on the executable
    shares `G1.mul hm f(xᵢ)` returns the executable point `G1.mul hm f(0)`. -/
theorem g1_recover_any_subset_partial (hexp : CurveKilledByOrder)
    (cs : List Nat) (hcs : cs ≠ []) (hm : G1.Point) (hv : Valid1 hm) (ids : List Nat)
    (hk : cs.length ≤ ids.length) (hd : IdsDistinct Bn256.order ids) :
    recoverWith g1ops Bn256.order ids
        (ids.map (fun x => G1.mul bnCurve hm ((shareSeckey Bn256.order cs x).getD 0))) =
      .ok (some (G1.mul bnCurve hm (cs.headD 0))) :=
  letI := AddCommGroup.zmodModule hexp
  recoverWith_poly (g1_sim hexp) ids
    (List.ne_nil_of_length_pos (lt_of_lt_of_le (List.length_pos_iff.2 hcs) hk)) hd
    (sharing_shareSeckey _ cs hcs _ hk) hm hv

/-- **Headline at the point level** (`_partial`: ids distinct mod `r`): DKG keys, any witness map
    with ≥ `k` honest executable shares, any admissible choice: `RecoverGroupSignature` returns the
    executable point `G1.mul hm gsk`. -/
theorem g1_dkg_any_threshold_subset_partial (hexp : CurveKilledByOrder)
    (dealers : List (List Nat)) (k : Nat) (hk0 : 0 < k) (hne : dealers ≠ [])
    (hk : ∀ cs ∈ dealers, cs ≠ [] ∧ cs.length ≤ k) (hm : G1.Point) (hv : Valid1 hm)
    (gsk : Nat) (hg : groupSecret Bn256.order dealers = some gsk)
    (m : List (Nat × Option G1.Point)) (hkm : k ≤ m.length)
    (hd : IdsDistinct Bn256.order (m.map Prod.fst))
    (hhon : ∀ en ∈ m, en.2 = some (G1.mul bnCurve hm ((memberKey Bn256.order dealers en.1).getD 0)))
    (c : Choice (Nat × Option G1.Point)) (hc : Admissible c m.length k) :
    recoverGroupSignature g1ops Bn256.order k m c = .ok (some (G1.mul bnCurve hm gsk)) :=
  letI := AddCommGroup.zmodModule hexp
  recoverGroupSignature_of_recoverWith g1ops Bn256.order k hk0 _ _
    (recoversTo_poly (g1_sim hexp) k hk0 (sharing_dkg dealers k hne hk gsk hg) hm hv) m hkm hd hhon c hc.ord2 fun _ => hc

/-- **Sign generator at the point level** (`_partial`: ids distinct mod `r`): the node's
    `GroupSignGenerator` run on the executable G1, with `IsValid` = the executable on-curve test, fed
    honest executable shares in any arrival order (repeats, late arrivals, any map order at recovery
    time), ends holding the executable point `G1.mul hm gsk`. -/
theorem g1_sign_generator_any_arrival_order_partial (hexp : CurveKilledByOrder)
    (dealers : List (List Nat)) (k : Nat) (hk0 : 0 < k) (hne : dealers ≠ [])
    (hk : ∀ cs ∈ dealers, cs ≠ [] ∧ cs.length ≤ k) (hm : G1.Point) (hv : Valid1 hm)
    (gsk : Nat) (hg : groupSecret Bn256.order dealers = some gsk)
    (arr : List (Nat × Option G1.Point × Choice (Nat × Option G1.Point)))
    (hhon : ∀ a ∈ arr, a.2.1 = some (G1.mul bnCurve hm ((memberKey Bn256.order dealers a.1).getD 0)) ∧
      ∀ l, (a.2.2.ord2 l).Perm l)
    (hmod : ∀ x ∈ arr.map (·.1), ∀ y ∈ arr.map (·.1), x % Bn256.order = y % Bn256.order → x = y)
    (hcount : k ≤ (arr.map (·.1)).dedup.length) :
    ∃ st, feed g1ops Bn256.order (G1.isOnCurve bnCurve) (SignGen.new k) arr = .ok st ∧
      st.groupSign = some (G1.mul bnCurve hm gsk) :=
  letI := AddCommGroup.zmodModule hexp
  feed_new_recovers g1ops Bn256.order (G1.isOnCurve bnCurve) k hk0 _ _
    (recoversTo_poly (g1_sim hexp) k hk0 (sharing_dkg dealers k hne hk gsk hg) hm hv)
    ((isOnCurve_eq _).trans (g1_mul_law hm hv gsk).1.1) arr hhon hmod hcount

omit hp in
/-- non-vacuity (kernel evaluation of the executable model at the real parameters, no hypothesis
    involved): `hm` = the generator, `f = 7 + 5X`, ids 1 and 2: the hypotheses that are decidable
    hold and the conclusion is what the model computes. -/
example :
    Valid1 (.aff 1 (Bn256.fieldP - 2)) ∧ IdsDistinct Bn256.order [1, 2] ∧
    recoverWith g1ops Bn256.order [1, 2]
        ([1, 2].map (fun x => G1.mul bnCurve (.aff 1 (Bn256.fieldP - 2)) ((shareSeckey Bn256.order [7, 5] x).getD 0))) =
      .ok (some (G1.mul bnCurve (.aff 1 (Bn256.fieldP - 2)) 7)) := by
  exact ⟨⟨by decide, by decide⟩, by decide, recoverWith_generator_shares⟩

end Rangers.Props.C13G1
