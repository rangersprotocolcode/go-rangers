import Rangers.Props.C13Prime
import Rangers.Proofs.Bls14Pairing
import Rangers.Proofs.RoundLive
import Rangers.Proofs.RoundSrc
import Rangers.Props.C15B
/-!
C15: the cryptographic hypothesis `Lawful` of clauses 2 and 3 discharged from the results of
C13 and C14 for the abstract bn256 setting.

* recovery (`Lawful.recover_eq`) is C13's `recover_group_signature_any_partial` at the modulus of
  the code (`Bn256.order`, prime by `C13Prime.order_prime`): `RecoverGroupSignature` on the shares of
  any `k` members with ids distinct mod `r` is the group signature;
* uniqueness of verification (`Lawful.verify_iff`, `groupSig_ok`) is `Bilinear.unique`
  (Proofs/Bls14Pairing.lean), the group-level core of C14's `verify_iff_unique`.

What remains assumed, as fields of `Bn256Setting` (never axioms): G1 is a `ZMod r`-module whose
`Add`/`ScalarMult` are the module operations (`LawfulOps`), the pairing is additive in both arguments
(`Bilinear`) and `e(·, g₂)` has trivial kernel (non-degeneracy), member ids are distinct mod `r`,
and the member keys are evaluations of one polynomial of degree < k (what the DKG produces,
C13 `member_key_is_eval_of_sum`). Hash-to-curve is an arbitrary function.
-/
namespace Rangers.Props.C15
open Rangers.Model.Round Rangers.Proofs.Round
open Rangers.Generated Rangers.Model.Shamir Rangers.Proofs.C13 Rangers.Props.C13 Rangers.Props.C13Prime
open Rangers.Proofs.Bls14

/-- The abstract bn256 threshold group the node works in. -/
structure Bn256Setting (G G2 GT : Type) [AddCommGroup G] [Module (ZMod Bn256.order) G]
    [AddCommGroup G2] [CommGroup GT] where
  ops : Ops G
  lawful : LawfulOps Bn256.order ops
  e : G → G2 → GT
  bil : Bilinear e
  g2 : G2
  nondeg : ∀ a, e a g2 = 1 → a = 0
  /-- hash-to-point of a data tag -/
  H : Data → G
  /-- coefficients of the group polynomial (sum of the dealers' polynomials) -/
  cs : List Nat
  /-- the 256-bit id of a member -/
  idOf : Id → Nat
  /-- iteration orders / draws inside `RecoverGroupSignature` -/
  choice : Choice (Nat × Option G)

variable {G G2 GT : Type} [AddCommGroup G] [Module (ZMod Bn256.order) G] [AddCommGroup G2] [CommGroup GT]

namespace Bn256Setting
variable (S : Bn256Setting G G2 GT)

/-- member `i`'s signing key `f(id_i)` and the group secret `f(0)` -/
def sk (i : Id) : Nat := (shareSeckey Bn256.order S.cs (S.idOf i)).getD 0
def gsk : Nat := S.cs.headD 0

/-- `Sign(sk_i, d) = sk_i · H(d)`, as the code computes it (`ScalarMult`) -/
def shareOf (i : Id) (d : Data) : Option G := some (S.ops.mul (S.H d) (S.sk i))
def groupSig (d : Data) : Option G := some (S.ops.mul (S.H d) S.gsk)

/-- The oracle the round's model is run with: signatures are `Option G` (`none` = nil point),
`VerifySig` is the pairing comparison, recovery is C13's model of `RecoverGroupSignature`. Every element of `G` is a
point of the curve (`isValid := isSome`): the off-curve bytes that `Sym.junk false` stands for in the symbolic oracle
have no counterpart here. -/
noncomputable def crypto (k : Nat) : Crypto (Option G) where
  isNil s := s.isNone
  isValid s := s.isSome
  verify i d s := match s with
    | some σ => @decide (S.e σ S.g2 = S.e (S.H d) (S.sk i • S.g2)) (Classical.dec _)
    | none => false
  verifyGroup d s := match s with
    | some σ => @decide (S.e σ S.g2 = S.e (S.H d) (S.gsk • S.g2)) (Classical.dec _)
    | none => false
  recover l := match recoverGroupSignature S.ops Bn256.order k (l.map fun p => (S.idOf p.1, p.2)) S.choice with
    | .ok s => s
    | _ => none
  pick l n := l.take n

theorem mul_eq_nsmul (h : G) (n : Nat) : S.ops.mul h n = n • h := by
  rw [S.lawful.mul_eq, Nat.cast_smul_eq_nsmul]

theorem pairing_check_iff (x : Nat) (d : Data) (σ : G) :
    @decide (S.e σ S.g2 = S.e (S.H d) (x • S.g2)) (Classical.dec _) = true ↔ σ = S.ops.mul (S.H d) x := by
  rw [@decide_eq_true_eq _ (Classical.dec _), S.bil.unique S.g2 S.nondeg, S.mul_eq_nsmul]

end Bn256Setting

/-- **`Lawful` is a corollary of C13 and C14** for every `Bn256Setting`: nothing about the round's
cryptography is assumed beyond the fields of the setting (`cs` non-empty of degree < k, `choice` admissible) and
distinctness of the member ids mod `r`. -/
theorem bn256_lawful (S : Bn256Setting G G2 GT) (env : Env) (hcs : S.cs ≠ [])
    (hdeg : S.cs.length ≤ groupK env.groupSize)
    (hadm : Admissible S.choice (groupK env.groupSize) (groupK env.groupSize))
    (hdist : ∀ i ∈ env.pkKnown, ∀ j ∈ env.pkKnown,
      S.idOf i % Bn256.order = S.idOf j % Bn256.order → i = j) :
    Lawful (S.crypto (groupK env.groupSize)) env S.shareOf S.groupSig := by
  refine ⟨?_, ?_, ?_, ?_⟩
  · intro i d s _
    cases s with
    | none => exact ⟨nofun, nofun⟩
    | some σ => exact (S.pairing_check_iff (S.sk i) d σ).trans Option.some_inj.symm
  · intro i d s h
    cases s with
    | none => cases h
    | some σ => rfl
  · intro d
    exact ⟨rfl, rfl, (S.pairing_check_iff S.gsk d _).mpr rfl⟩
  · intro ids d hnd hmem hlen
    have hmap : (ids.map fun i => (i, S.shareOf i d)).map (fun p => (S.idOf p.1, p.2)) =
        ids.map (fun i => (S.idOf i, some (S.ops.mul (S.H d) ((shareSeckey Bn256.order S.cs (S.idOf i)).getD 0)))) := by
      rw [List.map_map]; rfl
    have hrec := recover_group_signature_any_partial (r := Bn256.order) S.ops S.lawful S.cs hcs (S.H d)
      (groupK env.groupSize) hdeg
      (ids.map (fun i => (S.idOf i, some (S.ops.mul (S.H d) ((shareSeckey Bn256.order S.cs (S.idOf i)).getD 0)))))
      (by simp [hlen])
      (by
        unfold IdsDistinct
        rw [List.map_map, List.map_map]
        apply List.Nodup.map_on _ hnd
        intro a ha b hb hab
        exact hdist a (hmem a ha) b (hmem b hb) hab)
      (by
        intro e he
        obtain ⟨i, _, rfl⟩ := List.mem_map.mp he
        rfl)
      S.choice (by simpa [hlen] using hadm)
    show (S.crypto (groupK env.groupSize)).recover _ = _
    simp only [Bn256Setting.crypto, hmap, hrec]
    rfl

/-- Clause 2 with the cryptography discharged. -/
theorem threshold_recovers_valid_bn256 (S : Bn256Setting G G2 GT) (env : Env) (hsrc : FromSource env)
    (hn : 0 < env.groupSize) (hcs : S.cs ≠ []) (hdeg : S.cs.length ≤ groupK env.groupSize)
    (hadm : Admissible S.choice (groupK env.groupSize) (groupK env.groupSize))
    (hdist : ∀ i ∈ env.pkKnown, ∀ j ∈ env.pkKnown, S.idOf i % Bn256.order = S.idOf j % Bn256.order → i = j)
    (future : List (VMsg (Option G))) (ws : List (Bool × Wire (Option G))) :
    let c := S.crypto (groupK env.groupSize)
    let st := (Proc.runX c env (Proc.init c env future) ws).party.rs
    (groupK env.groupSize ≤ st.gSign.witness.length ∨ st.canProcessed = true) →
      st.canProcessed = true ∧ st.gSign.witness.length = groupK env.groupSize ∧
      sigOk c env.hash st.bhSignature = true ∧ sigOk c env.prevRandom st.bhRandom = true :=
  threshold_recovers_valid _ env hsrc hn _ _ (bn256_lawful S env hcs hdeg hadm hdist) future ws

/-- Clause 3 with the cryptography discharged: in every `Bn256Setting`, ≥ k honest members' messages
among the packets ⇒ the block is finalised with the group signatures, whatever else arrives. -/
theorem one_faulty_cannot_block_bn256 (S : Bn256Setting G G2 GT) (env : Env) (hsrc : FromSource env)
    (hex : env.blockExists = false) (hn : 0 < env.groupSize) (hcs : S.cs ≠ [])
    (hdeg : S.cs.length ≤ groupK env.groupSize)
    (hadm : Admissible S.choice (groupK env.groupSize) (groupK env.groupSize))
    (hdist : ∀ i ∈ env.pkKnown, ∀ j ∈ env.pkKnown, S.idOf i % Bn256.order = S.idOf j % Bn256.order → i = j)
    (future : List (VMsg (Option G))) (ws : List (Wire (Option G)))
    (honest : List (Id × MsgId)) (hnd : (honest.map (·.1)).Nodup) (hlen : groupK env.groupSize ≤ honest.length)
    (hmem : ∀ p ∈ honest, p.1 ∈ env.pkKnown ∧ Wire.ok (honestMsg env S.shareOf p.1 p.2) ∈ ws ∧
      p.2 ∉ future.map (·.mid)) :
    let c := S.crypto (groupK env.groupSize)
    let pr := Proc.run c env (Proc.init c env future) ws
    pr.ending = some true ∧
    pr.party.rs.generated = some (some (S.groupSig env.hash), some (S.groupSig env.prevRandom)) ∧
    sigOk c env.hash (some (S.groupSig env.hash)) = true ∧
    sigOk c env.prevRandom (some (S.groupSig env.prevRandom)) = true :=
  one_faulty_cannot_block _ env hsrc hex hn _ _ (bn256_lawful S env hcs hdeg hadm hdist) future ws honest hnd hlen hmem

/-- `ZMod r` as G1 = G2, `Multiplicative (ZMod r)` as GT, `e(a, b) = a·b`, `g₂ = 1`, `H(d) = d + 1`,
group polynomial `7 + 5X` (k = 2), member ids 1, 2, 3. -/
noncomputable def toySetting : Bn256Setting (ZMod Bn256.order) (ZMod Bn256.order) (Multiplicative (ZMod Bn256.order)) where
  ops := zops Bn256.order
  lawful := zops_lawful _
  e a b := Multiplicative.ofAdd (a * b)
  bil := ⟨fun a b q => by simp [add_mul], fun a q q' => by simp [mul_add]⟩
  g2 := 1
  nondeg := by
    intro a h
    have : Multiplicative.toAdd (Multiplicative.ofAdd (a * 1)) = 0 := by rw [h]; rfl
    simpa using this
  H d := (d : ZMod Bn256.order) + 1
  cs := [7, 5]
  idOf i := i + 1
  choice := ⟨id, [0, 0], id⟩

/-- The hypotheses of `bn256_lawful` hold for the toy setting and a group of 3. -/
theorem toySetting_lawful :
    Lawful (toySetting.crypto (groupK 3)) { leadEnv with bindsHash := true } toySetting.shareOf toySetting.groupSig := by
  apply bn256_lawful toySetting { leadEnv with bindsHash := true }
  · decide
  · decide
  · exact ⟨fun l => List.Perm.refl l, fun l => List.Perm.refl l, by decide, by decide⟩
  · decide +kernel

end Rangers.Props.C15
