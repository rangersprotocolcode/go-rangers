import Rangers.Proofs.ChainStoreSafe
/-!
# Property C05 — the block store holds one hash-linked canonical chain across reorgs and crashes

All theorems are about `Rangers.Model.ChainStore`, the model the driver `drv_c05` executes against the real chain on
every run. `ChainInv d c` (disk `d` holds exactly the chain `c`, head first; spelled out by `chain_clauses`) and
`Inv T d m c` (the memory agrees with the disk, every stored block belongs to the delivered tree `T`) are defined in
`Proofs/ChainStoreInv.lean` and `…Ops.lean`. `ValidTree T` is the hypothesis on delivered blocks: a child is higher than
its parent, its cumulative QN is not lower, it repeats no transaction of an ancestor (what consensus and Proposal008
check; the store itself does not). `St.arm (some k)`: the process dies in front of physical write `k` of the next op.
-/
namespace Rangers.Props.C05
open Rangers.Model.ChainStore Rangers.Proofs.ChainStore

/-- What `ChainInv` gives, in the words of the property: the recorded head is the head of a chain
    linked down to genesis; every chain block is returned by the height index at its height and
    contained in the hash index; no height above the head is indexed; the head's state root is
    committed; no intent mark is left. -/
theorem chain_clauses {d : Disk} {c : List Block} (ci : ChainInv d c) :
    ∃ hd, d.current = some hd ∧ c.head? = some hd ∧ Linked c ∧
      (∀ x ∈ c, d.blocks x.hash = some x ∧ d.heights x.height = some x) ∧
      (∀ n x, d.heights n = some x → n ≤ hd.height ∧ x ∈ c) ∧
      (∀ h x, d.blocks h = some x → x ∈ c) ∧
      d.roots hd.hash = true ∧ d.addMark = none ∧ d.removeMark = none := by
  obtain ⟨hd, hhd⟩ := ci.linked.exists_head
  obtain ⟨rest, rfl⟩ := List.head?_eq_some_iff.mp hhd
  refine ⟨hd, ci.cur, rfl, ci.linked, fun x hx => ⟨ci.blocks_mem x hx, ci.heights_mem x hx⟩, fun n x hx => ?_,
    fun h x hx => (ci.blocks_only h x hx).1, ci.roots hd (List.mem_cons_self ..), ci.noAdd, ci.noRemove⟩
  obtain ⟨hm, rfl⟩ := ci.heights_only n x hx
  exact ⟨ci.linked.le_head x hm, hm⟩

/-- The store right after genesis creation satisfies the invariant (the genesis block carries no transactions). -/
theorem inv_genesis (T : Nat → Option Block) (g : Block) (h0 : g.height = 0) (htx : g.txs = [])
    (hT : T g.hash = some g) : Inv T (genesisState g).disk (genesisState g).mem [g] := by
  have ci : ChainInv (genesisState g).disk [g] := {
    linked := h0
    cur := rfl
    blocks_mem := by intro x hx; simp at hx; subst hx; simp [genesisState]
    heights_mem := by intro x hx; simp at hx; subst hx; simp [genesisState]
    blocks_only := by
      intro h x hx
      simp only [genesisState] at hx
      rcases upd_eq_some hx with ⟨e, hv⟩ | ⟨_, hm⟩
      · simp at hv; subst hv; exact ⟨List.mem_cons_self .., e.symm⟩
      · cases hm
    heights_only := by
      intro n x hx
      simp only [genesisState] at hx
      rcases upd_eq_some hx with ⟨e, hv⟩ | ⟨_, hm⟩
      · simp at hv; subst hv; exact ⟨List.mem_cons_self .., e.symm⟩
      · cases hm
    verify_mem := by intro x hx; simp at hx; subst hx; simp [genesisState]
    verify_only := by
      intro n hn
      simp only [genesisState] at hn
      rcases updB_eq_true hn with ⟨e, _⟩ | ⟨_, hm⟩
      · exact ⟨g, List.mem_cons_self .., e.symm⟩
      · cases hm
    roots := by intro x hx; simp at hx; subst hx; simp [genesisState]
    noAdd := rfl
    noRemove := rfl
    exec_mem := by intro x hx t ht; simp at hx; subst hx; rw [htx] at ht; cases ht
    exec_only := by intro t h hh; cases hh
    txdisj := List.pairwise_singleton _ _ }
  refine ⟨ci, rfl, ?_, ?_, ?_⟩
  · intro n z hz; cases hz
  · intro k f hf; cases hf
  · intro z hz; simp at hz; subst hz; exact hT

/-- The pool clause, spelled out: at every state satisfying the invariant a transaction is marked executed
    exactly when a block of the head's chain contains it, and it is marked with that block. -/
theorem pool_exact {d : Disk} {c : List Block} (ci : ChainInv d c) (t h : Nat) :
    d.executed t = some h ↔ ∃ x ∈ c, x.hash = h ∧ t ∈ x.txs := by
  constructor
  · exact ci.exec_only t h
  · rintro ⟨x, hx, rfl, ht⟩
    exact ci.exec_mem x hx t ht

/-- Under the invariant every cache entry agrees with the store or is absent: a header in
    the topBlocks cache is the header the height index holds at that height (and its block is in the hash
    index); an orphan parked in futureBlocks is parked under its own parent hash and is a tree block. The
    invariant is preserved by every delivery, reorg, crash + restart (`inv_add`, `inv_crash`), so this holds
    at every quiescent point. -/
theorem caches_agree {T : Nat → Option Block} {d : Disk} {m : Mem} {c : List Block} (inv : Inv T d m c) :
    (∀ n z, m.top n = some z → d.heights n = some z ∧ d.blocks z.hash = some z ∧ z ∈ c) ∧
    (∀ k f, m.future k = some f → f.pre = k ∧ T f.hash = some f) := by
  refine ⟨fun n z hz => ?_, inv.fut⟩
  have h := inv.cache n z hz
  have hc := (inv.chain.heights_only n z h).1
  exact ⟨h, inv.chain.blocks_mem z hc, hc⟩

/-- The cache-reading query `QueryBlockHeaderByHeight(h, true)` (hence `GetBlockHash`,
    `QueryBlock`) returns exactly what the height index holds, at every height — also at heights the current
    chain skips — whatever subset of the index the topBlocks LRU currently keeps (so LRU eviction of that
    cache is not observable). -/
theorem cache_transparent {T : Nat → Option Block} (s : St) (c : List Block) (inv : Inv T s.disk s.mem c) (h : Nat) :
    s.lookupHeight h = s.disk.heights h := by
  exact lookupHeight_eq inv h

/-- Delivering any block of a valid tree through `AddBlockOnChain` — extension, sibling of
    lower / equal / higher weight, duplicate, orphan, block with irreproducible roots — leaves the
    store holding exactly one chain again (for every recursion bound `fuel`). By induction this covers
    every delivery order of every block tree. -/
theorem inv_add {T : Nat → Option Block} (vt : ValidTree T) (fuel : Nat) (s : St) (b : Block) (c : List Block)
    (hs : Safe s) (inv : Inv T s.disk s.mem c) (hT : T b.hash = some b) :
    ∃ c', Inv T (addBlock fuel s b).1.disk (addBlock fuel s b).1.mem c' ∧ Safe (addBlock fuel s b).1 := by
  have hsafe := (Reach.refl.addBlock fuel b).safe hs
  exact ⟨_, (Out.of_alive (addBlock_post vt fuel s b c hs.1 inv hT) hsafe.1).choose_spec, hsafe⟩

/-- every delivery order of every sequence of tree blocks -/
theorem inv_add_all {T : Nat → Option Block} (vt : ValidTree T) (fuel : Nat) :
    ∀ (bs : List Block) (s : St) (c : List Block), Safe s → Inv T s.disk s.mem c → (∀ b ∈ bs, T b.hash = some b) →
      ∃ c', Inv T (bs.foldl (fun s b => (addBlock fuel s b).1) s).disk (bs.foldl (fun s b => (addBlock fuel s b).1) s).mem c' := by
  intro bs
  induction bs with
  | nil => intro s c _ inv _; exact ⟨c, inv⟩
  | cons b bs ih =>
    intro s c hs inv hT
    obtain ⟨c1, inv1, hs1⟩ := inv_add vt fuel s b c hs inv (hT b (List.mem_cons_self ..))
    exact ih _ c1 hs1 inv1 (fun b' hb' => hT b' (List.mem_cons_of_mem _ hb'))

/-- A clean restart of a quiescent node changes nothing: same chain, no panic. -/
theorem inv_restart {T : Nat → Option Block} (s : St) (c : List Block) (hs : Safe s) (inv : Inv T s.disk s.mem c) :
    Inv T (restart s).1.disk (restart s).1.mem c ∧ (restart s).2 = .ok := by
  exact restart_safe hs (Or.inl inv.chain) inv.fromT

/-- A process death in front of ANY physical write of a block delivery (any `k`: inside
    `insertBlock`, inside any `remove` of a reorg, inside the orphan cascade), followed by a restart,
    yields a store that again holds exactly one chain; start-up does not panic. (If `k` exceeds the
    number of writes the delivery simply completes.) -/
theorem inv_crash {T : Nat → Option Block} (vt : ValidTree T) (fuel : Nat) (s : St) (b : Block) (c : List Block)
    (inv : Inv T s.disk s.mem c) (hT : T b.hash = some b) (k : Nat) :
    let s' := (addBlock fuel (s.arm (some k)) b).1
    ∃ c', Inv T (restart (s'.arm none)).1.disk (restart (s'.arm none)).1.mem c' ∧ (restart (s'.arm none)).2 = .ok := by
  intro s'
  obtain ⟨c', hr, hT'⟩ := (addBlock_post vt fuel (s.arm (some k)) b c rfl inv hT).recIn
  exact ⟨c', restart_safe (arm_safe s') hr hT'⟩

/-- **inv_crash, pool clause.** After a death in front of ANY write of a delivery — including the tx pool's own
    batch write and each of its deletes, in their real position between the intent marks — and a restart, a
    transaction is marked executed exactly when a block of the recovered head's chain contains it. -/
theorem inv_crash_pool {T : Nat → Option Block} (vt : ValidTree T) (fuel : Nat) (s : St) (b : Block) (c : List Block)
    (inv : Inv T s.disk s.mem c) (hT : T b.hash = some b) (k : Nat) :
    let s' := (addBlock fuel (s.arm (some k)) b).1
    ∃ c', Inv T (restart (s'.arm none)).1.disk (restart (s'.arm none)).1.mem c' ∧
      ∀ t h, (restart (s'.arm none)).1.disk.executed t = some h ↔ ∃ x ∈ c', x.hash = h ∧ t ∈ x.txs := by
  intro s'
  obtain ⟨c', inv', _⟩ := inv_crash vt fuel s b c inv hT k
  exact ⟨c', inv', pool_exact inv'.chain⟩

/-- **Deaths during the repair itself.** From any disk a crashed delivery can leave behind, any number
    of restarts that each die in front of an arbitrary write of the start-up repair, followed by one
    restart that survives, end in the invariant for the same base chain. -/
theorem inv_crash_repeated {T : Nat → Option Block} {c : List Block} (hT : ∀ z ∈ c, T z.hash = some z) :
    ∀ (ks : List Nat) (s : St), RecTo s.disk c →
      let s' := ks.foldl (fun s k => (restart (s.arm (some k))).1) s
      Inv T (restart (s'.arm none)).1.disk (restart (s'.arm none)).1.mem c ∧ (restart (s'.arm none)).2 = .ok := by
  intro ks
  induction ks with
  | nil =>
    intro s hr
    exact restart_safe (arm_safe s) hr hT
  | cons k ks ih =>
    intro s hr
    have h := (restart_spec (T := T) (s := s.arm (some k)) rfl hr hT).1
    have hr' : RecTo (restart (s.arm (some k))).1.disk c := by
      rcases h with ⟨_, inv'⟩ | ⟨_, r⟩
      · exact Or.inl inv'.chain
      · exact r
    exact ih _ hr'

/-- The disk a death inside a block delivery leaves behind is always of the shape the repair handles:
    a clean chain, or a clean chain plus parts of ONE marked block that is a child of its head. -/
theorem crash_state_recoverable {T : Nat → Option Block} (vt : ValidTree T) (fuel : Nat) (s : St) (b : Block)
    (c : List Block) (inv : Inv T s.disk s.mem c) (hT : T b.hash = some b) (k : Nat) :
    Rec (addBlock fuel (s.arm (some k)) b).1.disk := by
  obtain ⟨c', r, _⟩ := (addBlock_post vt fuel (s.arm (some k)) b c rfl inv hT).recIn
  exact r.rec

/-- **head_after_crash, per marked step.** `remove x` on the head `x` of chain `x :: c`: whatever write the
    process dies in front of, the restarted node's chain is `x :: c` (the old head) or `c` (the new
    head) — never anything else. -/
theorem head_after_crash_remove {T : Nat → Option Block} (s : St) (x : Block) (c : List Block)
    (inv : Inv T s.disk s.mem (x :: c)) (hc : c ≠ []) (k : Nat) :
    let s' := (remove (s.arm (some k)) x).1
    (Inv T (restart (s'.arm none)).1.disk (restart (s'.arm none)).1.mem c ∨
     Inv T (restart (s'.arm none)).1.disk (restart (s'.arm none)).1.mem (x :: c)) ∧
    (restart (s'.arm none)).2 = .ok := by
  have hrec : RecTo (remove (s.arm (some k)) x).1.disk c ∨ RecTo (remove (s.arm (some k)) x).1.disk (x :: c) := by
    rcases remove_spec (T := T) (s := s.arm (some k)) rfl inv hc with ⟨_, p⟩ | ⟨_, r | r⟩
    · exact Or.inl (Or.inl p.1.chain)
    · exact Or.inl r
    · exact Or.inr (Or.inl r)
  exact restart_either (arm_safe _) hrec (fun z hz => inv.fromT z (List.mem_cons_of_mem _ hz)) inv.fromT

/-- **head_after_crash, per marked step.** `insertBlock b` on top of chain `c` (up to and including the erase
    of the add mark): the restarted node's chain is `c` (old head) or `b :: c` (new head). -/
theorem head_after_crash_insert {T : Nat → Option Block} (s : St) (b y : Block) (c : List Block)
    (inv : Inv T s.disk s.mem c) (hp : b.pre = y.hash) (hy : c.head? = some y) (hh : y.height < b.height)
    (hn : s.disk.blocks b.hash = none) (hT : T b.hash = some b) (hfresh : ∀ z ∈ c, ∀ t ∈ b.txs, t ∉ z.txs) (k : Nat) :
    let s' := insertB (insertA (s.arm (some k)) b) b
    (Inv T (restart (s'.arm none)).1.disk (restart (s'.arm none)).1.mem c ∨
     Inv T (restart (s'.arm none)).1.disk (restart (s'.arm none)).1.mem (b :: c)) ∧
    (restart (s'.arm none)).2 = .ok := by
  have hrec : RecTo (insertB (insertA (s.arm (some k)) b) b).disk c ∨
      RecTo (insertB (insertA (s.arm (some k)) b) b).disk (b :: c) := by
    rcases insertAB_spec (T := T) (s := s.arm (some k)) rfl inv hp hy hh hn hT hfresh with ⟨_, p⟩ | ⟨_, r⟩
    · exact Or.inr (Or.inl p.1.chain)
    · exact Or.inl r
  exact restart_either (arm_safe _) hrec inv.fromT (List.forall_mem_cons.mpr ⟨hT, inv.fromT⟩)

/-- `addBlockOnChain` touches the store only if the coming block extends the
    head, or its parent is on the local chain and it carries a strictly larger cumulative QN, or an
    equal one while the local block right above the fork point does not beat it on (prove value,
    then hash). In every other case the disk — hence the head — is exactly what it was. -/
theorem head_change_guarded (fuel : Nat) (s : St) (b : Block) (hg : ¬ Guard s b) :
    (addCore fuel s b).1.disk = s.disk :=
  addCore_guarded fuel s b hg

/-- Full statement of the weight clause: after a crash-free delivery of any block of a valid tree through
    `AddBlockOnChain` (recursion bound at least 2: one re-entry after a reorg), the store holds a chain `c'`
    that is not lighter than the old chain `c` in the order the property states — `WeightGE`: `c'` extends
    `c`, or its cumulative QN is larger, or it is equal and at the fork point the first block of `c'` above
    it is not beaten by the first block of `c` above it on (prove value, then hash). -/
def FullStatementHeadWeight (T : Nat → Option Block) : Prop :=
  ∀ (fuel : Nat) (s : St) (b : Block) (c : List Block), ValidTree T → Safe s → Inv T s.disk s.mem c →
    T b.hash = some b →
    ∃ c', Inv T (addBlock (fuel + 2) s b).1.disk (addBlock (fuel + 2) s b).1.mem c' ∧ WeightGE c c'

/-- By `addBlock_weight` (`Proofs/ChainStoreWeight`).  In the equal-QN branch `WeightGE` compares the coming block
    with the first local block above the fork point, which is the block the model looks up at `forkPoint.height + 1`;
    a tie-break taken against any other local block is outside this theorem and shows up as a correspondence
    difference. -/
theorem head_weight_monotone (T : Nat → Option Block) : FullStatementHeadWeight T := by
  intro fuel s b c vt hs inv hT
  obtain ⟨c', h1, h2, _⟩ := addBlock_weight vt fuel s b c hs inv hT
  exact ⟨c', h1, h2⟩

/-- The plain reading: the head's cumulative QN never decreases. -/
theorem head_qn_monotone {T : Nat → Option Block} (vt : ValidTree T) (fuel : Nat) (s : St) (b : Block) (c : List Block)
    (hs : Safe s) (inv : Inv T s.disk s.mem c) (hT : T b.hash = some b) :
    s.mem.latest.totalQN ≤ (addBlock (fuel + 2) s b).1.mem.latest.totalQN := by
  obtain ⟨c', inv', hw⟩ := head_weight_monotone T fuel s b c vt hs inv hT
  rcases hw with hsuf | ⟨hd, hd', h1, h2, h3⟩
  · exact inv'.qn_le_latest vt (hsuf.mem inv.latest_mem)
  · cases h1.symm.trans inv.latest
    cases h2.symm.trans inv'.latest
    exact h3.elim Nat.le_of_lt fun h => Nat.le_of_eq h.1

/-- **pvGreater is a strict total order on (prove value, hash)** — `chainPvGreatThanRemote`: irreflexive,
    asymmetric, transitive, and two blocks neither of which beats the other agree on prove value and hash. -/
theorem pvGreater_strict_order (a b c : Block) :
    pvGreater a a = false ∧
    (pvGreater a b = true → pvGreater b a = false) ∧
    (pvGreater a b = true → pvGreater b c = true → pvGreater a c = true) ∧
    (pvGreater a b = false → pvGreater b a = false → a.pv = b.pv ∧ a.hash = b.hash) := by
  simp only [← Bool.not_eq_true, pvGreater_iff]
  refine ⟨?_, ?_, ?_, ?_⟩
  · rintro (h | ⟨_, h⟩) <;> exact Nat.lt_irrefl _ h
  · rintro (h1 | ⟨e1, h1⟩) (h2 | ⟨e2, h2⟩)
    · exact Nat.lt_asymm h1 h2
    · exact Nat.lt_irrefl _ (e2 ▸ h1)
    · exact Nat.lt_irrefl _ (e1 ▸ h2)
    · exact Nat.lt_asymm h1 h2
  · rintro (h1 | ⟨e1, h1⟩) (h2 | ⟨e2, h2⟩)
    · exact Or.inl (Nat.lt_trans h2 h1)
    · exact Or.inl (e2 ▸ h1)
    · exact Or.inl (e1 ▸ h2)
    · exact Or.inr ⟨e1.trans e2, Nat.lt_trans h2 h1⟩
  · intro h1 h2
    have e : a.pv = b.pv :=
      Nat.le_antisymm (Nat.le_of_not_lt fun h => h1 (Or.inl h)) (Nat.le_of_not_lt fun h => h2 (Or.inl h))
    exact ⟨e, Nat.le_antisymm (Nat.le_of_not_lt fun h => h1 (Or.inr ⟨e, h⟩))
      (Nat.le_of_not_lt fun h => h2 (Or.inr ⟨e.symm, h⟩))⟩

/-- **requestIdFrom** (`getRequestIdFromTransactions`): the header request id never goes below the parent's, is
    the parent's or one of the block's transaction request ids, and dominates every transaction request id that
    is non-zero … i.e. it is `max(parent, max of the transactions)`. -/
theorem requestIdFrom_spec (reqs : List Nat) (last : Nat) :
    last ≤ requestIdFrom reqs last ∧
    (∀ r ∈ reqs, r ≤ requestIdFrom reqs last) ∧
    (requestIdFrom reqs last = last ∨ requestIdFrom reqs last ∈ reqs) := by
  rw [requestIdFrom_eq]
  cases hm : reqs.max? with
  | none =>
    cases List.max?_eq_none_iff.mp hm
    exact ⟨Nat.le_max_left .., fun _ h => (nomatch h), Or.inl (Nat.max_eq_left (Nat.zero_le _))⟩
  | some m =>
    obtain ⟨hmem, hle⟩ := List.max?_eq_some_iff.mp hm
    refine ⟨Nat.le_max_left .., fun r hr => Nat.le_trans (hle r hr) (Nat.le_max_right ..), ?_⟩
    rcases Nat.le_total m last with h | h
    · exact Or.inl (Nat.max_eq_left h)
    · exact Or.inr ((Nat.max_eq_right h).symm ▸ hmem)

/-- A block whose header request id is not the one its transactions and its parent justify is rejected by
    `verifyBlock` (unless its verification is cached) and nothing changes. -/
theorem verify_rejects_bad_request_id (s : St) (b pre : Block) (hc : s.mem.verified.contains b.hash = false)
    (hp : s.disk.blocks b.pre = some pre) (hr : requestIdFrom b.txReqs pre.reqId ≠ b.reqId) :
    (verify s b).2 = false ∧ (verify s b).1.disk = s.disk ∧ (verify s b).1.mem.verified = s.mem.verified := by
  unfold verify
  rw [if_neg (by rw [hc]; exact Bool.false_ne_true)]
  simp only [hp]
  exact ite_cases (M := fun r : St × Bool => r.2 = false ∧ r.1.disk = s.disk ∧ r.1.mem.verified = s.mem.verified)
    (fun _ => ⟨rfl, rfl, rfl⟩) fun _ => by rw [if_pos (bne_iff_ne.mpr hr)]; exact ⟨rfl, rfl, rfl⟩

/-- **nextPvGreatThanFork** (the fork switch's tie guard): it lets an equal-QN fork through only if both
    branches have a block right above the common ancestor and the local one does not beat the fork's on
    (prove value, hash). -/
theorem nextPvGreatThanFork_false_iff (localLatest : Nat) (localNext : Option Block) (anc : Block) (forkLatest : Nat)
    (forkNext : Option Block) :
    nextPvGreatThanFork localLatest localNext anc forkLatest forkNext = false ↔
      anc.height < forkLatest ∧ anc.height < localLatest ∧
      ∃ f c, forkNext = some f ∧ localNext = some c ∧ pvGreater c f = false := by
  unfold nextPvGreatThanFork
  constructor
  · intro h
    split at h
    · rename_i hg
      split at h
      · rename_i f c
        exact ⟨hg.1, hg.2, f, c, rfl, rfl, h⟩
      · cases h
    · cases h
  · rintro ⟨h1, h2, f, c, rfl, rfl, hp⟩
    simp [h1, h2, hp]

/-- The fork switch — `removeFromCommonAncestor` called directly, then the fork's blocks
    through `tryAddBlockOnChain` one by one, stopping at the first that is not added — preserves the whole
    invariant (chain, indexes, caches, pool clause) for ANY common ancestor and ANY list of tree blocks,
    whatever `triggerOnChain`'s own checks decided; and a death in front of any of its writes leaves a
    recoverable disk (`Post` = alive with `Inv`, or dead on a `RecIn` disk). It is a composition of the two
    steps the other theorems cover. -/
theorem fork_switch_inv {T : Nat → Option Block} (vt : ValidTree T) (fuel : Nat) (s : St) (anc : Block) (bs : List Block)
    (c : List Block) (inv : Inv T s.disk s.mem c) (hT : ∀ b ∈ bs, T b.hash = some b) :
    (Safe s → ∃ c', Inv T (forkSwitch fuel s anc bs).disk (forkSwitch fuel s anc bs).mem c') ∧
    (∀ k, ∃ c', Inv T (restart ((forkSwitch fuel (s.arm (some k)) anc bs).arm none)).1.disk
        (restart ((forkSwitch fuel (s.arm (some k)) anc bs).arm none)).1.mem c') := by
  constructor
  · intro hs
    exact (forkSwitch_post vt fuel s anc bs c hs.1 inv hT).of_safe (Reach.refl.forkSwitch fuel anc bs) hs
  · intro k
    obtain ⟨c', hr, hT'⟩ := (forkSwitch_post vt fuel (s.arm (some k)) anc bs c rfl inv hT).recIn
    exact ⟨c', (restart_safe (arm_safe _) hr hT').1⟩

/-- **reorg_pool, end to end.** After a crash-free `AddBlockOnChain` of any block of a valid tree — whatever
    happens: nothing, an extension with a cascade of parked orphans, or a reorg that removes any number of
    blocks and re-enters — the store holds a chain `c'` such that (new chain) a transaction is marked executed
    exactly when a block of `c'` contains it, with that block's hash; and (removed blocks) every transaction of
    every block of the old chain `c` that is no longer on `c'` is pending again, unless a block of `c'`
    contains it (then it is executed there). -/
theorem reorg_pool {T : Nat → Option Block} (vt : ValidTree T) (fuel : Nat) (s : St) (b : Block) (c : List Block)
    (hs : Safe s) (inv : Inv T s.disk s.mem c) (hT : T b.hash = some b) :
    ∃ c', Inv T (addBlock (fuel + 2) s b).1.disk (addBlock (fuel + 2) s b).1.mem c' ∧
      (∀ t h, (addBlock (fuel + 2) s b).1.disk.executed t = some h ↔ ∃ x ∈ c', x.hash = h ∧ t ∈ x.txs) ∧
      (∀ x ∈ c, x ∉ c' → ∀ t ∈ x.txs, t ∈ (addBlock (fuel + 2) s b).1.mem.pending ∨ ∃ y ∈ c', t ∈ y.txs) := by
  obtain ⟨c', h1, _, h3⟩ := addBlock_weight vt fuel s b c hs inv hT
  exact ⟨c', h1, pool_exact h1.chain, h3⟩

/-- **reorg_pool, removal half.** When a live node removes the head `x` (one step of a reorg), every
    transaction of `x` is un-marked in the executed store and is pending again; nothing that was
    pending is lost. -/
theorem reorg_pool_remove {T : Nat → Option Block} (s : St) (x : Block) (c : List Block) (hs : Safe s)
    (inv : Inv T s.disk s.mem (x :: c)) (hc : c ≠ []) :
    (∀ t ∈ x.txs, (remove s x).1.disk.executed t = none ∧ t ∈ (remove s x).1.mem.pending) ∧
    (∀ t ∈ s.mem.pending, t ∈ (remove s x).1.mem.pending) := by
  have h := (remove_spec hs.1 inv hc).of_safe (Reach.refl.remove x) hs
  exact ⟨h.2.1, h.2.2.1⟩

/-- **reorg_pool, insertion half.** When a live node inserts `b`, every transaction of `b` is marked
    executed in `b` and is no longer pending. -/
theorem reorg_pool_insert {T : Nat → Option Block} (s : St) (b y : Block) (c : List Block) (hs : Safe s)
    (inv : Inv T s.disk s.mem c) (hp : b.pre = y.hash) (hy : c.head? = some y) (hh : y.height < b.height)
    (hn : s.disk.blocks b.hash = none) (hT : T b.hash = some b) (hfresh : ∀ z ∈ c, ∀ t ∈ b.txs, t ∉ z.txs) :
    ∀ t ∈ b.txs, (insertB (insertA s b) b).disk.executed t = some b.hash ∧ t ∉ (insertB (insertA s b) b).mem.pending := by
  exact ((insertAB_spec hs.1 inv hp hy hh hn hT hfresh).of_safe ((Reach.refl.writes _).insertB b) hs).2.1


/-! ## non-vacuity: a concrete tree and concrete states satisfy the hypotheses -/

def exG : Block := { hash := 1, pre := 0, height := 0, totalQN := 0, pv := 0, txs := [], valid := true }
def exB1 : Block := { hash := 2, pre := 1, height := 1, totalQN := 1, pv := 5, txs := [7], valid := true }
def exB2 : Block := { hash := 3, pre := 1, height := 2, totalQN := 2, pv := 4, txs := [8], valid := true }
def exT : Nat → Option Block := fun h => if h = 1 then some exG else if h = 2 then some exB1 else if h = 3 then some exB2 else none

theorem exT_some {h : Nat} {z : Block} (e : exT h = some z) : z = exG ∨ z = exB1 ∨ z = exB2 := by
  unfold exT at e
  by_cases h1 : h = 1
  · rw [if_pos h1] at e; exact Or.inl (Option.some.inj e).symm
  rw [if_neg h1] at e
  by_cases h2 : h = 2
  · rw [if_pos h2] at e; exact Or.inr (Or.inl (Option.some.inj e).symm)
  rw [if_neg h2] at e
  by_cases h3 : h = 3
  · rw [if_pos h3] at e; exact Or.inr (Or.inr (Option.some.inj e).symm)
  rw [if_neg h3] at e; cases e

theorem exT_anc {a b : Block} (h : IsAnc exT a b) : a = exG := by
  induction h with
  | parent hb hp =>
    rcases exT_some hb with rfl | rfl | rfl
    · cases hp
    · exact (Option.some.inj hp).symm
    · exact (Option.some.inj hp).symm
  | step _ _ _ ih => exact ih

theorem exT_valid : ValidTree exT := by
  constructor
  · intro b q hb hq
    rcases exT_some hb with rfl | rfl | rfl
    · cases hq
    · cases Option.some.inj hq; decide
    · cases Option.some.inj hq; decide
  · intro a b h t _
    rw [exT_anc h]; exact fun h => nomatch h

/-- the genesis store is a state to which `inv_add`, `inv_crash`, `inv_restart` apply -/
example : Inv exT (genesisState exG).disk (genesisState exG).mem [exG] ∧ Safe (genesisState exG) :=
  ⟨inv_genesis exT exG rfl rfl rfl, rfl, rfl⟩

/-- … and so is the store after delivering an extension and then a heavier sibling (a reorg) -/
example : ∃ c, Inv exT ([exB1, exB2].foldl (fun s b => (addBlock 4 s b).1) (genesisState exG)).disk
    ([exB1, exB2].foldl (fun s b => (addBlock 4 s b).1) (genesisState exG)).mem c :=
  inv_add_all exT_valid 4 [exB1, exB2] (genesisState exG) [exG] ⟨rfl, rfl⟩ (inv_genesis exT exG rfl rfl rfl)
    (by intro b hb; simp at hb; rcases hb with rfl | rfl <;> rfl)

/-- a two-block chain, as `head_after_crash_remove` and `reorg_pool_remove` need it -/
example : Inv exT (insertB (insertA (genesisState exG) exB1) exB1).disk (insertB (insertA (genesisState exG) exB1) exB1).mem
    [exB1, exG] :=
  (Out.of_alive (insertAB_spec (T := exT) (s := genesisState exG) (y := exG) rfl (inv_genesis exT exG rfl rfl rfl)
    rfl rfl (by decide) rfl rfl (by intro z hz t _; simp at hz; subst hz; simp [exG])) rfl).1

/-- the guard is neither always true nor always false -/
example : Guard (genesisState exG) exB1 := Or.inl rfl
example : ¬ Guard (genesisState exG) { exB1 with pre := 99 } := by
  intro h
  rcases h with h | ⟨anc, h, _⟩
  · exact absurd h (by decide)
  · simp [genesisState, upd, exG] at h


/-- `head_weight_monotone` applies to the genesis store and a block of the example tree -/
example : ∃ c', Inv exT (addBlock 2 (genesisState exG) exB1).1.disk (addBlock 2 (genesisState exG) exB1).1.mem c' ∧
    WeightGE [exG] c' :=
  head_weight_monotone exT 0 (genesisState exG) exB1 [exG] exT_valid ⟨rfl, rfl⟩ (inv_genesis exT exG rfl rfl rfl) rfl

/-! The weight order discriminates on the tie-break at the fork point (the class of a wrong local block
    being consulted): local chain `A – L1(pv 900) – L2(pv 100)`, fork tip `C` on `A` with the same cumulative
    QN. With pv 950 the fork is not lighter, with pv 500 it IS lighter although it beats `L2`. -/
def wA : Block := { hash := 10, pre := 0, height := 0, totalQN := 1, pv := 0, txs := [], valid := true }
def wL1 : Block := { hash := 11, pre := 10, height := 1, totalQN := 2, pv := 900, txs := [], valid := true }
def wL2 : Block := { hash := 12, pre := 11, height := 2, totalQN := 3, pv := 100, txs := [], valid := true }
def wC (pv : Nat) : Block := { hash := 13, pre := 10, height := 2, totalQN := 3, pv := pv, txs := [], valid := true }

example : WeightGE [wL2, wL1, wA] [wC 950, wA] :=
  Or.inr ⟨wL2, wC 950, rfl, rfl, Or.inr ⟨rfl, wA, by simp, by simp, wL1, by simp, wC 950, by simp, rfl, rfl, by decide⟩⟩

example : ¬ WeightGE [wL2, wL1, wA] [wC 500, wA] := by
  intro h
  rcases h with h | ⟨hd, hd', h1, h2, h3⟩
  · revert h; decide
  · simp at h1 h2; subst h1; subst h2
    rcases h3 with h | ⟨_, fork, hf, hf', ln, hl, nb, hn, e1, e2, e3⟩
    · revert h; decide
    · simp at hf hf' hl hn
      rcases hn with rfl | rfl
      · rcases hf' with rfl | rfl
        · revert e2; decide
        · rcases hl with rfl | rfl | rfl
          · revert e1; decide
          · revert e3; decide
          · revert e1; decide
      · revert e2
        rcases hf' with rfl | rfl <;> decide

/-- What the fork switch does NOT give: the weight clause. With no (addable) fork block the head simply moves
    back to the common ancestor. `triggerOnChain` guards this with its own comparison of the fork tip's QN and
    by only switching to forks whose blocks it holds; a fork block that fails `tryAddBlockOnChain` midway
    leaves the head below the old one. This path is outside the property's quantifier (blocks delivered through
    the add-block entry point) and is not exercised by the correspondence. -/
theorem fork_switch_can_lower_head :
    ∃ (s : St) (anc : Block), Safe s ∧ (forkSwitch 4 s anc []).mem.latest.totalQN < s.mem.latest.totalQN :=
  ⟨insertB (insertA (genesisState exG) exB1) exB1, exG, ⟨rfl, rfl⟩, by decide⟩

/-- non-vacuity of the pure-function theorems -/
example : pvGreater { exB1 with pv := 9 } exB1 = true ∧ pvGreater exB1 { exB1 with hash := 1 } = true := by decide
example : requestIdFrom [0, 7, 3] 5 = 7 ∧ requestIdFrom [0, 3] 5 = 5 ∧ requestIdFrom [] 0 = 0 := by decide
example : nextPvGreatThanFork 3 (some exB1) exG 2 (some { exB1 with pv := 9 }) = false := by decide

/-! ## the hypotheses of `ValidTree` are needed: what the store does when consensus does not enforce them

`core` itself checks none of the three `ValidTree` conditions (height above the parent's, cumulative QN not below
the parent's, no transaction of an ancestor repeated); the consensus layer does (`VerifyNewBlock`), and
Proposal008 does the third at verification time. With consensus stubbed to accept, the real store behaves as the
model below — replayed by `corpus/C05/11…13` (monitor off, correspondence on): documented quirks, not findings,
since the property quantifies over trees of VALID blocks. -/

def twoChain : St := insertB (insertA (genesisState exG) exB1) exB1
def sameHeight : Block := { hash := 9, pre := 2, height := 1, totalQN := 2, pv := 1, txs := [], valid := true }
def lowerQN : Block := { hash := 9, pre := 2, height := 2, totalQN := 0, pv := 1, txs := [], valid := true }
def repeatsTx : Block := { hash := 9, pre := 2, height := 2, totalQN := 2, pv := 1, txs := [7], valid := true }

/-- Without "child higher than parent": an extension at its parent's height overwrites the parent's slot of the
    height index; no chain satisfies the invariant afterwards. -/
theorem inv_add_needs_height_counterexample :
    ¬ ∃ c, ChainInv (addBlock 4 twoChain sameHeight).1.disk c := by
  rintro ⟨c, ci⟩
  have hb : (addBlock 4 twoChain sameHeight).1.disk.blocks 2 = some exB1 := by decide
  have hh : (addBlock 4 twoChain sameHeight).1.disk.heights 1 = some sameHeight := by decide
  have hm := (ci.blocks_only 2 exB1 hb).1
  have := ci.heights_mem exB1 hm
  have e : exB1.height = 1 := rfl
  rw [e, hh] at this
  exact absurd this (by decide)

/-- Without "cumulative QN not below the parent's": an extension with a lower TotalQN is accepted and the head's
    cumulative QN decreases (`head_qn_monotone` fails). -/
theorem head_qn_needs_valid_qn_counterexample :
    (addBlock 4 twoChain lowerQN).1.mem.latest.totalQN < twoChain.mem.latest.totalQN := by decide

/-- Without "no ancestor transaction repeated" (and before Proposal008, which otherwise rejects the block): the
    executed record of the transaction moves to the later block and the pool clause fails for the ancestor. -/
theorem pool_needs_txfresh_counterexample :
    ¬ ∃ c, ChainInv (addBlock 4 { twoChain with p008 := false } repeatsTx).1.disk c := by
  rintro ⟨c, ci⟩
  have hb : (addBlock 4 { twoChain with p008 := false } repeatsTx).1.disk.blocks 2 = some exB1 := by decide
  have he : (addBlock 4 { twoChain with p008 := false } repeatsTx).1.disk.executed 7 = some 9 := by decide
  have hm := (ci.blocks_only 2 exB1 hb).1
  have := ci.exec_mem exB1 hm 7 (by decide)
  rw [he] at this
  exact absurd this (by decide)

end Rangers.Props.C05
