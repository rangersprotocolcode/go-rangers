import Rangers.Props.C18
import Rangers.Props.C18Aux
import Rangers.Generated.C18Facts
/-!
# C18 — every call site of a conversion helper, and the theorem that covers it

`gen/cmd/c18facts` lists every call of a `data_convert.go` helper under `src/`
(`Generated.C18.convSites`: file, function, callee, class of the argument that decides
exactness, literal). Here the list is written out (`gen_conversion_sites`), every entry is mapped to the theorem that
shows the conversion at that site is exact (identity / exact floor) on the site's domain,
and each class of sites has its theorem.

| callee : class | sites | domain | theorem |
|---|---|---|---|
| StrToBigInt : lit | genesis constants, `ten`, pool `delta`s | the literal | `gen_literal_sites_exact` |
| StrToBigInt : uint64dec | `opGetStake`, `genSubGenesisBlock` | x < 2^64 | `uint64_decimal_site_exact` |
| StrToBigInt : expr | `decodeContractData`, `newRPCTransaction`, `callVM`, `transferBalance`, genesis config | ≤ 78 integer, ≤ 18 fraction digits | `C18.parse_exact_domain`; composed with `ConvertTx`: `C18.evm_value_unchanged`; whole game transfer: `game_transfer_exact`, `game_transfer_refused` |
| BigIntToStr : expr | `ConvertTx`, `ChangeAssets`, `ReplaceBigInt`, `getBalance` | \|n\| < 2^510 | `C18.roundtrip_word`, `format_injective` |
| BigIntToStrWithoutDot : expr | `opStake`, `opUnStake` | money ≥ 0 | `C18Aux.stakeArg_value` |
| Float64ToBigInt : float64(u) | `AddStake`, `AddMiner` | stake < 2^53 (all uint64: `stake_value`) | `C18Aux.stake_exact` |
| Float64ToBigInt : float-arith | `calculateRewardPerBlock` | every finite double | `C18Aux.float64_exact` |
| Uint64ToBigInt : expr | `GetRefundStake` | uint64 | `C18Aux.uint64_exact` |
| BigIntBase10toN : 16 | `GenerateCallDataBigInt` | n < 2^256 | `C18Aux.callData_word` |
| FormatDecimalForERC20/Rocket : decimal | `SetFT/AddFT/SubFT/GetFT`, `setBalance` | d ≤ 18; native token d = 18 | `C18.ft_18_exact`, `C18.ft_set_get`, `gen_native_binding_decimals` |
-/
namespace Rangers.Props.C18Sites
open Rangers.Decimal
open Rangers.Generated

/-- which theorem covers a site of a given (callee, argument class); `none` = a kind of
    use for which no exactness theorem exists. The names on the right are for the reader: nothing checks them against
    the theorems, nor a site's argument against the hypotheses of the theorem named. -/
def coveredBy : String → String → Option String
  | "StrToBigInt", "lit" => some "gen_literal_sites_exact"
  | "StrToBigInt", "uint64dec" => some "uint64_decimal_site_exact"
  | "StrToBigInt", "expr" => some "parse_exact_domain"
  | "BigIntToStr", "expr" => some "roundtrip_word, format_injective"
  | "BigIntToStrWithoutDot", "expr" => some "stakeArg_value"
  | "Float64ToBigInt", "float64(u)" => some "stake_exact"
  | "Float64ToBigInt", "float-arith" => some "float64_exact"
  | "Uint64ToBigInt", "expr" => some "uint64_exact"
  | "BigIntBase10toN", "16" => some "callData_word"
  | "FormatDecimalForERC20", "decimal" => some "erc20_floor, ft_set_get, ft_18_exact"
  | "FormatDecimalForRocket", "decimal" => some "rocket_scale, ft_set_get, ft_18_exact"
  | _, _ => none

/-- **Every conversion call site is of a class an exactness theorem covers.** A site that
    switches to another helper or feeds it a different kind of argument (e.g. a float
    expression into `StrToBigInt`'s place, a literal decimal count into `FormatDecimalFor*`)
    falls out of the table. -/
theorem gen_all_sites_covered :
    ∀ s ∈ C18.convSites, (coveredBy s.2.2.1 s.2.2.2.1).isSome = true := by decide +kernel

/-- The inventory itself: a new, removed or altered site is flagged. -/
theorem gen_conversion_sites :
    C18.convSites =
      [("src/common/abi_helper.go", "GenerateCallDataBigInt", "BigIntBase10toN", "16", ""),
       ("src/core/game_executor_service.go", "callVM", "StrToBigInt", "expr", ""),
       ("src/core/game_executor_service.go", "callVM", "StrToBigInt", "expr", ""),
       ("src/core/genesis_block.go", "genGenesisBlock", "StrToBigInt", "lit", "10661998"),
       ("src/core/genesis_block.go", "genGenesisBlock", "StrToBigInt", "lit", "2"),
       ("src/core/genesis_block_dev.go", "addDevTestAsset", "StrToBigInt", "lit", "1000000000"),
       ("src/core/genesis_block_dev.go", "genDevGenesisBlock", "StrToBigInt", "lit", "10661998"),
       ("src/core/genesis_block_dev.go", "genDevGenesisBlock", "StrToBigInt", "lit", "2"),
       ("src/core/genesis_block_robin.go", "addRobinTestAsset", "StrToBigInt", "lit", "1000000000"),
       ("src/core/genesis_block_robin.go", "genRobinGenesisBlock", "StrToBigInt", "lit", "10661998"),
       ("src/core/genesis_block_robin.go", "genRobinGenesisBlock", "StrToBigInt", "lit", "2"),
       ("src/core/genesis_sub.go", "createEconomyContract", "StrToBigInt", "expr", ""),
       ("src/core/genesis_sub.go", "createSubGovernance", "StrToBigInt", "expr", ""),
       ("src/core/genesis_sub.go", "genSubGenesisBlock", "StrToBigInt", "expr", ""),
       ("src/core/genesis_sub.go", "genSubGenesisBlock", "StrToBigInt", "lit", "10"),
       ("src/core/genesis_sub.go", "genSubGenesisBlock", "StrToBigInt", "uint64dec", ""),
       ("src/eth_rpc/api.go", "newRPCTransaction", "StrToBigInt", "expr", ""),
       ("src/eth_tx/transaction.go", "ConvertTx", "BigIntToStr", "expr", ""),
       ("src/executor/contract_executor.go", "decodeContractData", "StrToBigInt", "expr", ""),
       ("src/executor/miner_node_executor.go", "(package)", "StrToBigInt", "lit", "10"),
       ("src/gx/cli/wallets.go", "getBalance", "BigIntToStr", "expr", ""),
       ("src/middleware/types/core.go", "ReplaceBigInt", "BigIntToStr", "expr", ""),
       ("src/service/game.go", "ChangeAssets", "BigIntToStr", "expr", ""),
       ("src/service/game.go", "ChangeAssets", "BigIntToStr", "expr", ""),
       ("src/service/game.go", "transferBalance", "StrToBigInt", "expr", ""),
       ("src/service/miner_manager.go", "AddMiner", "Float64ToBigInt", "float64(u)", ""),
       ("src/service/miner_manager.go", "AddStake", "Float64ToBigInt", "float64(u)", ""),
       ("src/service/refund_manager.go", "GetRefundStake", "Uint64ToBigInt", "expr", ""),
       ("src/service/reward_calculator.go", "calculateRewardPerBlock", "Float64ToBigInt", "float-arith", ""),
       ("src/service/reward_calculator.go", "calculateRewardPerBlock", "Float64ToBigInt", "float-arith", ""),
       ("src/service/reward_calculator.go", "calculateRewardPerBlock", "Float64ToBigInt", "float-arith", ""),
       ("src/service/transaction_pool.go", "(package)", "StrToBigInt", "lit", "0.0001"),
       ("src/service/transaction_pool.go", "(package)", "StrToBigInt", "lit", "0.001"),
       ("src/storage/account/accountdb.go", "setBalance", "FormatDecimalForERC20", "decimal", ""),
       ("src/storage/account/accountdb_tuntun.go", "AddFT", "FormatDecimalForERC20", "decimal", ""),
       ("src/storage/account/accountdb_tuntun.go", "GetFT", "FormatDecimalForRocket", "decimal", ""),
       ("src/storage/account/accountdb_tuntun.go", "SetFT", "FormatDecimalForERC20", "decimal", ""),
       ("src/storage/account/accountdb_tuntun.go", "SubFT", "FormatDecimalForERC20", "decimal", ""),
       ("src/storage/account/accountdb_tuntun.go", "SubFT", "FormatDecimalForRocket", "decimal", ""),
       ("src/vm/instructions.go", "opGetStake", "StrToBigInt", "uint64dec", ""),
       ("src/vm/instructions.go", "opStake", "BigIntToStrWithoutDot", "expr", ""),
       ("src/vm/instructions.go", "opUnStake", "BigIntToStrWithoutDot", "expr", "")] := rfl

/-- The native token's binding has 18 decimals in both branches of `GetERC20Binding`, so
    every native balance read/write (`GetBalance`/`SetBalance`/`AddBalance`/`SubBalance` →
    `GetFT`/`SetFT`/… with `common.BLANCE_NAME`) is covered by `C18.ft_18_exact`. -/
theorem gen_native_binding_decimals : C18.nativeBinding = ["4:18", "3:18"] := rfl

/-- integer-arithmetic reading of an unsigned plain decimal literal at 18 decimals
    (`none` if it is not of the form digits[.digits] with at most 18 fraction digits) -/
def denote18 (s : Str) : Option Int :=
  let ip := s.takeWhile (· != '.')
  let rest := s.dropWhile (· != '.')
  let fp := rest.drop 1
  if (ip ++ fp).all isDig && (ip ++ fp) ≠ [] && fp.length ≤ 18 && (rest = [] || rest.head? = some '.') then
    some ((Nat.ofDigitChars 10 (ip ++ fp) 0 * 10 ^ (18 - fp.length) : Nat) : Int)
  else none

/-- **Literal sites**: every string literal the code passes to `StrToBigInt` is a plain
    decimal with at most 18 fraction digits and parses to exactly the integer it denotes. -/
theorem gen_literal_sites_exact :
    ∀ l ∈ C18.strLiterals, ∃ v, denote18 l.toList = some v ∧ StrToBigInt l.toList = .ok v := by
  decide +kernel

example : denote18 "0.0001".toList = some 100000000000000 ∧ denote18 "1e3".toList = none ∧
    denote18 "0.0000000000000000001".toList = none := by decide +kernel

/-- **uint64 sites** (`StrToBigInt(strconv.FormatUint(x, 10))`): exactly `x·10^18`, which
    fits 124 bits (so `opGetStake`'s `SetBytes` into a 256-bit word loses nothing). -/
theorem uint64_decimal_site_exact (x : Nat) (h : x < 2 ^ 64) :
    StrToBigInt (Nat.toDigits 10 x) = .ok ((x : Int) * 10 ^ 18) ∧ x * 10 ^ 18 < 2 ^ 124 := by
  have h124 : x * 10 ^ 18 < 2 ^ 124 :=
    calc x * 10 ^ 18 < 2 ^ 64 * 10 ^ 18 := Nat.mul_lt_mul_of_pos_right h (by positivity)
      _ < 2 ^ 124 := by decide +kernel
  refine ⟨?_, h124⟩
  have := C18.parse_exact none (Nat.toDigits 10 x) [] false (allDig_toDigits x) allDig_nil (fun _ => rfl)
    (by rw [List.append_nil]; exact Nat.toDigits_ne_nil) (Nat.zero_le _) (by
      rw [List.append_nil, Nat.ofDigitChars_ten_toDigits]
      exact lt_trans h124 (Nat.pow_lt_pow_right (by norm_num) (by norm_num)))
  simp only [signStr, plainBody, List.nil_append, List.append_nil, signNeg, Bool.false_eq_true, if_false,
    Nat.ofDigitChars_ten_toDigits, List.length_nil, Nat.sub_zero] at this
  rw [this]; push_cast; rfl

example : StrToBigInt (Nat.toDigits 10 18446744073709551615) = .ok (18446744073709551615 * 10 ^ 18) := by
  decide +kernel

/-- **Output-only sites** (`ChangeAssets` responses, `ReplaceBigInt`, wallet `getBalance`):
    `BigIntToStr` is injective, two different amounts are never printed alike. -/
theorem format_injective (a b : Int) (ha : a.natAbs < 2 ^ 510) (hb : b.natAbs < 2 ^ 510)
    (h : BigIntToStr a = BigIntToStr b) : a = b := by
  have h1 := C18.format_parse_id_exported a ha
  have h2 := C18.format_parse_id_exported b hb
  rw [h] at h1
  rw [h1] at h2
  exact Res.ok.inj h2

example : BigIntToStr 5 ≠ BigIntToStr 50 := by decide +kernel

/-- On `0 ≤ n < 2^509` every conversion inside a game transfer is the identity, so the transfer is
    plain integer arithmetic on the parsed amount. -/
theorem gameTransfer_eq (n : Int) (s : Str) (hn0 : 0 ≤ n) (hn : n.natAbs < 2 ^ 509) :
    gameTransfer n s =
      match StrToBigInt s with
      | .panic => none
      | .err => some (false, .ok n, .ok 0, gameFailMsg)
      | .ok amt =>
        if amt < 0 ∨ n < amt then some (false, .ok n, .ok 0, gameFailMsg)
        else some (true, .ok (n - amt), .ok amt,
          "{\"balance\":\"".toList ++ BigIntToStr (n - amt) ++ "\"}".toList) := by
  obtain ⟨N, rfl⟩ := Int.eq_ofNat_of_zero_le hn0
  rw [Int.natAbs_natCast] at hn
  have hN : N < 2 ^ 510 := lt_two_pow_510 hn
  unfold gameTransfer
  rw [C18.ftSet_18 N (by rwa [Int.natAbs_natCast]), Int.natAbs_natCast]
  dsimp only
  rw [C18.ftGet_18 N hN, C18.ftGet_18 0 (by positivity)]
  cases StrToBigInt s with
  | panic => rfl
  | err => rfl
  | ok amt =>
    dsimp only
    by_cases hneg : amt < 0
    · rw [if_pos hneg, if_pos (Or.inl hneg)]; rfl
    · rw [if_neg hneg]
      by_cases hgt : (N : Int) < amt
      · rw [if_pos hgt, if_pos (Or.inr hgt)]; rfl
      · obtain ⟨a, rfl⟩ := Int.eq_ofNat_of_zero_le (not_lt.mp hneg)
        have haN : a ≤ N := by exact_mod_cast not_lt.mp hgt
        have ha : a < 2 ^ 510 := lt_of_le_of_lt haN hN
        rw [if_neg hgt, if_neg (not_or.mpr ⟨hneg, hgt⟩),
          C18.ftAdd_18 0 a (Int.natCast_nonneg a) (by rwa [Int.natAbs_natCast]),
          C18.ftSub_18 N a (Int.natCast_nonneg a) hN (by rwa [Int.natAbs_natCast]), if_neg hgt]
        dsimp only
        rw [Int.natAbs_natCast, C18.ftGet_18 _ (by omega), Nat.zero_add, C18.ftGet_18 _ ha,
          ← Nat.cast_sub haN]

/-- **A game transfer moves exactly the parsed amount** (service/game.go, `ChangeAssets` →
    `transferBalance`). Source holding `n`, an amount
    string that parses to `amt` with `0 ≤ amt ≤ n`: afterwards the source holds `n - amt`,
    the (fresh) target holds `amt`, and the decimal string in the response reads back as the
    new source balance — nothing is lost in `StrToBigInt`, the 18-decimal re-scalings of
    `AddBalance`/`SubBalance`, or `BigIntToStr`. -/
theorem game_transfer_exact (n amt : Int) (s : Str) (hs : StrToBigInt s = .ok amt)
    (h0 : 0 ≤ amt) (h1 : amt ≤ n) (hn : n.natAbs < 2 ^ 509) :
    gameTransfer n s = some (true, .ok (n - amt), .ok amt,
        "{\"balance\":\"".toList ++ BigIntToStr (n - amt) ++ "\"}".toList) ∧
    StrToBigInt (BigIntToStr (n - amt)) = .ok (n - amt) := by
  refine ⟨?_, C18.format_parse_id_exported _ (lt_two_pow_510 (by omega))⟩
  rw [gameTransfer_eq n s (le_trans h0 h1) hn, hs]
  exact if_neg (by omega)

example : StrToBigInt "1.5".toList = .ok 1500000000000000000 ∧
    gameTransfer 5000000000000000000 "1.5".toList =
      some (true, .ok 3500000000000000000, .ok 1500000000000000000,
        "{\"balance\":\"3.500000000000000000\"}".toList) := by
  -- both literals unify with `String.ofList` of their characters; left to the kernel, `toList` decodes the response
  -- byte by byte, in time quadratic in its length
  rw [String.toList_ofList, String.toList_ofList]
  decide +kernel

/-- A transfer that is refused (unparsable, negative, or more than the balance) changes
    neither balance. -/
theorem game_transfer_refused (n : Int) (s : Str) (hn0 : 0 ≤ n) (hn : n.natAbs < 2 ^ 509)
    (h : StrToBigInt s = .err ∨ ∃ amt, StrToBigInt s = .ok amt ∧ (amt < 0 ∨ n < amt)) :
    gameTransfer n s = some (false, .ok n, .ok 0, gameFailMsg) := by
  rw [gameTransfer_eq n s hn0 hn]
  rcases h with h | ⟨amt, h, hc⟩
  · rw [h]
  · rw [h]; exact if_pos hc

example : gameTransfer 5 "9".toList = some (false, .ok 5, .ok 0, gameFailMsg) := by decide +kernel

end Rangers.Props.C18Sites
