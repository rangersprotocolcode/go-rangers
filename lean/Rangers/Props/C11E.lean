import Rangers.Props.C11C
/-!
# C11 — every byte of memory growth is paid for (`memory_paid_step`; a fresh frame: `Props.C11B.memInv_empty`)
-/
namespace Rangers.Props.C11E
open Rangers.Evm11 Rangers.Props.C11 Rangers.Props.C11B Rangers.Props.C11C
open Rangers.Proofs.Evm11

/-
Restatements under this module's names of `wordCopyGas_mem`, `finishCall_mem` (`Proofs/Evm11DynGas.lean`) and
`Props.C11B.resize_size`, and what `logGas_fee` and `dynGas_ok` say of the memory fee alone. `bin/check C11` audits them
with the other theorems of this module; `memory_paid_step` uses `dynGas_ok` itself.
-/
protected theorem wordCopyGas_mem {p26 : Bool} {m m' : Mem} {ms : Nat} {w : Word} {per r : Nat}
    (h : wordCopyGas p26 m ms w per = some (r, m')) :
    ∃ fee, memoryGasCost p26 m ms = some (fee, m') ∧ fee ≤ r :=
  Proofs.Evm11.wordCopyGas_mem h

theorem logGas_mem {p26 : Bool} {n : Nat} {m m' : Mem} {ms : Nat} {req r : Nat}
    (h : logGas p26 n m ms req = some (r, m')) :
    ∃ fee, memoryGasCost p26 m ms = some (fee, m') ∧ fee ≤ r :=
  have ⟨fee, hmg, hle⟩ := logGas_fee h
  ⟨fee, hmg, Nat.le_trans (Nat.le_add_right _ _) hle⟩

protected theorem finishCall_mem {avail base : Nat} {cc : Word} {m m' : Mem} {g g' : Global} {cost cgt : Nat}
    (h : finishCall avail base cc m g = .ok cost m' g' cgt) : m' = m ∧ base + cgt = cost :=
  Proofs.Evm11.finishCall_mem h

theorem dynGas_mem (gc : GasCfg) (f : DynFn) (s : List Word) (m m' : Mem) (ms gas self : Nat) (g g' : Global)
    (cost cgt : Nat) (hfee : ∀ fee m1, memoryGasCost gc.p26 m ms = some (fee, m1) → fee < 2 ^ 63)
    (h : dynGas gc f s m ms gas self g = .ok cost m' g' cgt) :
    (usesMem f = false → m' = m) ∧
    (usesMem f = true → ∃ fee, memoryGasCost gc.p26 m ms = some (fee, m') ∧ fee + cgt + stipendOf f s ≤ cost) :=
  ⟨(dynGas_ok h).same, fun hu =>
    have ⟨fee, hmg, hle⟩ := (dynGas_ok h).paid hu
    ⟨fee, hmg, hle (hfee fee m' hmg)⟩⟩

protected theorem resize_size (m : Mem) (n : Nat) :
    (m.resize n).size = max m.size n ∧ (m.resize n).lastGasCost = m.lastGasCost :=
  C11B.resize_size m n

/-- **memory_paid (step).** Under the memory invariant (size a multiple of 32 below the guard,
    `lastGasCost` = fee of the current size), a loop iteration that gets to `execute` has
    * re-established the invariant for the memory `execute` sees,
    * never shrunk the memory,
    * charged at least `constantGas + (Cmem(new words) − Cmem(old words)) × magnification`,
      the exact quadratic fee of every byte it grew — in exact arithmetic, no wrap — and, for the
      call family (`usesMem info.dyn`), the forwarded gas `cgt` and the stipend on top of it.
    `execute` itself and the write-back of a callee's result never resize (`execOp_upd`,
    `memWrite_size`), so the invariant holds for the whole life of the frame. -/
theorem memory_paid_step (cx : Ctx) (ht : TableOk cx.table) (ro : Bool) (fr : Frame) (g : Global)
    (info : OpInfo) (fr1 : Frame) (args : List Word) (g1 : Global) (cgt : Nat)
    (hm : MemInv fr.mem) (hpre : stepPre cx ro fr g = .ok info fr1 args g1 cgt) :
    MemInv fr1.mem ∧ fr.mem.size ≤ fr1.mem.size ∧
    fr1.gas + info.constGas +
      (cmem (fr1.mem.size / 32) - cmem (fr.mem.size / 32)) * (if cx.gc.p26 then 30 else 1) +
      (if usesMem info.dyn then cgt + stipendOf info.dyn fr.stack else 0) ≤ fr.gas := by
  have hp := stepPre_ok hpre
  have ha := ht _ _ hp.entry
  obtain ⟨memorySize, cost, m', hdyn, hgas, hmem, hms⟩ := hp.dyn
  have hdm := dynGas_ok hdyn
  rw [hmem]
  cases hu : usesMem info.dyn with
  | true =>
    -- the gas function priced the request, which is a whole number of words
    obtain ⟨fee, hmg, hfc⟩ := hdm.paid hu
    have h32 : memorySize % 32 = 0 := by
      cases hmf : memSizeFn info.mem fr.stack with
      | none => rw [hmf] at hms; omega
      | some p => obtain ⟨sz, ov⟩ := p; rw [hmf] at hms; simp only at hms; omega
    obtain ⟨hinv, hle, hlt, hfee⟩ := memoryGasCost_resize _ _ _ _ _ hm h32 hmg
    have := hfc hlt
    rw [← hfee]
    exact ⟨hinv, hle, by simp only [if_true]; omega⟩
  | false =>
    -- nothing is requested: an entry with a memory-size function is priced by a memory-charging one
    have h0 : memorySize = 0 := by
      cases hmf : memSizeFn info.mem fr.stack with
      | none => rw [hmf] at hms; exact hms
      | some p =>
        have hmp := ha.memPaid
        unfold entryMemPaid at hmp
        split at hmp
        · rename_i h; rw [h] at hmf; cases hmf
        · split at hmp
          all_goals first | (rename_i hd; rw [hd] at hu; cases hu) | cases hmp
    rw [hdm.same hu, h0, if_neg (Nat.lt_irrefl 0)]
    exact ⟨hm, Nat.le_refl _, by simp only [Nat.sub_self, Nat.zero_mul, Bool.false_eq_true, if_false]; omega⟩

theorem memInv_of_size {m m' : Mem} (h : MemInv m) (hs : m'.size = m.size) (hl : m'.lastGasCost = m.lastGasCost) :
    MemInv m' := ⟨by rw [hs]; exact h.aligned, by rw [hs]; exact h.bounded, by rw [hl, hs]; exact h.paid⟩

theorem memory_inv_execute {cx : Ctx} {ro : Bool} {e : Exec} {fr : Frame} {args : List Word} {g : Global} {cgt : Nat}
    {u : Upd} (hm : MemInv fr.mem) (h : execOp cx ro e fr args g cgt = .upd u) : MemInv u.mem := by
  have := execOp_upd h
  exact memInv_of_size hm this.size this.last

theorem memory_inv_resume (fr : Frame) (r : Req) (cr : CallRes) (hm : MemInv fr.mem) :
    MemInv (resume fr r cr).1.mem :=
  memInv_of_size hm (resume_mem fr r cr).1 (resume_mem fr r cr).2

/-- non-vacuity: MSTORE at offset 0x1fffffffc0 on an empty memory is priced at the full
    Cmem(2^32−1) × 30 under Proposal026 (and then fails for lack of gas, as it must) -/
example : memoryGasCost true Mem.empty 0x1FFFFFFFE0 = some (cmem 4294967295 * 30, { Mem.empty with lastGasCost := cmem 4294967295 }) := by
  rw [memoryGasCost_no_overflow true Mem.empty _ memInv_empty (by decide) (by decide)]
  simp [Mem.empty, Mem.size, cmem]

end Rangers.Props.C11E
