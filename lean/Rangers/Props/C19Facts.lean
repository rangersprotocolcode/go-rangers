import Rangers.Model.GroupChain
import Rangers.Generated.GroupChainFacts
/-!
C19, tie T-gen: what the translator `gen/cmd/c19facts` reads off `src/core/*.go` on every run is
what the model assumes: the writes of `save`/`remove` and the guards of `AddGroup`, who writes the
state and who calls, the locks, the key expressions (lengths, fork key space), the fields of the
chain object, ignored results, fork selection and switch.

`Generated.GroupChainFacts` is regenerated from the working tree before this file is
checked. A re-ordered `Put`, a changed key expression, an extra write, a new caller of
`save`/`remove` or a new writer of `count`/`lastGroup` changes the generated lists and
breaks one of the theorems below.
-/
namespace Rangers.Props.C19Facts
open Rangers Rangers.Model.GroupChain
open Rangers.Generated.GroupChainFacts

/-- Source text of a key expression, recognised from the key the MODEL writes (for a chain
    with `count` groups, the group `g` at hand and, for `remove`, its predecessor `pre`). -/
def keyText (count : Nat) (g : Group) (k : Bytes) : String :=
  if k = g.id then "group.Id"
  else if k = curKey then "[]byte(lastGroupKey)"
  else if k = cntKey then "[]byte(groupCountKey)"
  else if k = hkey count then "generateKey(chain.count)"
  else if k = hkey (count - 1) then "generateKey(chain.count - 1)"
  else "?"

/-- Source text of a written value. The `.cnt` branch has no `"?"`: which number goes under `gcount` is checked apart
    from the text, through `countWritten` in `modelSaveEffects` / `modelRemoveEffects`. -/
def valText (count : Nat) (g : Group) (pre : Option Group) : Val → String
  | .grp x => if x = stamped count g then "‹json.Marshal(group)›#0" else "?"
  | .ref id =>
    if id = g.id then "group.Id"
    else if some id = pre.map (·.id) then "‹chain.getGroupById(group.Header.PreGroup)›.Id" else "?"
  | .cnt n => if n = count + 1 then "utility.UInt64ToByte(chain.count + 1)" else "utility.UInt64ToByte(chain.count)"

def writeText (count : Nat) (g : Group) (pre : Option Group) : Write → String
  | .put k v => "Put " ++ keyText count g k ++ " <- " ++ valText count g pre v
  | .del k => "Delete " ++ keyText count g k

/-- The value stored under `gcount` by a write list (to place `count++` / `count--`). -/
def countWritten : List Write → Option Nat
  | [] => none
  | .put k (.cnt n) :: t => if k = cntKey then some n else countWritten t
  | _ :: t => countWritten t

/-- The model's `save`, rendered as the source statements it stands for: the first physical write
    as a plain `Put`, the second one as a batch of `Put`s whose `Write` error is returned (the model
    leaves memory untouched when that write fails: `saveF … (some 1)`), then `count++`. -/
def modelSaveEffects (c : Chain) (g : Group) : List String :=
  match saveGroups c.count g with
  | [first, batch] =>
    first.map (writeText c.count g none) ++
    ["NewBatch"] ++
    batch.map (fun w => "Batch" ++ writeText c.count g none w) ++
    (if (saveF c g (some 1)).2.1 = true ∧ (saveF c g (some 1)).1.count = c.count
        ∧ (saveF c g (some 1)).1.last = c.last ∧ (saveF c g (some 1)).1.mirror = c.mirror
      then ["BatchWrite (error returned)"] else ["?"]) ++
    (if countWritten (first ++ batch) = some (c.count + 1) ∧ (save c g).count = c.count + 1 then ["chain.count++"] else ["?"])
  | _ => ["?"]

/-- In-memory / sqlite statements of `save` the model accounts for (sorted as the translator sorts). -/
def modelSaveMemory (c : Chain) (g : Group) : List String :=
  (if (save c g).last.id = g.id then ["chain.lastGroup = group"] else ["?"]) ++
  (if (save c g).last.height = c.count then ["group.GroupHeight = chain.count"] else ["?"]) ++
  (if g.id ∈ (save c g).mirror then ["mysql.InsertGroup group"] else ["?"])

def modelRemoveEffects (c : Chain) (g pre : Group) : List String :=
  let ws := removeWrites c.count g pre
  let txt := ws.map (writeText c.count g (some pre))
  txt.take 3 ++
  (if countWritten ws = some (c.count - 1) ∧ (remove c g).2.count = c.count - 1 then ["chain.count--"] else ["?"]) ++
  txt.drop 3

def modelRemoveMemory (c : Chain) (g pre : Group) : List String :=
  (if (remove c g).2.last = pre then ["chain.lastGroup = ‹chain.getGroupById(group.Header.PreGroup)›"] else ["?"]) ++
  (if g.id ∉ (remove c g).2.mirror then ["mysql.DeleteGroup group.Id"] else ["?"])

/-- A generic witness state: five groups on chain, last group `wG` with predecessor `wP`. -/
def wP : Group := { id := [0xd4], pre := [0xc3], parent := [0x90, 0x01], height := 3, create := 4 }
def wG : Group := { id := [0xe5, 0xe6], pre := [0xd4], parent := [0x90, 0x01], height := 4, create := 5 }
def wN : Group := { id := [0xf7], pre := [0xe5, 0xe6], parent := [0x90, 0x01], height := 7777, create := 6 }
def wC : Chain :=
  { disk := [([0xd4], .grp wP), ([0xe5, 0xe6], .grp wG)], count := 5, last := wG, mirror := [[0xe5, 0xe6], [0xd4]] }

/-- `groupChain.save` in the source performs exactly the model's effects, in the model's order and
    grouping (one `Put`, then one batch of three whose error is returned, then `count++`). -/
theorem save_effects_match :
    saveEffects = modelSaveEffects wC wN ∧ saveMemory = modelSaveMemory wC wN := by decide +kernel

/-- `groupChain.remove` in the source performs exactly the model's effects, in the model's order
    (`Delete generateKey(chain.count - 1)`). -/
theorem remove_effects_match :
    removeEffects = modelRemoveEffects wC wG wP ∧ removeMemory = modelRemoveMemory wC wG wP := by decide +kernel

/-- (Locals are shown as ‹defining expression›#result-index; a name defined twice shows its first
    definition — `exist` below.) `AddGroup`'s guards, in the order `addCheck` evaluates them: already stored → exists;
    consensus check; parent stored; predecessor = last; then `save`. -/
theorem add_guards_match : addGuards =
    ["nil == group",
     "‹chain.groups.Has(group.Id)›#0, _ := chain.groups.Has(group.Id); ‹chain.groups.Has(group.Id)›#0",
     "‹consensusHelper.CheckGroup(group)›#0, ‹consensusHelper.CheckGroup(group)›#1 := consensusHelper.CheckGroup(group)",
     "!‹consensusHelper.CheckGroup(group)›#0",
     "‹chain.groups.Has(group.Id)›#0, _ := chain.groups.Has(group.Header.Parent)",
     "!‹chain.groups.Has(group.Id)›#0",
     "!bytes.Equal(chain.lastGroup.Id, group.Header.PreGroup)",
     "return chain.save(group)"] := rfl

/-- Nobody but `save`, `remove` and start-up writes the group store, `count` or `lastGroup`
    anywhere in package core, and they write exactly this much. -/
theorem only_known_writers : stateWriters =
    ["*groupChain.remove: Delete",
     "*groupChain.remove: Delete",
     "*groupChain.remove: Put",
     "*groupChain.remove: Put",
     "*groupChain.remove: chain.count--",
     "*groupChain.remove: chain.lastGroup = ‹chain.getGroupById(group.Header.PreGroup)›",
     "*groupChain.save: BatchPut",
     "*groupChain.save: BatchPut",
     "*groupChain.save: BatchPut",
     "*groupChain.save: BatchWrite",
     "*groupChain.save: NewBatch",
     "*groupChain.save: Put",
     "*groupChain.save: chain.count++",
     "*groupChain.save: chain.lastGroup = group",
     "*groupChain.save: group.GroupHeight = chain.count",
     "initGroupChain: ‹&groupChain{}›.count = utility.ByteToUInt64(‹chain.groups.Get([]byte(groupCountKey))›#0)",
     "initGroupChain: ‹&groupChain{}›.lastGroup = lastGroup"] := rfl

/-- `save` is called by start-up (genesis groups) and `AddGroup` only; `remove` by the fork
    switch (`removeFromCommonAncestor`) only — the operations `Props/C19.lean` covers. -/
theorem callers_match :
    saveCallers = ["initGroupChain", "*groupChain.AddGroup"] ∧
    removeCallers = ["*groupChain.removeFromCommonAncestor"] := ⟨rfl, rfl⟩

/-- Lock discipline (what makes the sequential theorems of `Props/C19.lean` apply to concurrent
    callers): `AddGroup` takes the chain lock — released only on return — BEFORE it reads the parent
    entry and `lastGroup` and calls `save`; `removeFromCommonAncestor`, the only caller of `remove`,
    takes it before reading the height and calling `remove`; `save`/`remove` never touch the lock.
    Only the duplicate-id check and the consensus check run outside the lock. -/
theorem lock_discipline :
    addLockOrder = ["Has group.Id", "CheckGroup", "Lock", "defer Unlock", "Has group.Header.Parent",
                    "touch chain.lastGroup", "call chain.save"] ∧
    ancestorLockOrder = ["Lock", "defer Unlock", "call chain.height", "call chain.getGroupByHeight",
                         "call chain.remove"] ∧
    saveLockOps = [] ∧ removeLockOps = [] := ⟨rfl, rfl, rfl, rfl⟩

def bytesOf (s : String) : Bytes := s.toList.map (fun c => UInt8.ofNat c.toNat)

/-- The model's bookkeeping keys are the source's constants. -/
theorem model_keys_match_source :
    bytesOf lastGroupKey = curKey ∧ bytesOf groupCountKey = cntKey := by decide +kernel

/-- All prefixed stores share one LevelDB; the fork database's prefix extends the chain's
    (`"groupFork" = "group" ++ "Fork"`), so every fork key `X` is the chain-side raw key `"Fork" ++ X`. -/
theorem fork_prefix_extends_chain_prefix :
    groupForkDBPrefix.toList = groupChainPrefix.toList ++ "Fork".toList := by decide +kernel

/-- The raw keys the group chain uses (without the store prefix), for a 32-byte id and a height key. -/
def chainKeys (id hk : List Char) : List (List Char) :=
  [id, hk, lastGroupKey.toList, groupCountKey.toList]

/-- The raw keys `groupChainFork` uses: `group.Id`, `generateHeightKey(h)`, and its two markers. -/
def forkKeys (id hk : List Char) : List (List Char) :=
  [id, hk, latestGroupHeightKey.toList, groupCommonAncestorHeightKey.toList]

theorem key_lengths :
    "Fork".toList.length = 4 ∧ lastGroupKey.toList.length = 8 ∧ groupCountKey.toList.length = 6 ∧
      latestGroupHeightKey.toList.length = 11 ∧ groupCommonAncestorHeightKey.toList.length = 24 := by
  decide +kernel

/-- With real (32-byte) group ids and 8-byte height keys, no physical key of the fork database is
    a physical key of the group chain: the shared key space is harmless. (An id of the form
    `"Fork" ++ X` — 12 or 36 bytes — would collide; the correspondence run exercises that.) -/
theorem fork_keyspace_disjoint (id id' hk hk' : List Char) (h1 : id.length = 32) (h2 : id'.length = 32)
    (h3 : hk.length = 8) (h4 : hk'.length = 8) :
    ∀ ck ∈ chainKeys id hk, ∀ fk ∈ forkKeys id' hk',
      groupChainPrefix.toList ++ ck ≠ groupForkDBPrefix.toList ++ fk := by
  obtain ⟨k0, k1, k2, k3, k4⟩ := key_lengths
  intro ck hck fk hfk e
  -- a fork key is `"Fork" ++ fk` on the chain's side: compare lengths
  rw [fork_prefix_extends_chain_prefix, List.append_assoc] at e
  have hl := congrArg List.length (List.append_cancel_left e)
  rw [List.length_append, k0] at hl
  have hc : ck.length = 32 ∨ ck.length = 8 ∨ ck.length = 6 := by
    simp only [chainKeys, List.mem_cons, List.mem_nil_iff, or_false] at hck
    -- (no `rfl` patterns: substituting would evaluate `String.toList` on the constants)
    rcases hck with h | h | h | h <;> rw [h]
    · exact .inl h1
    · exact .inr (.inl h3)
    · exact .inr (.inl k1)
    · exact .inr (.inr k2)
  have hf : fk.length = 32 ∨ fk.length = 8 ∨ fk.length = 11 ∨ fk.length = 24 := by
    simp only [forkKeys, List.mem_cons, List.mem_nil_iff, or_false] at hfk
    rcases hfk with h | h | h | h <;> rw [h]
    · exact .inl h2
    · exact .inr (.inl h4)
    · exact .inr (.inr (.inl k3))
    · exact .inr (.inr (.inr k4))
  omega

example : (chainKeys (List.replicate 32 'a') (List.replicate 8 'h')).length = 4 := rfl

/-- The chain object has exactly the state the model has: `count`, `lastGroup`, the store
    (`groups`) — plus the lock and the joined-groups store, which the property does not touch.
    A cache or any other new field in front of the store has to be modelled before this holds again.
    The only package-level variable written is the singleton pointer at start-up, and no network /
    fork-schedule flag is read: the behaviour does not depend on the chain configuration or height. -/
theorem state_inventory :
    groupChainFields = ["count uint64", "lock sync.RWMutex", "lastGroup *types.Group",
                        "groups db.Database", "joinedGroups *db.LDBDatabase"] ∧
    packageStateWrites = ["initGroupChain: groupChainImpl"] ∧
    forkFlagReads = [] := ⟨rfl, rfl, rfl⟩

/-- `removeFromCommonAncestor` ignores the result of `remove` and carries on with the next lower
    height, and `remove` addresses the height slot as `count-1`: that is sound only because every
    refusal of `remove` (`return false`) happens BEFORE its first effect — store write, count /
    lastGroup update or sqlite statement — and, on a chain that represents a list, never fires inside
    the loop (`Props/C19.lean: inv_remove`, `inv_rmto`). A refusal after an effect, or a new ignored
    result, changes these lists. `save`'s error results are consumed by both callers. -/
theorem result_discipline :
    removeReturns = ["return true after 0 effects", "return false after 0 effects",
                     "return true after 7 effects"] ∧
    saveReturns = ["return err after 0 effects", "return err after 2 effects", "return nil after 5 effects"] ∧
    resultUses = ["initGroupChain: save result assigned", "*groupChain.AddGroup: save result returned",
                  "*groupChain.removeFromCommonAncestor: remove result ignored"] := ⟨rfl, rfl, rfl⟩

/-- `AddGroup` overwrites `DismissHeight` with `CreateHeight + GetGroupWorkDuration()` (model:
    `prepare`); `availableGroupsAt` walks the iterator, keeps a group iff `DismissHeight > h` (strict),
    and at the first other group appends `GetGroupByHeight(0)` and breaks (model: `availWalk`);
    `triggerOnChain` removes down to the ancestor once, then `AddGroup`s the fork's groups in height
    order and stops at the first refusal (model: `forkSwitch` / `addAll`). -/
theorem selection_and_switch_shape :
    addHeaderRewrite = ["header.WorkHeight = header.CreateHeight + uint64(common.GROUP_Work_GAP)",
                        "header.DismissHeight = header.CreateHeight + common.GetGroupWorkDuration()"] ∧
    availableShape = ["for g := iter.Current(); g != nil; g = iter.MovePre()", "call iter.Current()",
                      "call iter.MovePre()", "if g.Header.DismissHeight > h", "call append(gs, g)",
                      "call chain.GetGroupByHeight(0)", "call append(gs, genesis)", "break", "return gs"] ∧
    triggerOnChainShape = ["if fork.current == fork.header",
                           "call groupChain.removeFromCommonAncestor(fork.getGroup(fork.header))",
                           "call fork.getGroup(fork.header)",
                           "for fork.current <= fork.latestGroup.GroupHeight",
                           "call fork.getGroup(fork.current)", "if forkGroup == nil", "return false",
                           "call groupChain.AddGroup(forkGroup)", "if err == nil", "continue",
                           "return false", "return true"] := ⟨rfl, rfl, rfl⟩

end Rangers.Props.C19Facts
