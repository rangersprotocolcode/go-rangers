import Rangers.Model.Round
import Rangers.Generated.C15Facts
import Rangers.Proofs.Round
import Rangers.Proofs.RoundLive
import Rangers.Proofs.RoundSrc
/-!
C15, clauses 2 and 3: at the threshold the recovered signatures verify under the group key, and no
set of faulty senders can stop an otherwise valid block from being finalised. Cryptography is the
explicit hypothesis `Lawful` (discharged for the abstract bn256 group in `Props/C15Crypto.lean`).
-/
namespace Rangers.Props.C15
open Rangers.Model.Round Rangers.Proofs.Round
open Rangers.Generated

variable {G : Type}

/-- Clause 2 (full strength): in every reachable state — any stored early
messages, any packets in any order, the chain stub answering anything — as soon as `k` shares are
present (equivalently: `canProcessed`), the header carries signatures that `round2.checkSignature`
accepts: the recovered block signature verifies over `bh.Hash` and the recovered beacon value over
`preBH.Random` under the group public key. -/
theorem threshold_recovers_valid (c : Crypto G) (env : Env) (hsrc : FromSource env) (hn : 0 < env.groupSize)
    (sh : Id → Data → G) (gs : Data → G) (hl : Lawful c env sh gs)
    (future : List (VMsg G)) (ws : List (Bool × Wire G)) :
    let st := (Proc.runX c env (Proc.init c env future) ws).party.rs
    (groupK env.groupSize ≤ st.gSign.witness.length ∨ st.canProcessed = true) →
      st.canProcessed = true ∧ st.gSign.witness.length = groupK env.groupSize ∧
      sigOk c env.hash st.bhSignature = true ∧ sigOk c env.prevRandom st.bhRandom = true := by
  intro st hreach
  have hb := fromSource_binds hsrc
  have h2 : Inv2 c env gs st := runX_init_inv2 hb hn hl future ws
  have hcp : st.canProcessed = true := by
    rcases hreach with hlen | hcp
    · cases hc : st.canProcessed
      · have := (h2.open_ hc).1; omega
      · rfl
    · exact hcp
  obtain ⟨hlen, _, _, hs1, hs2⟩ := h2.closed hcp
  refine ⟨hcp, hlen, ?_, ?_⟩
  · rw [hs1]; exact sigOk_groupSig hl env.hash
  · rw [hs2]; exact sigOk_groupSig hl env.prevRandom

/-- The share sets never exceed the threshold and stay in lock-step. -/
theorem share_sets_in_step (c : Crypto G) (env : Env) (hsrc : FromSource env) (hn : 0 < env.groupSize)
    (sh : Id → Data → G) (gs : Data → G) (hl : Lawful c env sh gs)
    (future : List (VMsg G)) (ws : List (Bool × Wire G)) :
    let st := (Proc.runX c env (Proc.init c env future) ws).party.rs
    st.gSign.witness.map (·.1) = st.rSign.witness.map (·.1) ∧ st.gSign.witness.length ≤ groupK env.groupSize := by
  intro st
  have hb := fromSource_binds hsrc
  have h2 : Inv2 c env gs st := runX_init_inv2 hb hn hl future ws
  refine ⟨h2.ids_eq, ?_⟩
  cases hc : st.canProcessed
  · have := (h2.open_ hc).1; omega
  · have := (h2.closed hc).1; omega

/-- Clause 3 for a round entered with the ids round0 had already processed (the cast message's id,
`Proc.initWith`): the state the life cycle actually hands to round1. The honest messages' ids must be new
(they are hashes of different bytes). `one_faulty_cannot_block` below is the case of no processed id. -/
theorem one_faulty_cannot_block_after_cast (c : Crypto G) (env : Env) (hsrc : FromSource env)
    (hex : env.blockExists = false) (hn : 0 < env.groupSize)
    (sh : Id → Data → G) (gs : Data → G) (hl : Lawful c env sh gs)
    (processed : List MsgId) (future : List (VMsg G)) (ws : List (Wire G))
    (honest : List (Id × MsgId)) (hnd : (honest.map (·.1)).Nodup)
    (hlen : groupK env.groupSize ≤ honest.length)
    (hmem : ∀ p ∈ honest, p.1 ∈ env.pkKnown ∧ Wire.ok (honestMsg env sh p.1 p.2) ∈ ws ∧
      p.2 ∉ processed ++ future.map (·.mid)) :
    let pr := Proc.run c env (Proc.initWith c env processed future) ws
    pr.ending = some true ∧
    pr.party.rs.generated = some (some (gs env.hash), some (gs env.prevRandom)) ∧
    sigOk c env.hash (some (gs env.hash)) = true ∧ sigOk c env.prevRandom (some (gs env.prevRandom)) = true := by
  intro pr
  have hfinished : Finished env gs pr :=
    run_quorum (fromSource_binds hsrc) hex (groupK_pos hn) hl ws
      (initWith_started (fromSource_binds hsrc) hex (groupK_pos hn) hl processed future) honest hnd hlen hmem
  exact ⟨hfinished.ending, hfinished.gen, sigOk_groupSig hl _, sigOk_groupSig hl _⟩

/-- Clause 3 (full strength for the collection logic): let the block not be on
the chain yet and let the honest verify messages of at least `k` distinct members with registered keys
be among the delivered packets. Then — whatever else is delivered (shares over other hashes, replays,
garbage points, non-members, duplicates, undecodable packets, messages filed under other hashes),
in whatever order, and whatever messages were stored before the round started — the party ends with
`done`: `round2.checkSignature` passed and `GenerateBlock` received the group signature on `bh.Hash`
and the group signature on `preBH.Random`, both of which verify under the group public key. -/
theorem one_faulty_cannot_block (c : Crypto G) (env : Env) (hsrc : FromSource env)
    (hex : env.blockExists = false) (hn : 0 < env.groupSize)
    (sh : Id → Data → G) (gs : Data → G) (hl : Lawful c env sh gs)
    (future : List (VMsg G)) (ws : List (Wire G))
    (honest : List (Id × MsgId)) (hnd : (honest.map (·.1)).Nodup)
    (hlen : groupK env.groupSize ≤ honest.length)
    (hmem : ∀ p ∈ honest, p.1 ∈ env.pkKnown ∧ Wire.ok (honestMsg env sh p.1 p.2) ∈ ws ∧
      p.2 ∉ future.map (·.mid)) :
    let pr := Proc.run c env (Proc.init c env future) ws
    pr.ending = some true ∧
    pr.party.rs.generated = some (some (gs env.hash), some (gs env.prevRandom)) ∧
    sigOk c env.hash (some (gs env.hash)) = true ∧ sigOk c env.prevRandom (some (gs env.prevRandom)) = true := by
  exact one_faulty_cannot_block_after_cast c env hsrc hex hn sh gs hl [] future ws honest hnd hlen hmem

/-- Safety form of clause 3: as long as the block is not on the
chain, no sequence of packets whatsoever — and no stored early messages — makes the party end with an
error: it keeps collecting or ends `done`. (The only error ending of the signing round is "block already
existed".) -/
theorem byzantine_cannot_cause_error (c : Crypto G) (env : Env) (hsrc : FromSource env)
    (hex : env.blockExists = false) (hn : 0 < env.groupSize)
    (sh : Id → Data → G) (gs : Data → G) (hl : Lawful c env sh gs)
    (future : List (VMsg G)) (ws : List (Wire G)) :
    (Proc.run c env (Proc.init c env future) ws).ending ≠ some false := by
  have hb := fromSource_binds hsrc
  rcases (run_started hb hex hl ws (Proc.init c env future)
    (initWith_started hb hex (groupK_pos hn) hl [] future)).1 with h | h | h
  · rw [h.ending]; simp
  · rw [h.ending]; simp
  · rw [h.ending]; simp

/-- The same statement for the handler that does not bind the signed hash to the block. -/
def FullStatementLivenessUnbound : Prop :=
  ∀ (c : Crypto Sym) (env : Env), env.bindsHash = false → env.blockExists = false → 0 < env.groupSize →
    ∀ (sh : Id → Data → Sym) (gs : Data → Sym), Lawful c env sh gs →
      ∀ (ws : List (Wire Sym)) (honest : List (Id × MsgId)), (honest.map (·.1)).Nodup →
        groupK env.groupSize ≤ honest.length →
        (∀ p ∈ honest, p.1 ∈ env.pkKnown ∧ Wire.ok (honestMsg env sh p.1 p.2) ∈ ws) →
        (Proc.run c env (Proc.init c env []) ws).ending = some true

theorem symParts_shares (d : Data) (ids : List Id) :
    symParts (ids.map fun i => (i, Sym.share i d)) = some (ids.map fun i => (i, i, d)) := by
  induction ids with
  | nil => rfl
  | cons i rest ih => simp [symParts, ih]

/-- The symbolic threshold group (the instance the driver runs) satisfies `Lawful`, for every group
whose registered keys are the DKG members: the hypotheses of the theorems above are satisfiable. -/
theorem symCrypto_lawful (env : Env) (hn : 0 < env.groupSize) :
    Lawful (symCrypto (groupK env.groupSize) env.pkKnown) env (fun i d => Sym.share i d) (fun d => Sym.group d) := by
  refine ⟨?_, ?_, ?_, ?_⟩
  · intro id d s _; simp [symCrypto]
  · intro id d s h
    have : s = Sym.share id d := by simpa [symCrypto] using h
    subst this; simp [symCrypto]
  · intro d; simp [symCrypto]
  · intro ids d hnd hmem hlen
    have hk := groupK_pos hn
    show (symCrypto (groupK env.groupSize) env.pkKnown).recover _ = _
    simp only [symCrypto, symParts_shares]
    cases ids with
    | nil => simp at hlen; omega
    | cons i rest =>
      have hgrp : comboIsGroup (groupK env.groupSize) env.pkKnown d ((i :: rest).map fun i => (i, i, d)) = true := by
        simp only [comboIsGroup, Bool.and_eq_true, beq_iff_eq, List.length_map, decide_eq_true_eq,
          List.all_eq_true, List.map_map]
        refine ⟨⟨hlen, ?_⟩, ?_⟩
        · intro p hp
          obtain ⟨j, hj, rfl⟩ := List.mem_map.mp hp
          simp [hmem j hj]
        · have : ((fun p : Id × Id × Data => p.1) ∘ fun i => (i, i, d)) = id := rfl
          rw [this, List.map_id]; exact hnd
      simp only [List.map_cons] at hgrp ⊢
      rw [if_pos hgrp]

/-- Non-vacuity of `one_faulty_cannot_block`: group of 3 (k = 2), members 1 and 2 honest, member 0
sends a share over another hash first — the block is finalised. -/
example :
    let env : Env := { leadEnv with bindsHash := true }
    let c := symCrypto 2 [0, 1, 2]
    (Proc.run c env (Proc.init c env []) [.ok leadMsg,
        .ok (honestMsg env (fun i d => Sym.share i d) 1 1), .ok (honestMsg env (fun i d => Sym.share i d) 2 2)]).ending
      = some true := by decide +kernel

/-- The `hmem` hypothesis of the liveness statements for the histories of the three `…_counterexample`s: group
`[0, 1, 2]`, honest members 1 and 2 with message ids 1 and 2. -/
theorem lead_honest {env : Env} {ws : List (Wire Sym)} (hpk : env.pkKnown = [0, 1, 2])
    (h1 : Wire.ok (honestMsg env (fun i d => Sym.share i d) 1 1) ∈ ws)
    (h2 : Wire.ok (honestMsg env (fun i d => Sym.share i d) 2 2) ∈ ws) :
    ∀ p ∈ [((1 : Id), (1 : MsgId)), (2, 2)],
      p.1 ∈ env.pkKnown ∧ Wire.ok (honestMsg env (fun i d => Sym.share i d) p.1 p.2) ∈ ws := by
  intro p hp
  simp only [List.mem_cons, List.not_mem_nil, or_false] at hp
  rcases hp with rfl | rfl
  · exact ⟨by simp [hpk], h1⟩
  · exact ⟨by simp [hpk], h2⟩

/-- Without the binding check the same history ends the party with an error: the liveness clause is false. -/
theorem one_faulty_cannot_block_unbound_counterexample : ¬ FullStatementLivenessUnbound := by
  intro h
  have hl : Lawful (symCrypto 2 [0, 1, 2]) leadEnv (fun i d => Sym.share i d) (fun d => Sym.group d) :=
    symCrypto_lawful leadEnv (by decide)
  have := h (symCrypto 2 [0, 1, 2]) leadEnv rfl rfl (by decide) _ _ hl
    [.ok leadMsg, .ok (honestMsg leadEnv (fun i d => Sym.share i d) 1 1),
      .ok (honestMsg leadEnv (fun i d => Sym.share i d) 2 2)]
    [(1, 1), (2, 2)] (by decide) (by decide) (lead_honest rfl (by simp) (by simp))
  exact absurd this (by decide +kernel)

end Rangers.Props.C15
