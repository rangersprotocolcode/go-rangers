import Mathlib.Data.ZMod.Basic
import Rangers.Model.Vrf
import Rangers.Proofs.C16Bytes
import Rangers.Proofs.C16Vrf
/-!
C16: what a mutated or adversarial proof can and cannot do.
Soundness proper is cryptographic; it enters as explicit disjuncts / hypotheses
(hash collision, challenge annihilating a point), never as an axiom.
-/
namespace Rangers.Props.C16B
open Rangers Rangers.Model Rangers.Model.Vrf Rangers.Proofs.C16Bytes Rangers.Proofs.C16Vrf

/-- `ECVRFVerify` decides on the first 80 bytes only: bytes after the proof are ignored
    (`tryZeroPadding` passes longer inputs through, `decodeProof` slices `[:80]`). -/
theorem trailing_bytes_ignored {P : Type} (o : Ops P) (pk m gb cb sb junk : Bytes)
    (hg : gb.length = 32) (hc : cb.length = 16) (hs : sb.length = 32) :
    verifyWith o pk (gb ++ cb ++ sb ++ junk) m = verifyWith o pk (gb ++ cb ++ sb) m := by
  rw [verifyWith_append o pk m gb cb sb junk hg hc hs, verifyWith_three o pk m gb cb sb hg hc hs]

/-- `s` is reduced modulo `L` before use (`ScReduce`): `s` and `s + L` are both accepted.
    The output `pi[:32]` is the same, so this is proof malleability only. -/
theorem s_plus_L_accepted {P : Type} (o : Ops P) (pk m gb cb : Bytes) (s : Nat)
    (hg : gb.length = 32) (hc : cb.length = 16) (hs : s + o.L < 256 ^ 32) :
    verifyWith o pk (gb ++ cb ++ natLE 32 (s + o.L)) m = verifyWith o pk (gb ++ cb ++ natLE 32 s) m := by
  rw [verifyWith_three o pk m gb cb (natLE 32 (s + o.L)) hg hc (natToLE_length _ _),
    verifyWith_three o pk m gb cb (natLE 32 s) hg hc (natToLE_length _ _)]
  unfold verifyParts leNat natLE
  rw [leToNat_natToLE 32 _ hs, leToNat_natToLE 32 s (by omega), Nat.add_mod_right]

/-- non-vacuity for the concrete modulus: there is room for `s + L` in 32 bytes -/
example : (5 : Nat) + ed25519Ops.L < 256 ^ 32 := by decide

/-- A single flipped bit of `s` changes `s mod L` (L odd, > 1): the reduction absorbs no bit flip. -/
theorem bit_flip_changes_residue (L s j : Nat) (hodd : L % 2 = 1) (hL : 1 < L) :
    (s + 2 ^ j) % L ≠ s % L := by
  intro h
  have h0 : (s + 2 ^ j - s) % L = 0 := Nat.sub_mod_eq_zero_of_mod_eq h
  have hd : L ∣ 2 ^ j := by
    rw [Nat.add_sub_cancel_left] at h0
    exact Nat.dvd_of_mod_eq_zero h0
  have hc : Nat.Coprime L 2 := Nat.coprime_two_right.mpr (Nat.odd_iff.mpr hodd)
  have := (hc.pow_right j).eq_one_of_dvd hd
  omega

/-- the concrete scalar modulus is odd and > 1 -/
example : VrfCurve.L % 2 = 1 ∧ 1 < VrfCurve.L := by decide

/-- Mutation of `s` is caught or yields a hash collision: if two proofs that differ
    only in `s` (with different residues mod `L`) are both accepted, then `hashPoints`
    maps two different input tuples to the same 16 bytes. Needs `B` to have exact order `L`. -/
theorem s_mutation_caught_or_collision {P : Type} [AddCommGroup P] (o : Ops P) (law : Lawful o)
    (horder : ∀ a b : Nat, a • o.smulBase 1 = b • o.smulBase 1 → a % o.L = b % o.L)
    (pk m gb cb sb sb' : Bytes) (gamma : P) (hdec : o.decodeStrict gb = some gamma)
    (hne : leNat sb % o.L ≠ leNat sb' % o.L)
    (h : verifyParts o pk m gb cb sb = .ok true) (h' : verifyParts o pk m gb cb sb' = .ok true) :
    ∃ u v u' v', u ≠ u' ∧
      o.hashPoints (hPt o m pk) gamma u v = o.hashPoints (hPt o m pk) gamma u' v' := by
  unfold verifyParts at h h'
  rw [hdec] at h h'
  simp only [Except.ok.injEq, beq_iff_eq] at h h'
  refine ⟨_, _, _, _, ?_, h.trans h'.symm⟩
  intro hu
  rw [law.sub_eq, law.sub_eq, sub_left_inj, law.smulBase_eq (leNat sb % o.L),
    law.smulBase_eq (leNat sb' % o.L)] at hu
  have := horder _ _ hu
  rw [Nat.mod_mod, Nat.mod_mod] at this
  exact hne this

/-- A prover who knows the secret scalar `x` can replace `Γ = x·H` by `Γ + T` for any
    point `T` annihilated by the challenge it obtains (`c·T = 0`); the forged proof
    verifies. With `T = 0` this is completeness. In a group with cofactor (`T` of
    order 2, 4, 8 on edwards25519) the condition is `ord T ∣ c`, met by 1 in 2/4/8 nonces. -/
theorem shifted_gamma_verifies {P : Type} [AddCommGroup P] (o : Ops P) (law : Lawful o)
    (pk m : Bytes) (x k : Nat) (T : P)
    (hlen : pk.length = 32) (hpk : pk = o.encode (o.smulBase x))
    (hT : leNat (chal o m pk (o.smul x (hPt o m pk) + T) k) • T = 0) :
    verifyWith o pk
      (o.encode (o.smul x (hPt o m pk) + T) ++ chal o m pk (o.smul x (hPt o m pk) + T) k ++
        respond o (chal o m pk (o.smul x (hPt o m pk) + T) k) x k) m = .ok true :=
  (verifyWith_three o pk m _ _ _ (law.encode_len _) (chal_length law _ _ _ _) (respond_length o _ _ _)).trans
    (verifyParts_shifted o law pk m x k T hlen hpk hT)

/-- False of model and code: all proofs accepted for one key and
    message carry the same lottery output `pi[:32]`. -/
def FullStatement_output_unique {P : Type} (o : Ops P) : Prop :=
  ∀ pk m pi1 pi2, verifyWith o pk pi1 m = .ok true → verifyWith o pk pi2 m = .ok true →
    outputOf pi1 = outputOf pi2

/-- Output uniqueness fails as soon as some non-zero point `T` is annihilated by the
    challenge of some nonce: the honest proof and the shifted proof are both accepted
    and carry different outputs. (On the implementation: searcher key
    `output-not-unique-small-order-shift`, 8 outputs per key/message.) -/
theorem output_unique_fails_of_annihilated_point {P : Type} [AddCommGroup P] (o : Ops P)
    (law : Lawful o) (pk m : Bytes) (x k : Nat) (T : P)
    (hlen : pk.length = 32) (hpk : pk = o.encode (o.smulBase x)) (hT0 : T ≠ 0)
    (hT : leNat (chal o m pk (o.smul x (hPt o m pk) + T) k) • T = 0) :
    ¬ FullStatement_output_unique o := by
  intro hfull
  have h1 := shifted_gamma_verifies o law pk m x k 0 hlen hpk (by simp)
  have h2 := shifted_gamma_verifies o law pk m x k T hlen hpk hT
  have := hfull pk m _ _ h1 h2
  simp only [outputOf_append _ _ _ (law.encode_len _) (chal_length law _ _ _ _) (respond_length o _ _ _)] at this
  have h3 : some (o.smul x (hPt o m pk) + 0) = some (o.smul x (hPt o m pk) + T) := by
    rw [← law.decode_encode, ← law.decode_encode (o.smul x (hPt o m pk) + T), this]
  simp only [add_zero, Option.some.injEq] at h3
  exact hT0 (by simpa using h3.symm)

/-- What acceptance pins down (the algebraic half of soundness). For an honest key
    `Y = x·B` with `B` of exact order `L`: if the verifier's recomputed commitment is
    of the honest shape `U = k·B`, `V = k·H` for one `k`, then `c·(Γ − x·H) = 0`. -/
theorem accepted_commitment_forces {P : Type} [AddCommGroup P] (o : Ops P) (law : Lawful o)
    (horder : ∀ a b : Nat, a • o.smulBase 1 = b • o.smulBase 1 → a % o.L = b % o.L)
    (m pk : Bytes) (x c s k : Nat) (gamma : P)
    (hU : o.sub (o.smulBase (s % o.L)) (o.smul c (o.smulBase x)) = o.smulBase k)
    (hV : o.sub (o.smul (s % o.L) (hPt o m pk)) (o.smul c gamma) = o.smul k (hPt o m pk)) :
    c • (gamma - o.smul x (hPt o m pk)) = 0 := by
  rw [law.sub_eq, law.smul_eq, law.smulBase_eq (s % o.L), law.smulBase_eq x, law.smulBase_eq k,
    sub_eq_iff_eq_add, ← mul_nsmul', ← add_nsmul] at hU
  have hmod := horder _ _ hU
  rw [Nat.mod_mod] at hmod
  have hH : o.L • hPt o m pk = 0 := law.h2c_torsion m pk
  have e1 : (s % o.L) • hPt o m pk = (k + c * x) • hPt o m pk := by
    rw [nsmul_eq_mod_nsmul (s % o.L) hH, nsmul_eq_mod_nsmul (k + c * x) hH, Nat.mod_mod, hmod]
  rw [law.sub_eq, law.smul_eq, law.smul_eq c, law.smul_eq k, e1, add_nsmul, mul_nsmul'] at hV
  rw [law.smul_eq, nsmul_sub]
  have : c • gamma = c • x • hPt o m pk := by
    have := sub_eq_iff_eq_add.mp hV
    -- k•H + c•x•H = k•H + c•Γ
    exact (add_left_cancel this).symm
  rw [this, sub_self]

/-- The prime-order reading: if no non-zero point is annihilated by the challenge
    (true in a group of prime order `L` when `L ∤ c`), an accepted proof with an
    honest-shaped commitment carries the honest output `Γ = x·H`. The implementation's
    group has cofactor 8 and does not satisfy the hypothesis. -/
theorem output_unique_partial {P : Type} [AddCommGroup P] (o : Ops P) (law : Lawful o)
    (horder : ∀ a b : Nat, a • o.smulBase 1 = b • o.smulBase 1 → a % o.L = b % o.L)
    (m pk : Bytes) (x c s k : Nat) (gamma : P)
    (hfree : ∀ D : P, c • D = 0 → D = 0)
    (hU : o.sub (o.smulBase (s % o.L)) (o.smul c (o.smulBase x)) = o.smulBase k)
    (hV : o.sub (o.smul (s % o.L) (hPt o m pk)) (o.smul c gamma) = o.smul k (hPt o m pk)) :
    gamma = o.smul x (hPt o m pk) :=
  sub_eq_zero.mp (hfree _ (accepted_commitment_forces o law horder m pk x c s k gamma hU hV))

/-- A lawful toy instance with cofactor 2 (non-vacuity of `Lawful` and of the annihilated-point hypothesis):
    ℤ/26 = (order-13 subgroup generated by 2) × (order-2 point 13); `L = 13`; the
    "hash" is the constant 2, so every challenge is even and annihilates the point 13. -/
def toyOps : Ops (ZMod 26) where
  L := 13
  sub := fun a b => a - b
  smul := fun k a => k • a
  smulBase := fun k => k • (2 : ZMod 26)
  decodeStrict := fun bs => some ((bs.headD 0).toNat : ZMod 26)
  decodeLax := fun bs => match bs with
    | [] => 2
    | b :: _ => (b.toNat : ZMod 26)
  encode := fun a => UInt8.ofNat a.val :: List.replicate 31 0
  hashToCurve := fun _ _ => []
  hashPoints := fun _ _ _ _ => 2 :: List.replicate 15 0
  expandSecret := fun _ => (3, [])
  nonce := fun _ _ => 5

theorem toy_byte_roundtrip : ∀ a : ZMod 26, ((a.val % 256 : ℕ) : ZMod 26) = a := by decide

theorem toy_lawful : Lawful toyOps where
  sub_eq := fun _ _ => rfl
  smul_eq := fun _ _ => rfl
  smulBase_eq := fun k => by simp [toyOps]
  L_pos := by decide
  L_le := by decide
  base_torsion := by decide
  h2c_torsion := fun _ _ => by
    show (13 : ℕ) • (2 : ZMod 26) = 0
    decide
  encode_len := fun _ => by simp [toyOps]
  hash_len := fun _ _ _ _ => by simp [toyOps]
  decode_encode := fun a => by simp [toyOps, toy_byte_roundtrip]
  decodeLax_encode := fun a => by simp [toyOps, toy_byte_roundtrip]

/-- A lawful interface (group laws, codec round trip, torsion) on which
    two accepted proofs for one key and message carry different outputs. -/
theorem output_unique_counterexample :
    ∃ o : Ops (ZMod 26), Lawful o ∧ ¬ FullStatement_output_unique o := by
  refine ⟨toyOps, toy_lawful, ?_⟩
  apply output_unique_fails_of_annihilated_point toyOps toy_lawful
    (toyOps.encode (toyOps.smulBase 3)) [] 3 5 (13 : ZMod 26)
  · simp [toyOps]
  · rfl
  · decide
  · decide

/-- `isCanonical` returns 1 for EVERY input: its two `>> 8` are applied to 8-bit values.
    So `stringToPoint` never rejects a non-reduced `y` (e.g. `y = p + 1` decodes to the
    identity); `go vet` flags the same two lines. -/
theorem isCanonical_always_one (s : Bytes) : VrfCurve.isCanonical s = 1 := by
  unfold VrfCurve.isCanonical
  have h : ∀ x : UInt8, UInt8.ofNat ((x.toNat >>> 8) % 256) = 0 := by
    intro x
    have : x.toNat >>> 8 = 0 := by
      rw [Nat.shiftRight_eq_div_pow]
      exact Nat.div_eq_of_lt (UInt8.toNat_lt x)
    rw [this]; rfl
  simp only [h]
  decide

end Rangers.Props.C16B
