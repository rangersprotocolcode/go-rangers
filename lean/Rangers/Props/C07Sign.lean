import Rangers.Props.C07
/-!
# C07 — the signing path, the `Sender` cache, and the admission flags

"Honestly signed transactions are always accepted" needs the *signing* side of the code too:
`Signer.SignatureValues` (Frontier/Homestead and EIP-155), `Transaction.WithSignature`, `SignTx`,
and the native wrapper `secp256k1.Sign`.  They are modelled (`frontierSigValues`,
`eip155SigValues`, `withSignature`, `signTx155`, `nativeSignBytes`) and tied by the
correspondence streams `sigv`, `fsigv`, `nsig` and the T-gen fact `sign_path_shape`.
The file also holds the cache `eth_tx.Sender` keeps in the transaction object (`senderCached`,
`sender_cache_transparent`) and, at the end, that `admitFlags` marks exactly what `admitBatch` admits.
-/
namespace Rangers.Props.C07
open Rangers Rangers.Model.TxAuth

theorem u8_add27 (k : UInt8) (h : k.toNat ≤ 228) : (k + 27).toNat = k.toNat + 27 :=
  u8_toNat_add k 27 (Nat.add_lt_add_right (Nat.lt_succ_of_le h) 27)

theorem u8_add35 (k : UInt8) (h : k.toNat ≤ 220) : (k + 35).toNat = k.toNat + 35 :=
  u8_toNat_add k 35 (Nat.add_lt_add_right (Nat.lt_succ_of_le h) 35)

/-- `Model.TxAuth.sig_rebuild` among the obligations of C07: the check audits the theorems of the `Props` modules -/
protected theorem sig_rebuild (sig : Bytes) (h : sig.length = 65) :
    padLeft 32 (natToBE (sigR sig)) ++ padLeft 32 (natToBE (sigS sig)) ++ [(sig.drop 64).headD 0] = sig :=
  Model.TxAuth.sig_rebuild sig h

/-- `hk`: the byte addition `sig[64] + 35` does not wrap -/
theorem eip155_sigvalues_spec (c : Nat) (sig : Bytes) (hc : c ≠ 0) (h : sig.length = 65)
    (hk : ((sig.drop 64).headD 0).toNat ≤ 220) :
    eip155SigValues c sig = some (sigR sig, sigS sig, 2 * c + 35 + ((sig.drop 64).headD 0).toNat) := by
  unfold eip155SigValues frontierSigValues
  simp only [h, ne_eq, not_true_eq_false, ↓reduceIte, hc, not_false_eq_true]
  rw [u8_add35 _ hk]
  show some (_, _, _ + 35 + 2 * c) = _
  rw [Nat.add_comm _ (2 * c), Nat.add_comm _ 35, Nat.add_assoc]

/-- `if s.chainId.Sign() != 0`: for chain id 0 the Frontier value v = 27 + recid is kept -/
theorem eip155_sigvalues_chain0 (sig : Bytes) : eip155SigValues 0 sig = frontierSigValues sig := by
  unfold eip155SigValues
  cases frontierSigValues sig with
  | none => rfl
  | some p =>
    obtain ⟨r, s, v⟩ := p
    simp

/-- a wrong-size signature is the panic of `FrontierSigner.SignatureValues`, for every chain id -/
theorem sigvalues_panics_iff (c : Nat) (sig : Bytes) : eip155SigValues c sig = none ↔ sig.length ≠ 65 := by
  unfold eip155SigValues frontierSigValues
  by_cases h : sig.length = 65
  · by_cases hc : c = 0
    · simp [h, hc]
    · simp [h, hc]
  · simp [h]

example : eip155SigValues 9 (List.replicate 64 1 ++ [1]) = some (sigR (List.replicate 64 1 ++ [1]), sigS (List.replicate 64 1 ++ [1]), 54) := by
  decide +kernel

/-- The node's own `SignTx` against its own `Sender`, chain id ≠ 0.  If the library's signature over
    the EIP-155 signing hash recovers an uncompressed key (recovery bit 0/1, r and s in range, low s —
    what libsecp256k1 produces), then `SignTx(tx, EIP155Signer(c), key)` succeeds and
    `EIP155Signer(c).Sender` of the signed transaction is that key's address. -/
theorem signTx155_sender (cr : Crypto) (c : Nat) (e : EthTx) (sig pub : Bytes) (hc : c ≠ 0)
    (hlen : sig.length = 65) (hk : ((sig.drop 64).headD 0).toNat < 2)
    (hr : 1 ≤ sigR sig ∧ sigR sig < secpN) (hs : 1 ≤ sigS sig ∧ sigS sig ≤ secpHalfN)
    (hrec : recoverPubkeyEth cr (cr.keccak (sigPreimage155 c e)) sig = some pub)
    (hpub : pub.head? = some 4) :
    ∃ e', signTx155 c e sig = some e' ∧
      ethSender cr c e' = some (((cr.keccak (pub.drop 1)).drop 12).take 20 ++
        List.replicate (20 - min 20 ((cr.keccak (pub.drop 1)).drop 12).length) 0) := by
  have hv := eip155_sigvalues_spec c sig hc hlen (Nat.le_trans (Nat.le_of_lt hk) (by decide))
  refine ⟨withSignature e (sigR sig, sigS sig, 2 * c + 35 + ((sig.drop 64).headD 0).toNat), ?_, ?_⟩
  · unfold signTx155
    rw [hv]
    rfl
  · have hpre : sigPreimage155 c (withSignature e (sigR sig, sigS sig, 2 * c + 35 + ((sig.drop 64).headD 0).toNat))
        = sigPreimage155 c e := rfl
    apply ethSender_eip155 cr c _ ((sig.drop 64).headD 0).toNat pub hk rfl hr hs
    · rw [hpre]
      show recoverPubkeyEth cr (cr.keccak (sigPreimage155 c e))
        (padLeft 32 (natToBE (sigR sig)) ++ padLeft 32 (natToBE (sigS sig)) ++ [UInt8.ofNat ((sig.drop 64).headD 0).toNat]) = some pub
      rw [UInt8.ofNat_toNat, sig_rebuild sig hlen]
      exact hrec
    · exact hpub

/-- For chain id 0 `SignTx(EIP155Signer(0))` signs the EIP-155 hash (…, 0, 0, 0) but stores v = 27/28,
    and the verifier — this node's included — then recovers over the *Homestead* hash: the sender it
    computes is `recoverPlain` of another message. -/
theorem signTx_chain0_verifier_uses_homestead (cr : Crypto) (e : EthTx) (sig : Bytes)
    (hlen : sig.length = 65) (hk : ((sig.drop 64).headD 0).toNat < 2) :
    ∃ e', signTx155 0 e sig = some e' ∧ e'.v = 27 + ((sig.drop 64).headD 0).toNat ∧
      ethSender cr 0 e' = recoverPlain cr (cr.keccak (sigPreimageHomestead e)) (sigR sig) (sigS sig) (Int.ofNat e'.v) := by
  have hv : ((sig.drop 64).headD 0 + 27).toNat = 27 + ((sig.drop 64).headD 0).toNat :=
    (u8_add27 _ (Nat.le_trans (Nat.le_of_lt hk) (by decide))).trans (Nat.add_comm _ _)
  refine ⟨withSignature e (sigR sig, sigS sig, 27 + ((sig.drop 64).headD 0).toNat), ?_, rfl, ?_⟩
  · unfold signTx155
    rw [eip155_sigvalues_chain0]
    unfold frontierSigValues
    simp only [hlen, ne_eq, not_true_eq_false, ↓reduceIte, hv, Option.map_some]
  · have hp : isProtectedV (27 + ((sig.drop 64).headD 0).toNat) = false :=
      (isProtectedV_eq_false_iff _).2
        ((Nat.le_one_iff_eq_zero_or_eq_one.1 (Nat.le_of_lt_succ hk)).imp (congrArg (27 + ·)) (congrArg (27 + ·)))
    unfold ethSender
    simp only [withSignature, hp, Bool.false_eq_true, not_false_eq_true, ↓reduceIte]
    rfl

/-- primitives under which the two signing hashes of `toyEth155` differ and recover different keys -/
def splitCrypto : Crypto :=
  { sha256 := fun _ => [],
    keccak := fun m => if m = sigPreimage155 0 toyEth155 then List.replicate 32 1
                       else if m = [1] then List.replicate 32 5 else List.replicate 32 2,
    recoverCore := fun msg _ _ _ => if msg = List.replicate 32 1 then some [4, 1] else some [4, 2],
    verifyCore := fun _ _ _ _ => true }

/-- …and so the quirk is a real failure of "own signature ⇒ own verifier accepts" for chain id 0:
    a witness where the signature recovers the signer over the signed hash, yet `Sender` of the
    transaction `SignTx` built gives another address: `[1]` in the last clause is `[4, 1].drop 1`, the
    coordinates of the recovered key `[4, 1]`, so the clause says `Sender`'s address is not that key's.
    (Replayed against the real code by the searcher on the chain-0 configuration: counted under `info`,
    chain id 0 is never configured.) -/
theorem signTx_chain0_counterexample :
    ∃ (sig : Bytes) (e' : EthTx),
      recoverPubkeyEth splitCrypto (splitCrypto.keccak (sigPreimage155 0 toyEth155)) sig = some [4, 1] ∧
      signTx155 0 toyEth155 sig = some e' ∧
      ethSender splitCrypto 0 e' = some (List.replicate 20 2) ∧
      List.replicate 20 2 ≠ ((splitCrypto.keccak [1]).drop 12).take 20 :=
  ⟨List.replicate 64 1 ++ [0], withSignature toyEth155 (sigR (List.replicate 64 1 ++ [0]), sigS (List.replicate 64 1 ++ [0]), 27),
   by decide +kernel⟩

/-- The native wrapper `secp256k1.Sign` adds 27 to the last byte of the library's raw r‖s‖recid;
    `RecoverPubkey` (through its 27..30 ↦ 0..3 mapping) recovers from the result exactly what the
    library recovers from the raw signature. -/
theorem native_sign_wrapper_recovers (cr : Crypto) (msg raw : Bytes) (hlen : raw.length = 65)
    (hk : ((raw.drop 64).headD 0).toNat ≤ 3) (hm : msg.length = 32) :
    recoverPubkey cr msg (nativeSignBytes raw) = libRecover cr msg raw := by
  have hb : (raw.take 64).length = 64 := by rw [List.length_take, hlen]; rfl
  have h := (recoverPubkey_recid cr msg (raw.take 64) _ hb hk).2
  rw [take64_append_last raw hlen, if_neg (not_not_intro hm)] at h
  exact h

example : nativeSignBytes (List.replicate 64 1 ++ [1]) = List.replicate 64 1 ++ [28] := by decide +kernel

def CacheOK (cr : Crypto) (e : EthTx) : Option SigCache → Prop
  | none => True
  | some sc => ethSender cr sc.chainId e = some sc.sender

theorem senderCached_spec (cr : Crypto) (e : EthTx) (cache : Option SigCache) (c : Nat)
    (hc : CacheOK cr e cache) :
    (senderCached cr cache c e).1 = ethSender cr c e ∧ CacheOK cr e (senderCached cr cache c e).2 := by
  unfold senderCached
  rcases cache with _ | sc
  · cases hs : ethSender cr c e
    · exact ⟨rfl, hc⟩
    · exact ⟨rfl, hs⟩
  · dsimp only
    by_cases heq : sc.chainId = c
    · rw [if_pos heq]; exact ⟨heq ▸ hc.symm, hc⟩
    · rw [if_neg heq]
      cases hs : ethSender cr c e
      · exact ⟨rfl, hc⟩
      · exact ⟨rfl, hs⟩

theorem senderRun_of_cacheOK (cr : Crypto) (e : EthTx) (cs : List Nat) (cache : Option SigCache)
    (hc : CacheOK cr e cache) : senderRun cr e cache cs = cs.map (fun c => ethSender cr c e) := by
  induction cs generalizing cache with
  | nil => rfl
  | cons c rest ih =>
    obtain ⟨h1, h2⟩ := senderCached_spec cr e cache c hc
    simp only [senderRun, List.map_cons, h1]
    rw [ih _ h2]

/-- The cache is transparent: any sequence of `Sender` calls on one transaction object, with
    signers of any chain ids in any order, returns what the uncached derivation returns — the
    address cached for one chain id is never handed out for another (seeded regression C07-c fails
    in this way with a cache of the signer, process-wide, instead of the sender). -/
theorem sender_cache_transparent (cr : Crypto) (e : EthTx) (cs : List Nat) :
    senderRun cr e none cs = cs.map (fun c => ethSender cr c e) :=
  senderRun_of_cacheOK cr e cs none True.intro

example : senderRun toyCrypto toyEth155 none [9, 10, 9] =
    [some (List.replicate 20 1), none, some (List.replicate 20 1)] := by decide +kernel

theorem admitFlags_length (cr : Crypto) (cfg : ChainCfg) (h : Nat) (have_ : List Bytes) (txs : List Tx) :
    (admitFlags cr cfg h have_ txs).length = txs.length := by
  induction txs generalizing have_ with
  | nil => rfl
  | cons x rest ih =>
    unfold admitFlags
    split <;> simp [ih]

/-- The flags select exactly the transactions `admitBatch` adds (so the theorems of
    `Props/C07Batch` speak about the function the correspondence stream runs). -/
theorem admitBatch_eq_flagged (cr : Crypto) (cfg : ChainCfg) (h : Nat) (have_ : List Bytes) (txs : List Tx) :
    admitBatch cr cfg h have_ txs =
      ((txs.zip (admitFlags cr cfg h have_ txs)).filter (fun p => p.2)).map (fun p => p.1) := by
  induction txs generalizing have_ with
  | nil => rfl
  | cons x rest ih =>
    unfold admitBatch admitFlags
    by_cases hc : verifyTx cr cfg h x = .ok ∧ x.hash ∉ have_
    · rw [if_pos hc, if_pos hc]
      simp [ih]
    · rw [if_neg hc, if_neg hc]
      simp [ih]

example : admitFlags toyCrypto toyCfg 0 [] [{ toyNative with hash := List.replicate 32 9 }, toyNative, toyNative]
    = [false, true, false] := by decide +kernel

end Rangers.Props.C07
