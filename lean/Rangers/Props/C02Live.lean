import Rangers.Proofs.TrieLiveRun
import Rangers.Props.C02
/-!
# C02, the live trie: cache flags, unloaded (hash) nodes, lazy resolution, cache generations

`Trie.lstep` (Model/TrieMachine.lean, executed by `Drive/C02.lean`) is the trie as it sits in
memory: `nodeFlag{hash,gen,dirty}` on every node, clean subtrees unloaded to `hashNode`s by
`Commit` according to the cache-generation rule, `tryGet`/`insert`/`delete` resolving hash nodes
against the node database on demand (including the `resolve` inside `delete`'s branch reduction),
`hasher.hash` reusing cached hashes.  These theorems say that none of this is observable:
every operation answers what the fully loaded, flag-free model of `Props/C02.lean` answers.

Hypothesis `HistoryHashOK H ops`: **among the nodes that occur in the history** (`Occurs ops`: every
node of every intermediate trie — a finite set) no two different ones share a hash, none hashes to
one of the two constants `NewTrie` takes for "empty trie", and digests are 32 bytes.  (A hypothesis
over *all* nodes would be unsatisfiable by any 32-byte hash and make the theorems vacuous.)
`Sim H U lt t`: the live trie `lt` stands for the loaded trie `t`
(`AbsR`: same shape up to unloaded subtrees whose hash is in the store; `FlagOK`: every cached
hash is the node's hash, every clean node is in the store).
-/
namespace Rangers.Props.C02Live
open Rangers Rangers.Trie

/-- **lazy resolution is transparent**: a hash node standing for `t` resolves (`resolveHash` →
    `expandNode`) to a loaded node standing for `t`; needs no collision hypothesis. -/
theorem resolve_transparent (H : Bytes → Bytes) (st : Store) (child : Bool) (t : Node) (l : LNode)
    (h : HashOf H st child t l) (gen : Nat) :
    ∃ l', resolveHash st gen (H (enc H t)) = some l' ∧ AbsL H st child t l' :=
  resolve_hashOf h gen

/-- `tryGet` on a partially unloaded trie reads what the loaded trie reads, and the path it
    caches back into the trie still stands for the same trie -/
theorem get_on_partial_trie (H : Bytes → Bytes) (st : Store) (gen : Nat) (t : Node) (child : Bool) (l : LNode)
    (key : Key) (f : Nat) (ht : WFRoot t) (hk : ValidKey key) (habs : AbsR H st child t l)
    (hf : 2 * key.length + 2 ≤ f) :
    ∃ l' dr, getL st gen f l key = some (get t key, l', dr) ∧ AbsR H st child t l' :=
  getL_refines H st gen (walk_of_wf t key ht hk) child l f habs hf

/-- `insert` on a partially unloaded trie: same dirty result, and the new live trie stands for
    the loaded trie after the same insert (hence same content, same root) -/
theorem insert_on_partial_trie (H : Bytes → Bytes) (st : Store) (gen : Nat) (val : Bytes) (t : Node)
    (child : Bool) (l : LNode) (key : Key) (f : Nat) (ht : WFRoot t) (hk : ValidKey key)
    (habs : AbsR H st child t l) (hf : 2 * key.length + 2 ≤ f) :
    ∃ l', insertL st gen f l key (.value val) = some ((insert t key (.value val)).1, l') ∧
      AbsL H st child (insert t key (.value val)).2 l' :=
  insertL_refines H st gen val (walk_of_wf t key ht hk) child l f habs hf

/-- `delete` on a partially unloaded trie, including the resolution of the remaining child in the
    branch reduction -/
theorem delete_on_partial_trie (H : Bytes → Bytes) (st : Store) (gen : Nat) (t : Node)
    (child : Bool) (l : LNode) (key : Key) (f : Nat) (ht : WFRoot t) (hk : ValidKey key)
    (habs : AbsR H st child t l) (hf : 2 * key.length + 2 ≤ f) :
    ∃ l', deleteL st gen f l key = some ((delete t key).1, l') ∧ AbsL H st child (delete t key).2 l' :=
  deleteL_refines H st gen (walk_of_wf t key ht hk) child l f habs hf

/-- **the hasher**: whatever mixture of cached hashes, dirty nodes and unloaded subtrees the live
    trie is, `hasher.hash` returns the reference the loaded model computes (`refOf`, or the hash
    when forced), leaves a live trie that still stands for `t` (with truthful flags, whichever
    clean nodes the cache-generation rule unloaded), only adds to the store, and with a database
    stores every node of `t`. -/
theorem hasher_spec (H : Bytes → Bytes) (U : Node → Prop) (hnc : NoColl H U) (hcl : ClosedU U) (gen limit : Nat)
    (withDb : Bool) (t : Node) (ht : WF t) (hU : U t) (child : Bool) (l : LNode) (st : Store)
    (hs : StoreSound H U st) (habs : AbsR H st child t l) :
    HashSpec H U st withDb child t (hashL H gen limit withDb l (!child) st) :=
  hashL_spec hnc hcl gen limit withDb t ht hU child l st hs habs

/-- **the disk path**: `decodeNode` on the RLP blob the hasher wrote for a minimal-form node
    (children embedded when < 32 bytes, otherwise 32-byte hash references; hex-prefix keys) yields
    exactly the live node `expandNode` builds from the collapsed node kept in the memory cache.
    Hypotheses: hashes are 32 bytes long, the blob is shorter than 2^64 bytes. -/
theorem decodeNode_encodeNode (H : Bytes → Bytes) (h32 : ∀ x, (H x).length = 32) (gen : Nat) (t : Node)
    (ht : WF t) (hsz : (enc H t).length < 256 ^ 8) (hh : Option Bytes) (f : Nat) (rest : Bytes)
    (hf : 20 * (enc H t).length + 20 ≤ f) :
    decodeNode gen f hh (enc H t ++ rest) = expandNode gen hh (collapse H t) := by
  rw [← encC_collapse H t ht]
  exact decodeNode_collapse H h32 gen t ht hsz hh f rest hf

/-- …so resolving from disk and resolving from the memory cache agree -/
theorem disk_path_eq_memory_path (H : Bytes → Bytes) (h32 : ∀ x, (H x).length = 32) (st : Store) (gen : Nat)
    (t : Node) (ht : WF t) (hsz : (enc H t).length < 256 ^ 8) (h : Bytes)
    (hlk : st.lookup h = some (collapse H t)) : resolveHashDisk st gen h = resolveHash st gen h :=
  resolveHashDisk_eq H h32 st gen t ht hsz h hlk

-- non-vacuity: the executable Keccak-256 returns 32 bytes; a one-leaf trie is small
example : ∀ x, (Keccak.keccak256 x).length = 32 := by intro x; simp [Keccak.keccak256, Keccak.laneBytes]
example (H : Bytes → Bytes) : WF (run [.upd [1] [2]]) ∧ (enc H (run [.upd [1] [2]])).length < 256 ^ 8 := by
  have hr : run [.upd [1] [2]] = .short [0, 1, 16] (.value [2]) := rfl
  refine ⟨(C02.run_wf _).resolve_left (by rw [hr]; simp), ?_⟩
  have : (enc H (run [.upd [1] [2]])).length = 5 := by rw [hr]; rfl
  rw [this]; decide

/-- one step of the two machines: same observation, simulation preserved -/
theorem live_step_refines (H : Bytes → Bytes) (U : Node → Prop) (hok : HashOK H U) (F : Nat) (lt : LTrie) (t : Node)
    (h : Sim H U lt t) (hF : 2 * height t + 2 ≤ F) (hsz : (enc H t).length < 256 ^ 8) (hU : U t) (op : Op) :
    (lstep H F lt op).2 = (nstep H t op).2 ∧ Sim H U (lstep H F lt op).1 (nstep H t op).1 :=
  sim_step hok F h ⟨hU, hF, hsz⟩ op

/-- the assumption on the hash function, restricted to the nodes that occur in the history -/
structure HistoryHashOK (H : Bytes → Bytes) (ops : List Op) : Prop where
  nocoll : NoColl H (Occurs ops)
  noconst : ∀ t, Occurs ops t → WF t → H (enc H t) ≠ emptyRoot ∧ H (enc H t) ≠ List.replicate 32 0
  len32 : ∀ x, (H x).length = 32

theorem HistoryHashOK.toHashOK {H : Bytes → Bytes} {ops : List Op} (h : HistoryHashOK H ops) : HashOK H (Occurs ops) :=
  ⟨h.nocoll, closedU_occurs ops, h.noconst, h.len32⟩

/-- **unloading, reloading and caching are unobservable**: over any history of updates, deletes,
    reads, `Hash`, `Commit`, reopen, cache-limit changes and iterations, the live trie answers
    exactly what the fully loaded trie answers.  The iteration fuel only has to cover the longest
    key written (`4 * maxKeyBytes + 6`; the driver uses 8200). -/
theorem live_run_observes (H : Bytes → Bytes) (ops : List Op) (hok : HistoryHashOK H ops) (F : Nat)
    (hF : 4 * maxKeyBytes ops + 6 ≤ F)
    (hsz : ∀ pre, pre <+: ops → (enc H (run pre)).length < 256 ^ 8) :
    (lrun H F LTrie.empty ops).2 = (nrun H .nil ops).2 ∧ Sim H (Occurs ops) (lrun H F LTrie.empty ops).1 (run ops) :=
  lrun_empty hF hsz hok.toHashOK

/-- the loaded machine's state is the `run` of `Props/C02`, so all its theorems transfer -/
theorem loaded_machine_state (H : Bytes → Bytes) (ops : List Op) : (nrun H .nil ops).1 = run ops :=
  nrun_state H .nil ops

/-- reads on the live trie return the last write (via `Props.C02.reads_last_write`) -/
theorem live_reads_last_write (H : Bytes → Bytes) (ops : List Op) (hok : HistoryHashOK H ops) (F : Nat) (k : Bytes)
    (hF : 4 * maxKeyBytes ops + 6 ≤ F)
    (hsz : ∀ pre, pre <+: ops → (enc H (run pre)).length < 256 ^ 8) :
    (lstep H F (lrun H F LTrie.empty ops).1 (.get k)).2 = .value (finalMap ops k) := by
  rw [lstep_after_run hF hsz hok.toHashOK]
  simp only [nstep]
  rw [C02.reads_last_write]

/-- the root the live trie reports is history-independent and equals the loaded model's root
    (hence the Yellow Paper root, `Props.C02.root_eq_yellow_paper`) -/
theorem live_root (H : Bytes → Bytes) (ops : List Op) (hok : HistoryHashOK H ops) (F : Nat)
    (hF : 4 * maxKeyBytes ops + 6 ≤ F)
    (hsz : ∀ pre, pre <+: ops → (enc H (run pre)).length < 256 ^ 8) :
    (lstep H F (lrun H F LTrie.empty ops).1 .hash).2 = .root (rootHash H (run ops)) ∧
    (lstep H F (lrun H F LTrie.empty ops).1 .commit).2 = .root (rootHash H (run ops)) ∧
    (lstep H F (lrun H F LTrie.empty ops).1 .reopen).2 = .root (rootHash H (run ops)) ∧
    (lstep H F (lrun H F LTrie.empty ops).1 .dbcommit).2 = .root (rootHash H (run ops)) :=
  ⟨lstep_after_run hF hsz hok.toHashOK .hash, lstep_after_run hF hsz hok.toHashOK .commit,
    lstep_after_run hF hsz hok.toHashOK .reopen, lstep_after_run hF hsz hok.toHashOK .dbcommit⟩

-- non-vacuity of `Sim`: the empty live trie stands for the empty trie
example (H : Bytes → Bytes) (U : Node → Prop) : Sim H U LTrie.empty .nil := sim_empty H U

/-- a 32-byte toy hash (the first 32 bytes, zero padded) for the non-vacuity example below -/
def toyHash (x : Bytes) : Bytes := (x ++ List.replicate 32 0).take 32

/-- **non-vacuity of `HistoryHashOK`**: a concrete history (one write, a commit, a reopen) and a
    concrete 32-byte hash satisfy the hypothesis of the run theorems — the only minimal-form node
    that occurs is the leaf, and it does not hash to either constant. -/
theorem historyHashOK_witness : HistoryHashOK toyHash [.upd [1] [2], .commit, .reopen] := by
  have hocc : ∀ t, Occurs [.upd [1] [2], .commit, .reopen] t → WF t → t = .short [0, 1, 16] (.value [2]) := by
    rintro t ⟨pre, hp, hm⟩ hwf
    simp only [List.prefix_cons_iff, List.prefix_nil] at hp
    have hruns : run pre = .nil ∨ run pre = .short [0, 1, 16] (.value [2]) := by
      rcases hp with rfl | ⟨_, rfl, rfl | ⟨_, rfl, rfl | ⟨_, rfl, rfl⟩⟩⟩
      · exact Or.inl rfl
      · exact Or.inr rfl
      · exact Or.inr rfl
      · exact Or.inr rfl
    rcases hruns with h | h
    · rw [h] at hm; simp [subnodes] at hm; subst hm; exact absurd hwf not_WF_nil
    · rw [h] at hm
      simp only [subnodes, List.mem_cons, List.not_mem_nil, or_false] at hm
      rcases hm with rfl | rfl
      · rfl
      · exact absurd hwf (not_WF_value _)
  refine ⟨fun a b ha hb wa wb _ => by rw [hocc a ha wa, hocc b hb wb], fun t ht hwf => ?_, fun x => by simp [toyHash]⟩
  rw [hocc t ht hwf]
  decide
-- non-vacuity of the fuel bound: the driver's fuel covers a history with 32-byte keys
example : 4 * maxKeyBytes [.upd (List.replicate 32 7) [1], .commit, .get (List.replicate 32 7)] + 6 ≤ 8200 := by decide

end Rangers.Props.C02Live
