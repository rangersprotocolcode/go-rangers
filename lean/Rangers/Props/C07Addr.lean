import Rangers.Props.C07
/-!
# C07 — the address of a public key

`nativeAddrStr` models `BytesToPublicKey(pk).GetAddress()`: the coordinates become integers,
`GetID` writes them back right-aligned into 32-byte slots (`getIDInput`), Keccak, last 20
bytes.  With that padding the address is the *reference* address — the digest of the 64
coordinate bytes as they stand in the key — for every key, short coordinates included; without
it (minimal bytes) the digest input is a different string exactly for those keys.
-/
namespace Rangers.Props.C07
open Rangers Rangers.Model.TxAuth

theorem getIDInput_is_coordinates (pk : Bytes) (h : pk.length = 65) : getIDInput pk = pk.drop 1 := by
  unfold getIDInput pubX pubY
  have hl : (pk.drop 1).length = 64 := by rw [List.length_drop, h]
  rw [show pk.drop 33 = (pk.drop 1).drop 32 from (List.drop_drop (i := 32) (j := 1)).symm,
    halves_rebuild (pk.drop 1) (Nat.le_of_eq hl.symm), List.take_of_length_le (Nat.le_of_eq hl)]

/-- The sender address is the reference address: the address string the signature check
    compares with `Source` is `0x` + hex of the last 20 bytes of Keccak-256 over the 64
    coordinate bytes of the recovered key. -/
theorem native_address_is_reference (cr : Crypto) (pk : Bytes) (h : pk.length = 65) :
    nativeAddrStr cr pk = toHex0x (toAddress (cr.keccak (pk.drop 1))) := by
  unfold nativeAddrStr
  rw [getIDInput_is_coordinates pk h]

/-- a key whose X coordinate has a leading zero byte -/
def shortXKey : Bytes := 4 :: 0 :: List.replicate 31 7 ++ List.replicate 32 9

example : shortXKey.length = 65 := by decide +kernel

/-- Why the padding matters (seeded regression C07-d): for a key with a short coordinate the
    minimal coordinate bytes are *not* the digest input, so an implementation hashing
    `X.Bytes() ‖ Y.Bytes()` derives another address for such keys. -/
theorem unpadded_input_differs :
    natToBE (pubX shortXKey) ++ natToBE (pubY shortXKey) ≠ getIDInput shortXKey := by
  intro h
  have := congrArg List.length h
  rw [getIDInput_is_coordinates shortXKey (by decide)] at this
  revert this
  decide +kernel

/-- Honest acceptance stated against the reference address: a transaction whose `Source` is
    the reference address of the key its signature recovers to (and verifies for) is accepted. -/
theorem honest_native_accepted_reference (cr : Crypto) (cfg : ChainCfg) (h : Nat) (tx : Tx) (sg : Sign) (pk : Bytes)
    (hty : tx.type ≠ typeETHTX) (hcid : tx.chainId = chainIdStr cfg h) (hhash : tx.hash = cr.sha256 (ser tx))
    (hsign : tx.sign = some sg) (hrec : recoverPubkey cr tx.hash sg.bytes = some pk) (hpk : pk.length = 65)
    (hver : libVerify cr pk tx.hash (sg.bytes.take 64) = true)
    (hsrc : tx.source = toHex0x (toAddress (cr.keccak (pk.drop 1)))) :
    verifyTx cr cfg h tx = .ok :=
  honest_native_accepted cr cfg h tx sg pk hty hcid hhash hsign hrec hver
    (by rw [native_address_is_reference cr pk hpk]; exact hsrc)

end Rangers.Props.C07
