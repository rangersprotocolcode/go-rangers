import Rangers.Proofs.Bls14Text
import Rangers.Props.C14
import Rangers.Props.C14E
/-!
# C14 — textual encodings (hex strings, JSON) are faithful

`GetHexString` → `SetHexString` (and `MarshalJSON` → `UnmarshalJSON`) give the value back for every
secret key (any number of hex digits, odd counts and zero included), every id below 2^256, every
valid signature and every valid public key; plus the quirks of the parsers as they are.
Model: `Model/Bls14Text.lean`; tie: ops `skhex/skseth/idhex/idseth/idjson/idunjson/sighex/sigseth/
pkhex/pkseth/pkjson/pkunjson` and the shape facts of the getters/setters and of `common.Hex2Bytes`.
-/
namespace Rangers.Props.C14
open Rangers Rangers.Model.Bls14 Rangers.Proofs.Bls14

theorem bnSetHexString_digit (old d : Nat) (hd : d < 16) (cs : List Char) :
    bnSetHexString old ('0' :: 'x' :: hexDigit d :: cs) = .ok (scanHex (hexDigit d :: cs) 0 0).1 := by
  have hs := hexDigit_not_sign d hd
  unfold bnSetHexString
  simp only
  split
  · next h => cases h
  · next h => exact absurd (List.cons.inj h).1 hs.1
  · next h => exact absurd (List.cons.inj h).1 hs.2
  · rfl

/-- **Secret keys survive the hex round trip** — every value, whatever the receiver held before;
    in particular values whose top nibble is zero (an odd number of digits) and zero (`0x0`). -/
theorem seckey_hex_roundtrip (old n : Nat) : bnSetHexString old (bnGetHexString n) = .ok n := by
  obtain ⟨d, cs, hd, hcs⟩ := natHex_head n
  rw [bnGetHexString, hcs, bnSetHexString_digit old d hd, ← hcs, (scanHex_natHex n).1]

example : bnGetHexString 0xabc = ['0', 'x', 'a', 'b', 'c'] ∧ bnGetHexString 0 = ['0', 'x', '0'] := by decide

/-- Ids (printed as 64 digits through `ToHex(Serialize())`, parsed like secret keys). -/
theorem id_hex_roundtrip (old n : Nat) (h : n < 2 ^ 256) :
    ∃ s, idGetHexString n = some s ∧ bnSetHexString old s = .ok n := by
  obtain ⟨b, hb, hl, hv⟩ := id_roundtrip n h
  refine ⟨toHex0x b, by simp [idGetHexString, hb], ?_⟩
  cases b with
  | nil => simp at hl
  | cons x xs =>
    obtain ⟨d, cs, hd, hcs⟩ := bytes2Hex_head x xs
    have hsc := scanHex_bytes2Hex (x :: xs) 0 0
    rw [Nat.zero_mul, Nat.zero_add, show beToNat (x :: xs) = n from hv] at hsc
    rw [show toHex0x (x :: xs) = '0' :: 'x' :: bytes2Hex (x :: xs) from rfl, hcs,
      bnSetHexString_digit old d hd, ← hcs, hsc]

example : (77 : Nat) < 2 ^ 256 := by decide

/-- `Hex2Bytes ∘ Bytes2Hex = id`, and the decoder's quirk: one dangling nibble, or anything from
    the first non-hex character on, is silently dropped. -/
theorem hex_bytes_roundtrip (b : Bytes) :
    hex2Bytes (bytes2Hex b) = b ∧ (∀ c, hex2Bytes (bytes2Hex b ++ [c]) = b) ∧
    (∀ c cs, hexVal? c = none → hex2Bytes (bytes2Hex b ++ c :: cs) = b) :=
  ⟨hex2Bytes_bytes2Hex b,
   fun c => hex2Bytes_bytes2Hex_append b [c] (Or.inr (Or.inl ⟨c, rfl⟩)),
   fun c cs hc => hex2Bytes_bytes2Hex_append b (c :: cs) (Or.inr (Or.inr ⟨c, cs, rfl, hc⟩))⟩

/-- **Signatures survive the hex round trip**, whatever the receiver held. -/
theorem sig_hex_roundtrip (old : Sig) (q : Pt) (hc : q.onCurve = true) (hr : q.reduced = true) :
    sigSetHexString old (sigGetHexString (.pt q)) = (.pt q, false) := by
  simp only [sigGetHexString, sigSetHexString, hex2Bytes_bytes2Hex, g1_marshal_unmarshal old q hc hr]

example : g1Gen.onCurve = true ∧ g1Gen.reduced = true := by decide

/-- **Public keys survive the hex round trip** (valid = non-identity reduced twist point). -/
theorem pubkey_hex_roundtrip (old : Pub) (x y : F2)
    (hr : x.x < P ∧ x.y < P ∧ y.x < P ∧ y.y < P) (hc : onTwistXY x y = true) :
    pubSetHexString old (pubGetHexString (.pt (.aff x y))) = (.pt (.aff x y), false) := by
  simp only [pubGetHexString, pubSetHexString, Pub.serialize, hex2Bytes_bytes2Hex,
    g2_marshal_unmarshal old x y hr hc]

/-- `UnmarshalJSON(MarshalJSON(·))` hands the hex string back to `SetHexString` (so the JSON round
    trips of ids and public keys follow from the two theorems above). -/
theorem json_strip_quote (s : List Char) : jsonStrip (jsonQuote s) = some s := by
  simp [jsonStrip, jsonQuote]

/-- Parser quirks of `BnInt.setHexString`, as the code has them (recorded, not claimed correct):
    the empty digit string leaves the OLD value with a nil error; no `0x` prefix is the only
    reported error; a string without any digit gives 0. -/
theorem bn_set_hex_quirks (old : Nat) :
    bnSetHexString old ['0', 'x'] = .ok old ∧
    bnSetHexString old ['1', '2'] = .argFailed ∧
    bnSetHexString old ['0', 'X', '1'] = .argFailed ∧
    bnSetHexString old ['0', 'x', 'z'] = .ok 0 ∧
    bnSetHexString old ['0', 'x', '1', '2', 'g', '5'] = .ok 0x12 := by
  exact ⟨rfl, rfl, rfl, congrArg SetHexRes.ok (by decide : (scanHex ['z'] 0 0).1 = 0),
    congrArg SetHexRes.ok (by decide : (scanHex ['1', '2', 'g', '5'] 0 0).1 = 0x12)⟩

end Rangers.Props.C14
