import Rangers.Proofs.Evm12Logs
/-!
# C12, clause 3: per-transaction scratch state and receipt logs

`Prepare` is called before each transaction only under Proposal013 (`vmexecutor.go:80`), and only
then do receipts take `GetLogs(tx.Hash)`; the theorems say so (`cfg.p013 = true`).
-/
namespace Rangers.Props.C12B
open Rangers.Model.Evm12

/-- `AccountDB.Prepare`: fresh access list, new stamping context, observation untouched -/
theorem prepare_resets (w : World) (h i : Nat) :
    (∀ a, (prepare w h i).inAccessList a = false) ∧ (prepare w h i).thash = h
    ∧ (prepare w h i).txIndex = i ∧ obs (prepare w h i) = obs w :=
  ⟨fun _ => rfl, rfl, rfl, rfl⟩

/-- every transaction starts with an empty access list, whatever the earlier transactions of the
    block put into it, and `GetLogs` of its (so far unused) hash is empty -/
theorem tx_scratch_fresh_partial (cfg : Cfg) (h13 : cfg.p013 = true) (i : Nat) (w : World) (tx : Tx)
    (hfresh : w.getLogs tx.hash = []) :
    (∀ a, (txStartWorld cfg i w tx).inAccessList a = false)
    ∧ (txStartWorld cfg i w tx).getLogs tx.hash = [] := by
  simp only [txStartWorld, h13, ↓reduceIte]
  exact ⟨fun _ => rfl, hfresh⟩

/-- `hfresh` can be met: a world with access-list and transient entries and no logs -/
example : ({ access := [.base 1], transient := [((.base 20, 1), 9)] } : World).getLogs 2 = [] := rfl

def FullStatementTxScratchFresh : Prop :=
  ∀ (cfg : Cfg), cfg.p013 = true → ∀ (i : Nat) (w : World) (tx : Tx) (a : Addr) (k : Nat),
    (txStartWorld cfg i w tx).inAccessList a = false ∧ (txStartWorld cfg i w tx).getTransient a k = 0

/-- False of model and code: `Prepare` does not touch `transientStorage` (generated fact
    `prepare_assigns_as_modelled`), so a TSTORE of the previous transaction is still read.
    Replayed on the implementation (known finding `tx-scratch:transient-not-reset`). -/
theorem tx_scratch_fresh_counterexample : ¬ FullStatementTxScratchFresh := by
  intro h
  have := (h {} rfl 1 { transient := [((.base 20, 1), 9)] }
    { hash := 2, origin := .base 10, kind := .call (.base 21), value := 0, body := .done .stop } (.base 20) 1).2
  revert this
  decide +kernel

/-- Under Proposal013 the logs attached to a receipt are exactly the logs the transaction added
    to the state object and that were not reverted: the world's log list grows by precisely
    `receipt.logs`, each stamped with this transaction's hash -- whatever `w` (the earlier
    transactions' effects) is, provided the hash was not used before. -/
theorem receipt_logs_exact (cfg : Cfg) (h13 : cfg.p013 = true) (rv : World → World → World)
    (hrv : RevertRestoresObs rv) (hkc : RevertKeepsTxContext rv) (i : Nat) (w : World) (tx : Tx)
    (hfresh : w.getLogs tx.hash = []) :
    (execTx cfg rv i w tx).1.logs = w.logs ++ (execTx cfg rv i w tx).2.logs
    ∧ ∀ l ∈ (execTx cfg rv i w tx).2.logs, l.txh = tx.hash := by
  have hlogs : (execTx cfg rv i w tx).2.logs = (execTx cfg rv i w tx).1.getLogs tx.hash := by
    unfold execTx
    simp only [h13, ↓reduceIte]
  rw [hlogs]
  exact (execTx_extend cfg h13 rv hrv hkc i w tx).logs_eq hfresh

example : RevertRestoresObs restore ∧ RevertKeepsTxContext restore :=
  ⟨restore_restoresObs, restore_keepsTxContext⟩

/-- non-vacuity: two transactions back to back; the second one's receipt carries its own LOG only,
    not the first one's and not the one of its reverted sub-frame -/
example :
    let cfg : Cfg := {}
    let w0 : World := (({} : World).setCode (.base 20) .hosted).setCode (.base 21) .hosted
    let t1 : Tx := { hash := 1, origin := .base 10, kind := .call (.base 20), value := 0, body := .log 1 11 (.done .stop) }
    let t2 : Tx := { hash := 2, origin := .base 10, kind := .call (.base 21), value := 0,
                     body := .call 1 .call (.base 20) 0 (.log 0 12 (.done .revert)) (.log 0 21 (.done .stop)) }
    let p1 := execTx cfg restore 0 w0 t1
    let p2 := execTx cfg restore 1 p1.1 t2
    p2.2.logs.map (·.tag) = [21] ∧ p1.2.logs.map (·.tag) = [11] ∧ p2.1.logs.map (·.tag) = [11, 21] := by
  decide +kernel

/-- the clause for every fork configuration, and for the log list `evm.Call` returns (which is
    what the receipt's result JSON shows) -/
def FullStatementReceiptLogsExact : Prop :=
  ∀ (cfg : Cfg) (rv : World → World → World), RevertRestoresObs rv → RevertKeepsTxContext rv →
    ∀ (i : Nat) (w : World) (tx : Tx), w.getLogs tx.hash = [] →
      (execTx cfg rv i w tx).1.logs = w.logs ++ (execTx cfg rv i w tx).2.logs
      ∧ (execTx cfg rv i w tx).2.returned = (execTx cfg rv i w tx).2.logs

/-- False of model and code: a REVERTing frame hands its `callContext.logs` back
    (`interpreter.go:267`) and the caller appends them whatever the error (`opCall`), so the returned
    list -- and before Proposal013 `receipt.Logs` -- contains the LOG of a reverted sub-frame.
    Replayed on the implementation (known findings `returned-logs:reverted-subframe`,
    `receipt-logs:pre013`). -/
theorem receipt_logs_exact_counterexample : ¬ FullStatementReceiptLogsExact := by
  intro h
  have := (h {} restore restore_restoresObs restore_keepsTxContext 0
    ((({} : World).setCode (.base 20) .hosted).setCode (.base 22) .hosted)
    { hash := 1, origin := .base 10, kind := .call (.base 20), value := 0,
      body := .call 2 .call (.base 22) 0 (.log 2 77 (.done .revert)) (.done .stop) } rfl).2
  have h2 := congrArg List.length this
  revert h2
  decide +kernel

end Rangers.Props.C12B
