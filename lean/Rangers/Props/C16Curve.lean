import Mathlib.Data.ZMod.Basic
import Mathlib.Algebra.Field.ZMod
import Rangers.Model.VrfCurve
import Rangers.Proofs.C16Curve
import Rangers.Proofs.C16Group
import Rangers.Proofs.C16Cast
/-!
C16: how far the hypothesis `Lawful` (group laws of the curve) is discharged.
For EVERY field with −1 = i², d a non-square, 2 ≠ 0 the points of the twisted Edwards curve form a
commutative group (`Proofs/C16Group.lean`); the model's extended-coordinate `add`, read in `ZMod p`,
computes that law. That p = 2^255−19 is prime, d a non-square mod p, and the bridge for `sub` are in
`Props/C16Prime.lean`. REMAINS ASSUMED for the concrete curve (see design/C16.md): the bridge for
`dbl`/scalar multiplication/`fromBytes`/`encode`; `L·B = 0` beyond its evaluation on the model
(`base_point_order_L`), `L·(8Q) = 0`, `B` of exact order `L` (#E = 8L).
-/
namespace Rangers.Props.C16Curve
open Rangers.Model Rangers.Proofs.C16Curve Rangers.Proofs.C16Group Rangers.Proofs.C16Cast

/-- The points of a complete twisted Edwards curve form a commutative group under the
    addition law that `geAdd` implements (all group axioms, no hypothesis beyond the curve
    parameters' side conditions). -/
theorem edwards_group_laws {F : Type} [Field F] (P : EdParams F) (a b c : EdPoint P) :
    a + b + c = a + (b + c) ∧ a + b = b + a ∧ a + 0 = a ∧ 0 + a = a ∧ a + -a = 0 :=
  ⟨add_assoc a b c, add_comm a b, add_zero a, zero_add a, add_neg_cancel a⟩

instance fact13 : Fact (Nat.Prime 13) := ⟨by decide⟩

/-- non-vacuity: such parameters and a non-trivial curve point exist (𝔽₁₃, d = 2, i = 5, point (2,4)) -/
def toyParams : EdParams (ZMod 13) where
  d := 2
  i := 5
  hi := by decide
  h2 := by decide
  hd := by
    rintro ⟨r, hr⟩
    revert r
    decide

example : EdPoint toyParams := ⟨2, 4, by unfold OnCurve toyParams; decide⟩

/-- Completeness of the law: on curve points no denominator of the addition formulas vanishes. -/
theorem edwards_complete {F : Type} [Field F] (P : EdParams F) (a b : EdPoint P) :
    1 + P.d * a.x * b.x * a.y * b.y ≠ 0 ∧ 1 - P.d * a.x * b.x * a.y * b.y ≠ 0 := dn a b

/-- `ProjectiveGroupElement.Double`'s formula equals `P + P` on curve points. -/
theorem doubling_formula_agrees {F : Type} [Field F] (d x y : F) (h : OnCurve d x y) :
    (2 * x * y) / (y ^ 2 - x ^ 2) = addX d x y x y ∧
    (y ^ 2 + x ^ 2) / (2 - (y ^ 2 - x ^ 2)) = addY d x y x y := dbl_eq_add d x y h

/-- The constant `SqrtM1` of the model squares to −1 mod p (so `i` exists for the concrete field). -/
theorem sqrtM1_squares_to_minus_one : VrfCurve.fmul VrfCurve.sqrtM1 VrfCurve.sqrtM1 = VrfCurve.p - 1 := by
  decide +kernel

/-- Euler's criterion value for d: d^((p−1)/2) = −1 mod p (with p prime this says d is a non-square). -/
theorem d_euler_value : VrfCurve.fchi VrfCurve.dConst = VrfCurve.p - 1 := by decide +kernel

/-- The model's `add` (ref10 `geAdd` + `ToExtended` on naturals mod p) computes the Edwards
    addition law on affine coordinates in `ZMod p`, and preserves the representation invariant.
    Assumes p prime, well-formed inputs and non-zero denominators of the addition formulas. -/
theorem model_add_is_group_law [Fact (Nat.Prime VrfCurve.p)] (a q : VrfCurve.Point)
    (ha : WellFormed a) (hq : WellFormed q)
    (hD1 : 1 + (VrfCurve.dConst : Fp) * affX a * affX q * affY a * affY q ≠ 0)
    (hD2 : 1 - (VrfCurve.dConst : Fp) * affX a * affX q * affY a * affY q ≠ 0) :
    WellFormed (VrfCurve.add a q) ∧
    affX (VrfCurve.add a q) = addX (VrfCurve.dConst : Fp) (affX a) (affY a) (affX q) (affY q) ∧
    affY (VrfCurve.add a q) = addY (VrfCurve.dConst : Fp) (affX a) (affY a) (affX q) (affY q) :=
  model_add_affine a q ha hq hD1 hD2

/-- The base point of the model is on the curve (as naturals mod p): −x² + y² = 1 + d·x²·y². -/
theorem base_point_on_curve :
    let b := VrfCurve.basePoint
    VrfCurve.fadd (VrfCurve.fneg (VrfCurve.fsq b.X)) (VrfCurve.fsq b.Y) =
      VrfCurve.fadd 1 (VrfCurve.fmul VrfCurve.dConst (VrfCurve.fmul (VrfCurve.fsq b.X) (VrfCurve.fsq b.Y))) ∧
    b.Z = 1 ∧ b.T = VrfCurve.fmul b.X b.Y := by decide +kernel

/-- `L·B` is the identity in the model (the radix-16 table walk of `smulBase`, evaluated by the kernel):
    the order fact `L • B = 0` of `Lawful`, at the level of the executable model. -/
theorem base_point_order_L :
    VrfCurve.encode (VrfCurve.smulBase VrfCurve.L) = VrfCurve.encode VrfCurve.Point.zero := by
  decide +kernel

end Rangers.Props.C16Curve
