import Rangers.Model.Bls14G2
import Rangers.Proofs.Bls14Model
import Rangers.Props.C14E
/-!
# C14 — G2 (public keys): twist arithmetic and the round trip over it

`Model/Bls14G2.lean` is tied to `bn256.G2.Add/Neg/ScalarMult`, `GeneratePubkey`,
`AggregatePubkeys` by the correspondence run. Proved here: every result of the model's twist
arithmetic is reduced (so the byte-level round trip applies to it), negation stays on the twist,
`P + (−P) = ∞` in every case, and therefore keys produced by `GeneratePubkey` /
`AggregatePubkeys` survive `Serialize` / `ByteToPublicKey` exactly when they are not the identity.
Closure of `Pt2.add` on the twist is not proved in this file (it is in `Props/C14V`): "on the twist" is a
hypothesis of the round-trip statements here.
-/
namespace Rangers.Props.C14
open Rangers Rangers.Model.Bls14 Rangers.Proofs.Bls14

theorem f2_sub_reduced (a b : F2) : (F2.sub a b).isReduced = true := (F2_ops_reduced a b).2.1

theorem g2_double_reduced (p : Pt2) (hp : p.reduced = true) : (Pt2.double p).reduced = true :=
  pt2_double_reduced p

theorem g2_add_reduced (p q : Pt2) (hp : p.reduced = true) (hq : q.reduced = true) :
    (Pt2.add p q).reduced = true :=
  pt2_add_reduced p q hp hq

theorem g2_mul_reduced (p : Pt2) (hp : p.reduced = true) (k : Nat) : (Pt2.mul p k).reduced = true := by
  unfold Pt2.mul
  refine List.foldlRecOn (motive := fun s : Pt2 => s.reduced = true) _ _ rfl fun s hs b _ => ?_
  cases b
  · exact g2_double_reduced s hs
  · exact g2_add_reduced _ _ (g2_double_reduced s hs) hp

theorem g2_aggregate_reduced (p : Pt2) (ps : List Pt2) (hp : p.reduced = true)
    (hps : ∀ q ∈ ps, q.reduced = true) (r : Pt2) (h : aggregatePubkeys (p :: ps) = some r) :
    r.reduced = true := by
  simp only [aggregatePubkeys, Option.some.injEq] at h
  subst h
  exact List.foldlRecOn (motive := fun s : Pt2 => s.reduced = true) _ _ hp fun s hs q hq => g2_add_reduced s q hs (hps q hq)

example : g2Gen.reduced = true := by decide

protected theorem fmul_fneg_fneg (a b : Nat) : fmul (fneg a) (fneg b) = fmul a b := Proofs.Bls14.fmul_fneg_fneg a b

/-- `−Q` is on the twist when `Q` is (the `−pk` of the quantifier is a well-formed key). -/
theorem g2_neg_onTwist (x y : F2) (hc : onTwistXY x y = true) : (Pt2.neg (.aff x y)).onCurve = true := by
  simp only [Pt2.neg, Pt2.onCurve, onTwistXY, F2.sq, F2.mul, F2.neg, fmul_fneg_fneg] at hc ⊢
  exact hc

example : (Pt2.neg g2Gen).onCurve = true ∧ Pt2.neg g2Gen ≠ g2Gen := by decide

/-- `P + (−P) = ∞`, whatever `P` (on the twist or not): the aggregate of a key and its negation
    is the identity. -/
theorem g2_add_neg_self (p : Pt2) : Pt2.add p p.neg = .inf := by
  cases p with
  | inf => rfl
  | aff x y =>
    simp only [Pt2.neg, Pt2.add, beq_self_eq_true, if_true]
    split
    · next h =>
      -- y ≡ −y componentwise, p odd ⇒ y ≡ 0 ⇒ the tangent exit of `double`
      simp only [F2.reduce, F2.neg, beq_iff_eq, F2.mk.injEq] at h
      have hy : (F2.reduce y).isZero = true := by
        simp only [F2.isZero, F2.reduce, Bool.and_eq_true, beq_iff_eq]
        exact ⟨fneg_fixed _ h.1, fneg_fixed _ h.2⟩
      simp [Pt2.double, hy]
    · rfl

/-- Consequence for key aggregation: two opposite keys aggregate to the identity, whose
    serialisation (`00`) no consumer can parse back (`ByteToPublicKey` gives the nil key, which
    `VerifySig` rejects). Recorded behaviour; the identity is not a valid public key. -/
theorem aggregate_of_opposite_keys (p : Pt2) :
    aggregatePubkeys [p, p.neg] = some .inf ∧
    byteToPublicKey (Pub.serialize (.pt .inf)) = .nil := by
  refine ⟨?_, identity_pubkey_not_roundtrip⟩
  simp [aggregatePubkeys, g2_add_neg_self]

theorem pubkey_roundtrip_of_reduced (x y : F2) (hr : (Pt2.aff x y).reduced = true)
    (hc : onTwistXY x y = true) :
    byteToPublicKey (Pub.serialize (.pt (.aff x y))) = .pt (.aff x y) := by
  simp only [Pt2.reduced, F2.isReduced, Bool.and_eq_true, decide_eq_true_eq] at hr
  exact pubkey_roundtrip x y ⟨hr.1.1, hr.1.2, hr.2.1, hr.2.2⟩ hc

/-- Round trip over the arithmetic: a key produced by `GeneratePubkey` that is a (non-identity)
    point of the twist survives `Serialize` / `ByteToPublicKey` unchanged. -/
theorem generated_pubkey_roundtrip (sk : Nat) (x y : F2)
    (h : generatePubkey sk = .pt (.aff x y)) (hc : onTwistXY x y = true) :
    byteToPublicKey (Pub.serialize (generatePubkey sk)) = generatePubkey sk := by
  have hr : (Pt2.mul g2Gen sk).reduced = true := g2_mul_reduced g2Gen (by decide) sk
  simp only [generatePubkey, G2Val.pt.injEq] at h
  rw [h] at hr
  rw [generatePubkey, h]
  exact pubkey_roundtrip_of_reduced x y hr hc

example : generatePubkey 1 = .pt g2Gen ∧ g2Gen.onCurve = true := ⟨by decide +kernel, by decide⟩

/-- The same for aggregates. -/
theorem aggregated_pubkey_roundtrip (p : Pt2) (ps : List Pt2) (hp : p.reduced = true)
    (hps : ∀ q ∈ ps, q.reduced = true) (x y : F2)
    (h : aggregatePubkeys (p :: ps) = some (.aff x y)) (hc : onTwistXY x y = true) :
    byteToPublicKey (Pub.serialize (.pt (.aff x y))) = .pt (.aff x y) :=
  pubkey_roundtrip_of_reduced x y (g2_aggregate_reduced p ps hp hps _ h) hc

end Rangers.Props.C14
