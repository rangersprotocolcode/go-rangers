import Rangers.Proofs.GroupChainCrash
import Rangers.Proofs.GroupChainMirror
import Rangers.Proofs.GroupChainSql
import Rangers.Proofs.GroupChainFork
/-!
Property C19 — the group chain is a gap-free linked list whose height index matches it.

All theorems are about `Rangers.Model.GroupChain` — the functions the compiled driver
`drv_c19` executes against the real `groupChain` code on every run. The model follows the code with
its two repairs (`fixed:` entries 69aeb95 and 9f958ca of known-findings.txt): `remove` deletes the removed
group's height-index entry, `save` is one `Put` and one atomic batch whose error is returned.

`Rep l c` (Proofs/GroupChainInv.lean) says that the concrete state `c` (raw-byte-keyed store
+ in-memory `count` / `lastGroup`) represents the list `l` of groups, genesis first. The
clauses of the property are consequences of `Rep`, and every operation preserves `Rep`.
-/
namespace Rangers.Props.C19
open Rangers Rangers.Model.GroupChain

/-- "the number of groups equals the length of that list" -/
theorem count_eq_length {l : List Group} {c : Chain} (r : Rep l c) : c.count = l.length := r.count

/-- "looking up height i returns the i-th group of the list for every i below the count" -/
theorem byHeight_below_count {l : List Group} {c : Chain} (r : Rep l c) (i : Nat) (g : Group)
    (h : l[i]? = some g) : getGroupByHeight c.disk i = some g ∧ g.height = i :=
  ⟨r.byHeight_lt h, r.height i g h⟩

/-- "…and nothing for i at or above it" — for every uint64 height except the single one whose
    8-byte key spells `"gcurrent"` (see the counterexample below). -/
theorem byHeight_at_or_above_count_partial {l : List Group} {c : Chain} (r : Rep l c) (i : Nat)
    (h1 : l.length ≤ i) (h2 : i < u64) (h3 : i ≠ curHeight) : getGroupByHeight c.disk i = none :=
  r.byHeight_ge h1 h2 h3

def FullStatementByHeightAbove : Prop :=
  ∀ (l : List Group) (c : Chain) (i : Nat), Rep l c → l.length ≤ i → i < u64 →
    getGroupByHeight c.disk i = none

/-- The height index and the `gcurrent` pointer share one key space: height
    0x6763757272656e74 always "holds" the last group. -/
theorem byHeight_curHeight_is_last {l : List Group} {c : Chain} (r : Rep l c) :
    getGroupByHeight c.disk curHeight = some c.last := by
  simp only [getGroupByHeight, slotId, hkey_curHeight, r.cur, r.byId r.last_mem]

def g0 : Group := { id := [0x90, 0x01], pre := [], parent := [0x90, 0x01], height := 0, create := 0 }
/-- `height := 7777` here and in the witnesses below stands for whatever the sender wrote into the header: `save`
    overwrites it with the count (`stamped`). -/
def gA : Group := { id := [0xa1], pre := [0x90, 0x01], parent := [0x90, 0x01], height := 7777, create := 1 }
def gB : Group := { id := [0xb1, 0xb2], pre := [0x90, 0x01], parent := [0x90, 0x01], height := 7777, create := 2 }

theorem genesisOK_g0 : GenesisOK [g0] where
  ne := by simp
  linked := ⟨rfl, trivial⟩
  nodup := by simp
  idok := by intro g hg; rw [List.mem_singleton.mp hg]; decide
  bound := by decide

def c1 : Chain := ([g0].foldl save { disk := [], count := 0, last := g0, mirror := [] })

theorem rep_c1 : Rep [g0] c1 :=
  rep_save_first (g := g0) (c := { disk := [], count := 0, last := g0, mirror := [] }) (fun _ _ => rfl) rfl
    (by decide) rfl

theorem byHeight_at_or_above_count_counterexample : ¬ FullStatementByHeightAbove := by
  intro h
  have h1 := h [g0] c1 curHeight rep_c1 (by decide) (by decide)
  rw [byHeight_curHeight_is_last rep_c1] at h1
  cases h1

/-- "every listed group is retrievable by id" -/
theorem listed_by_id {l : List Group} {c : Chain} (r : Rep l c) (g : Group) (h : g ∈ l) :
    getGroupById c.disk g.id = some g := r.byId h

/-- "the recorded last group is reachable from the genesis group through predecessor links":
    the iterator (`Current`, then `MovePre` until nil) yields exactly the list, last first,
    and stops at the genesis group `l[0]`. -/
theorem last_reachable_from_genesis {l : List Group} {c : Chain} (r : Rep l c) :
    iterList c = l.reverse ∧ (iterList c).getLast? = l.head? ∧ (iterList c).head? = some c.last := by
  have h := iterList_rep r
  refine ⟨h, by rw [h]; simp, by rw [h]; simp [r.last]⟩

/-- The sync reader (`getSyncGroupsByHeight`) returns exactly the listed groups from `h` on —
    in particular no nil entry. -/
theorem sync_exact {l : List Group} {c : Chain} (r : Rep l c) (h n : Nat) (hb : h + n < lenBound) :
    syncFrom c.disk h n = ((l.drop h).take n).map some := by
  induction n generalizing h with
  | zero => rfl
  | succ n ih =>
    by_cases hl : h < l.length
    · have hg : l[h]? = some l[h] := List.getElem?_eq_getElem hl
      rw [List.drop_eq_getElem_cons hl]
      simp only [syncFrom, r.slot h l[h] hg, r.byId (List.getElem_mem hl), ih (h + 1) (by omega)]
      rfl
    · rw [List.drop_of_length_le (by omega)]
      simp only [syncFrom, r.above h (by omega) (lt_u64_of_lt_lenBound (by omega))
        (ne_curHeight_of_lt_lenBound (by omega))]
      rfl

/-- First start-up on an empty store with well-formed genesis groups. -/
theorem inv_init {gs : List Group} (ok : GenesisOK gs) (m : List Bytes) :
    ∃ c, restart [] m gs = some (.alive c) ∧ Rep (stampFrom 0 gs) c := by
  cases gs with
  | nil => exact absurd rfl ok.ne
  | cons g0 rest => exact rep_init_fresh ok [] m (fun _ _ => rfl)

example : ∃ c, Rep [g0] c := ⟨c1, rep_c1⟩

/-- An accepted `AddGroup` appends exactly the new group, stamped with height = old count. -/
theorem inv_add {l : List Group} {c : Chain} (r : Rep l c) (g : Group)
    (hb : l.length + 1 < lenBound) (hid : IdOK g.id) (hok : addCheck c g = .ok) :
    addGroup c g = (.ok, save c g) ∧ Rep (l ++ [stamped l.length g]) (save c g) :=
  rep_add r g hb hid hok

/-- `AddGroup` is accepted only with predecessor = current last and an existing parent, and only
    for an id not yet in the store. -/
theorem add_requires {c : Chain} {g : Group} (h : (addGroup c g).1 = .ok) :
    c.last.id = g.pre ∧ shas c.disk g.parent = true ∧ shas c.disk g.id = false := by
  rw [addGroup_eq] at h
  obtain ⟨h1, h2, h3⟩ := addCheck_eq_ok.mp h
  exact ⟨h3, h2, h1⟩

/-- A rejected `AddGroup` writes nothing. -/
theorem inv_add_rejected {c : Chain} {g : Group} (h : addCheck c g ≠ .ok) :
    addGroup c g = (addCheck c g, c) := addGroup_rejected h

/-- `remove(last)` with at least two groups drops exactly the last one. -/
theorem inv_remove {l : List Group} {g : Group} {c : Chain} (r : Rep (l ++ [g]) c) (hl : l ≠ []) :
    (remove c c.last).1 = true ∧ Rep l (remove c c.last).2 := rep_remove r hl

/-- `remove` of the genesis group is refused and writes nothing. -/
theorem inv_remove_genesis {g : Group} {c : Chain} (r : Rep [g] c) : remove c c.last = (false, c) :=
  remove_single r

/-- `removeFromCommonAncestor(ancestor)` (the fork switch) leaves exactly heights `0 … h`. -/
theorem inv_rmto {l : List Group} {c : Chain} (r : Rep l c) (h : Nat) :
    Rep (l.take (h + 1)) (rmTo c h) := (rmTo_keeps SideInv.trivial r trivial h).1

/-- "remove followed by adding a different group at the same height". -/
theorem inv_remove_then_add_other {l : List Group} {g g2 : Group} {c : Chain}
    (r : Rep (l ++ [g]) c) (hl : l ≠ []) (hb : l.length + 1 < lenBound) (hid : IdOK g2.id)
    (hok : addCheck (remove c c.last).2 g2 = .ok) :
    Rep (l ++ [stamped l.length g2]) (addGroup (remove c c.last).2 g2).2 ∧
      getGroupByHeight (addGroup (remove c c.last).2 g2).2.disk l.length = some (stamped l.length g2) ∧
      getGroupById (addGroup (remove c c.last).2 g2).2.disk g.id = (if g.id = g2.id then some (stamped l.length g2) else none) := by
  have h2 := rep_add (rep_remove r hl).2 g2 hb hid hok
  rw [h2.1]
  refine ⟨h2.2, h2.2.byHeight_lt (by simp), ?_⟩
  by_cases e : g.id = g2.id
  · rw [if_pos e, e]; exact h2.2.byId (g := stamped l.length g2) (by simp)
  · -- `remove` deleted the entry `g.id`, and `save` does not write it
    obtain ⟨p, _, hlast, hget⟩ := r.pre_last hl
    have hgid : IdOK g.id := r.idok g (by simp)
    have : sget (save (remove c c.last).2 g2).disk g.id = none := by
      rw [save, sget_save, idxRead_id hgid, if_neg e, hlast, remove_of_pre hget, sget_remove,
        idxRead_id hgid, if_pos rfl]
    rw [if_neg e, getGroupById, this]

/-- Restart after a completed operation: start-up reads back the same chain. -/
theorem inv_restart {l : List Group} {c : Chain} (r : Rep l c) (m : List Bytes) (gen : List Group) :
    ∃ c', restart c.disk m gen = some (.alive c') ∧ c'.disk = c.disk ∧ c'.count = c.count ∧
      c'.last = c.last ∧ Rep l c' := rep_restart r m gen

/-- One step refines the abstract list operation (`specStep`). -/
theorem inv_step {l : List Group} {c : Chain} (r : Rep l c) (gen : List Group) (op : Op)
    (hok : OpOK op) (hb : l.length + 1 < lenBound) :
    ∃ c', stepOp gen c op = some c' ∧ Rep (specStep l c op) c' := by
  obtain ⟨c', h, r', _⟩ := step_keeps SideInv.trivial r trivial gen op hok hb
  exact ⟨c', h, r'⟩

/-- Headline: from first start-up, after ANY sequence of add / remove-last / fork-switch removal /
    restart operations (ids of added groups are proper ids), the chain represents a list that
    still begins with the genesis group — hence every clause read off `Rep` holds at all times. -/
theorem inv_reachable {gs : List Group} (ok : GenesisOK gs) (ops : List Op)
    (hops : ∀ op ∈ ops, OpOK op) (hb : gs.length + ops.length < lenBound) :
    ∃ c0 c l, restart [] [] gs = some (.alive c0) ∧ runOps gs c0 ops = some c ∧ Rep l c ∧
      l.head? = (stampFrom 0 gs).head? := by
  obtain ⟨c0, h0, r0⟩ := inv_init ok []
  obtain ⟨c, l, h1, r1, hh⟩ := rep_run gs ops (stampFrom 0 gs) c0 r0 hops (by rw [stampFrom_length]; exact hb)
  exact ⟨c0, c, l, h0, h1, r1, hh⟩

example : ∃ c, runOps [g0] (Classical.choose (inv_init genesisOK_g0 [])) [.add gA, .rmlast, .add gB, .restart] = some c :=
  by
    have hc := Classical.choose_spec (inv_init genesisOK_g0 [])
    have hops : ∀ op ∈ [Op.add gA, .rmlast, .add gB, .restart], OpOK op := by
      intro op hop
      simp at hop
      rcases hop with rfl | rfl | rfl | rfl
      · show IdOK gA.id
        decide
      · trivial
      · show IdOK gB.id
        decide
      · trivial
    obtain ⟨c, l, h, _, _⟩ := rep_run [g0] [.add gA, .rmlast, .add gB, .restart] _ _ hc.2 hops
      (by simp [stampFrom, lenBound])
    exact ⟨c, h⟩

/-- Crash-point statement for `save`: whatever prefix of its physical writes reached the disk,
    start-up comes back with a chain that represents some list. -/
def FullStatementCrashSave : Prop :=
  ∀ (l : List Group) (c : Chain) (g : Group) (gen : List Group) (k : Nat) (d : Store) (m : List Bytes),
    Rep l c → IdOK g.id → l.length + 1 < lenBound → addCheck c g = .ok →
    saveB c g k = .crashed d m → ∃ c' l', restart d m gen = some (.alive c') ∧ Rep l' c'

/-- `save` has two physical writes — `Put(id, json)` and the atomic batch of `gcurrent`, the height slot
    and `gcount` — hence two crash points (before the first, between the two), and after either start-up
    represents a list (the old one: `inv_crash_save_old_list`); the group JSON alone is an unreferenced
    entry. -/
theorem inv_crash_save : FullStatementCrashSave := by
  intro l c g gen k d m r hid _ hok h
  obtain ⟨d', c', e1, e2, e3⟩ := crash_save_fresh r g gen hid (fresh_of_addCheck r hok) k (saveB_crashed_lt h)
  rw [e1] at h
  cases h
  exact ⟨c', l, e2, e3⟩

/-- …more precisely: it is the old list, for both crash points. -/
theorem inv_crash_save_old_list {l : List Group} {c : Chain} (r : Rep l c) (g : Group) (gen : List Group)
    (hid : IdOK g.id) (hok : addCheck c g = .ok) (k : Nat) (hk : k < 2) :
    ∃ d c', saveB c g k = .crashed d c.mirror ∧ restart d c.mirror gen = some (.alive c') ∧ Rep l c' :=
  crash_save_fresh r g gen hid (fresh_of_addCheck r hok) k hk

/-- A budget of two or more physical writes does not cut `save` at all. -/
theorem save_not_cut (c : Chain) (g : Group) (k : Nat) (hk : 2 ≤ k) :
    saveB c g k = .done (save c g) (k - 2) := saveB_done c g k hk

theorem rep_count_eq_iter {l : List Group} {c : Chain} (r : Rep l c) : (iterList c).length = c.count := by
  rw [iterList_rep r, r.count]; simp

/-- Crash-point statement for `remove`. -/
def FullStatementCrashRemove : Prop :=
  ∀ (l : List Group) (g : Group) (c : Chain) (gen : List Group) (k : Nat) (d : Store) (m : List Bytes),
    Rep (l ++ [g]) c → l ≠ [] → (removeB c c.last k).2 = .crashed d m →
    ∃ c' l', restart d m gen = some (.alive c') ∧ Rep l' c'

/-- Proved part: cut before the first write. -/
theorem inv_crash_remove_partial {l : List Group} {g : Group} {c : Chain} (r : Rep (l ++ [g]) c)
    (hl : l ≠ []) (gen : List Group) :
    ∃ d m c', (removeB c c.last 0).2 = .crashed d m ∧ restart d m gen = some (.alive c') ∧
      Rep (l ++ [g]) c' := by
  obtain ⟨p, _, hlast, hget⟩ := r.pre_last hl
  obtain ⟨c', h1, _, _, _, h5⟩ := rep_restart r c.mirror gen
  exact ⟨c.disk, c.mirror, c', by rw [hlast, removeB, hget]; rfl, h1, h5⟩

def c2 : Chain := save c1 gA

theorem rep_c2 : Rep [g0, stamped 1 gA] c2 :=
  (rep_add rep_c1 gA (by decide) (by decide) (by decide +kernel)).2

/-- Known finding crash:remove:k1 — [boot g0; add gA; crash 1 rmlast]: the group is deleted,
    `gcurrent` still names it: start-up panics ("Unmarshal last group failed") on every restart. -/
theorem inv_crash_remove_counterexample : ¬ FullStatementCrashRemove := by
  intro h
  obtain ⟨c', l', h1, _⟩ := h [g0] (stamped 1 gA) c2 [g0] 1
    (applyPrefix 1 c2.disk (removeWrites c2.count (stamped 1 gA) g0)) c2.mirror
    rep_c2 (by simp) (by decide +kernel)
  have hd : restart (applyPrefix 1 c2.disk (removeWrites c2.count (stamped 1 gA) g0)) c2.mirror [g0] = some .dead := by
    decide +kernel
  rw [hd] at h1
  cases h1

/-! Concurrent callers. The model's `addGroup` is one atomic step (check, then `save`). The real `AddGroup`
earns that by taking the chain lock before it reads `lastGroup` (`Props/C19Facts.lean: lock_discipline`,
checked against the source on every run; the harness also races two real `AddGroup` calls and requires a
sequential explanation). The two theorems below say what atomicity buys. -/

/-- Sequentially, of two `AddGroup`s naming the same predecessor only the first is accepted. -/
theorem second_add_same_pre_rejected {l : List Group} {c : Chain} (r : Rep l c) (gA gB : Group)
    (hA : addCheck c gA = .ok) (hpre : gB.pre = gA.pre) : addCheck (save c gA) gB ≠ .ok := by
  intro hB
  obtain ⟨h1, _, h3⟩ := addCheck_eq_ok.mp hA
  obtain ⟨_, _, h3'⟩ := addCheck_eq_ok.mp hB
  have hlast : (save c gA).last.id = gA.id := rfl
  rw [hlast, hpre, ← h3] at h3'
  -- gA.id = c.last.id, but gA.id is not stored while the last group is
  have := r.stored c.last r.last_mem
  rw [← h3'] at this
  simp [shas, this] at h1

/-- If both calls run their checks against the same state and then both `save` (the lock taken
    only around `save`), the result need not represent any list. -/
def FullStatementSplitAdd : Prop :=
  ∀ (l : List Group) (c : Chain) (gA gB : Group), Rep l c → IdOK gA.id → IdOK gB.id → gA.id ≠ gB.id →
    addCheck c gA = .ok → addCheck c gB = .ok → ∃ l', Rep l' (save (save c gA) gB)

theorem split_add_counterexample : ¬ FullStatementSplitAdd := by
  intro h
  obtain ⟨l', r'⟩ := h [g0] c1 gA gB rep_c1 (by decide) (by decide)
    (by decide +kernel) (by decide +kernel) (by decide +kernel)
  -- `count` is 3, but `gA` and `gB` both name `g0` as predecessor: the walk from `gB` finds 2 groups
  exact absurd (rep_count_eq_iter r') (by decide +kernel)

def FullStatementFirstBootCrash : Prop :=
  ∀ (gs : List Group) (k : Nat) (d : Store) (m : List Bytes), GenesisOK gs →
    firstBootB [] [] gs k = some (.crashed d m) → ∃ c l, restart d m gs = some (.alive c) ∧ Rep l c

/-- Wherever the first start-up is cut — inside the first genesis save (start-up then re-runs the
    genesis branch), between two genesis groups, or inside a later genesis save — the next start-up
    comes back with a chain that represents a list. -/
theorem inv_first_boot_crash : FullStatementFirstBootCrash := by
  intro gs k d m ok h
  cases gs with
  | nil => exact absurd rfl ok.ne
  | cons g0 rest => exact firstBoot_crash ok [] [] (fun _ _ => rfl) h

/-- Double crashes: the first start-up cut inside the first genesis save, the start-up after it cut
    there again (`FreshFor` is kept at each cut) — the next uninterrupted start-up represents exactly
    the genesis list. -/
theorem inv_first_boot_double_crash {g0 : Group} {rest : List Group} (ok : GenesisOK (g0 :: rest))
    (k1 k2 : Nat) (h1 : k1 ≤ 1) (h2 : k2 ≤ 1) :
    ∃ d1 d2 c, firstBootB [] [] (g0 :: rest) k1 = some (.crashed d1 []) ∧
      firstBootB d1 [] (g0 :: rest) k2 = some (.crashed d2 []) ∧
      restart d2 [] (g0 :: rest) = some (.alive c) ∧ Rep (stampFrom 0 (g0 :: rest)) c := by
  obtain ⟨d1, e1, f1⟩ := firstBoot_le1 ok [] [] (fun _ _ => rfl) k1 h1
  obtain ⟨d2, e2, f2⟩ := firstBoot_le1 ok d1 [] f1 k2 h2
  obtain ⟨c, e3, r⟩ := rep_init_fresh ok d2 [] f2
  exact ⟨d1, d2, c, e1, e2, e3, r⟩

/-- A first start-up with two genesis groups cut exactly between them comes back as a valid chain
    of the first group only: the second genesis group is silently never added (not a C19 violation). -/
theorem first_boot_cut_between_genesis :
    ∃ d m c, firstBootB [] [] [g0, gA] 2 = some (.crashed d m) ∧
      restart d m [g0, gA] = some (.alive c) ∧ Rep [g0] c := by
  have hd : firstBootB [] [] [g0, gA] 2 = some (.crashed c1.disk c1.mirror) := by decide +kernel
  obtain ⟨c', e, _, _, _, r⟩ := rep_restart rep_c1 c1.mirror [g0, gA]
  exact ⟨c1.disk, c1.mirror, c', hd, e, r⟩

/-- `GetSyncGroupsById(id)` of the listed group at index `i` returns exactly the next (at most
    five) listed groups — what a peer that is behind receives. `+ 6`: the reader probes the five heights from
    `i + 1` on; all of them stay below `lenBound`, where no height key spells `gcurrent`. -/
theorem sync_by_id_exact {l : List Group} {c : Chain} (r : Rep l c) (i : Nat) (g : Group)
    (hg : l[i]? = some g) (hb : l.length + 6 < lenBound) :
    syncById c.disk g.id = ((l.drop (i + 1)).take 5).map some := by
  have hil : i < l.length := (List.getElem?_eq_some_iff.mp hg).1
  have hmod : (g.height + 1) % u64 = i + 1 := by
    rw [r.height i g hg]; exact Nat.mod_eq_of_lt (lt_u64_of_lt_lenBound (by omega))
  rw [syncById, r.byId (List.mem_of_getElem? hg)]
  show syncFrom c.disk ((g.height + 1) % u64) 5 = _
  rw [hmod]
  exact sync_exact r (i + 1) 5 (by omega)

/-- `getFirstGroupBelowHeight(x)` (common-ancestor choice of the fork switch) returns the newest
    listed group created at or below block height `x`, `none` only if no listed group is. -/
theorem first_below_is_newest_listed {l : List Group} {c : Chain} (r : Rep l c) (x : Nat) :
    firstBelow c x = l.reverse.find? (fun g => decide (g.create ≤ x)) := by
  rw [firstBelow, firstBelowWalk_eq_find, ← iterList_rep r, iterList]

/-- `height()` is the index of the last group. -/
theorem top_height_is_last_index {l : List Group} {c : Chain} (r : Rep l c) :
    topHeight c = l.length - 1 ∧ getGroupByHeight c.disk (topHeight c) = some c.last := by
  have h := topHeight_rep r
  exact ⟨h, by rw [h]; exact r.byHeight_lt r.last_idx⟩

/-- The "genesis" that `availableGroupsAt` falls back to (`GetGroupByHeight(0)`) is `l[0]`. -/
theorem height_zero_is_genesis {l : List Group} {c : Chain} (r : Rep l c) :
    getGroupByHeight c.disk 0 = l.head? := by
  cases l with
  | nil => exact absurd rfl r.ne
  | cons a t => exact r.byHeight_lt (i := 0) rfl

example : firstBelow c2 0 = some g0 := by decide +kernel

/-- One step keeps both the chain representation and "mirror = the listed ids". -/
theorem mirror_step {l : List Group} {c : Chain} (r : Rep l c) (hm : c.mirror.Perm (l.map (·.id)))
    (gen : List Group) (op : Op) (hok : OpOK op) (hb : l.length + 1 < lenBound) :
    ∃ c', stepOp gen c op = some c' ∧ Rep (specStep l c op) c' ∧
      c'.mirror.Perm ((specStep l c op).map (·.id)) :=
  step_keeps SideInv.mirror r hm gen op hok hb

/-- From first start-up (empty sqlite table), after any sequence of completed operations the
    mirror table holds exactly the ids of the listed groups; in particular `CountGroups()` equals
    `Count()`, so `refreshCache` is a no-op at every restart. -/
theorem mirror_agrees_reachable {gs : List Group} (ok : GenesisOK gs) (ops : List Op)
    (hops : ∀ op ∈ ops, OpOK op) (hb : gs.length + ops.length < lenBound) :
    ∃ c0 c l, restart [] [] gs = some (.alive c0) ∧ runOps gs c0 ops = some c ∧ Rep l c ∧
      c.mirror.Perm (l.map (·.id)) ∧ c.mirror.length = c.count := by
  obtain ⟨c0, h0, r0, m0⟩ := mirror_init ok
  obtain ⟨c, l, h1, r1, m1, _⟩ :=
    run_keeps SideInv.mirror gs ops (stampFrom 0 gs) c0 r0 m0 hops (by rw [stampFrom_length]; exact hb)
  exact ⟨c0, c, l, h0, h1, r1, m1, by rw [MirrorRep.length m1, r1.count]⟩

example : c2.mirror.Perm ([g0, stamped 1 gA].map (·.id)) := by decide +kernel

/-- What durability asks for: when one of the physical store writes of `save` fails with an error,
    the chain is still in a state that represents some list (and the caller can retry). -/
def FullStatementWriteFault : Prop :=
  ∀ (l : List Group) (c : Chain) (g : Group) (j : Nat), Rep l c → IdOK g.id → l.length + 1 < lenBound →
    addCheck c g = .ok → j < 2 → ∃ l', Rep l' (saveF c g (some j)).1

/-- Proved part: a failed BATCH write is returned by `save` before
    memory, sqlite or the index are touched — `AddGroup` answers with the error and the chain still
    represents the old list. (The group's JSON stays behind as an unreferenced entry, so a retry with the same group
    is answered `exists`.) -/
theorem write_fault_batch_surfaces {l : List Group} {c : Chain} (r : Rep l c) (g : Group)
    (hid : IdOK g.id) (hok : addCheck c g = .ok) :
    (addGroupF c g (some 1)).1 = .writeErr ∧ Rep l (addGroupF c g (some 1)).2 := by
  have : addGroupF c g (some 1) =
      (.writeErr, { c with disk := sput c.disk g.id (.grp (stamped c.count g)) }) := by
    simp only [addGroupF, hok, saveF, saveWrites, List.take, applyWrites, List.foldl, applyWrite, if_true]
  rw [this]
  exact ⟨rfl, r.orphan g.id _ hid (fresh_of_addCheck r hok)⟩

/-- False for the first write: the error of `Put(group.Id, json)` is ignored, the batch is
    written and memory advances — the index names a group that is not stored (known finding
    writefault:save:w0; replayed with hook H2b). -/
theorem write_fault_counterexample : ¬ FullStatementWriteFault := by
  intro h
  obtain ⟨l', r'⟩ := h [g0] c1 gA 0 rep_c1 (by decide) (by decide) (by decide +kernel) (by decide)
  have h1 := r'.stored _ r'.last_mem
  have e : sget (saveF c1 gA (some 0)).1.disk (saveF c1 gA (some 0)).1.last.id = none := by decide +kernel
  rw [e] at h1
  cases h1

/-- A fault index beyond the operation's writes changes nothing. -/
theorem write_fault_beyond (c : Chain) (g : Group) (j : Nat) :
    saveF c g (some (j + 2)) = (save c g, false, some j) := rfl

/-! Faults of the other store, the sqlite `groupIndex`. `save`/`remove` run their sqlite statement after the
LevelDB writes and the memory update and `panic` when it fails (`saveS`, `removeS`, `rmToS`; tied by the
`sqlfault` ops, which make the real statement fail through a trigger on the node's own logs.db). The chain
itself is never damaged: -/

/-- A failing insert cuts `AddGroup` after a complete `save`: the chain represents the extended list
    (only the mirror row is missing; `refreshCache` re-inserts it at the next start-up). -/
theorem sql_fault_add_keeps_rep {l : List Group} {c : Chain} (r : Rep l c) (g : Group) (f : SqlFault)
    (hb : l.length + 1 < lenBound) (hid : IdOK g.id) (hok : addCheck c g = .ok) :
    (addGroupS c g f).1 = .ok ∧ Rep (l ++ [stamped l.length g]) (addGroupS c g f).2.1 := by
  have h2 := (rep_add r g hb hid hok).2
  refine ⟨by simp [addGroupS, hok], ?_⟩
  have : (addGroupS c g f).2.1 = (saveS c g f).1 := by simp [addGroupS, hok]
  rw [this]
  exact h2.of_sameCore (saveS_core c g f)

/-- A failing delete during a fork switch cuts it after a complete removal: whatever group's
    statement fails, the chain ends representing a non-empty prefix of the old list (and start-up
    reads that back). The removal loop never tears the chain. -/
theorem sql_fault_rmto_keeps_rep {l : List Group} {c : Chain} (r : Rep l c) (h : Nat) (f : SqlFault)
    (gen : List Group) :
    ∃ n c', 0 < n ∧ n ≤ l.length ∧ Rep (l.take n) (rmToS c h f).1 ∧
      restart (rmToS c h f).1.disk (rmToS c h f).1.mirror gen = some (.alive c') ∧ Rep (l.take n) c' := by
  -- the cut switch is the uncut switch to some higher ancestor `h'`, up to the mirror
  obtain ⟨h', _, _, hs⟩ := rmLoopS_cut h f (topHeight c) c
  have r' : Rep (l.take (min (h' + 1) l.length)) (rmToS c h f).1 := by
    rw [← List.take_eq_take_min]; exact (inv_rmto r h').of_sameCore hs
  obtain ⟨c', e, _, _, _, r''⟩ := rep_restart r' (rmToS c h f).1.mirror gen
  exact ⟨_, c', by have := r.pos; omega, Nat.min_le_right _ _, r', e, r''⟩

/-- Without a fault for any group on the chain the faulted loop is the ordinary one. -/
example : (rmToS c2 0 { kind := .del, id := [0xee] }).1 = rmTo c2 0 := by decide +kernel

/-- With the fault on the top group the switch is cut after that removal (panic), one group short. -/
example : (rmToS c2 0 { kind := .del, id := gA.id }).2 = true ∧ (rmToS c2 0 { kind := .del, id := gA.id }).1.count = 1 := by decide +kernel

/-- The selection rule, exactly: newest first, groups with `DismissHeight > h`; at the first group
    that is not, the genesis group `l[0]` is appended and the walk stops. -/
theorem available_groups_rule {l : List Group} {c : Chain} (r : Rep l c) (h : Nat) :
    availableAt c h = availOf l.head? h l.reverse := by
  rw [availableAt, availWalk_eq, ← iterList, iterList_rep r, height_zero_is_genesis r]

/-- Every group it returns is on the chain (a listed group that is still working, or the genesis
    group), never nil — so `GetAvailableGroupsByMinerId` does not dereference nil. -/
theorem available_groups_listed {l : List Group} {c : Chain} (r : Rep l c) (h : Nat) :
    ∀ og ∈ availableAt c h, ∃ g, og = some g ∧ g ∈ l := by
  intro og hog
  rw [available_groups_rule r h] at hog
  have hne := r.ne
  rcases availOf_mem l.head? h l.reverse og hog with e | ⟨g, e1, e2, _⟩
  · cases l with
    | nil => exact absurd rfl hne
    | cons a t => exact ⟨a, by simpa using e, by simp⟩
  · exact ⟨g, e1, by simpa using e2⟩

/-- While every listed group is still working the answer is the whole chain, newest first. -/
theorem available_all_when_working {l : List Group} {c : Chain} (r : Rep l c) (h : Nat)
    (hall : ∀ g ∈ l, g.dismiss > h) : availableAt c h = l.reverse.map some := by
  rw [available_groups_rule r h]
  exact availOf_all _ h l.reverse (fun g hg => hall g (by simpa using hg))

/-- "Returns every listed group that is still working at `h`." -/
def FullStatementAvailableComplete : Prop :=
  ∀ (l : List Group) (c : Chain) (h : Nat) (g : Group), Rep l c → g ∈ l → g.dismiss > h →
    some g ∈ availableAt c h

def gOld : Group := { id := [0xa1], pre := [0x90, 0x01], parent := [0x90, 0x01], height := 7777, create := 1, dismiss := 1000 }
def gNew : Group := { id := [0xb1, 0xb2], pre := [0xa1], parent := [0x90, 0x01], height := 7777, create := 2, dismiss := 50 }
def c3 : Chain := save (save c1 gOld) gNew

theorem rep_c3 : Rep [g0, stamped 1 gOld, stamped 2 gNew] c3 :=
  have r2 := (rep_add rep_c1 gOld (by decide) (by decide) (by decide +kernel)).2
  (rep_add r2 gNew (by decide) (by decide) (by decide +kernel)).2

/-- False (documented quirk, replayed in corpus/C19/08): the walk stops at the FIRST group that has
    been dismissed, so an older group that is still working is not returned when a newer one was
    dismissed earlier. -/
theorem available_complete_counterexample : ¬ FullStatementAvailableComplete := by
  intro h
  exact absurd (h _ c3 100 (stamped 1 gOld) rep_c3 (by simp) (by decide)) (by decide +kernel)

/-- The whole switch refines "cut the list after the ancestor, then append the accepted fork groups":
    the chain represents `specAddAll …` of the cut list, the part up to the ancestor is untouched,
    and `triggerOnChain` reports success only if every fork group was appended — "remove followed by
    adding different groups at the same heights", for any number of heights. -/
theorem inv_fork_switch {l : List Group} {c : Chain} (r : Rep l c) (dur h : Nat) (gs : List Group)
    (hid : ∀ g ∈ gs, IdOK g.id) (hb : l.length + gs.length < lenBound) :
    Rep (specAddAll dur gs (l.take (h + 1)) (rmTo c h)) (forkSwitch dur c h gs).1 ∧
      l.take (h + 1) <+: specAddAll dur gs (l.take (h + 1)) (rmTo c h) ∧
      ((forkSwitch dur c h gs).2 = true →
        (specAddAll dur gs (l.take (h + 1)) (rmTo c h)).length = (l.take (h + 1)).length + gs.length) :=
  addAll_spec dur gs _ _ (inv_rmto r h) hid
    (Nat.lt_of_le_of_lt (Nat.add_le_add_right (List.length_take_le' (h + 1) l) _) hb)

/-- After a successful switch the new groups sit at the heights right above the ancestor. -/
example : (forkSwitch 10 c3 0 [{ gOld with id := [0xd4], pre := [0x90, 0x01] }]).2 = true ∧
    ((getGroupByHeight (forkSwitch 10 c3 0 [{ gOld with id := [0xd4], pre := [0x90, 0x01] }]).1.disk 1).map (·.id)) = some [0xd4] ∧
    getGroupByHeight (forkSwitch 10 c3 0 [{ gOld with id := [0xd4], pre := [0x90, 0x01] }]).1.disk 2 = none := by decide +kernel

/-! The hypotheses are needed: the code itself does not check them. `AddGroup` accepts any byte string as a
group id (the consensus `CheckGroup` is what restricts ids to 32-byte group ids) and `initGroupChain` saves
whatever genesis list it is handed. `IdOK` in `inv_add` and `GenesisOK` in `inv_init` are necessary; the
witnesses are replayed against the real code in the malformed stream. -/

def FullStatementAddAnyId : Prop :=
  ∀ (l : List Group) (c : Chain) (g : Group), Rep l c → l.length + 1 < lenBound → addCheck c g = .ok →
    Rep (l ++ [stamped l.length g]) (save c g)

/-- A group whose id is the 8-byte key of the height slot it lands in. -/
def gSlot : Group := { id := hkey 1, pre := [0x90, 0x01], parent := [0x90, 0x01], height := 7777, create := 1 }

/-- Without `IdOK`: `save` writes the height slot over the group's own JSON (same key), so the
    "listed group retrievable by id" clause fails at once (`[boot 9001; add 0000000000000001 9001 9001 1]`). -/
theorem idok_needed_counterexample : ¬ FullStatementAddAnyId := by
  intro h
  have r := h [g0] c1 gSlot rep_c1 (by decide) (by decide +kernel)
  have h1 := r.stored (stamped 1 gSlot) (by simp)
  have e : sget (save c1 gSlot).disk (stamped 1 gSlot).id = some (.ref (hkey 1)) := by decide +kernel
  rw [e] at h1
  cases h1

def FullStatementInitAnyGenesis : Prop :=
  ∀ (gs : List Group) (c : Chain), gs ≠ [] → restart [] [] gs = some (.alive c) → ∃ l, Rep l c

/-- A second genesis group that does not name the first as its predecessor. -/
def g0b : Group := { id := [0x91, 0x01], pre := [], parent := [0x91, 0x01], height := 0, create := 1 }

/-- Without the linking hypothesis of `GenesisOK`: two unlinked genesis groups give `Count()=2` over a
    one-group list (`[boot 9001,-,9001,0 9101,-,9101,1]`). -/
theorem genesis_linking_needed_counterexample : ¬ FullStatementInitAnyGenesis := by
  intro h
  obtain ⟨l, r⟩ := h [g0, g0b] ([g0, g0b].foldl save { disk := [], count := 0, last := g0, mirror := [] })
    (by simp) (by decide +kernel)
  exact absurd (rep_count_eq_iter r) (by decide +kernel)

/-- A well-formed fork is adopted completely: ids proper, distinct and not stored after the cut,
    parents stored, predecessor links starting at the ancestor — then `triggerOnChain` succeeds and
    the chain is exactly the old list up to the ancestor followed by the fork's groups (with
    `AddGroup`'s header rewrite and their new heights). -/
theorem inv_fork_switch_wellformed {l : List Group} {c : Chain} (r : Rep l c) (dur h : Nat) (gs : List Group)
    (hid : ∀ g ∈ gs, IdOK g.id ∧ IdOK g.parent) (hnd : (gs.map (·.id)).Nodup)
    (hfr : ∀ g ∈ gs, shas (rmTo c h).disk g.id = false)
    (hpar : ∀ g ∈ gs, shas (rmTo c h).disk g.parent = true)
    (hlk : Linked (rmTo c h).last.id gs) (hb : l.length + gs.length < lenBound) :
    (forkSwitch dur c h gs).2 = true ∧
      Rep (l.take (h + 1) ++ stampFrom (l.take (h + 1)).length (gs.map (prepare dur))) (forkSwitch dur c h gs).1 := by
  obtain ⟨e1, e2⟩ := addAll_accepts dur gs (l.take (h + 1)) _ hid hnd hfr hpar hlk
  exact ⟨e1, e2 ▸ (inv_fork_switch r dur h gs (fun g hg => (hid g hg).1) hb).1⟩

/-- `GetAvailableGroupsByMinerId` never meets a nil group on a chain that represents a list, and
    returns only listed groups that have the miner as a member. -/
theorem available_by_miner_total {l : List Group} {c : Chain} (r : Rep l c) (h : Nat) (m : Bytes) :
    ∃ res, availableByMiner c h m = some res ∧ ∀ g ∈ res, g ∈ l ∧ m ∈ g.members := by
  obtain ⟨res, e, hr⟩ := availableByMiner_some c h m (fun og hog => by
    obtain ⟨g, e, _⟩ := available_groups_listed r h og hog
    exact ⟨g, e⟩)
  refine ⟨res, e, ?_⟩
  intro g hg
  obtain ⟨h1, h2⟩ := hr g hg
  obtain ⟨g', e', hm⟩ := available_groups_listed r h (some g) h1
  cases e'
  exact ⟨hm, h2⟩

example : availableByMiner c3 100 [0xe1] = some [] := by decide +kernel

/-- A refused batch write FOLLOWED by any further history: the refused add leaves a chain that still
    represents the old list (`write_fault_batch_surfaces`), so every later sequence of adds, removals,
    fork-switch removals and restarts keeps representing a list that starts with the same genesis
    group — the refused group leaves no trace in the index: no entry of the failed batch survives into a
    later write. -/
theorem inv_after_surfaced_write_fault {l : List Group} {c : Chain} (r : Rep l c) (g : Group)
    (hid : IdOK g.id) (hok : addCheck c g = .ok) (gen : List Group) (ops : List Op)
    (hops : ∀ op ∈ ops, OpOK op) (hb : l.length + ops.length < lenBound) :
    ∃ c' l', runOps gen (addGroupF c g (some 1)).2 ops = some c' ∧ Rep l' c' ∧ l'.head? = l.head? :=
  rep_run gen ops l _ (write_fault_batch_surfaces r g hid hok).2 hops hb

end Rangers.Props.C19
