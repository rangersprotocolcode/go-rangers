import Rangers.Model.RLP
import Rangers.Model.RLPTyped
import Rangers.Proofs.RLPOfItem
import Rangers.Proofs.RLPTypedComplete
import Rangers.Proofs.RLPTypedFuel
import Rangers.Proofs.RLPStreamRefine
/-!
# C08 — the decoders agree with each other

* `readKind_agrees_readHead`: raw.go's header parser and the Stream's (slice form) accept the same
  headers with the same boundaries, up to the single-byte canonicity check the Stream makes later.
* `any_refines_decodeItem`: whatever the generic item decoder (`decodeItem`, on raw.go's parser)
  accepts, the Stream-style `interface{}` decoder (`decT .any`: `decodeInterface` with list bounds as
  slices, executed by the driver for `dec any`) accepts with the same value and the same rest;
  `any_accepts_canonical`: and what *it* accepts is canonical.
* `stream_kind_refines_readHead`, `stream_bytes_refines`, `stream_refines_decodeItem_at`,
  `stream_elements_refine`, `stream_refines_decodeItem`: the `Stream` state machine itself (`Kind`,
  `Bytes`, lists at any nesting depth) returns what the slice parser and `decodeItem` return.  The
  converse (what `sDecodeAny` accepts, `decodeItem` accepts) is not proved; it is tied by the
  correspondence run (`any` vs `anyp` vs `dec any` on the same bytes).
-/
namespace Rangers.Props.C08
open Rangers Rangers.RLP

theorem readKind_agrees_readHead (b : Bytes) (k : Kind) (ts cs : Nat) :
    readKind b = .ok (k, ts, cs) ↔
      (readHead b = .ok (k, ts, cs) ∧ ¬ (k = .string ∧ cs = 1 ∧ headLt128 (b.drop ts) = true)) :=
  readKind_iff_readHead b k ts cs

set_option maxRecDepth 8192 in
example : readHead [0x81, 0x05] = .ok (.string, 1, 1) ∧ readKind [0x81, 0x05] = .error .canonSize := by
  constructor <;> rfl

/-- generic decoding through the Stream-style decoder returns what `decodeItem` returns, at any fuel
    from `vfuel (ofItem it) + 1` on (`vfuel`, `Proofs/RLPTypedRT`: a bound on the recursion depth
    computed from the value alone) -/
theorem any_refines_decodeItem (b : Bytes) (it : Item) (rest : Bytes) (h : decodeItem b = .ok (it, rest))
    (f : Nat) (hf : vfuel (ofItem it) + 1 ≤ f) : decT f .any b = .ok (ofItem it, rest) := by
  obtain ⟨hb, hok, _⟩ := decItemF_ok_iff.1 h
  have := (typed_complete f).1 .any (ofItem it) (encode it) rest (wfv_any_ofItem it hok) (encT_any_ofItem it)
    (by simp only [anyExtra]; omega)
  rw [norm_any_ofItem] at this
  rw [hb]; exact this

/-- … in particular `DecodeBytes(b, &interface{})` at the typed level -/
theorem decodeTy_any_of_decodeBytes (b : Bytes) (it : Item) (h : decodeBytes b = .ok it) :
    decodeTy .any b = .ok (ofItem it) :=
  decodeTy_ok_iff.2 (decT_typedFuel
    (any_refines_decodeItem b it [] (decodeBytes_ok_iff.1 h) (vfuel (ofItem it) + 1) (Nat.le_refl _)))

/-- and what the Stream-style decoder accepts is the canonical encoding of the value it returns -/
theorem any_accepts_canonical (b : Bytes) (v : Val) (h : decodeTy .any b = .ok v) : encT .any v = .ok b := by
  obtain ⟨e, he1, he2⟩ := (typed_sound _).1 .any b v [] trivial (decodeTy_ok_iff.1 h)
  rw [he2, List.append_nil]; exact he1

/-! ## The `Stream` state machine refines the slice parser, at any nesting depth

State: a `DecodeBytes`-style stream (`limited`, `remaining = len(inp)`) positioned at an element
boundary (`kind = none`) with any stack of open lists; the *visible window* is what the innermost
list (or the input limit) still allows: `inp.take (avail stack len)`. -/

/-- `Kind()` returns exactly the header the slice parser `readHead` finds in the visible window (kind,
    size; 0 for a single byte), consumes exactly the header bytes from reader, list position and
    input budget, and caches it without error. -/
theorem stream_kind_refines_readHead (s : Stream) (x : UInt8) (tl : Bytes) (st : List (Nat × Nat))
    (k : Kind) (ts cs : Nat) (hc : Core s (x :: tl) st) (hk : s.kind = none)
    (ha1 : 1 ≤ avail st (x :: tl).length) (hav : avail st (x :: tl).length ≤ (x :: tl).length)
    (hh : readHead ((x :: tl).take (avail st (x :: tl).length)) = .ok (k, ts, cs)) :
    (sKind s).1 = .ok (k, kSize k cs) ∧
    Core (sKind s).2 ((x :: tl).drop (hdrLen k ts)) (bump st (hdrLen k ts)) ∧
    (sKind s).2.kind = some k ∧ (sKind s).2.kinderr = none := by
  obtain ⟨c, rest, hW, hf, rfl, hlen⟩ := readHead_ok_iff.1 hh
  obtain ⟨hinp, hr, _, _⟩ := window_split hav hW
  obtain ⟨x', h, hl', _, k1⟩ := sKind_frame (hinp ▸ hc) hk hf hr
  have hh' : hdrLen k h = hdrLen k ts := by
    by_cases hkb : k = .byte
    · rw [hdrLen, hdrLen, if_pos hkb, if_pos hkb]
    · rw [hdrLen_of_ne hkb, kSize_of_ne hkb] at hl'
      rw [hdrLen_of_ne hkb, hdrLen_of_ne hkb]; omega
  rw [k1, ← hh']
  exact ⟨rfl, hc.cached x' k h c.length, rfl, rfl⟩

/-- `Bytes()` returns exactly the content the slice parser delimits and leaves the stream at the next
    element boundary (reader, list position and budget advanced by header + content, `Kind` re-armed). -/
theorem stream_bytes_refines (s : Stream) (x : UInt8) (tl : Bytes) (st : List (Nat × Nat))
    (k : Kind) (ts cs : Nat) (hc : Core s (x :: tl) st) (hk : s.kind = none)
    (ha1 : 1 ≤ avail st (x :: tl).length) (hav : avail st (x :: tl).length ≤ (x :: tl).length)
    (hh : readHead ((x :: tl).take (avail st (x :: tl).length)) = .ok (k, ts, cs)) (hnl : k ≠ .list)
    (hcanon : ¬ (k = .string ∧ cs = 1 ∧ headLt128 (((x :: tl).take (avail st (x :: tl).length)).drop ts) = true)) :
    (sBytes s).1 = .ok ((((x :: tl).take (avail st (x :: tl).length)).drop ts).take cs) ∧
    Core (sBytes s).2 ((x :: tl).drop (ts + cs)) (bump st (ts + cs)) ∧ (sBytes s).2.kind = none := by
  have hcan := (canon_iff hh).1 hcanon
  obtain ⟨c, rest, hW, hf, rfl, hlen⟩ := readHead_ok_iff.1 hh
  rw [hW, (frame_split hf hlen rest).1] at hcan ⊢
  obtain ⟨hinp, hr, _, hdrop⟩ := window_split hav hW
  obtain ⟨s', h, hc', hk'⟩ := sBytes_frame (hinp ▸ hc) hk hf hr hnl hcan
  rw [h, hlen, hdrop]
  exact ⟨rfl, hc', hk'⟩

-- non-vacuity: inside an open list with one byte already consumed
example : Core (runOps [.list, .bytes] (newStream [0xc4, 0x01, 0x82, 0xaa, 0xbb] 0)) [0x82, 0xaa, 0xbb] [(1, 4)] :=
  ⟨rfl, rfl, rfl, rfl⟩
example : (sBytes (runOps [.list, .bytes] (newStream [0xc4, 0x01, 0x82, 0xaa, 0xbb] 0))).1 = .ok [0xaa, 0xbb] := by rfl

/-- The state machine refines the pure decoder, from any element boundary at any nesting depth:
    if `decodeItem`'s recursive descent accepts the visible window as `(it, rest)`, generic decoding
    through the Stream methods (`Kind`, `List`, `Bytes`, `ListEnd`, the element loop) returns `it` and
    leaves reader, list positions and input budget advanced by exactly the bytes of the item. -/
theorem stream_refines_decodeItem_at (f : Nat) (s : Stream) (inp : Bytes) (st : List (Nat × Nat)) (it : Item)
    (rest : Bytes) (hc : Core s inp st) (hk : s.kind = none) (hav : avail st inp.length ≤ inp.length)
    (h : decItemF f (inp.take (avail st inp.length)) = .ok (it, rest)) :
    ∃ n, n + rest.length = avail st inp.length ∧ (sDecodeAny (f + 1) s).1 = .ok it ∧
      Core (sDecodeAny (f + 1) s).2 (inp.drop n) (bump st n) ∧ (sDecodeAny (f + 1) s).2.kind = none := by
  obtain ⟨hW, hok, hfu⟩ := decItemF_ok_iff.1 h
  obtain ⟨hinp, hr, hn, hdrop⟩ := window_split hav hW
  obtain ⟨s', hd, hc', hk'⟩ := (stream_refines f).1 it s _ st (hinp ▸ hc) hk hok hfu hr
  rw [hd, ← hdrop] at *
  exact ⟨_, hn, rfl, hc', hk'⟩

/-- … and the element loop inside an open list yields exactly the items of the list payload, ending
    at the end of the list (`pos = size`), so `ListEnd` succeeds. -/
theorem stream_elements_refine (f : Nat) (s : Stream) (inp : Bytes) (p sz : Nat) (r : List (Nat × Nat))
    (xs : List Item) (hc : Core s inp ((p, sz) :: r)) (hk : s.kind = none) (hav : sz - p ≤ inp.length)
    (hps : p ≤ sz) (h : decItemsF f (inp.take (sz - p)) = .ok xs) :
    (sAnyElems (f + 1) s).1 = .ok xs ∧ Core (sAnyElems (f + 1) s).2 (inp.drop (sz - p)) ((sz, sz) :: r) ∧
      (sAnyElems (f + 1) s).2.kind = none := by
  obtain ⟨hW, hok, hfu⟩ := decItemsF_ok_iff.1 h
  have hinp : inp = encodeList xs ++ inp.drop (sz - p) := by rw [← hW, List.take_append_drop]
  have hl := congrArg List.length hW
  rw [List.length_take, Nat.min_eq_left hav] at hl
  obtain ⟨s', hd, hc', hk'⟩ := (stream_refines f).2 xs s _ p sz r (hinp ▸ hc) hk hok hfu (by omega)
  rw [hd]
  exact ⟨rfl, hc', hk'⟩

/-- `DecodeBytes(b, &interface{})` through the `Stream` state machine accepts everything the pure
    decoder accepts, with the same item (and `encode_decode` makes that item's encoding `b`). -/
theorem stream_refines_decodeItem (b : Bytes) (it : Item) (h : decodeBytes b = .ok it) :
    sDecodeBytesAny b = .ok it := by
  obtain ⟨hb, hok, hfu⟩ := decItemF_ok_iff.1 (decodeBytes_ok_iff.1 h)
  have hcore : Core (newStream b b.length) (encode it ++ []) [] := by
    rw [← hb]; exact ⟨rfl, by simp [newStream], rfl, rfl⟩
  -- `stream_refines f` speaks of `sDecodeAny (f + 1)`, and `hfu` gives `fuelI it ≤ itemFuel b = 2 * b.length + 2`
  have hf : anyFuel (newStream b b.length) = 2 * b.length + 3 + 1 := rfl
  obtain ⟨s1, a1, a2, _⟩ := (stream_refines (2 * b.length + 3)).1 it _ [] [] hcore rfl hok
    (by unfold itemFuel at hfu; omega) ⟨by simp [avail], Nat.le_refl _⟩
  unfold sDecodeBytesAny
  rw [hf, a1]
  simp only [a2.inp_eq, List.isEmpty_nil, if_true]

-- non-vacuity (through the theorem: evaluating the state machine by `rfl` is needlessly expensive)
set_option maxRecDepth 8192 in
example : sDecodeBytesAny [0xc4, 0x01, 0xc1, 0x80, 0x05] = .ok (.list [.str [1], .list [.str []], .str [5]]) :=
  stream_refines_decodeItem _ _ (by rfl)

end Rangers.Props.C08
