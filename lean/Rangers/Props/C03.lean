import Rangers.Proofs.TrieDBInv
import Rangers.Proofs.TrieDBExample
/-!
# C03 — a committed state root is durable, complete and never invalidates older roots

Theorems about `Rangers.Model.TrieDB` (the model the driver `drv_c03` executes).
Predicates (`Closed`, `AllRes`, `Resolvable`, `CacheInv`, `Consistent`, `Extends`,
`Inv`, `StoreOk`, `Reach`) are defined in `Rangers/Proofs/TrieDB*.lean`.
`emptyData`/`emptyCode` are parameters: every theorem holds for all values.
-/
namespace Rangers.Props.C03
open Rangers.Model.TrieDB Rangers.Generated

/-- Whatever order Go's map iteration gives the external children (`c` is
    arbitrary), after **every** prefix of the Put sequence of `commit(root)` the
    disk is closed.  Node-granularity prefixes subsume every way of splitting the
    sequence into batches. -/
theorem commit_prefix_closed (c : Cache) (d : Disk) (f : Nat) (root : Hash) (ws : List Hash)
    (hcl : Closed d) (hci : CacheInv c d) (hw : walk c f root = some ws) :
    ∀ p, p <+: ws → Closed (applyWrites c d p) :=
  fun _ hp => (walk_good c d hci f root ws hw).prefix_closed hcl hp

/-- the same at full strength: every hash present on disk is fully resolvable
    after every prefix ("every root whose top node is present on disk is fully
    resolvable", at any point of a commit). -/
theorem commit_prefix_resolvable (c : Cache) (d : Disk) (f : Nat) (root : Hash) (ws : List Hash)
    (ha : AllRes d) (hci : CacheInv c d) (hcs : Consistent c d) (hw : walk c f root = some ws) :
    ∀ p, p <+: ws → AllRes (applyWrites c d p) :=
  fun _ hp => (walk_good c d hci f root ws hw).prefix_allRes ha hcs hp

/-- Go randomises map iteration per `range` statement: a node the walk reaches
    twice may be walked in two different child orders within one commit.
    `WalksN c f root ws` admits an order of its own for **every visit**; the
    executable `walk` is one instance (`walk_is_a_visit_order`).  The crash-point
    guarantees hold for all of them. -/
theorem any_visit_order_prefix_closed (c : Cache) (d : Disk) (f : Nat) (root : Hash) (ws : List Hash)
    (hcl : Closed d) (hci : CacheInv c d) (hw : WalksN c f root ws) :
    ∀ p, p <+: ws → Closed (applyWrites c d p) :=
  fun _ hp => (walksN_good c d hci f root ws hw).prefix_closed hcl hp

theorem any_visit_order_prefix_resolvable (c : Cache) (d : Disk) (f : Nat) (root : Hash) (ws : List Hash)
    (ha : AllRes d) (hci : CacheInv c d) (hcs : Consistent c d) (hw : WalksN c f root ws) :
    ∀ p, p <+: ws → AllRes (applyWrites c d p) ∧ Extends d (applyWrites c d p) :=
  fun p hp => ⟨(walksN_good c d hci f root ws hw).prefix_allRes ha hcs hp, (writes_extends p d hcs).1⟩

theorem walk_is_a_visit_order (c : Cache) (f : Nat) (h : Hash) (ws : List Hash)
    (hw : walk c f h = some ws) : WalksN c f h ws := walk_walksN c f h ws hw

/-- what the driver executes: `walkO`/`commitV` take the order the runtime picked at
    **every visit** (found from the observed Put sequence); whatever those orders are,
    the sequence is a `WalksN` one, so all crash-point theorems apply to it … -/
theorem walkO_is_a_visit_order (c : Cache) (f : Nat) (h : Hash) (ords : Ords) (ws : List Hash) (rest : Ords)
    (hw : walkO c f h ords = some (ws, rest)) : WalksN c f h ws := walkO_walksN c f h ords ws rest hw

/-- … and `commitV` (complete, or refused at any physical write) preserves the invariant
    and only extends the disk, for every choice of per-visit orders. -/
theorem commitV_preserves_invariant (s : St) (root : Hash) (failAt : Option Nat) (fuel : Nat) (ords : Ords)
    (out : CommitOut) (hi : Inv s) (hc : commitV s root failAt fuel ords = some out) :
    Inv out.st ∧ Extends s.disk out.st.disk := by
  obtain ⟨ws, g, rfl⟩ := commitV_good hi hc
  exact ⟨commitWith_inv failAt hi g, commitWith_extends failAt ws hi.consistent⟩

theorem commit_is_commitWith_after_walk (s : St) (root : Hash) (failAt : Option Nat) (fuel : Nat) :
    commit s root failAt fuel = (walk s.cache fuel root).map (commitWith s failAt) :=
  commit_eq_commitWith s root failAt fuel

/-- the physical batches are exactly the Put sequence cut into pieces (nothing
    lost, nothing reordered), the last piece being the final `batch.Write()`. -/
theorem batches_cover_writes (c : Cache) (ws : List Hash) :
    (splitBatches c ws [] 0).flatten = ws :=
  batches_flatten c ws

/-- the Put/flush loop of `commit` written against the batch object (`BatchSt`: `Put` adds
    `len(value)` to the size, `ValueSize`, `Reset`, final `Write`) issues exactly the physical
    writes `splitBatches` describes — the flush rule of the model *is* the Go loop. -/
theorem commit_loop_is_splitBatches (c : Cache) (ws : List Hash) :
    commitLoop c ws ⟨[], 0⟩ [] = splitBatches c ws [] 0 :=
  commitLoop_eq c ws ⟨[], 0⟩ []

/-- crash after any number `j` of physical batch writes of a commit, however
    the flush rule split it ("including commits large enough to be split over
    several batches"): every stored hash is fully resolvable. -/
theorem crash_point_resolvable (c : Cache) (d : Disk) (f : Nat) (root : Hash) (ws : List Hash)
    (ha : AllRes d) (hci : CacheInv c d) (hcs : Consistent c d) (hw : walk c f root = some ws) (j : Nat) :
    AllRes (applyBatches c d ((splitBatches c ws [] 0).take j)) := by
  rw [applyBatches_eq]
  exact commit_prefix_resolvable c d f root ws ha hci hcs hw _ (take_batches_prefix c ws j)

/-- The invariant holds in every state reachable from the empty store by
    stores (respecting `StoreOk`), references, map re-orderings, commits that
    succeed or are refused at **any** physical write, and process deaths. -/
theorem reachable_invariant (eD eC : Hash) (s : St) (h : Reach eD eC s) : Inv s := reach_inv h

/-- The same with the assumption `StoreOk` replaced by what the driver verifies on
    every run: a run in which every `ins`/`insl` was answered `ok` (the model's
    `storeCheck` passed; `ok!pre` would be a diff against the implementation) or
    `dup` passes only through states satisfying the invariant.  What the callers of
    `hasher.store` guarantee is thus observed on each execution, not assumed. -/
theorem checked_run_invariant (eD eC : Hash) (s : St) (h : ReachChecked eD eC s) : Inv s := reachChecked_inv h

theorem checked_run_top_present_resolvable (eD eC : Hash) (s : St) (hr : ReachChecked eD eC s) (h : Hash)
    (hh : Has s.disk h) : Resolvable s.disk h := (reachChecked_inv hr).allRes h hh

/-- For every history and crash point: a hash whose top node is on disk is fully
    resolvable from the disk alone. -/
theorem top_present_resolvable (eD eC : Hash) (s : St) (hr : Reach eD eC s) (h : Hash)
    (hh : Has s.disk h) : Resolvable s.disk h := (reach_inv hr).allRes h hh

/-- closed + ranked ⇒ present roots resolve.  Acyclicity is needed (`closed_alone_insufficient`);
    a hash-addressed store is acyclic unless Keccak has a cycle. -/
theorem closed_acyclic_resolvable (d : Disk) (hcl : Closed d) (hr : Ranked d) (h : Hash) (hh : Has d h) :
    Resolvable d h := by
  obtain ⟨rank, hrank⟩ := hr
  induction h using (measure rank).wf.induction with
  | _ h ih =>
    obtain ⟨n, hn⟩ := lookup_of_has hh
    exact Resolvable.node h n hn fun r hr => ih r (hrank h n hn r hr) (hcl h n hn r hr)

/-- without acyclicity closedness alone is not enough: the one-node cycle. -/
theorem closed_alone_insufficient :
    ∃ d : Disk, Closed d ∧ Has d 1 ∧ ¬ Resolvable d 1 := by
  refine ⟨[(1, ⟨1, 0, [1]⟩)], fun h n hn => ?_, by decide, fun hres => ?_⟩
  · cases List.mem_singleton.mp (lookup_mem hn)
    decide
  · -- a derivation of `Resolvable d 1` contains a smaller one of the same fact
    have key : ∀ k, Resolvable [(1, (⟨1, 0, [1]⟩ : DNode))] k → k ≠ 1 := by
      intro k hk
      induction hk with
      | node h n hl _ ih =>
        rintro rfl
        cases List.mem_singleton.mp (lookup_mem hl)
        exact ih 1 (List.mem_singleton_self 1) rfl
    exact key 1 hres rfl

/-- No operation removes or changes anything on disk; a root resolvable before
    any step is resolvable after it. -/
theorem older_roots_survive (eD eC : Hash) (s s' : St) (op : Op) (hr : Reach eD eC s)
    (hs : step eD eC s op = some s') (r : Hash) (hres : Resolvable s.disk r) :
    Extends s.disk s'.disk ∧ Resolvable s'.disk r := by
  have he := (step_sound (reach_inv hr) hs).1
  exact ⟨he, resolvable_extends he hres⟩

/-- … and reads below it return the same content (same tree of blob tags). -/
theorem older_roots_same_content (d d' : Disk) (he : Extends d d') (f : Nat) (r : Hash) (v : Nat × Nat)
    (hv : view (diskGet d) f r = some v) : view (diskGet d') f r = some v := by
  refine view_transfer (diskGet d) (diskGet d') (fun _ => True) ?_ f r v trivial hv
  intro h _ n hn
  exact ⟨he h n hn, fun _ _ => trivial⟩

/-- the same for an arbitrary Put sequence, e.g. the part of a commit that
    reached the disk before a crash: older roots are untouched. -/
theorem older_roots_survive_writes (c : Cache) (d : Disk) (hcs : Consistent c d) (ws : List Hash) (r : Hash)
    (hres : Resolvable d r) : Resolvable (applyWrites c d ws) r :=
  resolvable_extends (writes_extends ws d hcs).1 hres

/-- The second sentence of the property, spelled out: the process dies after
    `k` physical writes of a commit (any `k`, any reachable state, any root).
    In the restarted process (empty caches) every hash present on disk is fully
    resolvable, and every root resolvable before the commit began still is,
    with the disk only extended. -/
theorem crash_during_commit (eD eC : Hash) (s s1 s2 : St) (hr : Reach eD eC s) (root : Hash) (k : Nat)
    (h1 : step eD eC s (.commit root (some k)) = some s1) (h2 : step eD eC s1 .die = some s2) :
    s2.cache = [] ∧ (∀ h, Has s2.disk h → Resolvable s2.disk h) ∧
    (∀ r, Resolvable s.disk r → Resolvable s2.disk r) ∧ Extends s.disk s2.disk := by
  have r1 : Reach eD eC s1 := Reach.step (.commit root (some k)) hr trivial h1
  have r2 : Reach eD eC s2 := Reach.step .die r1 trivial h2
  have e1 := (step_sound (reach_inv hr) h1).1
  have e2 := (step_sound (reach_inv r1) h2).1
  refine ⟨?_, (reach_inv r2).allRes, fun r hres => resolvable_extends (extends_trans e1 e2) hres, extends_trans e1 e2⟩
  cases h2
  rfl

/-- a commit (successful or refused at any write) never changes what the live
    node database answers for a hash: nothing is dropped from the cache before
    it is on disk. -/
theorem live_reads_stable_across_commit (s : St) (root : Hash) (failAt : Option Nat) (fuel : Nat)
    (out : CommitOut) (hi : Inv s) (hc : commit s root failAt fuel = some out) (h : Hash) (n : DNode)
    (hn : liveLookup s h = some n) : liveLookup out.st h = some n := by
  -- `hi` is not needed: `live_commitWith` holds in every state
  obtain ⟨ws, _, rfl⟩ := commit_eq_some hc
  rw [live_commitWith]
  exact hn

theorem walk_fuel_irrelevant (c : Cache) (f k : Nat) (h : Hash) (ws : List Hash)
    (hw : walk c f h = some ws) : walk c (f + k) h = some ws := by
  induction k with
  | zero => exact hw
  | succ k ih => exact walk_fuel_mono c (f + k) h ws ih

/-- After a commit that reported success the root (if it was readable at all)
    is fully resolvable from the disk alone, and a reader sees below it exactly
    the tree (blob by blob) it saw before the commit through cache-then-disk. -/
theorem commit_complete (s : St) (root : Hash) (fuel : Nat) (out : CommitOut) (hi : Inv s)
    (hc : commit s root none fuel = some out) (hroot : (liveLookup s root).isSome = true) :
    out.ok = true ∧ Resolvable out.st.disk root ∧
    ∀ f v, view (liveLookup s) f root = some v → view (diskGet out.st.disk) f root = some v := by
  have hok : out.ok = true := by
    obtain ⟨ws, _, rfl⟩ := commit_eq_some hc
    rfl
  exact ⟨hok, commit_ok_complete hi hc hok hroot⟩

/-- "uncache only after the final batch write succeeded": a commit whose k-th
    physical write is refused leaves the memory cache exactly as it was. -/
theorem failed_commit_keeps_cache (s : St) (root : Hash) (k fuel : Nat) (out : CommitOut)
    (hc : commit s root (some k) fuel = some out) (hfail : out.ok = false) : out.st.cache = s.cache := by
  obtain ⟨ws, _, rfl⟩ := commit_eq_some hc
  exact commitWith_failed hfail

/-- `hasher.store` followed by the leaf callback of `AccountDB.Commit` keeps
    the cache invariant: the storage root and the code
    blob of an account leaf become children of the node holding the leaf, so
    they are committed with the account trie.  Hypothesis `StoreOk` says what the
    callers provide (children stored first; the callback is handed the root and
    code hash the reader will follow; guards `≠ emptyData` / `≠ emptyCode`). -/
theorem leaf_refs_covered (eD eC : Hash) (s : St) (h : Hash) (n : CNode) (leaf : Option (Hash × Hash))
    (c' : Cache) (hi : Inv s) (hok : StoreOk eD eC s h n leaf)
    (hs : store eD eC s.cache h n leaf = some c') : CacheInv c' s.disk :=
  (store_inv hi hok hs).cacheInv

/-- what the driver prints (`resolve` answering `ok` / `missing`) is what `Resolvable` says -/
theorem resolve_flag_sound (d : Disk) (f : Nat) (h : Hash) :
    (resolve (diskGet d) f h = .ok → Resolvable d h) ∧
    (resolve (diskGet d) f h = .missing → ¬ Resolvable d h) :=
  ⟨resolve_ok_sound d f h, resolve_missing_sound d f h⟩

/-! ## non-vacuity: a concrete history satisfies the hypotheses used above

Two storage-trie leaves `1`,`2` under a storage root `3`, a code blob `4`, and an
account-trie node `5` holding an account leaf whose storage root is `3` and whose
code hash is `4` (`emptyData = emptyCode = 0`).  The external references of `5`
exist only because the leaf callback ran. -/

example : walk exS5.cache 6 5 = some [1, 2, 3, 4, 5] := rfl

/-- the batch loop on the example: sizes 5,6,20,30,40 stay below the flush threshold: one final write -/
example : commitLoop exS5.cache [1, 2, 3, 4, 5] ⟨[], 0⟩ [] = [[1, 2, 3, 4, 5]] := rfl

/-- `walkO` on the example: the runtime lists code `4` before storage root `3` at the visit of `5` -/
example : walkO exS5.cache 3 5 [(5, [4, 3])] = some ([4, 1, 2, 3, 5], []) ∧
    walkO exS5.cache 3 5 [] = some ([1, 2, 3, 4, 5], []) ∧
    walkO exS5.cache 3 5 [(5, [4, 9])] = some ([1, 2, 3, 4, 5], [(5, [4, 9])]) := ⟨rfl, rfl, rfl⟩

/-- hypotheses of `any_visit_order_*`: the other map order at node `5` (code `4` before storage root `3`) -/
example : WalksN exS5.cache 3 5 [4, 1, 2, 3, 5] :=
  walkO_walksN exS5.cache 3 5 [(5, [4, 3])] _ [] rfl

/-- hypotheses of `commit_prefix_closed` / `commit_prefix_resolvable` / `crash_point_resolvable` -/
example : AllRes exS5.disk ∧ CacheInv exS5.cache exS5.disk ∧ Consistent exS5.cache exS5.disk ∧
    walk exS5.cache 6 5 = some [1, 2, 3, 4, 5] :=
  ⟨(reach_inv exS5_reach).allRes, (reach_inv exS5_reach).cacheInv, (reach_inv exS5_reach).consistent, rfl⟩

/-- a crash after the first three Puts leaves the storage root `3` on disk and resolvable, the state root `5` absent -/
example : Resolvable (applyWrites exS5.cache exS5.disk [1, 2, 3]) 3 ∧ ¬ Has (applyWrites exS5.cache exS5.disk [1, 2, 3]) 5 := by
  refine ⟨?_, by decide⟩
  have := commit_prefix_resolvable exS5.cache exS5.disk 6 5 [1, 2, 3, 4, 5]
    (reach_inv exS5_reach).allRes (reach_inv exS5_reach).cacheInv (reach_inv exS5_reach).consistent rfl
    [1, 2, 3] ⟨[4, 5], rfl⟩
  exact this 3 (by decide)

/-- hypotheses of `commit_complete`: the commit succeeds and the root was readable -/
example : ∃ out, commit exS5 5 none 6 = some out ∧ (liveLookup exS5 5).isSome = true ∧ out.st.cache = [] ∧
    view (diskGet out.st.disk) 6 5 = some (5, 65) := by
  exact ⟨_, rfl, rfl, rfl, rfl⟩

/-- the driver's check passes on the example store of the account-leaf node `5`
    (and fails without the leaf callback: `3`,`4` are then no children of `5`) -/
example : storeCheck exS4.disk exS5.cache 5 ⟨40, 15, [], [], [3, 4]⟩ = true ∧
    storeCheck exS4.disk ((5, ⟨40, 15, [], [], [3, 4]⟩) :: exS4.cache) 5 ⟨40, 15, [], [], [3, 4]⟩ = false :=
  ⟨rfl, rfl⟩

/-- hypotheses of `crash_during_commit`: the first write of the commit of `5` is refused, then the process dies -/
example : ∃ s1 s2, step 0 0 exS5 (.commit 5 (some 0)) = some s1 ∧ step 0 0 s1 .die = some s2 ∧ s2.cache = [] :=
  ⟨_, _, rfl, rfl, rfl⟩

/-- hypotheses of `failed_commit_keeps_cache`: the first physical write is refused -/
example : ∃ out, commit exS5 5 (some 0) 6 = some out ∧ out.ok = false ∧ out.written = [] :=
  ⟨_, rfl, rfl, rfl⟩

/-- without the leaf callback the same node violates the cache invariant:
    `5` needs `3` and `4`, which are neither on disk nor children of `5`. -/
example : ¬ CacheInv ((5, ⟨40, 15, [], [], [3, 4]⟩) :: exS4.cache) [] := by
  intro h
  rcases h 5 ⟨40, 15, [], [], [3, 4]⟩ rfl 3 List.mem_cons_self with h1 | ⟨h1, _⟩
  · exact absurd h1 (by decide)
  · exact absurd h1 (by decide)

/-- `Ranked`/`Closed` hypotheses of `closed_acyclic_resolvable` -/
example : Closed [(2, (⟨1, 0, [1]⟩ : DNode)), (1, ⟨1, 0, []⟩)] ∧ Ranked [(2, (⟨1, 0, [1]⟩ : DNode)), (1, ⟨1, 0, []⟩)] := by
  have key : ∀ kn ∈ [(2, (⟨1, 0, [1]⟩ : DNode)), (1, ⟨1, 0, []⟩)], ∀ r ∈ kn.2.need,
      Has [(2, (⟨1, 0, [1]⟩ : DNode)), (1, ⟨1, 0, []⟩)] r ∧ r < kn.1 := by decide
  exact ⟨fun h n hn r hr => (key (h, n) (lookup_mem hn) r hr).1,
    id, fun h n hn r hr => (key (h, n) (lookup_mem hn) r hr).2⟩

end Rangers.Props.C03
