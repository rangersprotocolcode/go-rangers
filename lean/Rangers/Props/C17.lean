import Rangers.Proofs.PoolOrder
import Rangers.Proofs.PoolPack
import Rangers.Proofs.PoolMark
/-!
# C17 — the transaction pool hands each transaction to the chain at most once, never ahead of nonce

All statements are about `Rangers.Pool` (`Model/Pool.lean`), the definitions the driver `drv_c17`
executes against the real `TxPool` in the correspondence run. Helper lemmas live in
`Proofs/Pool*.lean`; every `theorem` below is one proof obligation.

Clauses of the property and where they are:
* executed ⇒ never admitted again ............ `no_readmit`, `at_most_once`
* executed ⇒ never packed again .............. `pack_disjoint_executed`, `at_most_once`
* reorg ⇒ pending again, can be packed ....... `reorg_restores_partial` (+ `FullStatementReorg`,
                                               `reorg_restores_counterexample`: full container)
* batch: no duplicates, at most the limit .... `pack_subset_pending_nodup`, `pack_le_limit`
* ascending nonce per sender ................. `pack_nonce_order`, `nonce_order_any_sort`
                                               (+ `FullStatementNonceOrder`, `…_counterexample`)
* never ahead of the expected nonce .......... `pack_not_ahead`, `expected_le_state_plus_placed`
* operations never corrupt the pool .......... `inv_preserved`, `inv_reachable`, `pack_total`,
                                               `mark_panics_iff` (sequential histories);
                                               `C17E.locked_never_corrupts` (every schedule under
                                               the pool mutex; the lock-free readers are evidence
                                               from the `-race` run, not proof)
-/
namespace Rangers.Props.C17
open Rangers Rangers.Pool

/-- `AddTransaction` / `add` of a transaction whose hash has an executed record changes nothing and
answers `ErrExist`. -/
theorem no_readmit (s : Pool) (t : Tx) (h : s.isExecuted t.hash = true) :
    s.addTransaction t = (s, .exist) ∧ s.add t = (s, .exist) := by
  have he : s.existed t.hash = true := by simp [Pool.existed, h]
  exact ⟨addTransaction_exist he, add_exist he⟩

/-- The same for a hash that is already pending: no duplicate entry, no ring reset. -/
theorem no_duplicate_pending (s : Pool) (t : Tx) (h : s.contains t.hash = true) :
    s.addTransaction t = (s, .exist) := by
  have he : s.existed t.hash = true := by simp [Pool.existed, h]
  exact addTransaction_exist he

def tA : Tx := ⟨1, 11, [48, 120, 48, 49], 0, 0, 0⟩
def tB : Tx := ⟨2, 12, [48, 120, 48, 49], 1, 0, 7⟩
def tC : Tx := ⟨3, 13, [48, 120, 48, 50], 0, 5, 0⟩

/-- non-vacuity: a pool with an executed record exists and rejects the re-submission -/
example : (((Pool.empty 10).markExecuted [11] [tA] []).1).isExecuted tA.hash = true := by decide +kernel
example : (((Pool.empty 10).markExecuted [11] [tA] []).1.addTransaction tA).2 = .exist := by decide +kernel

/-- The mutating operations as single calls: `mark` with any arguments, `unmark` of any list of transactions (the reduced
`Pool.unmark`, which leaves the evicted cache alone). `HOp` further down is the form the chain drives, with `remove` =
`UnMarkExecuted` of the top block (`Pool.unmarkE`). -/
inductive Op where
  | add (t : Tx)                                                   -- AddTransaction
  | mark (receipts : List Nat) (txs : List Tx) (evicted : List Nat) -- MarkExecuted
  | unmark (txs : List Tx)                                         -- UnMarkExecuted
  | expire                                                         -- growRing

def apply (s : Pool) : Op → Pool
  | .add t => (s.addTransaction t).1
  | .mark r t e => (s.markExecuted r t e).1
  | .unmark t => s.unmark t
  | .expire => s.expire

/-- all that `Inv` needs of a call: the receipts of a marked block belong to its transactions -/
def Op.WF : Op → Prop
  | .mark r t _ => Covered r t
  | _ => True

theorem inv_preserved (s : Pool) (op : Op) (hi : Inv s) (hw : op.WF) : Inv (apply s op) := by
  cases op with
  | add t => exact inv_addTransaction t hi
  | mark r t e => exact (markExecuted_ok e hi hw).inv
  | unmark t => exact (unmark_spec s t).inv hi
  | expire => exact inv_expire hi

/-- The sequential part of "operations never corrupt the pool": `Inv` holds in every state reachable from the empty
pool by calls whose receipts belong to their block. -/
theorem inv_reachable (limit : Nat) (ops : List Op) (hw : ∀ op ∈ ops, op.WF) :
    Inv (ops.foldl apply (Pool.empty limit)) :=
  List.foldlRecOn ops apply (inv_empty limit) (fun s hi op hop => inv_preserved s op hi (hw op hop))

example : Inv (([Op.add tA, Op.add tB, Op.mark [11] [tA] [12], Op.unmark [tA], Op.expire].foldl apply (Pool.empty 3))) :=
  inv_reachable 3 _ (by
    intro op hop
    simp only [List.mem_cons, List.mem_nil_iff, or_false] at hop
    rcases hop with rfl | rfl | rfl | rfl | rfl
    · trivial
    · trivial
    · exact covered_singleton tA
    · trivial
    · trivial)

/-- The error branch of `MarkExecuted` (nil dereference in `refreshGateNonce`) is taken exactly when a
receipt has no transaction in the block's list — never on what `VMExecutor.Execute` returns. -/
theorem mark_panics_iff (s : Pool) (receipts : List Nat) (txs : List Tx) (evicted : List Nat) :
    (s.markExecuted receipts txs evicted).2 = true ↔ ¬ Covered receipts txs := by
  have key := markExecutedZ_res (s := s) (rs := receipts.map (fun h => (h, 1))) (txs := txs) (evicted := evicted)
  rw [map_fst_unit_sizes] at key
  rw [markExecuted_snd, ← key]
  cases (s.markExecutedZ (receipts.map (fun h => (h, 1))) txs evicted none).2.2 <;> decide

example : ((Pool.empty 10).markExecuted [11, 99] [tA] []).2 = true := by decide +kernel

/-- `PackForCast` never panics inside `Transactions.Less` on a pool state: the `panic("equal hash")`
branch needs two entries with the same hash, and pending hashes are unique. -/
theorem pack_total (c : Cfg) (σ : Nat → Nat) (s : Pool) (hi : Inv s) : ∃ l, s.pack c σ = some l :=
  pack_isSome σ hi

/-- …while `Less` itself does panic on two distinct objects with equal source, nonce and hash
(reachable only from callers that sort lists with duplicates, not from the pool). -/
theorem less_panics_on_equal_hash (c : Cfg) (h23 : c.p023 = true) (a b : Tx)
    (hr : a.req = 0 ∧ b.req = 0) (hs : a.src = b.src) (hn : a.nonce = b.nonce) (hh : a.hash = b.hash) :
    lessRes c a b = .panic :=
  lessRes_panic_iff.mpr ⟨hr, h23, hs, hn, hh⟩

/-- A packed batch is a sub-list of a permutation of the pending list, without duplicates. -/
theorem pack_subset_pending_nodup (c : Cfg) (σ : Nat → Nat) (s : Pool) (l : List Tx) (hi : Inv s)
    (h : s.pack c σ = some l) : (∀ t ∈ l, t ∈ s.txs) ∧ (l.map (·.hash)).Nodup := by
  obtain ⟨r, hperm, hsub, _, _⟩ := pack_some h
  refine ⟨fun t ht => hperm.mem_iff.mp (hsub.subset ht), ?_⟩
  have : (r.map (·.hash)).Nodup := (hperm.map _).nodup_iff.mpr (by rw [txs_map_hash]; exact hi.nodup)
  exact this.sublist (hsub.map _)

/-- At most `txCountPerBlock` = 200 transactions (the constant is tied to the source in `Props/C17B`). -/
theorem pack_le_limit (c : Cfg) (σ : Nat → Nat) (s : Pool) (l : List Tx) (h : s.pack c σ = some l) :
    l.length ≤ 200 := by
  obtain ⟨_, _, _, hlen, _⟩ := pack_some h
  exact hlen

/-- Nothing that has an executed record is packed. -/
theorem pack_disjoint_executed (c : Cfg) (σ : Nat → Nat) (s : Pool) (l : List Tx) (hi : Inv s)
    (h : s.pack c σ = some l) : ∀ t ∈ l, s.isExecuted t.hash = false := by
  intro t ht
  have hm : t ∈ s.txs := (pack_subset_pending_nodup c σ s l hi h).1 t ht
  have hh : t.hash ∈ s.hashes := by rw [← txs_map_hash]; exact List.mem_map_of_mem hm
  exact isExecuted_eq_false_iff.mpr (hi.disjoint _ hh)

def sA : Pool := ((Pool.empty 10).addTransaction tA).1
example : Inv sA ∧ sA.pack ⟨true, true, true, true⟩ (fun _ => 0) = some [tA] := by
  refine ⟨inv_addTransaction _ (inv_empty _), by decide +kernel⟩

/-- Every nonce-checked (`RequestId = 0`) transaction in a batch packed under proposal 018 has a nonce
not above `expAfter`: the state nonce of its sender advanced (in `uint64`) once for every in-sequence
transaction of that sender placed before it. -/
theorem pack_not_ahead (c : Cfg) (σ : Nat → Nat) (s : Pool) (l pre post : List Tx) (t : Tx)
    (h18 : c.p018 = true) (h : s.pack c σ = some l) (hl : l = pre ++ t :: post) (ht : t.req = 0) :
    t.nonce ≤ expAfter t.src (σ (addrOf t.src)) pre := by
  obtain ⟨r, _, _, _, hw⟩ := pack_some h
  -- the cut at 200 only drops a suffix of the walk's output
  have hp : walk σ txCountPerBlock [] r = pre ++ t :: (post ++ (walk σ txCountPerBlock [] r).drop txCountPerBlock) := by
    rw [← List.cons_append, ← List.append_assoc, ← hl, (hw h18).2]; exact (List.take_append_drop _ _).symm
  exact walk_not_ahead σ r txCountPerBlock [] pre _ t hp ht

/-- …and that expectation is at most the state nonce plus the number of the sender's in-sequence
transactions already placed. -/
theorem expected_le_state_plus_placed (s : Bytes) (e : Nat) (pre : List Tx) :
    expAfter s e pre ≤ e + inSeqCount s e pre := expAfter_le s pre e

example : sA.pack ⟨true, true, true, true⟩ (fun _ => 0) = some ([] ++ tA :: []) ∧ tA.req = 0 := by decide +kernel

def NonceAscending (l : List Tx) : Prop :=
  l.Pairwise (fun a b => a.req = 0 → b.req = 0 → a.src = b.src → a.nonce ≤ b.nonce)

/-- Independent of the sorting algorithm: for *any* slice `r` that is sorted w.r.t. `Less` (proposal 016,
021 or 023 active), what the nonce walk and the cut keep is in ascending nonce order per sender. -/
theorem nonce_order_any_sort (c : Cfg) (σ : Nat → Nat) (r : List Tx) (k n : Nat) (m : NonceMap)
    (hf : c.p016 = true ∨ c.p021 = true ∨ c.p023 = true) (hs : SortedBy c r) :
    NonceAscending ((walk σ k m r).take n) := by
  have hsub : ((walk σ k m r).take n).Sublist r := (List.take_sublist _ _).trans (walk_sublist σ r k m)
  have := hs.sublist hsub
  exact this.imp (fun {a b} hab ha hb hsrc => nonce_le_of_not_less hf ha hb hsrc hab)

/-- For the pool's own sort: with proposal 018 and 021 or 023 active and canonical `Source` strings
(what `VerifyTransaction` admits), every packed batch is in ascending nonce order per sender. -/
theorem pack_nonce_order (c : Cfg) (σ : Nat → Nat) (s : Pool) (l : List Tx)
    (h18 : c.p018 = true) (hf : c.p021 = true ∨ c.p023 = true)
    (hc : Canonical (· ∈ s.txs)) (h : s.pack c σ = some l) : NonceAscending l := by
  obtain ⟨r, _, _, _, hw⟩ := pack_some h
  obtain ⟨hsorted, hl⟩ := hw h18
  rw [hl]
  exact nonce_order_any_sort c σ r _ _ [] (Or.inr hf) (hsorted (weakOrder_canonical hf hc))

example : Canonical (· ∈ sA.txs) := by
  intro a b ha hb _
  have h : sA.txs = [tA] := by decide +kernel
  rw [h] at ha hb
  rw [List.mem_singleton.mp ha, List.mem_singleton.mp hb]

/-- The same statement without the canonical-sources hypothesis. -/
def FullStatementNonceOrder : Prop :=
  ∀ (c : Cfg) (σ : Nat → Nat) (s : Pool) (l : List Tx), Inv s → c.p018 = true → c.p023 = true →
    s.pack c σ = some l → NonceAscending l

def x1 : Tx := ⟨1, 101, [48, 120, 97, 98], 5, 0, 0⟩     -- Source "0xab", nonce 5
def x2 : Tx := ⟨2, 102, [48, 120, 65, 66], 9, 0, 0⟩     -- Source "0xAB" (same numeric value), nonce 9
def x3 : Tx := ⟨3, 103, [48, 120, 97, 98], 3, 0, 0⟩     -- Source "0xab", nonce 3
def sX : Pool := ((((Pool.empty 10).addTransaction x1).1.addTransaction x2).1.addTransaction x3).1

/-- It is false of the model (and of the code, corpus case `alias-nonce-order.ops`): `Less` compares the
numeric value of `Source`, the nonce walk keys by the string; with two spellings of one value the
relation is not transitive and the sort leaves nonce 5 before nonce 3 of the same `Source`. Needs
transactions that `VerifyTransaction` would reject. -/
theorem pack_nonce_order_counterexample : ¬ FullStatementNonceOrder := by
  intro h
  have hi : Inv sX := inv_addTransaction _ (inv_addTransaction _ (inv_addTransaction _ (inv_empty _)))
  have hp : sX.pack ⟨true, true, true, true⟩ (fun _ => 5) = some [x1, x3] := by decide +kernel
  have := h ⟨true, true, true, true⟩ (fun _ => 5) sX [x1, x3] hi rfl rfl hp
  exact absurd ((List.pairwise_cons.mp this).1 x3 (List.mem_singleton_self _) rfl rfl rfl) (by decide)

/-- What the chain hands to the pool for one block. -/
structure Block where
  receipts : List Nat      -- hashes of the transactions that were executed (have a receipt)
  txs : List Tx            -- block.Transactions
  evicted : List Nat       -- header.EvictedTxs

/-- the hashes that have a receipt in a block of the chain (head first) -/
def executedOn : List Block → List Nat
  | [] => []
  | b :: ch => b.receipts ++ executedOn ch

inductive HOp where
  | add (t : Tx)        -- network / RPC goroutine: AddTransaction
  | mark (b : Block)    -- addBlockOnChain → updateTxPool → MarkExecuted
  | remove              -- blockChain.remove(top block) → UnMarkExecuted
  | expire              -- ring timer

/-- the pool next to the chain of the blocks it has been told of: `mark` puts a block on top, `remove` takes the top block
off -/
def hstep : Pool × List Block → HOp → Pool × List Block
  | (s, ch), .add t => ((s.addTransaction t).1, ch)
  | (s, ch), .mark b => ((s.markExecuted b.receipts b.txs b.evicted).1, b :: ch)
  | (s, b :: ch), .remove => (s.unmarkE b.txs b.evicted, ch)
  | (s, []), .remove => (s, [])
  | (s, ch), .expire => (s.expire, ch)

/-- The chain's side of the contract: receipts belong to the block's transactions, and a block put on
the chain contains no transaction already executed on it. -/
def HOp.WF (ch : List Block) : HOp → Prop
  | .mark b => Covered b.receipts b.txs ∧ ∀ t ∈ b.txs, t.hash ∉ executedOn ch
  | _ => True

/-- reached from the empty pool and the empty chain by operations that are well-formed where they happen -/
inductive Reach (limit : Nat) : Pool → List Block → Prop where
  | init : Reach limit (Pool.empty limit) []
  | step {s : Pool} {ch : List Block} (op : HOp) : Reach limit s ch → op.WF ch →
      Reach limit (hstep (s, ch) op).1 (hstep (s, ch) op).2

/-- every block of the chain was well-formed (`HOp.WF`) when it was put there. `history_refines` carries it for the
removal: the records `UnMarkExecuted` deletes are those of the block's receipts because these belong to its transactions,
and no record of a block below goes because none of its transactions is executed there. -/
def ChainOK : List Block → Prop
  | [] => True
  | b :: ch => Covered b.receipts b.txs ∧ (∀ t ∈ b.txs, t.hash ∉ executedOn ch) ∧ ChainOK ch

/-- Refinement to the set specification: in every reachable state the executed records are exactly the
transactions executed on the current canonical chain, and the pool invariant holds. -/
theorem history_refines (limit : Nat) (s : Pool) (ch : List Block) (hr : Reach limit s ch) :
    Inv s ∧ (∀ k, k ∈ s.execHashes ↔ k ∈ executedOn ch) ∧ ChainOK ch := by
  induction hr with
  | init => exact ⟨inv_empty _, by simp [Pool.empty, Pool.execHashes, executedOn], trivial⟩
  | @step s ch op _ hw ih =>
    obtain ⟨hi, hx, hc⟩ := ih
    cases op with
    | add t =>
      exact ⟨inv_addTransaction t hi, fun k => (execHashes_addTransaction s t).symm ▸ hx k, hc⟩
    | mark b =>
      obtain ⟨hcov, hfresh⟩ := hw
      have m := markExecuted_ok b.evicted hi hcov
      refine ⟨m.inv, fun k => ?_, hcov, hfresh, hc⟩
      show k ∈ (s.markExecuted b.receipts b.txs b.evicted).1.execHashes ↔ k ∈ b.receipts ++ executedOn ch
      rw [m.exec, hx, List.mem_append]; exact Or.comm
    | remove =>
      cases ch with
      | nil => exact ⟨hi, hx, hc⟩
      | cons b rest =>
        obtain ⟨hcov, hfresh, hc'⟩ := hc
        have u := unmarkE_spec s b.txs b.evicted
        refine ⟨u.inv hi, fun k => ?_, hc'⟩
        show k ∈ (s.unmarkE b.txs b.evicted).execHashes ↔ k ∈ executedOn rest
        rw [u.exec, hx, executedOn, List.mem_append]
        constructor
        · rintro ⟨h1 | h1, h2⟩
          · obtain ⟨t, ht, e⟩ := hcov k h1
            exact absurd (List.mem_map.mpr ⟨t, ht, e⟩) h2
          · exact h1
        · intro h1
          refine ⟨Or.inr h1, ?_⟩
          intro hm
          obtain ⟨t, ht, e⟩ := List.mem_map.mp hm
          exact hfresh t ht (e ▸ h1)
    | expire =>
      exact ⟨inv_expire hi, hx, hc⟩

/-- **At most once.** In every state reachable through add / mark / remove / expire in any order, a
transaction executed in a block of the current canonical chain is refused by `AddTransaction` (the pool
is unchanged) and is in no batch `PackForCast` returns, under every proposal set and state nonce. -/
theorem at_most_once (limit : Nat) (s : Pool) (ch : List Block) (hr : Reach limit s ch) (k : Nat)
    (hk : k ∈ executedOn ch) :
    (∀ t : Tx, t.hash = k → s.addTransaction t = (s, .exist)) ∧
    (∀ (c : Cfg) (σ : Nat → Nat) (l : List Tx), s.pack c σ = some l → ∀ t ∈ l, t.hash ≠ k) := by
  obtain ⟨hi, hx, _⟩ := history_refines limit s ch hr
  have hex : k ∈ s.execHashes := (hx k).mpr hk
  refine ⟨?_, ?_⟩
  · intro t ht
    exact (no_readmit s t (by rw [ht]; exact isExecuted_iff.mpr hex)).1
  · intro c σ l hp t ht e
    have := pack_disjoint_executed c σ s l hi hp t ht
    rw [e, isExecuted_iff.mpr hex] at this
    contradiction

def bA : Block := ⟨[11], [tA], []⟩
/-- non-vacuity: a reachable state with a block on the chain -/
example : Reach 10 (hstep (hstep (Pool.empty 10, []) (.add tA)) (.mark bA)).1 [bA] :=
  Reach.step (.mark bA) (Reach.step (.add tA) Reach.init trivial) ⟨covered_singleton tA, fun _ _ h => nomatch h⟩

/-- **Reorg.** When the top block is removed, each of its transactions has no executed record any more,
is not executed on the remaining chain, and — if the container has room for them — is pending again
(so `PackForCast` sees it). -/
theorem reorg_restores_partial (limit : Nat) (s : Pool) (b : Block) (ch : List Block)
    (hr : Reach limit s (b :: ch)) (hroom : s.pending.length + b.txs.length ≤ s.limit) :
    ∀ t ∈ b.txs, (s.unmarkE b.txs b.evicted).contains t.hash = true ∧ (s.unmarkE b.txs b.evicted).isExecuted t.hash = false ∧
      t.hash ∉ executedOn ch := by
  obtain ⟨_, _, _, hfresh, _⟩ := history_refines limit s (b :: ch) hr
  have u := unmarkE_spec s b.txs b.evicted
  intro t ht
  exact ⟨contains_iff.mpr (u.back hroom t ht),
    isExecuted_eq_false_iff.mpr (fun he => ((u.exec t.hash).mp he).2 (List.mem_map_of_mem ht)), hfresh t ht⟩

/-- The reorg clause as the property states it: without the proviso about room. -/
def FullStatementReorg : Prop :=
  ∀ (limit : Nat) (s : Pool) (b : Block) (ch : List Block), Reach limit s (b :: ch) →
    ∀ t ∈ b.txs, (s.unmarkE b.txs b.evicted).contains t.hash = true

/-- False of the model and of the code (`known: key=unmark-lost-full-pool`): `push` silently drops when
the container is full. Limit 1: add A, block {A} is put on the chain, add C, the block is removed —
A is neither pending nor executed. The searcher replays the same history against the real pool with
the real limit 50000. -/
theorem reorg_restores_counterexample : ¬ FullStatementReorg := by
  intro h
  have r1 : Reach 1 _ _ := Reach.step (.add tA) Reach.init trivial
  have r2 : Reach 1 _ _ := Reach.step (.mark bA) r1 ⟨covered_singleton tA, fun _ _ h => nomatch h⟩
  have r3 : Reach 1 _ _ := Reach.step (.add tC) r2 trivial
  have := h 1 _ bA [] r3 tA (by simp [bA])
  revert this
  decide +kernel

end Rangers.Props.C17
