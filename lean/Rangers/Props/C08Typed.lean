import Rangers.Model.RLPTyped
import Rangers.Proofs.RLPTypedSound
import Rangers.Generated.C08Types
/-!
# C08 — typed coders (`decodeTy` / `encT`): canonicity

`typed_canonical_partial` is proved for every type without a `rlp:"nil"` field; the full
statement is false of model and code (`typed_canonical_counterexample`, known finding
`noncanon:nil-ptr-empty-kind`).  The node's own types come from `Generated/C08Types.lean`
(regenerated from the source on every run): a `rlp:"nil"` tag that appears in the account record
breaks `account_plain`; one that appears, disappears or changes its position in `txdata` breaks
`txdata_nil_fields`.
-/
namespace Rangers.Props.C08
open Rangers Rangers.RLP Rangers.Generated.C08

/-- Typed canonicity: an accepted input is exactly what the encoder writes for the decoded value. -/
def FullStatementTypedCanonical : Prop :=
  ∀ (ty : Ty) (b : Bytes) (v : Val), decodeTy ty b = .ok v → encT ty v = .ok b

theorem typed_canonical_partial (ty : Ty) (b : Bytes) (v : Val) (hp : ty.plain)
    (h : decodeTy ty b = .ok v) : encT ty v = .ok b := by
  obtain ⟨e, he1, he2⟩ := (typed_sound _).1 ty b v [] hp (decodeTy_ok_iff.1 h)
  rw [he2, List.append_nil]; exact he1

/-- T-gen: the account record has no `rlp:"nil"` field, so typed canonicity applies to it. -/
theorem account_plain : account_Account.plain := by
  simp [account_Account, Ty.plain_struct, Ty.plain, plainFs]

-- non-vacuity: the account record is a plain type and really decodes
example : account_Account.plain := account_plain
set_option maxRecDepth 8192 in
example : decodeTy (.struct [(.none, .uint 64), (.none, .barr 2), (.none, .bytes)]) [0xc5, 0x05, 0x82, 0x00, 0x01, 0x80]
    = .ok (.list [.num 5, .bytes [0x00, 0x01], .bytes []]) := by rfl

set_option maxRecDepth 16384 in
/-- The witness: `struct{F *[20]byte "nil"}` accepts `c1 c0`, the encoder writes `c1 80`. -/
theorem typed_canonical_counterexample : ¬ FullStatementTypedCanonical := by
  intro h
  have h1 : decodeTy (.struct [(.nilOK, .ptr (.barr 20))]) [0xc1, 0xc0] = .ok (.list [.nil]) := by rfl
  have h2 := h _ _ _ h1
  have h3 : encT (.struct [(.nilOK, .ptr (.barr 20))]) (.list [.nil]) = .ok [0xc1, 0x80] := by rfl
  rw [h3] at h2
  injection h2 with h2
  have : (0x80 : UInt8) = 0xc0 := by
    have := congrArg (fun l => l.getD 1 0) h2
    simpa using this
  exact absurd this (by decide)

theorem account_canonical (b : Bytes) (v : Val) (h : decodeTy account_Account b = .ok v) :
    encT account_Account v = .ok b :=
  typed_canonical_partial _ b v account_plain h

theorem address_hash_canonical (b : Bytes) (v : Val) :
    (decodeTy common_Address b = .ok v → encT common_Address v = .ok b) ∧
    (decodeTy common_Hash b = .ok v → encT common_Hash v = .ok b) ∧
    (decodeTy slice_interface b = .ok v → encT slice_interface v = .ok b) :=
  ⟨typed_canonical_partial _ b v (by simp [common_Address, Ty.plain]),
   typed_canonical_partial _ b v (by simp [common_Hash, Ty.plain]),
   typed_canonical_partial _ b v (by simp [slice_interface, Ty.plain])⟩

/-- positions of `rlp:"nil"` fields of a struct type -/
def nilFields : Ty → List Nat
  | .struct fs => (fs.zipIdx.filter (fun p => p.1.1 = Tag.nilOK)).map (·.2)
  | _ => []

/-- T-gen: `eth_tx.txdata` has exactly one `rlp:"nil"` field, the recipient (index 3); that is the
    field the known finding is about. Another `rlp:"nil"` field, or this one at another index, breaks
    this obligation. -/
theorem txdata_nil_fields : nilFields eth_tx_txdata = [3] := by
  simp [nilFields, eth_tx_txdata, List.zipIdx]

set_option maxRecDepth 16384 in
/-- The known finding on the node's own type: a contract-creation transaction whose recipient is
    written `c0` and the one with `80` decode to the same result. -/
theorem txdata_two_encodings :
    decodeTy eth_tx_txdata [0xc9, 0x80, 0x80, 0x80, 0xc0, 0x80, 0x80, 0x80, 0x80, 0x80]
      = decodeTy eth_tx_txdata [0xc9, 0x80, 0x80, 0x80, 0x80, 0x80, 0x80, 0x80, 0x80, 0x80] := by rfl

end Rangers.Props.C08
