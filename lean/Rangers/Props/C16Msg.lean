import Rangers.Model.VrfMsg
import Rangers.Generated.C16Sites
/-!
C16: the message clause covers how the node really builds the message:
`msg = SHA3-256^(delta−1)(parent.Random)`, `delta = ⌊seconds(after − before)⌋ / MAX_GROUP_BLOCK_TIME + 1`.
-/
namespace Rangers.Props.C16Msg
open Rangers Rangers.Model Rangers.Model.VrfMsg

/-- The message is a function of the parent's random value and of the time SLOT only: two cast
    times in the same slot give the same message (proposer and verifier agree without agreeing
    on nanoseconds). -/
theorem msg_depends_on_slot_only (random : Bytes) (ns ns' : Int) (h : calDelta ns = calDelta ns') :
    blockMsg random ns = blockMsg random ns' := by
  unfold blockMsg; rw [h]

/-- For a non-negative block interval below 2^23 s the slot number is
    `ns / (MAX_GROUP_BLOCK_TIME · 10^9) + 1 ≥ 1` (Go's truncating divisions agree with floor). -/
theorem calDelta_nonneg (ns : Nat) (h : ns / 1000000000 < 2 ^ 23) (hm : maxGroupBlockTime ≠ 0) :
    calDelta (ns : Int) = some ((ns / 1000000000 / maxGroupBlockTime : Nat) + 1) := by
  unfold calDelta secondsTrunc
  have e1 : ((ns : Int).tdiv 1000000000) = ((ns / 1000000000 : Nat) : Int) := by
    rw [Int.tdiv_eq_ediv_of_nonneg (by omega)]; rfl
  simp only [hm, ↓reduceIte, e1, Int.natAbs_natCast, h, Option.map_some]
  rw [Int.tdiv_eq_ediv_of_nonneg (by omega)]
  rfl

/-- the live constant is 2 seconds per slot: non-vacuity of `hm` and a concrete slot computation -/
example : maxGroupBlockTime ≠ 0 ∧ calDelta 4999999999 = some 3 ∧ calDelta (-1) = some 1 := by decide

/-- `genVrfMsg` hashes exactly `delta − 1` times, and not at all for `delta ≤ 1`. -/
theorem genVrfMsg_unfold (random : Bytes) (delta : Int) :
    (delta ≤ 1 → genVrfMsg random delta = random) ∧
    (1 ≤ delta → genVrfMsg random (delta + 1) = genVrfMsg (sha3_256 random) delta) := by
  constructor
  · intro h
    have : (delta - 1).toNat = 0 := by omega
    unfold genVrfMsg; rw [this]; rfl
  · intro h
    have : (delta + 1 - 1).toNat = (delta - 1).toNat + 1 := by omega
    unfold genVrfMsg; rw [this]; rfl

theorem sha3_256_length (m : Bytes) : (sha3_256 m).length = 32 := by
  simp [sha3_256, Keccak.laneBytes]

/-- every message of a later slot is a 32-byte SHA3 digest -/
theorem genVrfMsg_length (random : Bytes) (delta : Int) (h : 2 ≤ delta) :
    (genVrfMsg random delta).length = 32 := by
  have key : ∀ n m, (hashTimes (n + 1) m).length = 32 := by
    intro n
    induction n with
    | zero => intro m; simp [hashTimes, sha3_256_length]
    | succ n ih => intro m; exact ih (sha3_256 m)
  have : (delta - 1).toNat = ((delta - 1).toNat - 1) + 1 := by omega
  unfold genVrfMsg; rw [this]; exact key _ _

/-- T-gen: the message construction in the source is what the model transcribes -/
theorem message_call_order :
    Generated.C16Sites.genVrfMsgCalls = ["base.Data2CommonHash().Bytes", "base.Data2CommonHash"] ∧
    Generated.C16Sites.calDeltaCalls = ["after.Sub().Seconds", "after.Sub"] ∧
    Generated.C16Sites.data2CommonHashCalls = ["sha3.Sum256", "panic"] ∧
    Generated.C16Sites.genProveCalls = ["CalDeltaByTime", "genVrfMsg", "vrf.VRFGenProve", "validateProve"] ∧
    Generated.C16Facts.maxGroupBlockTime = 2 := ⟨rfl, rfl, rfl, rfl, rfl⟩

end Rangers.Props.C16Msg
