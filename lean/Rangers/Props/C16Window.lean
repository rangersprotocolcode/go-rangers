import Rangers.Model.VrfCurve
import Rangers.Proofs.C16Window
import Rangers.Proofs.C16Radix
import Rangers.Proofs.C16Slide
/-!
C16: the sliding-window scalar multiplication of the code (`slide` +
`GeDoubleScalarMultVartime`, which the driver executes as `VrfCurve.smul`) against double-and-add,
in an arbitrary commutative group. The window loop computes (value of the digit string) • A for
EVERY odd-or-zero digit string, so the two agree whenever `slide k` is a sound recoding of k.
NOT proved: `valueLSB (slide k) = k` for all k (the carry logic of `slide`); it is evaluated for the
boundary scalars below and exercised by the correspondence run (`smul` ops).
-/
namespace Rangers.Props.C16Window
open Rangers.Model.VrfCurve Rangers.Proofs.C16Window

theorem sliding_window_computes_digit_value {G : Type} [AddCommGroup G] (A : G) (ds : List Int)
    (hodd : OddOrZero ds) :
    windowMulWith (0 : G) (fun x => x + x) (· + ·) (· - ·) ds A = valueLSB ds • A :=
  windowMul_group A ds hodd

theorem double_and_add_computes_multiple {G : Type} [AddCommGroup G] (A : G) (n k : Nat) :
    daWith (0 : G) (fun x => x + x) (· + ·) A n k = ((k % 2 ^ n : ℕ) : ℤ) • A :=
  da_group A n k

theorem sliding_window_eq_double_and_add {G : Type} [AddCommGroup G] (A : G) (k : Nat)
    (hk : k < 2 ^ 256) (hodd : OddOrZero (slide k)) (hval : valueLSB (slide k) = k) :
    windowMulWith (0 : G) (fun x => x + x) (· + ·) (· - ·) (slide k) A
      = daWith (0 : G) (fun x => x + x) (· + ·) A 256 k := by
  rw [windowMul_group A _ hodd, da_group, hval, Nat.mod_eq_of_lt hk]

/-- decidable form of the recoding's soundness for one scalar -/
def slideSound (k : Nat) : Bool :=
  (slide k).all (fun d => d == 0 || d % 2 == 1) && (slide k).all (fun d => -15 ≤ d && d ≤ 15) &&
    valueLSB (slide k) == (k : Int)

/-- `slide` is a sound recoding of boundary scalars the VRF meets: L−1 (largest reduced s / k),
    the largest 128-bit challenge, 2^255−1 (bound of the clamped secret scalar). -/
theorem slide_sound_on_boundary_scalars :
    slideSound (L - 1) ∧ slideSound (2 ^ 128 - 1) ∧ slideSound (2 ^ 255 - 1) := by
  simp only [slideSound, Rangers.Proofs.C16Slide.slide_eq_slideL]
  decide +kernel

/-- beyond the documented precondition (top bit set, all ones) the carry runs off the array and
    the recoding is NOT sound — the code relies on `a[31] <= 127` -/
theorem slide_unsound_without_precondition : slideSound (2 ^ 256 - 1) = false := by
  simp only [slideSound, Rangers.Proofs.C16Slide.slide_eq_slideL]
  decide +kernel

theorem slideSound_spec (k : Nat) (h : slideSound k = true) :
    OddOrZero (slide k) ∧ valueLSB (slide k) = k := by
  unfold slideSound at h
  simp only [Bool.and_eq_true, List.all_eq_true, Bool.or_eq_true, beq_iff_eq] at h
  exact ⟨fun d hd => h.1.1 d hd, h.2⟩

open Rangers.Proofs.C16Radix in
/-- The 64 signed digits `GeScalarMultBase` computes represent the scalar exactly — for EVERY scalar below
    2^256 (unlike `slide`, no precondition and no unproved carry invariant). -/
theorem signed_radix16_represents_scalar (k : Nat) (hk : k < 16 ^ 64) :
    valueR 16 (signedRadix16 k) = (k : Int) := signedRadix16_value k hk

open Rangers.Proofs.C16Radix in
/-- `GeScalarMultBase` (odd digits, ×16, even digits, table entry `tbl pos d = d·256^pos·B`) computes k • B
    in any commutative group, for every scalar below 2^256. -/
theorem base_mul_computes_multiple {G : Type} [AddCommGroup G] (B : G) (tbl : Nat → Int → G)
    (htbl : ∀ pos d, tbl pos d = (d * 256 ^ pos) • B) (k : Nat) (hk : k < 16 ^ 64) :
    baseMulWith (0 : G) (fun x => x + x) (· + ·) tbl (signedRadix16 k) = (k : Int) • B := by
  rw [baseMul_group B tbl htbl, signedRadix16_value k hk]

/-- non-vacuity / shape: the digits of 2^255 − 1 are −1, then 62 zeros, then 8 (all within [−8, 8]) -/
example : signedRadix16 (2 ^ 255 - 1) = (-1 : Int) :: List.replicate 62 0 ++ [8] := by decide +kernel

end Rangers.Props.C16Window
