import Rangers.Proofs.Bls14PairingEval
import Rangers.Props.C14
/-!
# C14 — the pairing inside the model

`Model/Bls14Pairing.lean` is an executable transcription of the optimal-ate pairing of `bn256`
(tower, line functions, Miller loop, final exponentiation), tied to the code layer by layer by the
correspondence run (`pair`, `miller`, `gtmul`, `gtexp`, `gtconj`, `gtfin`, `verifyp`). With it
`VerifySig` is modelled with NO oracle field (`verifyBytesFull`).

General bilinearity / non-degeneracy of this function is NOT proved (it stays the hypothesis of
`Props/C14U`). What is proved here: the decision theorems specialised to the model's own pairing,
and — by kernel evaluation of the model, so each is a statement about ONE concrete input, labelled
`_instance` — that at the generators the pairing is non-trivial, has order dividing `r`, is
bilinear for the scalar 2 on either side, and that the full BLS verification accepts the
honest signature for `sk = 5` and rejects its negation and the signature of another key.
-/
namespace Rangers.Props.C14
open Rangers Rangers.Model.Bls14

/-- Acceptance of the fully modelled `VerifySig`: exactly when both values are present, the
    signature point is on the curve and the two modelled pairings marshal to the same bytes. -/
theorem verify_full_accept_iff (hm : Pt) (pub : Pub) (sig : Sig) :
    verifySig pairEqModel hm pub sig = .accept ↔
      ∃ s k, sig = .pt s ∧ pub = .pt k ∧ s.onCurve = true ∧
        (pair s g2Gen).marshal = (pair hm k).marshal := by
  rw [verify_accept_iff]
  simp [pairEqModel]

/-- `Pair` with the identity on either side is the unit of GT (the `SetOne` exit of `optimalAte`). -/
theorem pair_identity (p : Pt) (q : Pt2) : pair .inf q = F12.one ∧ pair p .inf = F12.one := by
  constructor
  · rfl
  · cases p <;> rfl

/-- Consequence: under the identity public key the identity signature is accepted for every
    message point (the zero-key behaviour recorded in design/C14.md §6), in the full model. -/
theorem zero_key_accepts_identity (hm : Pt) :
    verifySig pairEqModel hm (.pt .inf) (.pt .inf) = .accept := by
  rw [verify_full_accept_iff]
  exact ⟨.inf, .inf, rfl, rfl, rfl, by rw [(pair_identity hm g2Gen).1, (pair_identity hm .inf).2]⟩

/-- The three instances at the generators as one statement: a single kernel run (of the `…E` spelling
    of `Proofs/Bls14PairingEval.lean`) meets `e(g₁, g₂)` in every conjunct and evaluates it once. -/
theorem pairing_generators_instance :
    pair g1Gen g2Gen ≠ F12.one ∧
    ((pair g1Gen g2Gen).exp R).marshal = F12.one.marshal ∧
    (pair (Pt.mul g1Gen 2) g2Gen).marshal = (pair g1Gen g2Gen).sq.marshal ∧
    (pair g1Gen (Pt2.mul g2Gen 2)).marshal = (pair g1Gen g2Gen).sq.marshal := by
  simp only [pair_eq_pairE, ← F12.expE_eq, ← F12.sqE_eq, F12.marshal_eq_iff]
  decide +kernel

/-- Instance (kernel-evaluated): `e(g₁, g₂) ≠ 1`. -/
theorem pairing_nondegenerate_instance : pair g1Gen g2Gen ≠ F12.one :=
  pairing_generators_instance.1

/-- Instance: `e(g₁, g₂)` has order dividing the group order `r`. -/
theorem pairing_order_instance : ((pair g1Gen g2Gen).exp R).marshal = F12.one.marshal :=
  pairing_generators_instance.2.1

/-- Instance: `e(2g₁, g₂) = e(g₁, g₂)² = e(g₁, 2g₂)` (compared as `PairIsEuqal` does, on the
    marshalled bytes). -/
theorem pairing_bilinear_instance :
    (pair (Pt.mul g1Gen 2) g2Gen).marshal = (pair g1Gen g2Gen).sq.marshal ∧
    (pair g1Gen (Pt2.mul g2Gen 2)).marshal = (pair g1Gen g2Gen).sq.marshal :=
  pairing_generators_instance.2.2

/-- Instance: the whole BLS check inside the kernel for `sk = 5`, message point `g₁`: the honest
    signature `5·g₁` is accepted under `pk = 5·g₂`; its negation, the identity, and the signature of
    the key 6 are rejected. -/
theorem bls_verify_instance :
    verifySig pairEqModel g1Gen (.pt (Pt2.mul g2Gen 5)) (.pt (Pt.mul g1Gen 5)) = .accept ∧
    verifySig pairEqModel g1Gen (.pt (Pt2.mul g2Gen 5)) (.pt (Pt.mul g1Gen 5).neg) = .reject ∧
    verifySig pairEqModel g1Gen (.pt (Pt2.mul g2Gen 5)) (.pt .inf) = .reject ∧
    verifySig pairEqModel g1Gen (.pt (Pt2.mul g2Gen 5)) (.pt (Pt.mul g1Gen 6)) = .reject := by
  unfold pairEqModel
  simp only [pair_eq_pairE, F12.marshal_beq]
  decide +kernel

end Rangers.Props.C14
