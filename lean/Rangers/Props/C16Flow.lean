import Rangers.Model.VrfFlow
import Rangers.Proofs.C16Bytes
import Rangers.Proofs.C16Vrf
import Rangers.Props.C16
import Rangers.Props.C16B
import Rangers.Props.C16Qn
import Rangers.Generated.C16Sites
import Rangers.Proofs.C16Sha
/-!
C16: the two ends of the flow — key generation and the proposer (`genProve`) — against the
verifier (`verifyBlockVRF`).
-/
namespace Rangers.Props.C16Flow
open Rangers Rangers.Model Rangers.Model.Vrf Rangers.Model.VrfFlow Rangers.Proofs.C16Vrf

/-- `expandSecret` of the concrete instance reads only the 32-byte seed half of the secret key. -/
theorem ed25519_expand_reads_seed (sk : Bytes) :
    VrfCurve.expandSecret sk = VrfCurve.expandSecret (sk.take 32) := by
  simp [VrfCurve.expandSecret, List.take_take]

/-- For EVERY generated key pair: proving succeeds and the proof verifies under the generated public
    key. (`prove_verifies` has `pk = encode (x·B)` as a hypothesis; `GenerateKey` establishes it.) -/
theorem generated_key_proof_verifies {P : Type} [AddCommGroup P] (o : Ops P) (law : Lawful o)
    (hexp : ∀ sk, o.expandSecret sk = o.expandSecret (sk.take 32))
    (seed m : Bytes) (hseed : seed.length = 32) :
    ∃ pi, proveWith o (genKeyWith o seed).2 m = .ok pi ∧
      verifyWith o (genKeyWith o seed).1 pi m = .ok true := by
  have hlen : (genKeyWith o seed).2.length = 64 := by
    simp [genKeyWith, hseed, law.encode_len]
  have hdrop : (genKeyWith o seed).2.drop 32 = (genKeyWith o seed).1 := by
    simp only [genKeyWith]
    exact List.drop_left' hseed
  have htake : (genKeyWith o seed).2.take 32 = seed := by
    simp only [genKeyWith]
    exact List.take_left' hseed
  have hpk : (genKeyWith o seed).2.drop 32 =
      o.encode (o.smulBase (o.expandSecret (genKeyWith o seed).2).1) := by
    rw [hdrop, hexp (genKeyWith o seed).2, htake]
    rfl
  -- proving cannot fail: the length is 64 and the pk half decodes
  have hdec : o.decodeStrict ((genKeyWith o seed).2.drop 32) =
      some (o.smulBase (o.expandSecret (genKeyWith o seed).2).1) := by
    rw [hpk]; exact law.decode_encode _
  have hok : ∃ pi, proveWith o (genKeyWith o seed).2 m = .ok pi := by
    unfold proveWith
    simp only [hlen, ne_eq, not_true_eq_false, ↓reduceIte, hdec]
    exact ⟨_, rfl⟩
  obtain ⟨pi, hpi⟩ := hok
  refine ⟨pi, hpi, ?_⟩
  rw [← hdrop]
  exact Rangers.Props.C16.prove_verifies o law _ m pi hpk hpi

/-- non-vacuity on the lawful toy instance of `C16B` is immediate (`hexp` holds: its `expandSecret` is constant) -/
example : ∀ sk, Rangers.Props.C16B.toyOps.expandSecret sk = Rangers.Props.C16B.toyOps.expandSecret (sk.take 32) :=
  fun _ => rfl

/-- The fork threshold the node computes, for the three network configurations in the source. -/
theorem thresholds_of_networks :
    rewardBlocks = 36000 ∧
    Generated.C16Facts.proposal025.map (fun p => (p.1, threshold p.2)) =
      [("devNetChainConfig", 1000036000), ("mainNetChainConfig", 63347000), ("robinChainConfig", 77956000)] := by
  decide

/-- What the proposer returns it has itself checked: `genProve = ok π qn` means the proof was produced for the
    node-built message and the rule accepted it with that qn at the BASE height. -/
theorem genProve_ok_spec (P : Qn.Params) (thr : Nat) (sk rnd : Bytes) (ns : Int) (bh w t : Nat)
    (pi : Bytes) (qn : Nat) (h : genProve P thr sk rnd ns bh w t = .ok pi qn) :
    ∃ msg, VrfMsg.blockMsg rnd ns = some msg ∧ Vrf.prove sk msg = .ok pi ∧
      Qn.validateProve P thr pi bh w t = .res true (.val qn) := by
  unfold genProve at h
  split at h
  · cases h
  · rename_i msg hmsg
    split at h
    · cases h
    · rename_i pi' hpi
      split at h <;> cases h
      exact ⟨msg, hmsg, hpi, by assumption⟩

/-- Proposer/verifier agreement: a block cast from `genProve`'s output is accepted by `verifyBlockVRF`
    (header value = big integer of the proof, `TotalQN = qn + pre.TotalQN`, message rebuilt by the verifier
    from the same random and time) — PROVIDED the rule gives the same answer at the block's height as at
    the base height the proposer used, and the proof verifies (completeness, `generated_key_proof_verifies`). -/
theorem genProve_block_accepted (P : Qn.Params) (thr : Nat) (pk sk rnd : Bytes) (ns : Int)
    (bh h w t pre : Nat) (pi : Bytes) (qn : Nat)
    (hg : genProve P thr sk rnd ns bh w t = .ok pi qn)
    (hver : ∀ msg, Vrf.prove sk msg = .ok pi → Vrf.verify pk pi msg = .ok true)
    (hsame : Qn.validateProve P thr pi h w t = Qn.validateProve P thr pi bh w t) :
    ∃ msg, VrfMsg.blockMsg rnd ns = some msg ∧
      Qn.verifyBlockVRF P thr pk (Vrf.toBig pi) msg h w t ((qn + pre) % Qn.two64) pre = .ok := by
  obtain ⟨msg, hmsg, hpi, hq⟩ := genProve_ok_spec P thr sk rnd ns bh w t pi qn hg
  refine ⟨msg, hmsg, ?_⟩
  have hlen : pi.length = Vrf.proveSize := Rangers.Proofs.C16Sha.prove_length sk msg pi hpi
  exact Rangers.Props.C16Qn.honest_header_passes_after_transport P thr pk pi msg h w t qn pre hlen
    (hver msg hpi) (by rw [hsame]; exact hq)

/-- The rule does give the same answer at both heights whenever they lie on the same side of the fork
    threshold, or no working-miner count is recorded. -/
theorem rule_same_on_same_side (P : Qn.Params) (thr : Nat) (pi : Bytes) (bh h w t : Nat)
    (hside : w = 0 ∨ (bh > thr ↔ h > thr)) :
    Qn.validateProve P thr pi h w t = Qn.validateProve P thr pi bh w t :=
  Rangers.Proofs.C16Qn.validateProve_congr P thr pi pi h bh w t rfl (fun hw => (hside.resolve_left hw).symm)

/-- Model and code alike (replayed by the `gp`/`vbt` ops): the proposer evaluates the rule at the BASE
    block's height, the verifier at the new block's height. For the one block that crosses the fork
    threshold the two answers differ — here qn 4 for the proposer, qn 1 for the verifier — and the honest
    block is rejected with "qn error". `hsame` above cannot be dropped. -/
theorem proposer_verifier_height_quirk :
    let pi : Bytes := [0x01, 0x06] ++ List.replicate 78 0
    Qn.validateProve Rangers.Props.C16Qn.liveParams 100 pi 100 2 1000 = .res true (.val 4) ∧
    Qn.validateProve Rangers.Props.C16Qn.liveParams 100 pi 101 2 1000 = .res true (.val 1) := by
  decide +kernel

/-- T-gen: which height each side passes to `validateProve`. -/
theorem rule_height_arguments :
    Generated.C16Sites.validateProveCallArgs =
      ["verifyBlockVRF(prove, bh.Height, castor.WorkingMiners, totalStake)",
       "genProve(prove, vrfWorker.baseBH.Height, vrfWorker.miner.WorkingMiners, totalStake)"] := rfl

/-- `ECVRFProve` always returns exactly `ProveSize` = 80 bytes (so every honest header value is the big
    integer of an 80-byte string and `transport_roundtrip` applies to it). -/
theorem honest_proof_length (sk m pi : Bytes) (h : Vrf.prove sk m = .ok pi) : pi.length = Vrf.proveSize :=
  Rangers.Proofs.C16Sha.prove_length sk m pi h

end Rangers.Props.C16Flow
