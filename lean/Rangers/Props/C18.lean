import Rangers.Proofs.DecimalFormat
import Rangers.Proofs.DecimalTotal
/-!
# C18 — decimal amount strings and 18-decimal integers convert without loss

Every theorem is about `Rangers.Model.Decimal`, the model the correspondence
driver (`Rangers.Drive.C18`) executes against the Go code on every run.

Reading of the property statement:
* "formatting an integer amount and parsing it back returns the same integer"
  → `format_parse_id`, `roundtrip_word` (all of −(2^256−1) … 2^256−1, in fact |n| < 2^510);
* "parsing a decimal string with at most 18 fractional digits yields exactly the
  integer it denotes" → `parse_exact`, `parse_exact_domain` (≤ 78 integer digits);
* "re-scaling between 18 decimals and a token's unit is the identity at 18
  decimals" → `erc20_18_id`, `rocket_18_id`; for token decimals 0 … 18:
  `erc20_floor`, `rocket_scale`;
* "a value carried in a wrapped Ethereum transaction reaches the EVM unchanged"
  → `evm_value_unchanged`.
`parse_exact` rests on `DecimalScan.strToBigInt_plain` (restated here as `strToBigInt_plain_general`), the
round trips on `DecimalFormat.strToBigInt_bigIntToStr`; `roundAway_spec`, `roundAway_idempotent` and
`roundAway_le_pow` restate the `roundMant_*` lemmas about one rounding. The bound `2^510` is what two away-from-zero roundings
at 512 bits leave; `format_parse_id_unbounded_counterexample` shows it is not an artefact.
-/
namespace Rangers.Props.C18
open Rangers.Decimal

/-- One `AwayFromZero` rounding of the integer mantissa `m` to `p` bits never goes
    below `m` and overshoots by a relative error strictly below `2^(1-p)`. -/
theorem roundAway_spec (p m : Nat) (hp : 1 ≤ p) (hm : 0 < m) :
    (m : ℚ) ≤ ((roundMant .away p m false).1 : ℚ) * 2 ^ (roundMant .away p m false).2 ∧
    ((roundMant .away p m false).1 : ℚ) * 2 ^ (roundMant .away p m false).2
      < (m : ℚ) * (1 + 1 / 2 ^ (p - 1)) :=
  roundMant_away_spec p m false (m : ℚ) hp hm (le_refl _) (by linarith) (by simp) (by simp)

example : roundMant .away 3 13 false = (7, 1) := by decide +kernel
example : roundMant .away 3 12 false = (6, 1) := by decide +kernel

/-- Rounding (in either mode) does not change a mantissa that already fits. -/
theorem roundAway_idempotent (mode : Mode) (p m : Nat) (h : bitLen m ≤ p) :
    roundMant mode p m false = (m, 0) :=
  roundMant_fits mode false h

example : bitLen 13 ≤ 4 := by decide +kernel

/-- The rounded mantissa itself fits into `p` bits or is exactly `2^p` (carry). -/
theorem roundAway_le_pow (mode : Mode) (p m : Nat) (st : Bool) (h : p < bitLen m) :
    (roundMant mode p m st).1 ≤ 2 ^ p :=
  roundMant_fst_le_two_pow mode st h

example : 3 < bitLen 13 := by decide +kernel

/-- **General exactness of `strToBigInt`.** For a plain decimal string
    `[sign] ip [ "." fp ]` (`ip`, `fp` digit strings, not both empty, at most 248
    fraction digits: as long as `pow5` is exact) with digit value `N`, and `d` decimals: if
    `N·10^(d-|fp|) < 2^510` then `strToBigInt` returns exactly `± ⌊N·10^d / 10^|fp|⌋`
    — no error, no binary rounding visible. -/
theorem strToBigInt_plain_general (sg : Option Bool) (ip fp : Str) (dot : Bool) (d : Nat)
    (hip : allDig ip) (hfp : allDig fp) (hdot : dot = false → fp = []) (hne : ip ++ fp ≠ [])
    (hf : fp.length ≤ 248)
    (hbound : Nat.ofDigitChars 10 (ip ++ fp) 0 * 10 ^ (d - fp.length) < 2 ^ 510) :
    strToBigInt (signStr sg ++ plainBody ip fp dot) (d : Int) =
      .ok (if signNeg sg then -((Nat.ofDigitChars 10 (ip ++ fp) 0 * 10 ^ d / 10 ^ fp.length : ℕ) : Int)
           else ((Nat.ofDigitChars 10 (ip ++ fp) 0 * 10 ^ d / 10 ^ fp.length : ℕ) : Int)) :=
  strToBigInt_plain sg ip fp dot d hip hfp hdot hne hf hbound

example : allDig "12".toList ∧ allDig "50".toList ∧ ("12".toList ++ "50".toList ≠ []) ∧
    Nat.ofDigitChars 10 ("12".toList ++ "50".toList) 0 * 10 ^ (18 - 2) < 2 ^ 510 := by decide +kernel
example : strToBigInt (signStr (some true) ++ plainBody "12".toList "50".toList true) 18
    = .ok (-12500000000000000000) := by decide +kernel

protected theorem digits_value_split (ip fp : Str) :
    Nat.ofDigitChars 10 (ip ++ fp) 0 =
      Nat.ofDigitChars 10 ip 0 * 10 ^ fp.length + Nat.ofDigitChars 10 fp 0 :=
  Decimal.digits_value_split ip fp

/-- A decimal string with at most 18 fraction digits denoting
    `± N / 10^f` parses (at 18 decimals) to exactly `± N·10^(18-f)`, provided that
    integer is below `2^510`. -/
theorem parse_exact (sg : Option Bool) (ip fp : Str) (dot : Bool)
    (hip : allDig ip) (hfp : allDig fp) (hdot : dot = false → fp = []) (hne : ip ++ fp ≠ [])
    (hf : fp.length ≤ 18)
    (hbound : Nat.ofDigitChars 10 (ip ++ fp) 0 * 10 ^ (18 - fp.length) < 2 ^ 510) :
    StrToBigInt (signStr sg ++ plainBody ip fp dot) =
      .ok (if signNeg sg then -((Nat.ofDigitChars 10 (ip ++ fp) 0 * 10 ^ (18 - fp.length) : ℕ) : Int)
           else ((Nat.ofDigitChars 10 (ip ++ fp) 0 * 10 ^ (18 - fp.length) : ℕ) : Int)) := by
  have h := strToBigInt_plain sg ip fp dot 18 hip hfp hdot hne (by omega) hbound
  rwa [mul_pow_div_pow _ hf] at h

example : StrToBigInt (signStr none ++ plainBody "0".toList "000000000000000001".toList true) = .ok 1 := by
  decide +kernel

/-- **parse_exact on the stated domain**: at most 78 integer digits and at most 18
    fraction digits need no numeric side condition (`10^96 < 2^510`). -/
theorem parse_exact_domain (sg : Option Bool) (ip fp : Str) (dot : Bool)
    (hip : allDig ip) (hfp : allDig fp) (hdot : dot = false → fp = []) (hne : ip ++ fp ≠ [])
    (hi : ip.length ≤ 78) (hf : fp.length ≤ 18) :
    StrToBigInt (signStr sg ++ plainBody ip fp dot) =
      .ok (if signNeg sg then -((Nat.ofDigitChars 10 (ip ++ fp) 0 * 10 ^ (18 - fp.length) : ℕ) : Int)
           else ((Nat.ofDigitChars 10 (ip ++ fp) 0 * 10 ^ (18 - fp.length) : ℕ) : Int)) := by
  apply parse_exact sg ip fp dot hip hfp hdot hne hf
  have h1 : Nat.ofDigitChars 10 (ip ++ fp) 0 < 10 ^ (ip ++ fp).length :=
    ofDigitChars_lt _ (allDig_append.mpr ⟨hip, hfp⟩)
  rw [List.length_append] at h1
  have h2 : Nat.ofDigitChars 10 (ip ++ fp) 0 * 10 ^ (18 - fp.length)
      < 10 ^ (ip.length + fp.length) * 10 ^ (18 - fp.length) :=
    Nat.mul_lt_mul_of_pos_right h1 (by positivity)
  rw [← Nat.pow_add] at h2
  have h3 : 10 ^ (ip.length + fp.length + (18 - fp.length)) ≤ 10 ^ 96 :=
    Nat.pow_le_pow_right (by norm_num) (by omega)
  have h4 : (10 : ℕ) ^ 96 < 2 ^ 510 := by decide +kernel
  omega

example : allDig "115792089237316195423570985008687907853269984665640564039457584007913129639935".toList ∧
    "115792089237316195423570985008687907853269984665640564039457584007913129639935".toList.length ≤ 78 := by
  -- a literal unifies with `String.ofList` of its characters; left to the kernel, `toList` decodes it byte by byte,
  -- in time quadratic in its length
  rw [String.toList_ofList]
  decide +kernel

/-- `strToBigInt (bigIntToStr n 18) 18 = n` for every integer
    with `|n| < 2^510` (both signs; covers every balance and every EVM word). -/
theorem format_parse_id (n : Int) (h : n.natAbs < 2 ^ 510) :
    strToBigInt (bigIntToStr n 18) 18 = .ok n := by
  have := strToBigInt_bigIntToStr n 18 18 (by norm_num) (by rwa [Nat.sub_self, Nat.pow_zero, Nat.mul_one])
  rwa [Int.mul_tdiv_cancel n (by positivity)] at this

example : strToBigInt (bigIntToStr (-5) 18) 18 = .ok (-5) := by decide +kernel

/-- The exported pair `BigIntToStr` / `StrToBigInt` (zero is printed as "0"). -/
theorem format_parse_id_exported (n : Int) (h : n.natAbs < 2 ^ 510) :
    StrToBigInt (BigIntToStr n) = .ok n := by
  unfold BigIntToStr StrToBigInt
  by_cases h0 : n = 0
  · subst h0; decide +kernel
  · rw [if_neg h0]; exact format_parse_id n h

/-- **Round trip on the stated range**: every integer from `-(2^256-1)` to `2^256-1`. -/
theorem roundtrip_word (n : Int) (h1 : -(2 ^ 256 : Int) < n) (h2 : n < 2 ^ 256) :
    StrToBigInt (BigIntToStr n) = .ok n := by
  apply format_parse_id_exported
  have h3 : (2 : ℕ) ^ 256 < 2 ^ 510 := Nat.pow_lt_pow_right (by norm_num) (by norm_num)
  have h4 : n.natAbs < 2 ^ 256 := by
    have : ((2 ^ 256 : ℕ) : Int) = (2 : Int) ^ 256 := by push_cast
    omega
  omega

example : StrToBigInt (BigIntToStr (2 ^ 256 - 1)) = .ok (2 ^ 256 - 1) := by decide +kernel

/-- `BigIntToStrWithoutDot` (used by the VM's stake instructions before
    `strconv.ParseUint`): the sign, then digits spelling `⌊|n| / 10^18⌋`. -/
theorem nodot_value (n : Int) :
    ∃ ds, allDig ds ∧ BigIntToStrWithoutDot n = (if n < 0 then ['-'] else []) ++ ds ∧
      Nat.ofDigitChars 10 ds 0 = n.natAbs / 10 ^ 18 := by
  unfold BigIntToStrWithoutDot BigIntToStr
  by_cases h0 : n = 0
  · subst h0
    exact ⟨['0'], by decide, by decide, by decide⟩
  · rw [if_neg h0]
    obtain ⟨ds, hd, -, hs, hv⟩ := bigIntToStr_intPart n 18 (by norm_num)
    exact ⟨ds, hd, hs, hv⟩

example : BigIntToStrWithoutDot 1234567890123456789012 = "1234".toList := by decide +kernel

/-- Ledger → token with `d` decimals: `BigIntToStr` prints 18 decimals, parsing at `d` re-scales by `10^d / 10^18`,
    truncated toward zero. -/
theorem erc20_general (n : Int) (d : Nat) (h : n.natAbs * 10 ^ (d - 18) < 2 ^ 510) :
    formatERC20 n d = .ok ((n * 10 ^ d).tdiv (10 ^ 18)) := by
  unfold formatERC20 BigIntToStr
  by_cases h0 : n = 0
  · subst h0; simp
  · rw [if_neg h0, if_neg h0]
    exact strToBigInt_bigIntToStr n 18 d (by norm_num) h

/-- Token with `d` decimals → ledger: here the token's `d` is the printed precision, which `strToBigInt_bigIntToStr`
    bounds by 248 (`pow5` exact); in `erc20_general` the printed precision is the constant 18. -/
theorem rocket_general (n : Int) (d : Nat) (hd : d ≤ 248) (h : n.natAbs * 10 ^ (18 - d) < 2 ^ 510) :
    formatRocket n d = .ok ((n * 10 ^ 18).tdiv (10 ^ d)) := by
  unfold formatRocket StrToBigInt
  by_cases h0 : n = 0
  · subst h0; simp
  · rw [if_neg h0]
    exact strToBigInt_bigIntToStr n d 18 hd h

/-- Ledger → 18-decimal token is the identity. -/
theorem erc20_18_id (n : Int) (h : n.natAbs < 2 ^ 510) : formatERC20 n 18 = .ok n := by
  have := erc20_general n 18 (by rwa [Nat.sub_self, Nat.pow_zero, Nat.mul_one])
  rwa [Int.mul_tdiv_cancel n (by positivity)] at this

/-- 18-decimal token → ledger is the identity. -/
theorem rocket_18_id (n : Int) (h : n.natAbs < 2 ^ 510) : formatRocket n 18 = .ok n := by
  have := rocket_general n 18 (by norm_num) (by rwa [Nat.sub_self, Nat.pow_zero, Nat.mul_one])
  rwa [Int.mul_tdiv_cancel n (by positivity)] at this

example : formatERC20 (-(2 ^ 256 - 1)) 18 = .ok (-(2 ^ 256 - 1)) ∧ formatRocket (2 ^ 256 - 1) 18 = .ok (2 ^ 256 - 1) := by
  decide +kernel

/-- For token decimals `0 ≤ d ≤ 18` the ledger → token conversion is
    division by `10^(18-d)` truncated toward zero (Go's `Quo`, Lean's `Int.tdiv`). -/
theorem erc20_floor (n : Int) (d : Nat) (hd : d ≤ 18) (h : n.natAbs < 2 ^ 510) :
    formatERC20 n d = .ok (n.tdiv (10 ^ (18 - d))) := by
  rw [erc20_general n d (by rwa [Nat.sub_eq_zero_of_le hd, Nat.pow_zero, Nat.mul_one]),
    mul_pow_tdiv_pow_of_le n hd]

example : formatERC20 1234567890123456789012 6 = .ok 1234567890 := by decide +kernel

/-- For token decimals `0 ≤ d ≤ 18` the token → ledger conversion
    multiplies by `10^(18-d)` exactly. -/
theorem rocket_scale (n : Int) (d : Nat) (hd : d ≤ 18) (h : n.natAbs * 10 ^ (18 - d) < 2 ^ 510) :
    formatRocket n d = .ok (n * 10 ^ (18 - d)) := by
  rw [rocket_general n d (by omega) h, mul_pow_tdiv_pow n hd]

example : formatRocket 1234567 6 = .ok 1234567000000000000 := by decide +kernel

/-- Token → ledger → token returns the token amount for every `d ≤ 18`. -/
theorem rocket_then_erc20 (m : Int) (d : Nat) (hd : d ≤ 18) (h : m.natAbs * 10 ^ (18 - d) < 2 ^ 510) :
    formatRocket m d = .ok (m * 10 ^ (18 - d)) ∧ formatERC20 (m * 10 ^ (18 - d)) d = .ok m := by
  refine ⟨rocket_scale m d hd h, ?_⟩
  have habs : (m * 10 ^ (18 - d)).natAbs = m.natAbs * 10 ^ (18 - d) := by
    rw [Int.natAbs_mul, Int.natAbs_pow]; rfl
  rw [erc20_floor _ d hd (by rw [habs]; exact h)]
  congr 1
  exact Int.mul_tdiv_cancel _ (by positivity)

example : (1234567 : Int).natAbs * 10 ^ (18 - 6) < 2 ^ 510 := by decide +kernel

theorem ftSet_18 (n : Int) (h : n.natAbs < 2 ^ 510) : ftSet 18 n = some n.natAbs := by
  unfold ftSet; rw [erc20_18_id n h]

theorem ftGet_18 (bal : Nat) (h : bal < 2 ^ 510) : ftGet 18 bal = .ok (bal : Int) :=
  rocket_18_id bal (by rwa [Int.natAbs_natCast])

theorem ftAdd_18 (bal : Nat) (n : Int) (hn : 0 ≤ n) (h : n.natAbs < 2 ^ 510) :
    ftAdd 18 bal n = some (bal + n.natAbs) := by
  unfold ftAdd; rw [erc20_18_id n h]
  simp only [Option.some.injEq]; omega

theorem ftSub_18 (bal : Nat) (n : Int) (hn : 0 ≤ n) (hb : bal < 2 ^ 510) (h : n.natAbs < 2 ^ 510) :
    ftSub 18 bal n = some (if (bal : Int) < n then (false, bal, .ok (bal : Int))
                           else (true, bal - n.natAbs, .ok ((bal : Int) - n))) := by
  obtain ⟨a, rfl⟩ := Int.eq_ofNat_of_zero_le hn
  unfold ftSub; rw [erc20_18_id a h]
  dsimp only
  split
  · rfl
  · have hle : a ≤ bal := by omega
    rw [Int.natAbs_natCast, ← Nat.cast_sub hle,
      rocket_18_id _ (by rw [Int.natAbs_natCast]; exact lt_of_le_of_lt (Nat.sub_le _ _) hb),
      Int.natAbs_natCast]

/-- **At 18 decimals every balance operation is exact** (accountdb_tuntun.go): `SetFT` stores `n`, `GetFT`
    returns what is stored, `AddFT` adds, `SubFT` subtracts (or refuses and reports the
    balance) — no re-scaling loss anywhere (`0 ≤ n`, values below `2^509`). -/
theorem ft_18_exact (bal : Nat) (n : Int) (hn : 0 ≤ n) (hb : bal < 2 ^ 509) (hn2 : n.natAbs < 2 ^ 509) :
    ftSet 18 n = some n.natAbs ∧
    ftGet 18 bal = .ok (bal : Int) ∧
    ftAdd 18 bal n = some (bal + n.natAbs) ∧
    ftSub 18 bal n = some (if (bal : Int) < n then (false, bal, .ok (bal : Int))
                           else (true, bal - n.natAbs, .ok ((bal : Int) - n))) :=
  ⟨ftSet_18 n (lt_two_pow_510 hn2), ftGet_18 bal (lt_two_pow_510 hb), ftAdd_18 bal n hn (lt_two_pow_510 hn2),
    ftSub_18 bal n hn (lt_two_pow_510 hb) (lt_two_pow_510 hn2)⟩

example : ftSet 18 5 = some 5 ∧ ftGet 18 5 = .ok 5 ∧ ftAdd 18 5 7 = some 12 ∧
    ftSub 18 12 7 = some (true, 5, .ok 5) ∧ ftSub 18 5 7 = some (false, 5, .ok 5) := by decide +kernel

/-- With `d ≤ 18` token decimals a balance written and read back comes back rounded
    down to the token's granularity `10^(18-d)` — and never larger than what was written. -/
theorem ft_set_get (n : Int) (d : Nat) (hn : 0 ≤ n) (hd : d ≤ 18) (h : n.natAbs < 2 ^ 510) :
    ∃ b, ftSet d n = some b ∧ ftGet d b = .ok (n / 10 ^ (18 - d) * 10 ^ (18 - d)) := by
  obtain ⟨N, rfl⟩ := Int.eq_ofNat_of_zero_le hn
  rw [Int.natAbs_natCast] at h
  have hq : ((N : Int) / 10 ^ (18 - d)) = ((N / 10 ^ (18 - d) : ℕ) : Int) := by push_cast; rfl
  refine ⟨N / 10 ^ (18 - d), ?_, ?_⟩
  · unfold ftSet
    rw [erc20_floor N d hd (by rwa [Int.natAbs_natCast]), Int.tdiv_eq_ediv_of_nonneg hn, hq]
    rfl
  · rw [hq]
    exact rocket_scale _ d hd (by
      rw [Int.natAbs_natCast]; exact lt_of_le_of_lt (Nat.div_mul_le_self N _) h)

example : ∃ b, ftSet 6 1234567890123456789012 = some b ∧ ftGet 6 b = .ok 1234567890000000000000 :=
  ⟨1234567890, by decide +kernel⟩

/-- `ConvertTx` (→ `BigIntToStr`) followed by
    `decodeContractData` (→ `StrToBigInt`) is the identity on `[0, 2^256)`. -/
theorem evm_value_unchanged (v : Int) (h0 : 0 ≤ v) (h1 : v < 2 ^ 256) : evmValue v = .ok v := by
  unfold evmValue
  exact roundtrip_word v (by have : (0 : Int) < 2 ^ 256 := by positivity
                             omega) h1

example : evmValue 115792089237316195423570985008687907853269984665640564039457584007913129639935
    = .ok 115792089237316195423570985008687907853269984665640564039457584007913129639935 := by decide +kernel

/-- **No `ErrNaN` panic.** For every input string and every decimal count
    `strToBigInt` returns a value or an error; the 0·Inf / 0/0 / Inf/Inf panics of
    `big.Float.Mul`/`Quo` are unreachable (`pow5` is never zero, the parsed float is
    never NaN, the scale factor is finite). -/
theorem strToBigInt_never_panics (s : Str) (d : Int) : strToBigInt s d ≠ .panic :=
  strToBigInt_ne_panic s d

example : strToBigInt "1e1000000000".toList 18 = .ok 0 ∧ strToBigInt "1e-1000000000".toList 18 = .ok 0 := by
  decide +kernel

/-- `pow5 n = 5^n` exactly for `n ≤ 248` (table, then a loop that never rounds). -/
theorem pow5_exact_to_248 : ∀ n < 249, pow5 n = BF.fin false (5 ^ n) 0 := pow5_exact

/-- `pow5` (the only place an infinity can arise next to the parsed mantissa) is
    always a positive finite float or `+Inf`. -/
theorem pow5_positive_or_inf (n : Nat) : posOrInf (pow5 n) := pow5_posOrInf n

/-- The formatter's output always parses: `FormatDecimalForERC20` /
    `FormatDecimalForRocket` never return the nil pointer their callers would
    dereference (`.Bytes()`, `Add`), whatever the decimal count (size caveat: the
    exponent range of `big.Float`, i.e. fewer than 10^6 bits / digits). -/
theorem format_never_nil (n : Int) (d : Int) (h : n.natAbs < 2 ^ 1000000) (hd : d ≤ 1000000) :
    (∃ v, formatERC20 n d = .ok v) ∧ (∃ v, formatRocket n d = .ok v) := by
  have key : ∀ (p : Nat) (dd : Int), p ≤ 1000000 → ∃ v, strToBigInt (bigIntToStr n (p : Int)) dd = .ok v := by
    intro p dd hp
    obtain ⟨t, ht⟩ := parseFloat_bigIntToStr n p (bitLen_le_of_lt h) hp
    exact strToBigInt_ok_of_parseFloat ht dd
  constructor
  · unfold formatERC20
    by_cases h0 : n = 0
    · exact ⟨0, by simp [h0]⟩
    · rw [if_neg h0]; unfold BigIntToStr; rw [if_neg h0]
      exact key 18 d (by norm_num)
  · unfold formatRocket
    by_cases h0 : n = 0
    · exact ⟨0, by simp [h0]⟩
    · rw [if_neg h0]
      unfold StrToBigInt
      by_cases hneg : d < 0
      · refine ⟨0, ?_⟩
        unfold bigIntToStr
        rw [if_pos hneg]
        decide +kernel
      · obtain ⟨p, rfl⟩ := Int.eq_ofNat_of_zero_le (by omega : 0 ≤ d)
        exact key p 18 (by omega)

example : formatRocket 5 40 = .ok 0 ∧ formatERC20 5 (-3) = .ok 0 := by decide +kernel

/-- `big.ParseFloat` accepts more than decimal strings, and so does `StrToBigInt`:
    `Inf` (any sign) silently becomes 0, `e`/`p` exponent forms are amounts. Model and code
    agree on these (corpus `edge.ops`); C18 speaks of decimal strings only, so this is
    recorded for the properties about amount validation (C06/C07), not claimed as a defect here. -/
theorem nondecimal_inputs_accepted :
    StrToBigInt "Inf".toList = .ok 0 ∧ StrToBigInt "-inf".toList = .ok 0 ∧
    StrToBigInt "1e30".toList = .ok (10 ^ 48) ∧ StrToBigInt "1p3".toList = .ok (8 * 10 ^ 18) ∧
    StrToBigInt "1e-30".toList = .ok 0 ∧ StrToBigInt "0x10".toList = .err ∧
    StrToBigInt "1_000".toList = .err := by decide +kernel

/-- The round trip without a size bound (what one would like to write). -/
def FullStatementFormatParseUnbounded : Prop :=
  ∀ n : Int, strToBigInt (bigIntToStr n 18) 18 = .ok n

/-- `format_parse_id` is the proved restriction (`|n| < 2^510`, far beyond every
    balance and EVM word) of `FullStatementFormatParseUnbounded`. -/
theorem format_parse_id_partial (n : Int) (h : n.natAbs < 2 ^ 510) :
    strToBigInt (bigIntToStr n 18) 18 = .ok n := format_parse_id n h

/-- Beyond 512 significant bits the float rounds: `2^513 + 1` does not survive. -/
theorem format_parse_id_unbounded_counterexample : ¬ FullStatementFormatParseUnbounded := by
  intro h
  have := h (2 ^ 513 + 1)
  revert this
  decide +kernel

end Rangers.Props.C18
