import Rangers.Model.Miner
import Rangers.Generated.C20Facts
import Rangers.Model.MinerRefundHeight
/-!
T-gen obligations for C20: the constants and structural facts the miner model was written against,
re-extracted from the go-rangers working tree on every run (`gen/cmd/c20facts`). If the source
changes one of them, the corresponding theorem stops checking and the check turns red until the
model (and the theorems about it) have been brought in line.
-/
namespace Rangers.Props.C20Facts
open Rangers Rangers.Miner

theorem constants_match :
    validatorStake = Generated.C20.validatorStake ∧ proposerStake = Generated.C20.proposerStake ∧
    heightAfterStake = Generated.C20.heightAfterStake ∧ refundDelay = Generated.C20.refundHeight ∧
    fee = Generated.C20.fee026Wei ∧ typeValidator = Generated.C20.minerTypeValidator ∧
    typeProposer = Generated.C20.minerTypeProposer ∧ statusNormal = Generated.C20.minerStatusNormal ∧
    statusAbort = Generated.C20.minerStatusAbort := ⟨rfl, rfl, rfl, rfl, rfl, rfl, rfl, rfl, rfl⟩

theorem fee_account_matches : String.join (feeAccount.map hexOfByte) = Generated.C20.feeAccountHex := by decide +kernel

/-- `AddMiner` rejects in the order the model's `addMiner` does: type, minimum stake, keys, balance,
    id in use, account in use. -/
theorem addMiner_check_order :
    Generated.C20.addMinerChecks = ["miner type error", "not enough stake", "VrfPublicKey or PublicKey is empty",
      "not enough max", "miner is existed", "miner account is existed"] := rfl

/-- Application compares with `<` (so the minimum itself is enough), re-activation with `>`
    (`minStake` / `reactivates` in the model). -/
theorem comparison_operators_as_modelled :
    Generated.C20.addMinerMinimum = ["< common.ValidatorStake", "< common.ProposerStake"] ∧
    Generated.C20.addStakeReactivation = ["> common.ProposerStake", "> common.ValidatorStake"] := ⟨rfl, rfl⟩

/-- `UpdateMiner` writes record/stake/account/status under `id`, `H id`, `H² id`, `H³ id`;
    `RemoveMiner` writes four empty values or stake + status. -/
theorem write_counts_as_modelled :
    Generated.C20.updateMinerSetData = 4 ∧ Generated.C20.updateMinerSha256 = 3 ∧ Generated.C20.removeMinerSetData = 6 := ⟨rfl, rfl, rfl⟩

/-- The refund executor appends to a copy of the per-height list (`pendingAdd` models the loss). -/
theorem refund_bookkeeping_as_modelled : Generated.C20.refundOkBranchStoresBack = false := rfl

/-- The call sequence of `VMExecutor.Execute`/`after` that `runTx`/`endBlock` (and the harness) mirror. -/
theorem sequencing_as_mirrored :
    Generated.C20.vmExecutorCalls = ["prepare", "BeforeExecute", "Snapshot", "Execute", "RevertToSnapshot", "after", "IntermediateRoot"] ∧
    Generated.C20.vmExecutorAfterCalls = ["Add", "Add", "CheckAndMove", "CheckAndMove"] := ⟨rfl, rfl⟩

/-- `AddMiner` writes the public-key cache only after its last rejecting return and after the registry
    write (`pkAfter` in the model: only an accepted application reaches it). -/
theorem pk_put_is_last : Generated.C20.addMinerPkPutLast = true := rfl

/-- `AddStake` updates `miner.Stake` before the re-activation test reads it (`addStakeApply` decides on the new stake). -/
theorem addStake_decides_on_new_stake : Generated.C20.addStakeUpdatesStakeBeforeStatusTest = true := rfl

/-- Shared mutable state: on the miner path only the two service constructors assign package-level variables
    (no scratch buffers, caches or singletons are written while transactions execute). -/
theorem no_package_state_written_on_path :
    Generated.C20.packageLevelWrites =
      ["miner_manager.go:InitMinerManager:MinerManagerImpl", "refund_manager.go:InitRefundManager:RefundManagerImpl"] := rfl

/-- Fork configuration: exactly these proposal / network flags are read on the miner path. The model fixes each of
    them to its value beyond the last proposal of the network (dev: height ≥ 12; mainnet: height ≥ 69329000; robin:
    height ≥ 84150000; `IsMainnet` is an input of the driver; `IsSub` false; heights ≠ Proposal004/010/011/019Block).
    A new flag read on the path breaks this theorem. -/
theorem fork_flags_on_path :
    Generated.C20.forkFlagsOnPath = ["IsMainnet", "IsProposal003", "IsProposal004", "IsProposal006", "IsProposal007",
      "IsProposal012", "IsProposal013", "IsProposal015", "IsProposal018", "IsProposal021", "IsProposal026", "IsProposal027",
      "IsSub", "LocalChainConfig.Proposal004Block", "LocalChainConfig.Proposal010Block", "LocalChainConfig.Proposal011Block",
      "LocalChainConfig.Proposal019Block"] := rfl

/-- The "refund more than the stake" guard is the unsigned comparison `miner.Stake < money` and what stays locked is
    the unsigned difference `miner.Stake - money` (`execRefund`: `m.stake < refundMoney …`, `m.stake - money` on `Nat`
    below 2^64 — no signed detour on which amounts above 2^63 change sign). -/
theorem refund_guard_as_modelled :
    Generated.C20.refundGuard = ["miner.Stake < money"] ∧ Generated.C20.refundLeft = ["left := miner.Stake - money"] := ⟨rfl, rfl⟩

/-- Every numeric type conversion in the arithmetic of miner_manager.go / refund_manager.go: the two `float64(stake)`
    debits the model has as `f64`, literal/length widenings to `uint64`, and the group count of the pre-Proposal012
    refund height. A new narrowing or sign-changing conversion (e.g. `int64(miner.Stake)`) breaks this fact. -/
theorem numeric_conversions_as_modelled :
    Generated.C20.numericConversions =
      ["miner_manager.go:AddMiner:float64(miner.Stake)", "miner_manager.go:AddStake:float64(delta)",
       "miner_manager.go:GetProposerTotalStake:uint64(…)", "miner_manager.go:GetProposerTotalStakeWithDetail:uint64(…)",
       "miner_manager.go:GetValidatorsStake:uint64(…)", "refund_manager.go:getRefundHeight:int(…)",
       "refund_manager.go:getRefundHeight:uint64(…)"] := rfl

/-- `getRefundHeight`: its branch conditions in source order (what `refundHeightOf` follows) and the two block counts. -/
theorem refund_height_as_modelled :
    Generated.C20.refundHeightConds =
      ["common.IsProposal012()", "minerType == common.MinerTypeValidator", "situation != \"fork\"", "delta > 0",
       "base != math.MaxUint64", "common.IsProposal004() && height <= 0", "common.LocalChainConfig.Proposal011Block == now"] ∧
    refundBlocks = Generated.C20.refundBlocks ∧ rewardBlocks = Generated.C20.rewardBlocks := ⟨rfl, rfl, rfl⟩

end Rangers.Props.C20Facts
