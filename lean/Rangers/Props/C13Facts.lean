import Rangers.Generated.Bn256Consts
import Rangers.Generated.C13Sites
import Rangers.Proofs.C13GroupK
/-!
# C13 — facts tied to constants and call sites regenerated from the source (T-gen)

Kept in their own module so that a changed constant or a new call site breaks exactly these
obligations and not the arithmetic theorems of `Props/C13.lean`.
-/
namespace Rangers.Props.C13Facts
open Rangers.Model.Shamir Rangers.Proofs.C13 Rangers.Generated

/-- With the constants read from `param.go`, the float expression
    `int(math.Ceil(float64(n*51)/100))` (modelled bit-exactly by `fdiv53`/`ceilDyadic`) is the integer
    ceiling `⌈51n/100⌉`, for every group size below `2^46`. -/
theorem groupK_formula (n : Nat) (hn : n < 2 ^ 46) :
    getGroupK Bn256.ssssThreshold Bn256.groupKDivisor n = some ((n * 51 + 99) / 100) :=
  getGroupK_51 n hn

/-- The threshold is a strict majority and never exceeds the group size, so threshold subsets
    exist and the dealt polynomial has degree `k-1 ≥ 0`. Breaks if `SSSS_THRESHOLD` leaves
    `(50, 100]` or the divisor changes. -/
theorem groupK_bounds (n k : Nat) (hn0 : 0 < n) (hn : n < 2 ^ 46)
    (hk : getGroupK Bn256.ssssThreshold Bn256.groupKDivisor n = some k) : 1 ≤ k ∧ k ≤ n ∧ n < 2 * k :=
  getGroupK_51_bounds n k hn0 hn hk

example : getGroupK Bn256.ssssThreshold Bn256.groupKDivisor 10 = some 6 ∧
    getGroupK Bn256.ssssThreshold Bn256.groupKDivisor 3 = some 2 := by decide

/-- The configured group sizes are inside the range of `groupK_formula`. -/
theorem group_size_range :
    1 ≤ Bn256.groupMinMembersDev ∧ Bn256.groupMinMembersDev ≤ Bn256.groupMinMembers ∧
    Bn256.groupMinMembers ≤ Bn256.groupMaxMembers ∧ Bn256.groupMaxMembers < 2 ^ 46 := by decide

/-- Every site that fixes a threshold — dealing (`genSecKeyList`) and recovery
    (`New/newGroupSignGenerator`) — takes it from `model.Param.GetGroupK`. A new call site with
    another expression makes this false. -/
theorem threshold_sites_use_groupK :
    C13Sites.thresholdSites.all (·.viaGroupK) = true ∧
    C13Sites.thresholdSites.any (·.callee == "genSecKeyList") = true ∧
    C13Sites.thresholdSites.any (·.callee == "newGroupSignGenerator") = true := by decide +kernel

/-- Every call of `RecoverGroupSignature` passes `(witnessSignMap, threshold)` and is reached only
    under `len(witnessSignMap) >= threshold`, so the panic branch `fewer than k entries` of the
    model is unreachable from the node. -/
theorem recover_calls_guarded :
    C13Sites.recoverSites.all (·.guardedByLenGeThreshold) = true ∧ C13Sites.recoverSites ≠ [] := by decide

/-- `logical.groupSignGenerator` (used by `round1`) is statement-for-statement the code of
    `model.GroupSignGenerator` (which the harness drives and `SignGen` models), locks aside. -/
theorem sign_generator_twin_same :
    C13Sites.twinMethods.all (·.2) = true ∧ C13Sites.twinMethods.length = 4 := by decide

/-- No function of packages `groupsig`, `groupsig/bn256`, `base` writes a package-level variable
    (assignment, increment/decrement, a mutating method or `gfpXxx(dst, …)` helper applied to one): results cannot
    depend on process-local history through package state. A scratch buffer or a constant mutated
    through an alias (also a local bound directly to a package variable) makes this false. -/
theorem path_writes_no_package_state :
    C13Sites.packageStateWrites = [] ∧ 20 ≤ C13Sites.pathFilesScanned := by decide

/-- No fork flag (`IsProposalNNN`, `LocalChainConfig`, `GetBlockHeight`) is read on the property's
    path (groupsig, bn256, base, the generators, `groupNodeInfo`, `GetGroupK`): the behaviour proved
    here is the same under every fork schedule and height. -/
theorem path_reads_no_fork_flag : C13Sites.forkFlagReads = [] := by decide

/-- The generator part of `round1.Update` is, statement for statement, what `Model.Shamir.round1Update`
    transcribes: block-signature share first, nothing else if it was not added, then the beacon
    share, header fields and `canProcessed` only under `radd && generate && rgen`; and the nil guard on
    the beacon share is there. A reordering, a dropped guard or a changed condition breaks this. -/
theorem round1_update_tail_pinned :
    C13Sites.round1UpdateTail =
      ["add, generate := r.gSignGenerator.AddWitnessSign(si.GetSignerID(), si.GetSignature())",
       "if !add { return nil }",
       "radd, rgen := r.rSignGenerator.AddWitnessSign(si.GetSignerID(), *sig)",
       "if radd && generate && rgen { bh.Signature = r.gSignGenerator.GetGroupSign().Serialize() ; bh.Random = r.rSignGenerator.GetGroupSign().Serialize() ; r.canProcessed = true }",
       "return nil"] ∧
    C13Sites.round1RandomNilGuard = true := ⟨rfl, rfl⟩

/-- Every `Lock()` / `RLock()` in `model.GroupSignGenerator`, `groupNodeInfo` and the round file is
    immediately followed by the matching `defer …Unlock()`: no return path can keep a lock (a kept
    lock makes every later `AddWitnessSign` / `SignRecovered` block forever). -/
theorem locks_are_deferred_unlocked :
    C13Sites.lockWithoutDeferUnlock = [] ∧ 5 ≤ C13Sites.lockStatementsSeen := by decide

end Rangers.Props.C13Facts
