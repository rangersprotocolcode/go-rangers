import Rangers.Generated.C08Facts
/-!
# C08 — T-gen facts about the Go source: bound checks, pool, imports, package state, conversions

`Generated/C08Facts.lean` is rewritten from the working tree on every run (go/ast). The model
(`kindBoundErr`, `willRead`, raw `readKind`) compares `size > listSize - pos` with *no addition on
either side*; `stream_no_wraparound` shows the subtraction cannot wrap. These obligations hold the
source to that form: rewriting a check as `pos + size > listSize` (which can overflow `uint64`)
or adding/removing a guard breaks them (`bound_checks_*`, `kind_willRead_guards`).  The other
facts fix what else the model takes for granted about the package: the buffer pool is used
get/put-balanced, only the standard library is imported, the type cache is the only package state
written, the narrowing conversions of decode.go, the exit points of the `Stream` methods and how
the type cache fills its placeholder.
-/
namespace Rangers.Props.C08
open Rangers.Generated.C08

def hasChar (c : Char) (s : String) : Bool := s.toList.contains c

/-- No guard adds before comparing (an addition of two `uint64` can wrap; `a - b` with `b ≤ a` cannot). -/
theorem bound_checks_no_addition : boundChecks.all (fun c => !hasChar '+' c.2) = true := by decide +kernel

/-- Exactly three guards subtract, each as `x > a - b`: the in-list check of `Kind`, the in-list
    check of `willRead`, the slice check of raw `readKind`. -/
theorem bound_checks_subtractions :
    boundChecks.filter (fun c => hasChar '-' c.2) =
      [("Stream.Kind", "v > (v - v)"), ("Stream.willRead", "v > (v - v)"), ("raw.readKind", "v > (f - v)")] := by decide +kernel

/-- The guards of `Kind` and `willRead`, in source order (input-limit check `v > v`, in-list check
    `v > (v - v)`; `f > c` is `len(s.stack) > 0`, `v < c` is `s.kind < 0`). -/
theorem kind_willRead_guards :
    boundChecks.filter (fun c => c.1 == "Stream.Kind" || c.1 == "Stream.willRead") =
      [("Stream.Kind", "f > c"), ("Stream.Kind", "v < c"), ("Stream.Kind", "v > v"), ("Stream.Kind", "v > (v - v)"),
       ("Stream.willRead", "f > c"), ("Stream.willRead", "v > (v - v)"), ("Stream.willRead", "v > v")] := by decide +kernel

/-- Pool discipline of encode.go: `Encode` and `EncodeToBytes` take one buffer and give it back with a
    deferred `Put`; `EncodeToReader` takes one and must NOT give it back (the returned reader streams
    from it); the reader's `Read` gives it back, not deferred (only on its EOF path). A `Put` added to
    `EncodeToReader`, a missing `Put`, or a new user of the pool breaks this obligation. -/
theorem pool_discipline :
    poolUse = [("Encode", 1, 1, 1), ("EncodeToBytes", 1, 1, 1), ("EncodeToReader", 1, 0, 0), ("encReader.Read", 0, 1, 0)] := by
  decide +kernel

/-- The package imports the standard library only: no node configuration, no proposal/fork flag, no
    clock can influence coding: nothing fork-dependent on this path. -/
theorem imports_stdlib_only : imports.all (fun p => !hasChar '.' p.2) = true := by decide +kernel

/-- The only package-level variable written after initialisation is the type cache, and only by
    `cachedTypeInfo1` (the pool is used through `Get`/`Put`, see `pool_discipline`): every other
    function on the coding path is free of process-local history. -/
theorem package_state_writes : pkgWrites = [("cachedTypeInfo1", "typeCache")] := by decide +kernel

/-- Narrowing conversions in decode.go: `byte(size)` only as the argument of `readUint` in
    `Stream.uint` — i.e. AFTER `size > maxbits/8` was checked on the full `uint64` — and
    `int(8 - size)` in `readUint` (size ≤ 8 there). A size narrowed before its range check (an
    assignment or a condition holding `byte(size)`) breaks this obligation; the model keeps `size` a
    `Nat` throughout (`sUint`: `if size > maxbits / 8 then uintOverflow`). -/
theorem narrowing_conversions :
    narrowConvs = [("Stream.uint", "byte", "arg"), ("Stream.readUint", "int", "assign")] := by decide +kernel

/-- Exit points of the `Stream` methods. `Raw` has four (`Kind` failed; single byte — re-arms `Kind`;
    `readFull` failed; header + content), `Bytes` six, `uint` nine …: a new early return — a fast path
    that answers without consuming the element or without re-arming `Kind` — changes a count. The model
    (`sRaw`, `sBytes`, `sUint`, `sList`, `sListEnd`) has exactly these paths. -/
theorem stream_returns :
    streamReturns = [("Stream.Bytes", 6), ("Stream.Raw", 4), ("Stream.Uint", 1), ("Stream.uint", 9), ("Stream.Bool", 4),
      ("Stream.List", 3), ("Stream.ListEnd", 3), ("Stream.Decode", 5), ("Stream.Reset", 0), ("Stream.Kind", 2),
      ("Stream.readKind", 6), ("Stream.readUint", 5), ("Stream.readFull", 2), ("Stream.readByte", 2),
      ("Stream.willRead", 3)] := by decide +kernel

/-- The type cache breaks recursion with a placeholder entry (`typeCache[key] = new(typeinfo)`) that is
    later FILLED IN PLACE (`*typeCache[key] = *info`): coders of element/pointer types generated while a
    self-referential type is under construction keep a pointer to that very entry. Replacing the entry
    instead (`typeCache[key] = info`) leaves them with nil functions, and breaks this
    obligation; the behaviour is exercised on the recursive fixture types (`Props/C08Rec.lean`). -/
theorem typecache_fills_placeholder_in_place :
    cacheAssigns = [("cachedTypeInfo1", "v[v] = f"), ("cachedTypeInfo1", "*v[v] = *v")] := by decide +kernel

end Rangers.Props.C08
