import Rangers.Proofs.Evm10Arith
import Rangers.Proofs.Evm10Spec
/-!
# C10 — EVM computational opcodes implement the Ethereum specification

This file: the word operations.  Each theorem relates a function the model's `execOp`
applies (a transcription of the `opX` wrapper in `src/vm/instructions.go` over the
`holiman/uint256` methods) to the Yellow Paper (Appendix H.2) / EIP-145 definition
written in `Nat` / `Int` arithmetic modulo 2^256.  `x` is always the operand popped
first (μ_s[0]), `y` the second (μ_s[1]).

`sval` (two's-complement reading) is defined in `Proofs/Evm10Spec.lean`.
Stack, jump and frame theorems are in `Props/C10B.lean`, memory contents in `Props/C10M.lean`, the
table theorems in `Props/C10T.lean`, runs as folds and gas noninterference in `Props/C10R.lean`, the
call family's memory sizes, the identity precompile and `isCode` in `Props/C10G.lean`.
-/
namespace Rangers.Props.C10
open Rangers Rangers.Model.Evm10 Rangers.Model.Evm10.U256 Rangers.Proofs.Evm10

/-- ADD: μ'_s[0] = μ_s[0] + μ_s[1] (mod 2^256) -/
theorem add_spec (x y : Word) : (add x y).toNat = (x.toNat + y.toNat) % 2 ^ 256 := by
  simp [add, BitVec.toNat_add]

theorem mul_spec (x y : Word) : (mul x y).toNat = (x.toNat * y.toNat) % 2 ^ 256 := by
  simp [mul, BitVec.toNat_mul]

/-- SUB: μ_s[0] − μ_s[1] modulo 2^256 (as an integer statement) -/
theorem sub_spec (x y : Word) :
    ((sub x y).toNat : Int) = ((x.toNat : Int) - (y.toNat : Int)) % 2 ^ 256 := by
  have hy := y.isLt
  have hx := x.isLt
  simp only [sub, BitVec.toNat_sub]
  omega

/-- DIV: 0 if μ_s[1] = 0, else ⌊μ_s[0] / μ_s[1]⌋ -/
theorem div_spec (x y : Word) :
    (div x y).toNat = if y.toNat = 0 then 0 else x.toNat / y.toNat := by
  rw [div_eq, BitVec.toNat_udiv]
  by_cases h : y.toNat = 0 <;> simp [h]

/-- MOD: 0 if μ_s[1] = 0, else μ_s[0] mod μ_s[1] -/
theorem mod_spec (x y : Word) :
    (mod x y).toNat = if y.toNat = 0 then 0 else x.toNat % y.toNat := by
  by_cases h : y.toNat = 0
  · have : y = 0#256 := BitVec.eq_of_toNat_eq (by simpa using h)
    simp [mod_eq, this]
  · simp [mod_toNat x y h, h]

/-- SDIV: 0 if μ_s[1] = 0; −2^255 if μ_s[0] = −2^255 ∧ μ_s[1] = −1; otherwise the quotient
truncated toward zero, sgn(a/b)·⌊|a/b|⌋ — all in the signed reading. -/
theorem sdiv_spec (x y : Word) :
    sval (sdiv x y) =
      if sval y = 0 then 0
      else if sval x = -2 ^ 255 ∧ sval y = -1 then -2 ^ 255
      else Int.tdiv (sval x) (sval y) := by
  rw [sdiv_eq]
  simp only [sval_eq_toInt]
  by_cases hy : y.toInt = 0
  · have : y = 0#256 := (sval_zero_iff y).1 (by rw [sval_eq_toInt]; exact hy)
    subst this
    simp [BitVec.sdiv_eq]
    cases x.msb <;> simp
  · simp only [hy, if_false]
    by_cases hov : x.toInt = -2 ^ 255 ∧ y.toInt = -1
    · simp only [hov, and_self, if_true]
      have hx : x = BitVec.intMin 256 := by
        apply BitVec.toInt_inj.1; rw [hov.1]; decide
      have hy' : y = -1#256 := by
        apply BitVec.toInt_inj.1; rw [hov.2]; decide
      subst hx hy'
      decide
    · simp only [hov, if_false]
      apply BitVec.toInt_sdiv_of_ne_or_ne
      by_cases hx : x = BitVec.intMin 256
      · right
        intro hy'
        apply hov
        subst hx hy'
        constructor <;> decide
      · exact Or.inl hx

/-- SMOD: 0 if μ_s[1] = 0, else sgn(μ_s[0])·(|μ_s[0]| mod |μ_s[1]|): the remainder of the
truncated division, which has the sign of the dividend. -/
theorem smod_spec (x y : Word) :
    sval (smod x y) = if sval y = 0 then 0 else Int.tmod (sval x) (sval y) := by
  rw [smod_eq]
  by_cases hy : y = 0#256
  · subst hy; simp [sval_eq_toInt]
  · have : sval y ≠ 0 := fun h => hy ((sval_zero_iff y).1 h)
    simp only [hy, this, if_false]
    simp only [sval_eq_toInt, BitVec.toInt_srem]

/-- ADDMOD: 0 if μ_s[2] = 0, else (μ_s[0] + μ_s[1]) mod μ_s[2] with the sum NOT reduced
modulo 2^256 first.  `opAddmod` is the wrapper including its own zero test. -/
theorem addmod_spec (x y m : Word) :
    (opAddmod x y m).toNat = if m.toNat = 0 then 0 else (x.toNat + y.toNat) % m.toNat := by
  unfold opAddmod
  by_cases h : m.toNat = 0
  · simp [(isZero_iff_toNat m).2 h, h]
  · simp only [isZero_eq_false h, Bool.false_eq_true, if_false, h]
    exact addmod_toNat x y m h

/-- MULMOD: 0 if μ_s[2] = 0, else (μ_s[0] · μ_s[1]) mod μ_s[2] on the full 512-bit product. -/
theorem mulmod_spec (x y m : Word) :
    (mulmod x y m).toNat = if m.toNat = 0 then 0 else (x.toNat * y.toNat) % m.toNat :=
  mulmod_toNat x y m

/-- EXP: μ_s[0] ^ μ_s[1] mod 2^256 — the square-and-multiply loop of `uint256.Exp` over the
bits of the exponent computes the power (induction over the loop). -/
theorem exp_spec (b e : Word) : (exp b e).toNat = b.toNat ^ e.toNat % 2 ^ 256 :=
  exp_toNat b e

/-- SIGNEXTEND(k = μ_s[0], x = μ_s[1]): for k < 31, with t = 8k+7 the sign bit position,
bit i of the result is x_i for i ≤ t and x_t above; for k ≥ 31 the word is unchanged.
`execOp` calls `extendSign num back` with `back` the operand popped first. -/
theorem signextend_spec (k x : Word) (i : Nat) (hi : i < 256) :
    (extendSign x k).getLsbD i =
      if k.toNat < 31 then
        (if i ≤ 8 * k.toNat + 7 then x.getLsbD i else x.getLsbD (8 * k.toNat + 7))
      else x.getLsbD i :=
  extendSign_getLsbD x k i hi

theorem lt_spec (x y : Word) : lt x y = decide (x.toNat < y.toNat) := rfl
theorem gt_spec (x y : Word) : gt x y = decide (x.toNat > y.toNat) := rfl

/-- SLT: signed comparison in the two's-complement reading -/
theorem slt_spec (x y : Word) : slt x y = decide (sval x < sval y) := by
  rw [slt_eq]; simp only [sval_eq_toInt]

theorem sgt_spec (x y : Word) : sgt x y = decide (sval x > sval y) := by
  rw [sgt_eq]; simp only [sval_eq_toInt, gt_iff_lt]

theorem eq_spec (x y : Word) : eq x y = decide (x.toNat = y.toNat) := by
  unfold eq
  by_cases h : x = y
  · subst h; simp
  · have : x.toNat ≠ y.toNat := fun e => h (BitVec.eq_of_toNat_eq e)
    simp [h, this]

theorem iszero_spec (x : Word) : isZero x = decide (x.toNat = 0) := by
  by_cases h : x.toNat = 0
  · simp [(isZero_iff_toNat x).2 h, h]
  · simp [isZero_eq_false h, h]

/-- the 0/1 encoding of comparison results pushed on the stack -/
theorem ofBool_spec (b : Bool) : (ofBool b).toNat = if b then 1 else 0 := by
  cases b <;> rfl

theorem and_spec (x y : Word) (i : Nat) : (U256.and x y).getLsbD i = (x.getLsbD i && y.getLsbD i) := by
  simp [U256.and]
theorem or_spec (x y : Word) (i : Nat) : (U256.or x y).getLsbD i = (x.getLsbD i || y.getLsbD i) := by
  simp [U256.or]
theorem xor_spec (x y : Word) (i : Nat) : (U256.xor x y).getLsbD i = (x.getLsbD i ^^ y.getLsbD i) := by
  simp [U256.xor]
/-- NOT: bitwise complement, i.e. 2^256 − 1 − μ_s[0] -/
theorem not_spec (x : Word) : (U256.not x).toNat = 2 ^ 256 - 1 - x.toNat := by
  simp [U256.not, BitVec.toNat_not]

/-- BYTE(i = μ_s[0], x = μ_s[1]): the i-th byte counted from the most significant end,
0 for i ≥ 32 (including every i ≥ 2^64). -/
theorem byte_spec (i x : Word) :
    (byte x i).toNat = if i.toNat < 32 then (x.toNat / 2 ^ (8 * (31 - i.toNat))) % 256 else 0 :=
  byte_toNat x i

/-- SHL (EIP-145; shift = μ_s[0], value = μ_s[1]): (value · 2^shift) mod 2^256 for every shift
count; in particular 0 for shift ≥ 256 -/
theorem shl_spec (s v : Word) : (opSHL s v).toNat = (v.toNat * 2 ^ s.toNat) % 2 ^ 256 := by
  rw [opSHL_eq, BitVec.toNat_shiftLeft, Nat.shiftLeft_eq]

/-- SHR: ⌊value / 2^shift⌋; in particular 0 for shift ≥ 256 -/
theorem shr_spec (s v : Word) : (opSHR s v).toNat = v.toNat / 2 ^ s.toNat := by
  rw [opSHR_eq, BitVec.toNat_ushiftRight, Nat.shiftRight_eq_div_pow]

/-- SAR: ⌊value / 2^shift⌋ in the signed reading (floor, so −1 for a negative value and
shift ≥ 256, 0 for a non-negative one). -/
theorem sar_spec (s v : Word) : sval (opSAR s v) = sval v / (2 : Int) ^ s.toNat := by
  rw [sval_eq_toInt, sval_eq_toInt, opSAR_eq, BitVec.toInt_sshiftRight, Int.shiftRight_eq_div_pow]
  norm_cast

theorem shl_ge_256 (s v : Word) (h : 256 ≤ s.toNat) : opSHL s v = 0#256 := by
  rw [opSHL_eq, BitVec.shiftLeft_eq_zero h]

example : (256 : Nat) ≤ (0x100#256 : Word).toNat := by decide

theorem sar_ge_256 (s v : Word) (h : 256 ≤ s.toNat) :
    opSAR s v = if sval v < 0 then allOnes else 0#256 := by
  rw [opSAR_eq, sshiftRight_ge v h, BitVec.msb_eq_toInt, sval_eq_toInt]
  simp only [decide_eq_true_eq]

example : (256 : Nat) ≤ (allOnes : Word).toNat ∧ sval (allOnes : Word) < 0 := by decide

end Rangers.Props.C10
