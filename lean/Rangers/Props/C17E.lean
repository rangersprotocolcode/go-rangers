import Rangers.Proofs.PoolConc
import Rangers.Proofs.PoolMark
/-!
# C17, part E — the concurrency clause as a statement about interleavings

`Model/PoolConc.lean` runs threads at the granularity of lock acquire / release and the two halves of
`AddTransaction` (lookup | push) and `MarkExecuted` (write records | remove from pending).

* `locked_serializable`: when every thread runs `[acq, s1, s2, rel]` (the code, with its pool mutex),
  *every* schedule that runs to completion ends in the pool state of *some* sequential order of the whole
  operations — for any number of threads and any operations.
* `locked_never_corrupts`: hence, for submissions and well-formed block markings, every interleaving keeps
  the pool invariant (nothing pending is executed, no duplicates), and everything proved about sequential
  histories (`Props/C17`) applies to concurrent use.
* `unlocked_counterexample`, `lookup_first_counterexample`: without the lock (four steps) and with
  the lookup in front of the lock (seeded regression C17-a, eight steps) a schedule leaves a transaction
  executed *and* pending. Both schedules are what `mode=race` of the harness finds on the real code
  (`concurrent-readmit`).
What remains evidence only: that the Go code's critical sections are the ones modelled (tied by the generated
call facts `lock.Lock/Unlock` first in `AddTransaction`, `MarkExecuted`, `UnMarkExecuted`) and the Go memory
model for the lock-free readers (`-race` run).
-/
namespace Rangers.Props.C17E
open Rangers Rangers.Pool Rangers.Pool.Conc

theorem locked_serializable (ops : List AOp) (p0 : Pool) (sched : List Nat) (st : CState)
    (h : run (initState p0 (ops.map (fun o => (o, lockedProg)))) sched = some st) (hf : st.finished) :
    ∃ order : List AOp, order.Perm ops ∧ st.pool = order.foldl (fun p o => o.run p) p0 := by
  obtain ⟨done, hi⟩ := cinv_run sched (cinv_init ops p0) h
  have hu := unf_nil_of_finished hf
  have hp := hi.perm
  rw [hu, List.append_nil] at hp
  refine ⟨done, hp, ?_⟩
  cases hl : st.lock with
  | none => exact hi.free hl
  | some i =>
    obtain ⟨t, ht, hc⟩ := hi.held i hl
    have := hf t (List.mem_of_getElem? ht)
    rcases hc with ⟨hc, _⟩ | ⟨hc, _⟩ | ⟨hc, _⟩ <;> rw [this] at hc <;> cases hc

/-- non-vacuity: three threads, a schedule that interleaves waiting and running, all finished -/
example : ((run (initState (Pool.empty 5) ([addOp ⟨1, 11, [], 0, 0, 0⟩, markOp [(11, 1)] [⟨1, 11, [], 0, 0, 0⟩] [], addOp ⟨2, 12, [], 0, 0, 0⟩].map
    (fun o => (o, lockedProg)))) [1, 1, 1, 1, 2, 2, 2, 2, 0, 0, 0, 0]).map (fun st => st.threads.all (fun t => t.code.isEmpty))) = some true := by
  decide +kernel

theorem addOp_run (t : Tx) (p : Pool) : (addOp t).run p = (p.addTransaction t).1 := by
  simp only [AOp.run, addOp, Pool.addTransaction, Pool.add]
  cases p.existed t.hash <;> simp

theorem markOp_run (rs : List (Nat × Nat)) (txs : List Tx) (evicted : List Nat) (p : Pool)
    (hc : Covered (rs.map (·.1)) txs) : (markOp rs txs evicted).run p = (p.markExecutedZ rs txs evicted none).1 := by
  by_cases hr : rs = []
  · subst hr; rfl
  · obtain ⟨s₁, ws, r, hl, _, ⟨_, _, he⟩ | ⟨hne, _⟩⟩ := markExecutedZ_loop p txs evicted none hr
    · rw [he]; simp only [AOp.run, markOp, if_neg hr, hl]
    · exact absurd (markExecutedZ_res.mpr hc) hne

def Safe (o : AOp) : Prop := ∀ p, Pool.Inv p → Pool.Inv (o.run p)

theorem addOp_safe (t : Tx) : Safe (addOp t) := by
  intro p hi; rw [addOp_run]; exact inv_addTransaction t hi

theorem markOp_safe (rs : List (Nat × Nat)) (txs : List Tx) (evicted : List Nat)
    (hc : Covered (rs.map (·.1)) txs) (hz : ∀ q ∈ rs, 0 < q.2) : Safe (markOp rs txs evicted) := by
  intro p hi
  obtain ⟨s', ws, he, m⟩ := markExecutedZ_ok evicted hi hc hz
  rw [markOp_run rs txs evicted p hc, he]
  exact m.inv

theorem seq_safe (order : List AOp) (p0 : Pool) (hs : ∀ o ∈ order, Safe o) (h0 : Pool.Inv p0) :
    Pool.Inv (order.foldl (fun p o => o.run p) p0) :=
  List.foldlRecOn order _ h0 (fun p hi o ho => hs o ho p hi)

/-- **Concurrent submission and block bookkeeping never corrupt the pool** (with the mutex): every
interleaving of any number of submissions and well-formed markings, run to completion, ends in a state
satisfying the pool invariant. -/
theorem locked_never_corrupts (ops : List AOp) (p0 : Pool) (sched : List Nat) (st : CState)
    (hs : ∀ o ∈ ops, Safe o) (h0 : Pool.Inv p0)
    (h : run (initState p0 (ops.map (fun o => (o, lockedProg)))) sched = some st) (hf : st.finished) : Pool.Inv st.pool := by
  obtain ⟨order, hp, he⟩ := locked_serializable ops p0 sched st h hf
  rw [he]
  exact seq_safe order p0 (fun o ho => hs o (hp.mem_iff.mp ho)) h0

def tX : Tx := ⟨1, 11, [], 0, 0, 0⟩
def badSched : List Nat := [0, 1, 1, 0]

/-- A schedule that runs both threads to completion and leaves `tX` pending *and* executed refutes "every interleaving
keeps the invariant" for the programs they run. -/
theorem not_safe_of_schedule {pa pm : List Instr} {sched : List Nat}
    (key : (run (initState (Pool.empty 5) [(addOp tX, pa), (markOp [(11, 1)] [tX] [], pm)]) sched).map
      (fun st => (st.threads.all (fun t => t.code.isEmpty), st.pool.contains 11, st.pool.isExecuted 11)) = some (true, true, true)) :
    ¬ ∀ (a m : AOp) (p0 : Pool) (sched : List Nat) (st : CState), Safe a → Safe m → Pool.Inv p0 →
      run (initState p0 [(a, pa), (m, pm)]) sched = some st → st.finished → Pool.Inv st.pool := by
  intro hfs
  cases hr : run (initState (Pool.empty 5) [(addOp tX, pa), (markOp [(11, 1)] [tX] [], pm)]) sched with
  | none => rw [hr] at key; cases key
  | some st =>
    rw [hr] at key
    have key := Option.some.inj key
    have hfin : st.threads.all (fun t => t.code.isEmpty) = true := congrArg (·.1) key
    have hcon : st.pool.contains 11 = true := congrArg (·.2.1) key
    have hex : st.pool.isExecuted 11 = true := congrArg (·.2.2) key
    have hm : Safe (markOp [(11, 1)] [tX] []) :=
      markOp_safe _ _ _ (covered_singleton tX) (fun q hq => List.mem_singleton.mp hq ▸ Nat.one_pos)
    have hi := hfs _ _ _ _ st (addOp_safe tX) hm (inv_empty 5) hr (fun t ht => List.isEmpty_iff.mp (List.all_eq_true.mp hfin t ht))
    exact hi.disjoint 11 (contains_iff.mp hcon) (isExecuted_iff.mp hex)

/-- The same claim with no lock around either operation. -/
def FullStatementUnlocked : Prop :=
  ∀ (a m : AOp) (p0 : Pool) (sched : List Nat) (st : CState), Safe a → Safe m → Pool.Inv p0 →
    run (initState p0 [(a, unlockedProg), (m, unlockedProg)]) sched = some st → st.finished → Pool.Inv st.pool

/-- It is false: lookup of T, then the whole `MarkExecuted` of a block holding T (not pending here), then the
push: T is executed and pending. -/
theorem unlocked_counterexample : ¬ FullStatementUnlocked :=
  not_safe_of_schedule (sched := badSched) (by decide +kernel)

/-- The claim for the seeded regression C17-a: `MarkExecuted` takes the lock, `AddTransaction` looks the
transaction up before taking it. -/
def FullStatementLookupFirst : Prop :=
  ∀ (a m : AOp) (p0 : Pool) (sched : List Nat) (st : CState), Safe a → Safe m → Pool.Inv p0 →
    run (initState p0 [(a, lookupFirstProg), (m, lockedProg)]) sched = some st → st.finished → Pool.Inv st.pool

theorem lookup_first_counterexample : ¬ FullStatementLookupFirst :=
  not_safe_of_schedule (sched := [0, 1, 1, 1, 1, 0, 0, 0]) (by decide +kernel)

end Rangers.Props.C17E
