import Rangers.Proofs.Evm10Bitmap
import Rangers.Proofs.Evm10Step
import Rangers.Proofs.Evm10NoPanic
/-!
# C10 — jump destinations, program counter, memory resize, no Go panic

* `bitmap_exact` : the transcribed `codeBitmap` marks exactly the PUSH-data positions
  (specification side `InPushData`, decoding from position 0, in `Proofs/Evm10Bitmap.lean`).
* `validJumpdest_iff`, `jump_exec`, `jumpi_exec`, `jump_lands_on_jumpdest`,
  `jumpi_lands_on_jumpdest`, `jump_elsewhere_fails` : a JUMP/JUMPI that continues lands on a 0x5b
  byte outside PUSH data, every other destination is `ErrInvalidJump`.
* `step_keeps_code`, `pc_spec` : code/analysis/calldata never change, the pc of a non-jump
  instruction advances by 1 + its PUSH-data width.  `init_wf`, `step_keeps_wf` : `FrameWF`, which the
  jump theorems assume, holds of the initial frame and is kept by a step.
* `mem_resize_before_exec`, `memsize_is_touched_end`, `no_go_panic`, `no_go_panic_generated` :
  `execute` sees memory grown to the word-rounded requested size, and under a consistent jump table
  (such as each generated one) no step reaches a Go run-time panic.
* `dup_spec`, `swap_spec`, `push_spec`, `sha3_spec`, `mstore_then_read`.
-/
namespace Rangers.Props.C10
open Rangers Rangers.Model.Evm10 Rangers.Model.Evm10.U256 Rangers.Proofs.Evm10
open Rangers.Generated.Evm10

theorem bitmap_exact (code : Bytes) (i : Nat) :
    Bitvec.codeSegment (Bitvec.codeBitmap code) i = true ↔ ¬ InPushData code i :=
  codeSegment_codeBitmap code i

example : InPushData [0x60, 0x5b, 0x5b] 1 :=
  ⟨0, Boundary.zero, by decide, by decide, by decide⟩

example : ¬ InPushData [0x60, 0x5b, 0x5b] 2 := by
  rw [← bitmap_exact]; decide

/-- A frame as the interpreter builds it: the analysis is that of its code; code length is a Go
slice length (the model needs only `< 2^64`). -/
def FrameWF (f : Frame) : Prop := f.bitmap = Bitvec.codeBitmap f.code ∧ f.code.length < 2 ^ 64

example : FrameWF (Frame.init [0x60, 0x5b, 0x5b] [] 100) := ⟨rfl, by decide⟩

theorem init_wf (code input : Bytes) (gas : Nat) (h : code.length < 2 ^ 64) :
    FrameWF (Frame.init code input gas) := ⟨rfl, h⟩

/-- `validJumpdest` accepts exactly: inside the code, a JUMPDEST byte, not PUSH data. -/
theorem validJumpdest_iff (f : Frame) (hwf : FrameWF f) (dest : Word) :
    validJumpdest f dest = true ↔
      dest.toNat < f.code.length ∧ f.code.getD dest.toNat 0 = 0x5b ∧ ¬ InPushData f.code dest.toNat := by
  obtain ⟨hb, hl⟩ := hwf
  rw [← bitmap_exact, ← hb]
  exact jumpdest_guard_iff f.code dest (Bitvec.codeSegment f.bitmap) hl

theorem jump_exec (H : Bytes → Bytes) (f : Frame) (dest : Word) (rest : List Word)
    (hst : f.stack = dest :: rest) :
    execOp H .opJump f =
      if validJumpdest f dest then .ok { f with stack := rest, pc := dest.toNat } []
      else .err .invalidJump := by
  dsimp only [execOp]
  rw [hst]
  dsimp only
  cases hv : validJumpdest f dest
  · rfl
  · rw [← lo64_of_isUint64 dest (validJumpdest_isUint64 hv)]; rfl

theorem jumpi_exec (H : Bytes → Bytes) (f : Frame) (dest cond : Word) (rest : List Word)
    (hst : f.stack = dest :: cond :: rest) :
    execOp H .opJumpi f =
      if cond.toNat = 0 then .ok { f with stack := rest, pc := f.pc + 1 } []
      else if validJumpdest f dest then .ok { f with stack := rest, pc := dest.toNat } []
      else .err .invalidJump := by
  dsimp only [execOp]
  rw [hst]
  dsimp only
  by_cases hc : cond.toNat = 0
  · rw [if_pos hc, (isZero_iff_toNat cond).2 hc]; rfl
  · rw [if_neg hc, isZero_eq_false hc]
    cases hv : validJumpdest f dest
    · rfl
    · rw [← lo64_of_isUint64 dest (validJumpdest_isUint64 hv)]; rfl

theorem preExec_wf {f : Frame} (hwf : FrameWF f) (g l m : Nat) : FrameWF (preExec f g l m) := hwf

/-- **A JUMP that continues lands on a real JUMPDEST outside PUSH data** — stated about the
interpreter step, for any jump table whose current slot runs `opJump` with the `jumps` flag. -/
theorem jump_lands_on_jumpdest (H : Bytes → Bytes) (t : Table) (p : GasParams) (f f' : Frame)
    (hwf : FrameWF f) (info : OpInfo) (hget : t.get (getOp f.code f.pc) = some info)
    (hexec : info.exec = .opJump) (hflag : info.jumps = true)
    (hs : step H t p f = .next f') :
    ∃ dest rest, f.stack = dest :: rest ∧ f'.stack = rest ∧ f'.pc = dest.toNat ∧
      f'.pc < f.code.length ∧ f.code.getD f'.pc 0 = 0x5b ∧ ¬ InPushData f.code f'.pc := by
  obtain ⟨info', gas2, last, ms, f1, res, hget', hmin, _, _, hex, rfl⟩ := step_next_decomp hs
  obtain rfl : info = info' := Option.some.inj (hget.symm.trans hget')
  rw [postExec_eq, hflag]
  rw [hexec] at hex
  match hst : f.stack with
  | [] =>
    have hst' : (preExec f gas2 last ms).stack = [] := hst
    dsimp only [execOp] at hex; rw [hst'] at hex; cases hex
  | dest :: rest =>
    rw [jump_exec H (preExec f gas2 last ms) dest rest hst] at hex
    cases hv : validJumpdest (preExec f gas2 last ms) dest <;> rw [hv] at hex
    · cases hex
    · injection hex with h1 _
      subst h1
      exact ⟨dest, rest, rfl, rfl, rfl, (validJumpdest_iff _ (preExec_wf hwf gas2 last ms) dest).1 hv⟩

/-- **JUMPI**: with a zero condition the pc advances by one, otherwise as for JUMP. -/
theorem jumpi_lands_on_jumpdest (H : Bytes → Bytes) (t : Table) (p : GasParams) (f f' : Frame)
    (hwf : FrameWF f) (info : OpInfo) (hget : t.get (getOp f.code f.pc) = some info)
    (hexec : info.exec = .opJumpi) (hflag : info.jumps = true)
    (hs : step H t p f = .next f') :
    ∃ dest cond rest, f.stack = dest :: cond :: rest ∧ f'.stack = rest ∧
      (if cond.toNat = 0 then f'.pc = f.pc + 1
       else f'.pc = dest.toNat ∧ f'.pc < f.code.length ∧ f.code.getD f'.pc 0 = 0x5b ∧
            ¬ InPushData f.code f'.pc) := by
  obtain ⟨info', gas2, last, ms, f1, res, hget', hmin, _, _, hex, rfl⟩ := step_next_decomp hs
  obtain rfl : info = info' := Option.some.inj (hget.symm.trans hget')
  rw [postExec_eq, hflag]
  rw [hexec] at hex
  match hst : f.stack with
  | [] | [_] =>
    have hst' : (preExec f gas2 last ms).stack = _ := hst
    dsimp only [execOp] at hex; rw [hst'] at hex; cases hex
  | dest :: cond :: rest =>
    rw [jumpi_exec H (preExec f gas2 last ms) dest cond rest hst] at hex
    refine ⟨dest, cond, rest, rfl, ?_⟩
    by_cases hc : cond.toNat = 0
    · rw [if_pos hc] at hex ⊢
      injection hex with h1 _
      subst h1
      exact ⟨rfl, rfl⟩
    · rw [if_neg hc] at hex ⊢
      cases hv : validJumpdest (preExec f gas2 last ms) dest <;> rw [hv] at hex
      · cases hex
      · injection hex with h1 _
        subst h1
        exact ⟨rfl, rfl, (validJumpdest_iff _ (preExec_wf hwf gas2 last ms) dest).1 hv⟩

/-- **Every other destination is `ErrInvalidJump`**: if the destination is outside the code, not a
0x5b byte, or inside PUSH data, `execute` of JUMP (and of JUMPI with a non-zero condition)
returns the error and nothing else. -/
theorem jump_elsewhere_fails (H : Bytes → Bytes) (f : Frame) (hwf : FrameWF f)
    (dest cond : Word) (rest : List Word)
    (hbad : ¬ (dest.toNat < f.code.length ∧ f.code.getD dest.toNat 0 = 0x5b ∧
               ¬ InPushData f.code dest.toNat)) :
    (f.stack = dest :: rest → execOp H .opJump f = .err .invalidJump) ∧
    (f.stack = dest :: cond :: rest → cond.toNat ≠ 0 → execOp H .opJumpi f = .err .invalidJump) := by
  have hv : ¬ validJumpdest f dest = true := fun h => hbad ((validJumpdest_iff f hwf dest).1 h)
  constructor
  · intro hst; rw [jump_exec H f dest rest hst]; simp [hv]
  · intro hst hc; rw [jumpi_exec H f dest cond rest hst]; simp [hc, hv]

example : ¬ ((3 : Word).toNat < ([0x60, 0x5b, 0x5b] : Bytes).length ∧
    ([0x60, 0x5b, 0x5b] : Bytes).getD (3 : Word).toNat 0 = 0x5b ∧
    ¬ InPushData [0x60, 0x5b, 0x5b] (3 : Word).toNat) := by
  intro h; exact absurd h.1 (by decide)

theorem step_keeps_code (H : Bytes → Bytes) (t : Table) (p : GasParams) (f f' : Frame)
    (hs : step H t p f = .next f') :
    f'.code = f.code ∧ f'.bitmap = f.bitmap ∧ f'.input = f.input :=
  step_frame_const hs

theorem step_keeps_wf (H : Bytes → Bytes) (t : Table) (p : GasParams) (f f' : Frame)
    (hwf : FrameWF f) (hs : step H t p f = .next f') : FrameWF f' := by
  obtain ⟨a, b, _⟩ := step_keeps_code H t p f f' hs
  unfold FrameWF at *
  rw [a, b]; exact hwf

/-- **pc**: an instruction whose slot is not flagged `jumps` and is not JUMP/JUMPI moves the pc
forward by one plus the width of its PUSH data (`pushWidth`: n for PUSHn, 0 otherwise). -/
theorem pc_spec (H : Bytes → Bytes) (t : Table) (p : GasParams) (f f' : Frame) (info : OpInfo)
    (hget : t.get (getOp f.code f.pc) = some info) (hj : info.jumps = false)
    (h1 : info.exec ≠ .opJump) (h2 : info.exec ≠ .opJumpi)
    (hs : step H t p f = .next f') :
    f'.pc = f.pc + 1 + pushWidth info.exec := by
  obtain ⟨info', _, _, _, _, _, _, _, hget', _, rfl, _, hpc⟩ := step_next_frame hs
  obtain rfl : info = info' := Option.some.inj (hget.symm.trans hget')
  exact hpc hj h1 h2

/-- **Memory resize law** (interpreter.go: `memorySize = toWordSize(memSize)*32`, `mem.Resize`):
the memory `execute` sees is the old memory grown to the word-rounded requested size — at least
the requested size, less than one word more, a multiple of 32. -/
theorem mem_resize_before_exec (f : Frame) (gas2 last ms sz : Nat)
    (h : safeMul (toWordSize sz) 32 = (ms, false)) :
    (preExec f gas2 last ms).mem.length = max f.mem.length ms ∧
    sz ≤ ms ∧ ms < sz + 32 ∧ ms % 32 = 0 ∧
    (preExec f gas2 last ms).mem.take f.mem.length = f.mem := by
  obtain ⟨h1, h3, h2⟩ := safeMul_words h
  refine ⟨preExec_mem_length f gas2 last ms, h1, h3, h2, ?_⟩
  · simp only [preExec]
    split
    · unfold Mem.resize; split <;> simp
    · simp

example : safeMul (toWordSize 33) 32 = (64, false) := by decide

/-- the size requested for an access `[off, off+len)` with `len > 0` is exactly `off + len`
(no uint64 wrap-around when the overflow flag is clear) -/
theorem memsize_is_touched_end (off l : Word) (sz : Nat) (hl : lo64 l ≠ 0)
    (h : calcMemSize64 off l = (sz, false)) :
    lo64 off + lo64 l = sz ∧ sz < 2 ^ 64 ∧ isUint64 off = true :=
  calc_two hl h

example : calcMemSize64 (32 : Word) (5 : Word) = (37, false) := by decide

/-- Full statement: under a consistent table NO step reaches a Go run-time panic (an empty-stack
pop, a slice or index outside memory, the explicit `panic` in `Memory.Set`/`Set32`, the
`returnData[offset64:end64]` slice). -/
def FullStatementNoPanic : Prop :=
  ∀ (H : Bytes → Bytes) (t : Table) (p : GasParams) (f : Frame),
    tableOK t = true → step H t p f ≠ .fail .goPanic

/-- The `minStack` check covers every pop (DUP/SWAP indices included), and for the ten
memory-touching functions the interpreter's resize to the word-rounded size computed by the slot's
`memorySize` function puts every access in bounds (`Proofs/Evm10NoPanic.lean`: `cover_one`,
`cover_two`, `execOp_no_panic`). -/
theorem no_go_panic : FullStatementNoPanic :=
  fun H t p f ht => step_no_goPanic H t p f ht

/-- … in particular for each of the eight generated jump tables, whatever the frame. -/
theorem no_go_panic_generated (H : Bytes → Bytes) (cfg : Nat) (p : GasParams) (f : Frame) :
    step H (table cfg) p f ≠ .fail .goPanic :=
  step_no_goPanic H (table cfg) p f (tables_ok cfg)

example : tableOK (table 7) = true := tables_ok 7

/-- DUPn pushes a copy of the n-th item (1 = top). -/
theorem dup_spec (H : Bytes → Bytes) (f : Frame) (n : Nat) (w : Word) (hn : 0 < n)
    (h : f.stack[n - 1]? = some w) :
    execOp H (.dup n) f = .ok { f with stack := w :: f.stack } [] := by
  dsimp only [execOp]
  rw [if_neg (by omega), h]

example : ([5, 6, 7] : List Word)[2 - 1]? = some 6 := by decide

/-- SWAPn exchanges the top with the item n below it and touches nothing else. -/
theorem swap_spec (H : Bytes → Bytes) (f : Frame) (n : Nat) (top w : Word) (rest : List Word)
    (hn : 0 < n) (hs : f.stack = top :: rest) (h : f.stack[n]? = some w) :
    execOp H (.swap n) f = .ok { f with stack := (w :: rest).set n top } [] := by
  dsimp only [execOp]
  rw [hs] at h ⊢
  dsimp only
  rw [if_neg (by omega), h]
  rfl

example : ([5, 6, 7] : List Word)[2]? = some 7 := by decide

/-- PUSHn (`makePush(size, n)`): pushes `pushValue` and advances the pc over the data. -/
theorem push_spec (H : Bytes → Bytes) (f : Frame) (size n : Nat) :
    execOp H (.push size n) f =
      .ok { f with stack := pushValue f.code f.pc n :: f.stack, pc := f.pc + size } [] := rfl

/-- SHA3 relative to the hash parameter `H`: the hash of the memory range, as a big-endian word. -/
theorem sha3_spec (H : Bytes → Bytes) (f : Frame) (offset size : Word) (rest : List Word)
    (data : Bytes) (hs : f.stack = offset :: size :: rest)
    (hd : Mem.getPtr f.mem (lo64 offset) (lo64 size) = some data) :
    execOp H .opSha3 f = .ok { f with stack := setBytes (H data) :: rest } [] := by
  dsimp only [execOp]
  rw [hs]
  dsimp only
  rw [hd]

example : Mem.getPtr [1, 2, 3, 4] 1 2 = some [2, 3] := by decide

/-- MSTORE then MLOAD at the same offset reads back the 32 bytes written; the length and all
other bytes are unchanged. -/
theorem mstore_then_read (m m' : Bytes) (off : Nat) (v : Word) (h : Mem.set32 m off v = some m') :
    m'.length = m.length ∧ Mem.getPtr m' off 32 = some (toBytes32 v) ∧
    m'.take off = m.take off ∧ m'.drop (off + 32) = m.drop (off + 32) := by
  obtain ⟨rfl, hb⟩ := set32_eq_some h
  have hlen := toBytes32_length v
  have hoff : off ≤ m.length := by omega
  refine ⟨splice_length m off _ (by omega), ?_, splice_take m off _ hoff, ?_⟩
  · rw [getPtr_eq (Or.inr (by rw [splice_length m off _ (by omega)]; exact hb)), ← hlen, splice_mid m off _ hoff]
  · rw [← hlen]; exact splice_drop m off _ hoff

end Rangers.Props.C10
