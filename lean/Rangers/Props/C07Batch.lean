import Rangers.Props.C07
/-!
# C07 — batches: exactly the authentic elements reach the pool

Statements about `admitBatch`, the model of the admission loops (`WorkerConn.handleMessage`
for `TransactionGotMsg`, `GameExecutor.write` / `runWrite`).  The tie for these handlers is
the admission stage of the check: the real handlers are driven (hooks H11a/H11b) with mixed
honest / forged batches, every batch size 1..4 with the forged element at every position and
larger mixed ones, and an oracle by construction says which elements may reach the pool.
-/
namespace Rangers.Props.C07
open Rangers Rangers.Model.TxAuth

/-- Only verified elements of the batch are admitted — whatever stands before or after them. -/
theorem batch_admits_only_verified (cr : Crypto) (cfg : ChainCfg) (h : Nat) (have_ : List Bytes) (txs : List Tx) :
    ∀ t ∈ admitBatch cr cfg h have_ txs, t ∈ txs ∧ verifyTx cr cfg h t = .ok ∧ t.hash ∉ have_ := by
  induction txs generalizing have_ with
  | nil => intro t ht; simp [admitBatch] at ht
  | cons x rest ih =>
    intro t ht
    unfold admitBatch at ht
    by_cases hx : verifyTx cr cfg h x = .ok ∧ x.hash ∉ have_
    · rw [if_pos hx] at ht
      rcases List.mem_cons.1 ht with rfl | ht
      · exact ⟨List.mem_cons_self .., hx.1, hx.2⟩
      · obtain ⟨a, b, c⟩ := ih (x.hash :: have_) t ht
        exact ⟨List.mem_cons_of_mem _ a, b, fun hm => c (List.mem_cons_of_mem _ hm)⟩
    · rw [if_neg hx] at ht
      obtain ⟨a, b, c⟩ := ih have_ t ht
      exact ⟨List.mem_cons_of_mem _ a, b, c⟩

/-- A forged element is never admitted, at any position of any batch. -/
theorem batch_forged_never_admitted (cr : Crypto) (cfg : ChainCfg) (h : Nat) (have_ : List Bytes)
    (pre post : List Tx) (f : Tx) (hf : verifyTx cr cfg h f ≠ .ok) :
    f ∉ admitBatch cr cfg h have_ (pre ++ f :: post) := by
  intro hm
  exact hf (batch_admits_only_verified cr cfg h have_ _ f hm).2.1

/-- An authentic element is admitted unless its hash is in the pool or an earlier *verified* element of
    the batch carries it: a forged copy with the same hash in front of it does not push it out. -/
theorem batch_first_verified_admitted (cr : Crypto) (cfg : ChainCfg) (h : Nat) (have_ : List Bytes)
    (pre post : List Tx) (t : Tx) (hok : verifyTx cr cfg h t = .ok)
    (hfresh : t.hash ∉ have_) (hpre : ∀ p ∈ pre, verifyTx cr cfg h p = .ok → p.hash ≠ t.hash) :
    t ∈ admitBatch cr cfg h have_ (pre ++ t :: post) := by
  induction pre generalizing have_ with
  | nil =>
    simp only [List.nil_append]
    unfold admitBatch
    rw [if_pos ⟨hok, hfresh⟩]
    exact List.mem_cons_self ..
  | cons x rest ih =>
    simp only [List.cons_append]
    unfold admitBatch
    have hrest : ∀ p ∈ rest, verifyTx cr cfg h p = .ok → p.hash ≠ t.hash :=
      fun p hp => hpre p (List.mem_cons_of_mem _ hp)
    by_cases hc : verifyTx cr cfg h x = .ok ∧ x.hash ∉ have_
    · rw [if_pos hc]
      have hx : x.hash ≠ t.hash := hpre x (List.mem_cons_self ..) hc.1
      exact List.mem_cons_of_mem _ (ih (x.hash :: have_) (by simp [hfresh, Ne.symm hx]) hrest)
    · rw [if_neg hc]
      exact ih have_ hfresh hrest

/-- An authentic element whose hash is neither in the pool nor earlier in the batch is admitted,
    whatever else the batch contains (forged neighbours do not push it out). -/
theorem batch_honest_admitted (cr : Crypto) (cfg : ChainCfg) (h : Nat) (have_ : List Bytes)
    (pre post : List Tx) (t : Tx) (hok : verifyTx cr cfg h t = .ok)
    (hfresh : t.hash ∉ have_) (hpre : ∀ p ∈ pre, p.hash ≠ t.hash) :
    t ∈ admitBatch cr cfg h have_ (pre ++ t :: post) :=
  batch_first_verified_admitted cr cfg h have_ pre post t hok hfresh fun p hp _ => hpre p hp

theorem hashesAfter_mono (cr : Crypto) (cfg : ChainCfg) (h : Nat) (have_ : List Bytes) (txs : List Tx) :
    ∀ x ∈ have_, x ∈ hashesAfter cr cfg h have_ txs := by
  induction txs generalizing have_ with
  | nil => intro x hx; exact hx
  | cons t rest ih =>
    intro x hx
    unfold hashesAfter
    split
    · exact ih _ x (List.mem_cons_of_mem _ hx)
    · exact ih _ x hx

/-- Every authentic element of a batch is in the pool afterwards (admitted now, or its hash was
    already there), whatever else the batch contains and wherever it stands. -/
theorem batch_honest_present_after (cr : Crypto) (cfg : ChainCfg) (h : Nat) (have_ : List Bytes) (txs : List Tx)
    (t : Tx) (ht : t ∈ txs) (hok : verifyTx cr cfg h t = .ok) : t.hash ∈ hashesAfter cr cfg h have_ txs := by
  induction txs generalizing have_ with
  | nil => cases ht
  | cons x rest ih =>
    unfold hashesAfter
    rcases List.mem_cons.1 ht with rfl | hr
    · by_cases hc : verifyTx cr cfg h t = .ok ∧ t.hash ∉ have_
      · rw [if_pos hc]
        exact hashesAfter_mono cr cfg h _ rest _ (List.mem_cons_self ..)
      · rw [if_neg hc]
        have : t.hash ∈ have_ := by
          by_cases hm : t.hash ∈ have_
          · exact hm
          · exact absurd ⟨hok, hm⟩ hc
        exact hashesAfter_mono cr cfg h _ rest _ this
    · split
      · exact ih _ hr
      · exact ih _ hr

theorem hashesAfterSeq_mono (cr : Crypto) (cfg : ChainCfg) (h : Nat) (batches : List (List Tx)) :
    ∀ (have_ : List Bytes), ∀ x ∈ have_, x ∈ hashesAfterSeq cr cfg h have_ batches := by
  induction batches with
  | nil => intro _ x hx; exact hx
  | cons b rest ih =>
    intro have_ x hx
    unfold hashesAfterSeq
    rw [List.foldl_cons]
    exact ih _ x (hashesAfter_mono cr cfg h have_ b x hx)

/-- Order and grouping of deliveries do not matter for an honest transaction: in any sequence of
    batches — tampered copies carrying its hash delivered before it, after it, in the same or in
    other batches — an authentic transaction that is delivered at all ends up in the pool. The
    handlers keep no memory of rejected hashes (seeded regression C07-j adds one). -/
theorem sequence_honest_present_after (cr : Crypto) (cfg : ChainCfg) (h : Nat) (batches : List (List Tx))
    (have_ : List Bytes) (b : List Tx) (hb : b ∈ batches) (t : Tx) (ht : t ∈ b)
    (hok : verifyTx cr cfg h t = .ok) : t.hash ∈ hashesAfterSeq cr cfg h have_ batches := by
  induction batches generalizing have_ with
  | nil => cases hb
  | cons x rest ih =>
    unfold hashesAfterSeq
    rw [List.foldl_cons]
    rcases List.mem_cons.1 hb with rfl | hr
    · exact hashesAfterSeq_mono cr cfg h rest _ _ (batch_honest_present_after cr cfg h have_ b t ht hok)
    · exact ih _ hr

/-- a copy carrying the honest transaction's hash delivered first in its own batch: the hash is in the pool afterwards -/
example : hashesAfterSeq toyCrypto toyCfg 0 [] [[{ toyNative with data := [57] }], [toyNative]] = [toyNative.hash] := by
  decide +kernel

/-- a forged element (hash changed) in front of an honest one: only the honest one is admitted -/
example : admitBatch toyCrypto toyCfg 0 [] [{ toyNative with hash := List.replicate 32 9 }, toyNative] = [toyNative] := by
  decide +kernel

end Rangers.Props.C07
