import Rangers.Proofs.Evm10Mem
import Rangers.Props.C10B
/-!
# C10 — what memory contains after each memory-writing opcode

All statements are byte-wise with `List.getD · 0`: reading past the end of call data / code /
a short PUSH yields 0, which is exactly the specification's zero fill.  `m` is the memory
`execute` sees (already resized), `m'` the memory it leaves.
-/
namespace Rangers.Props.C10
open Rangers Rangers.Model.Evm10 Rangers.Model.Evm10.U256 Rangers.Proofs.Evm10

theorem word_bytes_roundtrip (v : Word) : setBytes (toBytes32 v) = v := setBytes_toBytes32 v

/-- MSTORE: bytes `off..off+31` become the big-endian bytes of the value (most significant
first), everything else and the length are unchanged. -/
theorem mstore_spec (m m' : Bytes) (off : Nat) (v : Word) (h : Mem.set32 m off v = some m') :
    m'.length = m.length ∧
    ∀ j, m'.getD j 0 = if off ≤ j ∧ j < off + 32 then (toBytes32 v).getD (j - off) 0 else m.getD j 0 :=
  set32_patch h

/-- byte `i` of the big-endian form is ⌊v / 256^(31−i)⌋ mod 256 -/
theorem toBytes32_byte (v : Word) (i : Nat) (hi : i < 32) :
    ((toBytes32 v).getD i 0).toNat = (v.toNat / 2 ^ (8 * (31 - i))) % 256 := by
  simp only [toBytes32, List.getD_eq_getElem?_getD, List.getElem?_map, List.getElem?_range hi,
    Option.map_some, Option.getD_some, byteAt, Nat.shiftRight_eq_div_pow]
  simp [UInt8.toNat_ofNat']

/-- MSTORE then MLOAD at the same offset returns the stored word. -/
theorem mload_after_mstore (m m' : Bytes) (off : Nat) (v : Word) (h : Mem.set32 m off v = some m') :
    (Mem.getPtr m' off 32).map setBytes = some v := by
  rw [(mstore_then_read m m' off v h).2.1, Option.map_some, setBytes_toBytes32]

example : Mem.set32 (List.replicate 64 0) 1 (0xabcd : Word) ≠ none := by decide

/-- MSTORE8: byte `off` becomes the low 8 bits of the value, nothing else changes. -/
theorem mstore8_spec (m m' : Bytes) (off : Nat) (val : Word)
    (h : Mem.setByte m off (UInt8.ofNat (lo64 val)) = some m') :
    m'.length = m.length ∧ (m'.getD off 0).toNat = val.toNat % 256 ∧
    ∀ j, j ≠ off → m'.getD j 0 = m.getD j 0 := by
  obtain ⟨hl, hg⟩ := setByte_patch h
  refine ⟨hl, ?_, fun j hj => ?_⟩
  · rw [hg off, if_pos ⟨Nat.le_refl _, Nat.lt_succ_self _⟩, UInt8.toNat_ofNat', lo64]
    omega
  · rw [hg j, if_neg (by omega)]

example : Mem.setByte [1, 2, 3] 1 9 = some [1, 9, 3] := by decide

/-- MCOPY (EIP-5656): the destination range receives the bytes the source range held BEFORE the
copy (so overlapping ranges behave like memmove); everything else is unchanged. -/
theorem mcopy_spec (m m' : Bytes) (dst src len : Nat) (h : Mem.copy m dst src len = some m')
    (hd : dst + len ≤ m.length) :
    m'.length = m.length ∧
    ∀ j, m'.getD j 0 = if dst ≤ j ∧ j < dst + len then m.getD (src + (j - dst)) 0 else m.getD j 0 := by
  have := copy_patch h
  rwa [Nat.min_eq_left (by omega)] at this

example : Mem.copy [1, 2, 3, 4, 5] 1 0 3 = some [1, 1, 2, 3, 5] := by decide

/-- CALLDATACOPY / CODECOPY (`Set(memOff, len, getData(src, start, len))`): the range receives
`src[start + i]`, ZERO where that is beyond the end of `src`; the rest is unchanged. -/
theorem copy_in_spec (m m' src : Bytes) (off size start : Nat)
    (h : Mem.set m off size (getData src start size) = some m') :
    m'.length = m.length ∧
    ∀ j, m'.getD j 0 =
      if off ≤ j ∧ j < off + size then src.getD (start + (j - off)) 0 else m.getD j 0 := by
  have hp := set_patch h
  rw [getData_length, Nat.min_self] at hp
  exact hp.congr fun i hi => getData_getD _ _ _ _ hi

example : Mem.set [9, 9, 9, 9, 9] 1 3 (getData [7, 8] 1 3) = some [9, 8, 0, 0, 9] := by decide

/-- RETURNDATACOPY when it succeeds (`end ≤ len(returnData)`): the exact slice, no padding.  The
value written is spelt as `execOp` has it, the Go slice `returnData[offset64:end64]` with
`end64 = offset64 + length`: hence the length `start + size - start`. -/
theorem returndatacopy_spec (m m' rd : Bytes) (off size start : Nat) (hin : start + size ≤ rd.length)
    (h : Mem.set m off size ((rd.drop start).take (start + size - start)) = some m') :
    m'.length = m.length ∧
    ∀ j, m'.getD j 0 =
      if off ≤ j ∧ j < off + size then rd.getD (start + (j - off)) 0 else m.getD j 0 := by
  have hp := set_patch h
  rw [show ((rd.drop start).take (start + size - start)).length = size by simp; omega, Nat.min_self] at hp
  exact hp.congr fun i hi => by rw [getD_take_drop, if_pos (by omega)]

/-- PUSHn: the value pushed is the big-endian number of the n bytes after the opcode, a byte
beyond the end of the code counting as zero (truncated PUSH data is right-padded). -/
theorem push_padding_spec (code : Bytes) (pc n : Nat) :
    pushValue code pc n = setBytes (pushBytes code pc n) ∧
    (pushBytes code pc n).length = n ∧
    ∀ i, i < n → (pushBytes code pc n).getD i 0 = code.getD (pc + 1 + i) 0 :=
  ⟨pushValue_eq code pc n, pushBytes_length code pc n, fun i hi => pushBytes_getD code pc n i hi⟩

example : pushValue [0x61, 0xab] 0 2 = (0xab00 : Word) := by decide

/-- frames reachable from `f0` by interpreter steps that continue (`Proofs.Evm10.StepsTo` of Proofs/Evm10Run is the same
    relation with the number of steps counted; no lemma relates the two) -/
inductive Reachable (H : Bytes → Bytes) (t : Table) (p : GasParams) (f0 : Frame) : Frame → Prop
  | refl : Reachable H t p f0 f0
  | step {f f' : Frame} : Reachable H t p f0 f → step H t p f = .next f' → Reachable H t p f0 f'

theorem step_mem_aligned (H : Bytes → Bytes) (t : Table) (p : GasParams) (f f' : Frame)
    (hs : step H t p f = .next f') :
    f.mem.length ≤ f'.mem.length ∧ (f.mem.length % 32 = 0 → f'.mem.length % 32 = 0) := by
  obtain ⟨info, ms, _, _, _, m, _, _, _, hms, rfl, hl, _⟩ := step_next_frame hs
  have hms32 : ms % 32 = 0 := by
    rcases hms with ⟨_, h0⟩ | ⟨sz, _, hsz⟩
    · rw [h0]
    · exact (safeMul_words hsz).2.2
  show f.mem.length ≤ m.length ∧ (f.mem.length % 32 = 0 → m.length % 32 = 0)
  rw [hl]
  refine ⟨Nat.le_max_left _ _, fun h => ?_⟩
  rw [Nat.max_def]
  split
  · exact hms32
  · exact h

/-- **MSIZE is word-rounded along every run**: every frame reachable from the initial frame has
memory a multiple of 32 bytes (so `MSIZE` pushes a multiple of 32), keeps the code and its
analysis, and therefore satisfies the hypotheses of the jump theorems. -/
theorem run_invariants (H : Bytes → Bytes) (t : Table) (p : GasParams) (code input : Bytes)
    (gas : Nat) (hc : code.length < 2 ^ 64) (f : Frame)
    (hr : Reachable H t p (Frame.init code input gas) f) :
    f.mem.length % 32 = 0 ∧ f.code = code ∧ f.bitmap = Bitvec.codeBitmap code ∧ f.input = input := by
  induction hr with
  | refl => exact ⟨rfl, rfl, rfl, rfl⟩
  | @step f f' _ hs ih =>
    obtain ⟨a, b, c, d⟩ := ih
    obtain ⟨x, y, z⟩ := step_keeps_code H t p f f' hs
    refine ⟨(step_mem_aligned H t p f f' hs).2 a, by rw [x, b], by rw [y, c], by rw [z, d]⟩

example : Reachable (fun _ => []) (Rangers.Generated.Evm10.table 7)
    (Rangers.Generated.Evm10.gasParams true) (Frame.init [0x5b] [] 100) (Frame.init [0x5b] [] 100) :=
  Reachable.refl

end Rangers.Props.C10
