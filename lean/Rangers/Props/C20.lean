import Rangers.Proofs.MinerToy
import Rangers.Proofs.MinerRun3
import Rangers.Proofs.MinerTotals
/-!
# C20 — miner registry and stake accounting agree with the applied miner transactions

Theorems about `Rangers.Miner` (Model/Miner.lean), the model the driver `drv_c20` executes against the
real executors. They hold for every `Cfg` (key hash, JSON codec) — the driver's instance is SHA-256 +
the `GetMinerInfo` JSON. Clauses that are false of the code as it is are stated in full as
`FullStatement…`, refuted by `…_counterexample` (the witnesses are replayed on the implementation by
the searcher, see known-findings.txt) and proved under the restriction that avoids the defect as
`…_partial`.
-/
namespace Rangers.Props.C20
open Rangers Rangers.Miner

/-- States the node can be in: an empty registry with arbitrary balances, then any operations whose account strings are
    no record encodings (`OpOK`). -/
def Reachable (cfg : Cfg) (st : State) : Prop :=
  ∃ h bal ops, (∀ o ∈ ops, OpOK cfg o) ∧ st = run cfg { State.empty h with bal := bal } ops

theorem reachable_run (cfg : Cfg) (h : Nat) (bal : List (Bytes × Nat)) (ops : List Op) (hok : ∀ o ∈ ops, OpOK cfg o) :
    Reachable cfg (run cfg { State.empty h with bal := bal } ops) := ⟨h, bal, ops, hok, rfl⟩

/-- Full strength, every state, every transaction, every codec: a transaction that is not accepted
    either leaves the state untouched (`skip:nofee`) or leaves exactly the fee-charged state —
    including `context["refund"]`, which lives outside the journal. -/
theorem rejected_changes_only_fee (cfg : Cfg) (st : State) (tx : Tx) (h : (runTx cfg st tx).1 ≠ "ok") :
    (runTx cfg st tx).2 = st ∨ processFee st tx.src = some (runTx cfg st tx).2 :=
  runTx_fail cfg st tx h

/-- What "the fee" is: only balances move, `fee` from the payer to the fee account. -/
theorem fee_moves_only_fee (st st1 : State) (src : Bytes) (h : processFee st src = some st1) :
    st1.live = st.live ∧ st1.trie = st.trie ∧ st1.pending = st.pending ∧ st1.escrow = st.escrow ∧
      st1.code = st.code ∧ st1.height = st.height ∧ fee ≤ st.balOf (feePayer src) ∧
      (∀ a, a ≠ feeAccount → st1.balOf a = if a = feePayer src then st.balOf a - fee else st.balOf a) ∧
      st1.balOf feeAccount = (if feeAccount = feePayer src then st.balOf feeAccount - fee else st.balOf feeAccount) + fee := by
  have hl := processFee_live st st1 src h
  refine ⟨hl.1, hl.2.1, hl.2.2.1, hl.2.2.2.1, hl.2.2.2.2.1, hl.2.2.2.2.2, ?_⟩
  obtain ⟨hge, rfl⟩ := processFee_eq h
  refine ⟨hge, fun a ha => ?_, ?_⟩
  · simp only [State.addBal, State.subBal, balOf_setBal, ha, if_false]
    by_cases hp : a = feePayer src
    · rw [if_pos hp, if_pos hp, hp]
    · rw [if_neg hp, if_neg hp]
  · simp only [State.addBal, State.subBal, balOf_setBal, if_true]
    by_cases hp : feeAccount = feePayer src
    · rw [if_pos hp, if_pos hp, hp]
    · rw [if_neg hp, if_neg hp]

example : (runTx toyCfg funded (.refund addr1 [0x11] 5)).1 = "fail:nominer" := by decide +kernel
example : (runTx toyCfg funded (.add [] [0x11] 5)).1 = "skip:nofee" := by decide +kernel

/-- iterator ⇒ by-id: a record the registry iterator yields is what `GetMinerById` returns for its id. -/
theorem lookup_agree_partial_iter_id (cfg : Cfg) (st : State) (d : DbId) (m : Miner)
    (hf : Flushed st) (hr : RecKeyed cfg st) (hm : m ∈ iter cfg st d) :
    getMinerById cfg st d m.id = some m :=
  iter_to_id cfg st d m hf hr hm

/-- by-id ⇒ iterator. -/
theorem lookup_agree_partial_id_iter (cfg : Cfg) (st : State) (d : DbId) (id : Bytes) (m : Miner)
    (hf : Flushed st) (hr : RecKeyed cfg st) (hm : getMinerById cfg st d id = some m) :
    m ∈ iter cfg st d ∧ m.id = id :=
  ⟨id_to_iter cfg st d id m hf hr hm, (getMinerById_id hr hm).1⟩

/-- by-account ⇒ by-id: the id `GetMinerIdByAccount` returns names a record carrying that account. -/
theorem lookup_agree_partial_account_id (cfg : Cfg) (st : State) (a id : Bytes)
    (hf : Flushed st) (hr : RecKeyed cfg st) (h : byAccount cfg st a = some id) :
    ∃ d m, (d = .val ∨ d = .prop) ∧ getMinerById cfg st d id = some m ∧ m.account = a := by
  obtain ⟨m, hmem, hacc, hid⟩ := byAccount_some cfg st a id h
  rcases hmem with hmem | hmem
  · exact ⟨.val, m, Or.inl rfl, hid ▸ iter_to_id cfg st .val m hf hr hmem, hacc⟩
  · exact ⟨.prop, m, Or.inr rfl, hid ▸ iter_to_id cfg st .prop m hf hr hmem, hacc⟩

/-- by-id ⇒ by-account: the account of a registered miner is found by `GetMinerIdByAccount`. -/
theorem lookup_agree_partial_id_account (cfg : Cfg) (st : State) (d : DbId) (id : Bytes) (m : Miner)
    (hd : d = .val ∨ d = .prop) (hf : Flushed st) (hr : RecKeyed cfg st) (hm : getMinerById cfg st d id = some m) :
    (byAccount cfg st m.account).isSome := by
  have := id_to_iter cfg st d id m hf hr hm
  apply byAccount_isSome
  rcases hd with rfl | rfl
  · exact Or.inl this
  · exact Or.inr this

/-- The hypotheses of the four theorems above hold in every reachable state right after a block end
    (codec assumptions: decode∘encode keeps the id; stake/status bytes and the accounts used are not
    record encodings). -/
theorem lookup_hypotheses_reachable (cfg : Cfg) (st : State) (n : Nat) (hc : CodecId cfg) (hraw : RawOK cfg)
    (hs : Reachable cfg st) : Flushed (endBlock st n) ∧ RecKeyed cfg (endBlock st n) := by
  obtain ⟨h, bal, ops, hok, rfl⟩ := hs
  refine ⟨endBlock_flushed _ _, recKeyed_endBlock cfg _ n ?_⟩
  exact recKeyed_run cfg _ ops hc hraw hok (recKeyed_empty cfg _ (fun _ => rfl))

def tApply11 : Tx := .apply addr1 [0x11] 0 400 [] [1] [1]
def tApply22 : Tx := .apply addr1 [0x22] 0 400 [] [1] [1]

example : (getMinerById toyCfg (run toyCfg funded [.tx tApply11, .endBlock 101]) .val [0x11]).isSome = true := by decide +kernel
example : Reachable toyCfg (run toyCfg funded [.tx tApply11]) :=
  reachable_run toyCfg 100 _ _ (by decide +kernel)

/-- The clause as stated: in *every* reachable state the by-id and iterator views coincide. -/
def FullStatementLookup : Prop :=
  ∀ cfg st, CodecId cfg → RawOK cfg → Reachable cfg st →
    ∀ d id m, getMinerById cfg st d id = some m → m ∈ iter cfg st d

/-- False of the code: inside a block the iterator (storage trie) does not see the block's own writes. -/
theorem lookup_agree_counterexample : ¬ FullStatementLookup := by
  intro h
  have hr : Reachable toyCfg (run toyCfg funded [.tx tApply11]) := reachable_run toyCfg 100 _ _ (by decide +kernel)
  have e : (getMinerById toyCfg (run toyCfg funded [.tx tApply11]) .val [0x11]).isSome = true ∧
      iter toyCfg (run toyCfg funded [.tx tApply11]) .val = [] := by decide +kernel
  obtain ⟨m, hm⟩ := Option.isSome_iff_exists.mp e.1
  have := h toyCfg _ toy_codecId toy_rawOK hr .val [0x11] m hm
  rw [e.2] at this
  cases this

/-- An account controls at most one miner: the clause as stated, over every reachable state. -/
def FullStatementOnePerAccount : Prop :=
  ∀ cfg st, CodecId cfg → RawOK cfg → Reachable cfg st →
    ∀ d1 d2 id1 id2 m1 m2, getMinerById cfg st d1 id1 = some m1 → getMinerById cfg st d2 id2 = some m2 →
      m1.account = m2.account → id1 = id2

/-- False of the code: two applications with the same account in ONE block both succeed, because the
    uniqueness check iterates the storage trie, which has not yet received the first one. The two miners
    stay registered after the block end. -/
theorem one_miner_per_account_counterexample : ¬ FullStatementOnePerAccount := by
  intro h
  let ops : List Op := [.tx tApply11, .tx tApply22, .endBlock 101]
  have hr : Reachable toyCfg (run toyCfg funded ops) := reachable_run toyCfg 100 _ _ (by decide +kernel)
  have e : (getMinerById toyCfg (run toyCfg funded ops) .val [0x11]).map (·.account) = some addr1 ∧
      (getMinerById toyCfg (run toyCfg funded ops) .val [0x22]).map (·.account) = some addr1 := by decide +kernel
  obtain ⟨m1, hm1, ha1⟩ := Option.map_eq_some_iff.mp e.1
  obtain ⟨m2, hm2, ha2⟩ := Option.map_eq_some_iff.mp e.2
  have := h toyCfg _ toy_codecId toy_rawOK hr .val .val [0x11] [0x22] m1 m2 hm1 hm2 (ha1.trans ha2.symm)
  exact absurd this (by decide)

/-- What does hold: against a *committed* registry (block boundary) the check is effective — an
    application whose (effective) account already controls a registered miner is never accepted. -/
theorem one_miner_per_account_partial_apply (cfg : Cfg) (st : State) (d : DbId) (id0 : Bytes) (m : Miner)
    (hd : d = .val ∨ d = .prop) (hf : Flushed st) (hr : RecKeyed cfg st) (hm : getMinerById cfg st d id0 = some m)
    (src id : Bytes) (typ stake : Nat) (acct pk vrf : Bytes)
    (hacc : (if isEmptySlice acct then src else acct) = m.account) :
    (runTx cfg st (.apply src id typ stake acct pk vrf)).1 ≠ "ok" := by
  intro hok
  have hfound := lookup_agree_partial_id_account cfg st d id0 m hd hf hr hm
  rw [← hacc, (runTx_apply_moved cfg st src id typ stake acct pk vrf hok).2.1] at hfound
  cases hfound

/-- Likewise for a change of account to an occupied account. -/
theorem one_miner_per_account_partial_chacc (cfg : Cfg) (st : State) (d : DbId) (id0 : Bytes) (m : Miner)
    (hd : d = .val ∨ d = .prop) (hf : Flushed st) (hr : RecKeyed cfg st) (hm : getMinerById cfg st d id0 = some m)
    (src id : Bytes) : (runTx cfg st (.chacc src id m.account)).1 ≠ "ok" := by
  intro hok
  have hfound := lookup_agree_partial_id_account cfg st d id0 m hd hf hr hm
  obtain ⟨_, _, _, hno, _⟩ := runTx_chacc_moved cfg st src id m.account hr hok
  rw [hno] at hfound
  cases hfound

example : (runTx toyCfg (run toyCfg funded [.tx tApply11, .endBlock 101]) tApply22).1 = "fail:acctexists" := by decide +kernel

/-! ## record stake = applied + added − refunded

`stakeAt cfg st d id` is the stake the registry of type `d` records for `id` (what `GetMiner`,
the iterator and the totals all read). Each accepted transaction moves the stake of its target by
exactly its amount and leaves every other miner's stake alone — provided the key families of the
ids involved do not collide (`Untouched`; SHA-256 gives this except for ids crafted as
`Sha256^k(other id)`, see `stake_accounting_counterexample`). -/

theorem stake_accounting_apply (cfg : Cfg) (st : State) (src id : Bytes) (typ stake : Nat) (acct pk vrf : Bytes)
    (hok : (runTx cfg st (.apply src id typ stake acct pk vrf)).1 = "ok") (hu : Untouched cfg id id) :
    stakeAt cfg (runTx cfg st (.apply src id typ stake acct pk vrf)).2 (dbOfType typ) id = stake := by
  exact (runTx_apply_moved cfg st src id typ stake acct pk vrf hok).2.2.stake hu

theorem stake_accounting_add (cfg : Cfg) (st : State) (src id : Bytes) (delta : Nat) (hr : RecKeyed cfg st) (hd : delta ≠ 0)
    (hok : (runTx cfg st (.add src id delta)).1 = "ok") (hu : Untouched cfg id id) :
    ∃ m, getMiner cfg st id = some m ∧
      stakeAt cfg (runTx cfg st (.add src id delta)).2 (dbOfType m.typ) id
        = (stakeAt cfg st (dbOfType m.typ) id + delta) % 2 ^ 64 := by
  obtain ⟨m, hm, hst, hmv⟩ := runTx_add_moved cfg st src id delta hr hd hok
  exact ⟨m, hm, (hmv.stake hu).trans (by rw [hst])⟩

theorem stake_accounting_refund (cfg : Cfg) (st : State) (src id : Bytes) (amount : Nat) (hr : RecKeyed cfg st)
    (hok : (runTx cfg st (.refund src id amount)).1 = "ok") (hu : Untouched cfg id id) :
    ∃ m, getMiner cfg st id = some m ∧ m.account = src ∧ m.stake = stakeAt cfg st (dbOfType m.typ) id ∧
      refundMoney m amount ≤ m.stake ∧
      stakeAt cfg (runTx cfg st (.refund src id amount)).2 (dbOfType m.typ) id
        = stakeAt cfg st (dbOfType m.typ) id - refundMoney m amount := by
  obtain ⟨m, hm, hacc, hst, hle, hmv⟩ := runTx_refund_moved cfg st src id amount hr hok
  exact ⟨m, hm, hacc, hst, hle, (hmv.stake hu).trans (by rw [hst])⟩

/-- The id a transaction works on: `txTarget` of `Proofs/MinerView`, case by case. -/
def target : Tx → Bytes
  | .apply _ id .. => id
  | .add _ id _ => id
  | .refund _ id _ => id
  | .chacc _ id _ => id
  | .bad .. => []

/-- Frame: whatever the transaction and its outcome, the stake of every *other* miner (in any
    registry) is unchanged, as long as its stake slot is not one of the target's keys. -/
theorem stake_accounting_frame (cfg : Cfg) (st : State) (tx : Tx) (hr : RecKeyed cfg st) (d : DbId) (j : Bytes)
    (hu : Untouched cfg (target tx) j) (hne : cfg.H j ≠ cfg.H (target tx)) :
    stakeAt cfg (runTx cfg st tx).2 d j = stakeAt cfg st d j := by
  have ht : target tx = txTarget tx := by cases tx <;> rfl
  rw [ht] at hu hne
  exact stakeAt_frame cfg st _ _ d _ j (runTx_onlyKeys cfg st tx hr) (.inr ((stake_notin_keysOf cfg _ j).mpr ⟨hu, hne⟩))

def tApplyVictim : Tx := .apply addr1 [0x11] 0 400 [] [1] [1]
/-- id = H(victim id): with `toyCfg` the "hash" prepends 0xff. -/
def tApplyCrafted : Tx := .apply addr2 [0xff, 0x11] 0 400 [] [1] [1]

example : Untouched toyCfg [0x11] [0x11] ∧ Untouched toyCfg [0x11] [0x22] ∧ toyCfg.H [0x22] ≠ toyCfg.H [0x11] := by
  simp [Untouched, toyCfg]
example : stakeAt toyCfg (run toyCfg funded [.tx tApplyVictim, .tx (.add addr2 [0x11] 7)]) .val [0x11] = 407 := by decide +kernel

/-- The frame clause without the key-separation hypothesis. -/
def FullStatementStakeFrame : Prop :=
  ∀ cfg st tx d j, CodecId cfg → RawOK cfg → Reachable cfg st → j ≠ target tx →
    stakeAt cfg (runTx cfg st tx).2 d j = stakeAt cfg st d j

/-- False of the code: ids are free-form and the four key families share one key space, so applying a
    miner whose id is `H(victim id)` writes the new record into the victim's stake slot. (Replayed on
    the implementation with `H = Sha256`: the victim's stake reads 8872761351423686984.) -/
theorem stake_accounting_counterexample : ¬ FullStatementStakeFrame := by
  intro h
  have hr : Reachable toyCfg (run toyCfg funded [.tx tApplyVictim, .endBlock 101]) :=
    reachable_run toyCfg 100 _ _ (by decide +kernel)
  have := h toyCfg _ tApplyCrafted .val [0x11] toy_codecId toy_rawOK hr (by decide +kernel)
  exact absurd this (by decide +kernel)

/-! ## locked + scheduled + liquid tokens are constant

`balSum st A` is the liquid balance of the (duplicate-free) address list `A`, `wei * stakeAt …` the
tokens locked for the transaction's target, `pendingSum st.pending` the refunds recorded in the
block's context (moved to the per-height escrow account at the block end), `st.escrow` the escrow.
Each accepted miner transaction keeps their sum — under the bounds the proof forces:
stake/delta < 2^53 (the debit goes through `float64`), no `uint64` wrap, a fresh stake slot on
application, and for refunds that the block's refund list for that height is either new or already
contains the account (`lock_conservation_counterexample` shows what happens otherwise). -/

theorem lock_conservation_partial_apply (cfg : Cfg) (st : State) (src id : Bytes) (typ stake : Nat) (acct pk vrf : Bytes)
    (A : List Bytes) (hn : A.Nodup) (hp : feePayer src ∈ A) (hf : feeAccount ∈ A) (hs : toAddr src ∈ A)
    (hok : (runTx cfg st (.apply src id typ stake acct pk vrf)).1 = "ok") (hu : Untouched cfg id id)
    (hb : stake < 2 ^ 53) (hfresh : stakeAt cfg st (dbOfType typ) id = 0) :
    balSum (runTx cfg st (.apply src id typ stake acct pk vrf)).2 A
        + wei * stakeAt cfg (runTx cfg st (.apply src id typ stake acct pk vrf)).2 (dbOfType typ) id
        + pendingSum (runTx cfg st (.apply src id typ stake acct pk vrf)).2.pending
      = balSum st A + wei * stakeAt cfg st (dbOfType typ) id + pendingSum st.pending
    ∧ (runTx cfg st (.apply src id typ stake acct pk vrf)).2.escrow = st.escrow := by
  have hmv := (runTx_apply_moved cfg st src id typ stake acct pk vrf hok).2.2
  have hps : ∀ a ∈ [feePayer src, feeAccount, toAddr src], a ∈ A :=
    List.forall_mem_cons.2 ⟨hp, List.forall_mem_cons.2 ⟨hf, List.forall_mem_singleton.2 hs⟩⟩
  refine ⟨hmv.conserves hu (μ := (balSum · A)) (tally_balSum hn) hps ?_, hmv.escrow⟩
  rw [hfresh]
  exact apply_books hb

theorem lock_conservation_partial_add (cfg : Cfg) (st : State) (src id : Bytes) (delta : Nat)
    (A : List Bytes) (hn : A.Nodup) (hp : feePayer src ∈ A) (hf : feeAccount ∈ A) (hs : toAddr src ∈ A)
    (hr : RecKeyed cfg st) (hd : delta ≠ 0) (hok : (runTx cfg st (.add src id delta)).1 = "ok") (hu : Untouched cfg id id)
    (hb : delta < 2 ^ 53) :
    ∃ m, getMiner cfg st id = some m ∧ (stakeAt cfg st (dbOfType m.typ) id + delta < 2 ^ 64 →
      balSum (runTx cfg st (.add src id delta)).2 A + wei * stakeAt cfg (runTx cfg st (.add src id delta)).2 (dbOfType m.typ) id
          + pendingSum (runTx cfg st (.add src id delta)).2.pending
        = balSum st A + wei * stakeAt cfg st (dbOfType m.typ) id + pendingSum st.pending
      ∧ (runTx cfg st (.add src id delta)).2.escrow = st.escrow) := by
  obtain ⟨m, hm, hst, hmv⟩ := runTx_add_moved cfg st src id delta hr hd hok
  have hps : ∀ a ∈ [feePayer src, feeAccount, toAddr src], a ∈ A :=
    List.forall_mem_cons.2 ⟨hp, List.forall_mem_cons.2 ⟨hf, List.forall_mem_singleton.2 hs⟩⟩
  refine ⟨m, hm, fun hnw => ⟨hmv.conserves hu (μ := (balSum · A)) (tally_balSum hn) hps ?_, hmv.escrow⟩⟩
  rw [hst]
  exact add_books hb hnw

theorem lock_conservation_partial_refund (cfg : Cfg) (st : State) (src id : Bytes) (amount : Nat)
    (A : List Bytes) (hn : A.Nodup) (hp : feePayer src ∈ A) (hf : feeAccount ∈ A)
    (hr : RecKeyed cfg st) (hok : (runTx cfg st (.refund src id amount)).1 = "ok") (hu : Untouched cfg id id)
    (hpn : (st.pending.map Prod.fst).Nodup)
    (hclash : ∀ l, st.pending.lookup (st.height + refundDelay) = some l → l.any (fun e => e.1 = src) = true) :
    ∃ m, getMiner cfg st id = some m ∧
      balSum (runTx cfg st (.refund src id amount)).2 A + wei * stakeAt cfg (runTx cfg st (.refund src id amount)).2 (dbOfType m.typ) id
          + pendingSum (runTx cfg st (.refund src id amount)).2.pending
        = balSum st A + wei * stakeAt cfg st (dbOfType m.typ) id + pendingSum st.pending
      ∧ (runTx cfg st (.refund src id amount)).2.escrow = st.escrow := by
  obtain ⟨m, hm, _, hst, hle, hmv⟩ := runTx_refund_moved cfg st src id amount hr hok
  have hps : ∀ a ∈ [feePayer src, feeAccount], a ∈ A := List.forall_mem_cons.2 ⟨hp, List.forall_mem_singleton.2 hf⟩
  refine ⟨m, hm, hmv.conserves hu (μ := (balSum · A)) (tally_balSum hn) hps ?_, hmv.escrow⟩
  rw [(pendingAdd_noClash _ _ _ _ hpn hclash).2.1, ← hst]
  exact refund_books hle

def tApplyA : Tx := .apply addr1 [0x11] 0 800 [] [1] [1]
def tApplyB : Tx := .apply addr2 [0x22] 0 800 [] [1] [1]
def opsTwoRefunds : List Op := [.tx tApplyA, .tx tApplyB, .endBlock 101, .tx (.refund addr1 [0x11] 100)]

example : (runTx toyCfg (run toyCfg funded [.tx tApplyA, .tx tApplyB, .endBlock 101]) (.refund addr1 [0x11] 100)).1 = "ok"
    ∧ (run toyCfg funded [.tx tApplyA, .tx tApplyB, .endBlock 101]).pending = [] := by decide +kernel

/-- The refund clause with no condition on the block's refund list. -/
def FullStatementRefundConserves : Prop :=
  ∀ cfg st src id amount d, CodecId cfg → RawOK cfg → Reachable cfg st → Untouched cfg id id →
    (runTx cfg st (.refund src id amount)).1 = "ok" →
    wei * stakeAt cfg (runTx cfg st (.refund src id amount)).2 d id + pendingSum (runTx cfg st (.refund src id amount)).2.pending
      = wei * stakeAt cfg st d id + pendingSum st.pending

/-- False of the code: the second *account* refunding in one block (same release height) has its stake
    reduced but nothing recorded — `minerRefundExecutor` appends to a copy of the per-height list. -/
theorem lock_conservation_counterexample : ¬ FullStatementRefundConserves := by
  intro h
  have hr : Reachable toyCfg (run toyCfg funded opsTwoRefunds) := reachable_run toyCfg 100 _ _ (by decide +kernel)
  -- acceptance is left as a premise: premise and conclusion speak of the same history, one evaluation refutes the implication
  have := h toyCfg _ addr2 [0x22] 100 .val toy_codecId toy_rawOK hr (by simp [Untouched, toyCfg])
  exact absurd this (by decide +kernel)

/-- Full strength: the total `GetProposerTotalStakeWithDetail` returns is the (`uint64`) sum of the stakes
    of the proposer records the iterator yields that are normal and already applied at height `h`. -/
theorem totals_agree_total (cfg : Cfg) (st : State) (h : Nat) :
    (proposerTotals cfg st h).1 = (((iter cfg st .prop).filter (active h)).map (·.stake)).sum % 2 ^ 64 := by
  rw [proposerTotals, totalsFold_eq, foldl_fst_total _ (·.stake) (2 ^ 64) (by decide) totalsStep (fun _ _ _ => rfl) _ (by decide),
    Nat.zero_add]

/-- The proposer count (`GetProposerTotalStake` = size of the detail map) is the number of those
    records — in a committed, well-keyed registry (where the iterator yields each id once). -/
theorem totals_agree_count (cfg : Cfg) (st : State) (h : Nat) (hf : Flushed st) (hr : RecKeyed cfg st) :
    proposerCount cfg st h = ((iter cfg st .prop).filter (active h)).length := by
  rw [proposerCount, proposerTotals, totalsFold_eq, totalsStep_snd_length _ _
    ((iter_ids_nodup cfg st .prop hf hr).sublist (List.Sublist.map _ List.filter_sublist)) (fun _ _ => List.not_mem_nil)]
  exact Nat.zero_add _

def tApplyP : Tx := .apply addr1 [0x11] 1 2000 [] [1] [1]
example : proposerTotals toyCfg (run toyCfg funded [.tx tApplyP, .endBlock 101]) 101 = (2000, [([0x11], 2000)]) := by decide +kernel

end Rangers.Props.C20
