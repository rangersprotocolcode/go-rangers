import Rangers.Model.Ledger
import Rangers.Generated.LedgerFacts
/-!
# C06 — tie of the ledger model to the source by generated facts (T-gen)

`Generated/LedgerFacts.lean` is rewritten from /repo's working tree on every run by `gen/cmd/c06facts`.
The tables below are maintained by hand next to the model. A new call of a ledger primitive anywhere in `src/`,
a call whose result starts or stops being used, a re-ordered / added / removed ledger-relevant call inside a
function the model transcribes, or a changed constant makes one of these theorems fail to check.
-/
namespace Rangers.Props.C06Sites
open Rangers.Ledger Rangers.Generated

/-- every call site of a ledger primitive, with the model function that transcribes it -/
def expectedSites : List (String × String × String × Bool × String) := [
  ("src/core/genesis_block.go", "genGenesisBlock", "SetBalance", false, "genesis allocation (initial state, not a transaction)"),
  ("src/core/genesis_block.go", "genGenesisBlock", "SetBalance", false, "genesis allocation (initial state, not a transaction)"),
  ("src/core/genesis_block_dev.go", "addDevTestAsset", "SetBalance", false, "genesis allocation (initial state, not a transaction)"),
  ("src/core/genesis_block_dev.go", "addDevTestAsset", "SetBalance", false, "genesis allocation (initial state, not a transaction)"),
  ("src/core/genesis_block_dev.go", "addDevTestAsset", "SetBalance", false, "genesis allocation (initial state, not a transaction)"),
  ("src/core/genesis_block_dev.go", "addDevTestAsset", "SetBalance", false, "genesis allocation (initial state, not a transaction)"),
  ("src/core/genesis_block_dev.go", "genDevGenesisBlock", "SetBalance", false, "genesis allocation (initial state, not a transaction)"),
  ("src/core/genesis_block_dev.go", "genDevGenesisBlock", "SetBalance", false, "genesis allocation (initial state, not a transaction)"),
  ("src/core/genesis_block_robin.go", "addRobinTestAsset", "SetBalance", false, "genesis allocation (initial state, not a transaction)"),
  ("src/core/genesis_block_robin.go", "addRobinTestAsset", "SetBalance", false, "genesis allocation (initial state, not a transaction)"),
  ("src/core/genesis_block_robin.go", "addRobinTestAsset", "SetBalance", false, "genesis allocation (initial state, not a transaction)"),
  ("src/core/genesis_block_robin.go", "genRobinGenesisBlock", "SetBalance", false, "genesis allocation (initial state, not a transaction)"),
  ("src/core/genesis_block_robin.go", "genRobinGenesisBlock", "SetBalance", false, "genesis allocation (initial state, not a transaction)"),
  ("src/core/genesis_sub.go", "genSubGenesisBlock", "SetBalance", false, "genesis allocation (initial state, not a transaction)"),
  ("src/core/genesis_sub.go", "genSubGenesisBlock", "SetBalance", false, "genesis allocation (initial state, not a transaction)"),
  ("src/core/genesis_sub.go", "genSubGenesisBlock", "SetBalance", false, "genesis allocation (initial state, not a transaction)"),
  ("src/core/genesis_sub.go", "genSubGenesisBlock", "SetBalance", false, "genesis allocation (initial state, not a transaction)"),
  ("src/core/genesis_sub.go", "genSubGenesisBlock", "SetBalance", false, "genesis allocation (initial state, not a transaction)"),
  ("src/core/genesis_sub.go", "genSubGenesisBlock", "SetBalance", false, "genesis allocation (initial state, not a transaction)"),
  ("src/core/vmexecutor.go", "deductGasFee", "AddBalance", false, "deductGasFee (= chargeGas)"),
  ("src/core/vmexecutor.go", "deductGasFee", "SubBalance", false, "deductGasFee (= chargeGas)"),
  ("src/core/vmexecutor_sub.go", "transfer", "AddBalance", false, "NOT MODELLED: sub-chain reward transfer (IsSub() only)"),
  ("src/core/vmexecutor_sub.go", "transfer", "SubBalance", false, "NOT MODELLED: sub-chain reward transfer (IsSub() only)"),
  ("src/eth_rpc/api.go", "StateOverride.Apply", "SetBalance", false, "not a transaction path (eth_call state override on a throw-away state)"),
  ("src/executor/contract_executor.go", "contractExecutor.Execute", "AddBalance", false, "contractExecute (chargeGas step)"),
  ("src/executor/contract_executor.go", "contractExecutor.Execute", "SubBalance", false, "contractExecute (chargeGas step)"),
  ("src/executor/miner_node_executor.go", "minerNodeExecutor.Execute", "SubBalance", false, "nodeTx (debits 10 RPG and credits nobody: known finding burn-operator-node-fee)"),
  ("src/service/game.go", "transferBalance", "AddBalance", false, "transferBalance"),
  ("src/service/game.go", "transferBalance", "SubBalance", true, "transferBalance"),
  ("src/service/miner_manager.go", "MinerManager.AddMiner", "SubBalance", false, "minerApply / minerAdd / opStake"),
  ("src/service/miner_manager.go", "MinerManager.AddStake", "SubBalance", false, "minerApply / minerAdd / opStake"),
  ("src/service/refund_manager.go", "RefundManager.CheckAndMove", "AddBalance", false, "refundMove"),
  ("src/service/transaction_pool.go", "TxPool.ProcessFee", "AddBalance", false, "processFee"),
  ("src/service/transaction_pool.go", "TxPool.ProcessFee", "SubBalance", false, "processFee"),
  ("src/storage/account/account_object_ft.go", "accountObject.AddFT", "SetFT", true, "account-object FT branch: unreachable for SYSTEM-RPG (GetERC20Binding always found)"),
  ("src/storage/account/account_object_ft.go", "accountObject.AddFT", "SetFT", true, "account-object FT branch: unreachable for SYSTEM-RPG (GetERC20Binding always found)"),
  ("src/storage/account/account_object_ft.go", "accountObject.SubFT", "SetFT", false, "account-object FT branch: unreachable for SYSTEM-RPG (GetERC20Binding always found)"),
  ("src/storage/account/accountdb.go", "AccountDB.AddBalance", "AddFT", false, "addBal"),
  ("src/storage/account/accountdb.go", "AccountDB.SetBalance", "SetFT", false, "put (driver op set)"),
  ("src/storage/account/accountdb.go", "AccountDB.SubBalance", "SubFT", true, "subBal"),
  ("src/storage/account/accountdb.go", "AccountDB.Transfer", "AddBalance", false, "not on any transaction path (no caller in src/); has its own sign test"),
  ("src/storage/account/accountdb.go", "AccountDB.Transfer", "SubBalance", false, "not on any transaction path (no caller in src/); has its own sign test"),
  ("src/storage/account/accountdb_tuntun.go", "AccountDB.AddFT", "AddFT", true, "addBal (ERC-20 branch; this call is the unreachable non-bound branch)"),
  ("src/storage/account/accountdb_tuntun.go", "AccountDB.SetFT", "SetFT", false, "put (ERC-20 branch; unreachable non-bound branch)"),
  ("src/storage/account/accountdb_tuntun.go", "AccountDB.SubFT", "SubFT", true, "subBal (ERC-20 branch; this call is the unreachable non-bound branch)"),
  ("src/vm/evm.go", "EVM.AuthCall", "Transfer", false, "exec (.authcall)"),
  ("src/vm/evm.go", "EVM.Call", "Transfer", false, "exec (.call) / evmCallTop"),
  ("src/vm/evm.go", "EVM.StaticCall", "AddBalance", false, "exec (.staticcall)"),
  ("src/vm/evm.go", "EVM.create", "Transfer", false, "exec (.create) / evmCreateTop"),
  ("src/vm/init.go", "Transfer", "AddBalance", false, "vmTransfer"),
  ("src/vm/init.go", "Transfer", "SubBalance", false, "vmTransfer"),
  ("src/vm/instructions.go", "opSuicide", "AddBalance", false, "suicide")
]

/-- the functions the model transcribes: ledger-relevant calls and every `return`, in source order
    (e.g. `AccountDB.Suicide` has no return between its nil test and zeroing the balance) -/
def expectedOrder : List (String × List String) := [
  ("src/core/vmexecutor.go:VMExecutor.Execute", ["BeforeExecute", "Snapshot", "Execute", "RevertToSnapshot", "deductGasFee", "return"]),
  ("src/core/vmexecutor.go:VMExecutor.after", ["return", "Add", "CalculateReward", "Add", "CheckAndMove", "CheckAndMove"]),
  ("src/core/vmexecutor.go:deductGasFee", ["return", "GetBalance", "Cmp", "SubBalance", "AddBalance"]),
  ("src/executor/base_executor.go:baseFeeExecutor.BeforeExecute", ["validateNonce", "return", "ProcessFee", "return", "return"]),
  ("src/executor/contract_executor.go:contractExecutor.BeforeExecute", ["validateNonce", "return", "ProcessFee", "return", "decodeContractData", "return", "preCheckContractFee", "return", "return"]),
  ("src/executor/contract_executor.go:contractExecutor.Execute", ["return", "IntrinsicGas", "return", "return", "Create", "Call", "GetBalance", "Cmp", "SubBalance", "AddBalance", "return", "return"]),
  ("src/executor/contract_executor.go:preCheckContractFee", ["GetBalance", "Cmp", "Add", "return", "return"]),
  ("src/executor/jsonrpc_executor.go:jsonrpcExecutor.BeforeExecute", ["validateNonce", "return", "ProcessFee", "return", "decodeContractData", "return", "preCheckContractFee", "return", "return"]),
  ("src/executor/miner_executor.go:minerAddExecutor.Execute", ["return", "return", "return", "AddStake"]),
  ("src/executor/miner_executor.go:minerApplyExecutor.Execute", ["return", "return", "return", "AddMiner", "return"]),
  ("src/executor/miner_executor.go:minerRefundExecutor.Execute", ["return", "return", "ParseUint", "return", "GetRefundStake", "return", "AddRefundInfo", "AddRefundInfo", "return"]),
  ("src/executor/miner_node_executor.go:minerNodeExecutor.Execute", ["GetBalance", "Cmp", "return", "SubBalance", "GetMinerIdByAccount", "return", "GetMiner", "return", "return", "UpdateMiner", "return"]),
  ("src/service/game.go:ChangeAssets", ["transferBalance", "return", "GetBalance", "return"]),
  ("src/service/game.go:transferBalance", ["StrToBigInt", "return", "Sign", "return", "GetBalance", "Cmp", "return", "AddBalance", "SubBalance", "return"]),
  ("src/service/miner_manager.go:MinerManager.AddMiner", ["return", "return", "return", "GetBalance", "Cmp", "return", "GetMiner", "return", "GetMinerIdByAccount", "return", "SubBalance", "UpdateMiner", "return"]),
  ("src/service/miner_manager.go:MinerManager.AddStake", ["return", "GetBalance", "Cmp", "return", "GetMinerById", "GetMinerById", "return", "return", "SubBalance", "UpdateMiner", "return"]),
  ("src/service/miner_manager.go:MinerManager.RemoveMiner", ["IsContract", "SetData", "SetData", "SetData", "SetData", "return", "SetData", "SetData"]),
  ("src/service/refund_manager.go:RefundManager.CheckAndMove", ["return", "return", "AddBalance"]),
  ("src/service/refund_manager.go:RefundManager.GetRefundStake", ["GetMiner", "return", "return", "return", "RemoveMiner", "UpdateMiner", "return"]),
  ("src/service/transaction_pool.go:TxPool.ProcessFee", ["GetBalance", "Cmp", "return", "SubBalance", "AddBalance", "return"]),
  ("src/storage/account/accountdb.go:AccountDB.Suicide", ["return", "GetBalance", "setBalance", "return"]),
  ("src/storage/account/accountdb_tuntun.go:AccountDB.AddFT", ["return", "Add", "SetData", "setData", "return", "return", "AddFT"]),
  ("src/storage/account/accountdb_tuntun.go:AccountDB.SubFT", ["return", "Cmp", "return", "SetData", "setData", "return", "return", "SubFT"]),
  ("src/vm/evm.go:EVM.AuthCall", ["return", "Sign", "CanTransfer", "return", "Snapshot", "Sign", "return", "Transfer", "RevertToSnapshot", "return"]),
  ("src/vm/evm.go:EVM.Call", ["return", "Sign", "CanTransfer", "return", "Snapshot", "Sign", "return", "Transfer", "RevertToSnapshot", "return"]),
  ("src/vm/evm.go:EVM.CallCode", ["return", "CanTransfer", "return", "Snapshot", "RevertToSnapshot", "return"]),
  ("src/vm/evm.go:EVM.DelegateCall", ["return", "Snapshot", "RevertToSnapshot", "return"]),
  ("src/vm/evm.go:EVM.StaticCall", ["return", "Snapshot", "AddBalance", "RevertToSnapshot", "return"]),
  ("src/vm/evm.go:EVM.create", ["return", "return", "CanTransfer", "return", "return", "Snapshot", "Transfer", "RevertToSnapshot", "return"]),
  ("src/vm/init.go:CanTransfer", ["Sign", "return", "return", "Cmp", "GetBalance"]),
  ("src/vm/init.go:Transfer", ["SubBalance", "AddBalance"]),
  ("src/vm/instructions.go:opStake", ["ParseUint", "GetMinerIdByAccount", "AddStake", "return"]),
  ("src/vm/instructions.go:opSuicide", ["GetBalance", "AddBalance", "Suicide", "return"]),
  ("src/vm/instructions.go:opUnStake", ["GetMinerIdByAccount", "ParseUint", "GetRefundStake", "Cmp", "AddRefundInfo", "AddRefundInfo", "Add", "return"]),
  ("src/vm/instructions.go:opUnStakeAll", ["GetMinerIdByAccount", "return", "GetRefundStake", "return", "AddRefundInfo", "Add", "return"])
]

/-- the flag inventory: which fork tests each transcribed function makes (sorted multiset: a new or removed
    `IsProposalNNN()` on a ledger path breaks `flags_as_modelled`; moving one among independent statements does not) -/
def expectedFlagReads : List (String × List String) := [
  ("src/core/vmexecutor.go:VMExecutor.Execute", ["IsProposal006", "IsProposal006", "IsProposal007", "IsProposal007", "IsProposal013", "IsProposal013", "IsProposal015", "IsProposal018", "IsProposal018", "IsProposal027"]),
  ("src/executor/contract_executor.go:contractExecutor.Execute", ["IsProposal007", "IsProposal015", "IsProposal015", "IsProposal015", "IsProposal017", "IsProposal026"]),
  ("src/executor/contract_executor.go:preCheckContractFee", ["IsProposal015"]),
  ("src/service/transaction_pool.go:TxPool.ProcessFee", ["IsProposal026"]),
  ("src/storage/account/accountdb_tuntun.go:AccountDB.AddFT", ["IsProposal002"]),
  ("src/storage/account/accountdb_tuntun.go:AccountDB.SubFT", ["IsProposal002"]),
  ("src/vm/evm.go:EVM.create", ["IsProposal006", "IsProposal007", "IsProposal026"])
]

/-- the account the balance guard looks at is the account the transfer debits, in every EVM entry point:
    `Call` / `CallCode` / `create`: the caller (model: `canTransfer s.bal self v` then `vmTransfer s.bal self …`);
    `AuthCall`: the sponsor = tx origin (model: `canTransfer s.bal origin v` then `vmTransfer s.bal origin to v`) -/
def expectedGuardArgs : List (String × String) := [
  ("src/vm/evm.go:EVM.AuthCall:CanTransfer", "sponsor | value"),
  ("src/vm/evm.go:EVM.AuthCall:Transfer", "sponsor | addr | value"),
  ("src/vm/evm.go:EVM.Call:CanTransfer", "caller.Address() | value"),
  ("src/vm/evm.go:EVM.Call:Transfer", "caller.Address() | addr | value"),
  ("src/vm/evm.go:EVM.CallCode:CanTransfer", "caller.Address() | value"),
  ("src/vm/evm.go:EVM.create:CanTransfer", "caller.Address() | value"),
  ("src/vm/evm.go:EVM.create:Transfer", "caller.Address() | address | value")
]

def hexOf (n : Nat) : String := String.ofList (Nat.toDigits 16 n)

/-- constants: rendered from the model's own definitions where `toString` / `hexOf` of a model constant stands; literals
    otherwise (`BLANCE_NAME`, `defaultGasLimit`, `ten`, `delta`, `delta026`, `CallCreateDepth`), of which `ten` and `delta026`
    are tied to the model by `node_fee_is_ten` (Props/C06) and `fee_is_delta026` -/
def expectedConsts : List (String × String) := [
  ("src/common/constant.go:GasMagnification", toString gasMagnification),
  ("src/common/constant_economy.go:BLANCE_NAME", "\"SYSTEM-RPG\""),
  ("src/common/constant_economy.go:FeeAccount", "HexToAddress(\"0x" ++ hexOf feeAccount ++ "\")"),
  ("src/executor/contract_executor.go:defaultGasLimit", "6000000"),
  ("src/executor/contract_executor.go:defaultGasPrice", "NewInt(" ++ toString gasPrice ++ ")"),
  ("src/executor/contract_executor.go:p017defaultGasLimit", toString p017GasLimit),
  ("src/executor/contract_executor.go:p026defaultGasLimit", toString p026GasLimit),
  ("src/executor/miner_node_executor.go:ten", "StrToBigInt(\"10\")"),
  ("src/middleware/types/transaction.go:DefaultGasPrice", "NewInt(" ++ toString gasPrice ++ ")"),
  ("src/service/transaction_pool.go:delta", "StrToBigInt(\"0.0001\")"),
  ("src/service/transaction_pool.go:delta026", "StrToBigInt(\"0.001\")"),
  ("src/vm/param.go:CallCreateDepth", "1024"),
  ("src/vm/param.go:TxDataNonZeroGasEIP2028", toString nonZeroByteGas),
  ("src/vm/param.go:TxDataZeroGas", toString zeroByteGas),
  ("src/vm/param.go:TxGas", toString txGas),
  ("src/vm/param.go:TxGasContractCreation", toString txGasCreate)
]

/-- package-level state written inside the files of the ledger path: only the start-up singletons and loggers, and the
    process-wide cache of the token contract address (`loadContractCache`, written until the binding exists). No
    transaction path assigns to, or mutates in place, a package-level `big.Int` (fee, gas price, `ten`, `big0` …). -/
def expectedGlobalWrites : List (String × String × String) := [
  ("src/service/miner_manager.go", "InitMinerManager", "assign MinerManagerImpl"),
  ("src/service/miner_manager.go", "InitMinerManager", "assign MinerManagerImpl"),
  ("src/service/refund_manager.go", "InitRefundManager", "assign RefundManagerImpl"),
  ("src/service/refund_manager.go", "InitRefundManager", "assign RefundManagerImpl"),
  ("src/service/refund_manager.go", "InitRefundManager", "assign RefundManagerImpl"),
  ("src/service/refund_manager.go", "InitRefundManager", "assign RefundManagerImpl"),
  ("src/service/reward_calculator.go", "InitRewardCalculator", "assign RewardCalculatorImpl"),
  ("src/service/reward_calculator.go", "InitRewardCalculator", "assign RewardCalculatorImpl"),
  ("src/service/transaction_pool.go", "initTransactionPool", "assign txpoolInstance"),
  ("src/storage/account/accountdb_eth.go", "AccountDB.loadContractCache", "assign rpgContractAddress"),
  ("src/vm/init.go", "InitVM", "assign logger")
]

/-- The functions of the ledger path keep no hidden package-level state between calls (go/ast inventory). -/
theorem globals_untouched : LedgerFacts.globalWrites = expectedGlobalWrites := rfl

/-- No ledger call site is unaccounted for, and no "result used" flag has changed. -/
theorem sites_accounted :
    LedgerFacts.sites = expectedSites.map (fun e => (e.1, e.2.1, e.2.2.1, e.2.2.2.1)) := rfl

/-- Every site is mapped to a model function or explicitly listed as outside the model. -/
theorem sites_mapped : expectedSites.all (fun e => e.2.2.2.2 != "UNMAPPED") = true := by decide +kernel

/-- Inside every transcribed function the ledger-relevant calls are those, in that order, the model follows
    (balance test before debit, credit/debit pairs, snapshot / revert placement). -/
theorem order_as_transcribed : LedgerFacts.order = expectedOrder := rfl

/-- The ledger paths test exactly the fork flags the model takes as input (002, 015, 017, 018, 026, 027; 006/007/013 are
    nonce / log bookkeeping outside the ledger). -/
theorem flags_as_modelled : LedgerFacts.flagReads = expectedFlagReads := rfl

/-- Guard and debit name the same account expression at every EVM entry point, as the model transcribes them. -/
theorem guard_checks_the_debited_account : LedgerFacts.guardArgs = expectedGuardArgs := rfl

/-- The numeric conversions on the way into a balance slot / a stake, as `Model/Decimal.lean` (C18) composes them and
    `Props/C06Real.lean` relates them to the exact primitives of `Model/Ledger.lean`:
    `AddFT/SetFT` = `ftAdd/ftSet` (one `FormatDecimalForERC20`), `SubFT` = `ftSub` (`ForERC20` on the amount, `ForRocket` on
    the returned remainder), `GetFT` = `ftGet`; `AddStake/AddMiner` debit `stakeToBigInt` (`Float64ToBigInt`),
    `GetRefundStake` refunds `uint64ToBigInt`; STAKE/UNSTAKE read `stakeArg` (`ParseUint ∘ BigIntToStrWithoutDot`). -/
def expectedConversions : List (String × List String) := [
  ("src/executor/miner_executor.go:minerRefundExecutor.Execute", ["ParseUint"]),
  ("src/service/game.go:transferBalance", ["StrToBigInt"]),
  ("src/service/miner_manager.go:MinerManager.AddMiner", ["Float64ToBigInt"]),
  ("src/service/miner_manager.go:MinerManager.AddStake", ["Float64ToBigInt"]),
  ("src/service/refund_manager.go:RefundManager.GetRefundStake", ["Uint64ToBigInt"]),
  ("src/storage/account/accountdb_tuntun.go:AccountDB.AddFT", ["FormatDecimalForERC20"]),
  ("src/storage/account/accountdb_tuntun.go:AccountDB.GetFT", ["FormatDecimalForRocket"]),
  ("src/storage/account/accountdb_tuntun.go:AccountDB.SetFT", ["FormatDecimalForERC20"]),
  ("src/storage/account/accountdb_tuntun.go:AccountDB.SubFT", ["FormatDecimalForERC20", "FormatDecimalForRocket"]),
  ("src/utility/data_convert.go:BigIntToStrWithoutDot", ["BigIntToStr"]),
  ("src/utility/data_convert.go:FormatDecimalForERC20", ["BigIntToStr", "strToBigInt"]),
  ("src/utility/data_convert.go:FormatDecimalForRocket", ["bigIntToStr", "StrToBigInt"]),
  ("src/utility/data_convert.go:Uint64ToBigInt", ["SetUint64"]),
  ("src/vm/instructions.go:opStake", ["ParseUint", "BigIntToStrWithoutDot"]),
  ("src/vm/instructions.go:opUnStake", ["ParseUint", "BigIntToStrWithoutDot"]),
  ("src/vm/instructions.go:opUnStakeAll", ["SetUint64"])
]

theorem conversions_as_modelled : LedgerFacts.conversions = expectedConversions := rfl

/-- Every comparison of a `Cmp` / `Sign` result with a literal in the transcribed functions, next to the model line:
    `SubFT` refuses on `remain.Cmp(value) < 0` (`subBal`: `slot < v`); `CanTransfer` is `Sign < 0 → false`, then
    `Cmp >= 0` (`canTransfer`); `transferBalance` refuses `Sign == -1` and `Cmp == -1` (`amt < 0`, `get src < amt`);
    `ProcessFee`, `AddStake`, `AddMiner`, `preCheckContractFee` refuse on `Cmp < 0`; the gas charge clamps on `Cmp < 0`
    (`chargeGas`); `minerNodeExecutor` refuses on `ten.Cmp(balance) > 0` (`nodeTxWith`: `get src < fee`); `opUnStake`
    adds the second refund entry on `real.Cmp(money) > 0` (`v < real`); `Call/AuthCall` skip the transfer on `Sign == 0`
    (`v != 0`). A changed operator (`<` for `<=`, a dropped sign test) changes this list. -/
def expectedCompares : List (String × List String) := [
  ("src/core/vmexecutor.go:VMExecutor.Execute", []),
  ("src/core/vmexecutor.go:VMExecutor.after", []),
  ("src/core/vmexecutor.go:deductGasFee", ["Cmp<0"]),
  ("src/executor/base_executor.go:baseFeeExecutor.BeforeExecute", []),
  ("src/executor/contract_executor.go:contractExecutor.BeforeExecute", []),
  ("src/executor/contract_executor.go:contractExecutor.Execute", ["Cmp<0"]),
  ("src/executor/contract_executor.go:preCheckContractFee", ["Cmp<0"]),
  ("src/executor/jsonrpc_executor.go:jsonrpcExecutor.BeforeExecute", []),
  ("src/executor/miner_executor.go:minerAddExecutor.Execute", []),
  ("src/executor/miner_executor.go:minerApplyExecutor.Execute", []),
  ("src/executor/miner_executor.go:minerRefundExecutor.Execute", []),
  ("src/executor/miner_node_executor.go:minerNodeExecutor.Execute", ["Cmp>0"]),
  ("src/service/game.go:ChangeAssets", []),
  ("src/service/game.go:transferBalance", ["Sign==-1", "Cmp==-1"]),
  ("src/service/miner_manager.go:MinerManager.AddMiner", ["Cmp<0"]),
  ("src/service/miner_manager.go:MinerManager.AddStake", ["Cmp<0"]),
  ("src/service/miner_manager.go:MinerManager.RemoveMiner", []),
  ("src/service/refund_manager.go:RefundManager.CheckAndMove", []),
  ("src/service/refund_manager.go:RefundManager.GetRefundStake", []),
  ("src/service/transaction_pool.go:TxPool.ProcessFee", ["Cmp<0"]),
  ("src/storage/account/accountdb.go:AccountDB.Suicide", []),
  ("src/storage/account/accountdb_tuntun.go:AccountDB.AddFT", []),
  ("src/storage/account/accountdb_tuntun.go:AccountDB.GetFT", []),
  ("src/storage/account/accountdb_tuntun.go:AccountDB.SetFT", []),
  ("src/storage/account/accountdb_tuntun.go:AccountDB.SubFT", ["Cmp<0"]),
  ("src/utility/data_convert.go:BigIntToStrWithoutDot", []),
  ("src/utility/data_convert.go:FormatDecimalForERC20", ["Sign==0"]),
  ("src/utility/data_convert.go:FormatDecimalForRocket", ["Sign==0"]),
  ("src/utility/data_convert.go:Uint64ToBigInt", []),
  ("src/vm/evm.go:EVM.AuthCall", ["Sign!=0", "Sign==0"]),
  ("src/vm/evm.go:EVM.Call", ["Sign!=0", "Sign==0"]),
  ("src/vm/evm.go:EVM.CallCode", []),
  ("src/vm/evm.go:EVM.DelegateCall", []),
  ("src/vm/evm.go:EVM.StaticCall", []),
  ("src/vm/evm.go:EVM.create", []),
  ("src/vm/init.go:CanTransfer", ["Sign<0", "Cmp>=0"]),
  ("src/vm/init.go:Transfer", []),
  ("src/vm/instructions.go:opStake", []),
  ("src/vm/instructions.go:opSuicide", []),
  ("src/vm/instructions.go:opUnStake", ["Cmp>0"]),
  ("src/vm/instructions.go:opUnStakeAll", [])
]

theorem compares_as_modelled : LedgerFacts.compares = expectedCompares := rfl

theorem feeAccount_rendered :
    "HexToAddress(\"0x" ++ hexOf feeAccount ++ "\")" = "HexToAddress(\"0x3966eafd38c5f10cc91eaacaeff1b6682b83ced4\")" := by
  decide +kernel

/-- The constants of the model are the constants of the source. -/
theorem constants_match : LedgerFacts.consts = expectedConsts := by
  -- the one long rendered string is evaluated on its own; appending inside `rfl` is slow in the elaborator
  rw [expectedConsts, feeAccount_rendered]
  rfl

/-- The transaction fee of the model is `StrToBigInt("0.001")`. -/
theorem fee_is_delta026 : strToBigInt "0.001" = .val txFee := by decide +kernel

end Rangers.Props.C06Sites
