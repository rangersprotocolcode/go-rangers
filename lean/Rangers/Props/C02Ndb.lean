import Rangers.Proofs.TrieNdb
import Rangers.Proofs.TrieDecode
import Rangers.Props.C02
/-!
# C02, the NodeDatabase layers and the RLP splitting the disk path relies on

`Model/TrieNdb.lean` (memory cache + disk, `insert`, `reference`, `childs`/`gatherChildren`,
`Commit` = `commit` + `uncache`, `Node`/`node`) is executed by the driver on every
`commit`/`reopen`/`snap`/`commitref`/`dbcommit`/`blob` and observed through `dbstate` and `node`.
-/
namespace Rangers.Props.C02Ndb
open Rangers Rangers.Trie

/-- `gatherChildren` on the collapsed form of a full node: the hash references of the sixteen child
    slots, in slot order, embedded children looked through; the value slot contributes nothing -/
theorem gather_children_full (H : Bytes → Bytes) (cs : List Node) (hlen : cs.length = 17) :
    gatherC (collapse H (.full cs)) = (cs.take 16).flatMap (fun x => gatherC (refOf H x)) :=
  gatherC_collapse_full H cs hlen

theorem gather_children_short (H : Bytes → Bytes) (k : Key) (cs : List Node) (b : Bytes) :
    gatherC (collapse H (.short k (.full cs))) = gatherC (refOf H (.full cs)) ∧
    gatherC (collapse H (.short k (.value b))) = [] :=
  ⟨gatherC_collapse_ext H k cs, by rw [collapse_leaf]; rfl⟩

/-- **`NodeDatabase.Commit` writes the whole trie to disk** (fresh cache; no hash hypothesis) -/
theorem ndb_commit_writes_whole_trie (H : Bytes → Bytes) (db : NDb) (t : Node) (hwf : WF t)
    (hin : ∀ e ∈ storeOf H true t, InMem db.mem e) (F : Nat) (hF : height t + 1 ≤ F) :
    ∀ e ∈ storeOf H true t, (db.commit F (H (enc H t))).disk.lookup e.1 = some (encC e.2) :=
  commit_self hwf true (Or.inl rfl) (commit_walk H db.mem t hwf) hin F db.disk hF

/-- `uncache` never adds or alters a cache entry -/
theorem uncache_only_removes (F : Nat) (mem : List (Bytes × NEntry)) (root x : Bytes) :
    (uncacheRec F mem root).lookup x = none ∨ (uncacheRec F mem root).lookup x = mem.lookup x :=
  Trie.uncacheRec_only_removes mem x F mem root (Or.inr rfl)

/-- **`NodeDatabase.Commit` is a no-op on resolution** (memory cache first, else `decodeNode` of the
    disk blob), for every node of the committed trie -/
theorem ndb_commit_noop_on_resolution (H : Bytes → Bytes) (h32 : ∀ x, (H x).length = 32) (db : NDb) (t : Node)
    (hwf : WF t) (hin : ∀ e ∈ storeOf H true t, InMem db.mem e)
    (hsz : ∀ e ∈ storeOf H true t, (encC e.2).length < 256 ^ 8) (F : Nat) (hF : height t + 1 ≤ F) (gen : Nat) :
    ∀ e ∈ storeOf H true t,
      (db.commit F (H (enc H t))).node gen e.1 = db.node gen e.1 ∧ db.node gen e.1 = expandNode gen (some e.1) e.2 := by
  intro e he
  obtain ⟨ne, hl, hv⟩ := hin e he
  have hbefore : db.node gen e.1 = expandNode gen (some e.1) e.2 := by simp [NDb.node, hl, hv]
  refine ⟨?_, hbefore⟩
  rw [hbefore]
  have hdisk := ndb_commit_writes_whole_trie H db t hwf hin F hF e he
  rcases Trie.uncacheRec_only_removes db.mem e.1 F db.mem (H (enc H t)) (Or.inr rfl) with hnone | hsame
  · -- dropped from the cache: decoded from the disk blob
    obtain ⟨c, hwc, rfl⟩ := storeOf_entries H t hwf true e he
    have hlen := hsz _ he
    have henc := encC_collapse H c hwc
    simp only [] at hlen hdisk hnone ⊢  -- the projections of the pair `e` has become
    rw [henc] at hlen
    have hdec := decodeNode_collapse H h32 gen c hwc hlen (some (H (enc H c)))
      (20 * (encC (collapse H c)).length + 20) [] (by rw [henc]; exact Nat.le_refl _)
    rw [List.append_nil] at hdec
    have hm : (db.commit F (H (enc H t))).mem.lookup (H (enc H c)) = none := hnone
    unfold NDb.node
    rw [hm, hdisk]
    exact hdec
  · have hm : (db.commit F (H (enc H t))).mem.lookup e.1 = some ne := by rw [← hl]; exact hsame
    simp [NDb.node, hm, hv]

-- non-vacuity: a one-leaf trie freshly inserted into an empty NodeDatabase
example (H : Bytes → Bytes) :
    let t := run [.upd [1] [2]]
    WF t ∧ (∀ e ∈ storeOf H true t, InMem (NDb.empty.insertAll (storeOf H true t)).mem e) ∧ height t + 1 ≤ 8200 := by
  have hr : run [.upd [1] [2]] = .short [0, 1, 16] (.value [2]) := rfl
  refine ⟨(C02.run_wf _).resolve_left (by rw [hr]; simp), ?_, by rw [hr]; decide⟩
  rw [hr]
  intro e he
  simp only [storeOf, Bool.true_or, if_true, List.append_nil, List.mem_singleton] at he
  subst he
  exact ⟨{ val := .cn (collapse H (.short [0, 1, 16] (.value [2]))), children := [] },
    by simp [NDb.insertAll, NDb.insert, NDb.empty, storeOf], rfl⟩

/-! ## RLP as used on the disk path (storage/rlp/raw.go) -/

/-- big-endian length bytes round-trip (`putint` / `readSize`) -/
theorem be_length_roundtrip (n : Nat) : beToNat (natToBE n) = n ∧ (0 < n → (natToBE n).headD 0 ≠ 0) := by
  refine ⟨beToNat_natToBE n, fun h => ?_⟩
  have hh := natToBE_head_ne_zero n
  cases hl : natToBE n with
  | nil => exact absurd ((natToBE_eq_nil n).1 hl) (Nat.ne_of_gt h)
  | cons x xs => rw [hl] at hh; exact fun e => hh (congrArg some e)

/-- **`Split` inverts the encoder**: splitting an encoded string or list followed by anything gives
    back the payload and the rest, with the right kind — for every payload shorter than 2^64 bytes
    (single bytes, short and long headers, the canon-size and leading-zero checks included) -/
theorem rlp_split_encode (isList : Bool) (payload rest : Bytes) (hlen : payload.length < 256 ^ 8) :
    ∃ k, rlpSplit ((if isList then rlpList payload else rlpString payload) ++ rest) = some (k, payload, rest) ∧
      (k = RKind.list ↔ isList = true) :=
  rlpSplit_item isList payload rest hlen

/-- `CountValues` of a concatenation of encoded items is their number -/
theorem rlp_count_values (items : List (Bool × Bytes)) (hb : ∀ i ∈ items, i.2.length < 256 ^ 8) :
    countValues (items.flatMap encItem).length (items.flatMap encItem) = some items.length :=
  countValues_exact items hb

example : (([1, 2, 3] : Bytes)).length < 256 ^ 8 := by decide

end Rangers.Props.C02Ndb
