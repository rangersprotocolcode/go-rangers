import Rangers.Model.Bls14Misc
import Rangers.Proofs.Bls14Bytes
import Rangers.Props.C14
import Rangers.Props.C14E
/-!
# C14 — predicates, derived identifiers, key construction

`IsEqual` decides equality of the values it is given (with the nil/identity quirk), ids derived from
public keys are always serialisable, aggregated / derived secret keys are reduced (and CAN be the
invalid key 0), addresses are exactly 20 bytes.
-/
namespace Rangers.Props.C14
open Rangers Rangers.Model.Bls14 Rangers.Proofs.Bls14

theorem g1_marshal_injective (p q : Pt) (hp : p.onCurve = true ∧ p.reduced = true)
    (hq : q.onCurve = true ∧ q.reduced = true) (h : g1Marshal p = g1Marshal q) : p = q := by
  have := g1_marshal_unmarshal .nil p hp.1 hp.2
  rw [h, g1_marshal_unmarshal .nil q hq.1 hq.2] at this
  exact (G1Val.pt.inj (Prod.mk.inj this).1).symm

/-- `Signature.IsEqual` on valid signatures is equality of the points. -/
theorem sig_isEqual_iff (p q : Pt) (hp : p.onCurve = true ∧ p.reduced = true)
    (hq : q.onCurve = true ∧ q.reduced = true) :
    sigIsEqual (.pt p) (.pt q) = true ↔ p = q := by
  simp only [sigIsEqual, g1ValMarshal, beq_iff_eq]
  exact ⟨g1_marshal_injective p q hp hq, fun h => by rw [h]⟩

/-- Quirk: the nil signature "equals" the identity signature (both marshal to 64 zero bytes). -/
theorem sig_isEqual_nil_identity : sigIsEqual .nil (.pt .inf) = true := by decide

/-- `Pubkey.IsEqual` on valid keys is equality of the points. -/
theorem pub_isEqual_iff (x y x' y' : F2) (hr : x.x < P ∧ x.y < P ∧ y.x < P ∧ y.y < P)
    (hc : onTwistXY x y = true) (hr' : x'.x < P ∧ x'.y < P ∧ y'.x < P ∧ y'.y < P)
    (hc' : onTwistXY x' y' = true) :
    pubIsEqual (.pt (.aff x y)) (.pt (.aff x' y')) = true ↔ (x = x' ∧ y = y') := by
  simp only [pubIsEqual, Pub.serialize, beq_iff_eq]
  constructor
  · intro h
    have e := g2_marshal_unmarshal .nil x y hr hc
    rw [h, g2_marshal_unmarshal .nil x' y' hr' hc'] at e
    have := G2Val.pt.inj (Prod.mk.inj e).1
    injection this with h1 h2
    exact ⟨h1.symm, h2.symm⟩
  · rintro ⟨rfl, rfl⟩; rfl

example : onTwistXY ⟨Generated.Bls14.twistGenXX, Generated.Bls14.twistGenXY⟩
    ⟨Generated.Bls14.twistGenYX, Generated.Bls14.twistGenYY⟩ = true := by decide

/-- Aggregated and seed-derived secret keys are reduced mod the group order … -/
theorem derived_seckeys_reduced (s : Nat) (ss : List Nat) (seed : Bytes) :
    (∃ v, aggregateSeckeys (s :: ss) = some v ∧ v < R) ∧ seckeyFromRand seed < R :=
  ⟨⟨_, rfl, Nat.mod_lt _ (by decide)⟩, Nat.mod_lt _ (by decide)⟩

/-- … and can be the INVALID key 0 (`IsValid() = false`): nothing in `AggregateSeckeys` /
    `NewSeckeyFromRand` excludes it (two opposite shares; a seed ≡ 0 mod r). -/
theorem derived_seckey_can_be_invalid :
    aggregateSeckeys [5, R - 5] = some 0 ∧ scalarIsValid 0 = false ∧
    seckeyFromRand (beFixed 32 R) = 0 := by
  refine ⟨by decide, rfl, ?_⟩
  unfold seckeyFromRand
  rw [List.take_of_length_le (by simp [beFixed_length]), beToNat_beFixed_of_lt 32 R (by decide)]
  exact Nat.mod_self R

theorem sha3_256_length (m : Bytes) : (Sha3.sha3_256 m).length = 32 := by
  simp [Sha3.sha3_256, Sha3.squeeze32, List.length_flatMap]
  decide

/-- Ids derived from public keys are below 2^256, hence `ID.Serialize` never panics on them and they
    survive the byte and the hex round trip. -/
theorem newID_serializable (pk : Pub) :
    newIDFromPubkey pk < 2 ^ 256 ∧
    ∃ b, idSerialize (newIDFromPubkey pk) = some b ∧ b.length = 32 ∧
      scalarDeserialize b = newIDFromPubkey pk := by
  have hl : newIDFromPubkey pk < 2 ^ 256 := by
    have := beToNat_lt (Sha3.sha3_256 (Pub.serialize pk))
    rw [sha3_256_length] at this
    have e : (256 : Nat) ^ 32 = 2 ^ 256 := by decide
    unfold newIDFromPubkey; omega
  exact ⟨hl, id_roundtrip _ hl⟩

/-- Addresses are exactly 20 bytes, whatever goes in. -/
theorem bytesToAddress_length (b : Bytes) : (bytesToAddress b).length = 20 := by
  unfold bytesToAddress
  split
  · simp; omega
  · simp; omega

/-- Quirk: `ID.ToAddress` keeps only the LAST 20 of the 32 id bytes — ids that differ in their top
    12 bytes share an address. -/
theorem idToAddress_ignores_high_bytes : idToAddress 7 = idToAddress (7 + 2 ^ 200) ∧ (7 : Nat) ≠ 7 + 2 ^ 200 := by
  decide

/-- `ShortHex12` never returns more than 13 characters. -/
theorem shortHex12_length (s : List Char) : (shortHex12 s).length ≤ 13 := by
  unfold shortHex12
  split
  · omega
  · simp; omega

end Rangers.Props.C14
