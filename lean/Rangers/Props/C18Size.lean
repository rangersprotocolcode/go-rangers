import Rangers.Proofs.DecimalSize
/-!
# C18 — how large can the parsed integer get? (resource observation, not part of C18)

`strToBigInt` accepts `e`/`p` exponent forms, and `Float.Int` materialises the integer:
a 9-character amount such as `"9e2726818"` becomes a 9-million-bit integer
(`"9e272681876"`, 11 characters, gives ~0.9·10^9 bits: a ~113 MB allocation; building it is
fast, but printing it — e.g. `raw.TransferValue.String()` in the insufficient-funds log line of
`preCheckContractFee` — takes minutes of CPU in the real code). The theorems state exactly what bounds the size: the length of the
string **plus the value of its exponent**. Without an exponent marker the result is linear in
the input length. C18 as stated (lossless conversion of decimal strings) is not affected;
this is recorded for the owners of the resource-bound properties (C06 amount validation,
C07 admission, C11 total/bounded execution).
-/
namespace Rangers.Props.C18Size
open Rangers.Decimal

/-- **Size bound for every input**: bits(result) ≤ 4·|s| + 5·exp + 4·d + 8, where `exp` is
    the (decimal or binary) exponent the string carries (`expPart`). -/
theorem result_size_bound (s : Str) (d : Int) (v : Int) (h : strToBigInt s d = .ok v) :
    (bitLen v.natAbs : Int) ≤ 4 * (s.length : Int) + 5 * ((expPart s).toNat : Int) + 4 * (d.toNat : Int) + 8 :=
  strToBigInt_size s d v h

example : strToBigInt "12.5".toList 18 = .ok 12500000000000000000 ∧ expPart "12.5".toList = 0 ∧
    expPart "-3e17".toList = 17 := by decide +kernel

/-- what one would like for an amount field: result size linear in the input length -/
def FullStatementLinearSize : Prop :=
  ∀ (s : Str) (d : Int) (v : Int), strToBigInt s d = .ok v →
    (bitLen v.natAbs : Int) ≤ 4 * (s.length : Int) + 4 * (d.toNat : Int) + 8

/-- The provable restriction: a string without `e`, `E`, `p`, `P` (in particular every decimal
    string C18 speaks of, and everything `bigIntToStr` prints) yields at most
    `4·|s| + 4·d + 8` bits. Rejecting exponent markers before calling `StrToBigInt` is
    therefore sufficient to bound the work. -/
theorem linear_size_partial (s : Str) (d : Int) (v : Int) (h : strToBigInt s d = .ok v)
    (hno : ∀ c ∈ s, c ≠ 'e' ∧ c ≠ 'E' ∧ c ≠ 'p' ∧ c ≠ 'P') :
    (bitLen v.natAbs : Int) ≤ 4 * (s.length : Int) + 4 * (d.toNat : Int) + 8 := by
  have := strToBigInt_size s d v h
  rwa [expPart_eq_zero s hno, Int.toNat_zero, Nat.cast_zero, mul_zero, add_zero] at this

example : ∀ c ∈ "115792089237316195423570985008687907853269984665640564039457.584007913129639935".toList,
    c ≠ 'e' ∧ c ≠ 'E' ∧ c ≠ 'p' ∧ c ≠ 'P' := by
  -- a literal unifies with `String.ofList` of its characters; left to the kernel, `toList` decodes it byte by byte,
  -- in time quadratic in its length
  rw [String.toList_ofList]
  decide +kernel

/-- With an exponent the size is exponential in the length: 7 characters give more than
    66 000 bits (the same op on the real code: corpus `size 31653230303030 18`; `"9e2726818"`
    → 9 058 357 bits there). -/
theorem linear_size_counterexample : ¬ FullStatementLinearSize := by
  intro h
  have hb : resAtLeast 66000 (strToBigInt "1e20000".toList 18) = true := by decide +kernel
  cases hr : strToBigInt "1e20000".toList 18 with
  | ok v =>
    rw [hr] at hb
    have hbits := bitLen_of_resAtLeast hb
    have := h "1e20000".toList 18 v hr
    have hl : ("1e20000".toList.length : Int) = 7 := by decide
    rw [hl] at this
    norm_num at this
    omega
  | err => rw [hr] at hb; exact absurd hb Bool.false_ne_true
  | panic => rw [hr] at hb; exact absurd hb Bool.false_ne_true

end Rangers.Props.C18Size
