import Rangers.Props.C07
/-!
# C07 — the payload codec rests on C08

`decodeTx` is C08's `RLP.decodeBytes` followed by the typing of the nine items
(`txOfItem`), `encodeTx` is C08's `RLP.encode` of `itemOfTx`.  C08 proves the generic
coder lossless and canonical and records that the *typed* decoder of `eth_tx.txdata` is not
(`Props.C08.typed_canonical_counterexample`, `txdata_two_encodings`: the `rlp:"nil"`
recipient accepts the empty list like the empty string).  The theorems below state that
finding at the level of C07 and that the canonical-payload check of `verifyETHTx` (the
fix) closes exactly it.
-/
namespace Rangers.Props.C07
open Rangers Rangers.Model.TxAuth Rangers.RLP

/-- The typed decoder of the payload has two accepted encodings of every contract creation
    (recipient `0x80` and `0xc0`) — C08's finding on `eth_tx.txdata`, for every such transaction. -/
theorem payload_two_encodings (e : EthTx) (wf : WfEthTx e) (hto : e.to = none)
    (hsz : (itemOfTxAlt e).sizeOK) :
    decodeTx (encode (itemOfTxAlt e)) = some e ∧ decodeTx (encode (itemOfTx e)) = some e ∧
      encode (itemOfTxAlt e) ≠ encode (itemOfTx e) := by
  refine ⟨?_, decodeTx_encodeTx e wf, encode_alt_ne e hto⟩
  unfold decodeTx
  rw [Props.C08.decodeBytes_encode _ hsz]
  exact txOfItem_itemOfTxAlt e wf hto

/-- And these are the only ones: whatever the payload decoder accepts is the encoder's
    output for the decoded transaction, or the `0xc0`-recipient variant of a contract creation. -/
theorem payload_preimages (enc : Bytes) (e : EthTx) (h : decodeTx enc = some e) :
    enc = encodeTx e ∨ (e.to = none ∧ enc = encode (itemOfTxAlt e)) := by
  unfold decodeTx at h
  cases hd : decodeBytes enc with
  | error er => rw [hd] at h; cases h
  | ok it =>
    rw [hd] at h
    have hc := Props.C08.decodeBytes_canonical enc it hd
    rcases txOfItem_preimages it e h with hi | ⟨hn, hi⟩
    · left; rw [hc, hi]; rfl
    · right; exact ⟨hn, by rw [hc, hi]⟩

/-- With the canonical-payload check: an accepted payload is `encode (decode payload)` in
    C08's sense — it decodes (as a generic item) to exactly the item the encoder writes for
    the transaction, and is that item's encoding. -/
theorem eth_payload_canonical (cr : Crypto) (cfg : ChainCfg) (h : Nat) (tx : Tx)
    (hacc : verifyEth cr cfg h tx = .ok) :
    ∃ e, decodeTx (fromHex tx.extraData) = some e ∧
      decodeBytes (fromHex tx.extraData) = .ok (itemOfTx e) ∧
      fromHex tx.extraData = encode (itemOfTx e) := by
  obtain ⟨e, s, hd, henc, _⟩ := (eth_accept_iff cr cfg h tx).1 hacc
  refine ⟨e, hd, ?_, henc.symm⟩
  have hd' := hd
  unfold decodeTx at hd'
  cases hdb : decodeBytes (fromHex tx.extraData) with
  | error er => rw [hdb] at hd'; cases hd'
  | ok it =>
    rw [hdb] at hd'
    have hc := Props.C08.decodeBytes_canonical _ it hdb
    rcases txOfItem_preimages it e hd' with hi | ⟨hn, hi⟩
    · rw [hi]
    · exfalso
      apply encode_alt_ne e hn
      rw [← hi, ← hc, ← henc]; rfl

/-- The `0xc0`-recipient spelling of a contract creation is rejected whatever the declared
    fields are (the fixed finding `eth-noncanonical-payload-accepted`). -/
theorem noncanonical_recipient_rejected (cr : Crypto) (cfg : ChainCfg) (h : Nat) (tx : Tx) (e : EthTx)
    (hsz : (itemOfTxAlt e).sizeOK)
    (hx : fromHex tx.extraData = encode (itemOfTxAlt e)) :
    verifyEth cr cfg h tx ≠ .ok := by
  intro hacc
  obtain ⟨e', _, hdb, _⟩ := eth_payload_canonical cr cfg h tx hacc
  rw [hx, Props.C08.decodeBytes_encode _ hsz] at hdb
  injection hdb with hdb
  simp only [itemOfTxAlt, itemOfTx, coreItems, List.cons_append, List.nil_append, Item.list.injEq,
    List.cons.injEq] at hdb
  obtain ⟨_, _, _, h4, _⟩ := hdb
  cases hto : e'.to <;> simp [toItem, hto] at h4

/-- a well-formed contract creation for chain 9 and its two spellings -/
example : WfEthTx toyEth155 ∧ toyEth155.to = none ∧ (itemOfTxAlt toyEth155).sizeOK :=
  ⟨toyEth155_wf, rfl, by
    simp only [toyEth155, itemOfTxAlt, Item.sizeOK, Item.sizeOKs]
    decide +kernel⟩

example : fromHex (toHex0x (encode (itemOfTxAlt toyEth155))) = encode (itemOfTxAlt toyEth155) :=
  fromHex_toHex0x _ (encode_ne_nil _)

end Rangers.Props.C07
