import Rangers.Props.C08
/-!
# C08 — algebraic laws of the item coder that users of RLP rely on

Corollaries of `decode_encode` / `encode_decode` (Props/C08.lean), stated outright because the
callers of the package lean on them directly: the trie hashes `encode node` and treats equal
hashes as equal nodes (injectivity); block/transaction bodies are RLP items laid end to end on one
stream (prefix-freeness, sequence round trip).
-/
namespace Rangers.Props.C08
open Rangers Rangers.RLP

/-- Prefix-free: an encoding followed by anything determines both the value and what follows,
    so items laid end to end on a stream can be cut apart in exactly one way. -/
theorem encode_prefix_free (a b : Item) (r₁ r₂ : Bytes) (ha : a.sizeOK) (hb : b.sizeOK)
    (h : encode a ++ r₁ = encode b ++ r₂) : a = b ∧ r₁ = r₂ := by
  have h1 := decode_encode a r₁ ha
  have h2 := decode_encode b r₂ hb
  rw [h] at h1
  rw [h1] at h2
  injection h2 with h2
  exact ⟨(Prod.mk.inj h2).1, (Prod.mk.inj h2).2⟩

/-- The encoder is injective on everything it can produce: two values with the same bytes are
    the same value. -/
theorem encode_injective (a b : Item) (ha : a.sizeOK) (hb : b.sizeOK) (h : encode a = encode b) :
    a = b :=
  (encode_prefix_free a b [] [] ha hb (by rw [h])).1

/-- No encoding is a proper prefix of another encoding. -/
theorem encode_not_proper_prefix (a b : Item) (x : UInt8) (r : Bytes) (ha : a.sizeOK) (hb : b.sizeOK) :
    encode a ++ x :: r ≠ encode b := by
  intro h
  have := encode_prefix_free a b (x :: r) [] ha hb (by simpa using h)
  cases this.2

/-- Decoding is deterministic on the accepted prefix: if `b` is accepted with rest `rest`, then
    replacing the rest by any other bytes is accepted with the same item. -/
theorem decode_rest_irrelevant (b : Bytes) (it : Item) (rest rest' : Bytes) (hs : it.sizeOK)
    (h : decodeItem b = .ok (it, rest)) :
    decodeItem (encode it ++ rest') = .ok (it, rest') ∧ b = encode it ++ rest :=
  ⟨decode_encode it rest' hs, encode_decode b it rest h⟩

/-- `decodeItem` applied `n` times, each time to what the previous call left -/
def decodeSeq : Nat → Bytes → Except Err (List Item × Bytes)
  | 0, b => .ok ([], b)
  | n + 1, b =>
    match decodeItem b with
    | .error e => .error e
    | .ok (it, rest) =>
      match decodeSeq n rest with
      | .error e => .error e
      | .ok (its, r) => .ok (it :: its, r)

def encodeSeq : List Item → Bytes
  | [] => []
  | it :: its => encode it ++ encodeSeq its

/-- Reading `xs.length` items one after another off a stream that starts with their concatenated
    encodings returns them in order and leaves exactly the rest. -/
theorem decodeSeq_encodeSeq (xs : List Item) (rest : Bytes) (h : ∀ x ∈ xs, x.sizeOK) :
    decodeSeq xs.length (encodeSeq xs ++ rest) = .ok (xs, rest) := by
  induction xs with
  | nil => simp [decodeSeq, encodeSeq]
  | cons x xs ih =>
    have hx := h x (by simp)
    have hxs : ∀ y ∈ xs, y.sizeOK := fun y hy => h y (by simp [hy])
    simp only [List.length_cons, decodeSeq, encodeSeq, List.append_assoc]
    rw [decode_encode x _ hx]
    simp only
    rw [ih hxs]

/-- … and conversely whatever `decodeSeq` accepts is the concatenation of the canonical
    encodings of what it returned, followed by the rest. -/
theorem encodeSeq_decodeSeq (n : Nat) (b : Bytes) (xs : List Item) (rest : Bytes)
    (h : decodeSeq n b = .ok (xs, rest)) : b = encodeSeq xs ++ rest ∧ xs.length = n := by
  induction n generalizing b xs rest with
  | zero =>
    simp only [decodeSeq] at h
    injection h with h
    obtain ⟨h1, h2⟩ := Prod.mk.inj h
    subst h1; subst h2; simp [encodeSeq]
  | succ n ih =>
    simp only [decodeSeq] at h
    cases hd : decodeItem b with
    | error e => rw [hd] at h; cases h
    | ok r =>
      obtain ⟨it, r1⟩ := r
      rw [hd] at h
      simp only at h
      cases hs : decodeSeq n r1 with
      | error e => rw [hs] at h; cases h
      | ok q =>
        obtain ⟨its, r2⟩ := q
        rw [hs] at h
        simp only at h
        injection h with h
        obtain ⟨h1, h2⟩ := Prod.mk.inj h
        subst h1; subst h2
        obtain ⟨e1, e2⟩ := ih r1 its r2 hs
        have e0 := encode_decode b it r1 hd
        refine ⟨?_, by simp [e2]⟩
        rw [e0, e1]; simp [encodeSeq]

example : decodeSeq 2 [0x05, 0xc1, 0x80, 0xff] = .ok ([.str [0x05], .list [.str []]], [0xff]) := by rfl

end Rangers.Props.C08
