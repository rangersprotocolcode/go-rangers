import Rangers.Basic.Hex
import Rangers.Model.Vrf
import Rangers.Model.Qn
import Rangers.Generated.C16Facts
import Rangers.Generated.C16Sites
/-!
C16 (T-gen): facts re-extracted from the go-rangers source on every run
must match what the model hard-wires. A changed constant, a re-ordered or added call in
`ECVRFVerify` / `ECVRFProve` / `validateProve` / `calQn` / `verifyBlockVRF`, or a new
unpadded call site of `VRFProof2Hash` / `decodeProof` breaks one of these obligations.
-/
namespace Rangers.Props.C16Gen
open Rangers Rangers.Model Rangers.Generated

/-- proof layout: `ProveSize = N2 + N + N2 = 80`, as sliced by the model -/
theorem layout_matches_model :
    C16Facts.proveSize = Vrf.proveSize ∧ C16Facts.n2 = Vrf.gammaSize ∧ C16Facts.n = Vrf.cSize ∧
    C16Facts.n2 = Vrf.sSize ∧ C16Facts.proveSize = C16Facts.n2 + C16Facts.n + C16Facts.n2 := by decide

/-- domain-separation bytes of `hashToCurve` / `hashPoints` -/
theorem suite_bytes_match_model :
    C16Facts.suiteHex.map ofHex? = [some VrfCurve.suite, some [0x01], some [0x02]] := by decide

/-- the denominator of `calcVrfValueRatio` is 2^256 − 1 -/
theorem max256_matches_model :
    (ofHex? C16Facts.max256Hex).map beToNat = some Qn.max256 := by decide +kernel

/-- the live parameters are inside the scope of `qn_range_partial` and make the stake
    ratio's numerator non-zero whenever difficulty ≥ 1 -/
theorem params_in_scope :
    0 < C16Facts.maxQN ∧ C16Facts.maxQN < 2 ^ 52 ∧ 0 < C16Facts.potentialProposal ∧
    C16Facts.potentialProposal ≤ C16Facts.potentialProposalMax := by decide

/-- `ECVRFVerify`: pad, decode, reduce s, H, Y, U = sB − cY, V = sH − cΓ, hash — in this order -/
theorem verify_call_order :
    C16Sites.verifyCalls =
      ["tryZeroPadding", "decodeProof", "edwards25519.ScReduce", "hashToCurve", "hPoint.FromBytes",
       "yPoint.FromBytes", "edwards25519.GeScalarMult", "temp3Point.ToCached",
       "edwards25519.GeScalarMultBase", "edwards25519.GeSub", "tempP1Point.ToExtended",
       "edwards25519.GeScalarMult", "temp3Point.ToCached", "edwards25519.GeScalarMult",
       "edwards25519.GeSub", "tempP1Point.ToExtended", "hashPoints"] := rfl

theorem prove_call_order :
    C16Sites.proveCalls =
      ["stringToPoint", "expandSecret", "hashToCurve", "hPoint.FromBytes", "edwards25519.GeScalarMult",
       "vrfNonceGeneration", "edwards25519.GeScalarMultBase", "kBPoint.ToBytes",
       "edwards25519.GeScalarMult", "kHPoint.ToBytes", "hashPoints", "gamma.ToBytes",
       "edwards25519.ScMulAdd", "buf.Write", "buf.Write", "buf.Write", "buf.Bytes"] := rfl

theorem decode_call_order :
    C16Sites.decodeProofCalls = ["stringToPoint"] ∧
    C16Sites.stringToPointCalls = ["isCanonical", "point.FromBytes"] ∧
    C16Sites.hashToCurveCalls =
      ["sha512.New", "hash.Write", "hash.Write", "hash.Write", "hash.Write", "hash.Sum", "fromUniform"] := ⟨rfl, rfl, rfl⟩

/-- `validateProve`: pad, value ratio, stake ratio, compare, THEN `calQn` (which caps the
    ratio in place — after the comparison) -/
theorem validate_call_order :
    C16Sites.validateProveCalls =
      ["tryZeroPadding", "calcVrfValueRatio", "common.GetRewardBlocks", "calcStakeRatio",
       "vrfValueRatio.Cmp", "calQn"] ∧
    C16Sites.calQnCalls = ["stakeRatio.Cmp", "stakeRatio.Set", "SetInt64", "Quo", "Float64", "Quo", "math.Floor"] ∧
    C16Sites.calcStakeRatioCalls = ["SetInt64", "calcPotentialProposal", "SetFloat64", "Quo"] := ⟨rfl, rfl, rfl⟩

/-- `verifyBlockVRF`: proof bytes from the header's big integer, VRF verify, then the rule -/
theorem header_check_call_order :
    C16Sites.verifyBlockVRFCalls =
      ["vrf.VRFProve", "bh.ProveValue.Bytes", "CalDeltaByTime", "vrf.VRFVerify", "genVrfMsg", "validateProve"] := rfl

/-- Every place that slices a proof (`VRFProof2Hash`, `decodeProof`, `calcVrfValueRatio`)
    is reached only with a proof padded to `ProveSize` in the same function — except
    `calcVrfValueRatio` itself, whose only caller (`validateProve`) is in the list and pads.
    An entry of `sliceSites` is (file, function, callee, padded before the call). -/
theorem slice_sites_padded :
    C16Sites.sliceSites.all (fun s => s.2.2.2 || (s.2.1 == "calcVrfValueRatio")) = true ∧
    C16Sites.sliceSites.any (fun s => s.2.1 == "validateProve" && s.2.2.1 == "calcVrfValueRatio" && s.2.2.2) = true ∧
    (C16Sites.sliceSites.filter (fun s => s.2.2.1 == "calcVrfValueRatio")).length = 1 := by decide

/-- No function of `common/ed25519/vrf.go`, `consensus/logical/vrf_with_stake.go`,
    `consensus/vrf/vrf.go` (other than `init`) writes package-level state, as far as go/ast can
    tell: no assignment to / into a package-level variable, no `&v`, no `append`/`copy` into its
    backing array, no mutating method on a package-level receiver or on a local alias of one
    (`rat1`, `max256`, `suite`, `one`, `two` are only read). This is what makes "deterministic
    function of its inputs" independent of call history and of concurrent callers. -/
theorem no_package_state_writes : C16Sites.stateWrites = [] := rfl

/-- The only configuration / fork-schedule reads on the VRF path are the two in `validateProve`
    (`Proposal025Block + GetRewardBlocks()`, the model's `threshold` input). A new `IsProposalNNN()` /
    config branch on the path breaks this obligation (and must then enter the model as an input). -/
theorem config_reads_pinned :
    C16Sites.configReads =
      ["vrf_with_stake.go:validateProve:common.LocalChainConfig.Proposal025Block",
       "vrf_with_stake.go:validateProve:common.GetRewardBlocks"] := rfl

/-- The consensus-side VRF functions never write through a parameter (caller-owned header fields / byte
    slices), with the single recorded exception that `calQn` caps its `stakeRatio` argument in place (a fresh
    `*big.Rat` made by its only caller). In particular `genVrfMsg` does not write into `random`
    (= the parent header's `Random`). go/ast, aliases followed through `x := p`, `x = p[:k]`, `x = append(x, …)`. -/
theorem param_writes_pinned :
    C16Sites.paramWrites =
      [("vrf_with_stake.go", "calQn", "calls stakeRatio.Set (receiver is a parameter)")] := rfl

/-- The slot count is derived from the block's time and the PARENT's time on both sides (never from the
    header's own, unchecked `PreTime` field). -/
theorem slot_times_pinned :
    C16Sites.calDeltaCallArgs =
      ["verifyBlockVRF(bh.CurTime, preBH.CurTime)", "genProve(castTime, vrfWorker.baseBH.CurTime)"] := rfl

end Rangers.Props.C16Gen
