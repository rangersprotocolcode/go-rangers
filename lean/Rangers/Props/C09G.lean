import Rangers.Proofs.C09Envelope
import Rangers.Props.C09B
/-!
# C09, part 7 — the p2p envelope (`network/message.go`) and the frame header (`network/conn.go`)

Every message a peer sends reaches the codecs of parts 1–6 inside `Message{Code, Body}`, read by
golang/protobuf (protobuf-go), inside a 28-byte frame. These theorems are about `Model/WireEnvelope.lean`,
which the driver executes for the ops `em`/`eu`/`fl`/`fu`. Last the transaction request
(`core/msg_handler.go` / `core/msg_sender.go`), a message of its own that protobuf-go reads as well.
-/
namespace Rangers.Props.C09
open Rangers Rangers.Wire Rangers.Json

/-- wire_roundtrip for the protobuf-go reader: what was framed with legal field numbers reads back. -/
theorem wire_roundtrip_raw_v2 (rs : List Raw) (h : RawsWF2 rs) : parseRawV2 (encRaws rs) = some rs :=
  parseRawV2_encRaws rs h

example : RawsWF2 [.vint 1 4294967295, .len 536870911 [7]] := by
  intro r hr
  simp at hr
  rcases hr with rfl | rfl <;> simp [RawWF2]

/-- The two readers differ exactly where protobuf-go is stricter: a field number above 2^29−1 is skipped
    as unknown by gogo and is an error for protobuf-go. -/
example : parseRaw [0x80, 0x80, 0x80, 0x80, 0x10, 0x00] = some [.vint 536870912 0] ∧
    parseRawV2 [0x80, 0x80, 0x80, 0x80, 0x10, 0x00] = none := by decide +kernel

/-- A group whose end marker carries another field number: gogo skips it, protobuf-go rejects it. -/
example : (parseRaw [0x0b, 0x14]).isSome = true ∧ parseRawV2 [0x0b, 0x14] = none := by decide +kernel

def EnvelopeFits (m : Envelope) : Prop := m.code < 2 ^ 32 ∧ ∀ b, m.body = some b → b.length < 2 ^ 64

theorem envelope_wf (m : Envelope) (h : EnvelopeFits m) : RawsWF2 (rawsOfEnvelope ⟨some m.code, m.body⟩) := by
  refine List.forall_mem_cons.mpr ⟨⟨by decide, by decide, Nat.lt_trans h.1 (by decide)⟩, ?_⟩
  show ∀ r ∈ optLenR 2 m.body, RawWF2 r
  cases hb : m.body with
  | none => exact fun _ hr => nomatch hr
  | some b => exact List.forall_mem_cons.mpr ⟨⟨by decide, by decide, h.2 b hb⟩, fun _ hr => nomatch hr⟩

/-- The envelope is lossless: `unMarshalMessage (marshalMessage m) = m` (code and body, nil vs empty kept),
    whatever the source says about the `Code` dereference (the sender always writes the field). -/
theorem envelope_roundtrip (m : Envelope) (h : EnvelopeFits m) :
    unmarshalEnvelope (marshalEnvelope m) = .ok m := by
  unfold unmarshalEnvelope marshalEnvelope decEnvelope encEnvelope
  rw [parseRawV2_encRaws _ (envelope_wf m h)]
  have hc : m.code % 4294967296 = m.code := Nat.mod_eq_of_lt (by have := h.1; omega)
  cases m with
  | mk code body =>
  simp only at hc
  cases body <;> simp [rawsOfEnvelope, lastVint_append, lastLen_append, hc]

example : EnvelopeFits ⟨12, some [1, 2, 3]⟩ := ⟨by decide, fun b hb => by cases hb; decide⟩

/-- Full statement: `unMarshalMessage` yields an object or an error for every byte string. -/
def FullStatement_envelope_total : Prop := ∀ bs : Bytes, IsObjOrErr (unmarshalEnvelope bs)

/-- … proved whenever the source reads `Code` nil-safely (`message.GetCode()` or a dominating nil test) —
    the generated fact `envelopeCodeGuarded`. -/
theorem envelope_total_partial (hg : Generated.C09.envelopeCodeGuarded = true) : FullStatement_envelope_total := by
  intro bs
  unfold unmarshalEnvelope
  cases decEnvelope bs with
  | none => trivial
  | some p =>
    obtain ⟨code, body⟩ := p
    cases code <;> simp only [hg, if_true] <;> trivial

/-- … and false, with the empty body as witness, whenever the source dereferences `*message.Code`
    unconditionally (replayed on the implementation: `network.unMarshalMessage([]byte{})` panics). -/
theorem envelope_total_counterexample (hg : Generated.C09.envelopeCodeGuarded = false) :
    ¬ FullStatement_envelope_total := by
  intro H
  have h := H []
  rw [unmarshalEnvelope, show decEnvelope [] = some ⟨none, none⟩ from by decide] at h
  simp only [hg, Bool.false_eq_true, if_false] at h
  exact h

/-- The two cases of `envelopeCodeGuarded` side by side; as a statement this is excluded middle. -/
theorem envelope_total_decided :
    FullStatement_envelope_total ∨ ¬ FullStatement_envelope_total := by
  cases hg : Generated.C09.envelopeCodeGuarded with
  | true => exact Or.inl (envelope_total_partial hg)
  | false => exact Or.inr (envelope_total_counterexample hg)

/-- An envelope whose `Code` is absent but whose body is present: same two outcomes. -/
example : decEnvelope [0x12, 0x00] = some ⟨none, some []⟩ := by decide

/-- `unloadMsg (loadMsg h body)` returns the body and the header with the method cut/padded to 4 bytes
    and source id 0 (the sender never writes it; the gateway does). -/
theorem frame_roundtrip (method body : Bytes) (t n : Nat) (ht : t < 2 ^ 64) (hn : n < 2 ^ 64) :
    unloadMsg (loadMsg method t n body) = (⟨some (method4 method), 0, t, n⟩, some body) := by
  rw [loadMsg, List.append_assoc, List.append_assoc, List.append_assoc,
    unloadMsg_layout _ _ _ _ _ (method4_length method) List.length_replicate (beFixed_length 8 t) (beFixed_length 8 n),
    beToNat_beFixed_of_lt 8 t ht, beToNat_beFixed_of_lt 8 n hn]
  rfl

/-- `unloadMsg` is total: a frame shorter than the header yields the zero header and a nil body
    (so `doRcv` sees a nil method and drops it), anything else a 4-byte method and a non-nil body. -/
theorem frame_total (m : Bytes) :
    (m.length < 28 → unloadMsg m = (⟨none, 0, 0, 0⟩, none)) ∧
    (28 ≤ m.length → ∃ h, unloadMsg m = (h, some (m.drop 28)) ∧ h.method = some (m.take 4)) := by
  constructor
  · intro h; simp [unloadMsg, h]
  · intro h
    have : ¬ (m.length < 28) := by omega
    exact ⟨_, by simp only [unloadMsg, this, if_false]; rfl, rfl⟩

example : unloadMsg (loadMsg [0x80, 0, 0, 1] 7 9 [0xaa]) = (⟨some [0x80, 0, 0, 1], 0, 7, 9⟩, some [0xaa]) := by decide +kernel

/-- `unMarshalTransactionRequestMessage` yields an object or an error for every byte string, by the construction of
    the model: `unmarshalTxReq` has no faulting branch. The one dereference of the Go function, `*m.BlockHeight`, is
    of a required field, which the reader has checked (`txReqRequired`); it stands in core/msg_handler.go, outside
    the generated `derefSites` (serialization.go only), so no generated fact watches it. -/
theorem parse_total_txreq (bs : Bytes) : IsObjOrErr (unmarshalTxReq bs) := by
  fun_cases unmarshalTxReq bs <;> trivial

/-- What the request carries: 32-byte hashes, a uint64 height, a non-negative prove value. -/
def TxReqValid (m : TxReq) : Prop :=
  (∀ p ∈ m.hashes, p.1.length = 32 ∧ p.2.length = 32) ∧ m.current.length = 32 ∧ m.height < 2 ^ 64 ∧
  ∃ v : Nat, m.pv = some (v : Int) ∧ (natToBE v).length < 2 ^ 64

theorem decTxHashV2_enc (a b : Bytes) (ha : a.length = 32) (hb : b.length = 32) :
    decTxHashV2 (encRaws (rawsOfTxHash ⟨some a, some b⟩)) = some ⟨some a, some b⟩ := by
  have hwf : RawsWF2 (rawsOfTxHash ⟨some a, some b⟩) :=
    List.forall_mem_cons.mpr ⟨⟨by decide, by decide, ha ▸ by decide⟩,
      List.forall_mem_cons.mpr ⟨⟨by decide, by decide, hb ▸ by decide⟩, fun _ h => nomatch h⟩⟩
  simp only [decTxHashV2, parseRawV2_encRaws _ hwf, txHashOfRaws_raws]

theorem encTxHash_length (a b : Bytes) (ha : a.length = 32) (hb : b.length = 32) :
    (encRaws (rawsOfTxHash ⟨some a, some b⟩)).length < 2 ^ 64 := by
  have e34 : encVarint 10 = [10] ∧ encVarint 18 = [18] ∧ encVarint 32 = [32] := by decide
  simp only [rawsOfTxHash, optLenR, List.cons_append, List.nil_append, encRaws, encRaw, ha, hb, e34.1, e34.2.1, e34.2.2,
    List.length_append, List.length_cons, List.append_nil]
  decide

/-- The transaction request is lossless across the two protobuf runtimes (written by gogo, read by protobuf-go). -/
theorem txreq_roundtrip (m : TxReq) (h : TxReqValid m) :
    ∃ bs, marshalTxReq m = .ok bs ∧ unmarshalTxReq bs = .ok m := by
  obtain ⟨hh, hc, hht, v, hpv, hvl⟩ := h
  cases m with
  | mk hashes current height pv =>
  simp only at hh hc hht hpv
  subst hpv
  refine ⟨_, rfl, ?_⟩
  have hchunks : ∀ c ∈ hashes.map (fun p => encRaws (rawsOfTxHash ⟨some p.1, some p.2⟩)), c.length < 2 ^ 64 :=
    List.forall_mem_map.mpr fun p hp => encTxHash_length p.1 p.2 (hh p hp).1 (hh p hp).2
  have hwf : RawsWF2 (rawsOfTxReq ⟨hashes, current, height, some (v : Int)⟩ (v : Int)) :=
    List.forall_mem_append.mpr ⟨RawsWF2_repLenR 1 _ (by decide) (by decide) hchunks,
      List.forall_mem_cons.mpr ⟨⟨by decide, by decide, hc ▸ by decide⟩,
        List.forall_mem_cons.mpr ⟨⟨by decide, by decide, hht⟩,
          List.forall_mem_cons.mpr ⟨⟨by decide, by decide, hvl⟩, fun _ h => nomatch h⟩⟩⟩⟩
  have e1 : allLen 1 (rawsOfTxReq ⟨hashes, current, height, some (v : Int)⟩ (v : Int)) =
      hashes.map (fun p => encRaws (rawsOfTxHash ⟨some p.1, some p.2⟩)) := by
    simp [rawsOfTxReq, allLen_append, allLen]
  -- each chunk is read back as the pair of hashes it was written from
  have em := mapM'_map_map decTxHashV2 _ (fun p : Bytes × Bytes => (⟨some p.1, some p.2⟩ : PbTxHash)) hashes
    (fun p hp => decTxHashV2_enc p.1 p.2 (hh p hp).1 (hh p hp).2)
  have l2 : lastLen 2 (rawsOfTxReq ⟨hashes, current, height, some (v : Int)⟩ (v : Int)) = some current := by
    simp [rawsOfTxReq, lastLen_append, lastLen]
  have l4 : lastLen 4 (rawsOfTxReq ⟨hashes, current, height, some (v : Int)⟩ (v : Int)) = some (natToBE v) := by
    simp [rawsOfTxReq, lastLen_append, lastLen]
  have l3 : lastVint 3 (rawsOfTxReq ⟨hashes, current, height, some (v : Int)⟩ (v : Int)) = some height := by
    simp [rawsOfTxReq, lastVint_append, lastVint]
  have hfix : hashes.map (fun p => (bytesToHash p.1, bytesToHash p.2)) = hashes :=
    C09.map_fix _ hashes (fun p hp => by rw [bytesToHash_id _ (hh p hp).1, bytesToHash_id _ (hh p hp).2])
  simp only [unmarshalTxReq, parseRawV2_encRaws _ hwf, e1, em, txReqRequired, hasLen, hasVint, l2, l3, l4,
    Option.isSome_some, Bool.and_self, if_true, Option.getD_some, optHash, bytesToHash_id _ hc,
    beToNat_natToBE, List.map_map, Function.comp_def, hfix]

example : TxReqValid ⟨[(List.replicate 32 1, List.replicate 32 2)], List.replicate 32 3, 7, some 5⟩ := by
  refine ⟨fun p hp => ?_, by decide, by decide, 5, rfl, by decide⟩
  simp only [List.mem_singleton] at hp
  subst hp
  exact ⟨by decide, by decide⟩

/-- A nil `BlockPv` makes the *sender* fault (`m.BlockPv.Bytes()` on a nil `*big.Int`): in-memory values only,
    no byte string reaches this. -/
example : marshalTxReq ⟨[], List.replicate 32 0, 0, none⟩ = .panic 601 := rfl

end Rangers.Props.C09
