import Rangers.Model.TxAuth
import Rangers.Proofs.TxAuth
import Rangers.Proofs.TxAuthCodec
import Rangers.Proofs.TxAuthRlp
import Rangers.Proofs.TxAuthSender
/-!
# C07 — only authentic transactions are admitted

Theorems about `Rangers.Model.TxAuth.verifyTx`, the function the driver
`drv_c07` executes against `TxPool.VerifyTransaction`.  The cryptographic
primitives are the parameter `cr : Crypto`; nothing is assumed about them
unless a hypothesis says so, and soundness statements end in an explicit
collision / second-signature witness instead of a hardness assumption.
-/
namespace Rangers.Props.C07
open Rangers Rangers.Model.TxAuth

/-- a toy instance of the primitives, used only to show hypotheses are satisfiable
    and to state counterexamples (nothing is claimed about real cryptography) -/
def toyCrypto : Crypto :=
  { sha256 := fun _ => List.replicate 32 7, keccak := fun _ => List.replicate 32 1,
    recoverCore := fun _ _ _ _ => some [4], verifyCore := fun _ _ _ _ => true }

def toyCfg : ChainCfg :=
  { chainId := [57], originalChainId := [57], proposal001Block := 0, genesisChainId := none }

/-- an accepted toy transaction whose recovery id is spelled 27 -/
def toyNative : Tx :=
  { source := toHex0x (toAddress (List.replicate 32 1)), target := [], type := 0, time := [], data := [],
    extraData := [], hash := List.replicate 32 7, sign := some ⟨1, 1, 27⟩, nonce := 0, chainId := [57],
    extraDataType := 0, requestId := 0, socketRequestId := [], subHash := [] }

theorem toyNative_accepted : verifyNative toyCrypto toyCfg 0 toyNative = .ok := by decide +kernel

theorem verifyTx_of_eth {cr : Crypto} {cfg : ChainCfg} {h : Nat} {tx : Tx} (ht : tx.type = typeETHTX) :
    verifyTx cr cfg h tx = verifyEth cr cfg h tx := if_pos ht

theorem verifyTx_of_native {cr : Crypto} {cfg : ChainCfg} {h : Nat} {tx : Tx} (ht : tx.type ≠ typeETHTX) :
    verifyTx cr cfg h tx = verifyNative cr cfg h tx := if_neg ht

theorem verifySign_iff (cr : Crypto) (tx : Tx) :
    verifySign cr tx = true ↔
      ∃ sg pk, tx.sign = some sg ∧ recoverPubkey cr tx.hash sg.bytes = some pk ∧
        libVerify cr pk tx.hash (sg.bytes.take 64) = true ∧ tx.source = nativeAddrStr cr pk := by
  unfold verifySign
  constructor
  · intro h
    cases hs : tx.sign with
    | none => rw [hs] at h; cases h
    | some sg =>
      rw [hs] at h
      dsimp only at h
      cases hr : recoverPubkey cr tx.hash sg.bytes with
      | none => rw [hr] at h; cases h
      | some pk =>
        rw [hr] at h
        dsimp only at h
        rw [Bool.and_eq_true, beq_iff_eq] at h
        exact ⟨sg, pk, rfl, hr, h.1, h.2⟩
  · rintro ⟨sg, pk, hs, hr, hv, hsrc⟩
    rw [hs]
    dsimp only
    rw [hr]
    dsimp only
    rw [Bool.and_eq_true, beq_iff_eq]
    exact ⟨hv, hsrc⟩

/-- Acceptance of a native transaction is exactly: chain id is the chain's, the
    hash is the digest of the transaction's own content, the signature recovers a
    key that verifies for that hash and whose address is the declared sender. -/
theorem native_accept_iff (cr : Crypto) (cfg : ChainCfg) (h : Nat) (tx : Tx) :
    verifyNative cr cfg h tx = .ok ↔
      tx.chainId = chainIdStr cfg h ∧ tx.hash = cr.sha256 (ser tx) ∧
      ∃ sg pk, tx.sign = some sg ∧ recoverPubkey cr tx.hash sg.bytes = some pk ∧
        libVerify cr pk tx.hash (sg.bytes.take 64) = true ∧ tx.source = nativeAddrStr cr pk := by
  rw [← verifySign_iff]
  unfold verifyNative
  by_cases hc : tx.chainId = chainIdStr cfg h
  · by_cases hh : tx.hash = cr.sha256 (ser tx)
    · rw [if_neg (not_not_intro hc), if_neg (not_not_intro hh)]
      cases verifySign cr tx
      · exact ⟨nofun, fun h => nomatch h.2.2⟩
      · exact ⟨fun _ => ⟨hc, hh, rfl⟩, fun _ => rfl⟩
    · rw [if_neg (not_not_intro hc), if_pos hh]
      exact ⟨nofun, fun h => absurd h.2.1 hh⟩
  · rw [if_pos hc]
    exact ⟨nofun, fun h => absurd h.1 hc⟩

example : ∃ cr cfg h tx, verifyNative cr cfg h tx = .ok :=
  ⟨toyCrypto, toyCfg, 0, toyNative, toyNative_accepted⟩

theorem verifyNative_of_chainId_ne {cr : Crypto} {cfg : ChainCfg} {h : Nat} {tx : Tx}
    (hc : tx.chainId ≠ chainIdStr cfg h) : verifyNative cr cfg h tx = .chainId := if_pos hc

theorem verifyNative_of_hash_ne {cr : Crypto} {cfg : ChainCfg} {h : Nat} {tx : Tx}
    (hc : tx.chainId = chainIdStr cfg h) (hh : tx.hash ≠ cr.sha256 (ser tx)) :
    verifyNative cr cfg h tx = .hash :=
  (if_neg (not_not_intro hc)).trans (if_pos hh)

/-- A changed hash is always rejected (no cryptographic assumption). -/
theorem hash_mutation_rejected (cr : Crypto) (cfg : ChainCfg) (h : Nat) (tx : Tx) (h' : Bytes)
    (hacc : verifyNative cr cfg h tx = .ok) (hne : h' ≠ tx.hash) :
    verifyNative cr cfg h { tx with hash := h' } = .hash := by
  have ⟨hc, hh, _⟩ := (native_accept_iff cr cfg h tx).1 hacc
  -- `ser` does not read the hash field
  exact verifyNative_of_hash_ne hc (hh ▸ hne)

theorem chainid_mutation_rejected (cr : Crypto) (cfg : ChainCfg) (h : Nat) (tx : Tx) (c' : Bytes)
    (hacc : verifyNative cr cfg h tx = .ok) (hne : c' ≠ tx.chainId) :
    verifyNative cr cfg h { tx with chainId := c' } = .chainId := by
  have ⟨hc, _, _⟩ := (native_accept_iff cr cfg h tx).1 hacc
  exact verifyNative_of_chainId_ne (hc ▸ hne)

/-- The same signed bytes are not accepted at a height where the chain id differs
    (before / after `Proposal001Block`). -/
theorem other_height_rejected (cr : Crypto) (cfg : ChainCfg) (h h' : Nat) (tx : Tx)
    (hacc : verifyNative cr cfg h tx = .ok) (hne : chainIdStr cfg h' ≠ chainIdStr cfg h) :
    verifyNative cr cfg h' tx = .chainId := by
  have ⟨hc, _, _⟩ := (native_accept_iff cr cfg h tx).1 hacc
  exact verifyNative_of_chainId_ne (hc ▸ hne.symm)

example : ∃ cfg h h', chainIdStr cfg h' ≠ chainIdStr cfg h :=
  ⟨{ chainId := [50], originalChainId := [56], proposal001Block := 5, genesisChainId := none }, 5, 4, by decide⟩

/-- The fields no check looks at: the verdict does not depend on them (so they
    are *not* authenticated; the property's "authenticated fields" are the others). -/
theorem unauthenticated_fields_ignored (cr : Crypto) (cfg : ChainCfg) (h : Nat) (tx : Tx)
    (edt : Int) (rid : Nat) (sock sub : Bytes) :
    verifyTx cr cfg h { tx with extraDataType := edt, requestId := rid, socketRequestId := sock, subHash := sub }
      = verifyTx cr cfg h tx := rfl

/-- Honestly produced transactions are accepted: whenever the primitives recover
    from `Sign` a key that verifies, the transaction carrying this chain's id, the
    digest of its own content and that key's address as `Source` is admitted. -/
theorem honest_native_accepted (cr : Crypto) (cfg : ChainCfg) (h : Nat) (tx : Tx) (sg : Sign) (pk : Bytes)
    (hty : tx.type ≠ typeETHTX)
    (hcid : tx.chainId = chainIdStr cfg h) (hhash : tx.hash = cr.sha256 (ser tx))
    (hsign : tx.sign = some sg)
    (hrec : recoverPubkey cr tx.hash sg.bytes = some pk)
    (hver : libVerify cr pk tx.hash (sg.bytes.take 64) = true)
    (hsrc : tx.source = nativeAddrStr cr pk) :
    verifyTx cr cfg h tx = .ok := by
  rw [verifyTx_of_native hty]
  exact (native_accept_iff cr cfg h tx).2 ⟨hcid, hhash, sg, pk, hsign, hrec, hver, hsrc⟩

/-- The full signature clause: changing `Sign` of an accepted transaction makes it rejected. -/
def FullStatementSignBound : Prop :=
  ∀ (cr : Crypto) (cfg : ChainCfg) (h : Nat) (tx : Tx) (sg' : Option Sign),
    verifyNative cr cfg h tx = .ok → sg' ≠ tx.sign →
    verifyNative cr cfg h { tx with sign := sg' } ≠ .ok

/-- For *every* instance of the primitives: respelling the recovery id 27..30 as
    0..3 (what `secp256k1.checkSignature` does before the library call) turns an
    accepted transaction into another accepted transaction with a different `Sign`. -/
theorem sign_recid_alias_accepted (cr : Crypto) (cfg : ChainCfg) (h : Nat) (tx : Tx) (sg : Sign)
    (hs : tx.sign = some sg) (hacc : verifyNative cr cfg h tx = .ok)
    (h1 : 27 ≤ sg.recid) (h2 : sg.recid ≤ 30) :
    verifyNative cr cfg h { tx with sign := some { sg with recid := sg.recid - 27 } } = .ok := by
  obtain ⟨hc, hh, sg0, pk, hs0, hrec, hver, hsrc⟩ := (native_accept_iff cr cfg h tx).1 hacc
  rw [hs] at hs0
  cases hs0
  have hb := Sign.body_length (recoverPubkey_len _ _ _ _ hrec)
  apply (native_accept_iff cr cfg h _).2
  refine ⟨hc, hh, { sg with recid := sg.recid - 27 }, pk, rfl, ?_, ?_, hsrc⟩
  · show recoverPubkey cr tx.hash (sg.body ++ [sg.recid - 27]) = some pk
    rw [recoverPubkey_alias _ _ _ _ hb h1 h2]
    exact hrec
  · -- both spellings have the same first 64 bytes
    show libVerify cr pk tx.hash ((sg.body ++ [sg.recid - 27]).take 64) = true
    rw [List.take_left' hb]
    rw [Sign.bytes_eq, List.take_left' hb] at hver
    exact hver

example : verifyNative toyCrypto toyCfg 0 toyNative = .ok := toyNative_accepted

/-- The full signature clause is false of the model as of the code (known finding
    `native-sign-recid-alias-accepted`, replayed by the searcher on every run). -/
theorem sign_bound_counterexample : ¬ FullStatementSignBound := by
  intro hfull
  have := sign_recid_alias_accepted toyCrypto toyCfg 0 toyNative ⟨1, 1, 27⟩ rfl toyNative_accepted
    (by decide) (by decide)
  exact hfull toyCrypto toyCfg 0 toyNative (some ⟨1, 1, 0⟩) toyNative_accepted (by decide) this

/-- What does hold for a changed signature: if the mutant is accepted, the new
    `Sign` is a second signature of the *same* hash that recovers to a key which
    verifies and has the *same* address — i.e. either the same signature respelled
    (recovery-id alias above) or a second valid signature for the sender's address. -/
theorem sign_mutation_partial (cr : Crypto) (cfg : ChainCfg) (h : Nat) (tx : Tx) (sg' : Option Sign)
    (hacc : verifyNative cr cfg h tx = .ok)
    (hacc' : verifyNative cr cfg h { tx with sign := sg' } = .ok) :
    ∃ sg pk s' pk', tx.sign = some sg ∧ sg' = some s' ∧
      recoverPubkey cr tx.hash sg.bytes = some pk ∧ recoverPubkey cr tx.hash s'.bytes = some pk' ∧
      libVerify cr pk tx.hash (sg.bytes.take 64) = true ∧ libVerify cr pk' tx.hash (s'.bytes.take 64) = true ∧
      nativeAddrStr cr pk' = nativeAddrStr cr pk := by
  obtain ⟨_, _, sg, pk, hs, hrec, hver, hsrc⟩ := (native_accept_iff cr cfg h tx).1 hacc
  obtain ⟨_, _, s', pk', hs', hrec', hver', hsrc'⟩ := (native_accept_iff cr cfg h _).1 hacc'
  exact ⟨sg, pk, s', pk', hs, hs', hrec, hrec', hver, hver', by rw [← hsrc', ← hsrc]⟩

/-- The 65 signature bytes on the wire are exactly the bytes the recovery and the
    verification see (`BytesToSign` then `Sign.Bytes()` is the identity), so two
    different wire signatures — e.g. any single-bit flip — are different inputs to
    the checks; nothing is normalised away by the big-integer representation. -/
theorem sign_wire_faithful (b b' : Bytes) (sg sg' : Sign)
    (h : bytesToSign b = some sg) (h' : bytesToSign b' = some sg') :
    sg.bytes = b ∧ (b ≠ b' → sg.bytes ≠ sg'.bytes) := by
  have e := sign_bytes_roundtrip b sg h
  have e' := sign_bytes_roundtrip b' sg' h'
  exact ⟨e, fun hne heq => hne (by rw [← e, ← e', heq])⟩

example : ∃ b sg, bytesToSign b = some sg := ⟨List.replicate 65 1, _, rfl⟩

/-- the eight fields `GenHash` concatenates -/
inductive HashedField where
  | data | nonce | source | target | type | time | extraData | chainId
deriving DecidableEq, Repr

def AgreeExcept (f : HashedField) (a b : Tx) : Prop :=
  (f ≠ .data → a.data = b.data) ∧ (f ≠ .nonce → a.nonce = b.nonce) ∧
  (f ≠ .source → a.source = b.source) ∧ (f ≠ .target → a.target = b.target) ∧
  (f ≠ .type → a.type = b.type) ∧ (f ≠ .time → a.time = b.time) ∧
  (f ≠ .extraData → a.extraData = b.extraData) ∧ (f ≠ .chainId → a.chainId = b.chainId)

def Differs (f : HashedField) (a b : Tx) : Prop :=
  match f with
  | .data => a.data ≠ b.data | .nonce => a.nonce ≠ b.nonce | .source => a.source ≠ b.source
  | .target => a.target ≠ b.target | .type => a.type ≠ b.type | .time => a.time ≠ b.time
  | .extraData => a.extraData ≠ b.extraData | .chainId => a.chainId ≠ b.chainId

def HashedField.bytes (tx : Tx) : HashedField → Bytes
  | .data => tx.data | .nonce => decimal tx.nonce | .source => tx.source | .target => tx.target
  | .type => decimalInt tx.type | .time => tx.time | .extraData => tx.extraData | .chainId => tx.chainId

/-- the order in which `GenHash` writes the fields -/
def HashedField.order : List HashedField :=
  [.data, .nonce, .source, .target, .type, .time, .extraData, .chainId]

theorem ser_eq_flatMap (tx : Tx) : ser tx = HashedField.order.flatMap (HashedField.bytes tx) := by
  simp only [ser, HashedField.order, HashedField.bytes, List.flatMap_cons, List.flatMap_nil,
    List.append_assoc, List.append_nil]

theorem HashedField.mem_order (f : HashedField) : f ∈ HashedField.order := by cases f <;> decide

theorem HashedField.bytes_eq_of_agree {f g : HashedField} {a b : Tx} (hag : AgreeExcept f a b) (hg : g ≠ f) :
    HashedField.bytes a g = HashedField.bytes b g := by
  obtain ⟨h1, h2, h3, h4, h5, h6, h7, h8⟩ := hag
  cases g
  · exact h1 hg.symm
  · exact congrArg decimal (h2 hg.symm)
  · exact h3 hg.symm
  · exact h4 hg.symm
  · exact congrArg decimalInt (h5 hg.symm)
  · exact h6 hg.symm
  · exact h7 hg.symm
  · exact h8 hg.symm

/-- the renderings are injective: `strconv.FormatUint` and `strconv.Itoa` for nonce and type -/
theorem HashedField.bytes_ne_of_differs {f : HashedField} {a b : Tx} (hd : Differs f a b) :
    HashedField.bytes a f ≠ HashedField.bytes b f := by
  cases f
  · exact hd
  · exact fun h => hd (decimal_injective h)
  · exact hd
  · exact hd
  · exact fun h => hd (decimalInt_injective h)
  · exact hd
  · exact hd
  · exact hd

/-- Changing exactly one of the eight hashed fields changes the hashed byte string
    (prefix/suffix cancellation; the decimal renderings are injective). -/
theorem single_field_changes_ser (f : HashedField) (a b : Tx)
    (hag : AgreeExcept f a b) (hd : Differs f a b) : ser a ≠ ser b := by
  intro heq
  rw [ser_eq_flatMap, ser_eq_flatMap] at heq
  exact HashedField.bytes_ne_of_differs hd
    (flatMap_eq_cancel _ _ f HashedField.order (by decide) f.mem_order
      (fun g _ hg => HashedField.bytes_eq_of_agree hag hg) heq)

/-- An accepted single-field mutant of an accepted native transaction (same hash
    and signature, one hashed field changed) exhibits a SHA-256 collision. -/
theorem mutation_rejected_or_collision (cr : Crypto) (cfg : ChainCfg) (h : Nat)
    (f : HashedField) (a b : Tx)
    (hacc : verifyNative cr cfg h a = .ok) (hacc' : verifyNative cr cfg h b = .ok)
    (hhash : b.hash = a.hash) (hag : AgreeExcept f a b) (hd : Differs f a b) :
    cr.sha256 (ser a) = cr.sha256 (ser b) ∧ ser a ≠ ser b := by
  have ⟨_, ha, _⟩ := (native_accept_iff cr cfg h a).1 hacc
  have ⟨_, hb, _⟩ := (native_accept_iff cr cfg h b).1 hacc'
  exact ⟨by rw [← ha, ← hb, hhash], single_field_changes_ser f a b hag hd⟩

example : ∃ a b : Tx, AgreeExcept .nonce a b ∧ Differs .nonce a b :=
  ⟨{ source := [], target := [], type := 0, time := [], data := [], extraData := [], hash := [], sign := none,
     nonce := 1, chainId := [], extraDataType := 0, requestId := 0, socketRequestId := [], subHash := [] },
   { source := [], target := [], type := 0, time := [], data := [], extraData := [], hash := [], sign := none,
     nonce := 2, chainId := [], extraDataType := 0, requestId := 0, socketRequestId := [], subHash := [] },
   by simp [AgreeExcept], by simp [Differs]⟩

/-- The concatenation has no separators: moving a digit from the end of `Data`
    to the front of `Nonce` (two fields change) leaves the hashed bytes, hence hash
    and signature, unchanged.  Recorded as a fact about the code; it is outside the
    property's single-field quantifier. -/
theorem ser_boundary_ambiguity :
    ∃ a b : Tx, a.data ≠ b.data ∧ a.nonce ≠ b.nonce ∧ ser a = ser b ∧
      ∀ cr cfg h, verifyNative cr cfg h a = verifyNative cr cfg h { b with hash := a.hash, sign := a.sign } :=
  ⟨{ source := [], target := [], type := 0, time := [], data := [49], extraData := [], hash := [], sign := none,
     nonce := 23, chainId := [], extraDataType := 0, requestId := 0, socketRequestId := [], subHash := [] },
   { source := [], target := [], type := 0, time := [], data := [49, 50], extraData := [], hash := [], sign := none,
     nonce := 3, chainId := [], extraDataType := 0, requestId := 0, socketRequestId := [], subHash := [] },
   by decide +kernel, by decide +kernel, by decide +kernel, fun _ _ _ => rfl⟩

theorem compareTx_iff (tx exp : Tx) :
    compareTx tx exp = true ↔
      tx.source = exp.source ∧ tx.target = exp.target ∧ tx.type = exp.type ∧
      tx.extraData = exp.extraData ∧ tx.nonce = exp.nonce ∧ tx.chainId = exp.chainId ∧
      tx.data = exp.data ∧ tx.hash = exp.hash := by
  unfold compareTx
  simp only [Bool.and_eq_true, beq_iff_eq, and_assoc]

theorem verifyEth_eq (cr : Crypto) (cfg : ChainCfg) (h : Nat) (tx : Tx) :
    verifyEth cr cfg h tx =
      match decodeTx (fromHex tx.extraData) with
      | none => .illegal
      | some e =>
        if encodeTx e ≠ fromHex tx.extraData then .illegal
        else match ethSender cr (ethChainId cfg h) e with
          | none => .illegal
          | some sender =>
            if compareTx tx (convertTx cr e sender (fromHex tx.extraData)) then .ok else .illegal := rfl

/-- Acceptance of a wrapped Ethereum transaction is exactly: `ExtraData` is the
    canonical hex of a canonical RLP payload, the EIP-155 signer of this chain
    recovers a sender from it, and every declared field equals the value derived
    from the payload. -/
theorem eth_accept_iff (cr : Crypto) (cfg : ChainCfg) (h : Nat) (tx : Tx) :
    verifyEth cr cfg h tx = .ok ↔
      ∃ e sender, decodeTx (fromHex tx.extraData) = some e ∧
        encodeTx e = fromHex tx.extraData ∧
        ethSender cr (ethChainId cfg h) e = some sender ∧
        tx.source = toHex0x sender ∧
        tx.target = (match e.to with | some a => toHex0x a | none => []) ∧
        tx.type = typeETHTX ∧
        tx.extraData = toHex0x (fromHex tx.extraData) ∧
        tx.nonce = e.nonce ∧
        tx.chainId = decimal (deriveChainId e.v) ∧
        tx.data = contractDataJson e ∧
        tx.hash = cr.keccak (fromHex tx.extraData) := by
  constructor
  · intro hok
    unfold verifyEth at hok
    dsimp only at hok
    cases hd : decodeTx (fromHex tx.extraData) with
    | none => rw [hd] at hok; cases hok
    | some e =>
      rw [hd] at hok
      dsimp only at hok
      by_cases henc : encodeTx e = fromHex tx.extraData
      · rw [if_neg (not_not_intro henc)] at hok
        cases hs : ethSender cr (ethChainId cfg h) e with
        | none => rw [hs] at hok; cases hok
        | some sender =>
          rw [hs] at hok
          dsimp only at hok
          cases hcmp : compareTx tx (convertTx cr e sender (fromHex tx.extraData)) with
          | false => rw [hcmp] at hok; cases hok
          | true =>
            obtain ⟨h1, h2, h3, h4, h5, h6, h7, h8⟩ := (compareTx_iff _ _).1 hcmp
            -- the expected hash is Keccak of the re-encoding, which is the payload
            exact ⟨e, sender, rfl, henc, hs, h1, h2, h3, h4, h5, h6, h7, h8.trans (congrArg cr.keccak henc)⟩
      · rw [if_pos henc] at hok; cases hok
  · rintro ⟨e, sender, hd, henc, hs, h1, h2, h3, h4, h5, h6, h7, h8⟩
    unfold verifyEth
    dsimp only
    rw [hd]
    dsimp only
    rw [if_neg (not_not_intro henc), hs]
    dsimp only
    rw [if_pos ((compareTx_iff _ _).2 ⟨h1, h2, h3, h4, h5, h6, h7, h8.trans (congrArg cr.keccak henc.symm)⟩)]

/-- an EIP-155 payload for chain 9 (v = 2·9+35) and its wrapped form -/
def toyEth155 : EthTx := { nonce := 3, price := 1, gas := 21000, to := none, value := 5, data := [1, 2], v := 53, r := 1, s := 1 }
def toyWrapped (e : EthTx) : Tx := convertTx toyCrypto e (List.replicate 20 1) (encodeTx e)

/-- Hash of an accepted wrapped transaction is the Keccak digest of exactly the
    bytes in `ExtraData` (the signed RLP payload). -/
theorem eth_hash_is_payload_digest (cr : Crypto) (cfg : ChainCfg) (h : Nat) (tx : Tx)
    (hacc : verifyEth cr cfg h tx = .ok) :
    tx.hash = cr.keccak (fromHex tx.extraData) ∧ tx.extraData = toHex0x (fromHex tx.extraData) := by
  obtain ⟨e, s, _, _, _, _, _, _, hx, _, _, _, hh⟩ := (eth_accept_iff cr cfg h tx).1 hacc
  exact ⟨hh, hx⟩

/-- Declared sender, target, nonce, chain id, value/gas/data (`Data`) and hash of an
    accepted wrapped transaction are functions of the signed payload: two accepted
    transactions with the same `ExtraData` agree on all of them. -/
theorem eth_fields_bound (cr : Crypto) (cfg : ChainCfg) (h : Nat) (tx tx' : Tx)
    (hacc : verifyEth cr cfg h tx = .ok) (hacc' : verifyEth cr cfg h tx' = .ok)
    (hx : tx'.extraData = tx.extraData) :
    tx'.source = tx.source ∧ tx'.target = tx.target ∧ tx'.type = tx.type ∧ tx'.nonce = tx.nonce ∧
      tx'.chainId = tx.chainId ∧ tx'.data = tx.data ∧ tx'.hash = tx.hash := by
  obtain ⟨e, s, hd, _, hs, h1, h2, h3, _, h5, h6, h7, h8⟩ := (eth_accept_iff cr cfg h tx).1 hacc
  obtain ⟨e', s', hd', _, hs', h1', h2', h3', _, h5', h6', h7', h8'⟩ := (eth_accept_iff cr cfg h tx').1 hacc'
  rw [hx] at hd' h8'
  rw [hd] at hd'
  cases hd'
  rw [hs] at hs'
  cases hs'
  exact ⟨by rw [h1, h1'], by rw [h2, h2'], by rw [h3, h3'], by rw [h5, h5'], by rw [h6, h6'],
    by rw [h7, h7'], by rw [h8, h8']⟩

/-- Changing exactly one declared field (sender, target, nonce, chain id, data or
    hash) of an accepted wrapped transaction makes it rejected — unconditionally. -/
theorem eth_field_mutation_rejected (cr : Crypto) (cfg : ChainCfg) (h : Nat) (tx tx' : Tx)
    (hacc : verifyEth cr cfg h tx = .ok) (hx : tx'.extraData = tx.extraData)
    (hdiff : tx'.source ≠ tx.source ∨ tx'.target ≠ tx.target ∨ tx'.nonce ≠ tx.nonce ∨
      tx'.chainId ≠ tx.chainId ∨ tx'.data ≠ tx.data ∨ tx'.hash ≠ tx.hash) :
    verifyEth cr cfg h tx' ≠ .ok := by
  intro hacc'
  obtain ⟨a, b, _, c, d, e, f⟩ := eth_fields_bound cr cfg h tx tx' hacc hacc' hx
  rcases hdiff with hd | hd | hd | hd | hd | hd
  · exact hd a
  · exact hd b
  · exact hd c
  · exact hd d
  · exact hd e
  · exact hd f

example : ∃ tx' : Tx, tx'.extraData = (toyWrapped toyEth155).extraData ∧ tx'.nonce ≠ (toyWrapped toyEth155).nonce :=
  ⟨{ toyWrapped toyEth155 with nonce := 4 }, rfl, by decide⟩

/-- Changing the signed payload (`ExtraData`) of an accepted wrapped transaction,
    everything else kept, is rejected unless the two payloads are a Keccak collision.
    This covers every single-bit flip of the RLP payload, signature values included. -/
theorem eth_payload_mutation_rejected_or_collision (cr : Crypto) (cfg : ChainCfg) (h : Nat) (tx : Tx) (x' : Bytes)
    (hacc : verifyEth cr cfg h tx = .ok) (hne : x' ≠ tx.extraData)
    (hacc' : verifyEth cr cfg h { tx with extraData := x' } = .ok) :
    cr.keccak (fromHex x') = cr.keccak (fromHex tx.extraData) ∧ fromHex x' ≠ fromHex tx.extraData := by
  obtain ⟨hh, hc⟩ := eth_hash_is_payload_digest cr cfg h tx hacc
  obtain ⟨hh', hc'⟩ := eth_hash_is_payload_digest cr cfg h _ hacc'
  have e1 : ({ tx with extraData := x' } : Tx).hash = tx.hash := rfl
  have e2 : ({ tx with extraData := x' } : Tx).extraData = x' := rfl
  rw [e1, e2] at hh'
  rw [e2] at hc'
  refine ⟨by rw [← hh', ← hh], fun heq => hne ?_⟩
  rw [hc', hc, heq]

theorem payload_roundtrip (e : EthTx) (wf : WfEthTx e) :
    fromHex (toHex0x (encodeTx e)) = encodeTx e ∧ decodeTx (encodeTx e) = some e :=
  ⟨fromHex_toHex0x _ (encodeTx_ne_nil e), decodeTx_encodeTx e wf⟩

theorem honest_eth_accepted_of_roundtrip (cr : Crypto) (cfg : ChainCfg) (h : Nat) (e : EthTx) (sender : Bytes)
    (hhex : fromHex (toHex0x (encodeTx e)) = encodeTx e)
    (hrlp : decodeTx (encodeTx e) = some e)
    (hsnd : ethSender cr (ethChainId cfg h) e = some sender) :
    verifyTx cr cfg h (convertTx cr e sender (encodeTx e)) = .ok := by
  have hx : fromHex (convertTx cr e sender (encodeTx e)).extraData = encodeTx e := hhex
  rw [verifyTx_of_eth rfl]
  apply (eth_accept_iff cr cfg h _).2
  rw [hx]
  exact ⟨e, sender, hrlp, rfl, hsnd, rfl, rfl, rfl, rfl, rfl, rfl, rfl, rfl⟩

/-- Honestly signed wrapped transactions are always accepted: for every well-formed
    Ethereum transaction whose signer the chain's EIP-155 rules recover, the wrapped
    form built by `ConvertTx` (what `eth_rpc.SendRawTransaction` submits) is admitted. -/
theorem honest_eth_accepted (cr : Crypto) (cfg : ChainCfg) (h : Nat) (e : EthTx) (sender : Bytes)
    (wf : WfEthTx e) (hsnd : ethSender cr (ethChainId cfg h) e = some sender) :
    verifyTx cr cfg h (convertTx cr e sender (encodeTx e)) = .ok :=
  honest_eth_accepted_of_roundtrip cr cfg h e sender (payload_roundtrip e wf).1 (payload_roundtrip e wf).2 hsnd

theorem toyEth155_wf : WfEthTx toyEth155 :=
  ⟨by decide, by decide, nofun, by
    simp only [toyEth155, itemOfTx, coreItems, toItem, List.cons_append, List.nil_append, RLP.Item.sizeOK,
      RLP.Item.sizeOKs]
    decide +kernel⟩

theorem toyEth155_sender :
    ethSender toyCrypto (ethChainId toyCfg 0) toyEth155 = some (List.replicate 20 1) := by decide +kernel

example : WfEthTx toyEth155 := toyEth155_wf

example : fromHex (toHex0x (encodeTx toyEth155)) = encodeTx toyEth155 ∧
    decodeTx (encodeTx toyEth155) = some toyEth155 ∧
    ethSender toyCrypto (ethChainId toyCfg 0) toyEth155 = some (List.replicate 20 1) :=
  ⟨(payload_roundtrip _ toyEth155_wf).1, (payload_roundtrip _ toyEth155_wf).2, toyEth155_sender⟩

theorem toyEth155_accepted : verifyEth toyCrypto toyCfg 0 (toyWrapped toyEth155) = .ok :=
  (verifyTx_of_eth rfl).symm.trans (honest_eth_accepted toyCrypto toyCfg 0 toyEth155 _ toyEth155_wf toyEth155_sender)

example : verifyEth toyCrypto toyCfg 0 (toyWrapped toyEth155) = .ok := toyEth155_accepted

/-- The full EIP-155 clause of the property: an accepted wrapped transaction is
    replay-protected and signed for this chain's id. -/
def FullStatementEthChainBound : Prop :=
  ∀ (cr : Crypto) (cfg : ChainCfg) (h : Nat) (tx : Tx), verifyEth cr cfg h tx = .ok →
    ∃ e, decodeTx (fromHex tx.extraData) = some e ∧ isProtectedV e.v = true ∧
      deriveChainId e.v = ethChainId cfg h

/-- What does hold: an accepted payload is either EIP-155 for this chain's id, or
    an unprotected (v = 27/28) signature and then the declared chain id is "0". -/
theorem eth_chain_bound_partial (cr : Crypto) (cfg : ChainCfg) (h : Nat) (tx : Tx)
    (hacc : verifyEth cr cfg h tx = .ok) :
    ∃ e, decodeTx (fromHex tx.extraData) = some e ∧
      ((isProtectedV e.v = true ∧ deriveChainId e.v = ethChainId cfg h ∧
          tx.chainId = decimal (ethChainId cfg h)) ∨
       (isProtectedV e.v = false ∧ (e.v = 27 ∨ e.v = 28) ∧ tx.chainId = [48])) := by
  obtain ⟨e, s, hd, _, hs, _, _, _, _, _, hcid, _, _⟩ := (eth_accept_iff cr cfg h tx).1 hacc
  refine ⟨e, hd, ?_⟩
  rcases (ethSender_eq_some_iff cr _ e s).1 hs with ⟨hp, _⟩ | ⟨hp, hc, _⟩
  · have hv := (isProtectedV_eq_false_iff e.v).1 hp
    refine Or.inr ⟨hp, hv, ?_⟩
    rw [hcid]
    rcases hv with hv | hv
    · rw [hv]
      decide
    · rw [hv]
      decide
  · exact Or.inl ⟨hp, hc, by rw [hcid, hc]⟩

/-- a pre-EIP-155 (Homestead, v = 27) payload -/
def toyEthUnprotected : EthTx := { toyEth155 with v := 27 }

/-- The full clause is false of the model, as it is of the code (known finding
    `eth-unprotected-accepted`, replayed by the searcher on every run). -/
theorem eth_chain_bound_counterexample : ¬ FullStatementEthChainBound := by
  intro hfull
  have wf : WfEthTx toyEthUnprotected :=
    ⟨by decide, by decide, nofun, by
      simp only [toyEthUnprotected, toyEth155, itemOfTx, coreItems, toItem, List.cons_append, List.nil_append,
        RLP.Item.sizeOK, RLP.Item.sizeOKs]
      decide +kernel⟩
  have hacc : verifyEth toyCrypto toyCfg 0 (toyWrapped toyEthUnprotected) = .ok :=
    (verifyTx_of_eth rfl).symm.trans (honest_eth_accepted _ _ _ _ _ wf (by decide +kernel))
  obtain ⟨e, hd, hp, _⟩ := hfull toyCrypto toyCfg 0 _ hacc
  -- the accepted payload is unprotected: it declares chain id "0", not the chain's "9"
  obtain ⟨e', hd', hcase⟩ := eth_chain_bound_partial toyCrypto toyCfg 0 _ hacc
  rw [hd] at hd'
  cases hd'
  rcases hcase with ⟨_, _, hcid⟩ | ⟨hp', _⟩
  · revert hcid; decide
  · rw [hp] at hp'; cases hp'

/-- A wrapped transaction that declares a chain id other than "0" is EIP-155
    protected and signed for exactly this chain's id. -/
theorem eth_chain_bound_declared (cr : Crypto) (cfg : ChainCfg) (h : Nat) (tx : Tx)
    (hacc : verifyEth cr cfg h tx = .ok) (hnz : tx.chainId ≠ [48]) :
    ∃ e, decodeTx (fromHex tx.extraData) = some e ∧ isProtectedV e.v = true ∧
      deriveChainId e.v = ethChainId cfg h ∧ tx.chainId = decimal (ethChainId cfg h) := by
  obtain ⟨e, hd, hcase⟩ := eth_chain_bound_partial cr cfg h tx hacc
  rcases hcase with ⟨hp, hc, hs⟩ | ⟨_, _, hz⟩
  · exact ⟨e, hd, hp, hc, hs⟩
  · exact absurd hz hnz

example : (toyWrapped toyEth155).chainId ≠ [48] := by decide

/-- The ETH counterpart of `other_height_rejected`, for every configuration: a protected payload is signed
    for one chain id, so a wrapped transaction admitted at two heights whose signer chain ids differ is an
    unprotected one (declared chain id "0"). -/
theorem eth_other_height_unprotected (cr : Crypto) (cfg : ChainCfg) (h h' : Nat) (tx : Tx)
    (hacc : verifyEth cr cfg h tx = .ok) (hacc' : verifyEth cr cfg h' tx = .ok)
    (hne : ethChainId cfg h ≠ ethChainId cfg h') : tx.chainId = [48] := by
  obtain ⟨e, hd, hc⟩ := eth_chain_bound_partial cr cfg h tx hacc
  obtain ⟨e', hd', hc'⟩ := eth_chain_bound_partial cr cfg h' tx hacc'
  rw [hd] at hd'; cases hd'
  rcases hc with ⟨_, hder, _⟩ | ⟨_, _, hz⟩
  · rcases hc' with ⟨_, hder', _⟩ | ⟨_, _, hz'⟩
    · exact absurd (hder.symm.trans hder') hne
    · exact hz'
  · exact hz

theorem ethSender_eip155 (cr : Crypto) (c : Nat) (e : EthTx) (k : Nat) (pub : Bytes)
    (hk : k < 2) (hv : e.v = 2 * c + 35 + k)
    (hr : 1 ≤ e.r ∧ e.r < secpN) (hs : 1 ≤ e.s ∧ e.s ≤ secpHalfN)
    (hrec : recoverPubkeyEth cr (cr.keccak (sigPreimage155 c e))
      (padLeft 32 (natToBE e.r) ++ padLeft 32 (natToBE e.s) ++ [UInt8.ofNat k]) = some pub)
    (hpub : pub.head? = some 4) :
    ethSender cr c e = some (((cr.keccak (pub.drop 1)).drop 12).take 20 ++
      List.replicate (20 - min 20 ((cr.keccak (pub.drop 1)).drop 12).length) 0) := by
  have hvb : Int.ofNat e.v - Int.ofNat (2 * c) - 8 = Int.ofNat (27 + k) := by
    rw [hv]
    simp only [Int.ofNat_eq_natCast]
    omega
  exact (ethSender_eq_some_iff cr c e _).2 (Or.inr ⟨hv ▸ isProtectedV_eip155 c k, hv ▸ deriveChainId_eip155 c k hk,
    recoverPlain_of_valid cr _ hr hs hk (congrArg Int.natAbs hvb) hrec hpub⟩)

end Rangers.Props.C07
