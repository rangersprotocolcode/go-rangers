import Rangers.Proofs.JournalSteps2
import Rangers.Proofs.JournalSuicide
import Rangers.Proofs.JournalRoot
/-!
# Property C04 — reverting to a snapshot restores the account state exactly

All theorems are about `Rangers.Model.Journal` — the model `drv_c04` executes against the real
`account.AccountDB` (see design/C04.md).  `obs` lists every query named in the property statement;
`Sim` (Proofs/JournalSim) is the relation "answers all of them alike".

* `revert_restores_obs_partial` — headline: any run of covered ops with arbitrarily nested
  snapshots / reverts, then revert to the first snapshot: every observation is as it was.
* `FullStatementObs` / `revert_restores_obs_counterexample` — over *all* ops of the package the
  statement is false: `GetCommittedState` inside the region changes what `GetData` answers.
* `FullStatementRoot` / `revert_restores_root_counterexample_*` — the content of the account trie
  after `Finalise(true)` is *not* restored: one theorem per mechanism, `_storage_key`, `_dirty_mark`, `_touch`,
  `_clobber`, `_ripemd`, each a known finding replayed on the implementation by the searcher.
* `revert_restores_root_partial` — the root clause for regions of ops that touch no account object (for regions that do,
  under side conditions: `Props/C04C`).
* `empty_query_counterexample` — `Empty(addr)` is not restored.
* `suicide_undo_rewrites_slot_counterexample`, `pre_proposal002_balance_not_restored` — why `Suicide` carries a side condition
  in `StepOk` and every restoration theorem `c.p002 = true`.
* `revisions_stack`, `snapshot_ids_fresh` — the revision stack discipline.
* `uncovered_ops` says what `StepOk` excludes; `step_revAt` collects the per-op lemmas of `Proofs/JournalSteps*` and `JournalSuicide`;
  `undo_respects_view` is `undo_congr` of `Proofs/JournalRel`.
-/
namespace Rangers.Props.C04
open Rangers Rangers.Model.Journal Rangers.Proofs.Journal

/-- ops whose undo-inverse lemma needs no side condition (`Proofs/JournalSteps*`); SetCode, Suicide, AddLog and
    AddSlotToAccessList are covered under the conditions in `StepOk`; only `GetCommittedState` is left out -/
def Covered : Op → Bool
  | .setNonce .. | .incNonce .. | .setData .. | .create .. => true
  | .addBal .. | .subBal .. | .setBal .. | .transfer .. | .qBal .. => true
  | .addFT .. | .subFT .. | .setFT .. | .qFT .. => true
  | .setStorage .. | .qAllRefund .. | .addBinding .. => true
  | .addRefund .. | .subRefund .. | .alAddr .. | .tset .. => true
  | .snapshot | .revert .. => true
  | .qExist .. | .qEmpty .. | .qNonce .. | .qData .. | .qSuicided .. | .qCode .. | .qCodeSize .. | .qCodeHash .. => true
  | _ => false

/-- `SetCode` journals the previous code hash through `common.BytesToHash`: the object's current code
    hash must be a 32-byte hash (true of every hash the package itself produces) -/
def CodeHashOk (s : ADB) (a : Addr) : Prop :=
  match (resolveNew s a).2 with
  | some o => o.codeHash.length = 32
  | none => True

instance (s : ADB) (a : Addr) : Decidable (CodeHashOk s a) := by
  unfold CodeHashOk; split <;> infer_instance

/-- side condition of one op in the state it is executed in -/
def StepOk (c : Cfg) (s : ADB) : Op → Prop
  | .setCode a _ _ => CodeHashOk s a
  | .suicide a => SuicideOk c s a
  | .addLog .. => AddLogOk s
  | .alSlot a _ => AddSlotOk s a
  | op => Covered op = true

instance (c : Cfg) (s : ADB) (op : Op) : Decidable (StepOk c s op) := by
  unfold StepOk; split <;> infer_instance

instance decRunOk (c : Cfg) : (ops : List Op) → (s : ADB) → Decidable (RunOk (StepOk c) c s ops)
  | [], _ => isTrue trivial
  | op :: ops, s => @instDecidableAnd _ _ inferInstance (decRunOk c ops (step c s op))

/-- what `StepOk` excludes: `GetCommittedState`, and the four ops with a side condition when it fails -/
theorem uncovered_ops (c : Cfg) (s : ADB) (op : Op) (h : ¬ StepOk c s op) :
    (∃ a k, op = .qCommitted a k) ∨ (∃ a cd hh, op = .setCode a cd hh ∧ ¬ CodeHashOk s a) ∨
    (∃ a, op = .suicide a ∧ ¬ SuicideOk c s a) ∨ (∃ a t d, op = .addLog a t d ∧ ¬ AddLogOk s) ∨
    (∃ a sl, op = .alSlot a sl ∧ ¬ AddSlotOk s a) := by
  cases op with
  | qCommitted a k => exact .inl ⟨a, k, rfl⟩
  | setCode a cd hh => exact .inr (.inl ⟨a, cd, hh, rfl, h⟩)
  | suicide a => exact .inr (.inr (.inl ⟨a, rfl, h⟩))
  | addLog a t d => exact .inr (.inr (.inr (.inl ⟨a, t, d, rfl, h⟩)))
  | alSlot a sl => exact .inr (.inr (.inr (.inr ⟨a, sl, rfl, h⟩)))
  | _ => exact absurd rfl h

def AllCovered (ops : List Op) : Prop := ∀ op ∈ ops, Covered op = true

instance (ops : List Op) : Decidable (AllCovered ops) := by unfold AllCovered; infer_instance

theorem step_revAt (c : Cfg) (hp : c.p002 = true) (s : ADB) (op : Op) (hc : StepOk c s op)
    (h1 : op ≠ Op.snapshot) (h2 : ∀ id, op ≠ Op.revert id) : RevAt c (fun x => step c x op) s := by
  have hA := Proofs.JournalG.absorbs_objSim
  refine .ofP ?_
  open Rangers.Proofs.JournalG in
  cases op with
  | setCode a code h =>
    refine revAt_setCode c s a code h (fun s1 o hr => ?_)
    have : CodeHashOk s a := hc
    unfold CodeHashOk at this
    rw [hr] at this; exact this
  | suicide a => exact revAt_suicide c s a hc
  | addLog a t d => exact revAt_addLog hA.closed c s a t d hc
  | alSlot a sl => exact revAt_alSlot hA.closed c s a sl hc
  | qCode a => exact revAt_qCode c s a
  | setNonce a n => exact revAt_setNonce hA c s a n False.elim
  | incNonce a => exact revAt_incNonce hA c s a False.elim
  | setData a k v => exact revAt_setData hA c s a k v False.elim
  | create a => exact revAt_create hA.closed c s a False.elim
  | addBal a n => exact revAt_addBalance hA c hp s a n False.elim
  | subBal a n => exact revAt_subBalance hA c hp s a n False.elim
  | setBal a n => exact revAt_setBalance hA c s a n False.elim
  | transfer a b n => exact revAt_transfer hA c hp s a b n False.elim
  | qBal a => exact (revAt_getBalance hA c s a False.elim).1
  | addFT a k n => exact revAt_addFT c s a k n
  | subFT a k n => exact revAt_subFT c s a k n
  | setFT a k n => exact revAt_setFT c s a k n
  | qFT a k => exact revAt_getFT c s a k
  | setStorage a kvs => exact revAt_setStorage c s a kvs
  | qAllRefund a => exact revAt_getAllRefund hA c s a False.elim
  | addBinding b ct p d => exact revAt_addBinding c s b ct p d
  | addRefund g => exact revAt_addRefund hA.closed c s g
  | subRefund g => exact revAt_subRefund hA.closed c s g
  | alAddr a => exact revAt_alAddr hA.closed c s a
  | tset a k v => exact revAt_tset hA.closed c s a k v
  | snapshot => exact absurd rfl h1
  | revert id => exact absurd rfl (h2 id)
  | qExist a | qEmpty a | qNonce a | qSuicided a | qCodeSize a | qCodeHash a => exact revAt_resolveOnly hA.closed c s a _ _ _
  | qData a k => exact revAt_qData hA c s a k False.elim
  | _ => cases hc

theorem stepOk_of_covered (c : Cfg) (s : ADB) (op : Op) (h : Covered op = true) : StepOk c s op := by
  cases op with
  | qCommitted _ _ | setCode _ _ _ | suicide _ | addLog _ _ _ | alSlot _ _ => cases h
  | _ => exact h

theorem runOk_of_allCovered (c : Cfg) (ops : List Op) (h : AllCovered ops) (s : ADB) :
    RunOk (StepOk c) c s ops := by
  induction ops generalizing s with
  | nil => trivial
  | cons op ops ih =>
    exact ⟨stepOk_of_covered c _ _ (h op (List.mem_cons_self ..)), ih (fun o ho => h o (List.mem_cons_of_mem _ ho)) _⟩

theorem obs_of_sim (c : Cfg) {s t : ADB} (h : Sim s t) (hs : s.crashed = false) (a : Addr) (k : Key) (th hh : Hash) :
    obs c s a k th hh = obs c t a k th hh := by
  have F := h.frame hs
  have key : ∀ b, (liveObj s b).isSome = (liveObj t b).isSome ∧
      ∀ o o', liveObj s b = some o → liveObj t b = some o' → ObjSim s.codes o o' := by
    intro b
    have R := h.objs hs b
    unfold liveObj
    cases hr : res s b with
    | absent => rw [hr] at R; rw [R.of_absent]; exact ⟨rfl, fun _ _ h => by cases h⟩
    | deleted => rw [hr] at R; rw [R.of_deleted]; exact ⟨rfl, fun _ _ h => by cases h⟩
    | live o =>
      rw [hr] at R; obtain ⟨o', e, ho⟩ := R.of_live; rw [e]
      exact ⟨rfl, fun _ _ h1 h2 => by cases h1; cases h2; exact ho⟩
  have fld : ∀ {β : Type} (b : Addr) (f : Obj → β) (d : β), (∀ o o', ObjSim s.codes o o' → f o = f o') →
      ((liveObj s b).map f).getD d = ((liveObj t b).map f).getD d := by
    intro β b f d hf
    obtain ⟨k1, k2⟩ := key b
    cases h1 : liveObj s b with
    | none =>
      rw [h1] at k1
      cases h2 : liveObj t b with
      | none => rfl
      | some o' => rw [h2] at k1; cases k1
    | some o =>
      rw [h1] at k1
      cases h2 : liveObj t b with
      | none => rw [h2] at k1; cases k1
      | some o' => simp [hf o o' (k2 o o' h1 h2)]
  unfold obs
  congr 1
  · exact h.crashed
  · exact (key a).1
  · exact fld a (·.nonce) 0 (fun _ _ ho => ho.1)
  · exact fld a (·.get k) [] (fun _ _ ho => ho.2.2.2.1 k)
  · refine fld a (fun o => (codeLookup s o).getD []) [] (fun o o' ho => ?_) |>.trans ?_
    · simp only [codeLookup_eq]; rw [ho.2.2.2.2]
    · congr 2; funext o; simp only [codeLookup_eq, F.codes]
  · exact fld a (fun o => toHash o.codeHash) zeroHash (fun _ _ ho => by simp [ho.2.1])
  · exact fld a (·.suicided) false (fun _ _ ho => ho.2.2.1)
  · exact fld c.tok (fun o => beToNat (o.get (c.balKey a))) 0 (fun _ _ ho => by simp [ho.2.2.2.1])
  · exact F.refund
  · simp [getLogs, F.logs]
  · exact F.logSize
  · simp [F.al]
  · simp [F.al]
  · exact F.transient a hh

/-- **C04, observations (proved part).** Start in any state whose revision stack is accounted for
(`Inv`/`RevsOk`: e.g. any state with an empty stack, see `revert_restores_obs_fresh`), take a
snapshot, run any list of covered ops — nested snapshots and reverts to any id included —, revert
to the snapshot.  If that revert does not panic, every query of the property answers as it did
when the snapshot was taken. -/
theorem revert_restores_obs_partial (c : Cfg) (hp : c.p002 = true) (s : ADB) (G : List ADB) (ops : List Op)
    (hs : s.crashed = false) (ok : RevsOk s) (inv : Inv c s G) (hrun : RunOk (StepOk c) c (snapshot s).1 ops)
    (hnc : (revert c (run c (snapshot s).1 ops) (snapshot s).2).crashed = false)
    (a : Addr) (k : Key) (th h : Hash) :
    obs c (revert c (run c (snapshot s).1 ops) (snapshot s).2) a k th h = obs c s a k th h := by
  have hsim := revert_sim_generic c (StepOk c)
    (fun s op hc h1 h2 => step_revAt c hp s op hc h1 h2) ops hs ok inv hrun hnc
  exact obs_of_sim c hsim hnc a k th h

/-- the same from a state with an empty revision stack (start of a transaction); for runs of ops that `Covered` lists
    (no `SetCode`, `Suicide`, `AddLog`, `AddSlotToAccessList`) the side condition is just `AllCovered ops` (`runOk_of_allCovered`) -/
theorem revert_restores_obs_fresh (c : Cfg) (hp : c.p002 = true) (s : ADB) (ops : List Op)
    (hs : s.crashed = false) (hr : s.revisions = []) (hrun : RunOk (StepOk c) c (snapshot s).1 ops)
    (hnc : (revert c (run c (snapshot s).1 ops) (snapshot s).2).crashed = false)
    (a : Addr) (k : Key) (th h : Hash) :
    obs c (revert c (run c (snapshot s).1 ops) (snapshot s).2) a k th h = obs c s a k th h :=
  revert_restores_obs_partial c hp s [] ops hs (.of_nil hr) (Rangers.Proofs.JournalG.Inv.of_nil hr) hrun hnc a k th h

/-- every `undo` method maps states that answer all queries alike to such states -/
theorem undo_respects_view (c : Cfg) (s t : ADB) (e : Entry) (h : Sim s t) : Sim (undo c s e) (undo c t e) :=
  undo_congr c h e

/-! ## concrete witnesses (the same histories are replayed on the implementation by the searcher) -/

def c0 : Cfg := { tok := [0], ripemd := [3], p002 := true, balKey := fun a => 0xbb :: a }
def A1 : Addr := [0xa1]

/-- region of the non-vacuity example: nested snapshot, writes, inner revert, more writes -/
def demoOps : List Op :=
  [.setNonce A1 7, .addBal A1 5, .snapshot, .setData A1 [0x6b] [1], .transfer A1 [0xa2] 2, .revert 1,
   .tset A1 [1] [2], .alAddr A1, .addRefund 9, .qData A1 [0x6b], .incNonce A1]

/-- non-vacuity of `revert_restores_obs_fresh`: hypotheses hold for a concrete committed state and region,
    the region changes observations, and the revert brings them back -/
example : AllCovered demoOps := by decide +kernel
example : RunOk (StepOk c0) c0 (snapshot (setNonce ADB.empty A1 1)).1
    (demoOps ++ [.setCode A1 [0x60] (toHash [9]), .addFT A1 [0x66, 0x3a, 0x78] 0, .suicide A1, .qFT A1 [0x66, 0x3a, 0x78],
       .addLog A1 [] [1], .alSlot A1 (toHash [1]), .alSlot A1 (toHash [2]), .qCode A1,
       .setStorage A1 [(toHash [1], toHash [2]), (toHash [3], toHash [4])], .qAllRefund A1, .addBinding [0xb1] A1 3 18]) := by
  decide +kernel
example : (revert c0 (run c0 (snapshot (setNonce ADB.empty A1 1)).1 demoOps) 0).crashed = false := by decide +kernel
example : obs c0 (run c0 (snapshot (setNonce ADB.empty A1 1)).1 demoOps) A1 [0x6b] [] [1]
    ≠ obs c0 (setNonce ADB.empty A1 1) A1 [0x6b] [] [1] := by decide +kernel
example : obs c0 (revert c0 (run c0 (snapshot (setNonce ADB.empty A1 1)).1 demoOps) 0) A1 [0x6b] [] [1]
    = obs c0 (setNonce ADB.empty A1 1) A1 [0x6b] [] [1] := by decide +kernel

/-- the statement over *all* ops of the package -/
def FullStatementObs : Prop :=
  ∀ (c : Cfg) (s : ADB) (ops : List Op), c.p002 = true → s.crashed = false → s.revisions = [] →
    (revert c (run c (snapshot s).1 ops) (snapshot s).2).crashed = false →
    ∀ a k th h, obs c (revert c (run c (snapshot s).1 ops) (snapshot s).2) a k th h = obs c s a k th h

/-- state with a flushed slot `k ↦ 1` overwritten (not yet flushed) by `k ↦ 2` -/
def sClobber : ADB := setData (finalise false (setData ADB.empty A1 [0x6b] [1])) A1 [0x6b] [2]

/-- `GetCommittedState` inside the region overwrites the cached value: `GetData` answers 1 instead of 2
    after the revert (known finding `committed-read-clobbers-cache`) -/
theorem revert_restores_obs_counterexample : ¬ FullStatementObs := by
  intro h
  have := h c0 sClobber [.qCommitted A1 [0x6b]] rfl (by decide +kernel) (by decide +kernel) (by decide +kernel) A1 [0x6b] [] []
  revert this
  decide +kernel

/-- `Empty(addr)` (not in the property's list, but an exported query the EVM uses) -/
def emptyView (s : ADB) (a : Addr) : Bool := (isEmptyQ s a).2

/-- `empty-query-after-revert`: a created account, a reverted `SetData`: `Empty` flips to false (same cause as
    `empty-looks-at-storage-cache`, seen through a query) -/
theorem empty_query_counterexample :
    let s := createAccount ADB.empty A1
    emptyView (revert c0 (setData (snapshot s).1 A1 [0x6b] [1]) (snapshot s).2) A1 ≠ emptyView s A1 := by
  decide +kernel

/-- content of the account trie after `Finalise(true)`: what `IntermediateRoot(true)` hashes -/
def content (s : ADB) : List (Addr × Leaf) := (finalise true s).trie

/-- root clause of the property, for histories `prefix; snapshot; region; revert; suffix` -/
def FullStatementRoot : Prop :=
  ∀ (c : Cfg) (s : ADB) (region suffix : List Op), c.p002 = true → s.crashed = false → s.revisions = [] →
    (revert c (run c (snapshot s).1 region) (snapshot s).2).crashed = false →
    content (run c (revert c (run c (snapshot s).1 region) (snapshot s).2) suffix) = content (run c s suffix)

/-- `empty-looks-at-storage-cache`: `storageChange.undo` leaves the key in the caches, the
    created account is no longer `empty()` and survives `Finalise(true)` -/
theorem revert_restores_root_counterexample_storage_key : ¬ FullStatementRoot := by
  intro h
  have := h c0 (createAccount ADB.empty A1) [.setData A1 [0x6b] [1]] [] rfl (by decide +kernel) (by decide +kernel) (by decide +kernel)
  revert this
  decide +kernel

/-- a committed account with storage only (nonce 0, no code), freshly opened -/
def sStorageOnly : ADB := reopen (commit true (setData ADB.empty A1 [0x6b] [7]))

/-- `revert-leaves-dirty-mark`: the reverted `SetNonce` leaves the account dirty; with a cold cache it
    is `empty()` and `Finalise(true)` deletes it together with its storage -/
theorem revert_restores_root_counterexample_dirty_mark :
    content (revert c0 (setNonce (snapshot sStorageOnly).1 A1 5) (snapshot sStorageOnly).2) = [] ∧
    content sStorageOnly = [(A1, ⟨0, [([0x6b], [7])], emptyCodeHash⟩)] := by
  decide +kernel

/-- `touch-undo-disarms-ondirty`: after the reverted zero-amount `AddFT` a later `SetNonce` is lost -/
theorem revert_restores_root_counterexample_touch :
    content (setNonce (revert c0 (addFT (snapshot sStorageOnly).1 A1 [0x66, 0x3a, 0x78] 0) (snapshot sStorageOnly).2) A1 5)
      = [(A1, ⟨0, [([0x6b], [7])], emptyCodeHash⟩)] ∧
    content (setNonce sStorageOnly A1 5) = [(A1, ⟨5, [([0x6b], [7])], emptyCodeHash⟩)] := by
  decide +kernel

/-- `committed-read-clobbers-cache` at root level: the journal records the clobbered value -/
theorem revert_restores_root_counterexample_clobber :
    let s := (getCommitted sClobber A1 [0x6b]).1
    content (revert c0 (setData (snapshot s).1 A1 [0x6b] [3]) (snapshot s).2) = [(A1, ⟨0, [([0x6b], [1])], emptyCodeHash⟩)] ∧
    content s = [(A1, ⟨0, [([0x6b], [2])], emptyCodeHash⟩)] := by
  decide +kernel

/-- `ripemd-touch-not-undone`: `touchChange.undo` skips the address `ripemd`; a storage-only `ripemd`
    account touched inside a reverted region stays dirty and is deleted by `Finalise(true)` -/
theorem revert_restores_root_counterexample_ripemd :
    let s := reopen (commit true (setData ADB.empty c0.ripemd [0x6b] [7]))
    content (revert c0 (addFT (snapshot s).1 c0.ripemd [0x66, 0x3a, 0x78] 0) (snapshot s).2) = [] ∧
    content s = [(c0.ripemd, ⟨0, [([0x6b], [7])], emptyCodeHash⟩)] ∧
    -- any other address: the touch is undone and the account stays
    content (revert c0 (addFT (snapshot sStorageOnly).1 A1 [0x66, 0x3a, 0x78] 0) (snapshot sStorageOnly).2) = content sStorageOnly := by
  decide +kernel

/-- state in which the balance slot of `A1` holds 5 as a 32-byte word (as the EVM writes it) -/
def sPadded : ADB := setNonce (setData ADB.empty c0.tok (c0.balKey A1) (toHash [5])) A1 1

/-- `suicide-undo-rewrites-balance-slot` (known finding): the slot comes back as `[5]`, `GetBalance` is unchanged -/
theorem suicide_undo_rewrites_slot_counterexample :
    let r := revert c0 (suicide c0 (snapshot sPadded).1 A1).1 (snapshot sPadded).2
    (obs c0 r c0.tok (c0.balKey A1) [] []).slot = [5] ∧
    (obs c0 sPadded c0.tok (c0.balKey A1) [] []).slot = toHash [5] ∧
    (obs c0 r A1 [] [] []).balance = (obs c0 sPadded A1 [] [] []).balance := by
  decide +kernel

/-- **C04, root clause (proved part).** A reverted region made only of ops that do not touch account
objects — AddRefund, SubRefund, AddLog, AddAddressToAccessList, AddSlotToAccessList, SetTransientState,
nested snapshots and reverts (6 of the 11 journal entry kinds) — leaves everything `Finalise` reads
untouched, so `IntermediateRoot(d)` hashes exactly the content it would have hashed without the region.
This hypothesis excludes every mechanism of the `revert_restores_root_counterexample_*` above, each of which needs a
region that writes to (or reads through) an account object. -/
theorem revert_restores_root_partial (c : Cfg) (s : ADB) (region : List Op) (d : Bool)
    (hs : s.crashed = false) (hr : s.revisions = []) (hops : ∀ op ∈ region, opGlobal op = true)
    (hnc : (revert c (run c (snapshot s).1 region) (snapshot s).2).crashed = false) :
    (finalise d (revert c (run c (snapshot s).1 region) (snapshot s).2)).trie = (finalise d s).trie :=
  finalise_trie_congr d _ _ hnc hs (revert_objview_global c s region hs hr hops)

/-- non-vacuity: such a region on a state with pending (dirty) account changes -/
example : let s := setData (setNonce ADB.empty A1 1) A1 [0x6b] [7]
    let region : List Op := [.addRefund 5, .snapshot, .tset A1 (toHash [1]) (toHash [2]), .alSlot A1 (toHash [1]),
      .addLog A1 [] [1], .revert 1, .alAddr [0xa2], .subRefund 2]
    (∀ op ∈ region, opGlobal op = true) ∧ s.revisions = [] ∧
    (revert c0 (run c0 (snapshot s).1 region) (snapshot s).2).crashed = false ∧ (finalise true s).trie ≠ [] := by
  decide +kernel

/-- the side condition of `Suicide` in `StepOk` is exactly what fails in that history -/
example : ¬ SuicideOk c0 (snapshot sPadded).1 A1 := by decide +kernel

/-- historical configuration (height below `Proposal002Block`): `AddFT`/`SubFT` write the balance slot
    without a journal entry, so the revert does not restore the balance — why every restoration theorem
    here carries `c.p002 = true` (known finding `pre-proposal002-balance-not-journaled`, replayed on the
    implementation by the searcher and corpus 13) -/
theorem pre_proposal002_balance_not_restored :
    let c := { c0 with p002 := false }
    let s := setBalance c ADB.empty A1 7
    (obs c (revert c (addBalance c (snapshot s).1 A1 2) (snapshot s).2) A1 [] [] []).balance = 9 ∧
    (obs c s A1 [] [] []).balance = 7 := by
  decide +kernel

/-- a snapshot id is larger than every id on the stack and the stack stays sorted: ids are never reused -/
theorem snapshot_ids_fresh (s : ADB) (hs : s.crashed = false) (ok : RevsOk s) :
    (snapshot s).2 = s.nextRev ∧ (∀ r ∈ s.revisions, r.1 < (snapshot s).2) ∧ RevsOk (snapshot s).1 := by
  rw [snapshot_eq hs]
  exact ⟨rfl, fun r hr => (ok.below r hr).1, ok.snapshot⟩

/-- reverting to the revision at stack position `i` pops it and everything above it (inner ids become
    invalid), truncates the journal to the recorded index, keeps `nextRev`; reverting again to one of the
    popped ids panics -/
theorem revisions_stack (c : Cfg) (s : ADB) (hs : s.crashed = false) (ok : RevsOk s) (i : Nat) (r : Nat × Nat)
    (hi : s.revisions[i]? = some r) (hnc : (revert c s r.1).crashed = false) :
    (revert c s r.1).revisions = s.revisions.take i ∧ (revert c s r.1).journal = s.journal.take r.2 ∧
    (revert c s r.1).nextRev = s.nextRev ∧
    (∀ r' ∈ s.revisions.drop i, (revert c (revert c s r.1) r'.1).crashed = true) := by
  obtain ⟨_, hform⟩ := revert_at_ok c hs ok hi hnc
  refine ⟨by rw [hform], by rw [hform], by rw [hform]; exact undoAll_nextRev c s _, fun r' hr' => ?_⟩
  -- r' sits at a position ≥ i, so its id is above every id kept: not found, or found with a different id
  cases hcr : (revert c (revert c s r.1) r'.1).crashed with
  | true => rfl
  | false =>
    exfalso
    obtain ⟨k, j, hk⟩ := revert_valid c hnc hcr
    rw [hform] at hk
    simp only [List.getElem?_take] at hk
    split at hk
    · rename_i hki
      obtain ⟨m, hm⟩ := List.getElem?_of_mem hr'
      rw [List.getElem?_drop] at hm
      exact Nat.lt_irrefl _ (ok.mono hk hm (Nat.lt_of_lt_of_le hki (Nat.le_add_right i m))).1
    · cases hk

end Rangers.Props.C04
