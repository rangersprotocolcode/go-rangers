import Rangers.Proofs.PoolMark
/-!
# C17, part D — expiry, evictions, where `MarkExecuted` writes, crash between two writes, `Clear()`

These are executed by `drv_c17` against the real pool (`expire`, `markz` with the write gate of
`db.VerifC05Gate`, `evq`, `restart`, `clear` ops), except `write_error_loses_records`: the driver has no op
for a failed `batch.Write`. Also here: what `get` answers (`execGet_none_iff` … `get_pending_of_contains`).
-/
namespace Rangers.Props.C17D
open Rangers Rangers.Pool

/-- Expiry only removes pending entries: executed records, the batch, the gate nonce, the evicted cache and
the limit are untouched, and what stays pending was pending (in the same order). -/
theorem expire_only_pending (s : Pool) :
    s.expire.executed = s.executed ∧ s.expire.batch = s.batch ∧ s.expire.gate = s.gate ∧
    s.expire.evicted = s.evicted ∧ s.expire.limit = s.limit ∧ s.expire.hashes.Sublist s.hashes :=
  ⟨rfl, rfl, rfl, rfl, rfl, hashes_expire_sublist s⟩

/-- An entry survives a cycle (with its ring advanced) iff its ring was below `expiredRing - 1`; so a
transaction leaves the pool on the fifth cycle after it was (last) pushed. -/
theorem expire_spec (s : Pool) (t : Tx) (r : Nat) :
    (⟨t, r + 1⟩ : Entry) ∈ s.expire.pending ↔ (⟨t, r⟩ : Entry) ∈ s.pending ∧ r + 1 < expiredRing := by
  simp only [Pool.expire, List.mem_filter, List.mem_map, decide_eq_true_eq]
  constructor
  · rintro ⟨⟨⟨tx, ring⟩, he, heq⟩, hr⟩
    obtain ⟨rfl, h2⟩ := Entry.mk.inj heq
    cases Nat.succ.inj h2
    exact ⟨he, hr⟩
  · rintro ⟨he, hr⟩
    exact ⟨⟨⟨t, r⟩, he, rfl⟩, hr⟩

example : ((((Pool.empty 3).addTransaction ⟨1, 11, [], 0, 0, 0⟩).1.expire.expire.expire.expire).pending.length = 1) ∧
    ((((Pool.empty 3).addTransaction ⟨1, 11, [], 0, 0, 0⟩).1.expire.expire.expire.expire.expire).pending.length = 0) := by decide +kernel

/-- For every choice of record sizes (hence every placement of the 100 KiB mid-loop writes) a well-formed
`MarkExecuted` ends `ok` with the same pending set and the same executed set as the size-free `markExecuted` the
other theorems speak about, and keeps the invariant. -/
theorem mark_any_sizes (s : Pool) (rs : List (Nat × Nat)) (txs : List Tx) (evicted : List Nat)
    (hi : Inv s) (hc : Covered (rs.map (·.1)) txs) (hz : ∀ p ∈ rs, 0 < p.2) :
    ∃ s' ws, s.markExecutedZ rs txs evicted none = (s', ws, .ok) ∧
      s'.hashes = (s.markExecuted (rs.map (·.1)) txs evicted).1.hashes ∧
      (∀ k, k ∈ s'.execHashes ↔ k ∈ (s.markExecuted (rs.map (·.1)) txs evicted).1.execHashes) ∧
      Inv s' := by
  obtain ⟨s', ws, he, m⟩ := markExecutedZ_ok evicted hi hc hz
  have m' := markExecuted_ok evicted hi hc
  exact ⟨s', ws, he, by rw [m.hashes, m'.hashes], by intro k; rw [m.exec, m'.exec], m.inv⟩

example : ((Pool.empty 9).markExecutedZ [(11, 60000), (12, 60000), (13, 5)] [⟨1, 11, [], 0, 0, 0⟩, ⟨2, 12, [], 0, 0, 0⟩, ⟨3, 13, [], 0, 0, 0⟩] [] none).2.1
    = [2, 1] := by decide +kernel

/-- If the process dies right before the `k`-th physical write of a `MarkExecuted` call, the pending
container and the evicted cache are as before the call, no old executed record is lost, and every record
present is an old one or belongs to a receipt of this very block (`mark_crash_prefix`: to a prefix of the receipts;
that it is the prefix the first `k-1` writes cover is observed by the correspondence run). -/
theorem mark_crash_sound (s s' : Pool) (rs : List (Nat × Nat)) (txs : List Tx) (evicted : List Nat) (k : Nat) (ws : List Nat)
    (hi : Inv s) (hc : Covered (rs.map (·.1)) txs) (hz : ∀ p ∈ rs, 0 < p.2)
    (h : s.markExecutedZ rs txs evicted (some k) = (s', ws, .crash)) :
    s'.pending = s.pending ∧ s'.evicted = s.evicted ∧ (∀ x, x ∈ s.execHashes → x ∈ s'.execHashes) ∧
      (∀ x, x ∈ s'.execHashes → x ∈ s.execHashes ∨ x ∈ rs.map (·.1)) := by
  obtain ⟨hp, he, n, _, hx⟩ := markExecutedZ_crash hi.batch hi.attached h
  exact ⟨hp, he, fun x h => (hx x).mpr (Or.inl h),
    fun x h => ((hx x).mp h).imp_right (fun h => List.map_subset _ (List.take_subset n rs) h)⟩

/-- **The records present after such a death are exactly the old ones plus those of a prefix of the block's
receipts, in receipt order** (the receipts covered by the physical writes that went through): never a record
from the middle or the end of the block without all earlier ones. Together with `restart_inv` and
`mark_any_sizes`: re-delivering the block after the restart completes exactly the missing suffix. -/
theorem mark_crash_prefix (s s' : Pool) (rs : List (Nat × Nat)) (txs : List Tx) (evicted : List Nat) (k : Nat) (ws : List Nat)
    (hi : Inv s) (hc : Covered (rs.map (·.1)) txs)
    (h : s.markExecutedZ rs txs evicted (some k) = (s', ws, .crash)) :
    ∃ n, n ≤ rs.length ∧ ∀ x, x ∈ s'.execHashes ↔ x ∈ s.execHashes ∨ x ∈ (rs.take n).map (·.1) :=
  (markExecutedZ_crash hi.batch hi.attached h).2.2

/-- After the restart the invariant holds again, whatever state the death left: nothing is pending, the
unwritten batch is gone, the records stay. Re-delivering the block then completes its records (`mark_any_sizes`). -/
theorem restart_inv (s : Pool) : Inv s.restart ∧ s.restart.executed = s.executed ∧ s.restart.pending = [] :=
  ⟨⟨by simp [Pool.restart, Pool.hashes], by simp [Pool.restart, Pool.hashes], by simp [Pool.restart, GateOnly], rfl⟩, rfl, rfl⟩

example : ((Pool.empty 9).markExecutedZ [(11, 60000), (12, 60000), (13, 5)] [⟨1, 11, [], 0, 0, 0⟩, ⟨2, 12, [], 0, 0, 0⟩, ⟨3, 13, [], 0, 0, 0⟩] [] (some 2)).2
    = ([2], .crash) := by decide +kernel

/-- What one would want: whatever the store answers, a `MarkExecuted` call that returns leaves every receipt of the
block recorded (or reports the failure). -/
def FullStatementWriteError : Prop :=
  ∀ (s : Pool) (rs : List (Nat × Nat)) (txs : List Tx), Inv s → Covered (rs.map (·.1)) txs → (∀ p ∈ rs, 0 < p.2) →
    ∀ h ∈ rs.map (·.1), (s.markExecutedWriteError rs txs []).isExecuted h = true

/-- False of the model, which transcribes the source here (`MarkExecuted` has no error result and drops what
`batch.Write` returns, then resets the batch — tied to the source by `Props/C17B.dropped_errors_as_modelled`): after a
failed write the block's transactions are neither pending nor recorded, and a re-submission is accepted. Outside the
property's quantifier (store faults are not among its operations); kept as a statement so that a change of the error
handling is noticed. -/
theorem write_error_loses_records : ¬ FullStatementWriteError := by
  intro h
  have := h (Pool.empty 5) [(11, 1)] [⟨1, 11, [], 0, 0, 0⟩] (inv_empty 5)
    (covered_singleton ⟨1, 11, [], 0, 0, 0⟩) (fun p hp => List.mem_singleton.mp hp ▸ Nat.one_pos) 11 (List.mem_singleton_self _)
  revert this
  decide +kernel

example : (((Pool.empty 5).markExecutedWriteError [(11, 1)] [⟨1, 11, [], 0, 0, 0⟩] []).addTransaction ⟨1, 11, [], 0, 0, 0⟩).2 = .ok := by decide +kernel

/-- Evicted hashes leave the pending container… -/
theorem evicted_removed_from_pending (s : Pool) (receipts : List Nat) (txs : List Tx) (evicted : List Nat)
    (hi : Inv s) (hc : Covered receipts txs) :
    ∀ h ∈ evicted, (s.markExecuted receipts txs evicted).1.contains h = false := by
  intro h hm
  rw [contains_eq_false_iff, (markExecuted_ok evicted hi hc).hashes, mem_filter_not_contains]
  exact fun hn => hn.2 (List.mem_append_right _ hm)

/-- The corner the receipt loop does not reach: a block **without receipts** still has its evicted list applied —
evicted cache updated, hashes removed from pending — and nothing else changes (no guard clause in front of the
eviction bookkeeping; chain-driven: a block whose only transaction was not addable). -/
theorem mark_no_receipts_still_evicts (s : Pool) (txs : List Tx) (evicted : List Nat) :
    s.markExecuted [] txs evicted = ((s.evictAll evicted).removeHashes evicted, false) ∧
    (∀ h ∈ evicted, (s.markExecuted [] txs evicted).1.contains h = false) ∧
    (s.markExecuted [] txs evicted).1.executed = s.executed := by
  have e : s.markExecuted [] txs evicted = ((s.evictAll evicted).removeHashes evicted, false) := rfl
  refine ⟨e, ?_, by rw [e]; rfl⟩
  intro h hm
  rw [e, contains_eq_false_iff, mem_hashes_removeHashes]
  exact fun hn => hn.2 hm

example : (((Pool.empty 5).addTransaction ⟨1, 11, [], 0, 0, 0⟩).1.markExecuted [] [] [11]).1.pending = [] := by decide +kernel

/-- …but, as the code is (the check against the evicted cache in `AddTransaction` is commented out), an
evicted transaction that was not executed is admitted again when submitted again: the cache is write-only.
(Not a C17 violation: the transaction was never executed.) -/
theorem evicted_readmitted (s : Pool) (receipts : List Nat) (txs : List Tx) (evicted : List Nat) (t : Tx)
    (hi : Inv s) (hc : Covered receipts txs) (he : t.hash ∈ evicted) (hr : t.hash ∉ receipts) (hx : s.isExecuted t.hash = false) :
    ((s.markExecuted receipts txs evicted).1.addTransaction t).2 = .ok := by
  have m := markExecuted_ok evicted hi hc
  have h1 : (s.markExecuted receipts txs evicted).1.existed t.hash = false := by
    rw [existed_eq_false_iff, m.hashes, mem_filter_not_contains, m.exec]
    exact ⟨fun h => h.2 (List.mem_append_right _ he), fun h => h.elim (isExecuted_eq_false_iff.mp hx) hr⟩
  rw [addTransaction_fresh h1]

/-- The cache never holds more than its capacity. -/
theorem lru_bounded (cap : Nat) (l : List Nat) (h : Nat) (hl : l.length ≤ cap) : (lruAdd cap l h).length ≤ cap := by
  unfold lruAdd
  dsimp only
  split
  · rw [List.length_dropLast, List.length_cons, Nat.add_sub_cancel]
    exact Nat.le_trans (List.length_filter_le _ _) hl
  · rename_i hn; exact Nat.le_of_not_gt hn

example : lruAdd 2 [7, 8] 9 = [9, 7] ∧ lruAdd 2 [7, 8] 8 = [8, 7] := by decide +kernel

theorem execGet_none_iff (ex : List (Nat × Option Tx)) (h : Nat) : execGet ex h = none ↔ h ∉ ex.map (·.1) := by
  induction ex with
  | nil => simp [execGet]
  | cons p r ih =>
    obtain ⟨k, v⟩ := p
    by_cases hk : k = h
    · simp [execGet, hk]
    · simp only [execGet, hk, if_false, List.map_cons, List.mem_cons, not_or]
      rw [ih]
      exact ⟨fun x => ⟨fun e => hk e.symm, x⟩, fun x => x.2⟩

theorem find?_pending_none_iff (s : Pool) (h : Nat) : s.pending.find? (fun e => e.tx.hash == h) = none ↔ h ∉ s.hashes := by
  simp [Pool.hashes]

/-- `GetTransaction` answers `ErrNil` exactly for the hashes `IsExisted` denies: the two lookups never disagree. -/
theorem get_nil_iff (s : Pool) (h : Nat) : s.get h = .nil ↔ s.existed h = false := by
  rw [existed_eq_false_iff, ← find?_pending_none_iff, Pool.execHashes, ← execGet_none_iff]
  unfold Pool.get
  cases s.pending.find? (fun e => e.tx.hash == h) <;> cases execGet s.executed h <;> simp

/-- A pending hash is answered from the container (with a transaction of that hash), never from the store. -/
theorem get_pending_of_contains (s : Pool) (h : Nat) (hc : s.contains h = true) : ∃ t, s.get h = .pending t ∧ t.hash = h := by
  obtain ⟨e, he, rfl⟩ := List.mem_map.mp (contains_iff.mp hc)
  unfold Pool.get
  cases hf : s.pending.find? (fun x => x.tx.hash == e.tx.hash) with
  | some x => exact ⟨x.tx, rfl, by simpa using List.find?_some hf⟩
  | none => have := List.find?_eq_none.mp hf e he; simp at this

example : ((Pool.empty 3).addTransaction ⟨1, 11, [], 0, 0, 0⟩).1.get 11 = .pending ⟨1, 11, [], 0, 0, 0⟩ ∧ (Pool.empty 3).get 11 = .nil := by decide +kernel

/-- What at-most-once would say if `Clear()` were one of the pool's operations. -/
def FullStatementWithClear : Prop :=
  ∀ (s : Pool) (receipts : List Nat) (txs : List Tx) (t : Tx), Inv s → Covered receipts txs → t.hash ∈ receipts →
    ((s.clear.markExecuted receipts txs []).1.addTransaction t).2 = .exist

/-- It is false of the model and of the code (correspondence run `pool-clear`): `Clear()` replaces the store
the pool reads while the batch keeps writing to the old one, so afterwards no executed record is ever seen
and every executed transaction is admitted again. `Clear()` has no caller in the node (generated fact
`interface_callers_as_modelled`); it must not get one. -/
theorem clear_breaks_at_most_once : ¬ FullStatementWithClear := by
  intro h
  have := h (Pool.empty 5) [11] [⟨1, 11, [], 0, 0, 0⟩] ⟨1, 11, [], 0, 0, 0⟩ (inv_empty 5)
    (covered_singleton ⟨1, 11, [], 0, 0, 0⟩) (List.mem_singleton_self _)
  revert this
  decide +kernel

end Rangers.Props.C17D
