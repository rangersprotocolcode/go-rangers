import Rangers.Generated.Bn256Consts
import Rangers.Proofs.C13Pratt
import Rangers.Props.C13
/-! The group order of the code is prime (Pratt certificate in `Proofs/C13Pratt.lean`). -/
namespace Rangers.Props.C13Prime
open Rangers.Generated Rangers.Model.Shamir Rangers.Proofs.C13 Rangers.Props.C13

/-- The group order read from `bn256/constants.go` is prime, so `ZMod r` is a field
    and every theorem of `Props/C13.lean` applies to the code's actual modulus. If the constant in
    the source changes this no longer type-checks. -/
theorem order_prime : Nat.Prime Bn256.order :=
  Rangers.Proofs.C13Pratt.bn256_order_prime

instance : Fact (Nat.Prime Bn256.order) := ⟨order_prime⟩

/-- The headline theorem at the modulus of the code, with no primality hypothesis left: for
    `r = bn256.Order`, any modules `G`, `G₂`, `GT` over `ZMod r` with lawful operations and a pairing,
    any DKG with threshold `k`, every witness map with ≥ `k` honest shares whose ids are distinct
    mod `r`, every admissible choice: one and the same valid signature. -/
theorem bn256_any_threshold_subset_same_valid_signature_partial
    {G G₂ GT : Type} [AddCommGroup G] [Module (ZMod Bn256.order) G]
    [AddCommGroup G₂] [Module (ZMod Bn256.order) G₂] [AddCommGroup GT] [Module (ZMod Bn256.order) GT]
    (ops : Ops G) (hops : LawfulOps Bn256.order ops) (ops₂ : Ops G₂) (hops₂ : LawfulOps Bn256.order ops₂)
    (e : G → G₂ → GT) (he : IsPairing Bn256.order e) (eq : GT → GT → Bool) (heq : ∀ a, eq a a = true)
    (dealers : List (List Nat)) (k : Nat) (hk0 : 0 < k) (hne : dealers ≠ [])
    (hk : ∀ cs ∈ dealers, cs ≠ [] ∧ cs.length ≤ k) (g2 : G₂) (hm : G) :
    ∃ gsk pk, groupSecret Bn256.order dealers = some gsk ∧
      aggregatePoints ops₂.add (dealers.map (fun cs => ops₂.mul g2 (cs.headD 0))) = some pk ∧
      verifyCore e eq g2 pk hm (ops.mul hm gsk) = true ∧
      (∀ x sk, memberKey Bn256.order dealers x = some sk →
        verifyCore e eq g2 (ops₂.mul g2 sk) hm (ops.mul hm sk) = true) ∧
      ∀ (m : List (Nat × Option G)), k ≤ m.length → IdsDistinct Bn256.order (m.map Prod.fst) →
        (∀ en ∈ m, en.2 = some (ops.mul hm ((memberKey Bn256.order dealers en.1).getD 0))) →
        ∀ (c : Choice (Nat × Option G)), Admissible c m.length k →
          recoverGroupSignature ops Bn256.order k m c = .ok (some (ops.mul hm gsk)) :=
  dkg_any_threshold_subset_same_valid_signature_partial ops hops ops₂ hops₂ e he eq heq dealers k hk0 hne hk g2 hm

/-- non-vacuity at the real modulus (scalar twin of the recovery loop, so that `decide` stays in
    `Nat`): ids as 256-bit values, one of them ≥ r; a 2-of-3 sharing of `f = 7 + 5X`; two
    different pairs both give `f(0) = 7`. -/
example :
    IdsDistinct Bn256.order [1, 2 ^ 256 - 1, 3] ∧
    recoverScalar Bn256.order [1, 2 ^ 256 - 1]
      ([1, 2 ^ 256 - 1].map (fun x => (shareSeckey Bn256.order [7, 5] x).getD 0)) = 7 ∧
    recoverScalar Bn256.order [3, 1]
      ([3, 1].map (fun x => (shareSeckey Bn256.order [7, 5] x).getD 0)) = 7 := by
  decide +kernel

end Rangers.Props.C13Prime
