import Rangers.Proofs.Evm12Lemmas
/-!
# C12 — failed/static EVM frames leave no trace; per-tx scratch state does not leak

Property theorems about the model the driver executes (`Model/Evm12*.lean`). `RevertRestoresObs`
("`RevertToSnapshot` restores the observation", C04's theorem) is a hypothesis wherever a revert is
involved; `restore`, which the driver uses, satisfies it (`restore_restoresObs`).

Clause 1 (failed frame): `failed_call_no_trace`, `failed_authcall_no_trace`,
`failed_create_no_trace_partial` (+ `FullStatementFailedCreateNoTrace`, `…_counterexample`:
`ErrCodeStoreOutOfGas` is not reverted), `nested_frames_are_entry_points`.
Clause 2 (static): `static_no_write_partial`, `staticcall_no_write_partial`
(+ `FullStatementStaticNoWrite`, `…_counterexample`: AUTHCALL bumps a nonce in a read-only frame).
Clause 3 (per-tx scratch, receipts): in `Props/C12B.lean`.
Gas abstraction: the clauses hold for every `GasCut` of the program (`*_any_gas`).
-/
namespace Rangers.Props.C12
open Rangers.Model.Evm12

/-- `Call`, `CallCode`, `DelegateCall`, `StaticCall`: if the frame returns an error -- whichever:
    depth, balance, write protection, out of gas, invalid opcode, REVERT, and whatever its
    sub-frames did -- the observation (balances, nonces, storage, code, logs, existing accounts)
    is exactly the one at the call. -/
theorem failed_call_no_trace (env : Env) (hrv : RevertRestoresObs env.rv) (depth : Nat) (ro : Bool)
    (self : Addr) (kind : CallKind) (target : Addr) (value : Nat) (body : Frame) (w : World)
    (hfail : (callFrame env depth ro self kind target value body w).err.isSome) :
    obs (callFrame env depth ro self kind target value body w).world = obs w := by
  have hs := callEnter_sat env depth ro self kind target value w
  unfold callFrame callFrameK at hfail ⊢
  cases h : callEnter env depth ro self kind target value w with
  | fail w' e => rw [h] at hs; exact congrArg obs hs.1
  | skip w' => rw [h] at hfail; cases hfail
  | enter saved w' self' ro' callee =>
    rw [h] at hs hfail
    simp only [callExit_err] at hfail
    rw [callExit_world, if_pos hfail, hrv, hs.1]

example : RevertRestoresObs restore := restore_restoresObs

/-- non-vacuity: a CALL whose callee writes storage, logs and REVERTs does fail, and would have
    left a trace without the revert -/
example :
    let env : Env := { origin := .base 10, rv := restore }
    let w : World := ({} : World).setCode (.base 20) .hosted
    let r := callFrame env 0 false (.base 10) .call (.base 20) 0 (.sstore 1 7 (.log 1 5 (.done .revert))) w
    r.err = some .reverted ∧ r.world.getState (.base 20) 1 = 0 ∧ w.getState (.base 20) 1 = 0 := by
  decide +kernel

/-- non-vacuity for the precompile branch (snapshot, transfer, `RunPrecompiledContract`, revert on
    error): a value CALL to a precompile that fails leaves the caller's balance and the precompile's
    (non-)existence as they were; the same call succeeding moves the value -/
example :
    let env : Env := { origin := .base 10, rv := restore, isPrecompile := fun a => a == .base 109 }
    let w : World := ({} : World).addBalance (.base 20) 5
    let bad := callFrame env 1 false (.base 20) .call (.base 109) 1 (.done .invalid) w
    let good := callFrame env 1 false (.base 20) .call (.base 109) 1 (.done .stop) w
    bad.err = some .precompileFail ∧ bad.world.getBalance (.base 20) = 5 ∧ bad.world.exists? (.base 109) = false
    ∧ good.err = none ∧ good.world.getBalance (.base 20) = 4 ∧ good.world.getBalance (.base 109) = 1 := by
  decide +kernel

/-- `AuthCall`: a failed frame restores the observation at its snapshot, i.e. the caller's world
    with the authorized account's nonce already bumped (`authEntryWorld`). -/
theorem failed_authcall_no_trace (env : Env) (hrv : RevertRestoresObs env.rv) (depth : Nat) (ro : Bool)
    (au target : Addr) (value : Nat) (body : Frame) (w : World)
    (hfail : (authFrame env depth ro (some au) (w.getNonce au) target value body w).err.isSome) :
    obs (authFrame env depth ro (some au) (w.getNonce au) target value body w).world
      = obs (authEntryWorld env depth ro au target value w) := by
  unfold authFrame authFrameK authEntryWorld at *
  simp only [bne_self_eq_false, Bool.false_eq_true, ↓reduceIte] at hfail ⊢
  cases h : authEnter env depth ro au target value w with
  | fail w' e => rfl
  | skip w' => simp [h] at hfail
  | enter saved w' self' ro' callee =>
    simp only [h, authExit] at hfail ⊢
    simp only [hfail, ↓reduceIte]
    exact hrv _ _

/-- what the snapshot world of `AuthCall` is: the pre-checks refuse without touching anything,
    otherwise only the authorized account's nonce has moved -/
theorem authEntryWorld_eq (env : Env) (depth : Nat) (ro : Bool) (au target : Addr) (value : Nat) (w : World) :
    authEntryWorld env depth ro au target value w = w
    ∨ authEntryWorld env depth ro au target value w = w.setNonce au (w.getNonce au + 1) := by
  have hs := authEnter_sat env depth ro au target value w
  unfold authEntryWorld
  cases h : authEnter env depth ro au target value w with
  | fail w' e => rw [h] at hs; exact .inl hs.1
  | skip w' => rw [h] at hs; exact .inr hs
  | enter saved w' self' ro' callee => rw [h] at hs; exact .inr hs.1

/-- `create` (CREATE, CREATE2, contract-creation transactions): a failure other than
    `ErrCodeStoreOutOfGas` -- depth, balance, address collision, any error of the init code,
    REVERT, max code size -- restores the observation at the snapshot (`createEntryWorld`: after
    the creator's nonce bump and access-list insertion, which Ethereum keeps too). -/
theorem failed_create_no_trace_partial (env : Env) (hrv : RevertRestoresObs env.rv) (depth : Nat)
    (ro : Bool) (self : Addr) (two : Bool) (salt value : Nat) (init : Frame) (w : World)
    (hfail : (createFrame env depth ro self two salt value init w).err.isSome)
    (hnot : (createFrame env depth ro self two salt value init w).err ≠ some .codeStoreOutOfGas) :
    obs (createFrame env depth ro self two salt value init w).world
      = obs (createEntryWorld env depth ro self value (createAddr w self two salt) w) := by
  unfold createFrame createFrameK createEntryWorld at *
  simp only at hfail hnot ⊢
  cases h : createEnter env depth ro self value (createAddr w self two salt) w with
  | fail w' e => rfl
  | skip w' => simp [h] at hfail
  | enter saved w' self' ro' exec =>
    simp only [h] at hfail hnot ⊢
    rw [createExit_reverted env _ _ _ hfail hnot]
    exact hrv _ _

def FullStatementFailedCreateNoTrace : Prop :=
  ∀ (env : Env), RevertRestoresObs env.rv → ∀ (depth : Nat) (ro : Bool) (self : Addr) (two : Bool)
    (salt value : Nat) (init : Frame) (w : World),
    (createFrame env depth ro self two salt value init w).err.isSome →
    obs (createFrame env depth ro self two salt value init w).world
      = obs (createEntryWorld env depth ro self value (createAddr w self two salt) w)

/-- It is false of the model and of the code (`evm.go:457` excludes `ErrCodeStoreOutOfGas` from the
    revert): init code `SSTORE(1,7); RETURN(24576 bytes)` fails with that error and the storage
    write (with the new account, its nonce and the endowment) stays. Replayed on the
    implementation by the searcher (known finding `failed-frame:create:retbig`). -/
theorem failed_create_no_trace_counterexample : ¬ FullStatementFailedCreateNoTrace := by
  intro h
  have := h { origin := .base 10, rv := restore } restore_restoresObs 0 false (.base 20) false 0 0
    (.sstore 1 7 (.done .retBig)) ({} : World) (by decide +kernel)
  have h2 := congrArg (fun o => o.stor (.created (.base 20) 0) 1) this
  revert h2
  decide +kernel

/-- nested frames ARE these entry points: the interpreter's CALL-family / CREATE / AUTHCALL cases
    run `callFrame` / `createFrame` / `authFrame` on the current world, so the three theorems
    above hold at every nesting depth -/
theorem nested_frames_are_entry_points (env : Env) (depth : Nat) (ro : Bool) (self : Addr) (w : World)
    (clogs : List Log) (tr : List Event) (id : Nat) (rest : Frame) :
    (∀ kind target value body, roBlocked ro (CallKind.op kind) value = false →
      run env depth ro self w clogs tr (.call id kind target value body rest) =
        let r := callFrame env depth ro self kind target value body w
        run env depth ro self r.world (clogs ++ r.logs)
          (tr ++ r.trace ++ [{ id := id, ok := r.ok, world := r.world, err := r.err }]) rest)
    ∧ (∀ two salt value init, roBlocked ro (if two then Op.create2 else Op.create) value = false →
      run env depth ro self w clogs tr (.create id two salt value init rest) =
        let r := createFrame env depth ro self two salt value init w
        run env depth ro self r.world (clogs ++ r.logs)
          (tr ++ r.trace ++ [{ id := id, ok := r.ok, world := r.world, err := r.err }]) rest)
    ∧ (∀ au n target value body, roBlocked ro Op.authcall value = false →
      run env depth ro self w clogs tr (.authcall id au n target value body rest) =
        let r := authFrame env depth ro au n target value body (w.addAccess target)
        run env depth ro self r.world (clogs ++ r.logs)
          (tr ++ r.trace ++ [{ id := id, ok := r.ok, world := r.world, err := r.err }]) rest) := by
  -- each case of `run` is `if roBlocked … then failWith … else <the right-hand side>`
  have hn : ∀ {b : Bool}, b = false → ¬ b = true := fun h => h ▸ Bool.false_ne_true
  exact ⟨fun _ _ _ _ h => if_neg (hn h), fun _ _ _ _ h => if_neg (hn h), fun _ _ _ _ _ h => if_neg (hn h)⟩

/-- Once `in.readOnly` is set, a frame body -- every program tree of CALL / CALLCODE / DELEGATECALL /
    STATICCALL / CREATE / CREATE2 frames with SSTORE, TSTORE, LOGn, SELFDESTRUCT, value transfers
    anywhere, any success/failure pattern, any depth -- leaves balances, nonces, storage, code, logs
    and the set of (non-empty) existing accounts untouched. Excluded: trees containing AUTHCALL or
    the STAKE family (see the counterexample). -/
theorem static_no_write_partial (env : Env) (hrv : RevertRestoresObs env.rv) (body : Frame)
    (hplain : body.plain = true) (depth : Nat) (self : Addr) (w : World) (clogs : List Log)
    (tr : List Event) (hwf : (obs w).WF) :
    liveObs (run env depth true self w clogs tr body).world = liveObs w :=
  (static_run env hrv body hplain depth self w clogs tr hwf).1

/-- `StaticCall` itself (entered from a writable frame): the whole frame, success or failure. -/
theorem staticcall_no_write_partial (env : Env) (hrv : RevertRestoresObs env.rv) (body : Frame)
    (hplain : body.plain = true) (depth : Nat) (ro : Bool) (self target : Addr) (w : World)
    (hwf : (obs w).WF) :
    liveObs (callFrame env depth ro self .staticcall target 0 body w).world = liveObs w :=
  (static_callFrameK env hrv depth ro self .staticcall target 0
    (fun d ro' self' w' => run env d ro' self' w' [] [] body) (precompileOutcome body) w (.inr rfl)
    (fun d s w0 h0 => static_run env hrv body hplain d s w0 [] [] h0) (fun h => nomatch h) hwf).1

/-- non-vacuity: a well-formed world with a contract, and a plain body that tries every kind of
    write below a nested CALL and DELEGATECALL -/
example :
    let w : World := (({} : World).setCode (.base 20) .hosted).addBalance (.base 20) 5
    (obs w).WF ∧
    (Frame.call 1 .call (.base 21) 0
        (.call 2 .delegatecall (.base 20) 0 (.sstore 1 1 (.done .stop)) (.log 2 3 (.done .stop)))
        (.tstore 0 1 (.selfdestruct (.base 9)))).plain = true := by
  refine ⟨?_, by decide⟩
  intro a ha
  by_cases h : Addr.base 20 = a
  · subst h
    have : (obs ((({} : World).setCode (.base 20) .hosted).addBalance (.base 20) 5)).exist (.base 20) = true := by decide
    rw [this] at ha; cases ha
  · refine ⟨rfl, ?_, fun _ => rfl⟩
    simp [obs, World.getCode, World.setCode, World.addBalance, World.touchNew, World.exists?,
      AMap.get, AMap.set, h]

def FullStatementStaticNoWrite : Prop :=
  ∀ (env : Env), RevertRestoresObs env.rv → ∀ (body : Frame) (depth : Nat) (self : Addr) (w : World)
    (clogs : List Log) (tr : List Event), (obs w).WF →
    liveObs (run env depth true self w clogs tr body).world = liveObs w

/-- False of the model and of the code: AUTHCALL is not flagged `writes` (and the value test of the
    read-only guard only looks at `op == CALL`), and `AuthCall` bumps the authorized account's nonce
    before its snapshot. In a read-only frame `AUTHCALL(authority b30, nonce 0, target b21)` leaves
    b30 with nonce 1. Replayed on the implementation (known finding `static-frame:authcall:accounts`). -/
theorem static_no_write_counterexample : ¬ FullStatementStaticNoWrite := by
  intro h
  have := h { origin := .base 10, rv := restore } restore_restoresObs
    (.authcall 1 (some (.base 30)) 0 (.base 21) 0 (.done .stop) (.done .stop)) 0 (.base 20) ({} : World) [] []
    (by intro a _; exact ⟨rfl, rfl, fun _ => rfl⟩)
  have h2 := congrArg (fun o => o.nonce (.base 30)) this
  revert h2
  decide +kernel

/-- the read-only guard tests the WHOLE value word (`stack.Back(2).Sign() != 0`, generated fact
    `read_only_guard_as_modelled`): in a read-only frame a CALL with any non-zero value is refused --
    also a value whose low 64 or 128 bits are zero -/
theorem static_call_value_refused (v : Nat) (hv : v ≠ 0) : roBlocked true CallKind.call.op v = true := by
  simp [roBlocked, CallKind.op, hv]

example : roBlocked true CallKind.call.op (2 ^ 64) = true ∧ roBlocked true CallKind.call.op (2 ^ 256 - 2 ^ 64) = true :=
  ⟨static_call_value_refused _ (by decide), static_call_value_refused _ (by decide)⟩

/-- boundary of the depth check `evm.depth > CallCreateDepth` (1024, a generated fact): an entry point
    called at depth 1024 is not refused for depth, at depth 1025 it is, before touching anything. -/
theorem depth_limit_boundary (env : Env) (ro : Bool) (self : Addr) (kind : CallKind) (target : Addr)
    (value : Nat) (w : World) :
    callEnter env 1025 ro self kind target value w = .fail w .depth
    ∧ (∀ w', callEnter env 1024 ro self kind target value w ≠ .fail w' .depth)
    ∧ createEnter env 1025 ro self value target w = .fail w .depth
    ∧ (∀ w', createEnter env 1024 ro self value target w ≠ .fail w' .depth) := by
  refine ⟨by simp [callEnter, CallCreateDepth], ?_, by simp [createEnter, CallCreateDepth], ?_⟩
  · intro w' h
    exact Nat.lt_irrefl _ ((h ▸ callEnter_sat env 1024 ro self kind target value w).2 rfl)
  · intro w' h
    exact Nat.lt_irrefl _ ((h ▸ createEnter_sat env 1024 ro self value target w).1 rfl)

theorem plain_of_gasCut {f f' : Frame} (h : GasCut f f') (hp : f.plain = true) : f'.plain = true := by
  induction h with
  | refl f => exact hp
  | oog f => rfl
  | deposit t => rfl
  | sstore k v _ ih => exact ih hp
  | tstore k v _ ih => exact ih hp
  | log n t _ ih => exact ih hp
  | call id kind tg v _ _ ihb ihr =>
    simp only [Frame.plain, Bool.and_eq_true] at hp ⊢
    exact ⟨ihb hp.1, ihr hp.2⟩
  | create id two salt v _ _ ihb ihr =>
    simp only [Frame.plain, Bool.and_eq_true] at hp ⊢
    exact ⟨ihb hp.1, ihr hp.2⟩
  | authcall id au n tg v _ _ _ _ => cases hp
  | stake a _ _ => cases hp
  | unstake a _ _ => cases hp
  | unstakeall _ _ => cases hp
  | stakenum p _ _ => cases hp

/-- Clause 2 for every gas outcome: whichever frames of the tree run out of gas, wherever, the
    read-only frame leaves the live observation untouched. -/
theorem static_no_write_any_gas (env : Env) (hrv : RevertRestoresObs env.rv) (body body' : Frame)
    (hcut : GasCut body body') (hplain : body.plain = true) (depth : Nat) (self : Addr) (w : World)
    (clogs : List Log) (tr : List Event) (hwf : (obs w).WF) :
    liveObs (run env depth true self w clogs tr body').world = liveObs w :=
  static_no_write_partial env hrv body' (plain_of_gasCut hcut hplain) depth self w clogs tr hwf

/-- Clause 1 for every gas outcome: a call frame that fails -- for whatever reason, under whatever
    allotment of gas to it and its sub-frames -- restores the observation. -/
theorem failed_call_no_trace_any_gas (env : Env) (hrv : RevertRestoresObs env.rv) (depth : Nat) (ro : Bool)
    (self : Addr) (kind : CallKind) (target : Addr) (value : Nat) (body body' : Frame) (_hcut : GasCut body body')
    (w : World) (hfail : (callFrame env depth ro self kind target value body' w).err.isSome) :
    obs (callFrame env depth ro self kind target value body' w).world = obs w :=
  failed_call_no_trace env hrv depth ro self kind target value body' w hfail

/-- running out of gas is itself a failure the frame recovers from: cutting a successful body short
    makes the call fail and the observation is the one at the call -/
example :
    let env : Env := { origin := .base 10, rv := restore }
    let w : World := ({} : World).setCode (.base 20) .hosted
    let full := Frame.sstore 1 7 (.log 1 5 (.done .stop))
    let cut := Frame.sstore 1 7 (.done .oog)
    (callFrame env 0 false (.base 10) .call (.base 20) 0 full w).world.getState (.base 20) 1 = 7
    ∧ (callFrame env 0 false (.base 10) .call (.base 20) 0 cut w).err = some .outOfGas
    ∧ (callFrame env 0 false (.base 10) .call (.base 20) 0 cut w).world.getState (.base 20) 1 = 0 := by
  decide +kernel

example : GasCut (.sstore 1 7 (.log 1 5 (.done .stop))) (.sstore 1 7 (.done .oog)) :=
  .sstore 1 7 (.oog _)

/-- The STAKE family is a second way the full statement fails (of model and code): none of STAKE,
    UNSTAKE, UNSTAKEALL is flagged `writes` or tests `readOnly`. In a read-only frame running at a
    registered miner account, `STAKE 1` moves 1 RPG out of the balance into the stake and `UNSTAKE 1`
    lowers the stake. Replayed on the implementation inside generated frame trees (known findings
    `static-frame:stakefamily:*`). -/
theorem static_no_write_counterexample_stake :
    let env : Env := { origin := .base 10, rv := restore, isMiner := fun a => a == .base 23 }
    let w : World := { bal := [(.base 23, 2 * oneRPG)], stake := [(.base 23, 400)] }
    (obs (run env 1 true (.base 23) w [] [] (.stake 1 (.done .stop))).world).bal (.base 23) = oneRPG
    ∧ (obs (run env 1 true (.base 23) w [] [] (.stake 1 (.done .stop))).world).stake (.base 23) = 401
    ∧ (obs (run env 1 true (.base 23) w [] [] (.unstake 1 (.done .stop))).world).stake (.base 23) = 399
    ∧ (obs (run env 1 true (.base 23) w [] [] (.unstakeall (.done .stop))).world).stake (.base 23) = 0 := by
  intro env w
  -- the guard lets all three through (`roBlocked_true`); what is left computes without the jump table
  simp only [run, roBlocked_true, Op.flagged, Bool.false_or, endingResult]
  decide +kernel

end Rangers.Props.C12
