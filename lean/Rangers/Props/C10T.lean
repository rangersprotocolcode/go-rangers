import Rangers.Proofs.Evm10Table
/-!
# C10 — the generated jump tables agree with the opcode specification (T-gen)

`Generated/Evm10JumpTable.lean` is rewritten from the live interpreter on every run
(`gen/cmd/c10facts` through the hook `vm.VerifJumpTableAt`); the theorems below are
re-checked against it, so a re-pointed `execute`, a changed stack demand, a lost or gained
`jumps` flag, a re-parameterised `makePush/makeDup/makeSwap` closure or an opcode enabled in
the wrong fork breaks the build.
-/
namespace Rangers.Props.C10
open Rangers Rangers.Model.Evm10 Rangers.Proofs.Evm10
open Rangers.Generated.Evm10


/-- fixed part of the specification: (byte, function, δ, α) -/
def specFixed : List (Nat × Exec × Nat × Nat) :=
  [(0x00, .opStop, 0, 0),
   (0x01, .opAdd, 2, 1),
   (0x02, .opMul, 2, 1),
   (0x03, .opSub, 2, 1),
   (0x04, .opDiv, 2, 1),
   (0x05, .opSdiv, 2, 1),
   (0x06, .opMod, 2, 1),
   (0x07, .opSmod, 2, 1),
   (0x08, .opAddmod, 3, 1),
   (0x09, .opMulmod, 3, 1),
   (0x0a, .opExp, 2, 1),
   (0x0b, .opSignExtend, 2, 1),
   (0x10, .opLt, 2, 1),
   (0x11, .opGt, 2, 1),
   (0x12, .opSlt, 2, 1),
   (0x13, .opSgt, 2, 1),
   (0x14, .opEq, 2, 1),
   (0x15, .opIszero, 1, 1),
   (0x16, .opAnd, 2, 1),
   (0x17, .opOr, 2, 1),
   (0x18, .opXor, 2, 1),
   (0x19, .opNot, 1, 1),
   (0x1a, .opByte, 2, 1),
   (0x1b, .opSHL, 2, 1),
   (0x1c, .opSHR, 2, 1),
   (0x1d, .opSAR, 2, 1),
   (0x20, .opSha3, 2, 1),
   (0x35, .opCallDataLoad, 1, 1),
   (0x36, .opCallDataSize, 0, 1),
   (0x37, .opCallDataCopy, 3, 0),
   (0x38, .opCodeSize, 0, 1),
   (0x39, .opCodeCopy, 3, 0),
   (0x3d, .opReturnDataSize, 0, 1),
   (0x3e, .opReturnDataCopy, 3, 0),
   (0x50, .opPop, 1, 0),
   (0x51, .opMload, 1, 1),
   (0x52, .opMstore, 2, 0),
   (0x53, .opMstore8, 2, 0),
   (0x56, .opJump, 1, 0),
   (0x57, .opJumpi, 2, 0),
   (0x58, .opPc, 0, 1),
   (0x59, .opMsize, 0, 1),
   (0x5a, .opGas, 0, 1),
   (0x5b, .opJumpdest, 0, 0),
   (0x60, .opPush1, 0, 1),
   (0xf3, .opReturn, 2, 0),
   (0xfd, .opRevert, 2, 0)]

/-- Specification of the computational opcode bytes (Yellow Paper Appendix H.2, EIP-145,
EIP-3855 PUSH0, EIP-5656 MCOPY): the transcribed function the byte must run, δ (items removed)
and α (items added).  `p022` = the fork that introduces PUSH0/MCOPY is active. -/
def specOp (p022 : Bool) (op : Nat) : Option (Exec × Nat × Nat) :=
  if 0x61 ≤ op ∧ op ≤ 0x7f then some (.push (op - 0x5f) (op - 0x5f), 0, 1)
  else if 0x80 ≤ op ∧ op ≤ 0x8f then some (.dup (op - 0x7f), op - 0x7f, op - 0x7f + 1)
  else if 0x90 ≤ op ∧ op ≤ 0x9f then some (.swap (op - 0x8f), op - 0x8f + 1, op - 0x8f + 1)
  else if op = 0x5e then (if p022 then some (.opMcopy, 3, 0) else none)
  else if op = 0x5f then (if p022 then some (.opPush0, 0, 1) else none)
  else (specFixed.find? (fun e => e.1 == op)).map (fun e => e.2)

/-- one slot against the specification: function, stack demand, control-flow flags, and the
two fork-gated bytes undefined before their fork -/
def slotMatches (p022 : Bool) (op : Nat) (slot : Option OpInfo) : Bool :=
  match specOp p022 op, slot with
  | some (e, δ, α), some i =>
    (i.exec == e) && (i.minStack == δ) && (i.maxStack == 1024 + δ - α) &&
    (i.jumps == (op == 0x56 || op == 0x57)) && (i.halts == (op == 0x00 || op == 0xf3)) &&
    (i.reverts == (op == 0xfd)) && (i.returns == (op == 0xfd)) && !i.writes
  | some _, none => false
  | none, some i =>
    -- everything else may exist (environment, storage, calls, extensions) but must not be one of
    -- the control-flow functions, must not carry the `jumps` flag, and PUSH0/MCOPY bytes stay undefined
    !(i.exec == .opJump) && !(i.exec == .opJumpi) && !i.jumps && !(op == 0x5e) && !(op == 0x5f)
  | none, none => true

def tableMatches (p022 : Bool) (t : Table) : Bool :=
  (List.range 256).all (fun op => slotMatches p022 op (t.get op))

/-- **T-gen obligation**: all eight generated tables agree with the specification of the
computational opcode bytes (cfg bit 1 = Proposal022 = PUSH0/MCOPY active). -/
theorem table_ops_bound :
    tableMatches false table0 = true ∧ tableMatches false table1 = true ∧
    tableMatches true table2 = true ∧ tableMatches true table3 = true ∧
    tableMatches false table4 = true ∧ tableMatches false table5 = true ∧
    tableMatches true table6 = true ∧ tableMatches true table7 = true := by
  -- the same check walked along the slot list (`fullRows`, `Proofs/Evm10Table`)
  have h : fullRows (slotMatches false) table0 = true ∧ fullRows (slotMatches false) table1 = true ∧
      fullRows (slotMatches true) table2 = true ∧ fullRows (slotMatches true) table3 = true ∧
      fullRows (slotMatches false) table4 = true ∧ fullRows (slotMatches false) table5 = true ∧
      fullRows (slotMatches true) table6 = true ∧ fullRows (slotMatches true) table7 = true := by
    decide +kernel
  obtain ⟨h0, h1, h2, h3, h4, h5, h6, h7⟩ := h
  exact ⟨all_range_of_fullRows h0, all_range_of_fullRows h1, all_range_of_fullRows h2,
    all_range_of_fullRows h3, all_range_of_fullRows h4, all_range_of_fullRows h5,
    all_range_of_fullRows h6, all_range_of_fullRows h7⟩

/-- the consistency facts the no-panic theorem needs hold for every generated table -/
theorem table_consistent (cfg : Nat) : tableOK (table cfg) = true := tables_ok cfg

/-- `forkReads` (T-gen: a go/ast scan of src/vm) lists the fork-flag reads as (file, function,
proposal number).  What the model accounts for: the interpreter builds its table from
Proposal014/022/026 in `NewEVMInterpreter`; the gas functions the model transcribes read only
`IsProposal026`; nothing in the opcode bodies, stack, memory, analysis or contract code reads a fork
flag; every other read sits in a function outside the computational set (contract creation,
SSTORE/LOG/CREATE2 gas). -/
def forkReadOK (r : String × String × Nat) : Bool :=
  let (file, fn, n) := r
  if file == "interpreter.go" then fn == "NewEVMInterpreter" && (n == 14 || n == 22 || n == 26)
  else if file == "gas_table.go" then
    if fn == "memoryGasCost" || fn == "memoryCopierGas" || fn == "gasSha3" ||
       fn == "gasExpFrontier" || fn == "gasExpEIP158" then n == 26
    else fn == "gasSStore" || fn == "gasSStoreEIP2200" || fn == "makeGasLog" || fn == "gasCreate2"
  else file == "evm.go" && fn == "create"

/-- a new `common.IsProposalNNN()` / `.ProposalNNNBlock` read anywhere on the modelled path (for
instance inside an opcode body) makes this obligation fail: the model would then be missing an input. -/
theorem fork_reads_pinned : forkReads.all forkReadOK = true := by decide +kernel

end Rangers.Props.C10
