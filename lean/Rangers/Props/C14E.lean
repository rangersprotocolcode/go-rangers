import Rangers.Model.Bls14Verify
import Rangers.Model.Bls14Hash
import Rangers.Proofs.BigEndian
import Rangers.Proofs.Bls14Field
import Rangers.Proofs.Bls14Model
/-!
# C14 — encodings of secret keys, ids and public keys; hash-to-G1; negation

"Secret keys, public keys, signatures and ids survive a serialise/parse round trip unchanged."
(The signature round trip is `Props.C14.sig_roundtrip`.)
-/
namespace Rangers.Props.C14
open Rangers Rangers.Model.Bls14 Rangers.Proofs.Bls14

/-- Every secret-key value (any natural number, reduced or not) survives Serialize/Deserialize. -/
theorem scalar_roundtrip (n : Nat) : scalarDeserialize (scalarSerialize n) = n :=
  beToNat_natToBE n

/-- The other direction is not injective on bytes: leading zero bytes are dropped by `SetBytes`
    (so the parse of a byte string is not determined by its value alone — recorded, not claimed
    by the property). -/
theorem scalar_leading_zeros (k : Nat) (b : Bytes) :
    scalarDeserialize (List.replicate k 0 ++ b) = scalarDeserialize b :=
  beToNat_zeros_append k b

/-- `NewSeckeyFromBigInt` yields a reduced scalar and is idempotent. -/
theorem seckey_reduced (n : Nat) : seckeyFromNat n < R ∧ seckeyFromNat (seckeyFromNat n) = seckeyFromNat n := by
  refine ⟨Nat.mod_lt _ (by decide), ?_⟩
  simp [seckeyFromNat]

theorem idSerialize_eq (n : Nat) :
    idSerialize n = if n < 2 ^ 256 then some (padLeft 32 (natToBE n)) else none := by
  have hle := natToBE_length_le_32 n
  unfold idSerialize
  by_cases h32 : (natToBE n).length = 32
  · rw [if_pos (hle.mp (by omega))]
    simp [IDL, Generated.Bls14.idLength, h32, padLeft]
  · by_cases hgt : (natToBE n).length > 32
    · rw [if_neg (mt hle.mpr (by omega))]
      simp [IDL, Generated.Bls14.idLength, h32, hgt]
    · rw [if_pos (hle.mp (by omega))]
      simp [IDL, Generated.Bls14.idLength, h32, hgt]

/-- Every id below 2^256 serialises to exactly 32 bytes that parse back to it. -/
theorem id_roundtrip (n : Nat) (h : n < 2 ^ 256) :
    ∃ b, idSerialize n = some b ∧ b.length = 32 ∧ scalarDeserialize b = n :=
  ⟨_, by rw [idSerialize_eq, if_pos h], padLeft_length 32 _ ((natToBE_length_le_32 n).mpr h),
    by rw [scalarDeserialize, beToNat_padLeft, beToNat_natToBE]⟩

example : (12345 : Nat) < 2 ^ 256 := by decide

/-- The error branch is explicit, not defaulted: `ID.Serialize` panics exactly for values ≥ 2^256
    (reachable only through `Deserialize` of more than 32 bytes / `SetHexString`). -/
theorem id_serialize_panics_iff (n : Nat) : idSerialize n = none ↔ 2 ^ 256 ≤ n := by
  rw [idSerialize_eq]
  split <;> simp <;> omega

/-- A short input to `G2.Unmarshal` on a nil receiver leaves a NON-nil infinity behind
    (allocation precedes the length check) — so `Pubkey.Deserialize` with its error ignored
    yields a key that `IsValid()` accepts. `ByteToPublicKey` discards it. -/
theorem g2_unmarshal_short (b : Bytes) (h : b.length < 128) :
    g2Unmarshal .nil b = (.pt .inf, .short) ∧ byteToPublicKey b = .nil := by
  have : g2Unmarshal .nil b = (.pt .inf, .short) := by rw [g2Unmarshal_eq, if_pos h]
  exact ⟨this, by simp [byteToPublicKey, this]⟩

/-- A reduced non-identity twist point survives Marshal/Unmarshal. -/
theorem g2_marshal_unmarshal (recv : G2Val) (x y : F2)
    (hr : x.x < P ∧ x.y < P ∧ y.x < P ∧ y.y < P) (hc : onTwistXY x y = true) :
    g2Unmarshal recv (g2Marshal (.aff x y)) = (.pt (.aff x y), .ok []) := by
  have h := g2Unmarshal_marshal_append recv x y [] hr hc
  rwa [List.append_nil] at h

example : onTwistXY ⟨Generated.Bls14.twistGenXX, Generated.Bls14.twistGenXY⟩
    ⟨Generated.Bls14.twistGenYX, Generated.Bls14.twistGenYY⟩ = true := by decide

/-- Every valid public key (non-identity point of the twist; the image of a
    secret key `sk ≢ 0`) survives `Serialize` / `ByteToPublicKey`. -/
theorem pubkey_roundtrip (x y : F2)
    (hr : x.x < P ∧ x.y < P ∧ y.x < P ∧ y.y < P) (hc : onTwistXY x y = true) :
    byteToPublicKey (Pub.serialize (.pt (.aff x y))) = .pt (.aff x y) :=
  byteToPublicKey_of_ok (g2_marshal_unmarshal .nil x y hr hc)

/-- The identity of G2 (the key of the invalid secret key `0`, `Seckey.IsValid() = false`) is the one
    value that does not come back: `Marshal` writes ONE zero byte, `Unmarshal` wants 128. -/
theorem identity_pubkey_not_roundtrip : byteToPublicKey (Pub.serialize (.pt .inf)) = .nil := by
  decide

/-- **FullStatement**: parsing into an object that already holds something gives what parsing the
    same bytes into a fresh object gives (the object reflects the LAST bytes). -/
def FullStatement_parse_target_reflects_last_bytes : Prop :=
  ∀ (old : Sig) (b : Bytes), (Sig.deserialize old b).1 = deserializeSign b

/-- False of model and code (known finding `stale-value-after-short-parse`): a 1-byte input leaves
    the old, valid signature in place and the setter reports no error. -/
theorem parse_target_reflects_last_bytes_counterexample :
    ¬ FullStatement_parse_target_reflects_last_bytes := by
  intro h
  have := h (.pt g1Gen) [7]
  rw [Sig.deserialize_fst, deserializeSign_eq, g1Unmarshal_eq, if_pos (by decide), g1Unmarshal_eq,
    if_pos (by decide)] at this
  cases this

/-- For every input of at least 64 bytes — valid,
    off-curve, anything — the old content of the receiver is irrelevant: `G1.Unmarshal`, and hence
    `Signature.Deserialize` / `SetHexString`, overwrite it (an off-curve input leaves an INVALID
    value, never the earlier one). -/
theorem parse_target_reflects_last_bytes_partial (old : Sig) (b : Bytes) (h : 64 ≤ b.length) :
    g1Unmarshal old b = g1Unmarshal .nil b ∧ (Sig.deserialize old b).1 = deserializeSign b := by
  have hl : ¬ b.length < 64 := by omega
  have e : g1Unmarshal old b = g1Unmarshal .nil b := by
    rw [g1Unmarshal_eq, g1Unmarshal_eq, if_neg hl, if_neg hl]
  exact ⟨e, by rw [Sig.deserialize_fst, deserializeSign_eq, e]⟩

example : (64 : Nat) ≤ (g1Marshal g1Gen).length := by rw [g1_marshal_length]

/-- The same for public keys: at least 128 bytes overwrite the receiver whatever it held. -/
theorem pubkey_parse_target_reflects_last_bytes (old : Pub) (b : Bytes) (h : 128 ≤ b.length) :
    g2Unmarshal old b = g2Unmarshal .nil b := by
  have hl : ¬ b.length < 128 := by omega
  rw [g2Unmarshal_eq, g2Unmarshal_eq, if_neg hl, if_neg hl]

/-- A 128-byte encoding is never read as the identity because of its FIRST byte alone: the
    identity needs all four coordinates ≡ 0 (there is no tag byte in this format). -/
theorem g2_unmarshal_identity_iff (b : Bytes) (h : 128 ≤ b.length) :
    (g2Unmarshal .nil b).1 = .pt .inf ↔
      (beToNat (slice b 0) % P = 0 ∧ beToNat (slice b 1) % P = 0 ∧
       beToNat (slice b 2) % P = 0 ∧ beToNat (slice b 3) % P = 0) := by
  have hl : ¬ b.length < 128 := by omega
  rw [g2Unmarshal_eq, if_neg hl]
  simp only [g2Read, pt2OfCoords, fieldAt, F2.isZero, Bool.and_eq_true, beq_iff_eq, and_assoc]
  constructor
  · intro hh
    split at hh
    · assumption
    · cases hh
  · intro hz
    rw [if_pos hz]

theorem hashLoop_some (fuel x0 : Nat) (q : Pt) (h : hashLoop fuel x0 = some q) :
    ∃ x y, q = .aff (x % P) y ∧ modSqrt (x * x * x + B) = some y := by
  induction fuel generalizing x0 with
  | zero => simp [hashLoop] at h
  | succ fuel ih =>
    rw [hashLoop] at h
    split at h
    · next y hy => exact ⟨x0, y, by simpa using h.symm, hy⟩
    · exact ih _ h

/-- Whatever try-and-increment returns is a reduced point on the curve (so `HashToPoint`'s
    final `IsValid` check cannot fail), for every digest; no primality assumption. -/
theorem hashToPoint_onCurve (d : Bytes) (q : Pt) (h : hashToPoint d = some q) :
    q.onCurve = true ∧ q.reduced = true := by
  obtain ⟨x, y, rfl, hy⟩ := hashLoop_some _ _ q h
  obtain ⟨hsq, hlt⟩ := modSqrt_sq _ _ hy
  refine ⟨?_, by simp [Pt.reduced, Nat.mod_lt _ P_pos, hlt]⟩
  simp only [Pt.onCurve, onCurveXY, beq_iff_eq]
  rw [hsq]
  have m : x % P ≡ x [MOD P] := Nat.mod_modEq _ _
  exact (((m.mul m).mul m).add_right B).symm

example : (hashLoop 4 1).isSome = true := by decide +kernel

/-- The same for the end-to-end `hashToG1(m)` (SHA-256 inside the model): whatever message is
    hashed, a returned point is valid — so `Sign` never starts from an off-curve point. -/
theorem hashToG1_onCurve (m : Bytes) (q : Pt) (h : hashToG1 m = some q) :
    q.onCurve = true ∧ q.reduced = true :=
  hashToPoint_onCurve _ q h

/-- The postcondition of the UNBOUNDED try-and-increment loop is an affine curve point: `H(m)` is never
    the identity (the loop of the code has no bound and no `SetInfinity` exit:
    `shape_hashToCurvePointLoop`, `shape_hashToPointCalls`). -/
theorem hashToG1_ne_identity (m : Bytes) (q : Pt) (h : hashToG1 m = some q) : q ≠ .inf := by
  obtain ⟨x, y, rfl, -⟩ := hashLoop_some _ _ q h
  exact Pt.noConfusion

theorem compress_size (h blk : Array UInt32) : (Sha.compress h blk).size = 8 := by
  simp [Sha.compress]

theorem wordBytes_flatten_length (l : List UInt32) :
    ((l.map Sha.wordBytes).foldr (· ++ ·) []).length = 4 * l.length := by
  induction l with
  | nil => rfl
  | cons w l ih =>
    rw [List.map_cons, List.foldr_cons, List.length_append, ih, List.length_cons, Nat.mul_succ,
      Nat.add_comm]
    rfl

/-- The digest is always 32 bytes (eight 32-bit words), so it is read as a 256-bit number. -/
theorem sha256_length (m : Bytes) : (Sha.sha256 m).length = 32 := by
  unfold Sha.sha256
  rw [wordBytes_flatten_length, Array.length_toList,
    List.foldlRecOn (motive := fun h : Array UInt32 => h.size = 8) _ _ rfl fun h _ c _ => compress_size h c]

theorem neg_onCurve (q : Pt) (hc : q.onCurve = true) (hr : q.reduced = true) :
    q.neg.onCurve = true ∧ q.neg.reduced = true := by
  refine ⟨?_, pt_neg_reduced q hr⟩
  cases q with
  | inf => rfl
  | aff x y =>
    simp only [Pt.onCurve, onCurveXY, beq_iff_eq] at hc
    simp only [Pt.neg, Pt.onCurve, onCurveXY, beq_iff_eq]
    rw [show fneg y * fneg y % P = y * y % P from fmul_fneg_fneg y y, hc]

/-- `−P ≠ P` for every reduced affine point with `y ≠ 0` (p is odd): the negated signature is a
    different group element, hence (by uniqueness) rejected. -/
theorem neg_ne_self (x y : Nat) (hy : y < P) (h0 : y ≠ 0) : Pt.neg (.aff x y) ≠ .aff x y := by
  simp only [Pt.neg, ne_eq, Pt.aff.injEq, true_and]
  intro h
  have := fneg_fixed y (by rw [h])
  rw [Nat.mod_eq_of_lt hy] at this
  exact h0 this

example : (P - 2) < P ∧ (P - 2) ≠ 0 := by decide

end Rangers.Props.C14
