import Rangers.Proofs.C09Fuel
import Rangers.Props.C09C
/-!
# C09, part 4 — groups and blocks: wire and converter round trips, fixed point, lossless, hash stability

`wire_roundtrip_group/block`, `rawFields_fuel_sufficient`, `rawStep_consumes` give the property's name to
`decGroup_encGroup`, `decBlock_encBlock`, `parseRaw_fuel_sufficient`, `rawStep_shrinks` of `Proofs/C09Msgs`, `C09Fuel`.
-/
namespace Rangers.Props.C09
open Rangers Rangers.Wire Rangers.Json

theorem wire_roundtrip_group (p : PbGroup) (h : PbGroupWF p) : decGroup (encGroup p) = some p :=
  decGroup_encGroup p h

theorem wire_roundtrip_block (p : PbBlock) (h : PbBlockWF p) : decBlock (encBlock p) = some p :=
  decBlock_encBlock p h

/-- One `MarshalBinary`/`UnmarshalBinary` pass on a time, errors ignored as `GroupToPbHeader` /
    `PbToGroupHeader` ignore them (zero time when the zone is not marshalable). -/
def normGroupTime (t : GoTime) : GoTime := (binToTime ((timeToBin t).getD [])).getD zeroTime

theorem normGroupTime_ok (t : GoTime) (h : TimeOK t) : normGroupTime t = t := by
  obtain ⟨b, hb, hb'⟩ := binToTime_timeToBin t h
  simp [normGroupTime, hb, hb']

/-- What one Marshal/UnMarshal pass makes of an arbitrary in-memory group: the three derived
    heights have no wire field. -/
def normGroup (g : Group) : Group :=
  { g with header := { g.header with hash := bytesToHash g.header.hash,
                                     beginTime := normGroupTime g.header.beginTime,
                                     memberRoot := bytesToHash g.header.memberRoot,
                                     readyHeight := 0, workHeight := 0, dismissHeight := 0 } }

/-- convert_roundtrip (groups), for every in-memory group. -/
theorem group_convert_roundtrip (g : Group) : pbToGroup (groupToPb g) = .ok (normGroup g) := by
  simp only [pbToGroup, groupToPb, pbToGroupHeader, groupHeaderToPb, derefNat_eq, derefStr_eq, Option.getD_some, optHash,
    normGroup, normGroupTime]

theorem zeroTime_ok : TimeOK zeroTime := ⟨by decide, by decide, by decide, trivial⟩

/-- The fixed-point law for groups (the begin time must be one `MarshalBinary` carries, or not
    marshalable at all — then it is the zero time after the first pass). -/
theorem normGroup_idem (g : Group) (h : TimeOK g.header.beginTime ∨ timeToBin g.header.beginTime = none) :
    normGroup (normGroup g) = normGroup g := by
  have ht : normGroupTime (normGroupTime g.header.beginTime) = normGroupTime g.header.beginTime := by
    rcases h with h | h
    · rw [normGroupTime_ok _ h, normGroupTime_ok _ h]
    · have : normGroupTime g.header.beginTime = zeroTime := by
        simp only [normGroupTime, h, Option.getD_none]; decide
      rw [this, normGroupTime_ok _ zeroTime_ok]
  simp only [normGroup, bytesToHash_id _ (bytesToHash_length _), ht]

def GroupFits (g : Group) : Prop := PbGroupWF (groupToPb g)

theorem group_roundtrip (g : Group) (fits : GroupFits g) :
    unmarshalGroup (marshalGroup g) = .ok (normGroup g) := by
  unfold unmarshalGroup marshalGroup
  simp only [decGroup_encGroup _ fits, group_convert_roundtrip]

/-- hash_stable (groups): `GroupHeader.GenHash` reads Parent, PreGroup, CreateBlockHash, MemberRoot,
    CreateHeight, Extends — the pass changes none of them (MemberRoot is a 32-byte hash in memory). -/
theorem group_hash_stable (g : Group) (hm : g.header.memberRoot.length = 32) :
    groupHeaderHashInput (normGroup g).header = groupHeaderHashInput g.header := by
  simp only [groupHeaderHashInput, normGroup, bytesToHash_id _ hm]

def GroupValid (g : Group) : Prop :=
  g.header.hash.length = 32 ∧ g.header.memberRoot.length = 32 ∧ TimeOK g.header.beginTime

def FullStatement_group_lossless : Prop :=
  ∀ g : Group, GroupFits g → GroupValid g → unmarshalGroup (marshalGroup g) = .ok g

/-- Proved restriction: … when the derived heights are zero (they are recomputed by
    `groupChain.AddGroup`, never carried). -/
theorem group_lossless_partial (g : Group) (fits : GroupFits g) (hv : GroupValid g)
    (hz : g.header.readyHeight = 0 ∧ g.header.workHeight = 0 ∧ g.header.dismissHeight = 0) :
    unmarshalGroup (marshalGroup g) = .ok g := by
  rw [group_roundtrip g fits]
  obtain ⟨h1, h2, h3⟩ := hv
  obtain ⟨z1, z2, z3⟩ := hz
  cases g with
  | mk header id pubKey signature members groupHeight =>
  cases header
  simp only at h1 h2 h3 z1 z2 z3
  simp only [normGroup, bytesToHash_id _ h1, bytesToHash_id _ h2, normGroupTime_ok _ h3, z1, z2, z3]

def witnessGroup : Group :=
  { header := { hash := List.replicate 32 0, parent := none, preGroup := none, createBlockHash := none,
                beginTime := zeroTime, memberRoot := List.replicate 32 7, createHeight := 128, readyHeight := 0,
                workHeight := 4294967295, dismissHeight := 0, extends_ := [] },
    id := some [1], pubKey := none, signature := some [], members := [[1, 2], []], groupHeight := 3 }

theorem witnessGroup_fits : GroupFits witnessGroup := ⟨by decide +kernel, _, rfl, by decide +kernel, rfl, rfl⟩
theorem witnessGroup_valid : GroupValid witnessGroup := ⟨rfl, rfl, zeroTime_ok⟩

/-- Known finding `group-roundtrip-derived-heights-dropped` as a theorem about the model. -/
theorem group_lossless_counterexample : ¬ FullStatement_group_lossless := by
  intro H
  have h := H witnessGroup witnessGroup_fits witnessGroup_valid
  rw [group_roundtrip witnessGroup witnessGroup_fits] at h
  exact absurd (congrArg (·.header.workHeight) (Outcome.ok.inj h)) (by decide)

def normBlock (b : Block) : Block := ⟨b.header.map normHeader, b.txs.map normTx⟩

theorem pbToTxs_map (ts : List Tx) : pbToTxs (ts.map txToPb) = .ok (ts.map normTx) := by
  induction ts with
  | nil => rfl
  | cons t ts ih => simp only [List.map_cons, pbToTxs, tx_convert_roundtrip, ih]

theorem normBlock_idem (b : Block) (hs : ∀ t ∈ b.txs, SubTxStable t.subTx) :
    normBlock (normBlock b) = normBlock b := by
  cases b with
  | mk header txs =>
  simp only at hs
  simp only [normBlock, Option.map_map, List.map_map]
  congr 1
  · cases header <;> simp [normHeader_idem]
  · exact List.map_congr_left (fun t ht => normTx_idem_partial t (hs t ht))

/-- Every byte string `MarshalBlock` emits for `b` fits the framing, at every nesting level. -/
def BlockFits (b : Block) : Prop :=
  ∀ h ph, b.header = some h → headerToPb h = some ph → PbBlockWF ⟨some ph, b.txs.map txToPb⟩

/-- MarshalBlock then UnMarshalBlock of any in-memory block with a header yields `norm b`. -/
theorem block_roundtrip (b : Block) (h : Header) (hh : b.header = some h) (ok : HeaderOK h) (fits : BlockFits b) :
    ∃ bs, marshalBlock b = .ok bs ∧ unmarshalBlock bs = .ok (normBlock b) := by
  obtain ⟨ph, hph, hc⟩ := header_convert_roundtrip h ok
  refine ⟨encBlock ⟨some ph, b.txs.map txToPb⟩, by simp only [marshalBlock, hh, hph], ?_⟩
  simp only [unmarshalBlock, decBlock_encBlock _ (fits h ph hh hph), pbToBlock, hc, pbToTxs_map, normBlock, hh,
    Option.map_some, Option.isNone_some, Bool.false_and]
  rfl

/-- The transactions a block carries: valid and without a socket request id. -/
def TxsCarried (ts : List Tx) : Prop := ∀ t ∈ ts, TxValid t ∧ t.socketRequestId = []

theorem map_normTx_carried (ts : List Tx) (h : TxsCarried ts) : ts.map normTx = ts :=
  C09.map_fix normTx ts (fun t ht => normTx_of_carried t (h t ht).1 (h t ht).2)

/-- The property for blocks: a block with a producible header is stored, reloaded or relayed with the
    same content; the header keeps its `GenHash`, every transaction keeps its `GenHash`. -/
theorem block_lossless (b : Block) (h : Header) (hh : b.header = some h) (ok : HeaderOK h) (fits : BlockFits b)
    (hp : Producible h) (ht : TxsCarried b.txs) :
    ∃ bs, marshalBlock b = .ok bs ∧ unmarshalBlock bs = .ok b := by
  obtain ⟨bs, hm, hu⟩ := block_roundtrip b h hh ok fits
  refine ⟨bs, hm, ?_⟩
  rw [hu]
  cases b with
  | mk header txs =>
  simp only at hh ht
  subst hh
  simp only [normBlock, Option.map_some, normHeader_of_producible h hp, map_normTx_carried txs ht]

/-- hash stability through the block codec, without `TxsCarried`: whatever the transactions carry,
    a producible header keeps its hash input and every transaction keeps its hash input. -/
theorem block_hash_stable (b : Block) (h : Header) (hh : b.header = some h) (ok : HeaderOK h) (fits : BlockFits b)
    (hp : Producible h) :
    ∃ bs b', marshalBlock b = .ok bs ∧ unmarshalBlock bs = .ok b' ∧
      b'.header.map headerHashInput = some (headerHashInput h) ∧
      b'.txs.map txHashInput = b.txs.map txHashInput := by
  obtain ⟨bs, hm, hu⟩ := block_roundtrip b h hh ok fits
  refine ⟨bs, normBlock b, hm, hu, ?_, ?_⟩
  · simp only [normBlock, hh, Option.map_some, normHeader_of_producible h hp]
  · simp only [normBlock, List.map_map]
    exact List.map_congr_left (fun t _ => tx_hash_stable t)

/-- Non-vacuity: a concrete block satisfies the hypotheses and round-trips in the model. -/
def sampleBlock : Block := ⟨some sampleHeader, [{ witnessTx with socketRequestId := [] }]⟩

set_option maxRecDepth 8000 in
example : (match marshalBlock sampleBlock with
    | .ok bs => unmarshalBlock bs == .ok sampleBlock
    | _ => false) = true := by decide +kernel

/-- `parseRaw`'s fuel (`length + 1`) suffices: any larger fuel gives the same answer, so `none` always
    means a decoding error of the input. -/
theorem rawFields_fuel_sufficient (bs : Bytes) (f : Nat) (h : bs.length < f) : rawFields f bs = parseRaw bs :=
  parseRaw_fuel_sufficient bs f h

/-- Same for group skipping (`findEndGroup`), which `rawStep` calls with fuel `length + 1`. -/
theorem findEnd_fuel_sufficient (bs : Bytes) (d f : Nat) (h : bs.length < f) :
    findEnd f d bs = findEnd (bs.length + 1) d bs :=
  findEnd_fuel f (bs.length + 1) d bs h (by omega)

/-- Each loop iteration consumes at least one byte (why the fuel suffices). -/
theorem rawStep_consumes (bs : Bytes) (r : Raw) (rest : Bytes) (h : rawStep bs = some (r, rest)) :
    rest.length < bs.length := rawStep_shrinks bs r rest h

example : rawStep [0x08, 0x01, 0x2a] = some (.vint 1 1, [0x2a]) := by decide

end Rangers.Props.C09
