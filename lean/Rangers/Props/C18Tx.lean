import Rangers.Model.DecimalTx
import Rangers.Props.C18
/-!
# C18 — the code around the conversions

Theorems about `Rangers.Model.DecimalTx`: the whole `ContractData` round trip
`eth_tx.ConvertTx` → `contractExecutor.decodeContractData` (value, gas limit, input, with the
two quirks: gas limit 0 becomes the default, an empty payload becomes one zero byte before
Proposal005), `common.ToHex`/`FromHex`, the byte helpers the binding's decimal count travels
through, and the token layer of `AccountDB` (dispatch on the binding, unbound path without
re-scaling, independence of tokens and accounts). Compared with the Go code by the ops
`decode`, `convert`, `world`, `u64b`, `b2u64`, `bbstr`, `rawbal`.
-/
namespace Rangers.Props.C18Tx
open Rangers.Decimal

theorem hex_digit_roundtrip : ∀ d < 16, hexValC (hexDigitC d) = some d := by decide +kernel

theorem hex_byte_roundtrip :
    ∀ b < 256, hexValC (hexDigitC (b / 16)) = some (b / 16) ∧ hexValC (hexDigitC (b % 16)) = some (b % 16) :=
  fun b hb => ⟨hex_digit_roundtrip _ (by omega), hex_digit_roundtrip _ (by omega)⟩

theorem hexDecode_hexEncode (bs : List Nat) (h : ∀ b ∈ bs, b < 256) : hexDecode (hexEncode bs) = bs := by
  induction bs with
  | nil => rfl
  | cons b rest ih =>
    have hb : b < 256 := h b (by simp)
    simp only [hexEncode, hexDecode, hex_digit_roundtrip (b / 16) (by omega),
      hex_digit_roundtrip (b % 16) (by omega)]
    rw [ih (fun x hx => h x (List.mem_cons_of_mem _ hx)), Nat.div_add_mod']

theorem hexEncode_length (bs : List Nat) : (hexEncode bs).length = 2 * bs.length := by
  induction bs with
  | nil => rfl
  | cons b rest ih => simp only [hexEncode, List.length_cons, ih]; omega

/-- **`FromHex(ToHex(b)) = b` for a non-empty byte string**; the empty one comes back as a
    single zero byte (`"0x0"` → `"00"`), which is what Proposal005 special-cases. -/
theorem fromHex_toHex (bs : List Nat) (h : ∀ b ∈ bs, b < 256) :
    fromHex (toHex bs) = if bs = [] then [0] else bs := by
  by_cases he : bs = []
  · subst he; decide
  · rw [if_neg he]
    unfold toHex fromHex
    rw [if_neg he]
    have hl : (hexEncode bs).length = 2 * bs.length := hexEncode_length bs
    have hpos : 0 < bs.length := List.length_pos_iff.mpr he
    simp only [List.length_cons, hl]
    rw [if_pos (by omega)]
    rw [if_neg (by omega)]
    exact hexDecode_hexEncode bs h

example : fromHex (toHex [202, 254]) = [202, 254] ∧ fromHex (toHex []) = [0] ∧
    fromHex "0xcafe0".toList = [12, 175, 224] ∧ fromHex "0xcagfe".toList = [12] ∧ fromHex "f".toList = [] := by
  decide +kernel

theorem parseUint64_toDigits (g : Nat) (h : g < 2 ^ 64) : parseUint64 (Nat.toDigits 10 g) = some g := by
  unfold parseUint64
  rw [if_neg Nat.toDigits_ne_nil]
  have hall : (Nat.toDigits 10 g).all isDig = true := by
    rw [List.all_eq_true]; exact allDig_toDigits g
  rw [hall, Nat.ofDigitChars_ten_toDigits]
  simpa using h

theorem toDigits_eq_zero_iff (g : Nat) : Nat.toDigits 10 g = ['0'] ↔ g = 0 := by
  constructor
  · intro h
    have := Nat.ofDigitChars_ten_toDigits (n := g)
    rw [h] at this
    have e : Nat.ofDigitChars 10 ['0'] 0 = 0 := by decide
    omega
  · rintro rfl; rfl

theorem decode_gas (p017 : Bool) (gas : Nat) (hg : gas < 2 ^ 64) :
    (if Nat.toDigits 10 gas = [] || Nat.toDigits 10 gas = ['0'] then
        some (if p017 then p017defaultGasLimit else defaultGasLimit)
      else parseUint64 (Nat.toDigits 10 gas)) =
      some (if gas = 0 then (if p017 then 30000000 else 6000000) else gas) := by
  simp only [Nat.toDigits_ne_nil, decide_false, Bool.false_or, decide_eq_true_eq, toDigits_eq_zero_iff]
  split
  · rfl
  · exact parseUint64_toDigits gas hg

theorem decode_input (p005 : Bool) (payload : List Nat) (hp : ∀ b ∈ payload, b < 256) :
    (if p005 && (toHex payload = [] || toHex payload = ['0', 'x', '0']) then []
      else fromHex (toHex payload)) =
      if payload = [] then (if p005 then [] else [0]) else payload := by
  by_cases hpe : payload = []
  · subst hpe
    cases p005 <;> decide
  · have hth : toHex payload ≠ ['0', 'x', '0'] := by
      unfold toHex; rw [if_neg hpe]
      intro h
      have h3 := congrArg List.length h
      simp only [List.length_cons, hexEncode_length, List.length_nil] at h3
      have hpos : 0 < payload.length := List.length_pos_iff.mpr hpe
      omega
    have hth2 : toHex payload ≠ [] := by unfold toHex; rw [if_neg hpe]; simp
    simp only [hth, hth2, decide_false, Bool.or_self, Bool.and_false, Bool.false_eq_true, if_false,
      fromHex_toHex payload hp, hpe]

/-- **The whole wrapped-transaction round trip.** For a value below `2^256`, a gas limit
    below `2^64` and any payload, what `decodeContractData` hands to the EVM from the
    `ContractData` written by `ConvertTx` is: the same value; the same gas limit — except that
    a gas limit of 0 is replaced by the default (6 000 000, or 30 000 000 from Proposal017);
    the same input — except that an empty payload arrives as one zero byte before Proposal005. -/
theorem convert_decode (value gasPrice gas : Nat) (payload : List Nat) (p005 p017 : Bool)
    (hv : value < 2 ^ 256) (hg : gas < 2 ^ 64) (hp : ∀ b ∈ payload, b < 256) :
    decodeContractData p005 p017 (convertTxData value gasPrice gas payload) =
      some (if gas = 0 then (if p017 then 30000000 else 6000000) else gas,
            (value : Int),
            if payload = [] then (if p005 then [] else [0]) else payload) := by
  have hval : StrToBigInt (BigIntToStr (value : Int)) = .ok (value : Int) :=
    C18.roundtrip_word (value : Int) (by have : (0 : Int) < 2 ^ 256 := by positivity
                                         omega) (by exact_mod_cast hv)
  unfold decodeContractData convertTxData
  simp only [decode_gas p017 gas hg, hval, decode_input p005 payload hp]

example : decodeContractData true true (convertTxData (2 ^ 256 - 1) 1000000000 21000 [202, 254]) =
    some (21000, 2 ^ 256 - 1, [202, 254]) := by decide +kernel

/-- The two quirks, as facts about model and code (corpus `decode`/`convert` lines): a raw
    transaction with gas limit 0 is executed with the default gas limit; before Proposal005 an
    empty payload reaches the EVM as `[0x00]`. Neither touches the value; recorded for C11/C12. -/
theorem convert_decode_quirks :
    decodeContractData true false (convertTxData 5 1 0 []) = some (6000000, 5, []) ∧
    decodeContractData true true (convertTxData 5 1 0 []) = some (30000000, 5, []) ∧
    decodeContractData false true (convertTxData 5 1 7 []) = some (7, 5, [0]) := by decide +kernel

/-- `decodeContractData` fails exactly when the gas limit is neither empty, "0" nor a
    64-bit decimal number, or the transfer value does not parse. -/
theorem decode_error_iff (p005 p017 : Bool) (cd : ContractData) :
    decodeContractData p005 p017 cd = none ↔
      ((cd.gasLimit ≠ [] ∧ cd.gasLimit ≠ ['0'] ∧ parseUint64 cd.gasLimit = none) ∨
       ∀ v, StrToBigInt cd.transferValue ≠ .ok v) := by
  unfold decodeContractData
  by_cases h1 : cd.gasLimit = []
  · simp only [h1, decide_true, Bool.true_or, if_true]
    cases hs : StrToBigInt cd.transferValue <;> simp
  · by_cases h2 : cd.gasLimit = ['0']
    · simp only [h2, decide_true, Bool.or_true, if_true]
      cases hs : StrToBigInt cd.transferValue <;> simp
    · simp only [h1, h2, decide_false, Bool.or_self, Bool.false_eq_true, if_false]
      cases hp : parseUint64 cd.gasLimit with
      | none => simp [h1, h2]
      | some g => cases hs : StrToBigInt cd.transferValue <;> simp

example : decodeContractData true true ⟨[], "1e3".toList, "1.5".toList, []⟩ = none ∧
    decodeContractData true true ⟨[], "21000".toList, "abc".toList, []⟩ = none := by decide +kernel

/-- Horner step of a big-endian byte string: the bytes above bit `j + 8`, then the byte at bit `j`. -/
theorem byte_step (n j : Nat) : n / 2 ^ (j + 8) * 256 + n / 2 ^ j % 256 = n / 2 ^ j := by
  rw [Nat.pow_add, ← Nat.div_div_eq_div_mul]
  exact Nat.div_add_mod' (n / 2 ^ j) 256

/-- `ByteToUInt64(UInt64ToByte(n)) = n`: the binding's decimal count (and slot position)
    survive their storage encoding. -/
theorem uint64_bytes_roundtrip (n : Nat) (h : n < 2 ^ 64) : byteToUInt64 (uint64ToByte n) = n := by
  have h7 : n / 2 ^ 56 % 256 = n / 2 ^ 56 :=
    Nat.mod_eq_of_lt ((Nat.div_lt_iff_lt_mul (Nat.two_pow_pos 56)).mpr h)
  simp only [byteToUInt64, uint64ToByte, List.length_cons, List.length_nil, Nat.lt_irrefl, if_false,
    List.take, beNat, List.foldl, Nat.zero_mul, Nat.zero_add, h7]
  rw [byte_step n 48, byte_step n 40, byte_step n 32, byte_step n 24, byte_step n 16, byte_step n 8]
  exact Nat.div_add_mod' n 256

/-- fewer than 8 bytes read as 0 (`binary.Read` fails, the error is dropped): an absent
    decimal entry and a recorded 0 are indistinguishable — both mean "0 decimals". -/
theorem byteToUInt64_short (b : List Nat) (h : b.length < 8) : byteToUInt64 b = 0 := by
  unfold byteToUInt64; rw [if_pos h]

example : byteToUInt64 (uint64ToByte 18) = 18 ∧ byteToUInt64 [18] = 0 ∧ byteToUInt64 [] = 0 ∧
    byteToUInt64 [0, 0, 0, 0, 0, 0, 0, 18, 99] = 18 := by decide

/-- binding a fresh token name records exactly the decimal count given (`d < 2^64`), and a
    second binding of the same name is refused and changes nothing. -/
theorem world_bind (w : World) (t d : Nat) (hd : d < 2 ^ 64) :
    (w.decimals t = none → (wBind w t d).2 = true ∧ (wBind w t d).1.decimals t = some d) ∧
    (∀ d', w.decimals t = some d' → wBind w t d = (w, false)) := by
  constructor
  · intro h
    unfold wBind
    rw [h]
    refine ⟨rfl, ?_⟩
    simp only [uint64_bytes_roundtrip d hd]
    unfold World.decimals at h ⊢
    simp only [List.find?_append]
    cases hf : w.bind.find? (fun e => e.1 == t) with
    | some e => rw [hf] at h; simp at h
    | none => simp
  · intro d' h
    unfold wBind; rw [h]

example : (wBind World.empty 1 0).1.decimals 1 = some 0 ∧ (wBind (wBind World.empty 1 6).1 1 18) = ((wBind World.empty 1 6).1, false) := by
  decide

/-- **Unbound tokens are stored without any re-scaling**: for `n ≥ 0`, `SetFT` then `GetFT`
    returns `n` for every `n` (no size bound: no conversion is involved). -/
theorem world_unbound_set_get (w : World) (t a : Nat) (n : Int) (hu : w.decimals t = none) (hn : 0 ≤ n) :
    ∃ w', wSet w t a n = some w' ∧ wGet w' t a = .ok n := by
  unfold wSet
  rw [hu]
  refine ⟨_, rfl, ?_⟩
  unfold wGet
  simp only [World.decimals] at hu ⊢
  rw [hu]
  simp only [lookup2, List.find?_cons, beq_self_eq_true]
  congr 1
  omega

example : ∃ w', wSet World.empty 2 0 77 = some w' ∧ wGet w' 2 0 = .ok 77 := ⟨_, rfl, by decide⟩

/-- bound tokens dispatch to the re-scaling path with the recorded decimal count: the
    `World` operations *are* `ftSet`/`ftGet` on the token's slot. -/
theorem world_bound_dispatch (w : World) (t a d : Nat) (n : Int) (hb : w.decimals t = some d) :
    wGet w t a = ftGet d (lookup2 w.slot (t, a)) ∧
    wSet w t a n = (ftSet d n).map (fun v => { w with slot := ((t, a), v) :: w.slot }) := by
  unfold wGet wSet
  rw [hb]
  refine ⟨rfl, ?_⟩
  dsimp only
  cases ftSet (d : Int) n <;> rfl

/-- **Tokens and accounts are independent**: writing the balance of (t, a) leaves the
    balance of every other (token, account) pair unchanged. -/
theorem world_independent (w w' : World) (t a t' a' : Nat) (n : Int) (hne : (t, a) ≠ (t', a'))
    (hs : wSet w t a n = some w') : wGet w' t' a' = wGet w t' a' := by
  unfold wSet at hs
  have hk : ((t, a) == (t', a')) = false := by simpa using hne
  cases hd : w.decimals t with
  | some d =>
    rw [hd] at hs
    dsimp only at hs
    cases hf : ftSet (d : Int) n with
    | none => rw [hf] at hs; simp at hs
    | some v =>
      rw [hf] at hs
      simp only [Option.some.injEq] at hs
      subst hs
      unfold wGet World.decimals
      simp only [lookup2, List.find?_cons, hk]
  | none =>
    rw [hd] at hs
    dsimp only at hs
    simp only [Option.some.injEq] at hs
    subst hs
    unfold wGet World.decimals
    simp only [lookup2, List.find?_cons, hk]

example : ∀ w', wSet World.empty 1 0 5 = some w' → wGet w' 1 1 = wGet World.empty 1 1 :=
  fun w' h => world_independent _ _ 1 0 1 1 5 (by decide) h

/-- a token bound with 18 decimals keeps every balance exactly -/
theorem world_bound_18 (w : World) (t a : Nat) (n : Int) (hb : w.decimals t = some 18) (hn : 0 ≤ n)
    (hn2 : n.natAbs < 2 ^ 509) : ∃ w', wSet w t a n = some w' ∧ wGet w' t a = .ok n := by
  unfold wSet
  rw [hb]
  dsimp only
  rw [show ftSet ((18 : ℕ) : Int) n = some n.natAbs from C18.ftSet_18 n (lt_two_pow_510 hn2)]
  refine ⟨_, rfl, ?_⟩
  unfold wGet World.decimals
  simp only [World.decimals] at hb
  rw [hb]
  simp only [lookup2, List.find?_cons, beq_self_eq_true]
  rw [show ftGet ((18 : ℕ) : Int) n.natAbs = .ok (n.natAbs : Int) from C18.ftGet_18 _ (lt_two_pow_510 hn2)]
  congr 1; omega

/-- `ft_18_exact` assumes `0 ≤ n`, which the code does not enforce: a negative amount
    written with `SetFT`/`SetBalance` comes back positive, because the slot is written with
    `big.Int.Bytes()` (bound and unbound path alike). Witness replayed on the real code
    (corpus `ft 18 s-5 g`, `world s2:0:-5 g2:0`). Documented quirk, not a C18 violation: the
    re-scaling itself is exact (`erc20_18_id`); balances are not meant to be negative (C06). -/
theorem negative_amount_sign_dropped :
    ftSet 18 (-5) = some 5 ∧ ftGet 18 5 = .ok 5 ∧
    (∃ w', wSet World.empty 2 0 (-5) = some w' ∧ wGet w' 2 0 = .ok 5) := by
  refine ⟨by decide +kernel, by decide +kernel, ⟨_, rfl, by decide⟩⟩

/-- `GetRawBalance` prints the balance in base units: after `SetBalance(n)` it is the decimal
    numeral of `n` (`0 ≤ n < 2^509`). -/
theorem rawBalance_exact (n : Int) (hn : 0 ≤ n) (hn2 : n.natAbs < 2 ^ 509) :
    ∃ b, ftSet 18 n = some b ∧ rawBalanceStr b = Nat.toDigits 10 n.natAbs := by
  refine ⟨n.natAbs, C18.ftSet_18 n (lt_two_pow_510 hn2), ?_⟩
  unfold rawBalanceStr
  rw [C18.ftGet_18 _ (lt_two_pow_510 hn2)]
  dsimp only
  rw [if_neg (by omega), Int.natAbs_natCast, List.nil_append]

/-- `BigIntBytesToStr(b)` reads back (with `StrToBigInt`) as the big-endian value of `b`,
    if that is below `2^510` (every `b` of up to 63 bytes). -/
theorem bigIntBytesToStr_roundtrip (b : List Nat) (h : beNat b < 2 ^ 510) :
    StrToBigInt (bigIntBytesToStr b) = .ok (beNat b : Int) :=
  C18.format_parse_id_exported (beNat b : Int) (by simpa using h)

example : bigIntBytesToStr [13, 224, 182, 179, 167, 100, 0, 0] = "1.000000000000000000".toList := by decide +kernel

end Rangers.Props.C18Tx
