import Rangers.Proofs.DecimalExp
/-!
# C18 — exponent forms are exact as well

`StrToBigInt` accepts `[sign] digits ["." digits] (e|E) [sign] digits` (not a decimal string
in C18's sense, but accepted wherever an amount string is). These theorems show that such amounts are converted without loss as well: the value
`N·10^(K-f)` (N the digit value, f the number of fraction digits, K the exponent) times
`10^d` is truncated exactly, under the same `2^510` bound, as long as `|K - f| ≤ 248`
(`pow5` exact) and `f` stays below `10^6` (a round bound under which the exponent digits fit `int64`:
`expDigits_lt_two_pow_63`). Compared with the Go
code by the `parse`/`pf` ops on exponent strings.
-/
namespace Rangers.Props.C18Exp
open Rangers.Decimal

/-- exponent not larger than the number of fraction digits (all negative exponents):
    `strToBigInt = ± ⌊N·10^d / 10^(f-K)⌋`. -/
theorem exponent_form_small (sg : Option Bool) (ip fp : Str) (dot upper : Bool) (esg : Option Bool) (eds : Str)
    (d : Nat) (hip : allDig ip) (hfp : allDig fp) (hdot : dot = false → fp = []) (hne : ip ++ fp ≠ [])
    (hed : allDig eds) (hene : eds ≠ [])
    (hK : expVal esg eds ≤ fp.length) (hg : (fp.length : Int) - expVal esg eds ≤ 248) (hf : fp.length ≤ 1000000)
    (hbound : Nat.ofDigitChars 10 (ip ++ fp) 0 * 10 ^ (d - ((fp.length : Int) - expVal esg eds).toNat) < 2 ^ 510) :
    strToBigInt (signStr sg ++ (plainBody ip fp dot ++ expSuffix upper esg eds)) (d : Int) =
      .ok (if signNeg sg then
            -((Nat.ofDigitChars 10 (ip ++ fp) 0 * 10 ^ d / 10 ^ ((fp.length : Int) - expVal esg eds).toNat : ℕ) : Int)
           else ((Nat.ofDigitChars 10 (ip ++ fp) 0 * 10 ^ d / 10 ^ ((fp.length : Int) - expVal esg eds).toNat : ℕ) : Int)) := by
  have h := strToBigInt_dec sg ip fp dot _ _ d hip hfp hdot hne (stopsMant_expSuffix upper esg eds)
    (scanExp_suffix upper esg eds hed hene (expDigits_lt_two_pow_63 esg eds fp.length hf (by omega) (by omega)))
    (by omega) (by omega)
  rw [Int.toNat_of_nonpos (by omega : expVal esg eds - fp.length ≤ 0), Nat.add_zero] at h
  exact h hbound

example : signStr (some true) ++ (plainBody "1".toList "5".toList true ++ expSuffix false (some true) "3".toList)
      = "-1.5e-3".toList ∧ expVal (some true) "3".toList = -3 ∧
    strToBigInt "-1.5e-3".toList 18 = .ok (-1500000000000000) := by decide +kernel

/-- exponent larger than the number of fraction digits: the integer `± N·10^(K-f+d)`. -/
theorem exponent_form_large (sg : Option Bool) (ip fp : Str) (dot upper : Bool) (esg : Option Bool) (eds : Str)
    (d : Nat) (hip : allDig ip) (hfp : allDig fp) (hdot : dot = false → fp = []) (hne : ip ++ fp ≠ [])
    (hed : allDig eds) (hene : eds ≠ [])
    (hK : (fp.length : Int) < expVal esg eds) (hg : expVal esg eds - fp.length ≤ 248) (hf : fp.length ≤ 900000)
    (hbound : Nat.ofDigitChars 10 (ip ++ fp) 0 * 10 ^ ((expVal esg eds - fp.length).toNat + d) < 2 ^ 510) :
    strToBigInt (signStr sg ++ (plainBody ip fp dot ++ expSuffix upper esg eds)) (d : Int) =
      .ok (if signNeg sg then
            -((Nat.ofDigitChars 10 (ip ++ fp) 0 * 10 ^ ((expVal esg eds - fp.length).toNat + d) : ℕ) : Int)
           else ((Nat.ofDigitChars 10 (ip ++ fp) 0 * 10 ^ ((expVal esg eds - fp.length).toNat + d) : ℕ) : Int)) := by
  have h := strToBigInt_dec sg ip fp dot _ _ d hip hfp hdot hne (stopsMant_expSuffix upper esg eds)
    (scanExp_suffix upper esg eds hed hene (expDigits_lt_two_pow_63 esg eds fp.length (by omega) (by omega) (by omega)))
    (by omega) (by omega)
  rw [Int.toNat_of_nonpos (by omega : (fp.length : Int) - expVal esg eds ≤ 0), Nat.sub_zero, pow_zero,
    Nat.div_one, Nat.add_comm d] at h
  exact h hbound

example : signStr none ++ (plainBody "1".toList [] false ++ expSuffix false none "30".toList) = "1e30".toList ∧
    expVal none "30".toList = 30 ∧ strToBigInt "1e30".toList 18 = .ok (10 ^ 48) ∧
    strToBigInt "2.5E+3".toList 18 = .ok (2500 * 10 ^ 18) := by decide +kernel

end Rangers.Props.C18Exp
