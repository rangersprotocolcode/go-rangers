import Rangers.Props.C07
/-!
# C07 — no wrapped transaction without a valid inner signature

The sender recovery of the model is an `Option`: a failed recovery is `none`, never a
defaulted (zero) address.  So "recovery failed" and "recovered the zero address" are
different results, and a failing recovery rejects the transaction for *every* declared
`Source` — the zero address, the empty string and all-ff included.  (Seeded regression C07-f
makes the code continue with the zero `Address` that Go returns next to the error.)
-/
namespace Rangers.Props.C07
open Rangers Rangers.Model.TxAuth

/-- When the sender recovery fails the wrapped transaction is rejected, whatever it declares. -/
theorem eth_sender_failure_rejects (cr : Crypto) (cfg : ChainCfg) (h : Nat) (tx : Tx) (e : EthTx)
    (hd : decodeTx (fromHex tx.extraData) = some e)
    (hfail : ethSender cr (ethChainId cfg h) e = none) : verifyEth cr cfg h tx ≠ .ok := by
  intro hacc
  obtain ⟨e', s, hd', _, hs, _⟩ := (eth_accept_iff cr cfg h tx).1 hacc
  rw [hd] at hd'; cases hd'
  rw [hfail] at hs; cases hs

/-- `Model.TxAuth.recoverPlain_some_spec` (with `pubAddr` written out) among the obligations of C07: the check audits the
    theorems of the `Props` modules -/
protected theorem recoverPlain_some_spec (cr : Crypto) (sh : Bytes) (r s : Nat) (vb : Int) (a : Bytes)
    (h : recoverPlain cr sh r s vb = some a) :
    ∃ (v : Nat) (pub : Bytes), (v = 0 ∨ v = 1) ∧ (1 ≤ r ∧ r < secpN) ∧ (1 ≤ s ∧ s ≤ secpHalfN) ∧
      recoverPubkeyEth cr sh (padLeft 32 (natToBE r) ++ padLeft 32 (natToBE s) ++ [UInt8.ofNat v]) = some pub ∧
      pub.head? = some 4 ∧
      a = ((cr.keccak (pub.drop 1)).drop 12).take 20 ++
            List.replicate (20 - min 20 ((cr.keccak (pub.drop 1)).drop 12).length) 0 :=
  Model.TxAuth.recoverPlain_some_spec cr sh r s vb a h

/-- Accepted ⇒ validly signed by the declared sender: an admitted wrapped transaction
    carries r, s in range with low s and a recovery bit for which the library recovers an
    uncompressed key from a signing hash of the payload (the EIP-155 hash of this chain, or the
    Homestead hash for v = 27/28), and the declared `Source` is that key's address. -/
theorem eth_accept_has_valid_signature (cr : Crypto) (cfg : ChainCfg) (h : Nat) (tx : Tx)
    (hacc : verifyEth cr cfg h tx = .ok) :
    ∃ (e : EthTx) (sh : Bytes) (v : Nat) (pub : Bytes),
      decodeTx (fromHex tx.extraData) = some e ∧
      (sh = cr.keccak (sigPreimage155 (ethChainId cfg h) e) ∨ sh = cr.keccak (sigPreimageHomestead e)) ∧
      (v = 0 ∨ v = 1) ∧ (1 ≤ e.r ∧ e.r < secpN) ∧ (1 ≤ e.s ∧ e.s ≤ secpHalfN) ∧
      recoverPubkeyEth cr sh (padLeft 32 (natToBE e.r) ++ padLeft 32 (natToBE e.s) ++ [UInt8.ofNat v]) = some pub ∧
      pub.head? = some 4 ∧
      tx.source = toHex0x (((cr.keccak (pub.drop 1)).drop 12).take 20 ++
            List.replicate (20 - min 20 ((cr.keccak (pub.drop 1)).drop 12).length) 0) := by
  obtain ⟨e, sender, hd, _, hs, hsrc, _⟩ := (eth_accept_iff cr cfg h tx).1 hacc
  obtain ⟨sh, vb, hsh, hrp⟩ := ethSender_some_recoverPlain hs
  obtain ⟨v, pub, hv, hr, hss, hrec, h4, ha⟩ := recoverPlain_some_spec cr sh e.r e.s vb sender hrp
  subst ha
  exact ⟨e, sh, v, pub, hd, hsh, hv, hr, hss, hrec, h4, hsrc⟩

theorem verifyEth_ok_or_illegal (cr : Crypto) (cfg : ChainCfg) (h : Nat) (tx : Tx) :
    verifyEth cr cfg h tx = .ok ∨ verifyEth cr cfg h tx = .illegal := by
  fun_cases verifyEth cr cfg h tx
  · exact Or.inr rfl
  · exact Or.inr rfl
  · exact Or.inr rfl
  · exact Or.inl rfl
  · exact Or.inr rfl

def noRecoverCrypto : Crypto := { toyCrypto with recoverCore := fun _ _ _ _ => none }
def zeroKeccakCrypto : Crypto := { toyCrypto with keccak := fun _ => List.replicate 32 0 }

/-- the honest-looking payload of `toyEth155` declared for the zero address -/
def zeroSourceTx (cr : Crypto) : Tx := convertTx cr toyEth155 (List.replicate 20 0) (encodeTx toyEth155)

/-- The model tells "recovery failed" from "recovered the zero address": the same declared
    zero `Source` is rejected when nothing recovers and admitted when the recovered key's
    address really is zero. -/
theorem failed_recovery_is_not_the_zero_address :
    verifyEth noRecoverCrypto toyCfg 0 (zeroSourceTx noRecoverCrypto) = .illegal ∧
    verifyEth zeroKeccakCrypto toyCfg 0 (zeroSourceTx zeroKeccakCrypto) = .ok := by
  obtain ⟨hhex, hrlp⟩ := payload_roundtrip toyEth155 toyEth155_wf
  constructor
  · have hd : decodeTx (fromHex (zeroSourceTx noRecoverCrypto).extraData) = some toyEth155 := by
      rw [show fromHex (zeroSourceTx noRecoverCrypto).extraData = encodeTx toyEth155 from hhex]; exact hrlp
    exact (verifyEth_ok_or_illegal ..).resolve_left
      (eth_sender_failure_rejects _ _ _ _ toyEth155 hd (by decide +kernel))
  · exact (verifyTx_of_eth rfl).symm.trans
      (honest_eth_accepted zeroKeccakCrypto toyCfg 0 toyEth155 _ toyEth155_wf (by decide +kernel))

end Rangers.Props.C07
