import Rangers.Props.C04
import Rangers.Proofs.JournalRootFinal
/-!
# C04 — root clause, proved for regions that touch account objects

`revert_restores_root`: after `snapshot; region; revert` the content `IntermediateRoot(d)` hashes is
the content it would have hashed without the region (same nonce, code hash and storage content per
leaf), for regions with any nesting of snapshots and reverts whose ops satisfy `StepOkR` in the state
they run in.  `StepOkR` excludes the mechanisms of the root counterexamples in `Props/C04`:

* writes go to objects that are already disarmed (`onDirty == nil`, i.e. already dirty): no new dirty
  mark can leak (`revert-leaves-dirty-mark`), and `touchChange.undo` cannot disarm (`touch-undo-…`);
* storage writes go to objects whose caches already hold something, reads do not turn an empty read
  cache into a non-empty one: `empty()` cannot flip (`empty-looks-at-storage-cache`);
* the slot written is coherent (`GetData` answers what `updateTrie` would flush) and `GetCommittedState`
  is not in the region (`committed-read-clobbers-cache`);
* an account created inside the region is not in the dirty set.

The proof runs the generic nested snapshot/revert argument (`JournalRevertG`) with the finer relation
`SimR` (`Proofs/JournalRootRel`): `Sim` plus equal dirty sets and, per object, equal `onDirty` state,
flushed storage and cache emptiness.  Every `undo` respects it (`undo_congrR`, all 11 kinds).
-/
namespace Rangers.Props.C04C
open Rangers Rangers.Model.Journal Rangers.Proofs.Journal Rangers.Proofs.JournalG Rangers.Props.C04

/-- side condition of one op for the root theorem (decidable; evaluated in the state the op runs in) -/
def StepOkR (c : Cfg) (s : ADB) : Op → Prop
  | .setNonce a _ => NonceOk s a
  | .incNonce a => NonceOk s a
  | .setData a k _ => DataOk s a k
  | .create a => CreateOk s a
  | .setBal a _ => DataOk s c.tok (c.balKey a)
  | .addBal a _ => DataOk s c.tok (c.balKey a)
  | .subBal a _ => DataOk s c.tok (c.balKey a)
  | .transfer a b n => TransferOk c s a b n
  | .qBal a => BalReadOk c s a
  | .qAllRefund a => AllRefundOk s a
  | .qData a k => ReadOk s a k
  | .qExist _ | .qEmpty _ | .qNonce _ | .qSuicided _ | .qCodeSize _ | .qCodeHash _ => True
  | .snapshot | .revert _ => True
  | .addRefund _ | .subRefund _ | .alAddr _ | .tset .. => True
  | .addLog .. => AddLogOk s
  | .alSlot a _ => AddSlotOk s a
  | _ => False

instance (c : Cfg) (s : ADB) (op : Op) : Decidable (StepOkR c s op) := by
  unfold StepOkR; split <;> infer_instance

instance decRunOkR (c : Cfg) : (ops : List Op) → (s : ADB) → Decidable (RunOk (StepOkR c) c s ops)
  | [], _ => isTrue trivial
  | op :: ops, s => @instDecidableAnd _ _ inferInstance (decRunOkR c ops (step c s op))

instance (s : ADB) : Decidable (EndOk s) :=
  decidable_of_iff (s.crashed = false ∧ s.dirtySet.Nodup ∧ (∀ a ∈ s.dirtySet, (mget s.objs a).isSome = true) ∧
      (∀ p ∈ s.objs, p.2.deleted = false))
    ⟨fun ⟨a, b, c, d⟩ => ⟨a, b, c, d⟩, fun h => ⟨h.live, h.nodup, h.inmap, h.nodel⟩⟩

theorem step_revAtR (c : Cfg) (hp : c.p002 = true) (s : ADB) (op : Op) (hc : StepOkR c s op)
    (h1 : op ≠ Op.snapshot) (h2 : ∀ id, op ≠ Op.revert id) : Rangers.Proofs.JournalG.RevAt c SimR (fun x => step c x op) s := by
  have hA := absorbs_R
  refine .toSimR ?_
  cases op with
  | setNonce a n => exact revAt_setNonce hA c s a n fun _ => hc
  | incNonce a => exact revAt_incNonce hA c s a fun _ => hc
  | setData a k v => exact revAt_setData hA c s a k v fun _ => hc
  | create a => exact revAt_create hA.closed c s a fun _ => hc
  | setBal a n => exact revAt_setBalance hA c s a n fun _ => hc
  | addBal a n => exact revAt_addBalance hA c hp s a n fun _ => hc
  | subBal a n => exact revAt_subBalance hA c hp s a n fun _ => hc
  | transfer a b n => exact revAt_transfer hA c hp s a b n fun _ => hc
  | qBal a => exact (revAt_getBalance hA c s a fun _ => hc).1
  | qAllRefund a => exact revAt_getAllRefund hA c s a fun _ => hc
  | qData a k => exact revAt_qData hA c s a k fun _ => hc
  | qExist a | qEmpty a | qNonce a | qSuicided a | qCodeSize a | qCodeHash a => exact revAt_resolveOnly hA.closed c s a _ _ _
  | snapshot => exact absurd rfl h1
  | revert id => exact absurd rfl (h2 id)
  | addRefund g => exact revAt_addRefund hA.closed c s g
  | subRefund g => exact revAt_subRefund hA.closed c s g
  | alAddr a => exact revAt_alAddr hA.closed c s a
  | tset a k v => exact revAt_tset hA.closed c s a k v
  | addLog a t d => exact revAt_addLog hA.closed c s a t d hc
  | alSlot a sl => exact revAt_alSlot hA.closed c s a sl hc
  | _ => exact False.elim hc

/-- **C04, root clause.** `snapshot; region; revert` from a start-of-transaction state `s`: if every op of
the region meets `StepOkR` where it runs and both end states are ordinary (`EndOk`: not crashed, dirty set
without duplicates and inside the object cache, no object already deleted by an earlier `Finalise`), then
`Finalise(d)` leaves at every address a leaf with the same nonce, code hash and storage content (`LeafEq`) as it would
have left from `s`.  `hend` is a hypothesis about the reverted state, not derived from `hs` and `hrun` (the example
below decides it). -/
theorem revert_restores_root (c : Cfg) (hp : c.p002 = true) (s : ADB) (region : List Op) (d : Bool)
    (hs : EndOk s) (hr : s.revisions = []) (hrun : RunOk (StepOkR c) c (snapshot s).1 region)
    (hend : EndOk (revert c (run c (snapshot s).1 region) (snapshot s).2)) (a : Addr) :
    LeafEq (mget (finalise d (revert c (run c (snapshot s).1 region) (snapshot s).2)).trie a)
           (mget (finalise d s).trie a) := by
  have hR := relOk_SimR c
  have hsim := revert_rel_generic (StepOkR c) (fun s op hc h1 h2 => step_revAtR c hp s op hc h1 h2) hR (G := [])
    region hs.live (.of_nil hr) (.of_nil hr) hrun hend.live
  exact finalise_leafEq d hsim hend hs a

/-! non-vacuity: an account made dirty and warm in the prefix; the region rewrites its nonce and slots
(one of them new), nests a snapshot and a revert, reads, touches the refund counter and the access list -/
def sWarm : ADB := setBalance c0 (setData (setNonce ADB.empty A1 1) A1 [0x6b] [7]) A1 7

def regionR : List Op :=
  [.setData A1 [0x6b] [9], .snapshot, .setNonce A1 5, .setData A1 [0x6c] [1], .incNonce A1, .revert 1,
   .qData A1 [0x6c], .addBal A1 3, .transfer A1 [0xa2] 2, .qBal A1, .subBal A1 1, .qAllRefund A1, .addRefund 3,
   .alSlot A1 (toHash [1]), .setData A1 [0x6b] [], .create [0xa2], .setNonce [0xa2] 4]

example : EndOk sWarm ∧ sWarm.revisions = [] ∧ RunOk (StepOkR c0) c0 (snapshot sWarm).1 regionR ∧
    EndOk (revert c0 (run c0 (snapshot sWarm).1 regionR) (snapshot sWarm).2) := by decide +kernel

/-- the region really changes what would be hashed; the leaf of `A1` that `Finalise(true)` leaves from `sWarm` -/
example : (finalise true (run c0 (snapshot sWarm).1 regionR)).trie ≠ (finalise true sWarm).trie ∧
    mget (finalise true sWarm).trie A1 = some ⟨1, [([0x6b], [7])], emptyCodeHash⟩ := by decide +kernel

/-- the first counterexample of `Props/C04` is outside the hypotheses: the written account is cold -/
example : ¬ RunOk (StepOkR c0) c0 (snapshot (createAccount ADB.empty A1)).1 [.setData A1 [0x6b] [1]] := by decide +kernel

/-- … and so is the dirty-mark one: the account is still armed -/
example : ¬ RunOk (StepOkR c0) c0 (snapshot sStorageOnly).1 [.setNonce A1 5] := by decide +kernel

end Rangers.Props.C04C
