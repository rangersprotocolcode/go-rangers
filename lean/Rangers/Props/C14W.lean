import Rangers.Proofs.Bls14Curve
import Rangers.Props.C14U
import Rangers.Model.Bls14Hash
/-!
# C14 — the model's G1 arithmetic is the elliptic-curve group law

Under the single number-theoretic hypothesis that `p` (`bn256.P`, re-read from the source) is
prime, the model's `Pt.neg`, `Pt.add`, `Pt.double`, `Pt.mul` — tied to `G1.Neg/Add/ScalarMult`
by the correspondence run — are negation, addition and scalar multiplication of Mathlib's
`WeierstrassCurve.Affine.Point` group of `y² = x³ + 3` over `ZMod p`, and the meaning map is
injective on valid points. So the interpretation `Interp` of `Props/C14U` needs to ASSUME only the
pairing (bilinear, trivial kernel against `g₂`); signing with the model's own `sign`
verifies, and the algebraically related values of the property's quantifier (`−σ`, `σ + σ'`,
signatures for other messages) are rejected as statements about the model's own operations.

Primality of `p` is not proved here (a certificate as for `r` needs the factorisation of `p − 1`; after
`2·3²·151·500393·1868033³` a 163-bit composite is left): it is a hypothesis `[Fact (Nat.Prime P)]`, sampled by the
searcher (`ProbablyPrime`) on every run.

`g1_neg_is_group_law`, `g1_add_is_group_law`, `g1_mul_is_scalar_mul`, `g1_meaning_injective` give the
property's names to `ι_neg`, `ι_add`, `ι_mul`, `ι_inj` of `Proofs/Bls14Curve.lean`; build on the `ι_*` lemmas.
-/
namespace Rangers.Props.C14
open Rangers Rangers.Model.Bls14 Rangers.Proofs.Bls14

variable [hp : Fact (Nat.Prime P)]

/-- `Pt.neg` is the group inverse; valid points stay valid. -/
theorem g1_neg_is_group_law (a : Pt) (ha : Valid a) : Valid a.neg ∧ ι a.neg = -ι a :=
  ι_neg a ha

/-- `Pt.add` (chord, tangent, opposite points, identity — every branch) is the group law. -/
theorem g1_add_is_group_law (a b : Pt) (ha : Valid a) (hb : Valid b) :
    Valid (a.add b) ∧ ι (a.add b) = ι a + ι b :=
  ι_add a b ha hb

/-- `Pt.mul` (MSB-first double-and-add, as `curvePoint.Mul`) is scalar multiplication. -/
theorem g1_mul_is_scalar_mul (a : Pt) (ha : Valid a) (k : ℕ) (hk : k < 2 ^ 512) :
    Valid (Pt.mul a k) ∧ ι (Pt.mul a k) = k • ι a :=
  ι_mul a ha k hk

/-- Distinct valid byte-level points are distinct group elements. -/
theorem g1_meaning_injective (a b : Pt) (ha : Valid a) (hb : Valid b) (h : ι a = ι b) : a = b :=
  ι_inj a b ha hb h

omit hp in
example : Valid g1Gen ∧ Valid .inf := by
  refine ⟨⟨?_, ?_⟩, ⟨rfl, rfl⟩⟩ <;> decide

theorem ι_ne_zero {a : Pt} (hv : Valid a) (hne : a ≠ .inf) : ι a ≠ 0 :=
  fun h0 => hne (ι_inj a .inf hv ⟨rfl, rfl⟩ (by rw [h0]; rfl))

section pairing
variable {G2 GT : Type} [AddCommGroup G2] [CommGroup GT]

/-- The interpretation on the real curve group: only the pairing `e` is assumed
    (bilinear, trivial kernel against `κ g₂`). -/
noncomputable def curveInterp (e : W.Point → G2 → GT) (bil : Bilinear e) (κ : Pt2 → G2)
    (nd : ∀ a, e a (κ g2Gen) = 1 → a = 0) : Interp W.Point G2 GT where
  e := e
  bil := bil
  ι := ι
  κ := κ
  ι_inf := rfl
  ι_inj := fun a b ha ra hb rb h => ι_inj a b ⟨ha, ra⟩ ⟨hb, rb⟩ h
  nondeg := nd

variable (e : W.Point → G2 → GT) (bil : Bilinear e) (κ : Pt2 → G2)
  (nd : ∀ a, e a (κ g2Gen) = 1 → a = 0)

/-- The model's own `sign` produces the honest signature in the sense of `Props/C14U`. -/
theorem sign_is_honest (sk : ℕ) (hsk : sk < 2 ^ 512) (hm : Pt) (hv : Valid hm) (pk : Pt2)
    (hpk : κ pk = sk • κ g2Gen) :
    Honest (curveInterp e bil κ nd) sk hm (Pt.mul hm sk) pk :=
  have h := ι_mul hm hv sk hsk
  ⟨hpk, h.2, h.1.1, h.1.2⟩

/-- **Completeness**: "verification returns true for the signature produced by the matching
    secret key" — for the model's `sign` (= `Sign`), every key and every message point. -/
theorem sign_verifies (sk : ℕ) (hsk : sk < 2 ^ 512) (hm : Pt) (hv : Valid hm) (pk : Pt2)
    (hpk : κ pk = sk • κ g2Gen) :
    verifySig (curveInterp e bil κ nd).pairEq hm (.pt pk) (sign sk hm) = .accept :=
  honest_accepted _ (sign_is_honest e bil κ nd sk hsk hm hv pk hpk)

/-- **Soundness** in the same terms: nothing but `sign sk hm` is accepted. -/
theorem only_sign_verifies (sk : ℕ) (hsk : sk < 2 ^ 512) (hm : Pt) (hv : Valid hm) (pk : Pt2)
    (hpk : κ pk = sk • κ g2Gen) (sig : Sig) (hsr : ∀ s, sig = .pt s → s.reduced = true) :
    verifySig (curveInterp e bil κ nd).pairEq hm (.pt pk) sig = .accept ↔ sig = sign sk hm :=
  verify_iff_unique _ (sign_is_honest e bil κ nd sk hsk hm hv pk hpk) sig hsr

/-- `σ + σ'` for any valid non-identity `σ'` (e.g. another valid signature), computed with the
    model's `Pt.add`, is rejected. -/
theorem sum_sig_rejected (sk : ℕ) (hsk : sk < 2 ^ 512) (hm : Pt) (hv : Valid hm) (pk : Pt2)
    (hpk : κ pk = sk • κ g2Gen) (σ' : Pt) (hv' : Valid σ') (hne : σ' ≠ .inf) :
    verifySig (curveInterp e bil κ nd).pairEq hm (.pt pk) (.pt (Pt.add (Pt.mul hm sk) σ')) = .reject := by
  have H := sign_is_honest e bil κ nd sk hsk hm hv pk hpk
  have hs := ι_add (Pt.mul hm sk) σ' ⟨H.onCurve, H.reduced⟩ hv'
  exact sum_rejected _ H hs.1.2 (ι σ') (ι_ne_zero hv' hne) hs.2

/-- `−σ`, computed with the model's `Pt.neg`, is rejected unless `2σ = 0`. -/
theorem neg_sig_rejected (sk : ℕ) (hsk : sk < 2 ^ 512) (hm : Pt) (hv : Valid hm) (pk : Pt2)
    (hpk : κ pk = sk • κ g2Gen) (h2 : 2 • ι (Pt.mul hm sk) ≠ 0) :
    verifySig (curveInterp e bil κ nd).pairEq hm (.pt pk) (.pt (Pt.neg (Pt.mul hm sk))) = .reject := by
  have H := sign_is_honest e bil κ nd sk hsk hm hv pk hpk
  have hn := ι_neg (Pt.mul hm sk) ⟨H.onCurve, H.reduced⟩
  refine pt_rejected _ H hn.1.2 fun h => ?_
  have := congrArg ι h
  rw [hn.2] at this
  apply h2
  rw [two_nsmul]
  nth_rewrite 1 [← this]
  exact neg_add_cancel _

/-- A signature made (with the model's `sign`) for another message point is rejected, when the
    group has prime exponent `r ∤ sk` (`#E(F_p) = r`, assumed). -/
theorem other_message_sig_rejected (sk r : ℕ) (hsk : sk < 2 ^ 512) (hm hm' : Pt) (hv : Valid hm)
    (hv' : Valid hm') (pk : Pt2) (hpk : κ pk = sk • κ g2Gen)
    (hr : r.Prime) (hexp : ∀ a : W.Point, r • a = 0) (hnd : ¬ r ∣ sk) (hne : hm' ≠ hm) :
    verifySig (curveInterp e bil κ nd).pairEq hm (.pt pk) (sign sk hm') = .reject :=
  other_message_rejected _ (sign_is_honest e bil κ nd sk hsk hm hv pk hpk)
    (sign_is_honest e bil κ nd sk hsk hm' hv' pk hpk) hr hexp hnd
    (fun h => hne (ι_inj hm' hm hv' hv h))

/-- A signature made with another key `sk' ≢ sk (mod r)` for the same message is rejected. -/
theorem other_key_sig_rejected (sk sk' r : ℕ) (hsk : sk < 2 ^ 512) (hsk' : sk' < 2 ^ 512)
    (hm : Pt) (hv : Valid hm) (hm0 : hm ≠ .inf) (pk pk' : Pt2)
    (hpk : κ pk = sk • κ g2Gen) (hpk' : κ pk' = sk' • κ g2Gen)
    (hr : r.Prime) (hexp : ∀ a : W.Point, r • a = 0) (hne : ¬ sk' ≡ sk [MOD r]) :
    verifySig (curveInterp e bil κ nd).pairEq hm (.pt pk) (sign sk' hm) = .reject :=
  other_key_rejected _ (sign_is_honest e bil κ nd sk hsk hm hv pk hpk)
    (sign_is_honest e bil κ nd sk' hsk' hm hv pk' hpk') hr hexp hne (ι_ne_zero hv hm0)

/-- **The identity signature is rejected for every hashed message**: `H(m)` is a non-identity curve
    point for every `m` (postcondition of the unbounded loop), so under a key with `r ∤ sk` the honest
    signature `sk·H(m)` is not the identity, and the 64-zero-byte signature does not verify. (With a
    bounded loop falling back to the identity this fails: both pairings would be 1.) -/
theorem identity_sig_rejected_for_hashed_message (sk r : ℕ) (hsk : sk < 2 ^ 512) (m : Bytes) (hm : Pt)
    (hh : hashToG1 m = some hm) (pk : Pt2) (hpk : κ pk = sk • κ g2Gen)
    (hr : r.Prime) (hexp : ∀ a : W.Point, r • a = 0) (hnd : ¬ r ∣ sk) :
    verifySig (curveInterp e bil κ nd).pairEq hm (.pt pk) (.pt .inf) = .reject ∧
    verifySig (curveInterp e bil κ nd).pairEq hm (.pt pk) (deserializeSign (List.replicate 64 0)) = .reject := by
  have hv : Valid hm := hashToG1_onCurve m hm hh
  have hι : ι hm ≠ 0 := ι_ne_zero hv (hashToG1_ne_identity m hm hh)
  have H := sign_is_honest e bil κ nd sk hsk hm hv pk hpk
  have hnz : sk • (curveInterp e bil κ nd).ι hm ≠ 0 := by
    intro h0
    exact hι (eq_zero_of_nsmul_of_prime r sk hr (ι hm) (hexp _) h0 hnd)
  have h1 := identity_rejected _ H hnz
  refine ⟨h1, ?_⟩
  have : deserializeSign (List.replicate 64 0) = .pt .inf := by decide
  rw [this]; exact h1

end pairing

end Rangers.Props.C14
