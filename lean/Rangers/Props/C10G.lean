import Rangers.Proofs.Evm10NoPanic
import Rangers.Model.Evm10Call
import Rangers.Model.Evm10Cache
import Rangers.Proofs.Evm10Bitmap
/-!
# C10 — call-family memory sizes, the identity precompile, `isCode` with its caches

`memoryCall`, `memoryDelegateCall`, `memoryStaticCall`, `memoryAuthCall` (memory_table.go) take
the larger of the input window and the output window, and report overflow if either overflows
(`twoWindows` in `memorySizeOf`; the theorems are stated for the first three, `memoryAuthCall` is
the same body at other stack positions).  Tied to the code by the T-corr stream `memsize` (the real
functions through `vm.VerifC11MemSize` against `memorySizeOf` on the same stacks) and by the
generated table naming them.

`identityCall` (Model/Evm10Call.lean) follows CALL / STATICCALL to the identity precompile 0x04,
including the aliasing of the returned slice with caller memory.  Tied by the T-corr stream `idcall`
(real EVM: load memory, STATICCALL 0x04, observe memory and RETURNDATACOPY) against the model on the
same windows.  `isCodeJ` (Model/Evm10Cache.lean) is `Contract.isCode` with its caches; tied by the
T-corr stream `jd` through hook `VerifJdSession`.
-/
namespace Rangers.Props.C10
open Rangers Rangers.Model.Evm10 Rangers.Model.Evm10.U256 Rangers.Proofs.Evm10

/-- the window `[off, off+len)` is covered by `sz` (an empty window needs nothing) -/
def Covers (sz : Nat) (off len : Word) : Prop := lo64 len = 0 ∨ lo64 off + lo64 len ≤ sz

theorem calc_covers {off len : Word} {sz : Nat} (h : calcMemSize64 off len = (sz, false)) :
    Covers sz off len := by
  by_cases h0 : lo64 len = 0
  · exact Or.inl h0
  · exact Or.inr (by have := (calc_two h0 h).1; omega)

/-- the body of `memoryCall` and its variants: the larger of the output window `x` and the input
window `y`, overflow if either overflows -/
theorem twoWindows_spec (xo xl yo yl : Word) (sz : Nat)
    (h : (let x := calcMemSize64 xo xl
          if x.2 then MemSizeResult.size 0 true
          else
            let y := calcMemSize64 yo yl
            if y.2 then .size 0 true
            else if x.1 > y.1 then .size x.1 false else .size y.1 false) = .size sz false) :
    Covers sz yo yl ∧ Covers sz xo xl ∧
    (sz = (calcMemSize64 xo xl).1 ∨ sz = (calcMemSize64 yo yl).1) := by
  cases hx : calcMemSize64 xo xl with
  | mk x xo' =>
    cases hy : calcMemSize64 yo yl with
    | mk y yo' =>
      simp only [hx, hy] at h
      cases xo' <;> cases yo' <;> simp at h
      have c1 := calc_covers hx
      have c2 := calc_covers hy
      by_cases hgt : x > y
      · simp [hgt] at h; subst h
        exact ⟨c2.imp id (fun c => by omega), c1, Or.inl rfl⟩
      · simp [hgt] at h; subst h
        exact ⟨c2, c1.imp id (fun c => by omega), Or.inr rfl⟩

/-- STATICCALL / DELEGATECALL (stack: gas, addr, inOff, inSize, retOff, retSize): a non-overflowing
result covers BOTH windows and is exactly the size one of them needs. -/
theorem memoryStaticCall_spec (gas addr inOff inSize retOff retSize : Word) (rest : List Word)
    (sz : Nat)
    (h : memorySizeOf .memoryStaticCall (gas :: addr :: inOff :: inSize :: retOff :: retSize :: rest)
      = .size sz false) :
    Covers sz inOff inSize ∧ Covers sz retOff retSize ∧
    (sz = (calcMemSize64 retOff retSize).1 ∨ sz = (calcMemSize64 inOff inSize).1) :=
  twoWindows_spec retOff retSize inOff inSize sz h

example : memorySizeOf .memoryStaticCall [0, 4, 0x20, 0x40, 0x100, 0x20] = .size 0x120 false := by rfl

/-- … and it reports overflow exactly when one of the two windows does. -/
theorem memoryStaticCall_overflow (gas addr inOff inSize retOff retSize : Word) (rest : List Word)
    (sz : Nat) :
    memorySizeOf .memoryStaticCall (gas :: addr :: inOff :: inSize :: retOff :: retSize :: rest)
      = .size sz true ↔
    (sz = 0 ∧ ((calcMemSize64 retOff retSize).2 = true ∨ (calcMemSize64 inOff inSize).2 = true)) := by
  simp only [memorySizeOf, List.getElem?_cons_succ, List.getElem?_cons_zero]
  cases hx : calcMemSize64 retOff retSize with
  | mk x xo =>
    cases hy : calcMemSize64 inOff inSize with
    | mk y yo =>
      cases xo <;> cases yo <;> simp
      · -- neither window overflows: the answer carries `false`
        split <;> simp
      -- a window overflows: the answer is `.size 0 true`, and `0 = sz ↔ sz = 0` is left
      all_goals exact eq_comm

example : memorySizeOf .memoryStaticCall [0, 4, 0x20, 0x40, (BitVec.allOnes 256), 0x20] = .size 0 true := by
  rfl

/-- CALL / CALLCODE (stack: gas, addr, value, inOff, inSize, retOff, retSize) -/
theorem memoryCall_spec (gas addr value inOff inSize retOff retSize : Word) (rest : List Word)
    (sz : Nat)
    (h : memorySizeOf .memoryCall (gas :: addr :: value :: inOff :: inSize :: retOff :: retSize :: rest)
      = .size sz false) :
    Covers sz inOff inSize ∧ Covers sz retOff retSize := by
  have := twoWindows_spec retOff retSize inOff inSize sz h
  exact ⟨this.1, this.2.1⟩

example : memorySizeOf .memoryCall [0, 4, 0, 0x20, 0x40, 0x100, 0x20] = .size 0x120 false := by rfl

theorem memoryDelegateCall_eq (st : List Word) :
    memorySizeOf .memoryDelegateCall st = memorySizeOf .memoryStaticCall st := rfl

theorem identityCall_some {m m' rd : Bytes} {inOff inSize retOff retSize : Nat}
    (h : identityCall m inOff inSize retOff retSize = some (m', rd)) :
    ∃ args, Mem.getPtr m inOff inSize = some args ∧ Mem.set m retOff retSize args = some m' ∧
      Mem.getPtr m' inOff inSize = some rd := by
  unfold identityCall at h
  split at h
  · cases h
  · rename_i args ha
    split at h
    · cases h
    · rename_i m1 hs
      split at h
      · rename_i rd1 hr
        injection h with h; injection h with h1 h2
        subst h1 h2
        exact ⟨args, ha, hs, hr⟩
      · cases h

theorem memSet_getD (m m' v : Bytes) (off size : Nat) (h : Mem.set m off size v = some m') (j : Nat) :
    m'.getD j 0 = if off ≤ j ∧ j < off + min size v.length then v.getD (j - off) 0 else m.getD j 0 :=
  set_getD m m' v off size h j

/-- **Memory after the call is as the specification says**: the output window
receives the first `min retSize inSize` input bytes as they were BEFORE the call, also when the
windows overlap; nothing else changes. -/
theorem identityCall_memory_spec (m m' rd : Bytes) (inOff inSize retOff retSize : Nat)
    (hin : inSize = 0 ∨ inOff + inSize ≤ m.length)
    (h : identityCall m inOff inSize retOff retSize = some (m', rd)) :
    m'.length = m.length ∧
    ∀ j, m'.getD j 0 =
      if retOff ≤ j ∧ j < retOff + min retSize inSize then m.getD (inOff + (j - retOff)) 0
      else m.getD j 0 := by
  obtain ⟨args, ha, hs, _⟩ := identityCall_some h
  obtain rfl := Option.some.inj ((getPtr_eq hin).symm.trans ha)
  have hp := set_patch hs
  rw [show ((m.drop inOff).take inSize).length = inSize by simp; omega] at hp
  exact hp.congr fun i hi => by rw [getD_take_drop, if_pos (by omega)]

/-- Full statement for the return data: it is the input that was sent. -/
def FullStatementIdentityReturnData : Prop :=
  ∀ (m m' rd : Bytes) (inOff inSize retOff retSize : Nat),
    identityCall m inOff inSize retOff retSize = some (m', rd) →
    some rd = Mem.getPtr m inOff inSize

/-- Whenever the write-back cannot touch the input window — nothing written
(`retSize = 0` or empty input), or the written range `[retOff, retOff + min retSize inSize)` disjoint
from `[inOff, inOff + inSize)` — the return data is exactly the input sent. -/
theorem identityCall_returndata_partial (m m' rd : Bytes) (inOff inSize retOff retSize : Nat)
    (hin : inSize = 0 ∨ inOff + inSize ≤ m.length)
    (hsafe : retSize = 0 ∨ inSize = 0 ∨ retOff + min retSize inSize ≤ inOff ∨ inOff + inSize ≤ retOff)
    (h : identityCall m inOff inSize retOff retSize = some (m', rd)) :
    some rd = Mem.getPtr m inOff inSize := by
  obtain ⟨hlen, hget⟩ := identityCall_memory_spec m m' rd inOff inSize retOff retSize hin h
  obtain ⟨_, _, _, hr⟩ := identityCall_some h
  rw [getPtr_eq hin, ← hr, getPtr_eq (by omega)]
  congr 1
  apply ext_getD
  · simp; omega
  · intro i
    rw [getD_take_drop, getD_take_drop]
    by_cases hi : i < inSize
    · rw [if_pos hi, if_pos hi, hget, if_neg (by omega)]
    · rw [if_neg hi, if_neg hi]

set_option maxRecDepth 4000 in
example : identityCall (List.replicate 96 7) 0 32 64 32 ≠ none := by decide

/-- **The full statement is false of model and code** (known finding
`returndata-alias-identity-overlap`): 64 bytes of memory `01..20 00..00`, input window `[0,32)`,
output window `[16,48)` — the return data is `01..10 01..10`, not the `01..20` that was sent.  The
same witness on the real EVM: corpus/C10/precompile.srch, first line. -/
theorem identityCall_returndata_counterexample : ¬ FullStatementIdentityReturnData := by
  intro hfull
  have := hfull
    ([1,2,3,4,5,6,7,8,9,10,11,12,13,14,15,16,17,18,19,20,21,22,23,24,25,26,27,28,29,30,31,32] ++ List.replicate 32 0)
    ([1,2,3,4,5,6,7,8,9,10,11,12,13,14,15,16,1,2,3,4,5,6,7,8,9,10,11,12,13,14,15,16,17,18,19,20,21,22,23,24,25,26,27,28,29,30,31,32] ++ List.replicate 16 0)
    [1,2,3,4,5,6,7,8,9,10,11,12,13,14,15,16,1,2,3,4,5,6,7,8,9,10,11,12,13,14,15,16]
    0 32 16 32 (by decide +kernel)
  revert this
  decide +kernel

/-- the caches say the truth about THIS contract: its own `analysis`, and the shared entry under
its hash, are the bitmap of its code (what a collision-free code hash guarantees) -/
def Coherent (c : JContract) (jd : JMap) : Prop :=
  (∀ a, c.analysis = some a → a = Bitvec.codeBitmap c.code) ∧
  (∀ h a, c.codeHash = some h → jd.find h = some a → a = Bitvec.codeBitmap c.code)

/-- **With coherent caches `isCode` answers exactly "not PUSH data"**, whichever of its three
branches runs, and leaves the caches coherent. -/
theorem isCode_exact (c : JContract) (jd : JMap) (u : Nat) (hc : Coherent c jd) :
    ((isCodeJ c jd u).1 = true ↔ ¬ InPushData c.code u) ∧
    Coherent (isCodeJ c jd u).2.1 (isCodeJ c jd u).2.2 ∧ (isCodeJ c jd u).2.1.code = c.code := by
  obtain ⟨h1, h2⟩ := hc
  -- every branch answers from the bitmap of `c.code` and caches nothing else
  have hnew : ∀ jd', (∀ h a, c.codeHash = some h → JMap.find jd' h = some a → a = Bitvec.codeBitmap c.code) →
      Coherent { c with analysis := some (Bitvec.codeBitmap c.code) } jd' :=
    fun jd' h => ⟨fun a ha => (Option.some.inj ha).symm, h⟩
  unfold isCodeJ
  split
  · rename_i a ha
    rw [h1 a ha]
    exact ⟨codeSegment_codeBitmap c.code u, ⟨h1, h2⟩, rfl⟩
  · split
    · rename_i h hh
      split
      · rename_i a hf
        rw [h2 h a hh hf]
        exact ⟨codeSegment_codeBitmap c.code u, hnew jd h2, rfl⟩
      · refine ⟨codeSegment_codeBitmap c.code u, hnew _ ?_, rfl⟩
        intro h' a e1 e2
        obtain rfl : h = h' := Option.some.inj (hh.symm.trans e1)
        simp [JMap.find] at e2
        exact e2.symm
    · exact ⟨codeSegment_codeBitmap c.code u, hnew jd h2, rfl⟩

example : Coherent ⟨[0x60, 0x5b, 0x5b], some [1], none⟩ [] :=
  ⟨fun _ h => by simp at h, fun _ _ _ h => by simp [JMap.find] at h⟩

/-- **Hash-less init code never writes the shared map** (each piece of CREATE init code gets its
own analysis): the map after the call is the map before. -/
theorem isCode_hashless_private (c : JContract) (jd : JMap) (u : Nat) (h : c.codeHash = none) :
    (isCodeJ c jd u).2.2 = jd := by
  unfold isCodeJ
  cases c.analysis <;> simp [h]

/-- … and a hashed contract changes at most the entry of its own hash. -/
theorem isCode_other_entries_kept (c : JContract) (jd : JMap) (u : Nat) (h' : Bytes)
    (hne : c.codeHash ≠ some h') : (isCodeJ c jd u).2.2.find h' = jd.find h' := by
  cases ha : c.analysis with
  | some a => simp [isCodeJ, ha]
  | none =>
    cases hh : c.codeHash with
    | none => simp [isCodeJ, ha, hh]
    | some h =>
      cases hf : jd.find h with
      | some a => simp [isCodeJ, ha, hh, hf]
      | none =>
        have : ¬ (h == h') = true := by
          intro e; apply hne; rw [hh]; congr 1; simpa using e
        simp [isCodeJ, ha, hh, hf, JMap.find, this]

/-- `validJumpdest` through the caches: inside the code, a 0x5b byte, not PUSH data. -/
theorem validJumpdestJ_iff (c : JContract) (jd : JMap) (dest : Word) (hc : Coherent c jd)
    (hl : c.code.length < 2 ^ 64) :
    (validJumpdestJ c jd dest).1 = true ↔
      dest.toNat < c.code.length ∧ c.code.getD dest.toNat 0 = 0x5b ∧ ¬ InPushData c.code dest.toNat := by
  have h := jumpdest_guard_iff c.code dest (fun u => (isCodeJ c jd u).1) hl
  rw [(isCode_exact c jd dest.toNat hc).1] at h
  rw [← h, validJumpdestJ]
  split
  · rfl
  · split <;> rfl

end Rangers.Props.C10
