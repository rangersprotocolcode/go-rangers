import Rangers.Model.Bls14Verify
import Rangers.Proofs.Bls14Pairing
import Rangers.Proofs.Bls14Model
import Rangers.Props.C14
import Rangers.Props.C14E
/-!
# C14 — exactly one signature is accepted

The pairing is a parameter of `verifySig`. Here it is instantiated by an *interpretation*
`Interp` of the model's points in abstract groups with a bilinear map whose kernel against `g₂`
is trivial (the clause "the pairing used for verification is bilinear and non-degenerate" is a
HYPOTHESIS, sampled on the implementation by the searcher every run). Under it `verifySig`
accepts exactly the honest signature, and everything the property lists is rejected.
-/
namespace Rangers.Props.C14
open Rangers Rangers.Model.Bls14 Rangers.Proofs.Bls14

/-- What is assumed of bn256: the meaning `ι` / `κ` of model points in groups `G1`, `G2`, a
    bilinear `e` into `GT`, `ι` injective on valid (on-curve, reduced) points, identity ↦ 0, and
    `e(·, g₂)` with trivial kernel. -/
structure Interp (G1 G2 GT : Type) [AddCommGroup G1] [AddCommGroup G2] [CommGroup GT] where
  e : G1 → G2 → GT
  bil : Bilinear e
  ι : Pt → G1
  κ : Pt2 → G2
  ι_inf : ι .inf = 0
  ι_inj : ∀ a b, a.onCurve = true → a.reduced = true → b.onCurve = true → b.reduced = true →
    ι a = ι b → a = b
  nondeg : ∀ a : G1, e a (κ g2Gen) = 1 → a = 0

variable {G1 G2 GT : Type} [AddCommGroup G1] [AddCommGroup G2] [CommGroup GT]

/-- `PairIsEuqal(Pair(s, q), Pair(h, k))` under the interpretation. -/
noncomputable def Interp.pairEq (I : Interp G1 G2 GT) : PairEq :=
  fun s q h k => @decide (I.e (I.ι s) (I.κ q) = I.e (I.ι h) (I.κ k)) (Classical.dec _)

theorem Interp.pairEq_iff (I : Interp G1 G2 GT) (s h : Pt) (q k : Pt2) :
    I.pairEq s q h k = true ↔ I.e (I.ι s) (I.κ q) = I.e (I.ι h) (I.κ k) := by
  simp [Interp.pairEq]

/-- A key pair / message / honest signature in the interpretation:
    `pk = sk·g₂` and `σ★ = sk·H(m)` is a valid point. -/
structure Honest (I : Interp G1 G2 GT) (sk : ℕ) (hm σ : Pt) (pk : Pt2) : Prop where
  key : I.κ pk = sk • I.κ g2Gen
  sig : I.ι σ = sk • I.ι hm
  onCurve : σ.onCurve = true
  reduced : σ.reduced = true

/-- Free interpretation: G1 = functions `Pt → ℤ`, a point is its indicator, `G2 = ℤ`,
    `e(a, n) = n • a`: `Interp` is not vacuous; also the carrier of the byte-level counterexample. -/
noncomputable def toyInterp : Interp (Pt → ℤ) ℤ (Multiplicative (Pt → ℤ)) where
  e a n := Multiplicative.ofAdd (n • a)
  bil := ⟨fun a b q => by rw [smul_add]; rfl, fun a q q' => by rw [add_smul]; rfl⟩
  ι q := match q with
    | .inf => 0
    | p => Pi.single p 1
  κ _ := 1
  ι_inf := rfl
  ι_inj := by
    intro a b _ _ _ _ h
    cases a with
    | inf =>
      cases b with
      | inf => rfl
      | aff x y =>
        have := congrFun h (.aff x y)
        simp at this
    | aff x y =>
      cases b with
      | inf =>
        have := congrFun h (.aff x y)
        simp at this
      | aff x' y' =>
        have := congrFun h (.aff x y)
        simp only [Pi.single_eq_same] at this
        by_contra hne
        rw [Pi.single_eq_of_ne hne] at this
        exact one_ne_zero this
  nondeg := by
    intro a h
    have : Multiplicative.toAdd (Multiplicative.ofAdd ((1 : ℤ) • a)) = 0 := by rw [h]; rfl
    simpa using this

theorem toy_honest : Honest toyInterp 1 g1Gen g1Gen g2Gen :=
  ⟨(one_nsmul _).symm, (one_nsmul _).symm, by decide, by decide⟩

/-- Full strength at the level of group elements: for EVERY secret key
    `sk` (zero included), message point, and signature value the code can hold, `VerifySig`
    accepts iff the value is the honest signature `sk·H(m)`. -/
theorem verify_iff_unique (I : Interp G1 G2 GT) {sk : ℕ} {hm σ : Pt} {pk : Pt2}
    (H : Honest I sk hm σ pk) (sig : Sig) (hsr : ∀ s, sig = .pt s → s.reduced = true) :
    verifySig I.pairEq hm (.pt pk) sig = .accept ↔ sig = .pt σ := by
  rw [verify_accept_iff]
  constructor
  · rintro ⟨s, k, hs, hk, hc, hpe⟩
    cases hk
    rw [I.pairEq_iff, H.key, I.bil.unique _ I.nondeg, ← H.sig] at hpe
    rw [hs, I.ι_inj s σ hc (hsr s hs) H.onCurve H.reduced hpe]
  · intro hs
    refine ⟨σ, pk, hs, rfl, H.onCurve, ?_⟩
    rw [I.pairEq_iff, H.key, I.bil.unique _ I.nondeg, H.sig]

example : verifySig toyInterp.pairEq g1Gen (.pt g2Gen) (.pt g1Gen) = .accept :=
  (verify_iff_unique toyInterp toy_honest _ (by rintro s ⟨⟩; decide)).mpr rfl

/-- Everything else is rejected (never a panic): the exact oracle of the property. -/
theorem verify_rejects_of_ne (I : Interp G1 G2 GT) {sk : ℕ} {hm σ : Pt} {pk : Pt2}
    (H : Honest I sk hm σ pk) (sig : Sig) (hsr : ∀ s, sig = .pt s → s.reduced = true)
    (hne : sig ≠ .pt σ) : verifySig I.pairEq hm (.pt pk) sig = .reject :=
  reject_of_not_accept ((verify_iff_unique I H sig hsr).not.mpr hne)

/-- The honest signature produced by the model's own `Sign` is accepted. -/
theorem honest_accepted (I : Interp G1 G2 GT) {sk : ℕ} {hm : Pt} {pk : Pt2}
    (H : Honest I sk hm (Pt.mul hm sk) pk) :
    verifySig I.pairEq hm (.pt pk) (sign sk hm) = .accept :=
  (verify_iff_unique I H _ (by rintro s ⟨⟩; exact H.reduced)).mpr rfl

theorem pt_rejected (I : Interp G1 G2 GT) {sk : ℕ} {hm σ s : Pt} {pk : Pt2}
    (H : Honest I sk hm σ pk) (hs : s.reduced = true) (hne : s ≠ σ) :
    verifySig I.pairEq hm (.pt pk) (.pt s) = .reject :=
  verify_rejects_of_ne I H _ (by rintro t ⟨⟩; exact hs) fun h => hne (G1Val.pt.inj h)

/-- Identity element: rejected unless the honest signature IS the identity (`sk·H(m) = 0`,
    i.e. the invalid key `sk ≡ 0`). Note the code has no up-front identity check; the
    rejection comes from the pairing comparison. -/
theorem identity_rejected (I : Interp G1 G2 GT) {sk : ℕ} {hm σ : Pt} {pk : Pt2}
    (H : Honest I sk hm σ pk) (hnz : sk • I.ι hm ≠ 0) :
    verifySig I.pairEq hm (.pt pk) (.pt .inf) = .reject :=
  pt_rejected I H rfl fun h => hnz (by rw [← H.sig, ← h, I.ι_inf])

/-- Negation `−σ` of the honest signature `σ = (x, y)`, `y ≠ 0`. -/
theorem neg_rejected (I : Interp G1 G2 GT) {sk : ℕ} {hm : Pt} {x y : Nat} {pk : Pt2}
    (H : Honest I sk hm (.aff x y) pk) (hy : y ≠ 0) :
    verifySig I.pairEq hm (.pt pk) (.pt (Pt.neg (.aff x y))) = .reject := by
  have hr := H.reduced
  simp only [Pt.reduced, Bool.and_eq_true, decide_eq_true_eq] at hr
  exact pt_rejected I H (neg_onCurve _ H.onCurve H.reduced).2 (neg_ne_self x y hr.2 hy)

/-- Sum with another element (`σ + σ'`): any point `s` that means `σ + d` with `d ≠ 0`. -/
theorem sum_rejected (I : Interp G1 G2 GT) {sk : ℕ} {hm σ s : Pt} {pk : Pt2}
    (H : Honest I sk hm σ pk) (hs : s.reduced = true) (d : G1) (hd : d ≠ 0)
    (hsum : I.ι s = I.ι σ + d) :
    verifySig I.pairEq hm (.pt pk) (.pt s) = .reject :=
  pt_rejected I H hs fun h => hd (by rw [h] at hsum; exact left_eq_add.mp hsum)

/-- Signature made for another message `m'` (`H(m') ≠ H(m)` in the group) under the same key,
    in a group of prime exponent `r` with `r ∤ sk`. -/
theorem other_message_rejected (I : Interp G1 G2 GT) {sk r : ℕ} {hm hm' σ σ' : Pt} {pk : Pt2}
    (H : Honest I sk hm σ pk) (H' : Honest I sk hm' σ' pk)
    (hp : r.Prime) (hr : ∀ a : G1, r • a = 0) (hsk : ¬ r ∣ sk) (hne : I.ι hm' ≠ I.ι hm) :
    verifySig I.pairEq hm (.pt pk) (.pt σ') = .reject := by
  refine pt_rejected I H H'.reduced fun h => ?_
  have : sk • (I.ι hm' - I.ι hm) = 0 := by rw [smul_sub, ← H'.sig, ← H.sig, h, sub_self]
  exact hne (sub_eq_zero.mp (eq_zero_of_nsmul_of_prime r sk hp _ (hr _) this hsk))

/-- Signature made with another key `sk' ≢ sk (mod r)` for the same message (`H(m) ≠ 0`). -/
theorem other_key_rejected (I : Interp G1 G2 GT) {sk sk' r : ℕ} {hm σ σ' : Pt} {pk pk' : Pt2}
    (H : Honest I sk hm σ pk) (H' : Honest I sk' hm σ' pk')
    (hp : r.Prime) (hr : ∀ a : G1, r • a = 0) (hne : ¬ sk' ≡ sk [MOD r]) (hm0 : I.ι hm ≠ 0) :
    verifySig I.pairEq hm (.pt pk) (.pt σ') = .reject := by
  exact pt_rejected I H H'.reduced fun h =>
    hne (modEq_of_nsmul_eq r sk' sk hp (I.ι hm) (hr _) hm0 (by rw [← H'.sig, ← H.sig, h]))

/-- On bytes: accepted iff the first 64 bytes decode (coordinates mod p!) to the honest point. -/
theorem verify_bytes_iff (I : Interp G1 G2 GT) {sk : ℕ} {hm σ : Pt} {pk : Pt2}
    (H : Honest I sk hm σ pk) (pkb sigb : Bytes) (hpk : byteToPublicKey pkb = .pt pk) :
    verifyBytes I.pairEq hm pkb sigb = .accept ↔
      g1Unmarshal .nil sigb = (.pt σ, .ok (sigb.drop 64)) := by
  have hred : ∀ s, (g1Unmarshal .nil sigb).1 = .pt s → s.reduced = true := by
    intro s hs
    rw [g1Unmarshal_eq] at hs
    split at hs
    · cases hs
    · cases hs
      exact g1Read_reduced sigb
  unfold verifyBytes
  rw [hpk, deserializeSign_eq, verify_iff_unique I H _ hred, g1Unmarshal_eq]
  split
  · exact ⟨fun h => (nomatch h), fun h => (nomatch h)⟩
  · constructor
    · intro h
      cases G1Val.pt.inj h
      rw [if_pos H.onCurve]
    · intro h
      exact (Prod.mk.inj h).1

/-- **FullStatement** of the first clause as the property words it ("false for every other
    value … every byte string presented as a signature"): accepted iff the byte string IS the
    honest signature's serialisation. -/
def FullStatement_verify_bytes_unique : Prop :=
  ∀ (G1 G2 GT : Type) [AddCommGroup G1] [AddCommGroup G2] [CommGroup GT] (I : Interp G1 G2 GT)
    (sk : ℕ) (hm σ : Pt) (pk : Pt2) (_ : Honest I sk hm σ pk)
    (pkb sigb : Bytes) (_ : byteToPublicKey pkb = .pt pk),
    verifyBytes I.pairEq hm pkb sigb = .accept ↔ sigb = Sig.serialize (.pt σ)

/-- False of the model and of the code (known finding `overlong-sig-accepted`; replayed by
    `corpus/C14/edge.ops` and the searcher on every run): trailing bytes are never looked at. -/
theorem verify_bytes_unique_counterexample : ¬ FullStatement_verify_bytes_unique := by
  intro h
  have hpk : byteToPublicKey (g2Marshal g2Gen) = .pt g2Gen :=
    pubkey_roundtrip _ _ (by decide) (by decide)
  have h1 := h _ _ _ toyInterp 1 g1Gen g1Gen g2Gen toy_honest (g2Marshal g2Gen)
    (g1Marshal g1Gen ++ [0xff]) hpk
  have h2 := (verify_bytes_iff toyInterp toy_honest (g2Marshal g2Gen) (g1Marshal g1Gen ++ [0xff]) hpk).mpr
    (by
      rw [g1_unmarshal_marshal_append .nil g1Gen [0xff] (by decide) (by decide)]
      rw [List.drop_append_of_le_length (by simp [g1_marshal_length]),
        List.drop_of_length_le (by simp [g1_marshal_length])]
      simp)
  have := congrArg List.length (h1.mp h2)
  simp [Sig.serialize, g1_marshal_length] at this

/-- Restricted to canonical encodings (exactly 64 bytes, both
    coordinates `< p`) the byte-level statement holds — the two recorded findings are the only
    way a byte string other than the honest serialisation is accepted. -/
theorem verify_bytes_unique_partial (I : Interp G1 G2 GT) {sk : ℕ} {hm σ : Pt} {pk : Pt2}
    (H : Honest I sk hm σ pk) (pkb sigb : Bytes) (hpk : byteToPublicKey pkb = .pt pk)
    (hcan : Canonical sigb) :
    verifyBytes I.pairEq hm pkb sigb = .accept ↔ sigb = Sig.serialize (.pt σ) := by
  rw [verify_bytes_iff I H pkb sigb hpk]
  constructor
  · intro h
    exact ((g1_unmarshal_canonical_partial sigb _ σ hcan h).1).symm
  · intro h
    rw [h]
    simp only [Sig.serialize]
    rw [g1_marshal_unmarshal .nil σ H.onCurve H.reduced,
      List.drop_of_length_le (by simp [g1_marshal_length])]

example : Canonical (Sig.serialize (.pt g1Gen)) := canonical_g1Marshal g1Gen (by decide)

end Rangers.Props.C14
