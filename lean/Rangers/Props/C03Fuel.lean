import Rangers.Proofs.TrieDBInv
import Rangers.Proofs.TrieDBFuel
import Rangers.Proofs.TrieDBExample
/-!
# C03 — the fuel the driver supplies is sufficient

`Model.TrieDB.step` runs `commit` and `commitV` with fuel `cache.length + 1`, `drv_c03` runs
`resolve` with fuel `disk.length + 1`.  On every acyclic store (a hash-addressed
store is acyclic unless Keccak has a cycle) that is enough for `walk` (the operation `.commit`)
and for `resolve`, so their out-of-fuel answers (`diverges`, flag `F`) can only appear on a
reference cycle.  The driver's commits are `.commitV` operations (`walkO`, same fuel); the
theorems below do not speak of `walkO`.
-/
namespace Rangers.Props.C03Fuel
open Rangers.Model.TrieDB

theorem driver_walk_fuel_suffices (c : Cache) (hr : RankedCache c) (h : Hash) :
    ∃ ws, walk c (c.length + 1) h = some ws := by
  obtain ⟨rank, hrank⟩ := hr
  exact Option.isSome_iff_exists.mp
    (walk_enough_fuel hrank (c.length + 1) [] h (Chain.nil c rank h) (Nat.lt_add_left 0 (Nat.lt_succ_self _)))

/-- hence `step … (.commit root failAt)` never answers `none` on an acyclic cache -/
theorem commit_step_defined (eD eC : Hash) (s : St) (hr : RankedCache s.cache) (root : Hash) (failAt : Option Nat) :
    ∃ s', step eD eC s (.commit root failAt) = some s' := by
  obtain ⟨ws, hw⟩ := driver_walk_fuel_suffices s.cache hr root
  refine ⟨(commitWith s failAt ws).st, ?_⟩
  show (commit s root failAt (s.cache.length + 1)).map (fun o => o.st) = _
  rw [commit_eq_commitWith, hw]
  rfl

theorem driver_resolve_fuel_suffices (d : Disk) (hr : Ranked d) (h : Hash) :
    resolve (diskGet d) (d.length + 1) h = .ok ∨ resolve (diskGet d) (d.length + 1) h = .missing := by
  obtain ⟨rank, hrank⟩ := hr
  cases hres : resolve (diskGet d) (d.length + 1) h with
  | ok => exact Or.inl rfl
  | missing => exact Or.inr rfl
  | fuel =>
    exact absurd hres
      (resolve_enough_fuel hrank (d.length + 1) [] h (Chain.nil d rank h) (Nat.lt_add_left 0 (Nat.lt_succ_self _)))

/-- together with `resolve_flag_sound`: on an acyclic disk the driver's answer decides resolvability -/
theorem driver_resolve_decides (d : Disk) (hr : Ranked d) (h : Hash) :
    (resolve (diskGet d) (d.length + 1) h = .ok ↔ Resolvable d h) :=
  ⟨resolve_ok_sound d _ h, fun hres => (driver_resolve_fuel_suffices d hr h).resolve_right
    fun h1 => resolve_missing_sound d _ h h1 hres⟩

/-- non-vacuity: the example cache of `Proofs/TrieDBExample.lean` is acyclic (rank = the hash itself) -/
example : RankedCache Rangers.Props.C03.exS5.cache := by
  have key : ∀ kn ∈ Rangers.Props.C03.exS5.cache, ∀ x ∈ kn.2.childs, x < kn.1 := by decide
  exact ⟨id, fun h n hl x hx _ => key (h, n) (lookup_mem hl) x hx⟩

end Rangers.Props.C03Fuel
