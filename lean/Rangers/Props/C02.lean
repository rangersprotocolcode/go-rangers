import Rangers.Proofs.TrieIterBytes
import Rangers.Proofs.TrieCompact
import Rangers.Proofs.TrieYPRoot
import Rangers.Proofs.TrieTotal
import Rangers.Proofs.TrieReload
import Rangers.Basic.Keccak
/-!
# C02 — the state trie root is the canonical Merkle-Patricia commitment of its content

Theorems about `Rangers.Trie` (Model/Trie.lean), the fully loaded, flag-free model of `src/storage/trie`.
`Drive/C02.lean` executes the live machine `lstep` (Model/TrieMachine.lean), which the correspondence run compares
with the Go code and `Props/C02Live` proves to observe what this model observes.  `H` (the node hash) is a parameter:
every statement holds for every hash function.

Vocabulary: `WFRoot t` = `t` is empty or in minimal form (no short-below-short, no full node with
fewer than two occupied slots, no empty value, values only behind a terminator);
`content t κ` = value stored under hex path `κ`; `run ops` = model state after the history
`ops`; `finalMap ops` = the map the history defines (last write wins; delete / empty write remove).
-/
namespace Rangers.Props.C02
open Rangers Rangers.Trie

theorem insert_wf (t : Node) (key : Key) (val : Bytes) (ht : WFRoot t) (hk : ValidKey key) (hv : val ≠ []) :
    WF (insert t key (.value val)).2 :=
  Trie.insert_wf val hv t key ht hk

theorem delete_wf (t : Node) (key : Key) (ht : WFRoot t) (hk : ValidKey key) :
    WFRoot (delete t key).2 :=
  Trie.delete_wf t key ht hk

theorem toMap_insert (t : Node) (key : Key) (val : Bytes) (ht : WFRoot t) (hk : ValidKey key) (k' : Key) :
    content (insert t key (.value val)).2 k' = if k' = key then some val else content t k' :=
  (insert_spec val (walk_of_wf t key ht hk)).1 k'

theorem toMap_delete (t : Node) (key : Key) (ht : WFRoot t) (hk : ValidKey key) (k' : Key) :
    content (delete t key).2 k' = if k' = key then none else content t k' :=
  (delete_spec (walk_of_wf t key ht hk)).1 k'

/-- `Trie.TryGet` reads the abstract content (the association list the iterator returns). -/
theorem get_eq_lookup (t : Node) (k : Key) (ht : WFRoot t) (hk : ValidKey k) :
    get t k = (iter t).lookup k :=
  get_eq_content (walk_of_wf t k ht hk)

/-- the exported API only ever produces terminated keys -/
theorem api_keys_valid (k : Bytes) : ValidKey (keybytesToHex k) := validKey_keybytesToHex k

/-- **totality**: on a minimal-form trie and a terminated key none of the branches in which the Go
    code indexes out of range, fails a type assertion or reaches `panic("invalid node")` is
    taken — by `tryGet`, `insert` or `delete`.  (The model is total; this shows no theorem here is
    true thanks to a default value.) -/
theorem no_panic (t : Node) (k : Key) (val : Bytes) (ht : WFRoot t) (hk : ValidKey k) :
    getPanics t k = false ∧ insertPanics t k (.value val) = false ∧ deletePanics t k = false :=
  no_panic_of_walk val (walk_of_wf t k ht hk)

/-- …hence no exported operation panics after any history -/
theorem no_panic_after_history (ops : List Op) (k val : Bytes) :
    getPanics (run ops) (keybytesToHex k) = false ∧
    insertPanics (run ops) (keybytesToHex k) (.value val) = false ∧
    deletePanics (run ops) (keybytesToHex k) = false :=
  no_panic (run ops) (keybytesToHex k) val (represents_run ops).wf (validKey_keybytesToHex k)

-- non-vacuity: a three-key trie with a key that is a prefix of another satisfies the hypotheses
example : WFRoot (run [.upd [0x12] [1], .upd [0x12, 0x34] [2], .upd [0x13] [3]]) := (represents_run _).wf
example : ValidKey (keybytesToHex [0x12, 0x34]) := api_keys_valid _

/-- **uniqueness**: two minimal-form tries with the same reads are the same tree. -/
theorem wf_unique (a b : Node) (ha : WFRoot a) (hb : WFRoot b)
    (h : ∀ κ, ValidKey κ → get a κ = get b κ) : a = b :=
  wf_ext ha hb (fun κ hκ => by
    rw [← get_eq_content (walk_of_wf a κ ha hκ), ← get_eq_content (walk_of_wf b κ hb hκ), h κ hκ])

theorem run_wf (ops : List Op) : WFRoot (run ops) := (represents_run ops).wf

/-- **reads return the last write**: after any history (including hash / commit / reopen /
    cache-limit steps) `Get k` is the last value written to `k`, absent after delete or empty write. -/
theorem reads_last_write (ops : List Op) (k : Bytes) : lookup (run ops) k = finalMap ops k := by
  unfold lookup
  rw [get_eq_content (walk_of_wf _ _ (run_wf ops) (api_keys_valid k))]
  exact (represents_run ops).agree k

/-- **history independence of the tree**: two histories that define the same map leave the
    very same trie behind. -/
theorem run_history_independent (ops₁ ops₂ : List Op) (h : finalMap ops₁ = finalMap ops₂) :
    run ops₁ = run ops₂ :=
  represents_unique (represents_run ops₁) (h ▸ represents_run ops₂)

/-- **history independence of the root**, for every hash function `H`. -/
theorem root_history_independent (H : Bytes → Bytes) (ops₁ ops₂ : List Op)
    (h : finalMap ops₁ = finalMap ops₂) : rootHash H (run ops₁) = rootHash H (run ops₂) := by
  rw [run_history_independent ops₁ ops₂ h]

-- non-vacuity: different orders, an overwrite, a delete and interleaved commits define the same map
example : finalMap [.upd [1] [7], .commit, .upd [2] [8], .upd [3] [9], .del [3], .reopen]
        = finalMap [.upd [2] [5], .upd [1] [7], .dbcommit, .upd [2] [8], .cachelimit 0] := by
  funext k
  simp only [finalMap, List.foldl, specStep]
  by_cases h3 : k = [3]
  · subst h3; simp
  · by_cases h2 : k = [2]
    · subst h2; simp
    · simp [h2, h3]

theorem rootHash_empty (H : Bytes → Bytes) : rootHash H .nil = emptyRoot := rfl

/-- the node encoding the hasher produces for a minimal-form subtree below the nibble path `P` is
    the Yellow Paper's `c(J, |P|)` of the pairs stored below it (`absK` = absolute keys, no terminator) -/
theorem node_encoding_eq_yellow_paper (H : Bytes → Bytes) (t : Node) (ht : WF t) (P : Key) (f : Nat)
    (hf : height t ≤ f) : enc H t = ypC H f (absK P (iter t)) P.length :=
  (ypC_enc H t ht P f hf).symm

/-- **canonical commitment**: after any history the root equals `TRIE(J)` of Yellow Paper
    appendix D (`ypRoot`, a transcription that never looks at a trie), where `J` is *any*
    enumeration of the map the history defines, listed in path order.
    Hypothesis on `H`: the hard-coded `emptyRoot` constant is `H` of the empty string's RLP
    (true for Keccak-256, checked below). -/
theorem root_eq_yellow_paper (H : Bytes → Bytes) (hH : H [0x80] = emptyRoot) (ops : List Op)
    (J : List (Bytes × Bytes))
    (hsorted : J.Pairwise (fun a b => keybytesToHex a.1 < keybytesToHex b.1))
    (hJ : ∀ k v, (k, v) ∈ J ↔ finalMap ops k = some v) :
    rootHash H (run ops) = ypRoot H (J.map (fun e => (hexOfBytes e.1, e.2))) := by
  rw [rootHash_eq_ypRoot H hH _ (run_wf ops), ← enumeration_eq_iter (represents_run ops) J hsorted hJ]
  congr 1
  simp [absK, keybytesToHex, List.map_map, Function.comp_def]

/-- such an enumeration always exists: what full iteration returns -/
theorem enumeration_exists (ops : List Op) :
    (iterFrom (run ops) []).Pairwise (fun a b => keybytesToHex a.1 < keybytesToHex b.1) ∧
    ∀ k v, (k, v) ∈ iterFrom (run ops) [] ↔ finalMap ops k = some v :=
  ⟨iterFrom_sorted_hex (represents_run ops), mem_iterFrom_nil (represents_run ops)⟩

-- non-vacuity of the hypothesis on `H`: the executable Keccak-256 satisfies it
set_option maxRecDepth 100000 in
example : Keccak.keccak256 [0x80] = emptyRoot := by decide +kernel

/-- **commit + reopen is a no-op on the trie** (`expand_collapse`): collapsing a minimal-form trie
    into hash-addressed store entries (`hasher.store` with a database: nodes of ≥ 32 bytes and the
    root, children embedded or referenced by hash, keys hex-prefix encoded) and expanding the root
    hash again (`resolveHash`/`expandNode`, every reference followed) returns the very same trie —
    provided no two different nodes written by this commit share a hash (`Functional`; the
    "no collision among stored nodes" hypothesis, explicit because `NodeDatabase.insert` keeps
    the first entry for a hash). The driver's `reopen`/`dbcommit` run `LTrie.reopen`/`LTrie.reopenDisk` (commit, then
    `NewTrie` on the root hash), not `reload`; `Trie.expand_of_expandFull` ties `expand` to the `expandNode` they use. -/
theorem expand_collapse (H : Bytes → Bytes) (t : Node) (ht : WFRoot t)
    (hnc : Functional (commitStore H t)) : reload H t = some t :=
  reload_eq H t ht hnc

/-- …in particular after any history -/
theorem reopen_noop_after_history (H : Bytes → Bytes) (ops : List Op)
    (hnc : Functional (commitStore H (run ops))) : reload H (run ops) = some (run ops) :=
  reload_eq H _ (run_wf ops) hnc

-- non-vacuity: a commit that writes a single node cannot collide, whatever `H` is
example (H : Bytes → Bytes) : Functional (commitStore H (run [.upd [1] [2]])) := by
  intro e1 h1 e2 h2 _
  have hs : commitStore H (run [.upd [1] [2]]) = [(H (enc H (run [.upd [1] [2]])), collapse H (run [.upd [1] [2]]))] := rfl
  rw [hs] at h1 h2
  simp only [List.mem_singleton] at h1 h2
  rw [h1, h2]

/-- `compactToHex (hexToCompact k) = k` for every key the trie stores in a short node:
    nibble paths (extension nodes) and terminated paths (leaves). `some` = no out-of-range slice. -/
theorem compact_roundtrip (k : Key) (hk : Nibs k ∨ ValidKey k) : compactToHex (hexToCompact k) = some k := by
  rcases hk with hk | hk
  · exact compact_roundtrip_nibs k hk
  · obtain ⟨n, rfl, hn⟩ := (validKey_iff k).mp hk
    exact compact_roundtrip_term n hn

example : Nibs [1, 15, 0] ∨ ValidKey [1, 15, 0] := Or.inl (by simp [Nibs])
example : Nibs [1, 15, 16] ∨ ValidKey [1, 15, 16] := Or.inr (by simp [ValidKey])

/-- the iterator returns strictly ascending hex paths (terminator greatest) — for *every* trie,
    so no pair is returned twice -/
theorem iter_sorted_paths (t : Node) : (iter t).Pairwise (fun e1 e2 => e1.1 < e2.1) := sortedKeys_iter t

/-- **completeness**: after any history, full iteration returns exactly the live pairs. -/
theorem iter_complete (ops : List Op) (k v : Bytes) :
    (k, v) ∈ iterFrom (run ops) [] ↔ finalMap ops k = some v :=
  mem_iterFrom_nil (represents_run ops) k v

/-- **order, as implemented**: ascending in hex-path order, where the terminator sorts last. -/
theorem iter_sorted_hex (ops : List Op) :
    (iterFrom (run ops) []).Pairwise (fun e1 e2 => keybytesToHex e1.1 < keybytesToHex e2.1) :=
  iterFrom_sorted_hex (represents_run ops)

/-- the same order expressed on byte keys: ascending bytewise, *except* that a key comes after
    every longer key it is a proper prefix of. -/
theorem iter_order_bytes (ops : List Op) :
    (iterFrom (run ops) []).Pairwise
      (fun e1 e2 => (e1.1 < e2.1 ∧ ¬ e1.1 <+: e2.1) ∨ (e2.1 <+: e1.1 ∧ e2.1 ≠ e1.1)) :=
  (iter_sorted_hex ops).imp (fun h => (hex_lt_iff _ _).mp h)

/-- The property's clause "iteration returns the live pairs in ascending key order", read with
    the bytewise order on keys, for arbitrary byte keys. -/
def FullStatementIterAscending : Prop :=
  ∀ ops : List Op, (iterFrom (run ops) []).Pairwise (fun e1 e2 => e1.1 < e2.1)

/-- proved restriction: ascending bytewise whenever no live key is a proper prefix of another
    (e.g. all keys of one length, as for hashed / address keys). -/
theorem iter_sorted_complete_partial (ops : List Op)
    (hpf : ∀ k1 k2, (finalMap ops k1).isSome → (finalMap ops k2).isSome → k1 <+: k2 → k1 = k2) :
    (iterFrom (run ops) []).Pairwise (fun e1 e2 => e1.1 < e2.1) := by
  apply List.Pairwise.imp_of_mem _ (iter_order_bytes ops)
  intro a b ha hb hab
  rcases hab with ⟨h, _⟩ | ⟨h1, h2⟩
  · exact h
  · have la := (iter_complete ops a.1 a.2).mp ha
    have lb := (iter_complete ops b.1 b.2).mp hb
    exact absurd (hpf b.1 a.1 (by simp [lb]) (by simp [la]) h1) h2

-- non-vacuity: a prefix-free content with a shared prefix
example : ∀ k1 k2, (finalMap [.upd [1, 2] [7], .upd [1, 3] [8]] k1).isSome →
    (finalMap [.upd [1, 2] [7], .upd [1, 3] [8]] k2).isSome → k1 <+: k2 → k1 = k2 := by
  intro k1 k2 h1 h2 hp
  have key : ∀ k, (finalMap [.upd [1, 2] [7], .upd [1, 3] [8]] k).isSome → k = [1, 3] ∨ k = [1, 2] := by
    intro k h
    simp only [finalMap, List.foldl, specStep] at h
    by_cases a1 : k = [1, 3]
    · exact Or.inl a1
    · by_cases a2 : k = [1, 2]
      · exact Or.inr a2
      · simp [a1, a2] at h
  rcases key k1 h1 with rfl | rfl <;> rcases key k2 h2 with rfl | rfl <;> simp at hp ⊢

/-- the full clause is false of the model (and of the code: the same history is replayed on the
    implementation by the searcher, known finding `iter-order-prefix-keys`): after writing keys
    `00` and `0000` the longer key is returned first. -/
theorem iter_ascending_counterexample : ¬ FullStatementIterAscending := by
  intro h
  have := h [.upd [0] [1], .upd [0, 0] [2]]
  have e : iterFrom (run [.upd [0] [1], .upd [0, 0] [2]]) [] = [([0, 0], [2]), ([0], [1])] := by decide
  rw [e] at this
  simp at this

end Rangers.Props.C02
