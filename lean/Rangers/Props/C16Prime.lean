import Mathlib.NumberTheory.LegendreSymbol.Basic
import Rangers.Model.VrfCurve
import Rangers.Proofs.Pratt
import Rangers.Proofs.C16PrattCert
import Rangers.Proofs.C16Curve
import Rangers.Proofs.C16Group
import Rangers.Proofs.C16Cast
/-!
C16: `p = 2^255 − 19` is prime (Pratt certificate,
every Lucas step checked by kernel evaluation of modular powers), `d` is a
non-square mod p (Euler's criterion), `SqrtM1² = −1`: the parameters of edwards25519 satisfy the side
conditions of `Proofs/C16Group`, so the points of the CONCRETE curve form a commutative group under
the law the code's `geAdd` computes, with no hypothesis on the parameters.
-/
namespace Rangers.Props.C16Prime
open Rangers.Model Rangers.Proofs.Pratt Rangers.Proofs.C16PrattCert Rangers.Proofs.C16Curve
  Rangers.Proofs.C16Group Rangers.Proofs.C16Cast

theorem p_value : VrfCurve.p = 57896044618658097711785492504343953926634992332820282019728792003956564819949 := by
  decide +kernel

theorem p25519_prime : Nat.Prime VrfCurve.p := by
  rw [p_value]; exact cert25519_prime

instance factPrime : Fact (Nat.Prime VrfCurve.p) := ⟨p25519_prime⟩

theorem p_bounds : 1 < VrfCurve.p ∧ VrfCurve.p < 2 ^ 256 := by decide +kernel

/-- `C16Curve.d_euler_value` once more, through `Pratt.powMod`: that function has a correctness lemma (`powMod_spec`),
    the model's `fpow` has none. -/
theorem d_powMod : powMod VrfCurve.dConst (VrfCurve.p / 2) VrfCurve.p = VrfCurve.p - 1 := by decide +kernel

/-- d is a non-square modulo p (Euler's criterion): the addition law is complete. -/
theorem d_nonsquare : ¬ IsSquare ((VrfCurve.dConst : ℕ) : ZMod VrfCurve.p) := by
  intro hsq
  have hd0 : ((VrfCurve.dConst : ℕ) : ZMod VrfCurve.p) ≠ 0 :=
    ZModCast.natCast_ne_zero_of_lt _ (by decide +kernel) (by decide +kernel)
  have h1 := (ZMod.euler_criterion (p := VrfCurve.p) hd0).mp hsq
  rw [zmod_pow_eq_one_iff _ _ _ p_bounds.1,
    ← powMod_spec _ _ _ (lt_of_le_of_lt (Nat.div_le_self _ _) p_bounds.2), d_powMod] at h1
  exact absurd h1 (by decide +kernel)

theorem sqrtM1_sq : ((VrfCurve.sqrtM1 : ℕ) : ZMod VrfCurve.p) ^ 2 = -1 := by
  have h : VrfCurve.sqrtM1 * VrfCurve.sqrtM1 % VrfCurve.p = VrfCurve.p - 1 := by decide +kernel
  have hc : ((VrfCurve.sqrtM1 * VrfCurve.sqrtM1 % VrfCurve.p : ℕ) : ZMod VrfCurve.p) = ((VrfCurve.p - 1 : ℕ) : ZMod VrfCurve.p) := by
    rw [h]
  rw [ZMod.natCast_mod, Nat.cast_mul, Nat.cast_sub (Nat.le_of_lt p_bounds.1), ZMod.natCast_self] at hc
  rw [pow_two, hc]; simp

theorem two_ne_zero' : (2 : ZMod VrfCurve.p) ≠ 0 := two_ne_zero_fp

/-- the parameters of edwards25519, with every side condition proved -/
noncomputable def edParams25519 : EdParams (ZMod VrfCurve.p) where
  d := (VrfCurve.dConst : ℕ)
  i := (VrfCurve.sqrtM1 : ℕ)
  hi := sqrtM1_sq
  h2 := two_ne_zero'
  hd := d_nonsquare

/-- The points of edwards25519 form a commutative group under the code's addition law —
    unconditionally (no `Fact`, no assumption on d). -/
theorem ed25519_points_form_group (a b c : EdPoint edParams25519) :
    a + b + c = a + (b + c) ∧ a + b = b + a ∧ a + 0 = a ∧ a + -a = 0 :=
  ⟨add_assoc a b c, add_comm a b, add_zero a, add_neg_cancel a⟩

/-- … and the model's `add` computes that law (the `Fact` hypothesis of
    `C16Curve.model_add_is_group_law` is an instance here). -/
theorem model_add_is_group_law_unconditional (a q : VrfCurve.Point)
    (ha : WellFormed a) (hq : WellFormed q)
    (hD1 : 1 + (VrfCurve.dConst : Fp) * affX a * affX q * affY a * affY q ≠ 0)
    (hD2 : 1 - (VrfCurve.dConst : Fp) * affX a * affX q * affY a * affY q ≠ 0) :
    WellFormed (VrfCurve.add a q) ∧
    affX (VrfCurve.add a q) = addX (VrfCurve.dConst : Fp) (affX a) (affY a) (affX q) (affY q) ∧
    affY (VrfCurve.add a q) = addY (VrfCurve.dConst : Fp) (affX a) (affY a) (affX q) (affY q) :=
  model_add_affine a q ha hq hD1 hD2

/-- The model's `sub` (ref10 `GeSub`) computes `a + (−q)` of that group. -/
theorem model_sub_is_group_sub (a q : VrfCurve.Point) (ha : WellFormed a) (hq : WellFormed q)
    (hD1 : 1 + (VrfCurve.dConst : Fp) * affX a * (-affX q) * affY a * affY q ≠ 0)
    (hD2 : 1 - (VrfCurve.dConst : Fp) * affX a * (-affX q) * affY a * affY q ≠ 0) :
    WellFormed (VrfCurve.sub a q) ∧
    affX (VrfCurve.sub a q) = addX (VrfCurve.dConst : Fp) (affX a) (affY a) (-affX q) (affY q) ∧
    affY (VrfCurve.sub a q) = addY (VrfCurve.dConst : Fp) (affX a) (affY a) (-affX q) (affY q) :=
  model_sub_affine a q ha hq hD1 hD2

end Rangers.Props.C16Prime
