import Rangers.Props.C02
/-!
# C02 — algebraic laws of the root, stated outright

Corollaries of `run_history_independent` (Props/C02.lean) in the shapes callers rely on: the
state root after a block does not depend on the order in which independent accounts were
written, re-writing a value is a no-op for the root, a write that is undone leaves the root of
the state before it, and an empty write is a delete.  Each holds after an arbitrary history
`pre` and before an arbitrary continuation `post` (both may contain hash / commit / reopen /
cache-limit steps), for every hash function `H`.
-/
namespace Rangers.Props.C02
open Rangers Rangers.Trie

theorem finalMap_append (a b : List Op) :
    finalMap (a ++ b) = b.foldl specStep (finalMap a) := by
  simp [finalMap, List.foldl_append]

theorem root_congr (H : Bytes → Bytes) (pre mid₁ mid₂ post : List Op)
    (h : ∀ m, mid₁.foldl specStep m = mid₂.foldl specStep m) :
    rootHash H (run (pre ++ mid₁ ++ post)) = rootHash H (run (pre ++ mid₂ ++ post)) := by
  apply root_history_independent
  rw [finalMap_append, finalMap_append, finalMap_append, finalMap_append, h]

/-- **writes to different keys commute** -/
theorem root_update_comm (H : Bytes → Bytes) (pre post : List Op) (k₁ k₂ v₁ v₂ : Bytes) (hne : k₁ ≠ k₂) :
    rootHash H (run (pre ++ [.upd k₁ v₁, .upd k₂ v₂] ++ post))
      = rootHash H (run (pre ++ [.upd k₂ v₂, .upd k₁ v₁] ++ post)) :=
  root_congr H pre _ _ post (fun m => setAt_comm m _ _ hne)

/-- **a write and a delete of different keys commute** -/
theorem root_update_delete_comm (H : Bytes → Bytes) (pre post : List Op) (k₁ k₂ v : Bytes) (hne : k₁ ≠ k₂) :
    rootHash H (run (pre ++ [.upd k₁ v, .del k₂] ++ post))
      = rootHash H (run (pre ++ [.del k₂, .upd k₁ v] ++ post)) :=
  root_congr H pre _ _ post (fun m => setAt_comm m _ _ hne)

/-- **writing twice is writing once** (the later value wins; in particular re-writing the
    same value does not move the root), with any bookkeeping steps in between -/
theorem root_update_overwrite (H : Bytes → Bytes) (pre post : List Op) (k v₁ v₂ : Bytes) :
    rootHash H (run (pre ++ [.upd k v₁, .commit, .reopen, .upd k v₂] ++ post))
      = rootHash H (run (pre ++ [.upd k v₂] ++ post)) :=
  root_congr H pre _ _ post (fun m => setAt_setAt m k _ _)

/-- **insert then delete restores the root** when the key was absent before -/
theorem root_insert_delete_restores (H : Bytes → Bytes) (pre : List Op) (k v : Bytes)
    (habs : finalMap pre k = none) :
    rootHash H (run (pre ++ [.upd k v, .hash, .del k])) = rootHash H (run pre) := by
  apply root_history_independent
  rw [finalMap_append]
  exact (setAt_setAt _ k _ none).trans (habs ▸ setAt_self _ k)

/-- **overwrite then write back restores the root** when the key held `v₀` before -/
theorem root_write_back_restores (H : Bytes → Bytes) (pre : List Op) (k v v₀ : Bytes) (hv₀ : v₀ ≠ [])
    (hold : finalMap pre k = some v₀) :
    rootHash H (run (pre ++ [.upd k v, .commit, .upd k v₀])) = rootHash H (run pre) := by
  apply root_history_independent
  rw [finalMap_append]
  refine (setAt_setAt _ k _ _).trans ?_
  rw [if_neg hv₀, ← hold]
  exact setAt_self _ k

/-- **an empty write is a delete** -/
theorem root_empty_write_is_delete (H : Bytes → Bytes) (pre post : List Op) (k : Bytes) :
    rootHash H (run (pre ++ [.upd k []] ++ post)) = rootHash H (run (pre ++ [.del k] ++ post)) :=
  root_congr H pre _ _ post (fun _ => rfl)

/-- **reads and bookkeeping steps never move the root** -/
theorem root_bookkeeping_transparent (H : Bytes → Bytes) (pre post : List Op) (k s : Bytes) (n : Nat) :
    rootHash H (run (pre ++ [.get k, .hash, .commit, .reopen, .dbcommit, .cachelimit n, .iter s] ++ post))
      = rootHash H (run (pre ++ [] ++ post)) :=
  root_congr H pre _ _ post (fun _ => rfl)

-- non-vacuity of the two hypotheses used above
example : finalMap [.upd [1] [7], .commit] [2] = none := by simp [finalMap, specStep]
example : finalMap [.upd [1] [7], .commit] [1] = some [7] ∧ ([7] : Bytes) ≠ [] := by simp [finalMap, specStep]

end Rangers.Props.C02
