import Rangers.Generated.Bn256Consts
import Mathlib.Tactic.NormNum.Prime
import Rangers.Proofs.C13Dkg
import Rangers.Proofs.C13RecoverMap
import Rangers.Proofs.C13SignGen
import Mathlib.Data.List.Dedup
/-!
# C13 — any threshold subset of group members yields the same valid group signature

Theorems about `Model/Shamir.lean`, the model the driver `drv_c13` executes. `r` is the group
order (a prime), `G`/`G₂`/`GT` are arbitrary `ZMod r`-modules standing for `bn256.G1`, `G2`, `GT`;
that the Go types *are* such modules and `Pair` is bilinear is assumed (`LawfulOps`, `IsPairing`),
sampled by the harness every run, not proved.
-/
namespace Rangers.Props.C13
open Polynomial Finset Rangers.Model.Shamir Rangers.Proofs.C13 Rangers.Generated

variable {r : Nat}

/-- `ShareSeckey(coeffs, id)` is the polynomial `Σ coeffs[i]·Xⁱ` evaluated at `id` in `ZMod r`,
    reduced below `r`; it only fails (index panic) on an empty coefficient list. -/
theorem share_is_eval (hr : 0 < r) (cs : List Nat) (x : Nat) :
    (cs ≠ [] → ∃ v, shareSeckey r cs x = some v) ∧
    (∀ v, shareSeckey r cs x = some v →
      (v : ZMod r) = (polyOf (castList r cs)).eval (x : ZMod r) ∧ v < r) := by
  refine ⟨fun h => (shareSeckey_spec r cs x h).imp fun _ hv => hv.1, fun v h => ?_⟩
  obtain ⟨w, hw, he, hlt⟩ := shareSeckey_spec r cs x (by rintro rfl; cases h)
  obtain rfl := Option.some.inj (h.symm.trans hw)
  exact ⟨he, hlt hr⟩

example : shareSeckey 13 [5, 3, 2] 4 = some ((5 + 3 * 4 + 2 * 16) % 13) := by decide

/-- After the DKG member `x`'s key is `f(x)` for the sum polynomial `f = Σ_d f_d`, whose degree is
    below the threshold `k`, and `f(0)` is the sum of the dealers' constant terms. -/
theorem member_key_is_eval_of_sum (dealers : List (List Nat)) (k : Nat)
    (hne : dealers ≠ []) (hk : ∀ cs ∈ dealers, cs ≠ [] ∧ cs.length ≤ k) (x : Nat) :
    (∃ v, memberKey r dealers x = some v) ∧
    (∀ v, memberKey r dealers x = some v → (v : ZMod r) = (groupPoly r dealers).eval (x : ZMod r)) ∧
    (groupPoly r dealers).degree < k ∧
    (∀ g, groupSecret r dealers = some g → (g : ZMod r) = (groupPoly r dealers).eval 0) :=
  ⟨⟨_, memberKey_eq dealers x hne fun cs h => (hk cs h).1⟩,
   fun v h => by simpa only [h, Option.getD_some] using memberKey_getD_eval (r := r) dealers hne (fun cs h => (hk cs h).1) x,
   degree_groupPoly_lt dealers k (fun cs h => (hk cs h).2),
   fun g h => groupSecret_eval dealers g h⟩

example : memberKey 13 [[1, 2], [3, 4]] 5 = some ((1 + 2 * 5 + 3 + 4 * 5) % 13) ∧
    groupSecret 13 [[1, 2], [3, 4]] = some 4 := by decide

/-- A member whose id is `≡ 0 (mod r)` (e.g. the 256-bit id `r` itself; ids are free-form) is dealt
    `f(0)`: its key *is* the group secret. Every clause of C13 still holds for such a group (this is a
    secrecy defect of the scheme's use, not a subset-dependence); replayed on the implementation by
    `corpus/C13/idzero.ops`. -/
theorem id_zero_mod_order_gets_group_secret [NeZero r] (dealers : List (List Nat)) (hne : dealers ≠ [])
    (hk : ∀ cs ∈ dealers, cs ≠ []) (x : Nat) (hx : x % r = 0) :
    ∃ g, memberKey r dealers x = some g ∧ groupSecret r dealers = some g := by
  have hr : 0 < r := Nat.pos_of_ne_zero (NeZero.ne r)
  have hv := memberKey_eq (r := r) dealers x hne hk
  have hg := groupSecret_eq (r := r) dealers hne
  refine ⟨_, hv, hg.trans (congrArg some ?_)⟩
  -- both are residues below `r` of the same class `f(0)`
  have h := memberKey_getD_eval (r := r) dealers hne hk x
  rw [hv, Option.getD_some, (ZMod.natCast_eq_zero_iff x r).2 (Nat.dvd_of_mod_eq_zero hx),
    ← groupSecret_eval dealers _ hg, ZMod.natCast_eq_natCast_iff', Nat.mod_mod, Nat.mod_mod] at h
  exact h.symm

example : memberKey 13 [[1, 2], [3, 4]] 26 = some 4 ∧ groupSecret 13 [[1, 2], [3, 4]] = some 4 := by decide

/-- The group public key (`AggregatePubkeys` of the dealers' `coeffs[0]·g₂`) is `f(0)•g₂`. -/
theorem group_pk {G₂ : Type} [AddCommGroup G₂] [Module (ZMod r) G₂] (ops : Ops G₂) (hops : LawfulOps r ops)
    (dealers : List (List Nat)) (hd : dealers ≠ []) (g2 : G₂) :
    aggregatePoints ops.add (dealers.map (fun cs => ops.mul g2 (cs.headD 0))) =
      some ((groupPoly r dealers).eval 0 • g2) := by
  have hadd : ops.add = (· + ·) := by funext a b; exact hops.add_eq a b
  rw [hadd, aggregatePoints_eq_sum _ (fun h => hd (List.map_eq_nil_iff.1 h)), eval_groupPoly,
    List.sum_smul, List.map_map]
  congr 2
  exact List.map_congr_left fun cs _ => by
    rw [Function.comp_apply, hops.mul_eq, eval_zero_polyOf_castList]

/-- The executable `delta`s of `recoverSignature` are the Lagrange basis polynomials at `0`
    whenever the ids are pairwise distinct mod `r` (then every `ModInverse` succeeds). -/
theorem lagrange_matches [Fact r.Prime] (xs : List Nat) (hd : IdsDistinct r xs) :
    (lagrangeCoeffs r xs).length = xs.length ∧
    ∀ i, i < xs.length →
      (((lagrangeCoeffs r xs).getD i 0 : Nat) : ZMod r) =
        (Lagrange.basis (range xs.length) (pt r xs) i).eval 0 :=
  ⟨lagrangeCoeffs_length xs, fun i hi => lagrangeCoeffs_eq_basis xs hd i hi⟩

example : IdsDistinct 13 [1, 2, 3] ∧ lagrangeCoeffs 13 [1, 2, 3] = [3, 10, 1] := by decide

/-- The honest signature shares of the members `ids` on the point `h`: `f(x)•h` for the polynomial `f` dealt with the coefficients `cs`. -/
def honestShares (ops : Ops G) (r : Nat) (cs : List Nat) (h : G) (ids : List Nat) : List G :=
  ids.map (fun x => ops.mul h ((shareSeckey r cs x).getD 0))

variable {G : Type} [AddCommGroup G] [Module (ZMod r) G]

/-- Proved under `IdsDistinct`, hence `_partial`: for every list of at
    least `deg f + 1` ids, pairwise distinct mod `r`, in any order, `recoverSignature` applied to the
    shares `f(xᵢ)•h` returns `f(0)•h`. The list is arbitrary, so this is independence of subset
    and of order. -/
theorem recover_any_subset_partial [Fact r.Prime] (ops : Ops G) (hops : LawfulOps r ops)
    (cs : List Nat) (hcs : cs ≠ []) (h : G) (ids : List Nat)
    (hk : cs.length ≤ ids.length) (hd : IdsDistinct r ids) :
    recoverWith ops r ids (honestShares ops r cs h ids) = .ok (some (ops.mul h (cs.headD 0))) :=
  recoverWith_poly hops.sim ids
    (List.ne_nil_of_length_pos (lt_of_lt_of_le (List.length_pos_iff.2 hcs) hk)) hd
    (sharing_shareSeckey r cs hcs _ hk) h trivial

/-- `ZMod n` as a module over itself: the concrete instance used for non-vacuity examples and
    counterexamples. -/
def zops (n : Nat) : Ops (ZMod n) := ⟨(· + ·), fun g k => (k : ZMod n) * g⟩

theorem zops_lawful (n : Nat) : LawfulOps n (zops n) :=
  ⟨fun _ _ => rfl, fun _ _ => rfl⟩

instance : Fact (Nat.Prime 13) := ⟨by norm_num⟩

/-- non-vacuity: a concrete instance of all hypotheses (`r = 13`, `f = 5 + 3X + 2X²`, ids 1, 15, 3 —
    15 ≥ r is reduced implicitly, as the node does with 256-bit ids), and the model computes `f(0)`. -/
example : ([5, 3, 2] : List Nat) ≠ [] ∧ IdsDistinct 13 [1, 15, 3] ∧
    recoverWith (zops 13) 13 [1, 15, 3] (honestShares (zops 13) 13 [5, 3, 2] 1 [1, 15, 3]) = .ok (some 5) ∧
    recoverWith (zops 13) 13 [15, 3, 1, 7] (honestShares (zops 13) 13 [5, 3, 2] 1 [15, 3, 1, 7]) = .ok (some 5) := by
  decide +kernel

/-- The statement as the property words it: *every* choice of (distinct) member ids. -/
def FullStatementRecover (r : Nat) : Prop :=
  ∀ (G : Type) [AddCommGroup G] [Module (ZMod r) G] (ops : Ops G), LawfulOps r ops →
    ∀ (cs : List Nat), cs ≠ [] → ∀ (h : G) (ids : List Nat), cs.length ≤ ids.length → ids.Nodup →
      (∀ x ∈ ids, x < 2 ^ 256) →
      recoverWith ops r ids (honestShares ops r cs h ids) = .ok (some (ops.mul h (cs.headD 0)))

-- makes `ZMod Bn256.order` nontrivial: with it `simp` refutes the `0 = 1` that `recover_any_subset_counterexample` ends in
instance : Fact (1 < Bn256.order) := ⟨by decide⟩

/-- The witness at the scalar level: for the 256-bit ids `1` and `1 + r` both deltas the model (and the
    Go code) computes are `0`. -/
theorem lagrange_collision_counterexample :
    lagrangeCoeffs Bn256.order [1, 1 + Bn256.order] = [0, 0] ∧ ¬ IdsDistinct Bn256.order [1, 1 + Bn256.order] := by
  decide

/-- The full statement is false for the group order of the code: the 256-bit ids `1` and `1 + r`
    are distinct but congruent mod `r`; both `ModInverse` calls fail, both `delta`s are `0`, and the
    two shares of `f = 1 + X` recover `0` instead of `f(0) = 1`. Replayed on the implementation:
    `corpus/C13/collide.ops` (known finding `ids-congruent-mod-order`). -/
theorem recover_any_subset_counterexample : ¬ FullStatementRecover Bn256.order := by
  intro hfull
  have h := hfull (ZMod Bn256.order) (zops Bn256.order) (zops_lawful _) [1, 1] (by decide) 1
    [1, 1 + Bn256.order] (by decide) (by decide) (by decide)
  simp [recoverWith, honestShares, accumulate, lagrange_collision_counterexample.1, zops] at h

/-- `_partial`: ids distinct mod `r`. `RecoverGroupSignature` on a
    witness map holding at least `k` honest shares returns `f(0)•h` whatever the iteration order of
    the Go maps and whatever `RandomPerm` draws (`Admissible`: orders are arbitrary permutations,
    draws arbitrary in-range values). Hence the group signature does not depend on which members
    answered, in which order, or on the node's internal randomness. -/
theorem recover_group_signature_any_partial [Fact r.Prime] (ops : Ops G) (hops : LawfulOps r ops)
    (cs : List Nat) (hcs : cs ≠ []) (h : G) (k : Nat) (hck : cs.length ≤ k)
    (m : List (Nat × Option G)) (hkm : k ≤ m.length)
    (hd : IdsDistinct r (m.map Prod.fst))
    (hhon : ∀ e ∈ m, e.2 = some (ops.mul h ((shareSeckey r cs e.1).getD 0)))
    (c : Choice (Nat × Option G)) (hc : Admissible c m.length k) :
    recoverGroupSignature ops r k m c = .ok (some (ops.mul h (cs.headD 0))) :=
  have hk0 : 0 < k := lt_of_lt_of_le (List.length_pos_iff.2 hcs) hck
  recoverGroupSignature_of_recoverWith ops r k hk0 _ _
    (recoversTo_poly hops.sim k hk0 (sharing_shareSeckey r cs hcs k hck) h trivial)
    m hkm hd hhon c hc.ord2 fun _ => hc

/-- non-vacuity: 5 honest shares of `f = 5 + 3X + 2X²` over `r = 13`, threshold 3, both map orders
    reversed, draws `[4,0,1]` — an admissible choice — and the model computes `f(0) = 5`. -/
example :
    Admissible (⟨List.reverse, [4, 0, 1], List.reverse⟩ : Choice (Nat × Option (ZMod 13))) 5 3 ∧
    recoverGroupSignature (zops 13) 13 3
      ([1, 15, 3, 7, 9].map (fun x => (x, some ((zops 13).mul 1 ((shareSeckey 13 [5, 3, 2] x).getD 0)))))
      ⟨List.reverse, [4, 0, 1], List.reverse⟩ = .ok (some 5) :=
  ⟨⟨fun l => List.reverse_perm l, fun l => List.reverse_perm l, by decide, by decide⟩, by decide +kernel⟩

/-- The panic branches are real and excluded by the hypotheses above only: fewer than `k`
    entries, a nil point in a used slot, `k = 0` on a non-empty map. (The node guards the first by
    `len(witnessSignMap) >= threshold` in `addWitnessForce`.) -/
theorem recover_group_signature_panics (ops : Ops G) (c : Choice (Nat × Option G))
    (h2 : ∀ l, (c.ord2 l).Perm l) (x : Nat) (g : G) :
    recoverGroupSignature ops r 2 [(x, some g)] c = .panic ∧
    recoverGroupSignature ops r 1 [(x, none)] c = .panic ∧
    recoverGroupSignature ops r 0 [(x, some g)] c = .panic := by
  refine ⟨?_, ?_, ?_⟩
  · have h := List.perm_singleton.1 (h2 [(x, some g)])
    simp [recoverGroupSignature, h]
  · have h := List.perm_singleton.1 (h2 [(x, (none : Option G))])
    simp [recoverGroupSignature, h]
  · simp [recoverGroupSignature]

section verify
variable {G₂ GT : Type} [AddCommGroup G₂] [Module (ZMod r) G₂] [AddCommGroup GT] [Module (ZMod r) GT]

/-- What is assumed of `bn256.Pair` (sampled by the harness, not proved): compatibility with
    scalar multiplication on both sides. -/
structure IsPairing (r : Nat) {G G₂ GT : Type} [AddCommGroup G] [Module (ZMod r) G]
    [AddCommGroup G₂] [Module (ZMod r) G₂] [AddCommGroup GT] [Module (ZMod r) GT]
    (e : G → G₂ → GT) : Prop where
  smul_left : ∀ (a : ZMod r) p q, e (a • p) q = a • e p q
  smul_right : ∀ (a : ZMod r) p q, e p (a • q) = a • e p q

/-- A signature share `sk·H(m)` passes the pairing check of `VerifySig` under the
    public share `sk·g₂` — for a member key, for the group key, for any scalar. -/
theorem share_verifies (ops : Ops G) (hops : LawfulOps r ops) (ops₂ : Ops G₂) (hops₂ : LawfulOps r ops₂)
    (e : G → G₂ → GT) (he : IsPairing r e) (eq : GT → GT → Bool) (heq : ∀ a, eq a a = true)
    (g2 : G₂) (hm : G) (sk : Nat) :
    verifyCore e eq g2 (ops₂.mul g2 sk) hm (ops.mul hm sk) = true := by
  unfold verifyCore
  rw [hops.mul_eq, hops₂.mul_eq, he.smul_left, he.smul_right]
  exact heq _

/-- **Headline (C13, `_partial`: member ids pairwise distinct mod `r`).** For a group whose keys
    come from the node's DKG (`dealers` = the dealers' coefficient lists, each of the threshold
    length `k`; member `x` holds `memberKey dealers x`), and a witness map `m` with at least `k`
    honest signature shares on the message point `hm`:
    * `RecoverGroupSignature` returns one and the same signature `gsk·hm` for **every** such map
      (i.e. every subset of ≥ k members), every map iteration order and every outcome of the random
      k-subset choice (`Admissible c`);
    * it passes the pairing check of `VerifySig` under the aggregated group public key;
    * every member's share passes it under that member's public share. -/
theorem dkg_any_threshold_subset_same_valid_signature_partial [Fact r.Prime]
    (ops : Ops G) (hops : LawfulOps r ops) (ops₂ : Ops G₂) (hops₂ : LawfulOps r ops₂)
    (e : G → G₂ → GT) (he : IsPairing r e) (eq : GT → GT → Bool) (heq : ∀ a, eq a a = true)
    (dealers : List (List Nat)) (k : Nat) (hk0 : 0 < k) (hne : dealers ≠ [])
    (hk : ∀ cs ∈ dealers, cs ≠ [] ∧ cs.length ≤ k) (g2 : G₂) (hm : G) :
    ∃ gsk pk, groupSecret r dealers = some gsk ∧
      aggregatePoints ops₂.add (dealers.map (fun cs => ops₂.mul g2 (cs.headD 0))) = some pk ∧
      verifyCore e eq g2 pk hm (ops.mul hm gsk) = true ∧
      (∀ x sk, memberKey r dealers x = some sk →
        verifyCore e eq g2 (ops₂.mul g2 sk) hm (ops.mul hm sk) = true) ∧
      ∀ (m : List (Nat × Option G)), k ≤ m.length → IdsDistinct r (m.map Prod.fst) →
        (∀ en ∈ m, en.2 = some (ops.mul hm ((memberKey r dealers en.1).getD 0))) →
        ∀ (c : Choice (Nat × Option G)), Admissible c m.length k →
          recoverGroupSignature ops r k m c = .ok (some (ops.mul hm gsk)) := by
  obtain ⟨gsk, hgs⟩ : ∃ g, groupSecret r dealers = some g := ⟨_, groupSecret_eq dealers hne⟩
  have hge := groupSecret_eval dealers gsk hgs
  refine ⟨gsk, (groupPoly r dealers).eval 0 • g2, hgs, group_pk ops₂ hops₂ dealers hne g2, ?_, ?_, ?_⟩
  · have := share_verifies ops hops ops₂ hops₂ e he eq heq g2 hm gsk
    rwa [hops₂.mul_eq, hge] at this
  · intro x sk _
    exact share_verifies ops hops ops₂ hops₂ e he eq heq g2 hm sk
  · exact fun m hkm hd hhon c hc => recoverGroupSignature_of_recoverWith ops r k hk0 _ _
      (recoversTo_poly hops.sim k hk0 (sharing_dkg dealers k hne hk gsk hgs) hm trivial) m hkm hd hhon c hc.ord2 fun _ => hc

/-- `_partial`: ids distinct mod `r`. The node's
    `GroupSignGenerator` (`AddWitnessSign` per arriving share), fed with honest shares in *any*
    arrival order, with repeated senders and late arrivals, and whatever iteration order the witness
    map has at the moment of recovery, ends up holding `gsk·hm` as soon as `k` distinct members have
    been heard — and never changes it afterwards. So the block signature and the random beacon do
    not depend on which members happened to answer first. -/
theorem sign_generator_any_arrival_order_partial [Fact r.Prime]
    (ops : Ops G) (hops : LawfulOps r ops) (isValid : G → Bool)
    (dealers : List (List Nat)) (k : Nat) (hk0 : 0 < k) (hne : dealers ≠ [])
    (hk : ∀ cs ∈ dealers, cs ≠ [] ∧ cs.length ≤ k) (hm : G)
    (gsk : Nat) (hg : groupSecret r dealers = some gsk) (hval : isValid (ops.mul hm gsk) = true)
    (arr : List (Nat × Option G × Choice (Nat × Option G)))
    (hhon : ∀ a ∈ arr, a.2.1 = some (ops.mul hm ((memberKey r dealers a.1).getD 0)) ∧
      ∀ l, (a.2.2.ord2 l).Perm l)
    (hmod : ∀ x ∈ arr.map (·.1), ∀ y ∈ arr.map (·.1), x % r = y % r → x = y)
    (hcount : k ≤ (arr.map (·.1)).dedup.length) :
    ∃ st, feed ops r isValid (SignGen.new k) arr = .ok st ∧ st.groupSign = some (ops.mul hm gsk) :=
  feed_new_recovers ops r isValid k hk0 _ _ (recoversTo_poly hops.sim k hk0 (sharing_dkg dealers k hne hk gsk hg) hm trivial)
    hval arr hhon hmod hcount

/-- non-vacuity: threshold 2, arrivals 15, 15 (repeat), 1, 3 (late) over `r = 13`; flags and final
    signature as the model computes them. -/
example :
    feed (zops 13) 13 (fun _ => true) (SignGen.new 2)
      ([15, 15, 1, 3].map (fun x =>
        (x, some ((zops 13).mul 2 ((memberKey 13 [[1, 2], [3, 4]] x).getD 0)), ⟨id, [], List.reverse⟩)))
      = .ok ⟨2, [(15, some 6), (1, some 7)], some 8⟩ := by decide +kernel

/-- non-vacuity of the headline: `r = 13`, all three groups `ZMod 13`, pairing = multiplication,
    two dealers with `k = 2`, three members (ids 1, 15, 3), message point 2: the hypotheses hold and
    two different subsets in different orders give the same signature `gsk·hm = 4·2 = 8`. -/
example :
    IsPairing 13 (fun (p q : ZMod 13) => p * q) ∧
    (∀ cs ∈ [[1, 2], [3, 4]], cs ≠ [] ∧ cs.length ≤ 2) ∧
    groupSecret 13 [[1, 2], [3, 4]] = some 4 ∧
    IdsDistinct 13 [1, 15, 3] ∧
    recoverGroupSignature (zops 13) 13 2
      ([1, 15].map (fun x => (x, some ((zops 13).mul 2 ((memberKey 13 [[1, 2], [3, 4]] x).getD 0)))))
      ⟨id, [], id⟩ = .ok (some 8) ∧
    recoverGroupSignature (zops 13) 13 2
      ([3, 15, 1].map (fun x => (x, some ((zops 13).mul 2 ((memberKey 13 [[1, 2], [3, 4]] x).getD 0)))))
      ⟨List.reverse, [2, 0], id⟩ = .ok (some 8) :=
  ⟨⟨fun a p q => smul_mul_assoc a p q, fun a p q => mul_smul_comm a p q⟩, by decide, by decide, by decide,
   by decide +kernel, by decide +kernel⟩

end verify

end Rangers.Props.C13
