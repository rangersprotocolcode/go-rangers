import Rangers.Model.Evm11Interp
import Rangers.Proofs.Evm11DynGas
import Rangers.Proofs.Evm11Step
/-!
# C11 — EVM execution is total and resource-bounded: arithmetic of the gas functions

All statements are about the definitions of `Model/Evm11Gas.lean` that the driver
executes.  `uint64` wrap-around is explicit in the model (`wadd/wsub/wmul`); the
theorems here show where it cannot happen and what the exact values are.
The interpreter-level theorems are in `Props/C11C.lean`.
-/
namespace Rangers.Props.C11B
open Rangers.Evm11
open Rangers.Proofs.Evm11 (wsub_exact wmul_exact wadd_exact)

/-
Restatements under this module's names of `useGas_spec` (`Proofs/Evm11Step.lean`), `wsub_exact`
(`Proofs/Evm11DynGas.lean`) and `Nat.mul_self_le_mul_self`. `bin/check C11` audits them with the other theorems of this
module; the proofs below use the originals.
-/
protected theorem sq_le {a b : Nat} (h : a ≤ b) : a * a ≤ b * b := Nat.mul_self_le_mul_self h

protected theorem useGas_spec {gas cost g' : Nat} (h : useGas gas cost = some g') : g' + cost = gas :=
  Proofs.Evm11.useGas_spec h

protected theorem wsub_exact (a b : Nat) (ha : a < 2 ^ 64) (h : b ≤ a) : wsub a b = a - b :=
  Proofs.Evm11.wsub_exact a b ha h

theorem useGas_none {gas cost : Nat} : useGas gas cost = none ↔ gas < cost := by
  unfold useGas; split <;> simp [*]

/-- `toWordSize` is ⌈size/32⌉ below the memory guard (its special case is for sizes > 2^64−32) -/
theorem toWordSize_spec (s : Nat) (h : s ≤ 0x1FFFFFFFE0) : toWordSize s = (s + 31) / 32 := by
  unfold toWordSize maxU64
  split <;> omega

theorem toWordSize_ge (s : Nat) (h : s < 2 ^ 64) : s ≤ 32 * toWordSize s := by
  unfold toWordSize maxU64
  split <;> omega

/-- number of bytes an access `[off, off+len)` needs, in exact arithmetic; a zero-length
    access needs none whatever the offset (calcMemSize64WithUint) -/
def extent (off len : Nat) : Nat := if len = 0 then 0 else off + len

/-- exact memory requirement of each transcribed `memorySize` function -/
def memExtent (f : MemFn) (s : List Word) : Nat :=
  match f with
  | .two o l => extent (back s o) (back s l)
  | .fixed o n => extent (back s o) n
  | .mcopy => extent (if back s 1 > back s 0 then back s 1 else back s 0) (back s 2)
  | .max2 a b c d => max (extent (back s a) (back s b)) (extent (back s c) (back s d))
  | .none | .unknown => 0

theorem calcMemSizeU_spec (off len : Nat) (hl : len < 2 ^ 64) :
    ((calcMemSizeU off len).2 = false → (calcMemSizeU off len).1 = extent off len ∧ extent off len < 2 ^ 64) ∧
    ((calcMemSizeU off len).2 = true → extent off len ≥ 2 ^ 64) := by
  unfold calcMemSizeU extent wadd
  by_cases h0 : len = 0
  · simp [h0]
  · by_cases h1 : off < 2 ^ 64
    · simp only [h0, if_false, h1, not_true, decide_eq_false_iff_not, decide_eq_true_eq]
      constructor <;> intro h <;> omega
    · simp only [h0, if_false, h1, not_false_eq_true, if_true]
      constructor
      · intro h; cases h
      · intro _; omega

theorem calcMemSize_spec (off len : Nat) :
    ((calcMemSize off len).2 = false → (calcMemSize off len).1 = extent off len ∧ extent off len < 2 ^ 64) ∧
    ((calcMemSize off len).2 = true → extent off len ≥ 2 ^ 64) := by
  unfold calcMemSize
  by_cases hl : len < 2 ^ 64
  · simp only [hl, not_true, if_false]
    exact calcMemSizeU_spec off len hl
  · simp only [hl, not_false_eq_true, if_true]
    constructor
    · intro h; cases h
    · intro _; unfold extent; split <;> omega

/-- fixed lengths in the tables are 1 and 32; any length below 2^64 will do -/
def fixedOk : MemFn → Prop
  | .fixed _ n => n < 2 ^ 64
  | _ => True

theorem no_wrap_of_spec {p : Nat × Bool} {x sz : Nat} {ov : Bool}
    (hs : (p.2 = false → p.1 = x ∧ x < 2 ^ 64) ∧ (p.2 = true → x ≥ 2 ^ 64)) (h : p = (sz, ov)) :
    (ov = false → sz = x ∧ x < 2 ^ 64) ∧ (x ≥ 2 ^ 64 → ov = true) := by
  subst h
  refine ⟨hs.1, fun hge => ?_⟩
  cases ov with
  | true => rfl
  | false => have := hs.1 rfl; omega

/-- Whenever a `memorySize` function reports a size without the
    overflow flag, the size is the exact requirement `offset + length` (no uint64
    wrap went unnoticed) and fits in 64 bits; whenever the exact requirement does not
    fit in 64 bits, the overflow flag is raised. -/
theorem memsize_no_wrap (f : MemFn) (s : List Word) (hf : fixedOk f) (sz : Nat) (ov : Bool)
    (h : memSizeFn f s = some (sz, ov)) :
    (ov = false → sz = memExtent f s ∧ memExtent f s < 2 ^ 64) ∧ (memExtent f s ≥ 2 ^ 64 → ov = true) := by
  cases f with
  | none => simp [memSizeFn] at h
  | unknown => simp [memSizeFn] at h
  | two o l => exact no_wrap_of_spec (calcMemSize_spec _ _) (Option.some.inj h)
  | fixed o n => exact no_wrap_of_spec (calcMemSizeU_spec _ n hf) (Option.some.inj h)
  | mcopy => exact no_wrap_of_spec (calcMemSize_spec _ _) (Option.some.inj h)
  | max2 a b c d =>
    have hx := calcMemSize_spec (back s a) (back s b)
    have hy := calcMemSize_spec (back s c) (back s d)
    simp only [memSizeFn] at h
    simp only [memExtent]
    cases hxo : (calcMemSize (back s a) (back s b)).2 with
    | true =>
      simp only [hxo, if_true, Option.some.injEq, Prod.mk.injEq] at h
      have := hx.2 hxo
      obtain ⟨_, rfl⟩ := h
      constructor
      · intro h; cases h
      · intro _; rfl
    | false =>
      simp only [hxo, Bool.false_eq_true, if_false] at h
      have hx1 := hx.1 hxo
      cases hyo : (calcMemSize (back s c) (back s d)).2 with
      | true =>
        simp only [hyo, if_true, Option.some.injEq, Prod.mk.injEq] at h
        obtain ⟨_, rfl⟩ := h
        constructor
        · intro h; cases h
        · intro _; rfl
      | false =>
        simp only [hyo, Bool.false_eq_true, if_false, Option.some.injEq, Prod.mk.injEq] at h
        have hy1 := hy.1 hyo
        obtain ⟨h1, rfl⟩ := h
        constructor
        · intro _
          rw [← h1, hx1.1, hy1.1]
          constructor
          · split <;> omega
          · omega
        · intro hge; omega

/-- non-vacuity: a CALL whose output window (stack positions 5, 6) ends at 2^64 is reported as overflow, one
    that ends at 2^64−1 is sized exactly -/
example : memSizeFn (.max2 5 6 3 4) [0, 0, 0, 0, 0, 2 ^ 64 - 32, 32] = some (0, true) := by decide
example : memSizeFn (.max2 5 6 3 4) [0, 0, 0, 7, 9, 2 ^ 64 - 33, 32] = some (2 ^ 64 - 1, false) := by decide

/-- What holds of an EVM memory between two interpreter steps: a whole number of words (the loop resizes to
    `32·toWordSize`), not above the guard `0x1FFFFFFFE0` of `memoryGasCost`, and `lastGasCost` is the fee `Cmem` of the
    words held. -/
structure MemInv (m : Mem) : Prop where
  aligned : m.size % 32 = 0
  bounded : m.size ≤ 0x1FFFFFFFE0
  paid : m.lastGasCost = cmem (m.size / 32)

theorem memInv_empty : MemInv Mem.empty := by
  constructor <;> simp [Mem.empty, Mem.size, cmem]

/-- The overflow argument of `memoryGasCost`. The guard admits `0x1FFFFFFFE0 / 32 = 2^32 − 1 = 4294967295` words, so
    `w² < 2^64`; the fee is at most `Cmem(2^32 − 1) = 36028809887088637`, about 3.6·10^16, and 30 times that is below 2^64. -/
theorem memFee_exact (w k : Nat) (hw : w ≤ 4294967295) (hk : k ≤ w) :
    wmul w 32 = 32 * w ∧ wadd (wmul w 3) (wmul w w / 512) = cmem w ∧
    wsub (cmem w) (cmem k) = cmem w - cmem k ∧
    wmul (cmem w - cmem k) gasMagnification = (cmem w - cmem k) * 30 := by
  have hsq : w * w ≤ 4294967295 * 4294967295 := Nat.mul_self_le_mul_self hw
  have hmono : k * k ≤ w * w := Nat.mul_self_le_mul_self hk
  have hcw : cmem w ≤ 36028809887088637 := by unfold cmem; omega
  have hck : cmem k ≤ cmem w := by unfold cmem; omega
  refine ⟨?_, ?_, wsub_exact _ _ (by omega) hck, wmul_exact (by unfold gasMagnification; omega)⟩
  · rw [wmul_exact (by omega)]; omega
  · rw [wmul_exact (by omega), wmul_exact (by omega), wadd_exact (by omega)]
    unfold cmem; omega

/-- Under the memory invariant and below the
    `0x1FFFFFFFE0` guard, `memoryGasCost` returns the exact value
    `(Cmem(w) − Cmem(old words)) × magnification`: none of the uint64 products, the
    sum, the subtraction of `lastGasCost`, or the ×30 of Proposal026 wraps. -/
theorem memoryGasCost_no_overflow (p26 : Bool) (m : Mem) (n : Nat) (hm : MemInv m)
    (hn : n ≤ 0x1FFFFFFFE0) (hn0 : n ≠ 0) :
    memoryGasCost p26 m n =
      if 32 * ((n + 31) / 32) > m.size then
        some ((cmem ((n + 31) / 32) - cmem (m.size / 32)) * (if p26 then 30 else 1),
          { m with lastGasCost := cmem ((n + 31) / 32) })
      else some (0, m) := by
  unfold memoryGasCost
  rw [if_neg hn0, if_neg (by omega), toWordSize_spec n hn]
  have hw : (n + 31) / 32 ≤ 4294967295 := by omega
  generalize (n + 31) / 32 = w at *
  simp only [(memFee_exact w w hw (Nat.le_refl _)).1]
  by_cases hgt : 32 * w > m.size
  · rw [if_pos hgt, if_pos hgt]
    have hkw : m.size / 32 ≤ w := by omega
    obtain ⟨_, e1, e2, e3⟩ := memFee_exact w (m.size / 32) hw hkw
    rw [e1, hm.paid, e2, e3]
    cases p26 <;> simp
  · rw [if_neg hgt, if_neg hgt]

/-- non-vacuity: the largest size the guard lets through, on an empty memory, Proposal026 on -/
example : memoryGasCost true Mem.empty 0x1FFFFFFFE0 =
    some ((cmem 0xFFFFFFFF) * 30, { Mem.empty with lastGasCost := cmem 0xFFFFFFFF }) := by
  rw [memoryGasCost_no_overflow true Mem.empty _ memInv_empty (by decide) (by decide)]
  simp [Mem.empty, Mem.size, cmem]

theorem memoryGasCost_guard (p26 : Bool) (m : Mem) (n : Nat) (hn : n > 0x1FFFFFFFE0) :
    memoryGasCost p26 m n = none := by
  unfold memoryGasCost
  rw [if_neg (by omega), if_pos hn]

theorem resize_size (m : Mem) (n : Nat) : (m.resize n).size = max m.size n ∧ (m.resize n).lastGasCost = m.lastGasCost := by
  unfold Mem.resize Mem.size
  split
  · simp only [Array.size_append, Array.size_replicate]; constructor
    · omega
    · trivial
  · constructor
    · omega
    · trivial

/-- the loop's `if memorySize > 0 { mem.Resize(memorySize) }` is `Resize` alone -/
theorem resize_if (m : Mem) (n : Nat) : (if n > 0 then m.resize n else m) = m.resize n := by
  by_cases h0 : n > 0
  · rw [if_pos h0]
  · rw [if_neg h0, Mem.resize, if_neg (by omega)]

/-- Under the memory invariant and for a word-rounded size both branches of `memoryGasCost_no_overflow` are one
    expression: the fee is the growth of `Cmem` from the words held to the words held after `Resize`. -/
theorem memoryGasCost_words (p26 : Bool) (m : Mem) (n : Nat) (hm : MemInv m) (h32 : n % 32 = 0) (hn : n ≤ 0x1FFFFFFFE0) :
    memoryGasCost p26 m n = some ((cmem (max m.size n / 32) - cmem (m.size / 32)) * (if p26 then 30 else 1),
      { m with lastGasCost := cmem (max m.size n / 32) }) := by
  have hself : m = { m with lastGasCost := cmem (m.size / 32) } := by rw [← hm.paid]
  by_cases h0 : n = 0
  · subst h0
    rw [Nat.max_eq_left (Nat.zero_le _), Nat.sub_self, Nat.zero_mul, ← hself]
    rfl
  rw [memoryGasCost_no_overflow p26 m n hm hn h0, (by omega : (n + 31) / 32 = n / 32), (by omega : 32 * (n / 32) = n)]
  by_cases hgt : n > m.size
  · rw [if_pos hgt, Nat.max_eq_right (Nat.le_of_lt hgt)]
  · rw [if_neg hgt, Nat.max_eq_left (Nat.le_of_not_gt hgt), Nat.sub_self, Nat.zero_mul, ← hself]

/-- `memoryGasCost` for a word-rounded size followed by `Resize`, as the loop does it -/
theorem memoryGasCost_resize (p26 : Bool) (m m1 : Mem) (n fee : Nat) (hm : MemInv m) (h32 : n % 32 = 0)
    (h : memoryGasCost p26 m n = some (fee, m1)) :
    MemInv (if n > 0 then m1.resize n else m1) ∧ m.size ≤ (if n > 0 then m1.resize n else m1).size ∧
    fee < 2 ^ 63 ∧
    fee = (cmem ((if n > 0 then m1.resize n else m1).size / 32) - cmem (m.size / 32)) * (if p26 then 30 else 1) := by
  have hgd : n ≤ 0x1FFFFFFFE0 := by
    by_cases hgd : n > 0x1FFFFFFFE0
    · rw [memoryGasCost_guard _ _ _ hgd] at h; cases h
    · omega
  rw [memoryGasCost_words p26 m n hm h32 hgd] at h
  simp only [Option.some.injEq, Prod.mk.injEq] at h
  obtain ⟨hfee, rfl⟩ := h
  rw [resize_if]
  obtain ⟨hsz, hl⟩ := resize_size { m with lastGasCost := cmem (max m.size n / 32) } n
  rw [show Mem.size { m with lastGasCost := cmem (max m.size n / 32) } = m.size from rfl] at hsz
  have hmax : max m.size n % 32 = 0 ∧ max m.size n ≤ 0x1FFFFFFFE0 := by
    rcases Nat.le_total m.size n with hle | hle
    · rw [Nat.max_eq_right hle]; exact ⟨h32, hgd⟩
    · rw [Nat.max_eq_left hle]; exact ⟨hm.aligned, hm.bounded⟩
  have hms : m.size ≤ max m.size n := Nat.le_max_left _ _
  generalize max m.size n = s at *
  have hc : cmem (s / 32) ≤ 36028809887088637 := by  -- `Cmem(2^32 − 1)`, as in `memFee_exact`
    have := Nat.mul_self_le_mul_self (by omega : s / 32 ≤ 4294967295)
    unfold cmem; omega
  refine ⟨⟨by rw [hsz]; exact hmax.1, by rw [hsz]; exact hmax.2, by rw [hl, hsz]⟩, by rw [hsz]; exact hms, ?_, by rw [hsz, hfee]⟩
  rw [← hfee]
  split <;> omega

/-- whatever the outcome of the fee computation, the bytes of the memory are untouched -/
theorem memoryGasCost_data (p26 : Bool) (m m' : Mem) (n fee : Nat)
    (h : memoryGasCost p26 m n = some (fee, m')) : m'.data = m.data := by
  unfold memoryGasCost at h
  simp only at h
  by_cases h0 : n = 0
  · rw [if_pos h0] at h; cases h; rfl
  rw [if_neg h0] at h
  by_cases hg : n > 0x1FFFFFFFE0
  · rw [if_pos hg] at h; cases h
  rw [if_neg hg] at h
  by_cases hs : wmul (toWordSize n) 32 > m.size
  · rw [if_pos hs] at h
    cases p26 <;> (cases h; rfl)
  · rw [if_neg hs] at h; cases h; rfl

/-- a magnified dynamic cost is exactly 30× the cost or the step fails
    (`SafeMul`'s overflow check) -/
theorem magnify_exact (p26 : Bool) (gas r : Nat) (hg : gas < 2 ^ 64) (h : magnify p26 gas = some r) :
    r = gas * (if p26 then 30 else 1) ∧ r < 2 ^ 64 := by
  unfold magnify safeMul wmul gasMagnification at h
  cases p26 with
  | false => simp at h; subst h; simp; exact hg
  | true =>
    simp only [if_true] at h
    split at h
    · cases h
    · rename_i hov
      simp only [ge_iff_le, decide_eq_true_eq, Nat.not_le] at hov
      cases h
      simp only [if_true]
      omega

/-- an input on which the check fires: (30·Cmem(w₀) + 3)·30 ≥ 2^64 for w₀ = 3239466432 words
    (CALLDATACOPY of one byte to offset 0x1822cab7ff); model and code refuse it, the wrapped
    product would be 289 911 674 -/
example : wordCopyGas true Mem.empty 103662925824 1 3 = none := by decide
example : ((30 * cmem 3239466432 + 3) * 30) % 2 ^ 64 = 289911674 := by decide

theorem wsub_lt (a b : Nat) : wsub a b < 2 ^ 64 := Nat.mod_lt _ (Nat.two_pow_pos 64)

/-- the 63/64 rule of `callGas` and `authCallGas` in exact arithmetic: no wrap once the base cost is covered -/
theorem allButOne64th {avail base : Nat} (ha : avail < 2 ^ 64) (hb : base ≤ avail) :
    wsub (wsub avail base) (wsub avail base / 64) = (avail - base) - (avail - base) / 64 := by
  rw [wsub_exact avail base ha hb]
  exact wsub_exact _ _ (by omega) (by omega)

/-- When the base cost is covered (`base ≤ available`) the gas
    forwarded to a callee is at most all-but-one-64th of what is left after the base
    cost, and never more than was requested. -/
theorem callGas_le (avail base : Nat) (cc : Word) (ha : avail < 2 ^ 64) (hb : base ≤ avail) :
    callGas avail base cc ≤ (avail - base) - (avail - base) / 64 ∧
    (cc < 2 ^ 64 → callGas avail base cc ≤ cc) := by
  unfold callGas
  simp only
  rw [allButOne64th ha hb]
  generalize (avail - base) - (avail - base) / 64 = x
  constructor
  · split <;> omega
  · intro hcc
    split
    · rename_i h; cases h with
      | inl h => exact absurd hcc h
      | inr h => omega
    · omega

/-- `callGas` computes `availableGas − base` before anyone has checked `base ≤ availableGas`.  If the base
    cost exceeds the gas left, the subtraction wraps, but the total dynamic cost `base + forwarded` that
    `finishCall` returns is then either a reported overflow or still larger than the gas left — the
    interpreter's `UseGas` fails and the step is an ordinary out-of-gas. -/
theorem callGas_underflow_harmless (avail base : Nat) (cc : Word) (m : Mem) (g : Global)
    (hlt : avail < base) :
    (∃ g', finishCall avail base cc m g = .err g') ∨
    (∃ cost m' g' cgt, finishCall avail base cc m g = .ok cost m' g' cgt ∧ useGas avail cost = none) := by
  unfold finishCall safeAdd wadd
  simp only
  by_cases hov : base + callGas avail base cc ≥ 2 ^ 64
  · left; exact ⟨g, by simp [hov]⟩
  · right
    refine ⟨_, _, _, _, by simp [hov]; exact ⟨rfl, rfl, rfl, rfl⟩, ?_⟩
    rw [useGas_none]
    omega

/-- non-vacuity: 5 gas left, 9000 base cost (value transfer), all gas requested -/
example := callGas_underflow_harmless 5 9000 (2 ^ 64 - 1) Mem.empty (Global.start []) (by decide)

/-- everything `finishCall` returns on success; the two clauses the proofs take are `Proofs.Evm11.finishCall_mem` -/
theorem finishCall_ok (avail base : Nat) (cc : Word) (m m' : Mem) (g g' : Global) (cost cgt gas2 : Nat)
    (ha : avail < 2 ^ 64) (hb : base < 2 ^ 64)
    (h : finishCall avail base cc m g = .ok cost m' g' cgt) (hu : useGas avail cost = some gas2) :
    cost = base + cgt ∧ base ≤ avail ∧ cgt ≤ (avail - base) - (avail - base) / 64 ∧ m' = m ∧ g' = g := by
  have hle : base ≤ avail := by
    by_cases hle : base ≤ avail
    · exact hle
    · rcases callGas_underflow_harmless avail base cc m g (by omega) with ⟨g', hg'⟩ | ⟨c, m1, g1, t1, h1, h2⟩
      · rw [h] at hg'; cases hg'
      · rw [h] at h1; cases h1; rw [h2] at hu; cases hu
  have hcg := (callGas_le avail base cc ha hle).1
  unfold finishCall safeAdd wadd at h
  simp only at h
  split at h
  · cases h
  · rename_i hov
    simp only [ge_iff_le, decide_eq_true_eq, Nat.not_le] at hov
    cases h
    refine ⟨?_, hle, hcg, rfl, rfl⟩
    omega

example : finishCall 10000 700 (2 ^ 200) Mem.empty (Global.start []) = .ok (700 + 9155) Mem.empty (Global.start []) 9155 := by
  rfl

end Rangers.Props.C11B
