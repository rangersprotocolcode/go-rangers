import Rangers.Generated.NondetSites
/-!
# C01 — every source of nondeterminism the translator finds is accounted for

`Rangers.Generated.NondetSites` is rewritten from the go-rangers working tree by
`gen/cmd/c01facts` on every run.  A site key encodes kind, file, function, the ranged
expression and the *shape* of the loop body (set of callees, early exit), the guard of a clock
reading, or the name of the proposal flag read.  A new range-over-map, clock/rand call, go
statement, float use, `IsProposalNNN` / `GetBlockHeight` read on the execution path, or a new call
inside one of the known loop bodies, produces a key that is in none of the lists below, and
`sites_accounted` stops checking.  (This file is produced by gen/cmd/c01facts/mkprops.py from the
reviewed classification table; it is never rewritten by bin/check.)
-/
namespace Rangers.Props.C01Sites
open Rangers.Generated.NondetSites

/-- sites that are a fold over an explicit iteration order in `Model/BlockExec.lean`, with an order-irrelevance theorem in `Props/C01.lean` -/
def modelled : List Nat := [
  1214644477106985,  -- maprange src/service/game.go ChangeAssets [targets] — keys collected, then sort.Strings (fix:) — changeAssets_order_irrelevant
  1251486961250260,  -- maprange src/service/refund_manager.go RefundManager.Add [data] — refund_add_order_irrelevant
  3252808477731677,  -- maprange src/service/refund_manager.go RefundManager.CheckAndMove [refundList] — checkAndMove_order_irrelevant
  1159134369751614,  -- maprange src/service/reward_calculator.go RewardCalculator.CalculateReward [total] — reward_order_irrelevant (ρ.total)
  2649703203380604,  -- maprange src/service/reward_calculator.go RewardCalculator.calculateRewardPerBlock [proposersStake] — reward_map_order_irrelevant
  4133328550058675,  -- maprange src/service/reward_calculator.go RewardCalculator.calculateRewardPerBlock [validatorStake] — reward_map_order_irrelevant
  3936070550088349  -- maprange src/storage/account/accountdb.go AccountDB.Finalise [adb.accountObjectsDirty] — finalise_order_irrelevant / root_deterministic
]

/-- sites whose loop body is a pointwise write per distinct key (the shape proved order-irrelevant for Finalise / the assign loop), whose value is excluded by a stated hypothesis, or float code that is modelled bit-exactly -/
def provedIrrelevant : List Nat := [
  3856436940803613,  -- clock src/core/vmexecutor.go VMExecutor.Execute [utility.GetTime guard=casting] — reading used only under situation == "casting" (excluded by hypothesis)
  3856436672368157,  -- clock src/core/vmexecutor.go VMExecutor.Execute [utility.GetTime guard=casting] — reading used only under situation == "casting" (excluded by hypothesis)
  819878443287521,  -- clock src/core/vmexecutor.go VMExecutor.Execute [utility.GetTime guard=none in=log] — argument of the perf log line only
  853210697014512,  -- float src/service/miner_manager.go MinerManager.AddMiner [float64 arithmetic] — Float64ToBigInt(float64(stake)) = stake·10^18 exactly (stake < 2^53)
  2729115008603403,  -- float src/service/miner_manager.go MinerManager.AddStake [float64 arithmetic] — idem
  1651635626124009,  -- float src/service/reward_calculator.go RewardCalculator.NextRewardHeight [float64 arithmetic] — ceil(float64(h)/float64(n)): modelled exactly (nextRewardHeight)
  4053208236702098,  -- float src/service/reward_calculator.go RewardCalculator.calculateRewardPerBlock [float64 arithmetic] — bit-exact model Model/RewardFloat.lean (mul, div, uint64→float64, Float64ToBigInt)
  995355851358404,  -- float src/service/reward_calculator.go getTotalReward [float64 arithmetic] — math.Pow result enters the model as a float64 bit pattern (the remaining float assumption)
  1193841345351180,  -- maprange src/storage/account/access_list.go accessList.Copy [a.addresses] — copy into a fresh map (pointwise)
  463605537198112,  -- maprange src/storage/account/access_list.go accessList.Copy [slotMap] — copy into a fresh map (pointwise)
  3985031088353963,  -- maprange src/storage/account/account_object.go Storage.Copy [s] — copy into a fresh map (pointwise)
  2705308017770881,  -- maprange src/storage/account/account_object.go accountObject.updateTrie [ao.dirtyStorage] — one trie write per distinct storage key: same shape as Finalise (finalise_order_irrelevant)
  4416968965708562,  -- maprange src/storage/account/account_object_tuntun.go accountObject.getAllRefund [c.cachedStorage] — assignment into a fresh map keyed by BytesToAddress(key); keys distinct for 20-byte ids; its result is ranged by CheckAndMove (modelled)
  4244592305674814,  -- syncrange src/storage/account/accountdb.go AccountDB.Commit [adb.accountObjects] — per-address trie write after execution, same shape as Finalise
  4244764451203326,  -- maprange src/storage/account/accountdb.go AccountDB.SetStorage [storage] — SetData per distinct key (pointwise)
  1948980877343030,  -- maprange src/storage/account/transient_storage.go transientStorage.Copy [t] — copy into a fresh map (pointwise)
  2047608538149921  -- maprange src/vm/logger.go Storage.Copy [s] — copy into a fresh map (pointwise)
]

/-- sites in the scanned files that block execution never reaches -/
def outOfPath : List Nat := [
  155724176486280,  -- float src/middleware/types/receipt.go Receipt.Size [float64 arithmetic] — cache size accounting
  1874387891556681,  -- go src/service/transaction_pool.go TxPool.MarkExecuted [mysql.InsertLogs] — after the block is executed and accepted (log export)
  4265891022610158,  -- flag src/service/transaction_pool.go TxPool.PackForCast [IsProposal018] — packing for casting, not execution
  3615489623871734,  -- maprange src/storage/account/account_object.go Storage.String [s] — debug printing only
  2736704378582563,  -- maprange src/vm/contracts.go init [PrecompiledContracts] — vm.PrecompiledAddresses is never read (ActivePrecompiles has no caller)
  2650438225647281  -- clock src/vm/vm_test_helper.go setDefaults [time.Now guard=none] — test helper
]

/-- proposal-flag reads that are fields of `Flags` (quantified in every theorem; `flagsAt` derives them from the process-wide height, see Props/C01B) -/
def flagsModelled : List Nat := [
  2016476681857258,  -- flag src/core/vmexecutor.go VMExecutor.Execute [IsProposal006] — Flags.p006
  2016476413421802,  -- flag src/core/vmexecutor.go VMExecutor.Execute [IsProposal006] — Flags.p006
  1828620449447686,  -- flag src/core/vmexecutor.go VMExecutor.Execute [IsProposal007] — Flags.p007
  1828620717883142,  -- flag src/core/vmexecutor.go VMExecutor.Execute [IsProposal007] — Flags.p007
  1566736151754309,  -- flag src/core/vmexecutor.go VMExecutor.Execute [IsProposal018] — Flags.p018
  1566736420189765,  -- flag src/core/vmexecutor.go VMExecutor.Execute [IsProposal018] — Flags.p018
  1067181934379030,  -- flag src/executor/base_executor.go validateNonce [IsProposal018] — Flags.p018
  695224622119948,  -- flag src/executor/base_executor.go validateNonce [IsProposal021] — Flags.p021
  3776577679993333,  -- flag src/middleware/types/transaction.go Transactions.Less [IsProposal016] — Flags.p016
  4117761051150406,  -- flag src/middleware/types/transaction.go Transactions.Less [IsProposal021] — Flags.p021
  4435616011513700  -- flag src/middleware/types/transaction.go Transactions.Less [IsProposal023] — Flags.p023
]

/-- proposal-flag reads in interpreted code whose value the model holds fixed (stated assumption of the correspondence: harness runs them active) -/
def flagsHeldFixed : List Nat := [
  2646494419772892,  -- flag src/core/vmexecutor.go VMExecutor.Execute [IsProposal013] — where receipt logs come from; held at the dev value (active) — same read of the process height
  2646494151337436,  -- flag src/core/vmexecutor.go VMExecutor.Execute [IsProposal013] — where receipt logs come from; held at the dev value (active) — same read of the process height
  2328648049344193,  -- flag src/core/vmexecutor.go VMExecutor.Execute [IsProposal015] — receipt.GasUsed; held active
  1210114004675794,  -- flag src/core/vmexecutor.go VMExecutor.Execute [IsProposal027] — gas fee of failed contract tx; inside the uninterpreted step
  746476463036839,  -- flag src/service/miner_manager.go MinerManager.UpdateMiner [IsProposal003] — status byte written (active)
  716629568959828,  -- flag src/service/refund_manager.go RefundManager.getRefundHeight [IsProposal004] — p012 active / p004 active in the modelled miner refund (refund height = now + 36000)
  2091338548641459,  -- flag src/service/refund_manager.go RefundManager.getRefundHeight [IsProposal012] — p012 active / p004 active in the modelled miner refund (refund height = now + 36000)
  2945477660024741,  -- flag src/service/transaction_pool.go TxPool.ProcessFee [IsProposal026] — fee constant = Env.fee, passed per block
  3937565181941891,  -- flag src/storage/account/accountdb_tuntun.go AccountDB.AddFT [IsProposal002] — journaled vs raw write in the ERC20-binding path; same content
  4252596473140683  -- flag src/storage/account/accountdb_tuntun.go AccountDB.SubFT [IsProposal002] — idem
]

/-- proposal-flag reads inside the uninterpreted executors -/
def flagsInUninterpreted : List Nat := [
  1613676919829222,  -- flag src/executor/contract_executor.go IntrinsicGas [IsProposal026] — inside Env.other (EVM / contract executor): part of the uninterpreted deterministic step, which therefore also depends on the process height
  4190586856486957,  -- flag src/executor/contract_executor.go contractExecutor.Execute [IsProposal007] — inside Env.other (EVM / contract executor): part of the uninterpreted deterministic step, which therefore also depends on the process height
  745735329012713,  -- flag src/executor/contract_executor.go contractExecutor.Execute [IsProposal015] — inside Env.other (EVM / contract executor): part of the uninterpreted deterministic step, which therefore also depends on the process height
  745735597448170,  -- flag src/executor/contract_executor.go contractExecutor.Execute [IsProposal015] — inside Env.other (EVM / contract executor): part of the uninterpreted deterministic step, which therefore also depends on the process height
  745734792141801,  -- flag src/executor/contract_executor.go contractExecutor.Execute [IsProposal015] — inside Env.other (EVM / contract executor): part of the uninterpreted deterministic step, which therefore also depends on the process height
  487666313421566,  -- flag src/executor/contract_executor.go contractExecutor.Execute [IsProposal017] — inside Env.other (EVM / contract executor): part of the uninterpreted deterministic step, which therefore also depends on the process height
  2591229366658006,  -- flag src/executor/contract_executor.go contractExecutor.Execute [IsProposal026] — inside Env.other (EVM / contract executor): part of the uninterpreted deterministic step, which therefore also depends on the process height
  1145138392073122,  -- flag src/executor/contract_executor.go contractExecutor.decodeContractData [IsProposal005] — inside Env.other (EVM / contract executor): part of the uninterpreted deterministic step, which therefore also depends on the process height
  86390292176870,  -- flag src/executor/contract_executor.go contractExecutor.decodeContractData [IsProposal017] — inside Env.other (EVM / contract executor): part of the uninterpreted deterministic step, which therefore also depends on the process height
  1703277345385760,  -- flag src/executor/contract_executor.go preCheckContractFee [IsProposal015] — inside Env.other (EVM / contract executor): part of the uninterpreted deterministic step, which therefore also depends on the process height
  87652477679558,  -- flag src/vm/evm.go EVM.create [IsProposal006] — inside Env.other (EVM / contract executor): part of the uninterpreted deterministic step, which therefore also depends on the process height
  217616845894899,  -- flag src/vm/evm.go EVM.create [IsProposal007] — inside Env.other (EVM / contract executor): part of the uninterpreted deterministic step, which therefore also depends on the process height
  1558905320132702,  -- flag src/vm/evm.go EVM.create [IsProposal026] — inside Env.other (EVM / contract executor): part of the uninterpreted deterministic step, which therefore also depends on the process height
  4109903882767048,  -- flag src/vm/gas_table.go gasCreate2 [IsProposal026] — inside Env.other (EVM / contract executor): part of the uninterpreted deterministic step, which therefore also depends on the process height
  3730341296338322,  -- flag src/vm/gas_table.go gasExpEIP158 [IsProposal026] — inside Env.other (EVM / contract executor): part of the uninterpreted deterministic step, which therefore also depends on the process height
  945952674316280,  -- flag src/vm/gas_table.go gasExpFrontier [IsProposal026] — inside Env.other (EVM / contract executor): part of the uninterpreted deterministic step, which therefore also depends on the process height
  453570103511046,  -- flag src/vm/gas_table.go gasSStore [IsProposal015] — inside Env.other (EVM / contract executor): part of the uninterpreted deterministic step, which therefore also depends on the process height
  4135456344970176,  -- flag src/vm/gas_table.go gasSStore [IsProposal026] — inside Env.other (EVM / contract executor): part of the uninterpreted deterministic step, which therefore also depends on the process height
  2931637079757790,  -- flag src/vm/gas_table.go gasSStoreEIP2200 [IsProposal015] — inside Env.other (EVM / contract executor): part of the uninterpreted deterministic step, which therefore also depends on the process height
  3272829040849459,  -- flag src/vm/gas_table.go gasSStoreEIP2200 [IsProposal026] — inside Env.other (EVM / contract executor): part of the uninterpreted deterministic step, which therefore also depends on the process height
  4469690667242246,  -- flag src/vm/gas_table.go gasSha3 [IsProposal026] — inside Env.other (EVM / contract executor): part of the uninterpreted deterministic step, which therefore also depends on the process height
  4116766534599044,  -- flag src/vm/gas_table.go makeGasLog [IsProposal026] — inside Env.other (EVM / contract executor): part of the uninterpreted deterministic step, which therefore also depends on the process height
  815210440111050,  -- flag src/vm/gas_table.go memoryCopierGas [IsProposal026] — inside Env.other (EVM / contract executor): part of the uninterpreted deterministic step, which therefore also depends on the process height
  4235225489193412  -- flag src/vm/gas_table.go memoryGasCost [IsProposal026] — inside Env.other (EVM / contract executor): part of the uninterpreted deterministic step, which therefore also depends on the process height
]

/-- process-local state touched by functions reachable from VMExecutor.Execute (run-time-assigned package variables, side stores in struct fields of core/service/executor/middleware types, context entries), each with the reason it cannot make two replicas differ — or the recorded finding it belongs to -/
def processLocalAccounted : List Nat := [
  1586386065276082,  -- global src/common/constant_economy.go GetBlocksPerEpoch [common.epochBlocks] — memoised constant
  556501283414633,  -- gwrite src/common/constant_economy.go GetBlocksPerEpoch [common.epochBlocks] — memoisation of a constant (epoch / castingInterval): idempotent write
  3959112389092664,  -- global src/common/constant_economy.go GetCastingInterval [common.Genesis] — sub-chain configuration read once from genesis.json at start-up; nil on the main chain
  1146294235989518,  -- global src/common/constant_economy.go GetRefundBlocks [common.refundBlocks] — memoised constant
  3743961262164148,  -- gwrite src/common/constant_economy.go GetRefundBlocks [common.refundBlocks] — idem
  3836124506624883,  -- global src/common/constant_economy.go GetRewardBlocks [common.rewardBlocks] — memoised constant rewardTime / castingInterval
  391520268361102,  -- gwrite src/common/constant_economy.go GetRewardBlocks [common.rewardBlocks] — idem
  2931297799957989,  -- global src/common/height.go GetBlockHeight [common.localChainInfo] — process-wide chain height behind every IsProposalNNN: the recorded known finding (Props/C01B)
  3209629353064584,  -- global src/common/version.go ChainId [common.LocalChainConfig] — fork table / chain config fixed at start-up; together with localChainInfo it yields the flags (known finding flags-from-process-chain-height)
  4151770717763579,  -- global src/common/version.go GetChainId [common.Genesis] — sub-chain configuration read once from genesis.json at start-up; nil on the main chain
  1647692153788362,  -- global src/common/version.go IsMainnet [common.LocalChainConfig] — fork table / chain config fixed at start-up; together with localChainInfo it yields the flags (known finding flags-from-process-chain-height)
  695522378607906,  -- global src/common/version.go IsProposal001 [common.LocalChainConfig] — fork table / chain config fixed at start-up; together with localChainInfo it yields the flags (known finding flags-from-process-chain-height)
  858553951947752,  -- global src/common/version.go IsProposal002 [common.LocalChainConfig] — fork table / chain config fixed at start-up; together with localChainInfo it yields the flags (known finding flags-from-process-chain-height)
  105525629532085,  -- global src/common/version.go IsProposal003 [common.LocalChainConfig] — fork table / chain config fixed at start-up; together with localChainInfo it yields the flags (known finding flags-from-process-chain-height)
  1181987941491911,  -- global src/common/version.go IsProposal004 [common.LocalChainConfig] — fork table / chain config fixed at start-up; together with localChainInfo it yields the flags (known finding flags-from-process-chain-height)
  904980413132327,  -- global src/common/version.go IsProposal005 [common.LocalChainConfig] — fork table / chain config fixed at start-up; together with localChainInfo it yields the flags (known finding flags-from-process-chain-height)
  3108002567582069,  -- global src/common/version.go IsProposal006 [common.LocalChainConfig] — fork table / chain config fixed at start-up; together with localChainInfo it yields the flags (known finding flags-from-process-chain-height)
  1089400300737822,  -- global src/common/version.go IsProposal007 [common.LocalChainConfig] — fork table / chain config fixed at start-up; together with localChainInfo it yields the flags (known finding flags-from-process-chain-height)
  3145353939429149,  -- global src/common/version.go IsProposal012 [common.LocalChainConfig] — fork table / chain config fixed at start-up; together with localChainInfo it yields the flags (known finding flags-from-process-chain-height)
  3889775006746044,  -- global src/common/version.go IsProposal013 [common.LocalChainConfig] — fork table / chain config fixed at start-up; together with localChainInfo it yields the flags (known finding flags-from-process-chain-height)
  544248671081930,  -- global src/common/version.go IsProposal015 [common.LocalChainConfig] — fork table / chain config fixed at start-up; together with localChainInfo it yields the flags (known finding flags-from-process-chain-height)
  4249309163164585,  -- global src/common/version.go IsProposal017 [common.LocalChainConfig] — fork table / chain config fixed at start-up; together with localChainInfo it yields the flags (known finding flags-from-process-chain-height)
  1138679154885458,  -- global src/common/version.go IsProposal018 [common.LocalChainConfig] — fork table / chain config fixed at start-up; together with localChainInfo it yields the flags (known finding flags-from-process-chain-height)
  886646486206285,  -- global src/common/version.go IsProposal021 [common.LocalChainConfig] — fork table / chain config fixed at start-up; together with localChainInfo it yields the flags (known finding flags-from-process-chain-height)
  4267182550193073,  -- global src/common/version.go IsProposal026 [common.LocalChainConfig] — fork table / chain config fixed at start-up; together with localChainInfo it yields the flags (known finding flags-from-process-chain-height)
  581895781666497,  -- global src/common/version.go IsProposal027 [common.LocalChainConfig] — fork table / chain config fixed at start-up; together with localChainInfo it yields the flags (known finding flags-from-process-chain-height)
  1020331752086191,  -- global src/common/version.go IsSub [common.Genesis] — sub-chain configuration read once from genesis.json at start-up; nil on the main chain
  2735802628458516,  -- global src/common/version.go MainNodeContract [common.LocalChainConfig] — fork table / chain config fixed at start-up; together with localChainInfo it yields the flags (known finding flags-from-process-chain-height)
  1749754366047902,  -- global src/core/blockchain.go blockChain.GetBalance [middleware.AccountDBManagerInstance] — reached only through nil-accountdb fall-backs (GetLatestStateDB) that the executor never takes: it always passes its AccountDB
  2344143680704768,  -- chainread src/core/blockchain.go blockChain.GetBlockHash [QueryBlockHeaderByHeight] — main-chain index lookup behind GetHash (ancestors only, see bound)
  3509427703353898,  -- store src/core/blockchain.go blockChain.QueryBlockHeaderByHeight [chain.heightDB.Get [db.Database]] — QueryBlockHeaderByHeight in calcDifficulty second part: header of an ancestor block (chain history, not modelled part)
  1339141148764422,  -- store src/core/blockchain.go blockChain.QueryBlockHeaderByHeight [chain.topBlocks.Get [lru.Cache]] — idem (LRU in front of heightDB)
  840308082172872,  -- store src/core/fork_block.go blockChainFork.getBlock [fork.db.Get [db.Database]] — fork-path lookup of ancestor blocks / groups: same replicated data through the fork store
  1508782448490363,  -- chainread src/core/fork_block.go syncProcessor.GetBlockHash [GetBlockHeader] — fork-path lookup behind GetHash (fork store, then main chain below the fork point)
  555558504157632,  -- store src/core/fork_group.go groupChainFork.getGroupById [fork.db.Get [db.Database]] — fork-path lookup of ancestor blocks / groups: same replicated data through the fork store
  3790870022054829,  -- global src/core/groupchain.go GroupIterator.MovePre [core.groupChainImpl] — group lookup for the reward: replicated group-chain data (model input RewardCfg.group)
  3931571774650457,  -- global src/core/groupchain.go groupChain.ForkIterator [core.SyncProcessor] — fork-path chain helper (same data, other handle)
  3051595373328901,  -- store src/core/groupchain.go groupChain.getGroupByHeight [chain.groups.Get [db.Database]] — group chain lookup for the reward (RewardCfg.group)
  1547127731335756,  -- store src/core/groupchain.go groupChain.getGroupById [chain.groups.Get [db.Database]] — group chain lookup for the reward (RewardCfg.group)
  663652526811403,  -- global src/core/sync_helper.go GroupForkIterator.MovePre [core.SyncProcessor] — fork-path chain helper (same data, other handle)
  2784864557967805,  -- global src/core/sync_helper.go GroupForkIterator.MovePre [core.groupChainImpl] — group lookup for the reward: replicated group-chain data (model input RewardCfg.group)
  341200470507001,  -- chainread src/core/sync_helper.go syncProcessor.GetBlockHeader [QueryBlockHeaderByHeight] — idem
  804587230785933,  -- ctx src/core/vmexecutor.go VMExecutor.Execute [delete contractAddress] — idem
  571519956649298,  -- ctx src/core/vmexecutor.go VMExecutor.Execute [delete logs] — idem
  311953710960808,  -- ctx src/core/vmexecutor.go VMExecutor.Execute [read contractAddress] — deleted after use
  439081352695986,  -- ctx src/core/vmexecutor.go VMExecutor.Execute [read gasUsed] — never deleted: a later transaction of the SAME block sees the previous value (deterministic: the context map is new per execution; part of OpaqueOut.extra)
  439081621131443,  -- ctx src/core/vmexecutor.go VMExecutor.Execute [read gasUsed] — never deleted: a later transaction of the SAME block sees the previous value (deterministic: the context map is new per execution; part of OpaqueOut.extra)
  1591660604209917,  -- ctx src/core/vmexecutor.go VMExecutor.Execute [read logs] — pre-Proposal013 receipts; deleted after every transaction
  1591660335774461,  -- ctx src/core/vmexecutor.go VMExecutor.Execute [read logs] — pre-Proposal013 receipts; deleted after every transaction
  268146971126033,  -- global src/core/vmexecutor.go VMExecutor.Execute [common.LocalChainConfig] — fork table / chain config fixed at start-up; together with localChainInfo it yields the flags (known finding flags-from-process-chain-height)
  35461906675605,  -- global src/core/vmexecutor.go VMExecutor.after [common.LocalChainConfig] — fork table / chain config fixed at start-up; together with localChainInfo it yields the flags (known finding flags-from-process-chain-height)
  3188132833106357,  -- global src/core/vmexecutor.go VMExecutor.after [service.RefundManagerImpl] — singleton handle; holds chain helpers only
  3193999342649376,  -- global src/core/vmexecutor.go VMExecutor.after [service.RewardCalculatorImpl] — singleton handle; holds chain helpers only
  4195555124260919,  -- chainread src/core/vmexecutor.go VMExecutor.calcDifficulty [QueryBlockHeaderByHeight] — header rewardBlocks below the executing height (second part of calcDifficulty, not modelled)
  793470408142866,  -- global src/core/vmexecutor.go VMExecutor.calcDifficulty [common.LocalChainConfig] — fork table / chain config fixed at start-up; together with localChainInfo it yields the flags (known finding flags-from-process-chain-height)
  2168668332877904,  -- global src/core/vmexecutor.go VMExecutor.calcDifficulty [core.blockChainImpl] — context["chain"] (BLOCKHASH) and calcDifficulty second part: chain data below the block = part of the parent history, not modelled
  3083301722862101,  -- ctx src/core/vmexecutor.go VMExecutor.prepare [write refund] — prepare(): context["refund"] reset at the start of every execution (Loop.refunds starts empty)
  1838929760992338,  -- global src/core/vmexecutor.go removeUnusedValidator [service.MinerManagerImpl] — singleton handle assigned at start-up; its mutable side store is listed as store sites (pkCache)
  3345912616700556,  -- global src/core/vmexecutor.go removeUnusedValidator1 [service.MinerManagerImpl] — singleton handle assigned at start-up; its mutable side store is listed as store sites (pkCache)
  4384574610358504,  -- global src/core/vmexecutor_sub.go VMExecutor.calcSubReward [core.SyncProcessor] — fork-path chain helper (same data, other handle)
  351071048086676,  -- global src/core/vmexecutor_sub.go VMExecutor.calcSubReward [core.groupChainImpl] — group lookup for the reward: replicated group-chain data (model input RewardCfg.group)
  4169917642551588,  -- global src/core/vmexecutor_sub.go VMExecutor.calcSubReward [service.MinerManagerImpl] — singleton handle assigned at start-up; its mutable side store is listed as store sites (pkCache)
  103517113165635,  -- ctx src/executor/contract_executor.go contractExecutor.BeforeExecute [write contractData] — BeforeExecute of the same transaction
  1239331964152800,  -- ctx src/executor/contract_executor.go contractExecutor.Execute [read chain] — set by newVMExecutor
  1496130770102911,  -- ctx src/executor/contract_executor.go contractExecutor.Execute [read contractData] — written by BeforeExecute of the same transaction
  558653414380971,  -- ctx src/executor/contract_executor.go contractExecutor.Execute [write contractAddress] — executor output
  2765036081659078,  -- ctx src/executor/contract_executor.go contractExecutor.Execute [write gasUsed] — executor output
  3703183435874273,  -- ctx src/executor/contract_executor.go contractExecutor.Execute [write logs] — executor output of this transaction
  1667593595840116,  -- chainread src/executor/contract_executor.go getBlockHashFn [GetBlockHash] — the GetHash callback handed to the EVM
  3026413669229130,  -- ctx src/executor/jsonrpc_executor.go jsonrpcExecutor.BeforeExecute [write contractData] — BeforeExecute of the same transaction
  3524014543335158,  -- global src/executor/miner_executor.go minerAddExecutor.Execute [service.MinerManagerImpl] — singleton handle assigned at start-up; its mutable side store is listed as store sites (pkCache)
  2950453199794815,  -- global src/executor/miner_executor.go minerApplyExecutor.Execute [service.MinerManagerImpl] — singleton handle assigned at start-up; its mutable side store is listed as store sites (pkCache)
  3790123787520443,  -- global src/executor/miner_executor.go minerChangeAccountExecutor.Execute [service.MinerManagerImpl] — singleton handle assigned at start-up; its mutable side store is listed as store sites (pkCache)
  538961933330636,  -- ctx src/executor/miner_executor.go minerRefundExecutor.Execute [read situation] — set by newVMExecutor; only selects which group helper answers
  1785094154492522,  -- global src/executor/miner_executor.go minerRefundExecutor.Execute [service.RefundManagerImpl] — singleton handle; holds chain helpers only
  1489649670282627,  -- ctx src/executor/miner_node_executor.go minerNodeExecutor.Execute [write logs] — executor output of this transaction
  748598297064738,  -- global src/executor/miner_node_executor.go minerNodeExecutor.Execute [service.MinerManagerImpl] — singleton handle assigned at start-up; its mutable side store is listed as store sites (pkCache)
  4262637398453481,  -- global src/executor/tx_executor.go GetTxExecutor [executor.txExecutorsImpl] — static executor registry built by InitExecutors
  4438383272148860,  -- store src/executor/tx_executor.go GetTxExecutor [txExecutorsImpl.executors[] [map]] — static executor registry
  3569149086770667,  -- ctx src/middleware/types/refund.go GetRefundInfo [read refund] — set by prepare() in this execution
  3147397168732421,  -- store src/service/miner_manager.go MinerManager.AddMiner [mm.pkCache.Put [db.LDBDatabase]] — write-only on the execution path: no function reachable from Execute reads pkCache (a read would be a new store site)
  2868100070939455,  -- global src/service/miner_manager.go MinerManager.GetMiner [service.MinerManagerImpl] — singleton handle assigned at start-up; its mutable side store is listed as store sites (pkCache)
  424992939623107,  -- global src/service/miner_manager.go MinerManager.GetMinerById [middleware.AccountDBManagerInstance] — reached only through nil-accountdb fall-backs (GetLatestStateDB) that the executor never takes: it always passes its AccountDB
  913689094792706,  -- global src/service/miner_manager.go MinerManager.minerIterator [middleware.AccountDBManagerInstance] — reached only through nil-accountdb fall-backs (GetLatestStateDB) that the executor never takes: it always passes its AccountDB
  2915113451559121,  -- global src/service/refund_manager.go RefundManager.GetRefundStake [service.MinerManagerImpl] — singleton handle assigned at start-up; its mutable side store is listed as store sites (pkCache)
  2600552664367281,  -- global src/service/refund_manager.go RefundManager.getRefundHeight [common.LocalChainConfig] — fork table / chain config fixed at start-up; together with localChainInfo it yields the flags (known finding flags-from-process-chain-height)
  3744152152431079,  -- global src/service/refund_manager.go RefundManager.getRefundHeight [service.RewardCalculatorImpl] — singleton handle; holds chain helpers only
  4263638341011424,  -- global src/service/reward_calculator.go RewardCalculator.calculateRewardPerBlock [service.MinerManagerImpl] — singleton handle assigned at start-up; its mutable side store is listed as store sites (pkCache)
  1821241674178939,  -- global src/service/transaction_pool.go GetTransactionPool [service.txpoolInstance] — singleton handle; ProcessFee touches only the AccountDB passed in
  4382738886316098,  -- global src/storage/account/accountdb_eth.go AccountDB.GetERC20Binding [account.rpgContractAddress] — cache of the RPG ERC20 binding, a genesis-time constant of the state (AddERC20Binding is only called by genesis); re-read while zero
  1544806820199954,  -- global src/storage/account/accountdb_eth.go AccountDB.loadContractCache [account.rpgContractAddress] — cache of the RPG ERC20 binding, a genesis-time constant of the state (AddERC20Binding is only called by genesis); re-read while zero
  3357059105603057,  -- gwrite src/storage/account/accountdb_eth.go AccountDB.loadContractCache [account.rpgContractAddress] — cache fill from the state (genesis-time constant binding); the only writes to package-level state on the execution path
  1120316242070643,  -- chainread src/vm/instructions.go opBlockhash [GetHash] — GetHash callback = context["chain"].GetBlockHash: the node own block index; admissible arguments are ancestors only (pinned fact bound), which every replica executing on this parent stores identically
  2299093385721356,  -- global src/vm/instructions.go opGetStake [service.MinerManagerImpl] — singleton handle assigned at start-up; its mutable side store is listed as store sites (pkCache)
  1345470300932530,  -- global src/vm/instructions.go opStake [service.MinerManagerImpl] — singleton handle assigned at start-up; its mutable side store is listed as store sites (pkCache)
  3464153620990312,  -- global src/vm/instructions.go opStakeNum [service.MinerManagerImpl] — singleton handle assigned at start-up; its mutable side store is listed as store sites (pkCache)
  163677751831524,  -- global src/vm/instructions.go opUnStake [service.MinerManagerImpl] — singleton handle assigned at start-up; its mutable side store is listed as store sites (pkCache)
  2971169474138726,  -- global src/vm/instructions.go opUnStake [service.RefundManagerImpl] — singleton handle; holds chain helpers only
  2346697547349197,  -- global src/vm/instructions.go opUnStakeAll [service.MinerManagerImpl] — singleton handle assigned at start-up; its mutable side store is listed as store sites (pkCache)
  3808932209785630,  -- global src/vm/instructions.go opUnStakeAll [service.RefundManagerImpl] — singleton handle; holds chain helpers only
  2182657831887046  -- global src/vm/interpreter.go NewEVMInterpreter [common.LocalChainConfig] — fork table / chain config fixed at start-up; together with localChainInfo it yields the flags (known finding flags-from-process-chain-height)
]

/-- facts about statement order / bounds the model relies on, pinned verbatim: a re-ordered statement or a changed bound changes the key -/
def pinnedFacts : List Nat := [
  1628760563375621,  -- guards src/core/vmexecutor.go VMExecutor.Execute [_.situation == 'casting' | 0 != len(_) && _.situation != 'casting' | 0 == _.Type | common.IsProposal013() | _.situation == 'casting' && utility.GetTime().Sub(_) > MaxCastBlockTime | common.IsProposal006() && !common.IsProposal007() | _ != nil | common.IsProposal018() && !_ | _ | !_ | !common.IsProposal018() | common.IsProposal027() && types.IsContractTx(_.Type) | _ != nil | _.Source != '' | !common.IsProposal006() | common.IsProposal007() | !(types.IsContractTx(_.Type) && _) | common.IsProposal013() | _ != nil | _.context['logs'] != nil | _ != nil | _ != nil && common.IsProposal015() | _.block.Header.Height == common.LocalChainConfig.Proposal010Block | _.block.Header.Height == common.LocalChainConfig.Proposal019Block] — branch conditions (locals blanked) of VMExecutor.Execute in source order, as followed by the model
  2127774949120221,  -- order src/core/vmexecutor.go VMExecutor.Execute [prepare,Sort,continue,Prepare,DEADLINE,break,IncreaseNonce,GetTxExecutor,BeforeExecute,continue,Snapshot,Execute,RevertToSnapshot,deductGasFee,IncreaseNonce,SetNonce,NewReceipt,GetLogs,removeUnusedValidator,removeUnusedValidator1,after,IntermediateRoot] — call order of Execute: the cast deadline is tested (and the loop left) before IncreaseNonce / BeforeExecute / Execute of that transaction touch the ledger — what castBlock models and cast_cutoff_consistent uses; sort before the loop, clean-ups and after() before IntermediateRoot
  2109389179110332,  -- guards src/core/vmexecutor.go VMExecutor.after [0 == strings.Compare('testing',_.situation) | common.IsSub() | common.LocalChainConfig.Proposal004Block == _] — branch conditions (locals blanked) of VMExecutor.after in source order, as followed by the model
  3117401005268865,  -- guards src/core/vmexecutor.go VMExecutor.calcDifficulty [_ < common.LocalChainConfig.Proposal025Block | 0 != len(_) | _ < common.LocalChainConfig.Proposal025Block + common.GetRewardBlocks() | nil == _ | _ == 0] — branch conditions (locals blanked) of VMExecutor.calcDifficulty in source order, as followed by the model
  2515526779535959,  -- guards src/core/vmexecutor.go deductGasFee [_ == nil | _.Cmp(_) < 0] — branch conditions (locals blanked) of deductGasFee in source order, as followed by the model
  1022286818051580,  -- guards src/core/vmexecutor.go removeUnusedValidator [_ == nil] — branch conditions (locals blanked) of removeUnusedValidator in source order, as followed by the model
  903019856456591,  -- guards src/executor/base_executor.go baseFeeExecutor.BeforeExecute [_ != nil | _ != nil] — branch conditions (locals blanked) of baseFeeExecutor.BeforeExecute in source order, as followed by the model
  220501940604705,  -- guards src/executor/base_executor.go validateNonce [common.IsProposal021() && _.Type != types.TransactionTypeETHTX | common.IsProposal018() | _ > _.Nonce | _ < _.Nonce] — branch conditions (locals blanked) of validateNonce in source order, as followed by the model
  4314199085184152,  -- guards src/executor/contract_executor.go IntrinsicGas [_ | len(_) > 0 | _ != 0 | (math.MaxUint64 - _) / _ < _ | (math.MaxUint64 - _) / vm.TxDataZeroGas < _ | common.IsProposal026()] — branch conditions (locals blanked) of IntrinsicGas in source order, as followed by the model
  4235601163667341,  -- guards src/executor/contract_executor.go contractExecutor.BeforeExecute [_ != nil | _ != nil | _ != '' | _ != nil] — branch conditions (locals blanked) of contractExecutor.BeforeExecute in source order, as followed by the model
  4476146538871419,  -- guards src/executor/contract_executor.go contractExecutor.Execute [common.IsSub() && _.Target == common.WhitelistForCreate | 2 != _ | _.Target == '' | common.IsProposal015() | _ != nil | _.GasLimit < _ | common.IsProposal015() | common.IsProposal017() && _ > p017defaultGasLimit | common.IsProposal026() | _ > p026defaultGasLimit | _.Target == '' | common.IsProposal007() | common.IsProposal015() | _.Cmp(_) < 0 | _ != nil] — branch conditions (locals blanked) of contractExecutor.Execute in source order, as followed by the model
  1780883263423632,  -- guards src/executor/contract_executor.go contractExecutor.decodeContractData [_ != nil | _.GasLimit == '' || _.GasLimit == '0' | common.IsProposal017() | _ != nil | _ != nil | common.IsProposal005() && (_.AbiData == '' || _.AbiData == '0x0')] — branch conditions (locals blanked) of contractExecutor.decodeContractData in source order, as followed by the model
  1921619503109481,  -- guards src/executor/contract_executor.go preCheckContractFee [common.IsProposal015() | _.Cmp(new(big.Int).Add(_,_.TransferValue)) < 0] — branch conditions (locals blanked) of preCheckContractFee in source order, as followed by the model
  1836253584729373,  -- guards src/executor/miner_executor.go minerAddExecutor.Execute [_ != nil | utility.IsEmptyByteSlice(_.Id) | nil != _] — branch conditions (locals blanked) of minerAddExecutor.Execute in source order, as followed by the model
  831008041885318,  -- guards src/executor/miner_executor.go minerApplyExecutor.Execute [_ != nil | common.IsMainnet() && _.Type == common.MinerTypeProposer | nil != _ | utility.IsEmptyByteSlice(_.Id) | nil != _ | utility.IsEmptyByteSlice(_.Id) | utility.IsEmptyByteSlice(_.Account)] — branch conditions (locals blanked) of minerApplyExecutor.Execute in source order, as followed by the model
  1399491743586546,  -- guards src/executor/miner_executor.go minerChangeAccountExecutor.Execute [_ != nil | nil == _ | 0 == bytes.Compare(_.Account,_.Account) | bytes.Compare(_.Account,_) != 0 | nil != _] — branch conditions (locals blanked) of minerChangeAccountExecutor.Execute in source order, as followed by the model
  331302186177054,  -- guards src/executor/miner_executor.go minerRefundExecutor.Execute [nil == _ || nil == _ || nil == _.Sign | nil != _ | _ != nil | _ != nil | _] — branch conditions (locals blanked) of minerRefundExecutor.Execute in source order, as followed by the model
  3924785208088733,  -- guards src/executor/operator_executor.go operatorExecutor.transfer [0 == len(_) | nil != _] — branch conditions (locals blanked) of operatorExecutor.transfer in source order, as followed by the model
  1154932212912244,  -- guards src/middleware/types/refund.go RefundInfoList.AddRefundInfo [bytes.Compare(_,_.Id) == 0 | _] — branch conditions (locals blanked) of RefundInfoList.AddRefundInfo in source order, as followed by the model
  2471093610083561,  -- guards src/middleware/types/transaction.go Transactions.Less [_[_].RequestId == 0 && _[_].RequestId == 0 | common.IsProposal023() | _[_].Source == _[_].Source | _[_].Nonce != _[_].Nonce | 0 == bytes.Compare(_,_) | common.IsProposal021() | _[_].Source == _[_].Source | common.IsProposal016() && _[_].Source == _[_].Source] — branch conditions (locals blanked) of Transactions.Less in source order, as followed by the model
  3258931978876016,  -- guards src/service/game.go ChangeAssets [!_ | _ != '' | !_.IsEmpty() | !_.IsEmpty()] — branch conditions (locals blanked) of ChangeAssets in source order, as followed by the model
  4280567044644227,  -- guards src/service/game.go transferBalance [_ != nil | _.Sign() == -1 | _.Cmp(_) == -1] — branch conditions (locals blanked) of transferBalance in source order, as followed by the model
  4153718592607948,  -- guards src/service/miner_manager.go MinerIterator.Current [_ != nil | len(_.Id) == 0 | nil != _ && 1 == len(_) | _.Status == common.MinerStatusAbort] — branch conditions (locals blanked) of MinerIterator.Current in source order, as followed by the model
  406513465418397,  -- guards src/service/miner_manager.go MinerManager.AddMiner [_.Type != common.MinerTypeValidator && _.Type != common.MinerTypeProposer | (_.Type == common.MinerTypeValidator && _.Stake < common.ValidatorStake) || (_.Type == common.MinerTypeProposer && _.Stake < common.ProposerStake) | utility.IsEmptyByteSlice(_.VrfPublicKey) || utility.IsEmptyByteSlice(_.PublicKey) | _.Cmp(_) < 0 | _.GetMiner(_,_) != nil | nil != _] — branch conditions (locals blanked) of MinerManager.AddMiner in source order, as followed by the model
  2952071578527006,  -- guards src/service/miner_manager.go MinerManager.AddStake [_ == 0 | _.Cmp(_) < 0 | nil == _ | nil == _ | _.Stake < 0 | _.Type == common.MinerTypeProposer && _.Stake > common.ProposerStake || _.Type == common.MinerTypeValidator && _.Stake > common.ValidatorStake] — branch conditions (locals blanked) of MinerManager.AddStake in source order, as followed by the model
  2838836590324761,  -- guards src/service/miner_manager.go MinerManager.GetMinerById [_ == nil | _ != nil && len(_) > 0 | nil != _ | nil != _ && 1 == len(_) | 0 != len(_)] — branch conditions (locals blanked) of MinerManager.GetMinerById in source order, as followed by the model
  3133686232735880,  -- guards src/service/miner_manager.go MinerManager.GetMinerIdByAccount [nil == _ | 0 == bytes.Compare(_.Account,_) | nil == _ | 0 == bytes.Compare(_.Account,_)] — branch conditions (locals blanked) of MinerManager.GetMinerIdByAccount in source order, as followed by the model
  435596902100149,  -- guards src/service/miner_manager.go MinerManager.GetProposerTotalStakeWithDetail [_ == nil | nil == _ || common.MinerStatusNormal != _.Status || _ < _.ApplyHeight | _ == 0 | nil == _] — branch conditions (locals blanked) of MinerManager.GetProposerTotalStakeWithDetail in source order, as followed by the model
  3724828542680545,  -- guards src/service/miner_manager.go MinerManager.GetValidatorsStake [0 == _] — branch conditions (locals blanked) of MinerManager.GetValidatorsStake in source order, as followed by the model
  3926387235696109,  -- guards src/service/miner_manager.go MinerManager.RemoveMiner [_ == 0 && !_.IsContract(common.BytesToAddress(_))] — branch conditions (locals blanked) of MinerManager.RemoveMiner in source order, as followed by the model
  2965944977307916,  -- guards src/service/miner_manager.go MinerManager.RemoveUnusedValidator [nil == _ || common.MinerStatusNormal != _.Status | _ | nil == _] — branch conditions (locals blanked) of MinerManager.RemoveUnusedValidator in source order, as followed by the model
  2957721264600868,  -- guards src/service/miner_manager.go MinerManager.UpdateMiner [_ | common.IsProposal003()] — branch conditions (locals blanked) of MinerManager.UpdateMiner in source order, as followed by the model
  3183538165829418,  -- guards src/service/refund_manager.go RefundManager.Add [nil == _ || nil == _ || 0 == len(_) | _.IsEmpty() | nil == _ || 0 == len(_)] — branch conditions (locals blanked) of RefundManager.Add in source order, as followed by the model
  2044938934486058,  -- guards src/service/refund_manager.go RefundManager.CheckAndMove [nil == _ | nil == _ || 0 == len(_)] — branch conditions (locals blanked) of RefundManager.CheckAndMove in source order, as followed by the model
  3787654012936979,  -- guards src/service/refund_manager.go RefundManager.GetRefundStake [nil == _ | 0 != bytes.Compare(_,_.Account) | _ == math.MaxUint64 | _.Stake < _ | _.Type == common.MinerTypeProposer && _ < common.ProposerStake || _.Type == common.MinerTypeValidator && _ < common.ValidatorStake] — branch conditions (locals blanked) of RefundManager.GetRefundStake in source order, as followed by the model
  1305450227522373,  -- guards src/service/refund_manager.go RefundManager.getRefundHeight [common.IsProposal012() | _ == common.MinerTypeValidator | _ != 'fork' | _ > 0 | _ != math.MaxUint64 | common.IsProposal004() && _ <= 0 | common.LocalChainConfig.Proposal011Block == _] — branch conditions (locals blanked) of RefundManager.getRefundHeight in source order, as followed by the model
  3407451704400574,  -- guards src/service/reward_calculator.go RewardCalculator.CalculateReward [nil == _ || 0 == len(_)] — branch conditions (locals blanked) of RewardCalculator.CalculateReward in source order, as followed by the model
  3686763930576353,  -- guards src/service/reward_calculator.go RewardCalculator.NextRewardHeight [] — branch conditions (locals blanked) of RewardCalculator.NextRewardHeight in source order, as followed by the model
  993244962204717,  -- guards src/service/reward_calculator.go RewardCalculator.calculateRewardPerBlock [_ != 0 | nil == _.GroupId | _ != 'fork' | _ == nil | _ != 0] — branch conditions (locals blanked) of RewardCalculator.calculateRewardPerBlock in source order, as followed by the model
  4482658790777760,  -- guards src/service/reward_calculator.go addReward [_] — branch conditions (locals blanked) of addReward in source order, as followed by the model
  2982317221269302,  -- guards src/service/transaction_pool.go TxPool.ProcessFee [common.IsProposal026() | _.Cmp(_) < 0] — branch conditions (locals blanked) of TxPool.ProcessFee in source order, as followed by the model
  2556450385335009,  -- fields src/storage/account/account_object.go accountObject [address common.Address; addrHash common.Hash; data Account; db *AccountDB; dbErr error; trie Trie; nftSet *ast.ArrayType; dirtyNFTSet bool; cachedLock sync.RWMutex; cachedStorage Storage; dirtyStorage Storage; suicided bool; touched bool; deleted bool; onDirty *ast.FuncType] — field list of accountObject: a state handle (AccountDB on a root) owns its trie and objects; storageDB keeps no cache of tries, so handles opened on the same root never share a mutable trie
  612237959989873,  -- guards src/storage/account/accountdatasource.go NewDatabase [] — branch conditions (locals blanked) of NewDatabase in source order, as followed by the model
  1458558267746951,  -- fields src/storage/account/accountdatasource.go storageDB [db *trie.NodeDatabase; mu sync.Mutex; codeSizeCache *lru.Cache; codeCache *fastcache.Cache] — field list of storageDB: a state handle (AccountDB on a root) owns its trie and objects; storageDB keeps no cache of tries, so handles opened on the same root never share a mutable trie
  4366626866693257,  -- guards src/storage/account/accountdatasource.go storageDB.CopyTrie [] — branch conditions (locals blanked) of storageDB.CopyTrie in source order, as followed by the model
  74665269401649,  -- guards src/storage/account/accountdatasource.go storageDB.OpenStorageTrie [] — branch conditions (locals blanked) of storageDB.OpenStorageTrie in source order, as followed by the model
  34068632992642,  -- guards src/storage/account/accountdatasource.go storageDB.OpenTrie [_ != nil] — branch conditions (locals blanked) of storageDB.OpenTrie in source order, as followed by the model
  668383076264713,  -- fields src/storage/account/accountdb.go AccountDB [db AccountDatabase; trie Trie; accessList *accessList; accountObjectsLock *sync.Mutex; accountObjects *sync.Map; accountObjectsDirty *ast.MapType; dbErr error; refund uint64; transientStorage transientStorage; transitions transition; validRevisions *ast.ArrayType; nextRevisionID int; thash common.Hash; bhash common.Hash; txIndex int; logs *ast.MapType; logSize uint] — field list of AccountDB: a state handle (AccountDB on a root) owns its trie and objects; storageDB keeps no cache of tries, so handles opened on the same root never share a mutable trie
  627130064648257,  -- guards src/storage/account/accountdb.go NewAccountDB [_ != nil] — branch conditions (locals blanked) of NewAccountDB in source order, as followed by the model
  3369878446308394  -- bound src/vm/instructions.go opBlockhash [GetHash iff num64 >= lower && num64 < upper] — BLOCKHASH asks the node chain index only for lower <= n < BlockNumber: strictly below the executing height (Model.blockhashAsksChain, blockhash_reads_only_ancestors)
]

def accounted : List Nat := modelled ++ provedIrrelevant ++ outOfPath ++ flagsModelled ++ flagsHeldFixed ++ flagsInUninterpreted ++ processLocalAccounted ++ pinnedFacts

theorem siteKeys_eq : siteKeys = sites.map (·.key) := by
  decide +kernel

/-- the sites the model folds over still exist in the source (a vanished site means a stale model) -/
theorem modelled_sites_exist : (modelled ++ flagsModelled).all (fun k => siteKeys.contains k) = true := by
  decide +kernel

/-- every proposal-flag read on the path is pinned: the flag reads found are exactly the classified ones -/
theorem flag_reads_pinned :
    ((sites.filter (fun s => s.kind == "flag")).map (·.key)).all
      (fun k => (flagsModelled ++ flagsHeldFixed ++ flagsInUninterpreted ++ outOfPath).contains k) = true := by
  decide +kernel

/-- every process-local state access found on the execution path is one of the classified ones -/
theorem process_local_reads_pinned :
    ((sites.filter (fun s => s.kind == "global" || s.kind == "store" || s.kind == "ctx" || s.kind == "gwrite" || s.kind == "chainread")).map (·.key)).all
      (fun k => processLocalAccounted.contains k) = true := by
  -- the classified list follows the table order, so the filtered key column is a sublist of it: linear to check
  have h : ((sites.filter (fun s => s.kind == "global" || s.kind == "store" || s.kind == "ctx" || s.kind == "gwrite" || s.kind == "chainread")).map (·.key)).isSublist
      processLocalAccounted = true := by
    decide +kernel
  exact List.all_eq_true.mpr fun k hk => List.contains_iff_mem.mpr ((List.isSublist_iff_sublist.mp h).subset hk)

/-- the branch conditions, the field lists, the statement order of `VMExecutor.Execute` and the BLOCKHASH window found in the source are `pinnedFacts`, entry for entry -/
theorem order_and_bounds_pinned :
    ((sites.filter (fun s => s.kind == "order" || s.kind == "bound" || s.kind == "guards" || s.kind == "fields")).map (·.key)) = pinnedFacts := by
  decide +kernel

/-- every site is of one of the kinds the three theorems above cover, or — map range, `sync.Map.Range`, clock, float, go statement — its key is in one of the first three lists -/
theorem other_sites_classified :
    sites.all (fun s =>
      (s.kind == "global" || s.kind == "store" || s.kind == "ctx" || s.kind == "gwrite" || s.kind == "chainread")
      || s.kind == "flag"
      || (s.kind == "order" || s.kind == "bound" || s.kind == "guards" || s.kind == "fields")
      || (modelled ++ provedIrrelevant ++ outOfPath).contains s.key) = true := by
  decide +kernel

theorem key_mem_of_all_contains {α : Type} {l : List α} {p : α → Bool} {f : α → Nat} {acc : List Nat}
    (h : ((l.filter p).map f).all (fun k => acc.contains k) = true) {s : α} (hs : s ∈ l) (hp : p s = true) :
    f s ∈ acc := by
  have := List.all_eq_true.mp h (f s) (List.mem_map_of_mem (List.mem_filter.mpr ⟨hs, hp⟩))
  simpa using this

theorem sites_accounted : ∀ k ∈ siteKeys, k ∈ accounted := by
  intro k hk
  rw [siteKeys_eq] at hk
  obtain ⟨s, hs, rfl⟩ := List.mem_map.mp hk
  -- by its kind the site falls under one of the three kind-wise facts, or is one of the remaining sites
  simp only [accounted, List.mem_append]
  rcases Bool.or_eq_true_iff.mp (List.all_eq_true.mp other_sites_classified s hs) with h | hother
  · rcases Bool.or_eq_true_iff.mp h with h | hpinned
    · rcases Bool.or_eq_true_iff.mp h with hlocal | hflag
      · exact Or.inl (Or.inr (key_mem_of_all_contains process_local_reads_pinned hs hlocal))
      · have := key_mem_of_all_contains flag_reads_pinned hs hflag
        simp only [List.mem_append] at this
        rcases this with ((h | h) | h) | h <;> simp only [h, true_or, or_true]
    · refine Or.inr ?_
      rw [← order_and_bounds_pinned]
      exact List.mem_map_of_mem (List.mem_filter.mpr ⟨hs, hpinned⟩)
  · have : s.key ∈ modelled ++ provedIrrelevant ++ outOfPath := by simpa using hother
    simp only [List.mem_append] at this
    rcases this with (h | h) | h <;> simp only [h, true_or, or_true]

theorem sites_accounted_bool : siteKeys.all (fun k => accounted.contains k) = true :=
  List.all_eq_true.mpr fun k hk => List.elem_eq_true_of_mem (sites_accounted k hk)

example : processLocalAccounted ≠ [] := by decide
example : siteKeys ≠ [] := by decide
example : flagsModelled ≠ [] := by decide

end Rangers.Props.C01Sites
