import Rangers.Proofs.TrieDBContent
import Rangers.Proofs.TrieDBContentExample
import Rangers.Proofs.TrieRun
import Rangers.Proofs.TrieReload
/-!
# C03 — completeness as a statement about *content* (composition with C02)

`Props/C03.lean` proves completeness over the hash/reference structure
(`commit_complete`: same tree of blob tags).  Here the blobs are C02's collapsed
trie nodes and the reader is C02's `expand` (`resolveHash`/`expandNode` with every
reference followed): after all batches of a successful commit, every trie
(account trie, every storage trie) and every code blob that was readable below
the root through cache-then-disk is readable **with the same value from the disk
alone**; combined with C02's `expand_collapse`, a trie that `Trie.Commit` put
into the memory database reopens from disk as the very same trie, so every key
reads the same.

Remaining hypotheses, all explicit:
* `Inv s` — holds in every reachable state (`Props.C03.reachable_invariant`);
  contains `Consistent` = a hash names one blob between cache and disk;
* `blobOf : Bytes → Blob` — "the blob with this hash" is a function (no collision
  among the stored nodes), and `Functional (commitStore H t)` (C02's form of the
  same for the nodes of one trie commit);
* `NeedOk` — the abstract `need` lists cover the references of the real content
  (tie: the harness's node describer; the trace/prefix comparison would differ);
* a physical batch write is atomic and durable (the disk after the commit *is*
  `out.st.disk`): LevelDB, not proved.
-/
namespace Rangers.Props.C03Content
open Rangers Rangers.Trie Rangers.Model.TrieDB

/-- **Completeness, content level.**  After a commit that reported success,
    for every hash `hB` a reader could reach from the committed root before the
    commit: the trie below `hB` resolves from the disk alone to the same trie it
    resolved to through cache-then-disk, and a raw blob (contract code) under
    `hB` is read with the same bytes. -/
theorem state_complete_from_disk (κ : Bytes → Hash) (blobOf : Bytes → Blob) (s : St) (rootB : Bytes)
    (fuel : Nat) (out : CommitOut) (hi : Inv s) (hneed : NeedOk κ blobOf (liveLookup s))
    (hc : commit s (κ rootB) none fuel = some out) (hB : Bytes) (hreach : LiveReach s (κ rootB) (κ hB)) :
    (∀ f t, expandF (cget κ blobOf (liveLookup s)) f (.hashRef hB) = some t →
            expandF (cget κ blobOf (diskGet out.st.disk)) f (.hashRef hB) = some t) ∧
    (∀ b, rawget κ blobOf (liveLookup s) hB = some b → rawget κ blobOf (diskGet out.st.disk) hB = some b) := by
  obtain ⟨ws, g, rfl⟩ := commit_good hi hc
  have hcov := reach_on_disk hi g hreach
  rw [(commitWith_ok (failAt := none) rfl).1]
  refine ⟨fun f t ht => ?_, fun b hb => ?_⟩
  · refine commit_content_transfer hi hneed g f (.hashRef hB) t (fun r hr => ?_) ht
    cases List.mem_singleton.mp hr
    exact hcov
  · obtain ⟨hs, hb'⟩ := rawget_eq_some.mp hb
    obtain ⟨dn, hl⟩ := Option.isSome_iff_exists.mp hs
    exact rawget_eq_some.mpr ⟨Option.isSome_of_eq_some (written_disk_agrees_with_live hi g (κ hB) hcov dn hl).1, hb'⟩

/-- storage roots and code hashes named by a reachable account-leaf node are reachable:
    `state_complete_from_disk` applies to every storage trie and every code blob of the state. -/
theorem leaf_targets_reachable (κ : Bytes → Hash) (s : St) (rootB parentB targetB : Bytes) (dn : DNode)
    (hp : LiveReach s (κ rootB) (κ parentB)) (hl : liveLookup s (κ parentB) = some dn)
    (ht : κ targetB ∈ dn.need) : LiveReach s (κ rootB) (κ targetB) :=
  LiveReach.step hp hl ht

/-- **Composition with C02's reload theorem.**  A trie `t` (any minimal-form trie,
    e.g. the account trie or a storage trie after any history) whose `Trie.Commit`
    entries the live node database answers, and whose root hash is reachable from
    the committed state root, reopens **from the disk alone** as `t` itself after
    the node commit — so `TryGet` of every key returns what it returned before. -/
theorem committed_trie_reopens_from_disk (H : Bytes → Bytes) (κ : Bytes → Hash) (blobOf : Bytes → Blob)
    (s : St) (rootB : Bytes) (fuel : Nat) (out : CommitOut) (hi : Inv s)
    (hneed : NeedOk κ blobOf (liveLookup s)) (hc : commit s (κ rootB) none fuel = some out)
    (t : Trie.Node) (hwf : WF t) (hnc : Functional (commitStore H t))
    (hstored : ∀ h cn, (commitStore H t).lookup h = some cn → cget κ blobOf (liveLookup s) h = some cn)
    (hreach : LiveReach s (κ rootB) (κ (H (enc H t)))) :
    expandF (cget κ blobOf (diskGet out.st.disk)) (2 * height t + 2) (.hashRef (H (enc H t))) = some t ∧
    ∀ t', expandF (cget κ blobOf (diskGet out.st.disk)) (2 * height t + 2) (.hashRef (H (enc H t))) = some t' →
      ∀ key, Trie.lookup t' key = Trie.lookup t key := by
  have hre : Trie.reload H t = some t := reload_eq H t (Or.inr hwf) hnc
  have hr : Trie.reload H t = Trie.expand (commitStore H t) (2 * height t + 2) (.hashRef (H (enc H t))) := by
    cases t with
    | nil => exact absurd hwf not_WF_nil
    | _ => rfl
  rw [hr, expand_eq_expandF] at hre
  have hlive : expandF (cget κ blobOf (liveLookup s)) (2 * height t + 2) (.hashRef (H (enc H t))) = some t :=
    expandF_transfer _ _ (fun _ => True) (fun h _ cn hcn => ⟨hstored h cn hcn, fun _ _ => trivial⟩)
      _ _ _ (fun _ _ => trivial) hre
  have hdisk := (state_complete_from_disk κ blobOf s rootB fuel out hi hneed hc _ hreach).1 _ _ hlive
  refine ⟨hdisk, fun t' ht' key => ?_⟩
  rw [hdisk] at ht'
  cases ht'
  rfl

/-! ## non-vacuity: a one-leaf trie committed to an empty store

`exH` stands for the hash function (any function will do: a commit of a single
node cannot collide), `exT` is the trie after `Update([1],[2])`, the memory cache
holds its only node. -/

example : ∃ out, commit exS (exK exRoot) none 2 = some out ∧ out.ok = true ∧ out.st.cache = [] := ⟨_, rfl, rfl, rfl⟩

example : WF exT ∧ Functional (commitStore exH exT) ∧ LiveReach exS (exK exRoot) (exK (exH (enc exH exT))) := by
  refine ⟨?_, ?_, LiveReach.root rfl⟩
  · exact ((represents_run [.upd [1] [2]]).wf).resolve_left nofun
  · intro e1 h1 e2 h2 _
    have hs : commitStore exH exT = [(exH (enc exH exT), collapse exH exT)] := rfl
    rw [hs] at h1 h2
    rw [List.mem_singleton.mp h1, List.mem_singleton.mp h2]

example : NeedOk exK exBlob (liveLookup exS) := by
  intro h dn cn _ hb r hr
  unfold exBlob at hb
  split at hb
  · cases hb
    rw [show refsC (collapse exH exT) = [] from rfl] at hr
    cases hr
  · cases hb

example : ∀ h cn, (commitStore exH exT).lookup h = some cn → cget exK exBlob (liveLookup exS) h = some cn := by
  intro h cn hl
  have hs : commitStore exH exT = [(exRoot, collapse exH exT)] := rfl
  rw [hs, List.lookup_cons] at hl
  by_cases hh : h = exRoot
  · subst hh
    rw [beq_self_eq_true] at hl
    cases hl
    exact cget_eq_some.mpr ⟨rfl, if_pos rfl⟩
  · rw [beq_false_of_ne hh] at hl
    cases hl

end Rangers.Props.C03Content
