import Mathlib.Data.ZMod.Basic
import Rangers.Model.Shamir
/-!
# C13 — `round1.Update`: block signature and random beacon are produced together

Theorems about `Model.Shamir.round1Update` (tied to the source by the regenerated fact
`round1_update_tail_pinned` and, for the generators it calls, by the `gen`/`lgen` streams).
-/
namespace Rangers.Props.C13Round
open Rangers.Model.Shamir

variable {G : Type}

/-- A piece that fails a guard, or carries a nil beacon share, changes nothing. -/
theorem round1_unchecked_is_noop (ops : Ops G) (r : Nat) (isValid : G → Bool) (st : Round1 G) (id : Nat)
    (sig rsig : Option G) (checked : Bool) (cg cr : Choice (Nat × Option G))
    (h : checked = false ∨ rsig = none) :
    round1Update ops r isValid st id sig rsig checked cg cr = .ok st := by
  unfold round1Update
  rcases h with h | h <;> simp [h]

/-- For all inputs, after a step that does not panic:
    * the block-signature generator is exactly what `AddWitnessSign` makes of it;
    * `canProcessed` never goes back;
    * if this step set `canProcessed`, the header fields are the two generators' group signatures of
      this very step, and both generators reported `generated`;
    * if the block-signature share was not added, the beacon generator and the header are untouched. -/
theorem round1_update_structure (ops : Ops G) (r : Nat) (isValid : G → Bool) (st st' : Round1 G) (id : Nat)
    (sig : Option G) (rs : G) (cg cr : Choice (Nat × Option G))
    (h : round1Update ops r isValid st id sig (some rs) true cg cr = .ok st') :
    (∃ add gen, addWitnessSign ops r isValid st.g id sig cg = .ok (st'.g, add, gen) ∧
      (add = false → st'.r = st.r ∧ st'.blockSig = st.blockSig ∧ st'.blockRandom = st.blockRandom ∧
        st'.canProcessed = st.canProcessed) ∧
      (add = true → ∃ radd rgen, addWitnessSign ops r isValid st.r id (some rs) cr = .ok (st'.r, radd, rgen) ∧
        ((radd && gen && rgen) = true →
          st'.canProcessed = true ∧ st'.blockSig = st'.g.groupSign ∧ st'.blockRandom = st'.r.groupSign) ∧
        ((radd && gen && rgen) = false →
          st'.canProcessed = st.canProcessed ∧ st'.blockSig = st.blockSig ∧ st'.blockRandom = st.blockRandom))) ∧
    (st.canProcessed = true → st'.canProcessed = true) := by
  unfold round1Update at h
  simp only [Bool.not_true, Option.isNone_some, Bool.or_self, Bool.false_eq_true, if_false] at h
  cases hg : addWitnessSign ops r isValid st.g id sig cg with
  | panic => rw [hg] at h; cases h
  | ok res =>
    obtain ⟨g', add, gen⟩ := res
    rw [hg] at h
    cases add with
    | false =>
      obtain rfl := Res.ok.inj h
      refine ⟨⟨false, gen, rfl, fun _ => ⟨rfl, rfl, rfl, rfl⟩, ?_⟩, fun h => h⟩
      exact fun hadd => nomatch hadd
    | true =>
      cases hr : addWitnessSign ops r isValid st.r id (some rs) cr with
      | panic => rw [hr] at h; cases h
      | ok res2 =>
        obtain ⟨r', radd, rgen⟩ := res2
        rw [hr] at h
        cases hc : (radd && gen && rgen) with
        | true =>
          obtain rfl := Res.ok.inj ((if_pos hc).symm.trans h)
          refine ⟨⟨true, gen, rfl, ?_, fun _ => ⟨radd, rgen, rfl, ?_, ?_⟩⟩, fun _ => rfl⟩
          · exact fun hadd => nomatch hadd
          · exact fun _ => ⟨rfl, rfl, rfl⟩
          · exact fun hf => nomatch hc.symm.trans hf
        | false =>
          obtain rfl := Res.ok.inj ((if_neg (hc ▸ Bool.false_ne_true)).symm.trans h)
          refine ⟨⟨true, gen, rfl, ?_, fun _ => ⟨radd, rgen, rfl, ?_, ?_⟩⟩, fun h => h⟩
          · exact fun hadd => nomatch hadd
          · exact fun ht => nomatch hc.symm.trans ht
          · exact fun _ => ⟨rfl, rfl, rfl⟩

/-- Feed a list of checked arrivals `(id, blockShare, beaconShare)` with identity choices. -/
def feedRound (ops : Ops G) (r : Nat) (isValid : G → Bool) : Round1 G → List (Nat × G × G) → Res (Round1 G)
  | st, [] => .ok st
  | st, (x, s, rs) :: rest =>
    match round1Update ops r isValid st x (some s) (some rs) true ⟨id, [], id⟩ ⟨id, [], id⟩ with
    | .panic => .panic
    | .ok st' => feedRound ops r isValid st' rest

/-- What the header shows after a run (`none` = panic). -/
def header : Res (Round1 G) → Option (Option G × Option G × Bool)
  | .ok st => some (st.blockSig, st.blockRandom, st.canProcessed)
  | .panic => none

/-- `ZMod 13` as its own module (the concrete instance for the examples). -/
def zops13 : Ops (ZMod 13) := ⟨(· + ·), fun g k => (k : ZMod 13) * g⟩

/-- non-vacuity / order independence on a concrete group (`r = 13`, threshold 2, member keys
    `f(1) = 10`, `f(15) = f(2) = 3`, `f(3) = 9` of `f = 4 + 6X`; block point 2, beacon point 5): whichever
    two members answer first, in whichever order, with a repeated sender in between, the header gets
    block signature `4·2 = 8` and beacon `4·5 = 7`, exactly when the second distinct member arrives. -/
example :
    feedRound zops13 13 (fun _ => true) (Round1.start 2) [(1, 10 * 2, 10 * 5)] =
      .ok ⟨⟨2, [(1, some 7)], none⟩, ⟨2, [(1, some 11)], none⟩, none, none, false⟩ ∧
    header (feedRound zops13 13 (fun _ => true) (Round1.start 2)
      [(1, 10 * 2, 10 * 5), (1, 10 * 2, 10 * 5), (15, 3 * 2, 3 * 5), (3, 9 * 2, 9 * 5)]) = some (some 8, some 7, true) ∧
    header (feedRound zops13 13 (fun _ => true) (Round1.start 2)
      [(3, 9 * 2, 9 * 5), (15, 3 * 2, 3 * 5)]) = some (some 8, some 7, true) := by
  decide +kernel

end Rangers.Props.C13Round
