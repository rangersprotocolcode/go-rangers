import Rangers.Generated.C09Facts
/-!
# C09, part 6 — the parsers' call sites (T-gen): "never crashes the process" tied where the bytes arrive

`parse_total_*` show that the parsers themselves return an object or an error. These obligations record
what the *callers* outside package `types` do with that answer, re-read from the source on every run:
a new call site, a dropped error check or a new unchecked use changes the generated list and breaks one.
An entry of `parserCallSites` is (area, callee, status): area 1 the p2p receive path, 2 consensus/net, 3 local
storage / rpc; callee below 10 an `UnMarshalX`, above 10 a raw converter `PbToX`; status 0 the error is tested
right after the call, 1 it is discarded, 2 the result is used as it comes.
-/
namespace Rangers.Props.C09
open Rangers.Generated.C09

/-- On the p2p receive path (network/, core/msg_handler.go, core/sync_msg.go) every `UnMarshalX` call tests
    its error before using the result (`TransactionGotMsg`, `newBlockHandler`). -/
theorem p2p_unmarshal_sites_check_error :
    (parserCallSites.filter (fun s => s.1 == 1 && s.2.1 < 10)).all (fun s => s.2.2 == 0) = true := by decide

/-- There *are* such sites (the obligation above is not vacuous). -/
theorem p2p_unmarshal_sites_present :
    (parserCallSites.filter (fun s => s.1 == 1 && s.2.1 < 10)).length = 2 := by decide

/-- The consensus decoders (`consensus/net/msg_decode.go`) use converter results as they come; they are only
    entered through `MessageHandler.Handle`, which defers a `recover()`. -/
theorem consensus_entry_recovers : consensusHandlerRecovers = true := by decide

/-- Inventory of the raw converter calls (`PbToX`, no error result) on the p2p receive path. All four sit in
    core/sync_msg.go (chain-piece, block-response, group-response decoders) and use the result unchecked:
    `PbToBlockHeader`/`PbToBlock` may return a nil header there for a message whose times do not decode.
    Recorded so that a new unchecked use (or a repair) is noticed; see design/C09.md, "leads not replayed". -/
theorem p2p_converter_sites_inventory :
    parserCallSites.filter (fun s => s.1 == 1 && s.2.1 > 10) = [(1, 11, 2), (1, 11, 2), (1, 12, 2), (1, 13, 2)] := by
  decide

/-- Local storage / rpc callers: the only discarded errors are the three known ones
    (transaction_pool.GetTransaction, ensureChainConsistency ×2); everything else tests the error. -/
theorem local_sites_discarded_errors :
    (parserCallSites.filter (fun s => s.2.2 == 1)).length = 3 ∧
    (parserCallSites.filter (fun s => s.1 == 3 && s.2.2 == 2)).length = 0 := by decide

/-- The codec and the identifying hashes read no fork configuration: their behaviour is the same under
    every proposal schedule and block height (so the dev-config harness run covers mainnet/robin too). -/
theorem codec_reads_no_fork_flags : forkFlagReads = 0 := by decide

/-- The conversions are sequential: no function on the codec path starts a goroutine, so a returned list
    is complete when the call returns (the model's converters are plain structural recursions over the list,
    proved for every length; a "parallel for speed" rewrite has to come back through this obligation). -/
theorem codec_starts_no_goroutines : goStatements = 0 := by decide

end Rangers.Props.C09
