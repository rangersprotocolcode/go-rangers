import Rangers.Model.Evm11Interp
import Rangers.Generated.Evm11Tables
import Rangers.Props.C11
import Rangers.Props.C11B
import Rangers.Proofs.Evm11DynGas
import Rangers.Proofs.Evm11Step
/-!
# C11 — EVM execution is total and resource-bounded: the interpreter loop and the frames

One induction on fuel (`run_main`) shows that a frame returns at most its gas and, given more than `2·gas + stack height`
fuel, does not run out of it. Its step is `iter_ok`: what one iteration of the loop does to the frame, from `stepPre_ok`, `execOp_ok`,
`dynGas_ok` (`Proofs/Evm11Step.lean`, `Evm11DynGas.lean`), the table facts of `Props/C11.lean` (`EntryOk`) and, for an
operation that starts a frame, the same claim for the callee (`GoodRun`), which the entry points `evmCall`, `evmCreate`,
`evmAuthCall` hand on (`OneFrame`). `reqGas` of this namespace is declared in `Proofs/Evm11Step.lean`.
-/
namespace Rangers.Props.C11C
open Rangers.Evm11 Rangers.Props.C11 Rangers.Props.C11B
open Rangers.Proofs.Evm11

/-
Restatements under this module's names of lemmas of `Proofs/Evm11Step.lean` and `Proofs/Evm11DynGas.lean` (the `protected`
ones, with explicit arguments), and what `dynGas_ok`, `execOp_ok`, `logGas_fee` say of single operations. `bin/check C11`
audits them with the other theorems of this module. The proofs from `stepPre_fault` on use the lemmas of
`Rangers.Proofs.Evm11` themselves and nothing of this block.
-/
protected theorem writeBytes_size (d : BA) (off : Nat) (val : BA) (n : Nat) : (writeBytes d off val n).size = d.size :=
  Proofs.Evm11.writeBytes_size d off val n

protected theorem memWrite_size (m : Mem) (off size : Nat) (val : BA) : (memWrite m off size val).size = m.size :=
  Proofs.Evm11.memWrite_size m off size val

protected theorem memWrite_last (m : Mem) (off size : Nat) (val : BA) :
    (memWrite m off size val).lastGasCost = m.lastGasCost :=
  Proofs.Evm11.memWrite_last m off size val

protected theorem execOp_upd (cx : Ctx) (ro : Bool) (e : Exec) (fr : Frame) (args : List Word) (g : Global) (cgt : Nat)
    (u : Upd) (_hargs : args.length = e.pops) (h : execOp cx ro e fr args g cgt = .upd u) : UpdOk e fr u :=
  Proofs.Evm11.execOp_upd h

protected theorem stepPre_ok (cx : Ctx) (ro : Bool) (fr : Frame) (g : Global) (info : OpInfo) (fr1 : Frame)
    (args : List Word) (g1 : Global) (cgt : Nat)
    (h : stepPre cx ro fr g = .ok info fr1 args g1 cgt) : PreOk cx fr g info fr1 args g1 cgt :=
  Proofs.Evm11.stepPre_ok h

protected theorem wadd_le (a b : Nat) : wadd a b ≤ a + b := Proofs.Evm11.wadd_le a b

protected theorem wadd_lt (a b : Nat) : wadd a b < 2 ^ 64 := Proofs.Evm11.wadd_lt a b

protected theorem safeAdd_ok {a b : Nat} (h : (safeAdd a b).2 = false) : (safeAdd a b).1 = a + b :=
  Proofs.Evm11.safeAdd_ok (ne_true_of_eq_false h)

protected theorem magnify_ge {p26 : Bool} {gas r : Nat} (h : magnify p26 gas = some r) : gas ≤ r :=
  Proofs.Evm11.magnify_ge h

theorem logGas_ge {p26 : Bool} {n : Nat} {m m' : Mem} {ms : Nat} {req r : Nat}
    (h : logGas p26 n m ms req = some (r, m')) : 375 ≤ r :=
  have ⟨_, _, hle⟩ := logGas_fee h
  Nat.le_trans (Nat.le_add_left _ _) hle

protected theorem bitLen_le (x : Nat) : bitLen (x % W256) ≤ 256 := Proofs.Evm11.bitLen_le x

protected theorem expGas_ge {p26 : Bool} {per : Nat} {e r : Nat} (hper : per ≤ 50) (h : expGas p26 per e = some r) :
    10 ≤ r :=
  Proofs.Evm11.expGas_ge hper h

theorem safeAdd_lt (a b : Nat) : (safeAdd a b).1 < 2 ^ 64 := Proofs.Evm11.wadd_lt a b

theorem dynGas_call (gc : GasCfg) (f : DynFn) (s : List Word) (m m' : Mem) (ms gas self : Nat) (g g' : Global)
    (cost cgt gas2 : Nat) (_hgas : gas < 2 ^ 64)
    (h : dynGas gc f s m ms gas self g = .ok cost m' g' cgt) (_hu : useGas gas cost = some gas2) :
    (f = .call ∨ f = .callcode → cgt ≤ cost ∧ (back s 2 ≠ 0 → cgt + 9000 ≤ cost)) ∧
    (f = .delegatecall ∨ f = .staticcall → cgt ≤ cost) := by
  have hfwd := (dynGas_ok h).fwd
  exact ⟨fun hf => ⟨by omega, (dynGas_ok h).value hf⟩, fun _ => by omega⟩

theorem dynGas_authcall_cgt (gc : GasCfg) (s : List Word) (m m' : Mem) (ms gas self : Nat) (g g' : Global)
    (cost cgt : Nat) (h : dynGas gc .authcall s m ms gas self g = .ok cost m' g' cgt) : cgt ≤ cost :=
  Nat.le_trans (Nat.le_add_right _ _) (dynGas_ok h).fwd

theorem execOp_invoke_authcall (cx : Ctx) (ro : Bool) (fr : Frame) (args : List Word) (g : Global) (cgt : Nat)
    (r : Req) (d : Nat) (g' : Global) (h : execOp cx ro .authcall fr args g cgt = .invoke r d g') :
    d = 0 ∧ reqGas r = cgt :=
  Proofs.Evm11.execOp_invoke h

theorem execOp_invoke_call (cx : Ctx) (ro : Bool) (k : CallKind) (fr : Frame) (args : List Word) (g : Global) (cgt : Nat)
    (r : Req) (d : Nat) (g' : Global) (h : execOp cx ro (.call k) fr args g cgt = .invoke r d g') :
    d = 0 ∧ (∃ a v i ro rs io, r = .call k a v i (reqGas r) ro rs io) ∧
    (reqGas r = cgt ∨ (reqGas r = wadd cgt 2300 ∧ (k = .call ∨ k = .callcode) ∧ args.getD 2 0 ≠ 0)) := by
  have hs : ∃ a v i ro rs io, r = .call k a v i (reqGas r) ro rs io := by
    cases k <;> (conv at h => lhs; whnf) <;> split at h <;> cases h <;> exact ⟨_, _, _, _, _, _, rfl⟩
  rcases (Proofs.Evm11.execOp_invoke h).cases with ⟨he | he, _⟩ | ⟨_, ⟨⟩, hd, hg⟩ | ⟨he, _⟩ <;> try cases he
  exact ⟨hd, hs, hg⟩

theorem execOp_invoke_create0 (cx : Ctx) (ro : Bool) (e : Exec) (he : e = .create ∨ e = .create2) (fr : Frame) (args : List Word) (g : Global) (cgt : Nat)
    (r : Req) (d : Nat) (g' : Global) (h : execOp cx ro e fr args g cgt = .invoke r d g') :
    d = wsub fr.gas (fr.gas / 64) ∧ (∃ s v i, r = .create s v i d) := by
  rcases he with rfl | rfl <;> (conv at h => lhs; whnf) <;> split at h <;> cases h <;> exact ⟨rfl, _, _, _, rfl⟩

theorem execOp_invoke_create (cx : Ctx) (ro : Bool) (e : Exec) (he : e = .create ∨ e = .create2) (fr : Frame) (args : List Word) (g : Global) (cgt : Nat)
    (r : Req) (d : Nat) (g' : Global) (h : execOp cx ro e fr args g cgt = .invoke r d g') :
    d = wsub fr.gas (fr.gas / 64) ∧ reqGas r = d ∧ (∃ s v i, r = .create s v i d) := by
  obtain ⟨h1, h3⟩ := execOp_invoke_create0 cx ro e he fr args g cgt r d g' h
  have hi := Proofs.Evm11.execOp_invoke h
  rcases he with rfl | rfl <;> exact ⟨h1, hi.2, h3⟩

protected theorem execOp_invoke (cx : Ctx) (ro : Bool) (e : Exec) (fr : Frame) (args : List Word) (g : Global) (cgt : Nat)
    (r : Req) (d : Nat) (g' : Global) (h : execOp cx ro e fr args g cgt = .invoke r d g') :
    InvokeOk e fr args cgt r d :=
  Proofs.Evm11.execOp_invoke h

protected theorem execOp_fault (cx : Ctx) (ro : Bool) (e : Exec) (fr : Frame) (args : List Word) (g : Global) (cgt : Nat)
    (f : Fault) (g' : Global) (h : execOp cx ro e fr args g cgt = .fault f g') : f ≠ .outOfFuel :=
  Proofs.Evm11.execOp_fault h

/-- what `iter_ok` needs of the fault list, which `C11D.stepPre_faults` states in full -/
theorem stepPre_fault (cx : Ctx) (ro : Bool) (fr : Frame) (g g' : Global) (e : Fault)
    (h : stepPre cx ro fr g = .fault e g') : e ≠ .outOfFuel ∧ e ≠ .stackBug := by
  have := stepPre_spec cx ro fr g
  rw [h] at this
  rcases this with rfl | rfl | rfl | rfl | rfl | rfl | ⟨k, rfl⟩ <;> exact ⟨nofun, nofun⟩

/-- The facts of `Props.C11` about one entry, each field from one sweep of the tables (`gen_tables_ok`). The proofs read
    `stack`, `costs`, `grow`, `callCosts`, `callDyn`, `memPaid`. -/
structure EntryOk (o : OpInfo) : Prop where
  known : entryKnown o = true
  stack : o.minStack = o.exec.pops ∧ o.maxStack + o.exec.pushes = 1024 + o.exec.pops
  costs : entryCosts o = true
  grow : o.exec.pushes ≤ o.exec.pops + 1
  callCosts : entryCallCosts o = true
  dupSwap : entryDupSwap o = true
  callDyn : entryCallDyn o = true
  memPaid : entryMemPaid o = true
  argsBelow : memArgsBelow o.minStack o.mem = true ∧ dynArgsBelow o.minStack o.dyn = true
  flags : entryFlags o = true

/-- all that the theorems about the loop know of the jump table -/
def TableOk (t : JumpTable) : Prop := ∀ op info, t.getD op none = some info → EntryOk info

theorem getD_mem {α} (t : Array (Option α)) (i : Nat) (x : α) (h : t.getD i none = some x) : some x ∈ t.toList := by
  unfold Array.getD at h
  split at h
  · rw [← h]; simp
  · cases h

theorem tableOf_mem (a b c : Bool) : Gen.tableOf a b c ∈ Gen.allTables := by
  cases a <;> cases b <;> cases c <;> simp [Gen.tableOf, Gen.allTables]

theorem gen_tables_ok (a b c : Bool) : TableOk (Gen.tableOf a b c) := by
  intro op info h
  have hm := getD_mem _ _ _ h
  have ht := tableOf_mem a b c
  exact {
    known := allEntries_spec table_known _ ht _ hm
    stack := by simpa [entryStackOk] using allEntries_spec table_stack_consistent _ ht _ hm
    costs := allEntries_spec nonhalting_costs _ ht _ hm
    grow := by simpa using allEntries_spec pushes_at_most_one_more _ ht _ hm
    callCosts := allEntries_spec calls_cost _ ht _ hm
    dupSwap := allEntries_spec dup_swap_range _ ht _ hm
    callDyn := allEntries_spec calls_priced_by_their_gas_function _ ht _ hm
    memPaid := allEntries_spec memory_users_pay_memory _ ht _ hm
    argsBelow := by simpa using allEntries_spec table_args_in_range _ ht _ hm
    flags := allEntries_spec flags_as_transcribed _ ht _ hm }

/-- What is claimed of the result of a frame that started with `gas0`: at most that much gas is left and, where `F`
    holds, the fuel has not run out. `F` stands for "enough fuel"; the induction puts `2·gas + stack height < fuel`. -/
def RunOk (F : Prop) (gas0 : Nat) (r : RunRes) : Prop :=
  r.gas ≤ gas0 ∧ (F → r.err ≠ some .outOfFuel)

/-- The claim about nested frames, the induction hypothesis of `run_main`: every frame with an empty stack and at most
    `G` gas, which is what an entry point starts, ends under `run` within `RunOk`. -/
def GoodRun (F : Prop) (run : Runner) (G : Nat) : Prop :=
  ∀ d ro fr g, fr.gas ≤ G → fr.stack = [] → RunOk F fr.gas (run d ro fr g)

/-- `RunOk` of what an entry point (`evm.Call` …, `create`, `AuthCall`) returns to the calling frame -/
def GoodRes (F : Prop) (gas : Nat) (c : CallRes) : Prop := c.gas ≤ gas ∧ (F → c.err ≠ some .outOfFuel)

variable {F : Prop}

theorem GoodRes.ite {gas : Nat} {c : Prop} [Decidable c] {a b : CallRes} (ha : GoodRes F gas a) (hb : GoodRes F gas b) :
    GoodRes F gas (if c then a else b) := by
  split <;> assumption

theorem runContract_good {run : Runner} {G : Nat} (hr : GoodRun F run G) (depth : Nat) (ro : Bool) (fr : Frame)
    (g : Global) (hg : fr.gas ≤ G) (hs : fr.stack = []) :
    (runContract run depth ro fr g).gas ≤ fr.gas ∧ (F → (runContract run depth ro fr g).err ≠ some .outOfFuel) := by
  unfold runContract
  simp only
  split
  · exact ⟨by simp, fun _ => by simp⟩
  · exact hr _ _ _ _ hg hs

theorem finishCallRes_good (snap : String) (ret : BA) (rgas gas : Nat) (err : Option Fault) (g : Global)
    (h : rgas ≤ gas ∧ (F → err ≠ some .outOfFuel)) : GoodRes F gas (finishCallRes snap ret rgas err g) := by
  unfold finishCallRes GoodRes
  obtain ⟨h1, h2⟩ := h
  split
  · exact ⟨h1, h2⟩
  · rename_i e
    split
    · exact ⟨h1, h2⟩
    · split
      · exact ⟨h1, fun _ => by simp⟩
      · simp only
        constructor
        · split <;> omega
        · exact h2

theorem runPrecompile_good (addr : Nat) (input : BA) (gas : Nat) (g : Global) :
    GoodRes F gas (runPrecompile addr input gas g) := by
  unfold runPrecompile
  simp only
  -- `with_reducible`: `GoodRes.ite` is to fire on a syntactic `if` only; the `match`es are left to `split`
  repeat' first | with_reducible apply GoodRes.ite | split
  all_goals (first | exact ⟨Nat.zero_le _, fun _ => by simp⟩ | exact ⟨Nat.sub_le _ _, fun _ => by simp⟩)

theorem createDeposit_good (p26 : Bool) (address : Nat) (r : RunRes) (gas : Nat)
    (h : r.gas ≤ gas) : GoodRes F gas (createDeposit p26 address r) := by
  unfold createDeposit GoodRes
  simp only
  split
  · rename_i gasLeft hu
    have := useGas_spec hu
    split
    · simp only; exact ⟨by omega, fun _ => by simp⟩
    · simp only; exact ⟨h, fun _ => by simp⟩
  · simp only; exact ⟨h, fun _ => by simp⟩

theorem createRevert_good (address : Nat) (snap : String) (tooBig : Bool) (r : RunRes) (gas : Nat)
    (h : r.gas ≤ gas ∧ (F → r.err ≠ some .outOfFuel)) : GoodRes F gas (createRevert address snap tooBig r) := by
  obtain ⟨h1, h2⟩ := h
  unfold createRevert GoodRes
  split
  · simp only; exact ⟨h1, fun _ => by simp⟩
  · simp only
    constructor
    · split <;> omega
    · split
      · exact fun _ => by simp
      · exact h2

theorem createFinish_good (p26 : Bool) (address : Nat) (snap : String) (r : RunRes) (gas : Nat)
    (h : r.gas ≤ gas ∧ (F → r.err ≠ some .outOfFuel)) : GoodRes F gas (createFinish p26 address snap r) := by
  unfold createFinish
  simp only
  split
  · exact h
  · split
    · exact createDeposit_good _ _ _ _ h.1
    · exact createRevert_good _ _ _ _ _ h

/-- What an entry point (`evm.Call` …, `create`, `AuthCall`) that is given `gas` at `depth` does with the runner of nested
    frames: nothing, or — only below the depth limit — it runs one fresh frame that holds all the gas, read-only if `ro`,
    and hands the frame's result to `post`. The index is the entry point as a function of the runner, so that `const` can
    say that the runner is not consulted. -/
inductive OneFrame (gas depth : Nat) (ro : Bool) : (Runner → CallRes) → Prop
  | const {c : CallRes} (h : GoodRes True gas c) : OneFrame gas depth ro (fun _ => c)
  | frame {code : BA} {self caller : Nat} {value : Word} {input : BA} {g : Global} (post : RunRes → CallRes)
      (hd : depth ≤ 1024) (hpost : ∀ F r, RunOk F gas r → GoodRes F gas (post r)) :
      OneFrame gas depth ro (fun run => post (runContract run depth ro (mkFrame code gas self caller value input) g))

section
variable {gas depth : Nat} {ro : Bool} {f : Runner → CallRes}

theorem OneFrame.good (h : OneFrame gas depth ro f) {run : Runner} {G : Nat} (hr : GoodRun F run G) (hg : gas ≤ G) :
    GoodRes F gas (f run) := by
  cases h with
  | const h => exact ⟨h.1, fun _ => h.2 trivial⟩
  | frame post hd hpost => exact hpost F _ (runContract_good hr depth ro _ _ hg rfl)

theorem OneFrame.congr (h : OneFrame gas depth ro f) {run run' : Runner}
    (hrr : depth ≤ 1024 → ∀ fr g, runContract run depth ro fr g = runContract run' depth ro fr g) : f run = f run' := by
  cases h with
  | const h => rfl
  | frame post hd hpost => exact congrArg post (hrr hd _ _)

theorem OneFrame.ite {c : Prop} [Decidable c] {a b : Runner → CallRes}
    (ha : c → OneFrame gas depth ro a) (hb : ¬ c → OneFrame gas depth ro b) :
    OneFrame gas depth ro (fun run => if c then a run else b run) := by
  split
  · exact ha ‹_›
  · exact hb ‹_›

end

/-- The flag is `k == .staticcall || ro` in this order: for each of the four kinds it reduces to `true` or to `ro`. -/
theorem evmCall_oneFrame {depth : Nat} {ro : Bool} {k : CallKind} {cs cc : Nat} {cv : Word} {addr : Nat} {value : Word}
    {input : BA} {gas : Nat} {g : Global} :
    OneFrame gas depth (k == .staticcall || ro) (fun run => evmCall run depth ro k cs cc cv addr value input gas g) := by
  unfold evmCall
  simp only
  -- `with_reducible` as in `runPrecompile_good`; every leaf is a constant or one `runContract`
  repeat' first | (with_reducible refine OneFrame.ite (fun _ => ?_) (fun _ => ?_)) | split
  all_goals first
    | exact .const ⟨Nat.le_refl _, fun _ => nofun⟩
    | exact .const (finishCallRes_good _ _ _ _ _ _ (runPrecompile_good _ _ _ _))
    | exact .frame (fun r => finishCallRes _ r.ret r.gas r.err r.g) (Nat.le_of_not_gt ‹_›)
        (fun F r h => finishCallRes_good _ _ _ _ _ _ h)

theorem evmCreate_oneFrame {cx : Ctx} {depth : Nat} {ro : Bool} {cs : Nat} {salt : Option Word} {value : Word} {init : BA}
    {gas : Nat} {g : Global} :
    OneFrame gas depth ro (fun run => evmCreate cx run depth ro cs salt value init gas g) := by
  unfold evmCreate
  simp only
  repeat' first | (with_reducible refine OneFrame.ite (fun _ => ?_) (fun _ => ?_)) | split
  all_goals first
    | exact .const ⟨Nat.le_refl _, fun _ => nofun⟩
    | exact .const ⟨Nat.zero_le _, fun _ => nofun⟩
    | exact .frame (createFinish _ _ _) (Nat.le_of_not_gt ‹_›) (fun F r h => createFinish_good _ _ _ _ _ h)

theorem evmAuthCall_oneFrame {cx : Ctx} {depth : Nat} {ro : Bool} {auth addr : Nat} {value : Word} {input : BA}
    {gas : Nat} {g : Global} :
    OneFrame gas depth ro (fun run => evmAuthCall cx run depth ro auth addr value input gas g) := by
  unfold evmAuthCall
  simp only
  repeat' first | (with_reducible refine OneFrame.ite (fun _ => ?_) (fun _ => ?_)) | split
  all_goals first
    | exact .const ⟨Nat.le_refl _, fun _ => nofun⟩
    | exact .const (finishCallRes_good _ _ _ _ _ _ (runPrecompile_good _ _ _ _))
    | exact .frame (fun r => finishCallRes _ r.ret r.gas r.err r.g) (Nat.le_of_not_gt ‹_›)
        (fun F r h => finishCallRes_good _ _ _ _ _ _ h)

theorem evmCall_good {run : Runner} {G : Nat} (hr : GoodRun F run G) (depth : Nat) (ro : Bool) (k : CallKind)
    (cs cc : Nat) (cv : Word) (addr : Nat) (value : Word) (input : BA) (gas : Nat) (g : Global) (hg : gas ≤ G) :
    GoodRes F gas (evmCall run depth ro k cs cc cv addr value input gas g) :=
  evmCall_oneFrame.good hr hg

theorem evmCreate_good {run : Runner} {G : Nat} (cx : Ctx) (hr : GoodRun F run G) (depth : Nat) (ro : Bool)
    (cs : Nat) (salt : Option Word) (value : Word) (init : BA) (gas : Nat) (g : Global) (hg : gas ≤ G) :
    GoodRes F gas (evmCreate cx run depth ro cs salt value init gas g) :=
  evmCreate_oneFrame.good hr hg

theorem evmAuthCall_good {run : Runner} {G : Nat} (cx : Ctx) (hr : GoodRun F run G) (depth : Nat) (ro : Bool)
    (auth addr : Nat) (value : Word) (input : BA) (gas : Nat) (g : Global) (hg : gas ≤ G) :
    GoodRes F gas (evmAuthCall cx run depth ro auth addr value input gas g) :=
  evmAuthCall_oneFrame.good hr hg

theorem doInvoke_good {run : Runner} {G : Nat} (cx : Ctx) (hr : GoodRun F run G) (depth : Nat) (ro : Bool)
    (fr : Frame) (r : Req) (g : Global) (hg : reqGas r ≤ G) :
    GoodRes F (reqGas r) (doInvoke cx run depth ro fr r g) := by
  cases r with
  | call k addr value input gas ro' rs io => exact evmCall_good hr _ _ _ _ _ _ _ _ _ _ _ hg
  | create salt value init gas => exact evmCreate_good cx hr _ _ _ _ _ _ _ _ hg
  | authcall auth addr value input gas ro' rs => exact evmAuthCall_good cx hr _ _ _ _ _ _ _ _ hg

theorem resume_spec (fr : Frame) (r : Req) (cr : CallRes) :
    (resume fr r cr).1.gas = wadd fr.gas cr.gas ∧ (resume fr r cr).1.stack.length = fr.stack.length + 1 := by
  cases r <;> simp [resume]

/-- writing a callee's result back never resizes the memory nor touches `lastGasCost` -/
theorem resume_mem (fr : Frame) (r : Req) (cr : CallRes) :
    (resume fr r cr).1.mem.size = fr.mem.size ∧ (resume fr r cr).1.mem.lastGasCost = fr.mem.lastGasCost := by
  cases r with
  | create s v i gas => exact ⟨rfl, rfl⟩
  | call k a v i gas ro rs io =>
    simp only [resume]
    split
    · exact ⟨memWrite_size .., memWrite_last ..⟩
    · exact ⟨rfl, rfl⟩
  | authcall au a v i gas ro rs =>
    simp only [resume]
    split
    · exact ⟨memWrite_size .., memWrite_last ..⟩
    · exact ⟨rfl, rfl⟩

theorem finishStep_ok (info : OpInfo) (cont : Frame → Global → RunRes) (fr2 : Frame) (res : BA) (g2 : Global)
    (gas0 : Nat) (F : Prop) (hg : fr2.gas ≤ gas0)
    (hc : info.reverts = false → info.halts = false →
      ∀ fr3 g3, fr3.gas = fr2.gas → fr3.stack = fr2.stack → RunOk F gas0 (cont fr3 g3)) :
    RunOk F gas0 (finishStep info cont fr2 res g2) := by
  unfold finishStep
  simp only
  by_cases hrev : info.reverts = true
  · rw [if_pos hrev]; exact ⟨hg, fun _ => nofun⟩
  rw [if_neg hrev]
  by_cases hhalt : info.halts = true
  · rw [if_pos hhalt]; exact ⟨hg, fun _ => nofun⟩
  rw [if_neg hhalt]
  apply hc (Bool.eq_false_iff.mpr hrev) (Bool.eq_false_iff.mpr hhalt)
  · split <;> rfl
  · split <;> rfl

/-- `minStack`/`maxStack` leave room for what the operation pushes (`Props.C11.table_stack_consistent`) -/
theorem stack_after {cx : Ctx} {fr : Frame} {g : Global} {info : OpInfo} {fr1 : Frame} {args : List Word} {g1 : Global}
    {cgt : Nat} (hp : PreOk cx fr g info fr1 args g1 cgt) (ha : EntryOk info) :
    info.exec.pushes + fr1.stack.length ≤ 1024 := by
  have hso := ha.stack
  have hmin := hp.minOk
  have hmax := hp.maxOk
  have hlen : fr1.stack.length = fr.stack.length - info.exec.pops := by rw [hp.stack]; simp
  omega

/-- the termination measure strictly decreases over a non-halting, non-invoking step -/
theorem phi_decreases (cx : Ctx) (fr : Frame) (g : Global) (info : OpInfo) (fr1 : Frame) (args : List Word)
    (g1 : Global) (cgt : Nat) (hp : PreOk cx fr g info fr1 args g1 cgt) (ha : EntryOk info)
    (hrev : info.reverts = false) (hhalt : info.halts = false) :
    2 * fr1.gas + (info.exec.pushes + fr1.stack.length) + 1 ≤ 2 * fr.gas + fr.stack.length := by
  have hso := ha.stack
  have hgrow := ha.grow
  have hcost := ha.costs
  obtain ⟨memorySize, cost, m', hdyn, hgas, _, _⟩ := hp.dyn
  have hmin := hp.minOk
  have hlen : fr1.stack.length = fr.stack.length - info.exec.pops := by rw [hp.stack]; simp
  unfold entryCosts at hcost
  simp only [hrev, hhalt, Bool.false_or, Bool.or_eq_true, decide_eq_true_eq] at hcost
  rcases hcost with (hc | hs) | hd
  · omega
  · -- SSTORE: free before Proposal015, removes two words
    split at hs
    · rename_i hex
      rw [hex] at hgrow hso hlen ⊢
      simp only [Exec.pops, Exec.pushes] at *
      omega
    · cases hs
  · -- EXP / LOGn: the dynamic part is at least 10 / 375
    have := (dynGas_ok hdyn).pos hd
    omega

theorem getD_take_lt (s : List Word) (n i : Nat) (h : i < n) : (s.take n).getD i 0 = s.getD i 0 := by
  simp [List.getD_eq_getElem?_getD, h]

/-- Gas accounting around a nested call / create; 100 is the least constant gas of an operation that starts a frame
    (AUTHCALL). The conjuncts, in order:
    1. `execute` can take `d` off the frame;
    2. the callee gets at least 100 less than the frame had at the head of the iteration (so `iter_ok` may apply `hrun`);
    3. what the frame keeps and what the callee gets are together below that too: the callee's leftover, at most
       `reqGas req`, brings the frame back to at most `fr.gas`;
    4., 5. one word is pushed for at least three popped;
    6. the callee's gas is `d`, or is within what the gas function charged as forwarded gas and stipend (`gas` of
       `IterOk.fin`). -/
theorem invoke_gas (cx : Ctx) (fr : Frame) (g : Global) (info : OpInfo) (fr1 : Frame) (args : List Word)
    (g1 : Global) (cgt : Nat) (req : Req) (d : Nat)
    (hp : PreOk cx fr g info fr1 args g1 cgt) (ha : EntryOk info)
    (hi : InvokeOk info.exec fr1 args cgt req d) :
    d ≤ fr1.gas ∧ reqGas req + 100 ≤ fr.gas ∧ (fr1.gas - d) + reqGas req + 100 ≤ fr.gas ∧
    info.exec.pushes = 1 ∧ 3 ≤ info.exec.pops ∧
    reqGas req ≤ d + (if usesMem info.dyn then cgt + stipendOf info.dyn fr.stack else 0) := by
  have hcc := ha.callCosts
  have hcd := ha.callDyn
  obtain ⟨memorySize, cost, m', hdyn, hgas, _, _⟩ := hp.dyn
  have hfwd := (dynGas_ok hdyn).fwd
  have hpp := hi.shape
  rcases hi.cases with ⟨he, hd, hrg⟩ | ⟨k, he, hd, hrg⟩ | ⟨he, hd, hrg⟩
  · have hw := wsub_le fr1.gas (fr1.gas / 64) (Nat.div_le_self _ _)
    have hconst : 32000 ≤ info.constGas := by
      unfold entryCallCosts at hcc
      rcases he with he | he <;> (rw [he] at hcc; simp only [Bool.and_eq_true, decide_eq_true_eq] at hcc; exact hcc.1.1.1)
    rw [hrg, hd]
    omega
  · -- the call family: the stipend is part of what `gasCall` / `gasCallCode` charged
    have hconst : 700 ≤ info.constGas := by
      unfold entryCallCosts at hcc
      rw [he] at hcc; simp only [Bool.and_eq_true, decide_eq_true_eq] at hcc; exact hcc.1.1.1
    have hdynk : (k = .call → info.dyn = .call) ∧ (k = .callcode → info.dyn = .callcode) ∧
        (k = .delegatecall → info.dyn = .delegatecall) ∧ (k = .staticcall → info.dyn = .staticcall) := by
      unfold entryCallDyn at hcd
      rw [he] at hcd
      cases k <;> simp at hcd <;> simp [hcd]
    have hum : usesMem info.dyn = true := by
      cases k
      · rw [hdynk.1 rfl]; rfl
      · rw [hdynk.2.1 rfl]; rfl
      · rw [hdynk.2.2.1 rfl]; rfl
      · rw [hdynk.2.2.2 rfl]; rfl
    rw [hd, hum, if_pos rfl]
    rcases hrg with hrg | ⟨hrg, hk, hv⟩
    · rw [hrg]
      omega
    · have hargs2 : args.getD 2 0 = back fr.stack 2 := by
        rw [hp.argsEq]; unfold back; exact getD_take_lt _ _ _ (by omega)
      rw [hargs2] at hv
      have hs : stipendOf info.dyn fr.stack = 2300 := by
        rcases hk with hk | hk
        · rw [hdynk.1 hk]; simp [stipendOf, hv]
        · rw [hdynk.2.1 hk]; simp [stipendOf, hv]
      have := wadd_le cgt 2300
      rw [hrg]
      omega
  · -- AUTHCALL: no stipend, forwarded gas is part of the dynamic cost
    have hconst : 100 ≤ info.constGas := by
      unfold entryCallCosts at hcc
      rw [he] at hcc; simp only [Bool.and_eq_true, decide_eq_true_eq] at hcc; exact hcc.1.1.1
    have hdn : info.dyn = .authcall := by
      unfold entryCallDyn at hcd
      rw [he] at hcd
      simpa using hcd
    rw [hdn] at hfwd ⊢
    rw [hd, hrg]
    simp only [usesMem, if_true]
    omega

theorem isAbortErr_outOfFuel {e : Option Fault} (h : isAbortErr e = false) : e ≠ some .outOfFuel := by
  intro he; subst he; simp [isAbortErr, Fault.isAbort] at h

/-- What one iteration does to the frame `fr` it started from (`g` is the oracle state `stepPre` sees, `F` stands for
    "enough fuel"): it ends the frame with at most the gas it had, or it leaves a frame `fr2` that stands as follows to `fr`
    and to the frame `fr1` which `stepPre` produced. The table's `maxStack` has left room for what was pushed (`stack`);
    `execute` and the write-back of a callee's result keep the size of the memory and `lastGasCost` (`size`, `last`); what a
    callee returns was charged as forwarded gas (`gas`); unless the operation halts, `2·gas + stack height` has gone down
    (`phi`). -/
inductive IterOk (F : Prop) (cx : Ctx) (ro : Bool) (fr : Frame) (g : Global) : Iter → Prop
  | done {r : RunRes} (gas : r.gas ≤ fr.gas) (err : F → r.err ≠ some .outOfFuel) : IterOk F cx ro fr g (.done r)
  | fin {info : OpInfo} {fr1 : Frame} {args : List Word} {g1 : Global} {cgt : Nat} {fr2 : Frame} {res : BA} {g2 : Global}
      (pre : stepPre cx ro fr g = .ok info fr1 args g1 cgt) (stack : fr2.stack.length ≤ 1024)
      (size : fr2.mem.size = fr1.mem.size) (last : fr2.mem.lastGasCost = fr1.mem.lastGasCost)
      (gas : fr2.gas ≤ fr1.gas + (if usesMem info.dyn then cgt + stipendOf info.dyn fr.stack else 0)) (le : fr2.gas ≤ fr.gas)
      (phi : info.reverts = false → info.halts = false → 2 * fr2.gas + fr2.stack.length < 2 * fr.gas + fr.stack.length) :
      IterOk F cx ro fr g (.fin info fr2 res g2)

/-- `hrun`: nested frames behave, for every amount of gas an operation of this frame can forward (every operation that
    starts a frame costs at least 100). -/
theorem iter_ok (cx : Ctx) (ht : TableOk cx.table) (run : Runner) (depth : Nat) (ro : Bool) (fr : Frame) (g : Global)
    (hrun : ∀ G, G + 100 ≤ fr.gas → GoodRun F run G) :
    IterOk F cx ro fr (g.observe depth fr.stack.length) (iter cx run depth ro fr g) := by
  unfold iter
  cases hpre : stepPre cx ro fr (g.observe depth fr.stack.length) with
  | fault e g' => exact .done (Nat.le_refl _) (fun _ => by simp; exact (stepPre_fault _ _ _ _ _ _ hpre).1)
  | ok info fr1 args g1 cgt =>
    dsimp only
    have hp := stepPre_ok hpre
    have ha := ht _ _ hp.entry
    obtain ⟨memorySize, cost, m', hdyn, hgas, _, _⟩ := hp.dyn
    have hf1 : fr1.gas ≤ fr.gas := by omega
    have hlen : fr1.stack.length = fr.stack.length - info.exec.pops := by rw [hp.stack]; simp
    have hroom := stack_after hp ha
    cases hex : execOp cx ro info.exec fr1 args g1 cgt with
    | fault e g2 => exact .done hf1 (fun _ => by simp; exact execOp_fault hex)
    | upd u =>
      have hu := execOp_upd hex
      refine .fin hpre (by simp only [List.length_append]; rw [hu.push]; exact hroom) hu.size hu.last (Nat.le_add_right _ _) hf1
        (fun hrev hhalt => ?_)
      have hdec := phi_decreases cx fr _ info fr1 args g1 cgt hp ha hrev hhalt
      simp only [List.length_append]
      rw [hu.push]; omega
    | invoke req deduct g2 =>
      have hi := execOp_invoke hex
      obtain ⟨hd, hchild, hback, hpush, hpops, hfwd⟩ := invoke_gas cx fr _ info fr1 args g1 cgt req deduct hp ha hi
      have hcr := doInvoke_good cx (hrun _ hchild) depth ro { fr1 with gas := fr1.gas - deduct } req g2 (Nat.le_refl _)
      dsimp only
      generalize doInvoke cx run depth ro { fr1 with gas := fr1.gas - deduct } req g2 = cr at hcr ⊢
      obtain ⟨hcg, hcf⟩ := hcr
      by_cases hab : isAbortErr cr.err = true
      · -- abort (tie / model artefacts): propagate
        rw [if_pos hab]; exact .done (by simp only; omega) hcf
      rw [if_neg hab]
      have hrs := resume_spec { fr1 with gas := fr1.gas - deduct } req cr
      have hrm := resume_mem { fr1 with gas := fr1.gas - deduct } req cr
      have hwl := wadd_le (fr1.gas - deduct) cr.gas
      simp only at hrs
      refine .fin hpre (by rw [hrs.2, Nat.add_comm, ← hpush]; exact hroom) hrm.1 hrm.2 (by rw [hrs.1]; omega) (by rw [hrs.1]; omega)
        (fun _ _ => by rw [hrs.1, hrs.2]; omega)

/-- The main induction, on fuel: the hypothesis serves the rest of the loop and every nested frame alike. The measure is
    `2·gas + stack height` and not the gas alone because SSTORE is free before Proposal015 (`phi_decreases`). -/
theorem run_main (cx : Ctx) (ht : TableOk cx.table) :
    ∀ (fuel depth : Nat) (ro : Bool) (fr : Frame) (g : Global), fr.gas < 2 ^ 64 →
      RunOk (2 * fr.gas + fr.stack.length < fuel) fr.gas (runLoop cx fuel depth ro fr g) := by
  intro fuel
  induction fuel with
  | zero => exact fun depth ro fr g _ => ⟨Nat.le_refl _, fun h => by omega⟩
  | succ fuel ih =>
    intro depth ro fr g hlt
    rw [runLoop_succ]
    -- a callee has at least 100 gas less than this frame and an empty stack: it has fuel enough if this frame has
    have hrun : ∀ G, G + 100 ≤ fr.gas → GoodRun (2 * fr.gas + fr.stack.length < fuel + 1) (runLoop cx fuel) G := by
      intro G hG d ro' fr' g' hg' hs'
      have := ih d ro' fr' g' (by omega)
      exact ⟨this.1, fun hF => this.2 (by rw [hs']; simp only [List.length_nil]; omega)⟩
    have hit := iter_ok cx ht (runLoop cx fuel) depth ro fr g hrun
    generalize iter cx (runLoop cx fuel) depth ro fr g = it at hit
    cases hit with
    | done gas err => exact ⟨gas, err⟩
    | fin pre stack size last gas le phi =>
      refine finishStep_ok _ _ _ _ _ _ _ le (fun hrev hhalt fr3 g3 hg3 hs3 => ?_)
      have hphi := phi hrev hhalt
      have := ih depth ro fr3 g3 (by omega)
      rw [hg3, hs3] at this
      exact ⟨Nat.le_trans this.1 le, fun hF => this.2 (by omega)⟩

theorem runLoop_good (cx : Ctx) (ht : TableOk cx.table) (fuel G : Nat) (hG : G < 2 ^ 64) :
    GoodRun (2 * G < fuel) (runLoop cx fuel) G := by
  intro d ro fr g hg hs
  have := run_main cx ht fuel d ro fr g (by omega)
  exact ⟨this.1, fun hF => this.2 (by rw [hs]; simp only [List.length_nil]; omega)⟩

/-- the contexts the driver builds: any of the 8 generated jump tables, any flags, any block context -/
def GenCtx (cx : Ctx) : Prop := ∃ a b c, cx.table = Gen.tableOf a b c

theorem genCtx_tableOk {cx : Ctx} (h : GenCtx cx) : TableOk cx.table := by
  obtain ⟨a, b, c, h⟩ := h
  rw [h]; exact gen_tables_ok a b c

/-- **gas_bounded (frames).** In every fork configuration, for every frame (any code, stack,
    memory, gas below 2^64), every fuel and every behaviour of the state oracle: the gas left
    when the frame ends — normally, by revert or by any fault — is at most the gas it started
    with. (With `run_main` this holds step by step: the remaining run from any intermediate
    frame returns at most that frame's gas, i.e. gas only decreases within a frame.) -/
theorem gas_bounded (cx : Ctx) (hcx : GenCtx cx) (fuel depth : Nat) (ro : Bool) (fr : Frame) (g : Global)
    (hg : fr.gas < 2 ^ 64) : (runLoop cx fuel depth ro fr g).gas ≤ fr.gas :=
  (run_main cx (genCtx_tableOk hcx) fuel depth ro fr g hg).1

/-- **gas_bounded (calls): a callee never returns more than it was given.** `evm.Call`,
    `CallCode`, `DelegateCall`, `StaticCall`, `Create`, `Create2` — nested or top level —
    return `leftOverGas ≤ gas`. -/
theorem callee_returns_at_most (cx : Ctx) (hcx : GenCtx cx) (fuel depth : Nat) (ro : Bool) (fr : Frame) (r : Req)
    (g : Global) (hg : reqGas r < 2 ^ 64) :
    (doInvoke cx (runLoop cx fuel) depth ro fr r g).gas ≤ reqGas r :=
  (doInvoke_good cx (runLoop_good cx (genCtx_tableOk hcx) fuel _ hg) depth ro fr r g (Nat.le_refl _)).1

theorem gas_bounded_topCall (cx : Ctx) (hcx : GenCtx cx) (fuel addr : Nat) (value : Word) (input : BA) (gas : Nat)
    (g : Global) (hg : gas < 2 ^ 64) : (topCall cx fuel addr value input gas g).gas ≤ gas :=
  (evmCall_good (runLoop_good cx (genCtx_tableOk hcx) fuel _ hg) 0 false .call cx.origin cx.origin 0 addr value input gas g
    (Nat.le_refl _)).1

theorem gas_bounded_topCreate (cx : Ctx) (hcx : GenCtx cx) (fuel : Nat) (value : Word) (init : BA) (gas : Nat)
    (g : Global) (hg : gas < 2 ^ 64) : (topCreate cx fuel value init gas g).gas ≤ gas :=
  (evmCreate_good cx (runLoop_good cx (genCtx_tableOk hcx) fuel _ hg) 0 false cx.origin none value init gas g
    (Nat.le_refl _)).1

/-- **fuel_suffices / terminates.** With the fuel the driver supplies (`2·gas + 2`), no run —
    of any code, call data, value, gas limit below 2^64, fork configuration, oracle — ends in
    the fuel-exhausted branch: the interpreter loop and all nested frames terminate, because
    `2·gas + stack height` strictly decreases at every loop iteration
    (`Props.C11.nonhalting_costs`, `pushes_at_most_one_more`, `calls_cost`). -/
theorem fuel_suffices_call (cx : Ctx) (hcx : GenCtx cx) (addr : Nat) (value : Word) (input : BA) (gas : Nat)
    (g : Global) (hg : gas < 2 ^ 64) :
    (topCall cx (2 * gas + 2) addr value input gas g).err ≠ some .outOfFuel :=
  (evmCall_good (runLoop_good cx (genCtx_tableOk hcx) _ _ hg) 0 false .call cx.origin cx.origin 0 addr value input gas g
    (Nat.le_refl _)).2 (by omega)

theorem fuel_suffices_create (cx : Ctx) (hcx : GenCtx cx) (value : Word) (init : BA) (gas : Nat)
    (g : Global) (hg : gas < 2 ^ 64) :
    (topCreate cx (2 * gas + 2) value init gas g).err ≠ some .outOfFuel :=
  (evmCreate_good cx (runLoop_good cx (genCtx_tableOk hcx) _ _ hg) 0 false cx.origin none value init gas g
    (Nat.le_refl _)).2 (by omega)

/-- per frame: `2·gas + stack height + 1` iterations are enough, whatever the frame -/
theorem terminates (cx : Ctx) (hcx : GenCtx cx) (depth : Nat) (ro : Bool) (fr : Frame) (g : Global)
    (hg : fr.gas < 2 ^ 64) :
    (runLoop cx (2 * fr.gas + fr.stack.length + 1) depth ro fr g).err ≠ some .outOfFuel :=
  (run_main cx (genCtx_tableOk hcx) _ depth ro fr g hg).2 (by omega)

/-- non-vacuity: a generated context exists -/
def demoCtx : Ctx := { (default : Ctx) with table := Gen.tableOf true true true, gc := ⟨true, true⟩ }
example : GenCtx demoCtx := ⟨true, true, true, rfl⟩

