import Rangers.Proofs.LedgerTx
/-!
# C06 — native token is conserved by every transaction; balances never go negative

All theorems are about `Rangers.Ledger` (Model/Ledger.lean), the model the driver `drv_c06` executes and the
correspondence harness compares with the real `VMExecutor`. `total b` is the sum of **all** balance slots
(the harness compares it with the sum over the token contract's whole storage).

`wealth s` adds to it the ghost counter `burned` (it only grows in `suicide`, when a contract names
itself as beneficiary), the stake held by the miner registry and the escrow.
-/
namespace Rangers.Props.C06
open Rangers.Ledger

/-- `SubFT` returns failure instead of going negative or wrapping: a debit of `n` either is refused and
    changes nothing, or the slot held at least `n` and both the slot and the sum drop by exactly `n`. -/
theorem sub_refuses (b : Bal) (a : Addr) (n : Nat) :
    ((subBal b a n).2 = false ∧ (subBal b a n).1 = b ∧ get b a < n) ∨
    ((subBal b a n).2 = true ∧ n ≤ get b a ∧ total (subBal b a n).1 + n = total b ∧
      get (subBal b a n).1 a + n = get b a) :=
  subBal_cases b a n

example : (subBal [(1, 5)] 1 7).2 = false ∧ (subBal [(1, 5)] 1 5).2 = true ∧ get (subBal [(1, 5)] 1 5).1 1 = 0 := by decide

/-- `AddFT` with a non-negative amount: no absolute-value wrap, that slot and the sum grow by exactly the amount. -/
theorem add_exact (b : Bal) (a : Addr) (n : Nat) :
    total (addBal b a n) = total b + n ∧ get (addBal b a n) a = get b a + n ∧
    ∀ a', a' ≠ a → get (addBal b a n) a' = get b a' :=
  ⟨total_addBal b a n, get_addBal_same b a n, fun a' h => get_addBal_other b a a' n h⟩

/-- Why the guards matter: the raw primitives do create value when handed a negative amount
    (`AddFT` stores `|slot + amount|`, `SubFT` never refuses a negative amount). -/
theorem unguarded_negative_transfer_mints :
    total (vmTransfer [(1, 5)] 1 2 (-3)) = 11 ∧ total [(1, 5)] = 5 := by decide

/-- `add_guarded` (the clause of DESIGN.md §6, C06: on every call path the credited amount is `≥ 0`), EVM side:
    `vm.CanTransfer` refuses every negative amount, so a negative `transferValue` reaches neither `SubBalance` nor
    `AddBalance`: the top-level call/create returns failure with the state untouched. -/
theorem add_guarded_contract (code : Code) (jr : Bool) (fuel : Nat) (origin addr : Addr) (v : Int) (init : Script) (s : St)
    (h : v < 0) :
    evmCallTop code jr fuel origin addr v s = (s, false) ∧ evmCreateTop code jr fuel origin v init s = (s, false) := by
  have hc : canTransfer s.bal origin v = false := canTransfer_neg _ _ _ h
  have hv : (v != 0) = true := by
    have : v ≠ 0 := by omega
    simp [this]
  constructor
  · unfold evmCallTop; simp [hc, hv]
  · unfold evmCreateTop; simp [hc]

example : (-1 : Int) < 0 := by decide

theorem contractExecute_negative (fl : Flags) (code : Code) (fuel : Nat) (t : ContractTx) (raw : Nat) (v : Int) (s : St)
    (hv : v < 0) : (contractExecute fl code fuel t raw v s).2.1 = false := by
  unfold contractExecute
  simp only
  split
  · rfl
  · cases t.target with
    | none => simp only; rw [(add_guarded_contract code fl.p002 fuel t.src 0 v t.init s hv).2]; split <;> rfl
    | some a => simp only; rw [(add_guarded_contract code fl.p002 fuel t.src a v t.init s hv).1]; split <;> rfl

/-- `add_guarded`, asset-transfer side: the three refusals of `transferBalance` come before any credit. -/
theorem add_guarded_transfer (b : Bal) (src tgt : Addr) (v : Int) :
    (v < 0 → transferBalance b src tgt (.val v) = none) ∧
    (((get b src : Nat) : Int) < v → transferBalance b src tgt (.val v) = none) ∧
    transferBalance b src tgt .err = none := by
  refine ⟨?_, ?_, rfl⟩
  · intro h; simp [transferBalance, h]
  · intro h
    by_cases hn : v < 0
    · simp [transferBalance, hn]
    · simp [transferBalance, hn, h]

/-- `add_guarded` for the real parser: whatever string is written as the amount of an asset transfer — `strToBigInt`
    is `utility.StrToBigInt` with the exact `big.ParseFloat`/`Float.Mul`/`Float.Int` semantics — a parse error or a
    negative value is rejected before any credit. -/
theorem add_guarded_transfer_string (b : Bal) (src tgt : Addr) (s : String)
    (h : strToBigInt s = .err ∨ ∃ v, strToBigInt s = .val v ∧ v < 0) :
    transferBalance b src tgt (strToBigInt s) = none := by
  rcases h with h | ⟨v, h, hv⟩
  · rw [h]; rfl
  · rw [h]; exact (add_guarded_transfer b src tgt v).1 hv

example : strToBigInt "-0.5" = .val (-500000000000000000) ∧ strToBigInt "1e" = .err := by decide +kernel

/-- `add_guarded` for the real parser, contract side, under **every** fork configuration: a contract transaction
    (create, call or jsonrpc; any program, any gas oracle) whose `transferValue` string parses to a negative number
    never succeeds. -/
theorem add_guarded_contract_string (fuel : Nat) (w : World) (t : ContractTx) (v : Int)
    (h : strToBigInt t.value = .val v) (hv : v < 0) :
    (execTx fuel w (.contract t)).2 ≠ .success := by
  obtain ⟨_, _, ⟨hst, _⟩ | ⟨b1, raw, v', _, hv', hok, _, _⟩⟩ := execTx_contract_cases fuel w t
  · exact hst
  · cases (h.symm.trans hv' : Amount.val v = .val v')
    rw [contractExecute_negative _ _ _ _ _ _ _ hv] at hok; cases hok

/-- The amount strings of the quantifier, evaluated by the exact `big.Float` model (C18): zero, empty, `Inf`,
    more than 18 decimals, negative, huge, exponent forms incl. the binary `p` exponent, 2000-digit exponents. -/
theorem amount_strings :
    strToBigInt "1p3" = .val 8000000000000000000 ∧ strToBigInt "1e100" = .val (10 ^ 118) ∧ strToBigInt "1e400" ≠ .val (10 ^ 418) ∧
    strToBigInt "1e-400" = .val 0 ∧ strToBigInt "1e99999999999" = .err ∧
    strToBigInt "" = .val 0 ∧ strToBigInt "0" = .val 0 ∧ strToBigInt "Inf" = .val 0 ∧ strToBigInt "-inf" = .val 0 ∧
    strToBigInt "0.0000000000000000019" = .val 1 ∧ strToBigInt "-0.0000000000000000001" = .val 0 ∧
    strToBigInt "-5" = .val (-5000000000000000000) ∧ strToBigInt "1e30" = .val (10 ^ 48) ∧
    strToBigInt "abc" = .err ∧ strToBigInt "1e" = .err ∧ strToBigInt "0x10" = .err := by
  decide +kernel

/-- Every primitive pair (`Sub`;`Add`) guarded by `CanTransfer` is balanced. -/
theorem transfer_moves_only (b : Bal) (src dst : Addr) (n : Nat) (h : canTransfer b src n = true) :
    total (vmTransfer b src dst n) = total b :=
  total_vmTransfer b src dst n h

example : canTransfer [(1, 5)] 1 (5 : Nat) = true ∧ total (vmTransfer [(1, 5)] 1 2 (5 : Nat)) = 5 := by decide

/-- `transferBalance` (credit target, then debit source with the result dropped) is balanced whenever it
    reports success — including a transfer to oneself. -/
theorem transferBalance_conserves (b b' : Bal) (src tgt : Addr) (a : Amount)
    (h : transferBalance b src tgt a = some b') : total b' = total b :=
  transferBalance_total b b' src tgt a h

example : transferBalance [(1, 5)] 1 1 (.val 5) = some [(1, 5)] := by decide

/-- `ChangeAssets` over any target list (hence the sorted key order the code walks, and any other; any duplicates, self-targets):
    success conserves the sum; failure anywhere is reported as `none` and the caller reverts. -/
theorem changeAssets_conserves (src : Addr) (ts : List (Addr × Amount)) (b b' : Bal)
    (h : changeAssets b src ts = some b') : total b' = total b :=
  changeAssets_total src ts b b' h

example : changeAssets [(1, 10)] 1 [(2, .val 4), (1, .val 6), (3, .val 6)] = some [(1, 0), (2, 4), (3, 6)] := by decide
example : changeAssets [(1, 10)] 1 [(2, .val 4), (3, .val 7)] = none := by decide

/-- `ProcessFee` moves exactly the fee to the fee account or changes nothing. -/
theorem processFee_conserves (b b' : Bal) (src : Addr) (h : processFee b src = some b') : total b' = total b :=
  (processFeeWith_feePaid h).total_eq

/-- Charging gas (`deductGasFee` and the fee step of `contractExecutor.Execute`) never credits more than it
    debits: the fee is clamped to the payer's balance. -/
theorem chargeGas_conserves (b : Bal) (src : Addr) (gasUsed : Nat) : total (chargeGas b src gasUsed) = total b :=
  (chargeGas_feePaid b src gasUsed).total_eq

/-- Everything the native token can be: live balances, value burned by self-destruct-to-self (ghost), stake held by
    the miner registry, and refunds / rewards waiting in the escrow. -/
def wealth (s : St) : Nat := total s.bal + s.burned + stakeSum s.reg + escrowTotal s.escrow

/-- **frames_conserve**, full statement: no EVM program changes the wealth. -/
def FullStatementFramesConserve : Prop :=
  ∀ (code : Code) (origin : Addr) (fuel : Nat) (self : Addr) (ro : Bool) (sc : Script) (s : St),
    wealth (exec code origin true fuel self ro sc s).1 = wealth s

/-- What holds of model and code: the EVM frame skeleton — any program of CALL / CALLCODE / DELEGATECALL /
    STATICCALL / CREATE(2) / SELFDESTRUCT / AUTHCALL / STAKE / UNSTAKE / UNSTAKEALL / REVERT / INVALID / STOP, any
    nesting, any gas bound `fuel`, static or not, failed frames reverted — changes the wealth only by what the ghost
    counter `excess` records: the wei UNSTAKE escrows for refund beyond the stake it removes. -/
theorem frames_conserve_partial (code : Code) (origin : Addr) (fuel : Nat) (self : Addr) (ro : Bool) (sc : Script) (s : St) :
    wealth (exec code origin true fuel self ro sc s).1 + s.excess = wealth s + (exec code origin true fuel self ro sc s).1.excess :=
  (exec_flow code origin fuel self ro sc s).held_eq

/-- The full statement is false of the model — and of the code (known finding `mint-unstake-refund-exceeds-stake`,
    replayed by the searcher scenario and in the correspondence stream): the contract account 5 of a proposer with
    stake 2500 executes `UNSTAKE(self, 0.5 RPG)`: the stake stays 2500 (whole-token truncation of 0.5 is 0) and
    0.5 RPG is escrowed for the transaction origin. -/
theorem frames_conserve_counterexample : ¬ FullStatementFramesConserve := by
  intro h
  have := h [(5, [.unstake 500000000000000000])] 1 10 5 false [.unstake 500000000000000000]
    { bal := [], dead := [], fresh := 0, burned := 0,
      reg := [{ id := 7, account := 5, stake := 2500, typ := 1, visible := true }] }
  revert this
  decide +kernel

/-- UNSTAKE exactly: registry plus escrow grow by what `excess` gains, balances stay.  Behind it (`opUnStake_cases`): the
    registry loses `refund` whole tokens, the escrow gains `max (refund tokens) v`, `excess` grows by `v - refund tokens`
    (truncated subtraction). -/
theorem unstake_exact (code : Code) (origin : Addr) (s : St) (self : Addr) (v : Nat) :
    stakeSum (opUnStake code origin s self v).reg + escrowTotal (opUnStake code origin s self v).escrow + s.excess
      = stakeSum s.reg + escrowTotal s.escrow + (opUnStake code origin s self v).excess ∧
    (opUnStake code origin s self v).bal = s.bal := by
  rcases opUnStake_cases code origin s self v with h | ⟨r', refund, e, hr, he, h⟩ <;> rw [h]
  · exact ⟨rfl, rfl⟩
  · exact ⟨by simp only; omega, rfl⟩

/-- STAKE moves whole tokens from the contract's balance into the registry, nothing else. -/
theorem stake_exact (s : St) (self : Addr) (v : Nat) :
    total (opStake s self v).bal + stakeSum (opStake s self v).reg = total s.bal + stakeSum s.reg := by
  rcases opStake_cases s self v with h | h
  · rw [h]
  · have h1 := h.total
    have h2 := h.stake
    omega

/-- **Fork configurations.** `frames_never_mint`, `frames_conserve_partial`, `tx_conserves_partial`, `tx_never_mints`,
    `block_conserves`, … hold for every value of the flags 015, 017, 018, 026, 027 (they are fields of `w.fl`,
    universally quantified) and need only `p002 = true`: balance writes are journaled. The statement for *all* fork
    configurations, including heights below Proposal002Block: -/
def FullStatementNeverMintsAllForks : Prop :=
  ∀ (code : Code) (jr : Bool) (fuel : Nat) (origin addr : Addr) (v : Int) (s : St),
    total (evmCallTop code jr fuel origin addr v s).1.bal ≤ total s.bal

/-- …is false of the model and of the code below Proposal002Block (main-net heights < 3 353 000, robin < 2 802 000;
    known finding `pre002-reverted-selfdestruct-mint`, replayed: corpus/C06/09-pre002-revert.ops). There `AddFT`/`SubFT`
    write balance slots with `setData`, bypassing the journal, so a revert restores nothing — except that
    `suicideChange.undo` writes back the balance `Suicide` recorded: contract 4 (balance 5) self-destructs to 9 inside a
    call from contract 2, which then hits INVALID; after the revert 9 keeps the 5 and 4 has its 5 back. -/
theorem never_mints_pre002_counterexample : ¬ FullStatementNeverMintsAllForks := by
  intro h
  have := h [(2, [.call 4 0, .invalid]), (4, [.suicide 9])] false 10 1 2 0
    { bal := [(4, 5)], dead := [], fresh := 0, burned := 0 }
  revert this
  decide +kernel

/-- The proved restriction: from Proposal002Block on (`jr = true`) no top-level call raises the sum. -/
theorem never_mints_from_002_partial (code : Code) (fuel : Nat) (origin addr : Addr) (v : Int) (s : St) :
    total (evmCallTop code true fuel origin addr v s).1.bal ≤ total s.bal :=
  (evmCallTop_flow code fuel origin addr v s).total_le

/-- The sum of all balances never grows inside the EVM, whatever the program. -/
theorem frames_never_mint (code : Code) (origin : Addr) (fuel : Nat) (self : Addr) (ro : Bool) (sc : Script) (s : St) :
    total (exec code origin true fuel self ro sc s).1.bal ≤ total s.bal :=
  (exec_flow code origin fuel self ro sc s).total_le

/-- SELFDESTRUCT: to another account it moves the balance, to itself it burns exactly the balance. -/
theorem selfdestruct_exact (s : St) (self ben : Addr) :
    total (suicide s self ben).bal + (if ben = self then get s.bal self else 0) = total s.bal ∧
    (suicide s self ben).burned = s.burned + (if ben = self then get s.bal self else 0) ∧
    get (suicide s self ben).bal self = 0 :=
  ⟨total_suicide s self ben, rfl, get_put_same _ self 0⟩

/-- The self-destruct step is stated per invocation: it does not consult whether the contract was destroyed
    before (`dead`), so a contract that self-destructs, receives value again in the same un-finalised state and
    self-destructs again hands over / burns exactly what it holds at that moment, each time. -/
theorem selfdestruct_per_invocation (s : St) (d : List Addr) (self ben : Addr) :
    (suicide { s with dead := d } self ben).bal = (suicide s self ben).bal ∧
    (suicide { s with dead := d } self ben).burned = (suicide s self ben).burned := ⟨rfl, rfl⟩

/-- driver 7 calls bomb 8 (beneficiary 9) three times, with value on the later calls: 9 receives 0+1+2, nothing is
    duplicated, nothing stays in 8 -/
example : let r := (exec [(7, [.call 8 0, .call 8 1, .call 8 2]), (8, [.suicide 9])] 1 true 20 7 false
            [.call 8 0, .call 8 1, .call 8 2] { bal := [(7, 5), (8, 4)], dead := [], fresh := 0, burned := 0 }).1
          get r.bal 9 = 7 ∧ get r.bal 8 = 0 ∧ get r.bal 7 = 2 ∧ total r.bal = 9 := by decide

example : (exec [(7, [.call 8 3, .suicide 7])] 1 true 10 7 false [.call 8 3, .suicide 7]
            { bal := [(7, 5)], dead := [], fresh := 0, burned := 0 }).1.burned = 2 := by decide

/-- **tx_conserves**, the full statement of the property's accounting clause: over every transaction nothing
    appears and nothing vanishes — balances + burned + registry stake + escrow (+ refunds pending in the executor
    context) stay the same. -/
def FullStatementTxConserves : Prop :=
  ∀ (fuel : Nat) (w : World) (tx : Tx), w.fl.p002 = true →
    wealth (execTx fuel w tx).1.st + escrowTotal (execTx fuel w tx).1.ctx.pending
      = wealth w.st + escrowTotal w.ctx.pending

/-- What holds of model and code, for every transaction of every modelled type — asset transfer (any target list,
    any amount strings), contract creation / call / jsonrpc (any gas-limit and value strings, any program incl. the
    stake opcodes, any value of the oracle inputs `gasUsed` / `nonceOk` / `jsonOk`, any `fuel`), miner apply / add
    stake / refund, OperatorNode — from every state, successful, failed or evicted: the wealth changes only by the
    10 RPG a successful OperatorNode debits and credits to nobody (`nodeFeeBy`) and by the UNSTAKE over-refund
    recorded in `excess`. -/
theorem tx_conserves_partial (fuel : Nat) (w : World) (hj : w.fl.p002 = true) (tx : Tx) :
    wealth (execTx fuel w tx).1.st + escrowTotal (execTx fuel w tx).1.ctx.pending
        + nodeFeeBy tx (execTx fuel w tx).2 + w.st.excess
      = wealth w.st + escrowTotal w.ctx.pending + (execTx fuel w tx).1.st.excess := by
  obtain ⟨_, pend, hp, h⟩ := execTx_flow fuel w hj tx
  have h := h.held_eq
  rw [hp, escrowTotal_append]
  unfold held at h
  unfold wealth
  omega

/-- The two known findings are the only leaks: if the transaction is not a successful OperatorNode and the `excess`
    counter did not move, the full equation holds. -/
theorem tx_conserves_except_known (fuel : Nat) (w : World) (hj : w.fl.p002 = true) (tx : Tx)
    (h1 : nodeFeeBy tx (execTx fuel w tx).2 = 0) (h2 : (execTx fuel w tx).1.st.excess = w.st.excess) :
    wealth (execTx fuel w tx).1.st + escrowTotal (execTx fuel w tx).1.ctx.pending
      = wealth w.st + escrowTotal w.ctx.pending := by
  have hm := tx_conserves_partial fuel w hj tx
  omega

example : nodeFeeBy (.operator 1 true []) .success = 0 := rfl

/-- The full statement is false of the model — and of the code (known finding `burn-operator-node-fee`, replayed:
    corpus/C06/06-operator-node-fee.ops): an account holding 20.001 RPG that owns a miner sends an OperatorNode
    transaction; it succeeds, 10 RPG leave its balance and arrive nowhere. -/
theorem tx_conserves_counterexample : ¬ FullStatementTxConserves := by
  intro h
  have := h 0 { st := { bal := [(1, 20001000000000000000)], dead := [], fresh := 0, burned := 0,
                        reg := [{ id := 7, account := 1, stake := 2000, typ := 1, visible := true }] },
                code := [], ctx := { gasUsed := none } } (.node 1 99 true) rfl
  revert this
  decide +kernel

/-- The oracle inputs of the model — the gas the interpreter reports (`gasUsed`), the outcome of the nonce test
    (`nonceOk`), whether the JSON decodes (`jsonOk`) — and the gas bound `fuel` are universally quantified in every
    theorem of this file (they are fields of `t : ContractTx` / an argument). Spelled out: whatever values they take,
    a contract transaction conserves balances + burned, and never raises the sum. -/
theorem conserves_for_every_oracle_value (fuel : Nat) (w : World) (hj : w.fl.p002 = true) (t : ContractTx)
    (gasUsed : Nat) (nonceOk jsonOk : Bool) :
    let t' := { t with gasUsed := gasUsed, nonceOk := nonceOk, jsonOk := jsonOk }
    wealth (execTx fuel w (.contract t')).1.st + w.st.excess
        = wealth w.st + (execTx fuel w (.contract t')).1.st.excess ∧
    total (execTx fuel w (.contract t')).1.st.bal ≤ total w.st.bal := by
  intro t'
  have h := (execTx_contract_flow fuel w hj t').2.2
  exact ⟨h.held_eq, h.total_le⟩

/-- **The sum of all balances never increases** over any transaction of any type, successful or failed
    (full strength; the two known findings do not touch this clause: one destroys value, the other creates it in the
    escrow, from where it reaches balances only through `after_exact`). -/
theorem tx_never_mints (fuel : Nat) (w : World) (hj : w.fl.p002 = true) (tx : Tx) :
    total (execTx fuel w tx).1.st.bal ≤ total w.st.bal := by
  obtain ⟨_, _, _, h⟩ := execTx_flow fuel w hj tx
  exact h.total_le

/-- OperatorNode (`nodeTx = nodeTxWith nodeFee`, `nodeFee` = 10 RPG): a successful one lowers the wealth and the
    sum of balances by exactly the fee. -/
theorem node_fee_exact (fee : Nat) (s s2 : St) (src newAcct : Addr) (mainOk : Bool)
    (h : nodeTxWith fee s src newAcct mainOk = some s2) :
    wealth s2 + fee = wealth s ∧ total s2.bal + fee = total s.bal :=
  ⟨(nodeTxWith_debited h).held_eq, (nodeTxWith_debited h).total⟩

example : nodeTx = nodeTxWith nodeFee := rfl

theorem node_fee_is_ten : strToBigInt "10" = .val nodeFee := by decide +kernel

/-- A whole block at any height (fresh executor context, stale `gasUsed` carried between its transactions, context
    refunds and the block reward `rewards` into the escrow, payout of what is due, commit): the wealth grows by
    exactly the block reward, minus node fees, plus the UNSTAKE over-refund. -/
theorem block_conserves (fuel : Nat) (w : World) (hj : w.fl.p002 = true) (h : Nat) (txs : List Tx) (rewards : Escrow) :
    wealth (execBlock fuel w h txs rewards).1.st + nodeFeeSum txs (execBlock fuel w h txs rewards).2 + w.st.excess
      = wealth w.st + escrowTotal rewards + (execBlock fuel w h txs rewards).1.st.excess :=
  execBlock_held fuel w hj h txs rewards

/-- the escrow as `CheckAndMove` finds it at the end of the block: what was there, plus UNSTAKE refunds of the block,
    plus the context refunds, plus the block reward -/
def escrowAtPayout (fuel : Nat) (w : World) (h : Nat) (txs : List Tx) (rewards : Escrow) : Escrow :=
  let w1 := (execTxs fuel { w with ctx := { gasUsed := none, pending := [] }, st := { w.st with height := h, p014 := w.fl.p014 } } txs).1
  w1.st.escrow ++ (w1.ctx.pending ++ rewards)

/-- Over a block the sum of all balances grows by at most the escrow entries that fall due at this height
    (scheduled block rewards and stake refunds). -/
theorem block_mints_only_due (fuel : Nat) (w : World) (hj : w.fl.p002 = true) (h : Nat) (txs : List Tx) (rewards : Escrow) :
    total (execBlock fuel w h txs rewards).1.st.bal
      ≤ total w.st.bal + ((dueAt (escrowAtPayout fuel w h txs rewards) h).map (·.2)).sum := by
  obtain ⟨_, _, h1⟩ := execTxs_flow fuel txs
    { w with ctx := { gasUsed := none, pending := [] }, st := { w.st with height := h, p014 := w.fl.p014 } } hj
  have h1 := h1.total_le
  unfold execBlock escrowAtPayout
  simp only at h1 ⊢
  generalize execTxs fuel _ txs = r at h1 ⊢
  have h2 := (afterBlock_exact r.1.st.bal r.1.st.escrow h (r.1.ctx.pending ++ rewards)).1
  omega

/-- A contract transaction that does not succeed (failed or evicted, at any stage:
    fee, decoding, pre-check, intrinsic gas, EVM error, revert) leaves every balance other than the sender's and
    the fee account's exactly as it was, and does not raise the sum. -/
theorem failed_tx_only_gas (fuel : Nat) (w : World) (hj : w.fl.p002 = true) (t : ContractTx)
    (hf : (execTx fuel w (.contract t)).2 ≠ .success) :
    (∀ a, a ≠ t.src → a ≠ feeAccount → get (execTx fuel w (.contract t)).1.st.bal a = get w.st.bal a) ∧
    total (execTx fuel w (.contract t)).1.st.bal ≤ total w.st.bal :=
  ⟨fun a h1 h2 => failed_contract_other fuel w hj t hf a h1 h2, (execTx_contract_flow fuel w hj t).2.2.total_le⟩

/-- Miner apply: a successful one moves exactly `stake` whole tokens from the payer's balance into the registry. -/
theorem apply_exact (s s2 : St) (src : Addr) (id typ stake : Nat) (account : Addr) (keysOk : Bool)
    (h : minerApply s src id typ stake account keysOk = some s2) :
    wealth s2 = wealth s ∧ total s2.bal + toWei stake = total s.bal :=
  ⟨(minerApply_debited h).held_eq, (minerApply_debited h).total⟩

example : (minerApply { bal := [(1, 500000000000000000000)], dead := [], fresh := 0, burned := 0 } 1 7 0 400 1 true).isSome = true
    ∧ (minerApply { bal := [(1, 500000000000000000000)], dead := [], fresh := 0, burned := 0 } 1 7 0 399 1 true).isSome = false := by
  decide +kernel

/-- Miner change-account (type 6): only the registry's account slot changes — wealth, balances and stake stay. -/
theorem change_account_exact (s s2 : St) (src : Addr) (id : Nat) (newAcct : Addr)
    (h : minerChange s src id newAcct = some s2) :
    wealth s2 = wealth s ∧ s2.bal = s.bal ∧ stakeSum s2.reg = stakeSum s.reg := by
  obtain ⟨m, hg, rfl⟩ := minerChange_eq h
  exact ⟨by simp only [wealth, stakeSum_setAccount newAcct hg], rfl, stakeSum_setAccount newAcct hg⟩

example : (minerChange { bal := [], dead := [], fresh := 0, burned := 0, reg := [{ id := 7, account := 1, stake := 400, typ := 0, visible := true }] } 1 7 2).isSome = true := by
  decide

/-- Before Proposal014 the jump table has no STAKE / UNSTAKE / UNSTAKEALL / AUTHCALL: a frame reaching one fails on the
    spot, with nothing changed by that instruction. -/
theorem pre014_opcodes_fail (code : Code) (origin : Addr) (jr : Bool) (f : Nat) (self : Addr) (ro : Bool) (rest : Script)
    (s : St) (h : s.p014 = false) (v : Nat) (to : Addr) :
    exec code origin jr (f + 1) self ro (.stake v :: rest) s = (s, false) ∧
    exec code origin jr (f + 1) self ro (.unstake v :: rest) s = (s, false) ∧
    exec code origin jr (f + 1) self ro (.unstakeAll :: rest) s = (s, false) ∧
    exec code origin jr (f + 1) self ro (.authcall to v :: rest) s = (s, false) := by
  refine ⟨?_, ?_, ?_, ?_⟩ <;> simp [exec, h]

/-- Miner add-stake and miner refund keep the wealth: the first moves balance into the registry, the second moves
    registry stake into the (pending) escrow — by exactly the whole tokens named. -/
theorem add_and_refund_exact (code : Code) (s s2 : St) (src : Addr) (id : Nat) :
    (∀ delta, minerAdd s src id delta = some s2 → wealth s2 = wealth s) ∧
    (∀ amount signed pend, minerRefund code s src id amount signed = some (s2, pend) →
        wealth s2 + escrowTotal pend = wealth s ∧ s2.bal = s.bal) := by
  constructor
  · intro delta h
    rcases minerAdd_cases h with rfl | h
    · rfl
    · exact h.held_eq
  · intro amount signed pend h
    obtain ⟨r', hr, rfl⟩ := minerRefund_eq h
    exact ⟨by simp only [wealth]; omega, rfl⟩

/-- Stake refund / reward payout (`RefundManager.CheckAndMove`): the sum grows by exactly the escrowed amounts. -/
theorem refund_exact (b : Bal) (l : List (Addr × Nat)) :
    total (refundMove b l) = total b + (l.map (·.2)).sum :=
  refundMove_total l b

/-- End of block (`VMExecutor.after`): the sum of all balances increases by exactly the escrow entries due at this
    height (scheduled block rewards and stake refunds), and balances + escrow increase by exactly what the block
    added to the escrow. -/
theorem after_exact (b : Bal) (e : Escrow) (h : Nat) (added : Escrow) :
    total (afterBlock b e h added).1 = total b + ((dueAt (e ++ added) h).map (·.2)).sum ∧
    total (afterBlock b e h added).1 + escrowTotal (afterBlock b e h added).2
      = total b + escrowTotal e + escrowTotal added :=
  afterBlock_exact b e h added

example : afterBlock [(1, 5)] [(10, 1, 3), (20, 2, 4)] 10 [(10, 2, 6), (30, 1, 1)]
    = ([(1, 8), (2, 6)], [(20, 2, 4), (30, 1, 1)]) := by decide

end Rangers.Props.C06
