import Rangers.Proofs.PoolInv
import Rangers.Proofs.PoolSort
/-!
# C17, part C — the sort abstraction and commuting submissions

* `sorted_unique_of_strictChain` justifies the driver's `sortDetermined` guard: when the model's
  sort result is a strict chain for `Less` (every earlier element is less than every later one and
  not vice versa), *every* permutation of it that is sorted w.r.t. `Less` is that very list — so
  whatever `sort.Sort` (pdqsort) does on a longer slice, a correct sort returns what the model returns.
* `add_add_commute` — the sequential core of the concurrency clause: two submissions of different
  hashes commute (same pending set, same executed records) when the container has room for both.
-/
namespace Rangers.Props.C17C
open Rangers Rangers.Pool

theorem strictChain_cons {c : Cfg} {x : Tx} {xs : List Tx} (h : strictChain c (x :: xs) = true) :
    (∀ y ∈ xs, lessRes c x y = .lt ∧ lessRes c y x = .ge) ∧ strictChain c xs = true :=
  (List.pairwise_cons.mp (strictChain_iff.mp h)).imp_right strictChain_iff.mpr

/-- A strict chain is the only sorted arrangement of its elements. -/
theorem sorted_unique_of_strictChain (c : Cfg) :
    ∀ (r r' : List Tx), strictChain c r = true → r'.Perm r → SortedBy c r' → r' = r := by
  intro r r' hc hp hs
  have hch := strictChain_iff.mp hc
  -- of two elements of a strict chain one is less than the other, so "not less" is antisymmetric on them, and two sorted
  -- arrangements under an antisymmetric relation are equal
  have tri : ∀ a ∈ r, ∀ b ∈ r, a = b ∨ lessRes c a b = .lt ∨ lessRes c b a = .lt :=
    List.Pairwise.forall_of_forall_of_flip (fun _ _ => Or.inl rfl) (hch.imp (fun h => Or.inr (Or.inl h.1)))
      (hch.imp (fun h => Or.inr (Or.inr h.1)))
  refine List.Perm.eq_of_pairwise (le := fun a b => less c b a = false) (fun a b ha hb hab hba => ?_) hs
    (hch.imp (fun {x y} h => by rw [less, h.2]; rfl)) hp
  rcases tri a (hp.subset ha) b hb with e | h | h
  · exact e
  · rw [less, h] at hba; cases hba
  · rw [less, h] at hab; cases hab

/-- non-vacuity: a two-element strict chain under proposal 023 -/
example : strictChain ⟨true, true, true, true⟩
    [⟨1, 5, [48, 120, 48, 49], 0, 0, 0⟩, ⟨2, 6, [48, 120, 48, 49], 1, 0, 0⟩] = true := by decide +kernel

/-- Two submissions of different hashes (known or not) commute when there is room for both. -/
theorem add_add_commute (s : Pool) (t u : Tx) (hne : t.hash ≠ u.hash)
    (hroom : s.pending.length + 2 ≤ s.limit) :
    ((s.addTransaction t).1.addTransaction u).1.hashes.Perm ((s.addTransaction u).1.addTransaction t).1.hashes ∧
    ((s.addTransaction t).1.addTransaction u).1.execHashes = ((s.addTransaction u).1.addTransaction t).1.execHashes ∧
    ((s.addTransaction t).1.addTransaction u).2 = (s.addTransaction u).2 ∧
    ((s.addTransaction u).1.addTransaction t).2 = (s.addTransaction t).2 := by
  cases et : s.existed t.hash
  · cases eu : s.existed u.hash
    · -- both are new: each goes to the end of the container, in the order of arrival
      have h1 : s.pending.length + 1 < s.limit := hroom
      have h0 : s.pending.length < s.limit := Nat.lt_of_succ_lt h1
      obtain ⟨ht, lt, mt, rt⟩ := addTransaction_new et h0
      obtain ⟨hu, lu, mu, ru⟩ := addTransaction_new eu h0
      obtain ⟨htu, _, _, rtu⟩ := addTransaction_new (s := (s.addTransaction t).1) (t := u)
        ((existed_addTransaction_ne s hne).trans eu) (by rw [lt, mt]; exact h1)
      obtain ⟨hut, _, _, rut⟩ := addTransaction_new (s := (s.addTransaction u).1) (t := t)
        ((existed_addTransaction_ne s hne.symm).trans et) (by rw [lu, mu]; exact h1)
      refine ⟨?_, by simp only [execHashes_addTransaction], by rw [rtu, ru], by rw [rut, rt]⟩
      rw [htu, hut, ht, hu, List.append_assoc, List.append_assoc]
      exact List.Perm.append_left _ (List.Perm.swap _ _ _)
    · -- `u` is known already: submitting it changes nothing, before or after `t`
      have eu' := (existed_addTransaction_ne s hne).trans eu
      rw [addTransaction_exist eu, addTransaction_exist eu']
      exact ⟨List.Perm.refl _, rfl, rfl, rfl⟩
  · have et' := (existed_addTransaction_ne s hne.symm).trans et
    rw [addTransaction_exist et, addTransaction_exist et']
    exact ⟨List.Perm.refl _, rfl, rfl, rfl⟩

example : ((Pool.empty 5).pending.length + 2 ≤ (Pool.empty 5).limit) := by decide +kernel

end Rangers.Props.C17C
