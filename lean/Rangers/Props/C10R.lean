import Rangers.Proofs.Evm10Run
import Rangers.Proofs.Evm10Gas
/-!
# C10 — the per-opcode theorems compose along a run

For code made of pure stack instructions (arithmetic, comparison, bitwise, shifts, SIGNEXTEND,
BYTE, ADDMOD/MULMOD, EXP, PUSH0/PUSHn, DUPn, SWAPn, POP, JUMPDEST) the interpreter's `run` is
the fold `specFold` of the per-opcode word functions (`binFn/unFn/terFn`, each characterised by
its `_spec` theorem in `Props/C10.lean`) over the code decoded through the jump table: the loop
threads stack and pc exactly, never touches memory, and gas only decides *whether* a step
continues, never *what* it computes (`exec_gas_noninterference`, `step_gas_independent`,
`run_gas_independent`: frames that differ only in gas stay equal up to gas).
-/
namespace Rangers.Props.C10
open Rangers Rangers.Model.Evm10 Rangers.Model.Evm10.U256 Rangers.Proofs.Evm10
open Rangers.Generated.Evm10

/-- **Composition**: if `k` interpreter steps continue from `f` and the specification fold over the
same `k` instructions is defined, the interpreter is exactly at the fold's pc with the fold's
stack, with memory and code untouched. -/
theorem run_straightline (H : Bytes → Bytes) (t : Table) (p : GasParams) (ht : tableOK t = true)
    (k : Nat) (f fk : Frame) (hst : StepsTo H t p k f fk) (pc' : Nat) (st' : List Word)
    (hspec : specFold t f.code k f.pc f.stack = some (pc', st')) :
    fk.pc = pc' ∧ fk.stack = st' ∧ fk.mem = f.mem ∧ fk.code = f.code :=
  stepsTo_specFold ht hst (pc', st') hspec

/-- … and `run` from `f` is `run` from that frame with the remaining fuel, so the final outcome
of a program is the outcome of its last instruction (RETURN/STOP/…) on the folded state. -/
theorem run_continues (H : Bytes → Bytes) (t : Table) (p : GasParams) (k n : Nat) (f fk : Frame)
    (hst : StepsTo H t p k f fk) : run H t p (k + n) f = run H t p n fk :=
  run_of_stepsTo hst n

/-- One program evaluated: on PUSH1 7, PUSH1 2, SUB, PUSH1 3, SWAP1, SDIV the fold over `table 7`
applies `sub` and `sdiv`, the word functions of `Props/C10.lean`. -/
theorem fold_uses_spec_functions :
    specFold (table 7) [0x60, 0x07, 0x60, 0x02, 0x03, 0x60, 0x03, 0x90, 0x05] 6 0 [] =
      some (9, [sdiv (sub (ofNat 2) (ofNat 7)) (ofNat 3)]) := by
  decide +kernel

/-- PUSH1 7, PUSH1 2, SUB, PUSH1 3, SWAP1, SDIV really runs for six steps with 1000 gas and
arrives where the fold says: (2 − 7) / 3 = −1 (truncated), i.e. 2^256 − 1. -/
example : ∃ fk, StepsTo (fun _ => []) (table 0) (gasParams false) 6
      (Frame.init [0x60, 0x07, 0x60, 0x02, 0x03, 0x60, 0x03, 0x90, 0x05] [] 1000) fk ∧
      fk.stack = [allOnes] ∧ fk.pc = 9 := by
  have h : (iterSteps (fun _ => []) (table 0) (gasParams false) 6
      (Frame.init [0x60, 0x07, 0x60, 0x02, 0x03, 0x60, 0x03, 0x90, 0x05] [] 1000)).map
        (fun fk => (fk.stack, fk.pc)) = some ([allOnes], 9) := by decide +kernel
  cases hi : iterSteps (fun _ => []) (table 0) (gasParams false) 6
      (Frame.init [0x60, 0x07, 0x60, 0x02, 0x03, 0x60, 0x03, 0x90, 0x05] [] 1000) with
  | none => rw [hi] at h; simp at h
  | some fk =>
    rw [hi] at h
    simp only [Option.map_some, Option.some.injEq, Prod.mk.injEq] at h
    exact ⟨fk, stepsTo_of_iter _ _ _ hi, h.1, h.2⟩


/-- `execute` of every modelled function except GAS commutes with changing the gas bookkeeping. -/
theorem exec_gas_noninterference (H : Bytes → Bytes) (e : Exec) (f : Frame) (g l : Nat)
    (he : e ≠ .opGas) : execOp H e (setGas f g l) = mapGas g l (execOp H e f) :=
  execOp_setGas H e f g l he

/-- One interpreter step from two frames that differ only in gas, both continuing: the results
differ only in gas (stack, memory, pc, return data, code, call data all equal). -/
theorem step_gas_independent (H : Bytes → Bytes) (t : Table) (p : GasParams) (f fa fb : Frame)
    (g l : Nat) (ha : step H t p f = .next fa) (hb : step H t p (setGas f g l) = .next fb)
    (hng : ∀ info, t.get (getOp f.code f.pc) = some info → info.exec ≠ .opGas) :
    fb = setGas fa fb.gas fb.lastGasCost :=
  step_gas_noninterference ha hb hng

/-- **Along a whole run** (any mix of arithmetic, MSTORE/MLOAD/MCOPY/SHA3/copies, JUMP/JUMPI, …) of
code that does not contain an executable GAS slot: runs of equal length from frames that differ only
in gas stay equal in everything but gas.  With `run_straightline` and the per-opcode theorems this
is the composition statement for the memory opcodes and jumps: what a program computes is a function
of code, call data and initial stack/memory alone. -/
theorem run_gas_independent (H : Bytes → Bytes) (t : Table) (p : GasParams) (k : Nat)
    (f fa fb : Frame) (g l : Nat) (ha : StepsTo H t p k f fa) (hb : StepsTo H t p k (setGas f g l) fb)
    (hng : ∀ pc info, t.get (getOp f.code pc) = some info → info.exec ≠ .opGas) :
    fb = setGas fa fb.gas fb.lastGasCost :=
  stepsTo_gas_noninterference ha hb hng

/-- PUSH1 7, PUSH1 0, MSTORE, PUSH1 10, JUMP, INVALID, INVALID, JUMPDEST, PUSH1 0, MLOAD: eight steps
with 1000 gas and with 500 gas reach the same stack/memory/pc (memory write, jump, memory read). -/
example :
    (iterSteps (fun _ => []) (table 0) (gasParams false) 8
      (Frame.init [0x60, 0x07, 0x60, 0x00, 0x52, 0x60, 0x0a, 0x56, 0xfe, 0xfe, 0x5b, 0x60, 0x00, 0x51] [] 1000)).map
        (fun fk => (fk.stack, fk.pc, fk.mem.length)) = some ([ofNat 7], 14, 32) ∧
    (iterSteps (fun _ => []) (table 0) (gasParams false) 8
      (setGas (Frame.init [0x60, 0x07, 0x60, 0x00, 0x52, 0x60, 0x0a, 0x56, 0xfe, 0xfe, 0x5b, 0x60, 0x00, 0x51] [] 1000) 500 0)).map
        (fun fk => (fk.stack, fk.pc, fk.mem.length)) = some ([ofNat 7], 14, 32) := by
  constructor <;> decide +kernel

end Rangers.Props.C10
