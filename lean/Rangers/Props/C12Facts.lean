import Rangers.Proofs.Evm12JumpTable
/-! C12, T-gen obligations: facts the translator `gen/cmd/c12facts` re-extracts from the go-rangers
working tree on every run (`Rangers/Generated/C12Facts.lean`), compared with what the model
transcribes. A changed `writes` flag, a new unflagged state-writing opcode, a re-ordered statement
in `evm.go`, a changed revert condition, a changed field list of `AccountDB.Prepare`, a moved
`Prepare`/`GetLogs` call of the block loop or a changed constant makes one of these fail; the model
itself reads `operation.writes` from the generated table (`opWrites`), so the frame theorems of
`Props/C12.lean` are re-checked against the flags of the working tree (the opcode table is evaluated once, in
`Proofs/Evm12JumpTable.opFacts_lookups`). -/
namespace Rangers.Props.C12Facts
open Rangers.Model.Evm12 Rangers.Generated.C12

theorem ops_present :
    ∀ o ∈ [Op.sstore, .tstore, .log 0, .log 1, .log 2, .log 3, .log 4, .selfdestruct, .call, .callcode,
           .delegatecall, .staticcall, .create, .create2, .authcall, .stake, .unstake, .unstakeall, .stakenum],
      (findFact o.name opFacts).isSome = true := by
  intro o _
  rw [← Option.isSome_map (f := (·.writes)), findFact_writes]
  rfl

/-- the `writes` flags the frame theorems rely on -/
theorem model_write_flags :
    opWrites .sstore = true ∧ (∀ n : Fin 5, opWrites (.log n) = true) ∧ opWrites .selfdestruct = true
    ∧ opWrites .create = true ∧ opWrites .create2 = true
    ∧ opWrites .tstore = false ∧ opWrites .call = false ∧ opWrites .callcode = false
    ∧ opWrites .delegatecall = false ∧ opWrites .staticcall = false ∧ opWrites .authcall = false
    ∧ opWrites .stake = false ∧ opWrites .unstake = false ∧ opWrites .unstakeall = false
    ∧ opWrites .stakenum = false :=
  ⟨opWrites_eq _, fun _ => opWrites_eq _, opWrites_eq _, opWrites_eq _, opWrites_eq _, opWrites_eq _, opWrites_eq _,
    opWrites_eq _, opWrites_eq _, opWrites_eq _, opWrites_eq _, opWrites_eq _, opWrites_eq _, opWrites_eq _,
    opWrites_eq _⟩

/-- `opTstore` is not flagged but tests `interpreter.readOnly` itself (the model's `tstore` case does too) -/
theorem tstore_checks_readonly :
    (findFact "TSTORE" opFacts).map (fun f => (f.exec, f.checksReadOnly)) = some ("opTstore", true) :=
  opFacts_lookups.2

/-- opcodes that can modify state: their execute function reaches a state mutator, or enters
    `Create`/`Create2`/`AuthCall` (which write before their snapshot) -/
def writesState (f : OpFact) : Bool :=
  !f.mutators.isEmpty || f.frames.contains "Create" || f.frames.contains "Create2" || f.frames.contains "AuthCall"

/-- what the property needs of the jump table: every state-writing opcode is refused in a
    read-only frame, by flag or by its own test -/
def FullStatementWritersFlagged : Prop :=
  opFacts.all (fun f => !writesState f || f.writes || f.checksReadOnly) = true

/-- the state-writing opcodes of the unchanged tree that are neither flagged nor self-checking -/
def knownUnflagged : List String := ["AUTHCALL", "STAKE", "UNSTAKE", "UNSTAKEALL"]

/-- the four unflagged writers are exactly these (a fifth one breaks `writers_flagged_partial`,
    flagging one of them breaks this) -/
theorem unflagged_writers_exact :
    (opFacts.filter (fun f => writesState f && !(f.writes || f.checksReadOnly))).map (·.name) = knownUnflagged := by
  decide +kernel

theorem writers_flagged_partial :
    opFacts.all (fun f => !writesState f || knownUnflagged.contains f.name || f.writes || f.checksReadOnly) = true := by
  rw [List.all_eq_true]
  intro f hf
  cases hu : writesState f && !(f.writes || f.checksReadOnly) with
  | false => revert hu; cases writesState f <;> cases f.writes <;> cases f.checksReadOnly <;> simp
  | true =>
    have hm : f.name ∈ knownUnflagged :=
      unflagged_writers_exact ▸ List.mem_map_of_mem (List.mem_filter.mpr ⟨hf, hu⟩)
    simp [hm]

theorem writers_flagged_counterexample : ¬ FullStatementWritersFlagged := by
  unfold FullStatementWritersFlagged
  decide +kernel

/-- statement order of the six frame entry points of evm.go as the model transcribes it:
    pre-checks, then `Snapshot`, then account creation / transfer, `run`, `RevertToSnapshot` under
    the recorded condition; `create` and `AuthCall` bump a nonce before their snapshot -/
theorem frame_order_as_modelled : frameSeq = [
  ("Call", ["if(evm.depth > int(CallCreateDepth))", "if(value.Sign() != 0 && !evm.Context.CanTransfer(evm.StateDB, caller.Address(), value))", "Snapshot", "Exist", "CreateAccount", "Transfer", "RunPrecompiledContract", "GetCode", "GetCodeHash", "run(readOnly=false)", "RevertToSnapshot[err != nil]"]),
  ("CallCode", ["if(evm.depth > int(CallCreateDepth))", "if(!evm.Context.CanTransfer(evm.StateDB, caller.Address(), value))", "Snapshot", "RunPrecompiledContract", "GetCodeHash", "GetCode", "run(readOnly=false)", "RevertToSnapshot[err != nil]"]),
  ("DelegateCall", ["if(evm.depth > int(CallCreateDepth))", "Snapshot", "RunPrecompiledContract", "GetCodeHash", "GetCode", "run(readOnly=false)", "RevertToSnapshot[err != nil]"]),
  ("StaticCall", ["if(evm.depth > int(CallCreateDepth))", "Snapshot", "AddBalance(addr,big0)", "RunPrecompiledContract", "GetCodeHash", "GetCode", "run(readOnly=true)", "RevertToSnapshot[err != nil]"]),
  ("create", ["GetData", "if(evm.depth > int(CallCreateDepth))", "if(!evm.CanTransfer(evm.StateDB, caller.Address(), value))", "GetNonce", "SetNonce(caller.Address(),nonce + 1)[!common.IsProposal006() || common.IsProposal007()]", "AddAddressToAccessList", "GetCodeHash", "GetNonce", "Snapshot", "CreateAccount", "SetNonce(address,1)", "Transfer", "run(readOnly=false)", "UseGas", "SetCode", "RevertToSnapshot[maxCodeSizeExceeded || (err != nil && err != ErrCodeStoreOutOfGas)]", "UseGas"]),
  ("AuthCall", ["if(evm.depth > int(CallCreateDepth))", "if(value.Sign() != 0 && !evm.Context.CanTransfer(evm.StateDB, sponsor, value))", "GetNonce", "SetNonce(caller.Address(),nonce + 1)", "Snapshot", "Exist", "CreateAccount", "Transfer", "RunPrecompiledContract", "GetCode", "GetCodeHash", "run(readOnly=false)", "RevertToSnapshot[err != nil]"])
] := rfl

/-- every way out of an entry point after its `Snapshot()`: the final `return` behind the revert
    block, plus -- in `Call` and `AuthCall` only -- the early return for a zero-value call to a
    non-existent non-precompile account, which has touched nothing (the model's `Entry.skip`).
    A new early return (e.g. a precompile or empty-code branch returning on its own) skips
    `RevertToSnapshot` and breaks this. -/
theorem return_paths_as_modelled : returnPaths = [
  ("Call", ["before-revert-block: return nil, gas, nil, nil [!evm.StateDB.Exist(addr) && !isPrecompile && value.Sign() == 0]", "after-revert-block: return ret, gas, logs, err []"]),
  ("CallCode", ["after-revert-block: return ret, gas, nil, err []"]),
  ("DelegateCall", ["after-revert-block: return ret, gas, logs, err []"]),
  ("StaticCall", ["after-revert-block: return ret, gas, logs, err []"]),
  ("create", ["after-revert-block: return ret, address, contract.Gas, logs, err []"]),
  ("AuthCall", ["before-revert-block: return nil, gas, nil, nil [!evm.StateDB.Exist(addr) && !isPrecompile && value.Sign() == 0]", "after-revert-block: return ret, gas, logs, err []"])
] := rfl

theorem create_revert_condition : createRevertCond = "maxCodeSizeExceeded || (err != nil && err != ErrCodeStoreOutOfGas)" := rfl

/-- the max-code-size test is strict: exactly `MaxCodeSize` bytes are allowed (`retmax` in the trees),
    one more is `ErrMaxCodeSizeExceeded` (`rethuge`) -/
theorem create_size_test_as_modelled : createSizeTest = "maxCodeSizeExceeded := len(ret) > MaxCodeSize" := rfl

theorem read_only_guard_as_modelled : readOnlyGuard = "in.readOnly && (operation.writes || (op == CALL && stack.Back(2).Sign() != 0)) -> ErrWriteProtection" := rfl

/-- `Run` only ever SETS `in.readOnly` (and resets it on leaving the frame that set it): the flag is
    sticky for everything nested below a STATICCALL, which is what `run`'s `ro` parameter models -/
theorem read_only_sticky_as_modelled :
    readOnlySticky = "if readOnly && !in.readOnly { in.readOnly = true; defer func() { in.readOnly = false }() }" :=
  rfl

/-- `AccountDB.Prepare` assigns exactly these fields (transient storage is not among them) -/
theorem prepare_assigns_as_modelled : prepareAssigns = ["accessList", "bhash", "thash", "txIndex"] := rfl

theorem block_loop_as_modelled : vmexecFacts = ["accountdb.Prepare(transaction.Hash,common.Hash{},i)[common.IsProposal013()]", "accountdb.Snapshot", "txExecutor.Execute", "accountdb.RevertToSnapshot[!success]", "receipt.Logs=this.accountdb.GetLogs(transaction.Hash)", "accountdb.GetLogs(transaction.Hash)[common.IsProposal013()]", "receipt.Logs=logs.([]*types.Log)", "exec:vmInstance.Create", "exec:accountdb.SetNonce[!(transaction.Target == \"\") && common.IsProposal007()]", "exec:vmInstance.Call", "exec:context[logs]=logs"] := rfl

/-- `addLogChange.undo`: the per-hash list shrinks (or disappears) and the block-wide counter `logSize` goes
    back UNCONDITIONALLY, last statement, outside the branch -- so `Log.Index` of later logs does not count logs of
    failed frames (model: `restore` gives `logSize` back; theorems `log_indices_consecutive_*`) -/
theorem add_log_undo_as_modelled :
    addLogUndo = "logs := s.logs[ch.txhash] ; if len(logs) == 1 { delete(s.logs, ch.txhash) } else { s.logs[ch.txhash] = logs[:len(logs)-1] } ; s.logSize--" :=
  rfl

/-- Which function on the C12 path consults which fork flag. The model takes `IsProposal013`,
    `IsProposal007`, `!IsProposal006 || IsProposal007` as inputs (`Cfg`), the harness derives the opcode
    availability (`Proposal014Block`, `Proposal022Block`) and the gas regime (`Proposal026`, `015`) from the
    schedule in force, and `IsProposal002` (balance journaling in `AddFT`/`SubFT`) is C04's `p002`
    hypothesis. A new flag read on the path breaks this. -/
theorem flag_reads_as_modelled : flagReads = ["account.AccountDB.AddFT:IsProposal002", "account.AccountDB.SubFT:IsProposal002", "core.VMExecutor.Execute:IsProposal006", "core.VMExecutor.Execute:IsProposal007", "core.VMExecutor.Execute:IsProposal013", "core.VMExecutor.Execute:IsProposal015", "core.VMExecutor.Execute:IsProposal018", "core.VMExecutor.Execute:IsProposal027", "core.VMExecutor.Execute:Proposal010Block", "core.VMExecutor.Execute:Proposal019Block", "executor.contractExecutor.Execute:IsProposal007", "executor.contractExecutor.Execute:IsProposal015", "executor.contractExecutor.Execute:IsProposal017", "executor.contractExecutor.Execute:IsProposal026", "executor.contractExecutor.decodeContractData:IsProposal005", "executor.contractExecutor.decodeContractData:IsProposal017", "vm.EVM.create:IsProposal006", "vm.EVM.create:IsProposal007", "vm.EVM.create:IsProposal026", "vm.NewEVMInterpreter:Proposal014Block", "vm.NewEVMInterpreter:Proposal022Block", "vm.NewEVMInterpreter:Proposal026Block", "vm.gasCreate2:IsProposal026", "vm.gasExpEIP158:IsProposal026", "vm.gasExpFrontier:IsProposal026", "vm.gasSStore:IsProposal015", "vm.gasSStore:IsProposal026", "vm.gasSStoreEIP2200:IsProposal015", "vm.gasSStoreEIP2200:IsProposal026", "vm.gasSha3:IsProposal026", "vm.makeGasLog:IsProposal026", "vm.memoryCopierGas:IsProposal026", "vm.memoryGasCost:IsProposal026"] := rfl

/-- Functions of package vm / storage/account that assign package-level variables: only logger
    set-up, the precompile address list (package init) and the ERC-20 ledger address cache. No frame
    entry point, opcode or journal method keeps state in a package-level variable. -/
theorem global_writes_as_modelled : globalWrites = ["account.AccountDB.loadContractCache:rpgContractAddress", "account.Init:accountLog", "vm.InitVM:logger", "vm.init:PrecompiledAddresses"] := rfl

theorem vm_constants_as_modelled : vmConstants = ["CallCreateDepth=1024", "CreateDataGas=200", "MaxCodeSize=245760"] := rfl

end Rangers.Props.C12Facts
