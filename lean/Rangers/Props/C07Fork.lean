import Rangers.Props.C07
/-!
# C07 — chain id by height on the built-in configurations

`chainIdStr` / `ethChainId` take the configuration as input; here they are instantiated with
the main-net values of `src/common/version.go`, so the fork-dependent clause of the property is
stated for the schedule the node really runs.  The values are typed in: they are those of the
`mainNetChainConfig` line the translator extracts (`Props.C07Facts.chain_configs`), and no theorem
connects the two.
-/
namespace Rangers.Props.C07
open Rangers Rangers.Model.TxAuth

/-- main net: chain id "8888" (bytes 56 56 56 56) before height 894116, "2025" (50 48 50 53) from it on -/
def mainnetCfg : ChainCfg :=
  { chainId := [50, 48, 50, 53], originalChainId := [56, 56, 56, 56], proposal001Block := 894116, genesisChainId := none }

theorem mainnet_chain_id_by_height (h : Nat) :
    chainIdStr mainnetCfg h = (if h ≥ 894116 then [50, 48, 50, 53] else [56, 56, 56, 56]) ∧
    ethChainId mainnetCfg h = (if h ≥ 894116 then 2025 else 8888) := by
  unfold ethChainId chainIdStr mainnetCfg
  by_cases hh : h ≥ 894116
  · simp [hh]
    decide
  · simp [hh]
    decide

theorem mainnet_other_side {h h' : Nat} (hside : (h ≥ 894116) ≠ (h' ≥ 894116)) :
    chainIdStr mainnetCfg h' ≠ chainIdStr mainnetCfg h ∧ ethChainId mainnetCfg h ≠ ethChainId mainnetCfg h' := by
  rw [(mainnet_chain_id_by_height h).1, (mainnet_chain_id_by_height h').1, (mainnet_chain_id_by_height h).2,
    (mainnet_chain_id_by_height h').2]
  by_cases a : h ≥ 894116
  · by_cases b : h' ≥ 894116
    · exact absurd (propext ⟨fun _ => b, fun _ => a⟩) hside
    · rw [if_pos a, if_neg b, if_pos a, if_neg b]
      exact ⟨by decide, by decide⟩
  · by_cases b : h' ≥ 894116
    · rw [if_neg a, if_pos b, if_neg a, if_pos b]
      exact ⟨by decide, by decide⟩
    · exact absurd (propext ⟨fun x => absurd x a, fun x => absurd x b⟩) hside

/-- A native transaction admitted on main net before the Proposal001 fork is rejected from the
    fork height on, and vice versa (same signed bytes, other side of the fork). -/
theorem mainnet_fork_separates_native (cr : Crypto) (tx : Tx) (h h' : Nat)
    (hacc : verifyNative cr mainnetCfg h tx = .ok) (hside : (h ≥ 894116) ≠ (h' ≥ 894116)) :
    verifyNative cr mainnetCfg h' tx = .chainId :=
  other_height_rejected cr mainnetCfg h h' tx hacc (mainnet_other_side hside).1

/-- The same for wrapped Ethereum transactions: the EIP-155 chain id an accepted payload is
    signed for is 8888 before the fork and 2025 from it on, so no protected payload is admitted on
    both sides (only the unprotected v = 27/28 ones are — the known finding). -/
theorem mainnet_fork_separates_eth (cr : Crypto) (tx : Tx) (h h' : Nat)
    (hacc : verifyEth cr mainnetCfg h tx = .ok) (hacc' : verifyEth cr mainnetCfg h' tx = .ok)
    (hside : (h ≥ 894116) ≠ (h' ≥ 894116)) : tx.chainId = [48] :=
  eth_other_height_unprotected cr mainnetCfg h h' tx hacc hacc' (mainnet_other_side hside).2

example : (894115 ≥ 894116) ≠ (894116 ≥ 894116) := by decide

end Rangers.Props.C07
