import Rangers.Model.Pool
import Rangers.Generated.PoolFacts
/-!
# C17, part B — the tie to the source by generated facts (T-gen)

`Rangers.Generated.PoolFacts` is rewritten from the go-rangers working tree on every run by
`gen/cmd/c17facts`. The tables below record what `Model/Pool.lean` was transcribed from. Each theorem
compares a finite generated table with its recorded value (both sides are closed literals, so `rfl`
is the whole proof; nothing is sampled): a changed constant, a new or removed call that touches
pool state, a re-ordered state-relevant statement, a new caller of the pool's mutating
interface, or a new function reaching into the pool's fields makes an obligation fail, and the
model has to be re-read against the source.
-/
namespace Rangers.Props.C17B
open Rangers Rangers.Pool Rangers.Generated

/-- What `Model/Pool.lean` was transcribed from: per function the state-relevant calls in source order. -/
def expectedCalls : List (String × List String) := [
  ("Transactions.Less", ["common.IsProposal023", "bytes.Compare", "panic", "Cmp", "common.FromHex", "common.FromHex", "Cmp", "common.IsProposal021", "common.FromHex", "common.FromHex", "Cmp", "common.IsProposal016", "Cmp"]),
  ("TxPool.AddTransaction", ["lock.Lock", "lock.Unlock", "add", "refreshGateNonce"]),
  ("TxPool.Clear", ["db.NewDatabase", "batch.Reset", "newSimpleContainer"]),
  ("TxPool.Close", ["executed.Close", "received.Close"]),
  ("TxPool.GetExecuted", ["executed.Get", "json.Unmarshal"]),
  ("TxPool.GetGateNonce", ["executed.Get"]),
  ("TxPool.GetReceived", ["received.asSlice"]),
  ("TxPool.GetTransaction", ["received.get", "GetExecuted", "types.UnMarshalTransaction"]),
  ("TxPool.GetTransactionStatus", ["GetExecuted"]),
  ("TxPool.IsExisted", ["isTransactionExisted"]),
  ("TxPool.IsFull", ["received.isFull"]),
  ("TxPool.MarkExecuted", ["lock.Lock", "lock.Unlock", "findTxInList", "types.MarshalTransaction", "json.Marshal", "batch.Put", "batch.ValueSize", "batch.Write", "batch.Reset", "refreshGateNonce", "batch.ValueSize", "batch.Write", "batch.Reset", "evictedTxs.Add", "remove"]),
  ("TxPool.PackForCast", ["received.asSlice", "common.IsProposal018", "checkNonce"]),
  ("TxPool.TxNum", ["received.Len"]),
  ("TxPool.UnMarkExecuted", ["return", "lock.Lock", "lock.Unlock", "evictedTxs.Remove", "executed.Delete", "add"]),
  ("TxPool.add", ["isTransactionExisted", "received.push", "received.Len"]),
  ("TxPool.checkNonce", ["sort.Sort", "GetNonce", "common.HexToAddress"]),
  ("TxPool.isTransactionExisted", ["received.contains", "executed.Has"]),
  ("TxPool.refreshGateNonce", ["batch.Put"]),
  ("TxPool.remove", ["received.remove", "received.Len"]),
  ("findTxInList", []),
  ("newSimpleContainer", ["db.NewDatabase", "go", "loop"]),
  ("newTransactionPool", ["newSimpleContainer", "lru.New", "db.NewLDBDatabase", "executed.NewBatch"]),
  ("simpleContainer.Close", []),
  ("simpleContainer.Len", ["data.Size"]),
  ("simpleContainer.asSlice", ["data.Values"]),
  ("simpleContainer.contains", ["data.Contains"]),
  ("simpleContainer.get", ["data.Get"]),
  ("simpleContainer.growRing", ["txAnnualRingMap.Range", "txAnnualRingMap.Store", "remove"]),
  ("simpleContainer.isFull", ["data.Size"]),
  ("simpleContainer.loop", ["go", "growRing"]),
  ("simpleContainer.push", ["data.Size", "data.Set", "txAnnualRingMap.Store"]),
  ("simpleContainer.remove", ["data.Removes", "txAnnualRingMap.Delete"])
]

/-- call sites of the pool's mutating interface methods in src/ (file:function:method) -/
def expectedInterfaceCallers : List String := [
  "src/core/blockchain.go:blockChain.CastBlock:PackForCast",
  "src/core/blockchain.go:blockChain.remove:UnMarkExecuted",
  "src/core/blockchain_add.go:blockChain.updateTxPool:MarkExecuted",
  "src/core/game_executor.go:GameExecutor.sendTransaction:AddTransaction",
  "src/network/worker_conn.go:WorkerConn.handleMessage:AddTransaction"
]

/-- functions of package service that touch the pool's fields (file:function:field) -/
def expectedFieldUsers : List String := [
  "src/service/simple_container.go:simpleContainer.growRing:txAnnualRingMap",
  "src/service/simple_container.go:simpleContainer.push:txAnnualRingMap",
  "src/service/simple_container.go:simpleContainer.remove:txAnnualRingMap",
  "src/service/transaction_pool.go:TxPool.Clear:batch",
  "src/service/transaction_pool.go:TxPool.Clear:executed",
  "src/service/transaction_pool.go:TxPool.Clear:received",
  "src/service/transaction_pool.go:TxPool.Close:executed",
  "src/service/transaction_pool.go:TxPool.Close:received",
  "src/service/transaction_pool.go:TxPool.GetExecuted:executed",
  "src/service/transaction_pool.go:TxPool.GetGateNonce:executed",
  "src/service/transaction_pool.go:TxPool.GetReceived:received",
  "src/service/transaction_pool.go:TxPool.GetTransaction:received",
  "src/service/transaction_pool.go:TxPool.IsFull:received",
  "src/service/transaction_pool.go:TxPool.MarkExecuted:batch",
  "src/service/transaction_pool.go:TxPool.MarkExecuted:evictedTxs",
  "src/service/transaction_pool.go:TxPool.PackForCast:received",
  "src/service/transaction_pool.go:TxPool.TxNum:received",
  "src/service/transaction_pool.go:TxPool.UnMarkExecuted:evictedTxs",
  "src/service/transaction_pool.go:TxPool.UnMarkExecuted:executed",
  "src/service/transaction_pool.go:TxPool.add:received",
  "src/service/transaction_pool.go:TxPool.isTransactionExisted:executed",
  "src/service/transaction_pool.go:TxPool.isTransactionExisted:received",
  "src/service/transaction_pool.go:TxPool.refreshGateNonce:batch",
  "src/service/transaction_pool.go:TxPool.remove:received",
  "src/service/transaction_pool.go:newTransactionPool:batch",
  "src/service/transaction_pool.go:newTransactionPool:evictedTxs",
  "src/service/transaction_pool.go:newTransactionPool:executed",
  "src/service/transaction_pool.go:newTransactionPool:received"
]

/-- The model's block limit, pending limit and expiry ring are the source's constants. -/
theorem consts_as_modelled :
    PoolFacts.txCountPerBlock = Pool.txCountPerBlock ∧ PoolFacts.rcvTxPoolSize = Pool.rcvTxPoolSize ∧
    PoolFacts.expiredRing = Pool.expiredRing := ⟨rfl, rfl, rfl⟩

/-- Every state-relevant call of the pool, the container and `Transactions.Less`, in source order,
is the one the model transcribes. -/
theorem calls_as_modelled : PoolFacts.calls = expectedCalls := rfl

/-- The pool's mutating interface is called from exactly the call sites the history model
(`Props/C17.lean`, `Op`) accounts for: `CastBlock` packs, `updateTxPool` marks, `remove` unmarks,
the network worker and the game executor submit. -/
theorem interface_callers_as_modelled : PoolFacts.interfaceCallers = expectedInterfaceCallers := rfl

/-- No other function of package `service` reaches into the pool's fields. -/
theorem field_users_as_modelled : PoolFacts.fieldUsers = expectedFieldUsers := rfl

/-- The fork schedules the correspondence run replays (heights on both sides of every proposal the pool's path
reads) are the source's mainnet and robin schedules. -/
theorem schedules_as_replayed :
    PoolFacts.mainNetSchedule = [54038500, 55959500, 61202000, 63100000] ∧
    PoolFacts.robinSchedule = [62320000, 65795000, 74312000, 77826000] := ⟨rfl, rfl⟩

/-- No function of the pool, the container or `Transactions.Less` writes package-level state, except the
singleton set once at start-up: results cannot depend on hidden process-local history. -/
theorem no_package_state_written :
    PoolFacts.packageWrites = ["src/service/transaction_pool.go:initTransactionPool:txpoolInstance"] := rfl

/-- Which store errors the pool drops, as modelled: `MarkExecuted` has no error result and ignores what
`batch.Write` returns (a failed write loses the block's records silently — `Props/C17D.write_error_loses_records`),
`UnMarkExecuted` ignores `executed.Delete`. A change here (e.g. error handling added) must be re-read. -/
theorem dropped_errors_as_modelled :
    PoolFacts.droppedErrors = ["TxPool.refreshGateNonce:batch.Put", "TxPool.MarkExecuted:batch.Put",
      "TxPool.MarkExecuted:batch.Write", "TxPool.MarkExecuted:batch.Write", "TxPool.UnMarkExecuted:executed.Delete"] := rfl

/-- What `Model/PoolChain.lean` was transcribed from. -/
def expectedChainCalls : List (String × List String × List String) := [
  ("blockChain.AddBlockOnChain", ["consensusVerify", "addBlockOnChain"], []),
  ("blockChain.CastBlock", ["transactionPool.PackForCast", "sort.Sort", "common.IsProposal020", "runTransactions", "runTransactions"], ["height <= Height"]),
  ("blockChain.addBlockOnChain", ["HasBlockByHash", "verifyBlock", "insertBlock", "queryBlockHeaderByHash", "removeFromCommonAncestor", "addBlockOnChain", "QueryBlockHeaderByHeight", "chainPvGreatThanRemote", "removeFromCommonAncestor", "addBlockOnChain"], ["Hash == Hash", "PreHash == Hash", "TotalQN < TotalQN", "TotalQN > TotalQN"]),
  ("blockChain.consensusVerify", ["hasPreBlock", "futureBlocks.Add", "queryBlockHeaderByHash"], []),
  ("blockChain.insertBlock", ["markAddBlock", "saveBlockByHash", "saveBlockByHeight", "saveStates", "updateTxPool", "updateLastBlock", "successOnChainCallBack"], []),
  ("blockChain.remove", ["markRemoveBlock", "hashDB.Delete", "heightDB.Delete", "queryBlockByHash", "transactionPool.UnMarkExecuted"], []),
  ("blockChain.removeFromCommonAncestor", ["QueryBlockHeaderByHeight", "queryBlockByHash", "remove"], ["height > Height"]),
  ("blockChain.runTransactions", ["Execute", "common.IsProposal020", "common.IsProposal023", "verifiedBlocks.Add"], []),
  ("blockChain.successOnChainCallBack", ["futureBlocks.Get", "addBlockOnChain"], []),
  ("blockChain.updateTxPool", ["transactionPool.MarkExecuted"], []),
  ("blockChain.verifyBlock", ["verifiedBlocks.Contains", "queryBlockHeaderByHash", "futureBlocks.Add", "common.IsProposal008", "transactionPool.GetExecuted", "missTransaction", "common.IsProposal020", "checkStates"], []),
  ("chainPvGreatThanRemote", ["Cmp"], ["compareValue > 0", "compareValue < 0", "hashBigCompareValue > 0"])
]

/-- `VMExecutor.Execute` as read for `CBlock.receipts`: `continue` (Type 0), `break` (casting time-out), evicted + `continue`
(not addable, proposal 018), evicted (failed, before 018), then transaction and receipt appended together. -/
def expectedExecuteShape : List String := [
  "continue",
  "break",
  "append:evictedTxs",
  "continue",
  "append:evictedTxs",
  "append:transactions",
  "append:receipts"
]

/-- The chain's side as modelled: the order of the calls that reach the pool or decide the fork choice in
`AddBlockOnChain`, `consensusVerify`, `addBlockOnChain`, `verifyBlock` (proposal-008 test before execution),
`insertBlock` (`updateTxPool` before the head moves), `remove`, `removeFromCommonAncestor`, `CastBlock`,
`runTransactions`, `successOnChainCallBack`, and the comparison operators of the fork choice. -/
theorem chain_calls_as_modelled : PoolFacts.chainCalls = expectedChainCalls := rfl

/-- A receipt is appended exactly where its transaction is: `receipts_covered` (Props/C17F) rests on this shape. -/
theorem execute_shape_as_modelled : PoolFacts.executeShape = expectedExecuteShape := rfl

end Rangers.Props.C17B
