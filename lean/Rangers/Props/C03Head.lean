import Rangers.Proofs.TrieDBHead
import Rangers.Proofs.TrieDBExample
/-!
# C03 — a head is recorded only after its state root is durable

The `blockchain_add.go` side of the C03 anchor.  `insertBlock` calls `saveStates`
(`state.Commit`, then `trieDB.Commit(root)`), gives up if either failed, and only
afterwards writes the head record; `remove` moves it back to a former head.
The statement order is regenerated from the source (`facts_head_after_save_states`);
over the model `Model/TrieDBHead.lean` this yields: whatever the head record names —
after any history of blocks, refused writes at any physical write, process deaths
and removals — its state root resolves from the disk alone.  That is the C03 half
of C05's "the head's state root can be opened" (C05 models the block store and
assumes this of the state store).  Assumption carried by C01/C05, not here: the
root returned by `state.Commit` is the `StateTree` of the header being recorded.
-/
namespace Rangers.Props.C03Head
open Rangers.Model.TrieDB Rangers.Generated

/-- `insertBlock` changes the head record only together with a node commit of that
    very root that reported success (all batches written). -/
theorem head_recorded_only_after_successful_commit (eD eC : Hash) (cs cs' : ChainSt) (root : Hash)
    (failAt : Option Nat) (headWriteOk : Bool)
    (hs : chainStep eD eC cs (.insertBlock root failAt headWriteOk) = some cs')
    (hchg : cs'.head ≠ cs.head ∨ cs'.heads ≠ cs.heads) :
    ∃ out, commit cs.st root failAt (cs.st.cache.length + 1) = some out ∧ out.ok = true ∧
      cs'.st = out.st ∧ cs'.head = some root := by
  obtain ⟨out, hc, hst, ⟨hok, hh, _⟩ | ⟨h1, h2⟩⟩ := insertBlock_cases hs
  · exact ⟨out, hc, hok, hst, hh⟩
  · exact hchg.elim (fun h => absurd h1 h) (fun h => absurd h2 h)

/-- a refused write during `saveStates` leaves the head record untouched -/
theorem failed_save_keeps_head (eD eC : Hash) (cs cs' : ChainSt) (root : Hash) (k : Nat) (headWriteOk : Bool)
    (out : CommitOut) (hc : commit cs.st root (some k) (cs.st.cache.length + 1) = some out) (hfail : out.ok = false)
    (hs : chainStep eD eC cs (.insertBlock root (some k) headWriteOk) = some cs') :
    cs'.head = cs.head ∧ cs'.heads = cs.heads := by
  obtain ⟨out', hc', _, ⟨hok, _⟩ | h⟩ := insertBlock_cases hs
  · cases hc.symm.trans hc'
    rw [hfail] at hok
    cases hok
  · exact h

/-- **recorded head ⇒ its state root opens from the disk alone**, in every reachable
    state: after any history of blocks, refused writes at any point, deaths, removals. -/
theorem recorded_head_openable (eD eC : Hash) (cs : ChainSt) (hr : ChainReach eD eC cs) (r : Hash)
    (hh : cs.head = some r) : Resolvable cs.st.disk r :=
  let i := chainReach_inv hr
  i.headsRes r (i.headIn r hh)

/-- every block that was ever head stays openable (what `remove` falls back to) -/
theorem former_heads_openable (eD eC : Hash) (cs : ChainSt) (hr : ChainReach eD eC cs) (r : Hash)
    (hm : r ∈ cs.heads) : Resolvable cs.st.disk r := (chainReach_inv hr).headsRes r hm

theorem facts_head_after_save_states :
    TrieDbFacts.insertBlockSkeleton =
      ["marshal", "markAddBlock", "saveBlockByHash-or-fail", "marshal", "saveBlockByHeight-or-fail", "saveStates",
       "if-not-saved-return-failed", "updateVerifyHash", "updateTxPool", "topBlocks.Add", "updateLastBlock-or-fail",
       "eraseAddBlockMark", "successCallback", "return-succ"] ∧
    TrieDbFacts.saveStatesSkeleton =
      ["state-from-verified-cache-or-execute-else-return-false", "state.Commit", "if-err-return-false",
       "trieDB.Commit-root", "if-err-return-false", "return-true"] ∧
    TrieDbFacts.updateLastBlockSkeleton = ["stmt1:Put-latestBlockKey", "if-err-return-false"] ∧
    TrieDbFacts.headRecordWriters =
      ["src/core/blockchain.go:remove:Put", "src/core/blockchain_add.go:updateLastBlock:Put"] ∧
    TrieDbFacts.forkSaveStateSkeleton =
      ["state.Commit", "if-err-return-err", "trieDB.Commit-root", "if-err-return-err", "return-nil"] := ⟨rfl, rfl, rfl, rfl, rfl⟩

/-! non-vacuity: the example history of `Proofs/TrieDBExample.lean` as a block -/

example : ∃ cs', chainStep 0 0 ⟨Rangers.Props.C03.exS5, none, []⟩ (.insertBlock 5 none true) = some cs' ∧
    cs'.head = some 5 ∧ cs'.st.cache = [] := ⟨_, rfl, rfl, rfl⟩

/-- a refused first write: nothing recorded -/
example : ∃ cs', chainStep 0 0 ⟨Rangers.Props.C03.exS5, none, []⟩ (.insertBlock 5 (some 0) true) = some cs' ∧
    cs'.head = none := ⟨_, rfl, rfl⟩

/-- `ChainOpOk` of that block: the root is in the memory database -/
example : ChainOpOk 0 0 ⟨Rangers.Props.C03.exS5, none, []⟩ (.insertBlock 5 none true) := by
  show (liveLookup Rangers.Props.C03.exS5 5).isSome = true
  decide

end Rangers.Props.C03Head
