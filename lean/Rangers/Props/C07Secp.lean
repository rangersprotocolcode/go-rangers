import Rangers.Props.C07
import Rangers.Proofs.TxAuthSecp
/-!
# C07 — the secp256k1 layer as decision logic

`libRecover` / `libVerify` model libsecp256k1's `secp256k1_ext_ecdsa_recover` /
`secp256k1_ext_ecdsa_verify` down to the curve operations (parameters `recoverCore`,
`verifyCore`): scalar overflow (r, s ≥ N), zero components and the **low-s rule**
(`!secp256k1_scalar_is_high(&s)`) are modelled clauses, as are the recovery-id checks of the two
Go wrappers (`src/common/secp256k1`: 27..30 ↦ 0..3; `src/eth_crypto/secp256k1`: < 4).  So
the ECDSA twin `(r, N−s, v⊕1)` is rejected *by a theorem*, on both paths.
-/
namespace Rangers.Props.C07
open Rangers Rangers.Model.TxAuth

/-- What every accepted native signature satisfies, whatever the curve operations are:
    65 wire bytes, 1 ≤ r < N, 1 ≤ s ≤ N/2 (low-s). -/
theorem native_accept_sig_range (cr : Crypto) (cfg : ChainCfg) (h : Nat) (tx : Tx)
    (hacc : verifyNative cr cfg h tx = .ok) :
    ∃ sg, tx.sign = some sg ∧ sg.bytes.length = 65 ∧
      (1 ≤ sg.r ∧ sg.r < secpN) ∧ (1 ≤ sg.s ∧ sg.s ≤ secpHalfN) := by
  obtain ⟨_, _, sg, pk, hs, hrec, hver, _⟩ := (native_accept_iff cr cfg h tx).1 hacc
  have hlen := recoverPubkey_len _ _ _ _ hrec
  obtain ⟨hr, hs', _⟩ := sign_components sg hlen
  obtain ⟨h1, h2, _⟩ := (libVerify_spec cr pk tx.hash _).1 hver
  rw [hr] at h1
  rw [hs'] at h2
  exact ⟨sg, hs, hlen, h1, h2⟩

/-- The low-s rule on the native path: a signature with s > N/2 is rejected whatever it recovers to. -/
theorem native_high_s_rejected (cr : Crypto) (cfg : ChainCfg) (h : Nat) (tx : Tx) (sg : Sign)
    (hs : tx.sign = some sg) (hhigh : sg.s > secpHalfN) : verifyNative cr cfg h tx ≠ .ok := by
  intro hacc
  obtain ⟨sg', hs', _, _, h2⟩ := native_accept_sig_range cr cfg h tx hacc
  rw [hs] at hs'; cases hs'
  exact Nat.not_le.2 hhigh h2.2

/-- The ECDSA twin of an accepted signature — s replaced by N − s, with *any* r and any
    recovery byte — is rejected (this is the mutant the seeded regression C07-a lets through). -/
theorem sign_twin_rejected (cr : Crypto) (cfg : ChainCfg) (h : Nat) (tx : Tx) (sg sg' : Sign)
    (hs : tx.sign = some sg) (hacc : verifyNative cr cfg h tx = .ok) (htwin : sg'.s = secpN - sg.s) :
    verifyNative cr cfg h { tx with sign := some sg' } ≠ .ok := by
  obtain ⟨sg0, hs0, _, _, h2⟩ := native_accept_sig_range cr cfg h tx hacc
  rw [hs] at hs0; cases hs0
  exact native_high_s_rejected cr cfg h _ sg' rfl (htwin ▸ twin_is_high h2.2)

example : ∃ sg sg' : Sign, sg'.s = secpN - sg.s ∧ sg.s ≤ secpHalfN := ⟨⟨1, 1, 27⟩, ⟨1, secpN - 1, 28⟩, rfl, by decide⟩

/-- If a transaction stays accepted with another signature in place of its own, the new signature is itself in
    range (1 ≤ r < N) and low-s (1 ≤ s ≤ N/2) — so it is not the twin.  The last clause says only that both
    signatures are 65 bytes long; its two premises are not used. -/
theorem sign_mutation_partial_lowS (cr : Crypto) (cfg : ChainCfg) (h : Nat) (tx : Tx) (sg' : Option Sign)
    (hacc : verifyNative cr cfg h tx = .ok)
    (hacc' : verifyNative cr cfg h { tx with sign := sg' } = .ok) :
    ∃ sg s', tx.sign = some sg ∧ sg' = some s' ∧
      (1 ≤ s'.r ∧ s'.r < secpN) ∧ (1 ≤ s'.s ∧ s'.s ≤ secpHalfN) ∧
      (s'.r = sg.r → s'.s = sg.s → s'.bytes.length = 65 ∧ sg.bytes.length = 65) := by
  obtain ⟨sg, hs, hl, _, _⟩ := native_accept_sig_range cr cfg h tx hacc
  obtain ⟨s', hs', hl', hr', hss'⟩ := native_accept_sig_range cr cfg h _ hacc'
  exact ⟨sg, s', hs, hs', hr', hss', fun _ _ => ⟨hl', hl⟩⟩

theorem ethSender_sig_range (cr : Crypto) (c : Nat) (e : EthTx) (sender : Bytes)
    (h : ethSender cr c e = some sender) :
    (1 ≤ e.r ∧ e.r < secpN) ∧ (1 ≤ e.s ∧ e.s ≤ secpHalfN) := by
  obtain ⟨sh, vb, _, hrp⟩ := ethSender_some_recoverPlain h
  obtain ⟨_, _, _, hr, hs, _⟩ := recoverPlain_some_spec cr sh e.r e.s vb sender hrp
  exact ⟨hr, hs⟩

/-- The low-s rule on the ETH path: an accepted wrapped transaction carries 1 ≤ r < N and
    1 ≤ s ≤ N/2; hence the twin payload (s ↦ N − s, any v) is rejected. -/
theorem eth_accept_sig_range (cr : Crypto) (cfg : ChainCfg) (h : Nat) (tx : Tx)
    (hacc : verifyEth cr cfg h tx = .ok) :
    ∃ e, decodeTx (fromHex tx.extraData) = some e ∧
      (1 ≤ e.r ∧ e.r < secpN) ∧ (1 ≤ e.s ∧ e.s ≤ secpHalfN) := by
  obtain ⟨e, s, hd, _, hs, _⟩ := (eth_accept_iff cr cfg h tx).1 hacc
  exact ⟨e, hd, ethSender_sig_range cr _ e s hs⟩

theorem eth_twin_rejected (cr : Crypto) (cfg : ChainCfg) (h : Nat) (tx tx' : Tx) (e e' : EthTx)
    (hacc : verifyEth cr cfg h tx = .ok)
    (hd : decodeTx (fromHex tx.extraData) = some e) (hd' : decodeTx (fromHex tx'.extraData) = some e')
    (htwin : e'.s = secpN - e.s) : verifyEth cr cfg h tx' ≠ .ok := by
  intro hacc'
  obtain ⟨e0, hd0, _, h2⟩ := eth_accept_sig_range cr cfg h tx hacc
  obtain ⟨e1, hd1, _, h3⟩ := eth_accept_sig_range cr cfg h tx' hacc'
  rw [hd] at hd0; cases hd0
  rw [hd'] at hd1; cases hd1
  exact Nat.not_lt.2 h3.2 (htwin ▸ twin_is_high h2.2)

end Rangers.Props.C07
