import Rangers.Props.C09B
/-!
# C09, part 3 — values obtained by parsing; where the full statements fail (known findings)
-/
namespace Rangers.Props.C09
open Rangers Rangers.Wire Rangers.Json

/-- Full statement for values obtained by parsing: the next Marshal/UnMarshal pass is the identity. -/
def passIsIdentity (h : Header) : Bool :=
  match marshalHeader h with
  | some b => unmarshalHeader b == .ok h
  | none => false

def FullStatement_parsed_fixed_point : Prop :=
  ∀ (bs : Bytes) (h : Header), unmarshalHeader bs = .ok h → passIsIdentity h = true

/-- Proved restriction: … when the parsed times are ones `time.MarshalBinary` carries and the
    RequestIds JSON is in the class `encoding/json` reads back verbatim. -/
theorem parsed_fixed_point_partial (bs : Bytes) (h : Header) (hu : unmarshalHeader bs = .ok h)
    (ok : HeaderOK h) (fits : HeaderFits h) : passIsIdentity h = true := by
  obtain ⟨p, hph⟩ := unmarshalHeader_ok bs h hu
  obtain ⟨b, hb, hub, _⟩ := header_lossless h ok fits (producible_of_parsed p h hph)
  simp [passIsIdentity, hb, hub]

/-- A header message whose PreTime is a version-2 time with zone offset -56 min +36 s. -/
def witnessNegSec : Bytes :=
  [0x22, 0x10, 0x02, 0, 0, 0, 0x0e, 0xd9, 0x58, 0xa9, 0x29, 0, 0, 0, 0, 0xff, 0xc8, 0x24,
   0x3a, 0x0f, 0x01, 0, 0, 0, 0x0e, 0xd9, 0x58, 0xa9, 0x29, 0, 0, 0, 0, 0xff, 0xff]

def witnessNegSecHeader : Header :=
  match unmarshalHeader witnessNegSec with
  | .ok h => h
  | _ => default

theorem witnessNegSec_parses : unmarshalHeader witnessNegSec = .ok witnessNegSecHeader := by decide +kernel

theorem witnessNegSec_zone : witnessNegSecHeader.preTime.zone = some (-3324) := by decide +kernel

theorem witnessNegSec_zone_after :
    (match marshalHeader witnessNegSecHeader with
    | some b => (match unmarshalHeader b with | .ok h => h.preTime.zone | _ => none)
    | none => none) = some (-3068) := by decide +kernel

/-- Known finding `parsed-header-roundtrip-time-zone-negative-seconds`: the parsed header has zone
    -3324 s; re-marshalled and re-parsed it has zone -3068 s (Go reads the seconds byte unsigned). -/
theorem parsed_fixed_point_counterexample : ¬ FullStatement_parsed_fixed_point := by
  intro H
  have h := H witnessNegSec witnessNegSecHeader witnessNegSec_parses
  have e := witnessNegSec_zone_after
  -- were the pass the identity, the zone after it would be the zone before
  unfold passIsIdentity at h
  cases hm : marshalHeader witnessNegSecHeader with
  | none => rw [hm] at h; cases h
  | some b =>
    rw [hm] at h e
    dsimp only at h e
    rw [eq_of_beq h] at e
    exact absurd (witnessNegSec_zone.symm.trans e) (by decide)

set_option maxRecDepth 4000 in
example : witnessNegSecHeader.preTime.zone = some (-3324) := witnessNegSec_zone
set_option maxRecDepth 4000 in
example : (match marshalHeader witnessNegSecHeader with
    | some b => (match unmarshalHeader b with | .ok h => h.preTime.zone | _ => none)
    | none => none) = some (-3068) := witnessNegSec_zone_after

/-- The same header message with zone offset -2 min +30 s. -/
def witnessM1 : Bytes :=
  [0x22, 0x10, 0x02, 0, 0, 0, 0x0e, 0xd9, 0x58, 0xa9, 0x29, 0, 0, 0, 0, 0xff, 0xfe, 0x1e,
   0x3a, 0x0f, 0x01, 0, 0, 0, 0x0e, 0xd9, 0x58, 0xa9, 0x29, 0, 0, 0, 0, 0xff, 0xff]

/-- Known finding `parsed-header-roundtrip-time-zone-not-marshalable`: zone offset -90 s parses,
    but `MarshalBlockHeader` of the parsed header returns (nil, nil). -/
theorem parsed_not_marshalable_witness :
    (match unmarshalHeader witnessM1 with
     | .ok h => marshalHeader h == none && h.preTime.zone == some (-90)
     | _ => false) = true := by decide +kernel

/-- Why `Producible` is needed in `header_hash_stable`: a header with nil `Transactions` renders
    `"Transactions":null` before and `"Transactions":[]` after the pass. -/
def FullStatement_hash_stable_all : Prop :=
  ∀ h : Header, HeaderOK h → headerHashInput (normHeader h) = headerHashInput h

def witnessNilTxs : Header :=
  { hash := List.replicate 32 0, height := 1, preHash := List.replicate 32 0, preTime := ⟨63776008489, 0, none⟩,
    proveValue := none, totalQN := 0, curTime := ⟨63776008490, 5, some 28800⟩, castor := none, groupId := none,
    signature := none, nonce := 0, requestIds := .nil, transactions := none, txTree := List.replicate 32 0,
    receiptTree := List.replicate 32 0, stateTree := List.replicate 32 0, extraData := none, random := none,
    evictedTxs := some [] }

theorem witnessTimes_ok : TimeOK witnessNilTxs.preTime ∧ TimeOK witnessNilTxs.curTime := by
  refine ⟨⟨by decide, by decide, by decide, trivial⟩, by decide, by decide, by decide, ?_⟩
  show (-32768 ≤ Int.tdiv 28800 60 ∧ Int.tdiv 28800 60 ≤ 32767 ∧ Int.tdiv 28800 60 ≠ -1 ∧ 0 ≤ Int.tmod 28800 60)
  decide

theorem witnessNilTxs_ok : HeaderOK witnessNilTxs :=
  ⟨witnessTimes_ok.1, witnessTimes_ok.2, by unfold ReqIdsStable; decide +kernel⟩

theorem hash_stable_all_counterexample : ¬ FullStatement_hash_stable_all := by
  intro H
  have h := H witnessNilTxs witnessNilTxs_ok
  revert h
  decide +kernel

/-- Non-vacuity of `header_lossless`: a concrete producible header satisfies every hypothesis. -/
def sampleHeader : Header :=
  { witnessNilTxs with
    transactions := some [(List.replicate 32 1, List.replicate 32 2)]
    proveValue := some 5
    requestIds := .map [([0x66, 0x69, 0x78, 0x65, 0x64], 1024)] }

example : HeaderOK sampleHeader :=
  ⟨witnessTimes_ok.1, witnessTimes_ok.2, by unfold ReqIdsStable; decide +kernel⟩

set_option maxRecDepth 8000 in
example : passIsIdentity sampleHeader = true := by decide +kernel

end Rangers.Props.C09
