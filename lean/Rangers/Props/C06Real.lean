import Rangers.Props.C06
import Rangers.Props.C18
import Rangers.Props.C18Aux
/-!
# C06 — the ledger primitives are the real conversions

`Model/Ledger.lean` writes the balance primitives with exact integer arithmetic (`addBal`, `subBal`, `get`,
`toWei`, `v / wei`).  The Go code reaches the slot through decimal strings and 512-bit floats:

* `AccountDB.AddFT/SubFT/SetFT` pass the amount through `FormatDecimalForERC20(amount, 18)`
  (`= strToBigInt(BigIntToStr(amount), 18)`), `GetFT` and the value `SubFT` returns through
  `FormatDecimalForRocket`;
* `MinerManager.AddStake/AddMiner` debit `Float64ToBigInt(float64(stake))`;
* the refund path credits `Uint64ToBigInt(stake)`;
* the stake opcodes read `ParseUint(BigIntToStrWithoutDot(money))`.

C18's `Model/Decimal.lean` models those functions exactly (`ftAdd`, `ftSub`, `ftGet`, `ftSet`, `stakeToBigInt`,
`uint64ToBigInt`, `stakeArg`).  The theorems below state when the ledger primitives ARE those functions, prove
that the condition is an invariant of the ledger, and show with concrete witnesses what happens outside of it
(the same witnesses are run against the real functions by the `conv` stream of the C06 harness).
-/
namespace Rangers.Props.C06Real
open Rangers.Ledger Rangers.Decimal

example : ftAdd 18 (get [(1, 5)] 1) 7 = some (get (addBal [(1, 5)] 1 7) 1) := by decide +kernel

/-- **`subBal` is `AccountDB.SubFT`**: same refusal test (`remain < value`), same new slot, and the `*big.Int` it
    returns (`FormatDecimalForRocket` of the remainder; the refused case returns the untouched slot) is exact. -/
theorem subBal_is_SubFT (b : Bal) (a : Addr) (n : Int) (hb : get b a < 2 ^ 509) (hn : n.natAbs < 2 ^ 509) :
    ftSub 18 (get b a) n =
      some ((subBal b a n).2, get (subBal b a n).1 a,
            .ok (if (subBal b a n).2 then ((get b a : Nat) : Int) - n else ((get b a : Nat) : Int))) := by
  have h509 : (2 : ℕ) ^ 510 = 2 * 2 ^ 509 := by rw [show 510 = 509 + 1 from rfl, Nat.pow_succ]; omega
  unfold ftSub
  rw [Rangers.Props.C18.erc20_18_id n (lt_two_pow_510 hn)]
  unfold subBal
  by_cases hlt : ((get b a : Nat) : Int) < n
  · simp [hlt]
  · simp only [hlt, if_false, get_put_same, Option.some.injEq, Prod.mk.injEq, true_and, if_true]
    exact Rangers.Props.C18.rocket_18_id _ (by omega)

example : ftSub 18 (get [(1, 5)] 1) 7 = some (false, 5, .ok 5) ∧ (subBal [(1, 5)] 1 7).2 = false := by decide +kernel

/-- **`get` is `GetBalance`/`GetFT`** and **`put` is `SetBalance`/`SetFT`** below `2^510`. -/
theorem get_is_GetFT_put_is_SetFT (b : Bal) (a : Addr) (n : Int) (hb : get b a < 2 ^ 510) (hn : n.natAbs < 2 ^ 510) :
    ftGet 18 (get b a) = .ok ((get b a : Nat) : Int) ∧ ftSet 18 n = some (get (put b a n.natAbs) a) :=
  ⟨Rangers.Props.C18.ftGet_18 _ hb, by rw [Rangers.Props.C18.ftSet_18 n hn, get_put_same]⟩

example : ftGet 18 (get [(1, 5)] 1) = .ok 5 ∧ ftSet 18 (-9) = some 9 := by decide +kernel

/-- What one would like to write: the primitives agree with the code for every slot and amount. -/
def FullStatementAddIsAddFT : Prop :=
  ∀ (b : Bal) (a : Addr) (n : Int), ftAdd 18 (get b a) n = some (get (addBal b a n) a)

/-- **`addBal` is `AccountDB.AddFT`** (ERC-20 branch, 18 decimals) for every slot and every amount — of either
    sign — below `2^509` in magnitude: the decimal-string / 512-bit-float round trip of
    `FormatDecimalForERC20` is the identity there.  The proved restriction of `FullStatementAddIsAddFT`. -/
theorem addBal_is_AddFT_partial (b : Bal) (a : Addr) (n : Int) (hn : n.natAbs < 2 ^ 509) :
    ftAdd 18 (get b a) n = some (get (addBal b a n) a) := by
  unfold ftAdd
  rw [Rangers.Props.C18.erc20_18_id n (lt_two_pow_510 hn)]
  simp only [addBal, get_put_same]

theorem addBal_is_AddFT (b : Bal) (a : Addr) (n : Int) (hn : n.natAbs < 2 ^ 509) :
    ftAdd 18 (get b a) n = some (get (addBal b a n) a) := addBal_is_AddFT_partial b a n hn

/-- Without the bound it is false: crediting `2^513 + 1` wei to an empty slot stores `2^513 + 2` in the code
    (the 512-bit float rounds away from zero) — the `conv` stream runs this witness against the real `AddFT`.
    It needs an amount above `2^509`, which no balance test lets through (`amounts_that_pass_are_bounded`). -/
theorem addBal_is_AddFT_counterexample : ¬ FullStatementAddIsAddFT := by
  intro h
  have := h [] 0 (2 ^ 513 + 1)
  revert this
  decide +kernel

theorem slot_le_total (b : Bal) (a : Addr) : get b a ≤ total b := get_le_total b a

/-- An amount that passed a balance test (`vm.CanTransfer`; `transferBalance`, `ProcessFee`, `AddStake`,
    `minerNodeExecutor` use the same comparison) is non-negative and at most the slot, hence below any bound on
    the sum of all balances. -/
theorem amounts_that_pass_are_bounded (b : Bal) (a : Addr) (v : Int) (B : Nat) (hB : total b < B)
    (h : canTransfer b a v = true) : 0 ≤ v ∧ v.natAbs < B := by
  obtain ⟨h0, hle⟩ := (canTransfer_iff b a v).1 h
  have := get_le_total b a
  omega

example : canTransfer [(1, 5)] 1 5 = true ∧ canTransfer [(1, 5)] 1 6 = false ∧ canTransfer [(1, 5)] 1 (-1) = false := by decide

/-- **The bound is an invariant of transactions**: if all balances together are below `2^509` wei (the supply
    is about `2^91` wei), then after any transaction of any type every slot is still below `2^509` — so along
    every execution the exact primitives of the model and the string/float primitives of the code coincide
    (`addBal_is_AddFT_partial`, `subBal_is_SubFT`, `get_is_GetFT_put_is_SetFT`). -/
theorem real_bound_invariant_tx (fuel : Nat) (w : World) (hj : w.fl.p002 = true) (tx : Tx)
    (hB : total w.st.bal < 2 ^ 509) (a : Addr) :
    total (execTx fuel w tx).1.st.bal < 2 ^ 509 ∧ get (execTx fuel w tx).1.st.bal a < 2 ^ 509 := by
  have h1 := Rangers.Props.C06.tx_never_mints fuel w hj tx
  have h2 := get_le_total (execTx fuel w tx).1.st.bal a
  omega

/-- … and of blocks, as long as what the escrow pays out at this height fits as well. -/
theorem real_bound_invariant_block (fuel : Nat) (w : World) (hj : w.fl.p002 = true) (h : Nat) (txs : List Tx)
    (rewards : Escrow)
    (hB : total w.st.bal + ((dueAt (Rangers.Props.C06.escrowAtPayout fuel w h txs rewards) h).map (·.2)).sum < 2 ^ 509)
    (a : Addr) :
    get (execBlock fuel w h txs rewards).1.st.bal a < 2 ^ 509 := by
  have h1 := Rangers.Props.C06.block_mints_only_due fuel w hj h txs rewards
  have h2 := get_le_total (execBlock fuel w h txs rewards).1.st.bal a
  omega

/-- **`toWei` is `Uint64ToBigInt`** (the refund path: `GetRefundStake` returns `Uint64ToBigInt(refund)`), for
    every `n`. -/
theorem toWei_is_Uint64ToBigInt (n : Nat) : uint64ToBigInt n = ((toWei n : Nat) : Int) := by
  unfold uint64ToBigInt
  rw [toWei_eq, wei]
  push_cast
  rfl

/-- **`v / wei` with the 64-bit range test is `ParseUint(BigIntToStrWithoutDot(v))`**, the argument reader of
    STAKE / UNSTAKE (`opStake` refuses when it is `none`, `opUnStake` takes "all"). -/
theorem stake_target_is_stakeArg (v : Nat) :
    stakeArg (v : Int) = if v / wei > uint64Max then none else some (v / wei) := by
  rw [Rangers.Props.C18Aux.stakeArg_value (v : Int) (by omega)]
  simp only [Int.natAbs_natCast]
  have hw : wei = 10 ^ 18 := by decide
  have hu : uint64Max + 1 = 2 ^ 64 := by decide
  rw [hw]
  by_cases h : v / 10 ^ 18 < 2 ^ 64
  · rw [if_pos h, if_neg (by omega)]
  · rw [if_neg h, if_pos (by omega)]

example : stakeArg ((25 * 10 ^ 17 : Nat) : Int) = some 2 := by decide +kernel

/-- **`toWei` is the stake debit `Float64ToBigInt(float64(n))`** of `AddStake` / `AddMiner` below `2^53` whole
    tokens. -/
theorem toWei_is_stake_debit_partial (n : Nat) (h : n < 2 ^ 53) : stakeToBigInt n = .ok ((toWei n : Nat) : Int) := by
  rw [(Rangers.Props.C18Aux.stake_exact n h).1, toWei_eq, wei]
  push_cast
  rfl

example : stakeToBigInt 400 = .ok 400000000000000000000 := by decide +kernel

/-- What one would like to write: the debit is exact for every 64-bit stake. -/
def FullStatementStakeDebitExact : Prop :=
  ∀ n : Nat, n < 2 ^ 64 → stakeToBigInt n = .ok ((n : Int) * 10 ^ 18)

/-- It is false from `2^53 + 1` on, and the error goes the wrong way for conservation: `AddStake` with
    `2^53 + 1` tokens debits `2^53` tokens (float64 rounding) and raises the stake by `2^53 + 1`; the refund path
    is exact, so refunding that stake pays **one whole token more than was debited**.  Run against the real
    `Float64ToBigInt` / `Uint64ToBigInt` by the `conv` stream (`stk 9007199254740993`).  Unreachable on a
    ledger whose sum of balances is below `2^53` tokens (`AddStake` tests `balance >= debit` first, and
    `real_bound_invariant_tx` keeps the sum from growing); documented in design/C06.md, not a finding. -/
theorem stake_debit_counterexample :
    ¬ FullStatementStakeDebitExact ∧
    stakeToBigInt (2 ^ 53 + 1) = .ok ((2 ^ 53 : Int) * 10 ^ 18) ∧
    uint64ToBigInt (2 ^ 53 + 1) - (2 ^ 53 : Int) * 10 ^ 18 = 10 ^ 18 := by
  refine ⟨Rangers.Props.C18Aux.stake_exact_counterexample, ?_, ?_⟩ <;> decide +kernel

end Rangers.Props.C06Real

namespace Rangers.Props.C06Real
open Rangers.Ledger

/-- **`intrinsicGas` (on byte counts, as `contractExecute` uses it) is `executor.IntrinsicGas` (on the bytes, in
    uint64 arithmetic with its two overflow guards and the unchecked ×30)** for every input below `2^40` bytes,
    every flag vector, call and creation. -/
theorem intrinsicGas_is_IntrinsicGas (fl : Flags) (create : Bool) (data : List Nat) (h : data.length < 2 ^ 40) :
    intrinsicGasOf fl create data =
      some (intrinsicGas fl create (data.filter (fun b => b != 0)).length
              (data.length - (data.filter (fun b => b != 0)).length)) := by
  refine intrinsicGasOf_eq fl create data ?_
  -- at most `(53000 + 16 · 2^40) · 30`, about `2^49`
  have hf : (data.filter (fun b => b != 0)).length ≤ data.length := List.length_filter_le _ _
  have hg : (if create = true then txGasCreate else txGas) ≤ 53000 := by split <;> decide
  generalize (data.filter (fun b => b != 0)).length = nz at hf ⊢
  generalize data.length = L at h hf ⊢
  generalize (if create = true then txGasCreate else txGas) = g0 at hg ⊢
  rw [show (2 : Nat) ^ 40 = 1099511627776 from by decide] at h
  delta uint64Max nonZeroByteGas zeroByteGas gasMagnification
  omega

example : intrinsicGasOf {} false [1, 0, 0, 2] = some ((21000 + 2 * 16 + 2 * 4) * 30) := by decide

/-- The overflow guard exists and answers `none` (`ErrGasUintOverflow`) — for an input of 2^60 non-zero bytes,
    stated on the counts since such a list cannot be written down. What the guards do **not** cover is the
    multiplication by `GasMagnification`: `intrinsicGasOf` wraps there, as the code does. -/
theorem intrinsicGas_magnification_wraps :
    ((18446744073709551615 - 21000) / 16) * 16 + 21000 < 18446744073709551616 ∧
    (((18446744073709551615 - 21000) / 16) * 16 + 21000) * 30 % 18446744073709551616
      < ((18446744073709551615 - 21000) / 16) * 16 + 21000 := by decide

/-- `GetRefundStake` removes through `RemoveMiner` exactly when what is left is below the minimum stake of the
    miner's type, and otherwise rewrites the stake (`UpdateMiner`). -/
theorem getRefundStake_removes_by_removeMiner (r : Reg) (hasCode : Addr → Bool) (id : Nat) (account : Addr) (money : Nat)
    (m : MinerRec) (hm : regGet r id = some m) (ha : m.account = account)
    (hs : (if money = uint64Max then m.stake else money) ≤ m.stake) :
    getRefundStake r hasCode id account money =
      let mo := if money = uint64Max then m.stake else money
      let left := m.stake - mo
      some (if left < minStake m.typ then removeMiner r hasCode m left else regSet r { m with stake := left },
            mo, m.account) := by
  subst ha
  cases regGet_id r id m hm
  unfold getRefundStake removeMiner
  rw [hm]
  simp only [ne_eq, not_true_eq_false, if_false, if_neg (Nat.not_lt.2 hs)]
  by_cases h1 : m.stake - (if money = uint64Max then m.stake else money) < minStake m.typ
  · simp only [h1, decide_true, Bool.true_and, if_true]
  · simp only [h1, decide_false, Bool.false_and, if_false, Bool.false_eq_true]

theorem stakeSum_removeMiner (r : Reg) (hasCode : Addr → Bool) (m : MinerRec) (left : Nat) (hm : regGet r m.id = some m) :
    stakeSum (removeMiner r hasCode m left) + toWei m.stake = stakeSum r + toWei left :=
  stakeSum_leave r m left _ (fun h => of_decide_eq_true (Bool.and_eq_true_iff.1 h).1) hm

/-- `RemoveMiner` with nothing left lowers the registry stake by exactly the miner's stake, whatever the account is
    (wiped record or zeroed stake slot) — no balance, no escrow entry is written: the stake is gone.  This is what
    the two migrations of `VMExecutor.Execute` (`removeUnusedValidator` at Proposal010Block,
    `removeUnusedValidator1` at Proposal019Block) do to every validator they remove; `execBlock` does not run
    them (design/C06.md, coverage table). -/
theorem removeMiner_all_drops_its_stake (r : Reg) (hasCode : Addr → Bool) (m : MinerRec) (hm : regGet r m.id = some m) :
    stakeSum (removeMiner r hasCode m 0) + toWei m.stake = stakeSum r :=
  stakeSum_removeMiner r hasCode m 0 hm

end Rangers.Props.C06Real
