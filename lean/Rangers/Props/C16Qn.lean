import Rangers.Model.Qn
import Rangers.Generated.C16Facts
import Rangers.Proofs.C16Qn
import Rangers.Proofs.C16Vrf
/-!
C16: the quality number. `validateProve` is the function the driver
runs (with the generated parameters); theorems hold for every parameter set with
`maxQN < 2^52`.
-/
namespace Rangers.Props.C16Qn
open Rangers Rangers.Model Rangers.Model.Qn Rangers.Proofs.C16Qn

/-- the parameters of the running configuration (T-gen: `model.InitParam`) -/
def liveParams : Params :=
  { maxQN := Generated.C16Facts.maxQN
    potentialProposal := Generated.C16Facts.potentialProposal
    potentialProposalMax := Generated.C16Facts.potentialProposalMax
    potentialProposalIndex := Generated.C16Facts.potentialProposalIndex }

/-- The qn is a deterministic function of proof, height, working miners and total stake
    (and the configuration): `validateProve` has no other input. -/
theorem qn_deterministic (P : Params) (thr : Nat) (prove : Bytes) (h w t : Nat) (r r' : VOut)
    (e : validateProve P thr prove h w t = r) (e' : validateProve P thr prove h w t = r') : r = r' :=
  e.symm.trans e'

/-- Whenever `validateProve` accepts, the quality number is at least 1 and at most
    `maxQN + 1`. (The `+ 1` cannot be removed: `qn_range_counterexample`.) -/
theorem qn_range_partial (P : Params) (hmax : P.maxQN < 2 ^ 52) (thr : Nat) (prove : Bytes)
    (h w t q : Nat) (hv : validateProve P thr prove h w t = .res true (.val q)) :
    1 ≤ q ∧ q ≤ P.maxQN + 1 := by
  unfold validateProve at hv
  split at hv
  · cases hv
  · simp only [] at hv
    split at hv
    · cases hv
    · rename_i s hs
      split at hv
      · cases hv
      · rename_i qo hq hne
        injection hv with hok hqo
        unfold calcVrfValueRatio at hok hqo
        have hvle := value_le_max (Vrf.tryZeroPadding prove)
        obtain ⟨hpos, hle⟩ := accepted_ratio_bound _ s hvle hok
        unfold calQn at hqo
        refine calQnCore_range P hmax _ _ q (show 0 < max256 by decide) hpos ?_ hqo
        exact hle

/-- The quality number is a function of the PROOF, not of its byte form: `validateProve` on the
    bytes read back from the header's big integer (leading zeros dropped) equals `validateProve`
    on the proposer's 80-byte proof. Holds because the model (like the code) pads BEFORE it takes
    the value ratio; the order is the T-gen fact `C16Gen.validate_call_order`. -/
theorem qn_survives_transport (P : Params) (thr : Nat) (pi : Bytes) (h w t : Nat)
    (hlen : pi.length = Vrf.proveSize) :
    validateProve P thr (Vrf.ofBig (Vrf.toBig pi)) h w t = validateProve P thr pi h w t :=
  validateProve_congr P thr _ pi h h w t (Rangers.Proofs.C16Bytes.outputOf_ofBig_toBig pi (Nat.le_of_eq hlen))
    (fun _ => Iff.rfl)

/-- An honest header passes `verifyBlockVRF` after transport: if the proposer's proof verifies,
    the proposer-side `validateProve` (on the full proof) says `(true, qn)` and the header carries
    `TotalQN = qn + pre.TotalQN`, the verifier — who only has the big integer — accepts. -/
theorem honest_header_passes_after_transport (P : Params) (thr : Nat) (pk pi msg : Bytes)
    (h w t qn pre : Nat) (hlen : pi.length = Vrf.proveSize)
    (hver : Vrf.verify pk pi msg = .ok true)
    (hq : validateProve P thr pi h w t = .res true (.val qn)) :
    verifyBlockVRF P thr pk (Vrf.toBig pi) msg h w t ((qn + pre) % two64) pre = .ok := by
  have h1 : Vrf.verify pk (Vrf.ofBig (Vrf.toBig pi)) msg = .ok true :=
    (Rangers.Proofs.C16Vrf.verifyWith_transport _ pk pi msg (Nat.le_of_eq hlen)).trans hver
  unfold verifyBlockVRF
  simp only [h1, qn_survives_transport P thr pi h w t hlen, hq]
  simp

/-- non-vacuity: an 80-byte proof starting with a zero byte that the rule accepts with a definite qn -/
example : validateProve liveParams 0 (0 :: List.replicate 79 0x10) 0 0 10 = .res true (.val 1) ∧
    (Vrf.ofBig (Vrf.toBig (0 :: List.replicate 79 0x10))).length = 79 := by
  constructor
  · decide +kernel
  · unfold Vrf.ofBig Vrf.toBig; rw [Rangers.Proofs.C16Bytes.natToBE_beToNat]; decide

/-- the bytes of a header prove value that matter: the first `ProveSize` bytes of its left-padded form -/
def verifiedBytes (pv : Bytes) : Bytes := (Vrf.tryZeroPadding pv).take 80

theorem verifiedBytes_length (pv : Bytes) : (verifiedBytes pv).length = 80 := by
  have := Rangers.Proofs.C16Bytes.pad_length_ge pv
  simp only [Vrf.proveSize] at this
  simp [verifiedBytes]; omega

theorem pad_verifiedBytes (pv : Bytes) : Vrf.tryZeroPadding (verifiedBytes pv) = verifiedBytes pv :=
  Rangers.Proofs.C16Bytes.pad_of_len_ge _ (by rw [verifiedBytes_length]; decide)

/-- For EVERY byte string `pv` (any length): `ECVRFVerify` decides on `verifiedBytes pv` only. -/
theorem verify_reads_verifiedBytes {P : Type} (o : Vrf.Ops P) (pk pv m : Bytes) :
    Vrf.verifyWith o pk pv m = Vrf.verifyWith o pk (verifiedBytes pv) m := by
  rw [Rangers.Proofs.C16Vrf.verifyWith_eq_parts, Rangers.Proofs.C16Vrf.verifyWith_eq_parts o pk (verifiedBytes pv),
    pad_verifiedBytes]
  unfold verifiedBytes
  simp only [List.take_take, List.drop_take]
  rfl

/-- … and every consumer of the lottery value (`validateProve`, `outputOf`, `VRFProve2Value`) reads the
    first 32 of exactly those bytes: verifier and qualification rule look at the same 80 bytes. -/
theorem lottery_reads_verifiedBytes (P : Params) (thr : Nat) (pv : Bytes) (h w t : Nat) :
    validateProve P thr pv h w t = validateProve P thr (verifiedBytes pv) h w t ∧
    Vrf.outputOf pv = (verifiedBytes pv).take 32 ∧
    Vrf.prove2Value (Vrf.toBig pv) = some (beToNat ((verifiedBytes (Vrf.ofBig (Vrf.toBig pv))).take 32)) := by
  have hout : Vrf.outputOf pv = (verifiedBytes pv).take 32 := by
    simp [Vrf.outputOf, verifiedBytes, List.take_take]
  refine ⟨validateProve_congr P thr pv _ h h w t (hout.trans ?_) (fun _ => Iff.rfl), hout, ?_⟩
  · rw [Vrf.outputOf, pad_verifiedBytes]
  · have hl : ¬ (Vrf.tryZeroPadding (Vrf.ofBig (Vrf.toBig pv))).length < 32 := by
      have := Rangers.Proofs.C16Bytes.pad_length_ge (Vrf.ofBig (Vrf.toBig pv))
      simp only [Vrf.proveSize] at this; omega
    simp [Vrf.prove2Value, Vrf.proof2Hash, hl, verifiedBytes, List.take_take]

/-- non-vacuity: an over-long value (prefix ‖ 80 bytes) — the bytes that matter are the FIRST 80 -/
example : verifiedBytes ([9, 9] ++ List.replicate 80 7) = [9, 9] ++ List.replicate 78 7 := by decide

/-- False of model and code: an accepted proof has `1 ≤ qn ≤ MaxQN`. -/
def FullStatement_qn_range (P : Params) : Prop :=
  ∀ thr prove h w t q, validateProve P thr prove h w t = .res true (.val q) → 1 ≤ q ∧ q ≤ P.maxQN

/-- witness 1 (float rounding): value = 2^256 − 2, total stake 1 -/
def witnessRounding : Bytes := List.replicate 31 0xff ++ [0xfe] ++ List.replicate 48 0
/-- witness 2 (exact arithmetic): value = 2^256 − 1, total stake 1 (ratio capped at 1) -/
def witnessAllOnes : Bytes := List.replicate 32 0xff ++ List.replicate 48 0

/-- For the live parameters `validateProve` accepts with qn = MaxQN + 1.
    Both witnesses are replayed on the implementation by the searcher
    (keys `qn-above-max-float-rounding`, `qn-above-max-value-all-ones`). -/
theorem qn_range_counterexample : ¬ FullStatement_qn_range liveParams := by
  intro hfull
  have hw : validateProve liveParams 0 witnessRounding 0 0 1 = .res true (.val 6) := by decide +kernel
  have := (hfull 0 witnessRounding 0 0 1 6 hw).2
  revert this
  decide

/-- The second class does not involve floating point at all. -/
theorem qn_all_ones_counterexample :
    validateProve liveParams 0 witnessAllOnes 0 0 1 = .res true (.val 6) := by decide +kernel

/-- Isolating the float step: with an exact floor the bound `MaxQN` holds for every accepted
    value whose stake ratio is not capped (`s ≤ 1`), because then `r < MaxQN` strictly. -/
theorem qn_exact_partial (maxQN vn : Nat) (s : Frac) (hcap : ¬ ((s.den : Int) < s.num))
    (hv : vn ≤ max256) (hok : Frac.lt ⟨vn, max256⟩ s = true) :
    (vn * s.den * maxQN) / (max256 * s.num.natAbs) + 1 ≤ maxQN ∨ maxQN = 0 := by
  by_cases hm : maxQN = 0
  · exact Or.inr hm
  · left
    apply div_succ_le_of_lt_mul
    have hb := accepted_ratio_bound vn s hv hok
    simp only [capRatio, hcap, ↓reduceIte] at hb
    have hlt := accepted_lt vn s hb.1 hok
    calc vn * s.den * maxQN < max256 * s.num.natAbs * maxQN :=
          Nat.mul_lt_mul_of_pos_right hlt (Nat.pos_of_ne_zero hm)
      _ = maxQN * (max256 * s.num.natAbs) := Nat.mul_comm _ _

/-- non-vacuity: an accepted, uncapped case (value 1, stake ratio 3/10) -/
example : ¬ (((⟨3, 10⟩ : Frac).den : Int) < (⟨3, 10⟩ : Frac).num) ∧
    Frac.lt ⟨1, max256⟩ ⟨3, 10⟩ = true := by decide

/-- non-vacuity of `qn_range_partial`: an accepted input with qn in range -/
example : validateProve liveParams 0 (List.replicate 80 0x10) 0 0 10 = .res true (.val 2) := by decide +kernel

/-- the live parameters satisfy the hypothesis `maxQN < 2^52` of `qn_range_partial` (and `maxQN` is positive) -/
theorem live_params_in_scope : 0 < liveParams.maxQN ∧ liveParams.maxQN < 2 ^ 52 := by decide

end Rangers.Props.C16Qn
