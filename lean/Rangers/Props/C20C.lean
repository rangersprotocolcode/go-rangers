import Rangers.Proofs.MinerSort
/-!
# C20 (continued) — the release height of a refund under every fork configuration

Theorems about `refundHeightOf` (Model/MinerRefundHeight.lean), the model of `RefundManager.getRefundHeight` that the
correspondence stream `rheight` runs next to the real function (reached through the exported `GetRefundStake`, stub group chain).
"Tokens scheduled for refund" are paid by `CheckAndMove` at exactly this height, so a refund is only ever paid if the
height lies in the future of the block that schedules it.
-/
namespace Rangers.Props.C20C
open Rangers Rangers.Miner

/-- From Proposal012 on the release height is `now + 36000`, whatever the type, stake, groups and other flags. -/
theorem refundHeight_post012 (fl : RefundFlags) (now left typ : Nat) (ds : List Nat) (h : fl.p012 = true) :
    refundHeightOf fl now left typ ds = now + refundDelay := by
  simp [refundHeightOf, h]

theorem refundHeight_post012_future (fl : RefundFlags) (now left typ : Nat) (ds : List Nat) (h : fl.p012 = true) :
    now < refundHeightOf fl now left typ ds := by
  rw [refundHeight_post012 fl now left typ ds h]; unfold refundDelay; omega

example : refundHeightOf ⟨true, true, true⟩ 100 0 0 [5, 7] = 36100 := by decide

theorem nextRewardHeight_ge (now : Nat) : now ≤ nextRewardHeight now ∧ nextRewardHeight now < now + rewardBlocks := by
  unfold nextRewardHeight rewardBlocks; omega

/-- Before Proposal012 a proposer (any non-validator type) waits for the next reward height plus 50 blocks: in the
    future, less than one reward period plus 50 away (outside the one block `Proposal011Block`, and away from 2^64). -/
theorem refundHeight_proposer_pre012 (fl : RefundFlags) (now left typ : Nat) (ds : List Nat) (h12 : fl.p012 = false)
    (ht : typ ≠ typeValidator) (h11 : fl.p011Now = false) (hb : now + rewardBlocks + refundBlocks < 2 ^ 64) :
    refundHeightOf fl now left typ ds = nextRewardHeight now + refundBlocks ∧
      now < refundHeightOf fl now left typ ds ∧ refundHeightOf fl now left typ ds < now + rewardBlocks + refundBlocks := by
  have hn := nextRewardHeight_ge now
  have hm : (nextRewardHeight now + refundBlocks) % 2 ^ 64 = nextRewardHeight now + refundBlocks :=
    Nat.mod_eq_of_lt (Nat.lt_trans (Nat.add_lt_add_right hn.2 _) hb)
  have hpos : 0 < refundBlocks := by decide
  have hne : nextRewardHeight now + refundBlocks ≠ 0 := Nat.ne_of_gt (Nat.lt_of_lt_of_le hpos (Nat.le_add_left _ _))
  have : refundHeightOf fl now left typ ds = nextRewardHeight now + refundBlocks := by
    unfold refundHeightOf
    simp only [h12, ht, h11, hm, if_false, Bool.false_eq_true]
    rw [if_neg (fun h => hne h.2)]
  rw [this]
  exact ⟨rfl, Nat.lt_of_le_of_lt hn.1 (Nat.lt_add_of_pos_right hpos), Nat.add_lt_add_right hn.2 _⟩

example : refundHeightOf ⟨false, true, false⟩ 36001 0 1 [] = 72050 := by decide

theorem perm_insertNat (k : Nat) (l : List Nat) : (insertNat k l).Perm (k :: l) :=
  insertNat_eq_merge k l ▸ List.merge_perm_append _

theorem mem_insertNat (a k : Nat) (l : List Nat) : a ∈ insertNat k l ↔ a = k ∨ a ∈ l :=
  (perm_insertNat k l).mem_iff.trans List.mem_cons

theorem length_insertNat (k : Nat) (l : List Nat) : (insertNat k l).length = l.length + 1 :=
  (perm_insertNat k l).length_eq

theorem perm_sortNat (l : List Nat) : (sortNat l).Perm l := by
  induction l with
  | nil => exact .refl _
  | cons b l ih => exact (perm_insertNat b _).trans ((List.perm_cons b).mpr ih)

theorem mem_sortNat (a : Nat) (l : List Nat) : a ∈ sortNat l ↔ a ∈ l := (perm_sortNat l).mem_iff

theorem length_sortNat (l : List Nat) : (sortNat l).length = l.length := (perm_sortNat l).length_eq

theorem sorted_insertNat (k : Nat) (l : List Nat) (h : l.Pairwise (· ≤ ·)) : (insertNat k l).Pairwise (· ≤ ·) := by
  rw [insertNat_eq_merge]
  refine (List.pairwise_merge (fun a b c => ?_) (fun a b => ?_) [k] l (List.pairwise_singleton ..) (h.imp decide_eq_true)).imp
    of_decide_eq_true
  · simp only [decide_eq_true_eq]
    exact Nat.le_trans
  · simp only [Bool.or_eq_true, decide_eq_true_eq]
    exact Nat.le_total a b

/-- `sort.Sort(DismissHeightList)` really sorts (ascending); that it keeps exactly the given heights is `perm_sortNat`. -/
theorem sortNat_sorted (l : List Nat) : (sortNat l).Pairwise (· ≤ ·) := by
  induction l with
  | nil => simp [sortNat]
  | cons b l ih => exact sorted_insertNat b _ ih

/-- Before Proposal012 a validator whose remaining stake no longer pays for all its groups waits for a dismiss height
    of one of those groups (the `delta`-th earliest, `delta` = groups − `left / 400`) plus 50 blocks — or gets 0 when that
    group never dismisses (`MaxUint64`). -/
theorem baseHeight_is_a_dismiss_height (left : Nat) (ds : List Nat) (hlt : left / validatorStake < ds.length) :
    ∃ b ∈ ds, b = (sortNat ds).getD (ds.length - left / validatorStake - 1) 0 ∧
      baseHeight left typeValidator ds = (if b ≠ maxU64 then (b + refundBlocks) % 2 ^ 64 else 0) := by
  have hidx : ds.length - left / validatorStake - 1 < (sortNat ds).length := by
    rw [length_sortNat]
    generalize left / validatorStake = q at hlt
    omega
  refine ⟨(sortNat ds).getD (ds.length - left / validatorStake - 1) 0, ?_, rfl, ?_⟩
  · rw [← mem_sortNat]
    have : (sortNat ds).getD (ds.length - left / validatorStake - 1) 0 = (sortNat ds)[ds.length - left / validatorStake - 1] := by
      simp [List.getD, List.getElem?_eq_getElem hidx]
    rw [this]
    exact List.getElem_mem hidx
  · simp [baseHeight, hlt]

/-- … and a validator whose remaining stake still pays for every group it is in has nothing to wait for: base 0, which
    Proposal004 turns into `now + 5000`. -/
theorem refundHeight_validator_enough_stake (fl : RefundFlags) (now left : Nat) (ds : List Nat) (h12 : fl.p012 = false)
    (h4 : fl.p004 = true) (h11 : fl.p011Now = false) (hle : ds.length ≤ left / validatorStake) :
    refundHeightOf fl now left typeValidator ds = (now + refundBlocks * 100) % 2 ^ 64 := by
  have : ¬ ds.length > left / validatorStake := by omega
  simp [refundHeightOf, h12, h4, h11, baseHeight, this]

/-- When every group the validator is in dismisses after `now` (and below 2^64 − 50), the release height is in the future. -/
theorem refundHeight_validator_future (fl : RefundFlags) (now left : Nat) (ds : List Nat) (h12 : fl.p012 = false)
    (h4 : fl.p004 = true) (h11 : fl.p011Now = false) (hnow : now + refundBlocks * 100 < 2 ^ 64)
    (hds : ∀ d ∈ ds, now < d ∧ d + refundBlocks < 2 ^ 64) :
    now < refundHeightOf fl now left typeValidator ds := by
  have hpos : 0 < refundBlocks := by decide
  by_cases hlt : left / validatorStake < ds.length
  · obtain ⟨b, hb, _, hbase⟩ := baseHeight_is_a_dismiss_height left ds hlt
    have hd := hds b hb
    have hbm : b ≠ maxU64 := fun e => by
      rw [e] at hd
      exact absurd hd.2 (by decide)
    have hv : baseHeight left typeValidator ds = b + refundBlocks := by
      rw [hbase, if_pos hbm]; exact Nat.mod_eq_of_lt hd.2
    have hne : b + refundBlocks ≠ 0 := Nat.ne_of_gt (Nat.lt_of_lt_of_le hpos (Nat.le_add_left _ _))
    have : refundHeightOf fl now left typeValidator ds = b + refundBlocks := by
      unfold refundHeightOf
      simp only [h12, h11, hv, if_false, if_true, Bool.false_eq_true]
      rw [if_neg (fun h => hne h.2)]
    rw [this]
    exact Nat.lt_trans hd.1 (Nat.lt_add_of_pos_right hpos)
  · rw [refundHeight_validator_enough_stake fl now left ds h12 h4 h11 (Nat.le_of_not_lt hlt), Nat.mod_eq_of_lt hnow]
    exact Nat.lt_add_of_pos_right (by decide)

example : refundHeightOf ⟨false, true, false⟩ 1000 400 0 [9000, 3000, 5000] = 5050 ∧
    refundHeightOf ⟨false, true, false⟩ 1000 1200 0 [9000, 3000, 5000] = 6000 := by decide

/-- "Every scheduled refund has a release height after the block that schedules it." -/
def FullStatementRefundHeightFuture : Prop :=
  ∀ fl now left typ ds, now < 2 ^ 63 → (∀ d ∈ ds, now < d ∧ d < 2 ^ 63) → now < refundHeightOf fl now left typ ds

/-- False of the code in two historical corners (replayed by the `rheight` stream, model = code): before Proposal004 a
    validator with enough remaining stake gets height 0 (swept once by `CheckAndMove(0)` at `Proposal004Block`), and at
    the single block `Proposal011Block` 50 is subtracted after the fact (below height 50 the `uint64` wraps). -/
theorem refundHeight_future_counterexample : ¬ FullStatementRefundHeightFuture := by
  intro h
  have := h ⟨false, false, false⟩ 1000 800 typeValidator [5000] (by decide) (by decide)
  exact absurd this (by decide)

example : refundHeightOf ⟨false, false, true⟩ 10 0 typeValidator [] = 2 ^ 64 - 50 := by decide

end Rangers.Props.C20C
