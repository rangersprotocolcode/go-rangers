import Rangers.Props.C20
/-!
# C20 (continued) — history-level theorems and the block end

`Inv` (Proofs/MinerRun.lean) bundles the invariants: `RecKeyed` (records sit under their own id in the
registry of their type), `Clean` (an id a registry does not know has no stake there), refund-context
heights distinct, refund accounts are 20-byte addresses. `SepU cfg U` is key-family separation on the
universe `U` of ids the history mentions (what SHA-256 gives for ids not crafted as `Sha256^k(other id)`).
`RunSide` collects, step by step, the side conditions of `TxSide` (stake/delta < 2^53, no `uint64` wrap,
refund list for the release height new-or-containing the account). Under these, over ANY sequence of
miner transactions and block ends: lock conservation, refunds paid exactly once, and
record stake = applied + added − refunded (`run_accounting` is the induction over histories; `lock_conservation_run`,
`invariant_run` and `stake_accounting_run` are its three parts). After these: the UNSTAKE opcode refutes conservation, the
public-key cache and `rewind`, what the consensus layer reads, status against stake.
-/
namespace Rangers.Props.C20B
open Rangers Rangers.Miner

/-- What an operation contributes to the ledger of (registry `d`, id `j`): `+stake` for an accepted
    application of `j` in `d`, `+delta` for an accepted add-stake, `−money` for an accepted refund. -/
def txDelta (cfg : Cfg) (st : State) (tx : Tx) (d : DbId) (j : Bytes) : Int :=
  if (runTx cfg st tx).1 = "ok" ∧ d = txDb cfg st tx ∧ j = txTarget tx then
    match tx with
    | .apply _ _ _ stake _ _ _ => stake
    | .add _ _ delta => delta
    | .refund _ id amount => match getMiner cfg st id with
      | some m => - (refundMoney m amount : Int)
      | none => 0
    | _ => 0
  else 0

/-- applied + added − refunded for (d, j) along a history. -/
def ledger (cfg : Cfg) : State → List Op → DbId → Bytes → Int
  | _, [], _, _ => 0
  | st, .tx t :: ops, d, j => txDelta cfg st t d j + ledger cfg (pkAfter t (runTx cfg st t)).2 ops d j
  | st, .endBlock n :: ops, d, j => ledger cfg (endBlock st n) ops d j

/-- One transaction changes the stake of `(d, j)` by its `txDelta`: by nothing when it is rejected or aimed elsewhere
    (`stakeAt_runTx_frame`), else by what the `stake` field of its `Moved` says. -/
theorem stake_accounting_step (cfg : Cfg) (U : List Bytes) (st : State) (tx : Tx) (hs : SepU cfg U) (hinv : Inv cfg U st)
    (hside : TxSide cfg U st tx) (d : DbId) (j : Bytes) (hj : j ∈ U) :
    (stakeAt cfg (runTx cfg st tx).2 d j : Int) = stakeAt cfg st d j + txDelta cfg st tx d j := by
  by_cases hok : (runTx cfg st tx).1 = "ok"
  case neg =>
    have hz : txDelta cfg st tx d j = 0 := if_neg (fun h => hok h.1)
    rw [hz, Int.add_zero, stakeAt_of_live cfg st _ (runTx_fail_live cfg st tx hok)]
  by_cases htgt : d = txDb cfg st tx ∧ j = txTarget tx
  case neg =>
    have hz : txDelta cfg st tx d j = 0 := if_neg (fun h => htgt h.2)
    rw [hz, Int.add_zero, stakeAt_runTx_frame cfg U st tx hs hinv.rk hside d j hj htgt]
  have hu : Untouched cfg j j := sep_untouched cfg U hs j j hj hj
  unfold txDelta
  rw [if_pos ⟨hok, htgt⟩]
  obtain ⟨hd, hjt⟩ := htgt
  cases tx with
  | apply src id typ stake acct pk vrf =>
    simp only [txDb] at hd
    subst hd hjt
    obtain ⟨hfresh, _, hmv⟩ := runTx_apply_moved cfg st src _ typ stake acct pk vrf hok
    rw [hmv.stake hu, hinv.clean _ _ hj hfresh]
    exact (Int.zero_add _).symm
  | add src id delta =>
    subst hjt
    by_cases hdl : delta = 0
    · subst hdl
      rw [stakeAt_of_live cfg st _ (processFee_live st _ _ (runTx_add_zero cfg st src _ hok)).1]
      exact (Int.add_zero _).symm
    · obtain ⟨m, hm, hst, hmv⟩ := runTx_add_moved cfg st src _ delta hinv.rk hdl hok
      simp only [txDb, hm] at hd
      subst hd
      rw [hmv.stake hu, hst, Nat.mod_eq_of_lt (hside.2.2 _)]
      exact Int.natCast_add _ _
  | refund src id amount =>
    subst hjt
    obtain ⟨m, hm, _, hst, hle, hmv⟩ := runTx_refund_moved cfg st src _ amount hinv.rk hok
    simp only [txDb, hm] at hd ⊢
    subst hd
    rw [hmv.stake hu, hst, Int.ofNat_sub (hst ▸ hle)]
    rfl
  | chacc src id na =>
    subst hjt
    obtain ⟨m, hm, hst, _, hmv⟩ := runTx_chacc_moved cfg st src _ na hinv.rk hok
    simp only [txDb, hm] at hd
    subst hd
    rw [hmv.stake hu, hst]
    exact (Int.add_zero _).symm
  | bad k src => exact absurd hok (runTx_bad cfg st k src)

/-- Along any history that satisfies the side conditions, from any state that satisfies the invariant: the invariant, the
    conserved sum, and for every registry and every id of the universe the ledger equation. One induction for the three,
    since each step of each needs the invariant at the point reached. -/
theorem run_accounting (cfg : Cfg) (U : List Bytes) (st : State) (ops : List Op) (hc : CodecId cfg) (hraw : RawOK cfg)
    (hsome : CodecSome cfg) (hs : SepU cfg U) (hn : U.Nodup) (hinv : Inv cfg U st) (hside : RunSide cfg U st ops) :
    Inv cfg U (run cfg st ops) ∧ wealth cfg U (run cfg st ops) = wealth cfg U st ∧
      ∀ d j, j ∈ U → (stakeAt cfg (run cfg st ops) d j : Int) = stakeAt cfg st d j + ledger cfg st ops d j := by
  induction ops generalizing st with
  | nil => exact ⟨hinv, rfl, fun _ _ _ => (Int.add_zero _).symm⟩
  | cons o ops ih =>
    -- `rw`, not `show`: unifying `run` of the longer history with `run` of the shorter one unfolds the step
    rw [run_cons]
    cases o with
    | tx t =>
      obtain ⟨hok, hts, hrest⟩ := hside
      obtain ⟨hi0, hw0⟩ := runTx_preserves cfg U st t hc hraw hsome hs hn hinv hok hts
      obtain ⟨hi, hw1⟩ := pkAfter_preserves cfg U t _ hi0
      obtain ⟨hi2, hw2, hl2⟩ := ih _ hi hrest
      refine ⟨hi2, hw2.trans (hw1.trans hw0), fun d j hj => ?_⟩
      rw [ledger, ← Int.add_assoc, ← stake_accounting_step cfg U st t hs hinv hts d j hj,
        ← stakeAt_of_live cfg _ _ (pkAfter_live t (runTx cfg st t))]
      exact hl2 d j hj
    | endBlock n =>
      obtain ⟨hi, hw⟩ := endBlock_preserves cfg U st n hinv
      obtain ⟨hi2, hw2, hl2⟩ := ih _ hi hside
      refine ⟨hi2, hw2.trans hw, fun d j hj => ?_⟩
      rw [ledger, ← stakeAt_of_live cfg st _ (endBlock_live st n)]
      exact hl2 d j hj

/-- liquid + 10^18·(all recorded stake) + refunds recorded in the block context + escrow is constant over
    every history that satisfies the side conditions, from any state satisfying the invariant. -/
theorem lock_conservation_run (cfg : Cfg) (U : List Bytes) (st : State) (ops : List Op) (hc : CodecId cfg) (hraw : RawOK cfg)
    (hsome : CodecSome cfg) (hs : SepU cfg U) (hn : U.Nodup) (hinv : Inv cfg U st) (hside : RunSide cfg U st ops) :
    wealth cfg U (run cfg st ops) = wealth cfg U st :=
  (run_accounting cfg U st ops hc hraw hsome hs hn hinv hside).2.1

/-- … in particular from an empty registry with arbitrary balances: everything that exists later
    (stakes, scheduled refunds, escrow, balances incl. the fee account) adds up to the initial balances. -/
theorem lock_conservation_from_genesis (cfg : Cfg) (U : List Bytes) (h : Nat) (bal : List (Bytes × Nat)) (ops : List Op)
    (hc : CodecId cfg) (hraw : RawOK cfg) (hsome : CodecSome cfg) (hs : SepU cfg U) (hn : U.Nodup)
    (hside : RunSide cfg U { State.empty h with bal := bal } ops) :
    wealth cfg U (run cfg { State.empty h with bal := bal } ops) = atotal bal := by
  rw [lock_conservation_run cfg U _ ops hc hraw hsome hs hn (inv_genesis cfg U h bal) hside]
  unfold wealth
  rw [stakeTotal_genesis]
  simp [balTotal, escTotal, State.empty, pendingSum, atotal, adedup]

/-- The invariant itself survives every history (so the step theorems of Props/C20 apply at every point). -/
theorem invariant_run (cfg : Cfg) (U : List Bytes) (st : State) (ops : List Op) (hc : CodecId cfg) (hraw : RawOK cfg)
    (hsome : CodecSome cfg) (hs : SepU cfg U) (hn : U.Nodup) (hinv : Inv cfg U st) (hside : RunSide cfg U st ops) :
    Inv cfg U (run cfg st ops) :=
  (run_accounting cfg U st ops hc hraw hsome hs hn hinv hside).1

theorem toy_codecSome : CodecSome toyCfg := by
  intro i _
  constructor
  · simp [toyCfg]
  · simp [toyCfg, toyDec]

theorem toy_sep : SepU toyCfg [[0x11], [0x22]] := by
  unfold SepU
  decide +kernel

def demoOps : List Op :=
  [.tx (.apply addr1 [0x11] 0 800 [] [1] [1]), .tx (.apply addr2 [0x22] 1 2000 [] [1] [1]), .endBlock 101,
   .tx (.add addr2 [0x11] 7), .tx (.refund addr1 [0x11] 100), .endBlock 102, .tx (.refund addr2 [0x22] 1), .endBlock 36101,
   .endBlock 36102]

theorem demo_runSide : RunSide toyCfg [[0x11], [0x22]] funded demoOps := by
  simp only [demoOps, RunSide, TxOK, TxSide]
  decide +kernel

/-- Non-vacuity: a history with applications, an added stake, refunds (one of them aborting the miner), the
    release of an escrow — it satisfies every hypothesis, and the conserved sum really is the initial 200000 tokens. -/
example : RunSide toyCfg [[0x11], [0x22]] funded demoOps := demo_runSide
example : wealth toyCfg [[0x11], [0x22]] (run toyCfg funded demoOps) = 200000 * wei :=
  (lock_conservation_from_genesis toyCfg [[0x11], [0x22]] 100 [(addr1, 100000 * wei), (addr2, 100000 * wei)] demoOps
    toy_codecId toy_rawOK toy_codecSome toy_sep (by decide) demo_runSide).trans (by decide +kernel)
example : (run toyCfg funded demoOps).balOf addr1 = 100000 * wei - 800 * wei - 2 * fee + 100 * wei := by decide +kernel

/-- Block end, first half (`RefundManager.Add`): everything recorded in the block context moves into escrow. -/
theorem refund_scheduled (st : State) :
    escTotal (escrowAddAll st st.pending) = escTotal st + pendingSum st.pending ∧
    (escrowAddAll st st.pending).bal = st.bal :=
  escrowAddAll_escTotal st st.pending

/-- Block end, second half (`CheckAndMove` at height `h`): a 20-byte account receives exactly what is
    in escrow for it at that height (nothing if it has no entry) … -/
theorem refund_paid_exact (st : State) (h : Nat) (x : Bytes) (hs : ∀ e ∈ st.escrow, e.1.2.length = 20) :
    (checkAndMove st h).balOf x = st.balOf x + (if x ∈ escrowKeys st h then st.escOf h x else 0) :=
  checkAndMove_pays st h x hs

/-- … the entry is cleared (so it cannot be paid again), entries of other heights are untouched, and
    nothing is created or destroyed: liquid + escrow is unchanged. -/
theorem refund_paid_once (st : State) (h : Nat) (x : Bytes) (hs : ∀ e ∈ st.escrow, e.1.2.length = 20) :
    (checkAndMove st h).escOf h x = (if x ∈ escrowKeys st h then 0 else st.escOf h x) ∧
    (∀ h', h' ≠ h → (checkAndMove st h).escOf h' x = st.escOf h' x) ∧
    balTotal (checkAndMove st h) + escTotal (checkAndMove st h) = balTotal st + escTotal st :=
  ⟨(checkAndMove_esc st h x hs).1, (checkAndMove_esc st h x hs).2, checkAndMove_total st h hs⟩

example : (run toyCfg funded demoOps).escOf 36101 addr1 = 0 ∧
    (run toyCfg funded (demoOps.take 6)).escOf 36101 addr1 = 100 * wei := by decide +kernel

/-- The whole path as one would state it: every accepted `refund` of `amount` shows up, after the block
    end, as `amount·10^18` in the escrow of its release height. -/
def FullStatementRefundReachesEscrow : Prop :=
  ∀ cfg st src id amount n, CodecId cfg → RawOK cfg → C20.Reachable cfg st →
    (runTx cfg st (.refund src id amount)).1 = "ok" → amount ≠ maxU64 →
    (endBlock (runTx cfg st (.refund src id amount)).2 n).escOf (st.height + refundDelay) src
      = st.escOf (st.height + refundDelay) src + pendingFor st src + amount * wei
where
  pendingFor (st : State) (src : Bytes) : Nat :=
    match st.pending.lookup (st.height + refundDelay) with
    | some l => ((l.filter (fun e => e.1 = src)).map Prod.snd).sum
    | none => 0

/-- False of the code (known finding `refund-lost-second-account`): the second account refunding in one block
    never reaches the escrow. -/
theorem refund_paid_counterexample : ¬ FullStatementRefundReachesEscrow := by
  intro h
  have hr : C20.Reachable toyCfg (run toyCfg funded C20.opsTwoRefunds) :=
    C20.reachable_run toyCfg 100 _ _ (by decide +kernel)
  have := h toyCfg _ addr2 [0x22] 100 102 toy_codecId toy_rawOK hr
  exact absurd this (by decide +kernel)

/-- Over any history satisfying the side conditions, the stake every registry records for every id of the
    universe is what it was at the start plus applied + added − refunded. -/
theorem stake_accounting_run (cfg : Cfg) (U : List Bytes) (st : State) (ops : List Op) (hc : CodecId cfg) (hraw : RawOK cfg)
    (hsome : CodecSome cfg) (hs : SepU cfg U) (hn : U.Nodup) (hinv : Inv cfg U st) (hside : RunSide cfg U st ops)
    (d : DbId) (j : Bytes) (hj : j ∈ U) :
    (stakeAt cfg (run cfg st ops) d j : Int) = stakeAt cfg st d j + ledger cfg st ops d j :=
  (run_accounting cfg U st ops hc hraw hsome hs hn hinv hside).2.2 d j hj

/-- From an empty registry: record stake = applied + added − refunded. -/
theorem stake_accounting_from_genesis (cfg : Cfg) (U : List Bytes) (h : Nat) (bal : List (Bytes × Nat)) (ops : List Op)
    (hc : CodecId cfg) (hraw : RawOK cfg) (hsome : CodecSome cfg) (hs : SepU cfg U) (hn : U.Nodup)
    (hside : RunSide cfg U { State.empty h with bal := bal } ops) (d : DbId) (j : Bytes) (hj : j ∈ U) :
    (stakeAt cfg (run cfg { State.empty h with bal := bal } ops) d j : Int)
      = ledger cfg { State.empty h with bal := bal } ops d j := by
  rw [stake_accounting_run cfg U _ ops hc hraw hsome hs hn (inv_genesis cfg U h bal) hside d j hj, stakeAt_genesis]
  exact Int.zero_add _

example : ledger toyCfg funded demoOps .val [0x11] = 800 + 7 - 100 ∧
    stakeAt toyCfg (run toyCfg funded demoOps) .val [0x11] = 707 := by decide +kernel

def stOpcode : State := run toyCfg funded [.tx (.apply addr1 [0x11] 1 2500 addr2 [1] [1]), .endBlock 101]

/-- Conservation for the UNSTAKE opcode, as the property would have it. -/
def FullStatementUnstakeOpcodeConserves : Prop :=
  ∀ cfg st origin contract money U, CodecId cfg → RawOK cfg → C20.Reachable cfg st →
    wealth cfg U (vmUnstake cfg st origin contract money) = wealth cfg U st

/-- False of the code (known finding `unstake-opcode-escrows-untruncated-amount`): UNSTAKE of 1.5 tokens lowers
    the stake by 1 token and escrows 1.5. -/
theorem unstake_opcode_counterexample : ¬ FullStatementUnstakeOpcodeConserves := by
  intro h
  have hr : C20.Reachable toyCfg stOpcode := C20.reachable_run toyCfg 100 _ _ (by decide +kernel)
  have := h toyCfg stOpcode addr1 addr2 (15 * 10 ^ 17) [[0x11]] toy_codecId toy_rawOK hr
  exact absurd this (by decide +kernel)

/-- What the opcode does do (model = code, T-corr): stake −1, escrow for the origin +1.5·10^18. -/
example : stakeAt toyCfg (vmUnstake toyCfg stOpcode addr1 addr2 (15 * 10 ^ 17)) .prop [0x11] = 2499 ∧
    (vmUnstake toyCfg stOpcode addr1 addr2 (15 * 10 ^ 17)).escOf (101 + refundDelay) addr1 = 15 * 10 ^ 17 := by decide +kernel

/-- A rejected transaction leaves the key cache alone … -/
theorem pk_rejected_unchanged (tx : Tx) (r : String × State) (h : r.1 ≠ "ok") : (pkAfter tx r).2 = r.2 := by
  cases tx <;> simp [pkAfter, h]

/-- … so the whole step (account state AND key cache) of a rejected transaction changes nothing but the fee. -/
theorem rejected_step_only_fee (cfg : Cfg) (st : State) (tx : Tx) (h : (runTx cfg st tx).1 ≠ "ok") :
    step cfg st (.tx tx) = st ∨ processFee st tx.src = some (step cfg st (.tx tx)) := by
  simp only [step]
  rw [pk_rejected_unchanged tx _ h]
  exact C20.rejected_changes_only_fee cfg st tx h

/-- An accepted application makes `GetPubkey(id)` the applicant's public key. -/
theorem pk_accepted_apply (cfg : Cfg) (st : State) (src id : Bytes) (typ stake : Nat) (acct pk vrf : Bytes)
    (h : (runTx cfg st (.apply src id typ stake acct pk vrf)).1 = "ok") :
    (step cfg st (.tx (.apply src id typ stake acct pk vrf))).pkOf id = some pk := by
  simp [step, pkAfter, h, State.pkOf, State.putPk]

/-- A transaction whose `runTx` leaves the `pk` map as it was (hypothesis `hpk`) changes the key cached for `j`
only if it is an accepted application of `j`. -/
theorem pk_frame (cfg : Cfg) (st : State) (tx : Tx) (j : Bytes) (hj : j ≠ txTarget tx)
    (hpk : (runTx cfg st tx).2.pk = st.pk) : (step cfg st (.tx tx)).pkOf j = st.pkOf j := by
  cases tx with
  | apply src id typ stake acct pk vrf =>
    simp only [txTarget] at hj
    simp only [step, pkAfter]
    split
    · have : (j == id) = false := by simpa using hj
      simp [State.pkOf, State.putPk, List.lookup, this, hpk]
    · simp [State.pkOf, hpk]
  | add => simp [step, pkAfter, State.pkOf, hpk]
  | refund => simp [step, pkAfter, State.pkOf, hpk]
  | chacc => simp [step, pkAfter, State.pkOf, hpk]
  | bad => simp [step, pkAfter, State.pkOf, hpk]

example : (run toyCfg funded [.tx (.apply addr1 [0x11] 0 800 [] [7] [1]), .tx (.apply addr2 [0x11] 0 800 [] [9] [1])]).pkOf [0x11]
    = some [7] := by decide +kernel

/-- "After any history — including executed-and-discarded blocks — the cached public key of a registered miner
    is the one in its registry record": what the consensus layer relies on when it reads `GetPubkey`. -/
def FullStatementPkCacheFollowsRegistry : Prop :=
  ∀ cfg committed st d id info, getMinerById cfg (rewind committed st) d id ≠ none →
    cfg.dec (((rewind committed st).live d).get id) = some info → (rewind committed st).pkOf id = some info.pk

def stCommitted : State := run toyCfg funded [.tx (.apply addr1 [0x11] 0 800 [] [7] [1]), .endBlock 101]
def stDiscarded : State := run toyCfg stCommitted [.tx (.refund addr1 [0x11] maxU64), .tx (.apply addr1 [0x11] 0 800 [] [9] [1])]

/-- False of the code (finding `pkcache-keeps-discarded-block`): the cache is written during block execution and
    is not rolled back with the block. Witness: miner 0x11 registered with key 07; a discarded block refunds it
    completely and re-applies it with key 09: the registry is back to the committed record, `GetPubkey` says 09.
    (`toyCfg` decodes every record with key 01, which 09 does not equal either.) -/
theorem pk_cache_counterexample : ¬ FullStatementPkCacheFollowsRegistry := by
  intro h
  have e : getMinerById toyCfg (rewind stCommitted stDiscarded) .val [0x11] ≠ none ∧
      (toyCfg.dec (((rewind stCommitted stDiscarded).live .val).get [0x11])).map (·.pk) = some [1] ∧
      (rewind stCommitted stDiscarded).pkOf [0x11] = some [9] := by decide +kernel
  obtain ⟨info, hinfo, hpk⟩ := Option.map_eq_some_iff.mp e.2.1
  have := h toyCfg stCommitted stDiscarded .val [0x11] info e.1 hinfo
  rw [e.2.2, hpk] at this
  exact absurd this (by decide)

example : stCommitted.pkOf [0x11] = some [7] ∧ (rewind stCommitted stDiscarded).pkOf [0x11] = some [9] := by decide +kernel

/-- What rewinding does and does not touch. -/
theorem rewind_spec (committed st : State) :
    (rewind committed st).live = committed.live ∧ (rewind committed st).bal = committed.bal ∧
    (rewind committed st).escrow = committed.escrow ∧ (rewind committed st).pending = committed.pending ∧
    (rewind committed st).pk = st.pk := ⟨rfl, rfl, rfl, rfl, rfl⟩

/-- `GetCandidateMiners(h)` (consensus/access/miner_access.go) on a committed, well-keyed state returns exactly registered validators: each candidate is
    the record `GetMinerById` returns for its id, is not aborted, is of validator type and was applied before `h`. -/
theorem candidates_are_registered (cfg : Cfg) (st : State) (h : Nat) (m : Miner) (hf : Flushed st) (hr : RecKeyed cfg st)
    (hm : m ∈ candidates cfg st h) :
    getMinerById cfg st .val m.id = some m ∧ m.status ≠ statusAbort ∧ m.typ = typeValidator ∧ m.applyHeight < h := by
  unfold candidates at hm
  obtain ⟨hmem, hp⟩ := List.mem_filter.mp hm
  have hp' : m.status ≠ statusAbort ∧ m.typ = typeValidator ∧ m.applyHeight < h := by simpa using hp
  exact ⟨iter_to_id cfg st .val m hf hr hmem, hp'⟩

/-- … and every such registered validator is a candidate (nothing is dropped). -/
theorem registered_are_candidates (cfg : Cfg) (st : State) (h : Nat) (id : Bytes) (m : Miner) (hf : Flushed st) (hr : RecKeyed cfg st)
    (hm : getMinerById cfg st .val id = some m) (hs : m.status ≠ statusAbort) (ht : m.typ = typeValidator) (ha : m.applyHeight < h) :
    m ∈ candidates cfg st h := by
  unfold candidates
  exact List.mem_filter.mpr ⟨id_to_iter cfg st .val id m hf hr hm, by simp [hs, ht, ha]⟩

/-- "The consensus readers answer on every committed state." -/
def FullStatementReadersTotal : Prop :=
  ∀ cfg st, CodecId cfg → RawOK cfg → C20.Reachable cfg st → candidatesPanic cfg st = false

/-- False of the code (finding `reader-panics-on-long-id`): ids are free-form; a registered validator whose id needs
    more than 32 bytes makes `convert2MinerDO` → `ID.Serialize` panic inside `GetCandidateMiners`. -/
theorem readers_total_counterexample : ¬ FullStatementReadersTotal := by
  intro h
  let longId : Bytes := List.replicate 33 0x33
  let ops : List Op := [.tx (.apply addr1 longId 0 400 [] [1] [1]), .endBlock 101]
  have hr : C20.Reachable toyCfg (run toyCfg funded ops) := C20.reachable_run toyCfg 100 _ _ (by decide +kernel)
  exact absurd (h toyCfg _ toy_codecId toy_rawOK hr) (by decide +kernel)

/-- `AddStake` decides the status on the NEW stake: what it writes into the status slot is `normal` exactly
    when the topped-up stake is strictly above the minimum (else the old status). -/
theorem addStake_status_on_new_stake (cfg : Cfg) (st : State) (p : Bytes) (m : Miner) (delta : Nat) :
    ((addStakeApply cfg st p m delta).live (dbOfType m.typ)).get (slotStatus cfg m.id)
      = [UInt8.ofNat (if reactivates m.typ ((m.stake + delta) % 2 ^ 64) then statusNormal else m.status)] := by
  simp only [addStakeApply, updateMiner, write_get, and_self, if_true]

/-- "The status of a record is what a fresh application with the same stake would have." -/
def FullStatementStatusFollowsStake : Prop :=
  ∀ cfg st d id m, CodecId cfg → RawOK cfg → C20.Reachable cfg st → getMinerById cfg st d id = some m →
    ∀ ms, minStake m.typ = some ms → (m.status = statusNormal ↔ ms ≤ m.stake)

/-- False of the code (finding `reactivation-needs-more-than-minimum`): topping an aborted miner up to exactly
    the minimum leaves it aborted (`>`), while an application with exactly the minimum is accepted (`≥`). -/
theorem status_follows_stake_counterexample : ¬ FullStatementStatusFollowsStake := by
  intro h
  let ops : List Op := [.tx (.apply addr1 [0x11] 1 2000 [] [1] [1]), .endBlock 101, .tx (.refund addr1 [0x11] 1),
    .endBlock 102, .tx (.add addr1 [0x11] 1)]
  have hr : C20.Reachable toyCfg (run toyCfg funded ops) := C20.reachable_run toyCfg 100 _ _ (by decide +kernel)
  have hst : (getMinerById toyCfg (run toyCfg funded ops) .prop [0x11]).map (fun m => (m.typ, m.stake, m.status))
      = some (1, 2000, 1) := by decide +kernel
  obtain ⟨m, hm, hf⟩ := Option.map_eq_some_iff.mp hst
  simp only [Prod.mk.injEq] at hf
  have := h toyCfg _ .prop [0x11] m toy_codecId toy_rawOK hr hm 2000 (by rw [hf.1]; decide)
  rw [hf.2.1, hf.2.2] at this
  exact absurd (this.mpr (Nat.le_refl _)) (by decide)

end Rangers.Props.C20B
