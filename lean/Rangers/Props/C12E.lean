import Rangers.Proofs.Evm12Lemmas
import Rangers.Props.C12B
/-!
# C12: the transaction and the block as a whole

A failed contract transaction leaves nothing observable but the source nonce (`failed_tx_leaves_only_nonce`); under
Proposal013 the receipts of a block with pairwise distinct, unused hashes partition the logs the block added
(`block_receipts_partition`); what `Prepare` does to the scratch state (`transient_get_set`,
`prepare_keeps_transient`: the recorded defect as a positive statement, `access_list_fresh_per_tx`).
-/
namespace Rangers.Props.C12E
open Rangers.Model.Evm12

protected theorem obs_setNonce_congr {x y : World} (h : obs x = obs y) (a : Addr) (n : Nat) :
    obs (x.setNonce a n) = obs (y.setNonce a n) :=
  Model.Evm12.obs_setNonce_congr h a n

/-- a failed transaction leaves no trace but the source nonce: the observation after it is the observation of
    the state the block loop snapshotted, with the source nonce bumped when Proposal007 is active -/
theorem failed_tx_leaves_only_nonce (cfg : Cfg) (rv : World → World → World) (hrv : RevertRestoresObs rv)
    (i : Nat) (w : World) (tx : Tx) (hfail : (execTx cfg rv i w tx).2.failed = true) :
    let w0 := txStartWorld cfg i w tx
    obs (execTx cfg rv i w tx).1 =
      obs (if cfg.p007 then w0.setNonce tx.origin (w0.getNonce tx.origin + 1) else w0) := by
  unfold execTx at hfail ⊢
  simp only [txStartWorld] at hfail ⊢
  generalize (if cfg.p013 = true then prepare w tx.hash i else w) = w0 at hfail ⊢
  unfold txFinish
  simp only [hfail, ↓reduceIte, Bool.and_true]
  have hn : (rv w0 (txFrame cfg rv tx w0).world).getNonce = w0.getNonce := congrArg Obs.nonce (hrv _ _)
  cases cfg.p007
  · simp only [Bool.false_eq_true, ↓reduceIte]; exact hrv _ _
  · simp only [↓reduceIte]
    rw [hn]
    exact obs_setNonce_congr (hrv _ _) _ _

/-- non-vacuity: a transaction whose callee writes, logs, creates and then hits an invalid opcode -/
example :
    let w0 : World := ((({} : World).setCode (.base 20) .hosted).addBalance (.base 10) 100)
    let tx : Tx := { hash := 1, origin := .base 10, kind := .call (.base 20), value := 7,
                     body := .sstore 1 7 (.log 1 5 (.create 1 false 0 0 (.done (.retCode 1)) (.done .invalid))) }
    (execTx {} restore 0 w0 tx).2.failed = true
    ∧ (execTx {} restore 0 w0 tx).1.getState (.base 20) 1 = 0
    ∧ (execTx {} restore 0 w0 tx).1.getBalance (.base 10) = 100
    ∧ (execTx {} restore 0 w0 tx).1.getNonce (.base 10) = 1 := by
  decide +kernel

def FreshHashes (w : World) : List Tx → Prop
  | [] => True
  | tx :: rest => w.getLogs tx.hash = [] ∧ (∀ t ∈ rest, t.hash ≠ tx.hash) ∧ FreshHashes w rest

theorem getLogs_append_other (w : World) (new : List Log) (h h' : Nat) (hne : h' ≠ h)
    (hall : ∀ l ∈ new, l.txh = h) (hw : (w.logs.filter (fun l => l.txh == h')) = []) :
    ((w.logs ++ new).filter (fun l => l.txh == h')) = [] := by
  rw [List.filter_append, hw, List.nil_append]
  exact List.filter_eq_nil_iff.mpr (fun l hl => by simp [hall l hl, Ne.symm hne])

theorem block_receipts_partition (cfg : Cfg) (h13 : cfg.p013 = true) (rv : World → World → World)
    (hrv : RevertRestoresObs rv) (hkc : RevertKeepsTxContext rv) :
    ∀ (txs : List Tx) (i : Nat) (w : World), FreshHashes w txs →
      (execBlock cfg rv i w txs).1.logs = w.logs ++ ((execBlock cfg rv i w txs).2.map (·.logs)).flatten := by
  intro txs
  induction txs with
  | nil => intro i w _; simp [execBlock]
  | cons tx rest ih =>
    intro i w ⟨hfresh, hdist, hrest⟩
    -- the transaction ran under its own hash: `GetLogs` of the later, different hashes answers as before
    have hext : LogsExtend (prepare w tx.hash i) (execTx cfg rv i w tx).1 := execTx_extend cfg h13 rv hrv hkc i w tx
    have hf' : FreshHashes (execTx cfg rv i w tx).1 rest := by
      clear ih
      induction rest with
      | nil => trivial
      | cons t ts iht =>
        obtain ⟨g1, g2, g3⟩ := hrest
        exact ⟨(hext.getLogs_other (hdist t List.mem_cons_self)).trans g1, g2,
          iht (fun x hx => hdist x (List.mem_cons_of_mem _ hx)) g3⟩
    have := ih (i + 1) (execTx cfg rv i w tx).1 hf'
    unfold execBlock
    simp only [List.map_cons, List.flatten_cons]
    rw [this, (C12B.receipt_logs_exact cfg h13 rv hrv hkc i w tx hfresh).1, List.append_assoc]

/-- non-vacuity: three transactions, the middle one fails after a LOG, one has a reverted sub-frame -/
example :
    let w0 : World := (({} : World).setCode (.base 20) .hosted).setCode (.base 21) .hosted
    let t1 : Tx := { hash := 1, origin := .base 10, kind := .call (.base 20), value := 0, body := .log 1 11 (.done .stop) }
    let t2 : Tx := { hash := 2, origin := .base 10, kind := .call (.base 21), value := 0, body := .log 0 12 (.done .invalid) }
    let t3 : Tx := { hash := 3, origin := .base 10, kind := .call (.base 21), value := 0,
                     body := .call 1 .call (.base 20) 0 (.log 0 13 (.done .revert)) (.log 0 31 (.done .stop)) }
    FreshHashes w0 [t1, t2, t3]
    ∧ ((execBlock {} restore 0 w0 [t1, t2, t3]).2.map (fun r => r.logs.map (·.tag))) = [[11], [], [31]] := by
  refine ⟨⟨rfl, by decide, rfl, by decide, rfl, by decide, trivial⟩, by decide +kernel⟩

/-- `transientStorage.Set/Get`: a slot reads what was last written (zero deletes: reads zero), others are untouched -/
theorem transient_get_set (w : World) (a b : Addr) (k k' v : Nat) :
    (w.setTransient a k v).getTransient b k' = if a = b ∧ k = k' then v else w.getTransient b k' := by
  simp [World.setTransient, World.getTransient, SMap.get_set]

/-- what `Prepare` does to the scratch state, positively: transient storage is carried over unchanged (the
    recorded defect `tx-scratch:transient-not-reset`), the access list is emptied, the observation is untouched -/
theorem prepare_keeps_transient (w : World) (h i : Nat) :
    (prepare w h i).getTransient = w.getTransient ∧ (prepare w h i).access = [] ∧ obs (prepare w h i) = obs w :=
  ⟨rfl, rfl, rfl⟩

/-- under Proposal013 every transaction of a block starts with an empty access list, whatever the earlier ones did -/
theorem access_list_fresh_per_tx (cfg : Cfg) (h13 : cfg.p013 = true) (rv : World → World → World)
    (txs : List Tx) (i : Nat) (w : World) (tx : Tx) :
    (txStartWorld cfg (i + txs.length) (execBlock cfg rv i w txs).1 tx).access = [] := by
  simp [txStartWorld, h13, prepare]

end Rangers.Props.C12E
