import Rangers.Model.Round
import Rangers.Model.RoundFacts
import Rangers.Generated.C15Facts
/-!
C15, T-gen obligations: the statement sequences the translator `gen/cmd/c15facts` re-reads from the
source on every run are the ones `Rangers.Model.Round` transcribes. A new, removed or re-ordered
statement in the handlers becomes `.unknown` / a different list and the corresponding obligation fails.
-/
namespace Rangers.Props.C15
open Rangers.Model.Round
open Rangers.Generated

/-- `round1.Update` consists of exactly the guards/effects the model's `update` performs, in that order. -/
theorem update_shape : C15Facts.updateSteps = expectedUpdateSteps C15Facts.bindsHash := by decide

/-- `round2.checkSignature` verifies `bh.Signature` over `bh.Hash` and `bh.Random` over `preBH.Random` under the group key. -/
theorem checkSignature_shape : C15Facts.checkSignatureSteps = expectedCheckSignatureSteps := by decide

/-- `round2.Start` runs `checkBlockExisted` and `checkSignature` before `GenerateBlock`, and only then
adds the block and signals completion. -/
theorem start2_shape : C15Facts.start2Steps = expectedStart2Steps := by decide

/-- `groupSignGenerator`: ignore when already recovered; dedup by sender id; recover when the map size
reaches the threshold (`>=`); `genGroupSign` keeps a valid group signature and reports success. -/
theorem generator_shape :
    C15Facts.addWitnessSignSteps = expectedAddWitnessSignSteps ∧
    C15Facts.addWitnessForceSteps = expectedAddWitnessForceSteps ∧
    C15Facts.genGroupSignSteps = expectedGenGroupSignSteps := by decide

/-- The handlers on the path keep no process-wide state of their own package (the model treats every
call as a function of the round state and the message) and read no fork configuration (the model has
no proposal flags). -/
theorem path_is_stateless_and_fork_independent :
    C15Facts.pathGlobals = expectedPathGlobals ∧ C15Facts.pathForkReads = [] := ⟨rfl, rfl⟩

/-- `loadOrNewSignParty` parks a verify message that has no party yet by appending it to the list under
its key: the parked store is a multiset per key, exactly `Life.pfuture` / `Proc.stray` of the model. -/
theorem loadParty_shape : C15Facts.loadPartySteps = expectedLoadPartySteps := by decide

/-- `baseParty.Update`, `StoreMessage`, the three `CanAccept`s, `round1.NextRound`, `OnMessageVerify` and
`waitUntilDone` (closure `fn`, the 10-second timer, the changeId step) consist of exactly the statements
`partyUpdate` / `advance` / `storeRule` / `canAccept1` / `Proc.onVerify` / `settle` / `Life.onTimeout` /
`Life.enterSigning` transcribe. -/
theorem handlers_canon :
    C15Facts.partyUpdateCanon = expectedPartyUpdateCanon ∧
    C15Facts.storeMessageCanon = expectedStoreMessageCanon ∧
    C15Facts.canAccept0Canon = expectedCanAccept0Canon ∧
    C15Facts.canAccept1Canon = expectedCanAccept1Canon ∧
    C15Facts.canAccept2Canon = expectedCanAccept2Canon ∧
    C15Facts.nextRound1Canon = expectedNextRound1Canon ∧
    C15Facts.onMessageVerifyCanon = expectedOnMessageVerifyCanon ∧
    C15Facts.waitUntilDoneCanon = expectedWaitUntilDoneCanon :=
  ⟨rfl, rfl, rfl, rfl, rfl, rfl, rfl, rfl⟩

/-- The capacities of the processor's two LRU caches are the ones the model (`futureCap`) and the hook use. -/
theorem lru_capacities : C15Facts.futureCap = futureCap ∧ C15Facts.finishedCap = finishedCap := by decide

/-- `SignInfo.VerifySign` = signer id non-zero ∧ `VerifySig(pk, dataHash, signature)`. -/
theorem verifySign_shape : C15Facts.verifySignSteps = expectedVerifySignSteps := by decide

end Rangers.Props.C15
