import Rangers.Props.C07
import Rangers.Proofs.TxAuthOracle
/-!
# C07 — the finite oracle table is enough

The driver evaluates `verifyTx` on a `Crypto` built from the oracle tokens of one op line.
`verdict_depends_only_on_queries` says that this is the verdict the model gives for *any*
primitives that answer the listed queries the same way — in particular for the real
SHA-256 / Keccak-256 / secp256k1 functions the harness took the answers from.  Together
with the driver's refusal to run when a listed query is missing from the line
(`oracle-miss`), the correspondence run compares the implementation with the model *on the
real primitives*, not with a table-shaped approximation of it.
-/
namespace Rangers.Props.C07
open Rangers Rangers.Model.TxAuth

theorem verdict_depends_only_on_queries (cr cr' : Crypto) (cfg : ChainCfg) (h : Nat) (tx : Tx)
    (hq : ∀ q ∈ queries cr cfg h tx, cr.agreesOn cr' q) :
    verifyTx cr cfg h tx = verifyTx cr' cfg h tx := by
  unfold queries at hq
  by_cases ht : tx.type = typeETHTX
  · rw [if_pos ht] at hq
    rw [verifyTx_of_eth ht, verifyTx_of_eth ht]
    exact verifyEth_congr cr cr' cfg h tx hq
  · rw [if_neg ht] at hq
    rw [verifyTx_of_native ht, verifyTx_of_native ht]
    exact verifyNative_congr cr cr' cfg h tx hq

/-- the query list of an accepted toy transaction is not empty: the statement is about real queries -/
example : (queries toyCrypto toyCfg 0 toyNative).length = 4 := by decide +kernel

/-- two primitives that differ *outside* the queried points give the same verdict -/
example : verifyTx { toyCrypto with sha256 := fun m => if m = [1, 2, 3] then [] else List.replicate 32 7 } toyCfg 0 toyNative
    = verifyTx toyCrypto toyCfg 0 toyNative := by decide +kernel

end Rangers.Props.C07
