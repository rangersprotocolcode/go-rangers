import Rangers.Props.C11B
/-!
# C11 — precompiles: what `RequiredGas` charged bounds what `Run` allocates

`RequiredGas` of MODEXP prices the three header length words as unbounded integers, `Run`
then truncates them to 64 bits and allocates operand buffers of those sizes.  The theorems
show that whenever the price is not the saturated `MaxUint64` (which no gas limit below
2^64−1 can pay), the truncated lengths *are* the priced ones and their sum is linearly bounded
by the price — so a payable MODEXP cannot make `Run` allocate more than `6·gas + 3200` bytes,
far below Go's `makeslice` limit for every gas amount below 2^44.  At the saturated price the same
bound holds for a different reason: `modexp_alloc_priced_full` in `Props/C11H.lean`.
-/
namespace Rangers.Props.C11G
open Rangers.Evm11 Rangers.Props.C11B

theorem bitLen_gt_64 (n : Nat) : bitLen n > 64 ↔ n ≥ 2 ^ 64 := BitLen.lt_iff

/-- the Yellow-Paper-style complexity term of EIP-198 as `modExpGas` computes it -/
def mulComplexity (x : Nat) : Nat :=
  if x ≤ 64 then x * x
  else if x ≤ 1024 then x * x / 4 + (96 * x - 3072)
  else x * x / 16 + (480 * x - 199680)

theorem mulComplexity_lower (x : Nat) : x ≤ 1024 ∨ 480 * x - 199680 ≤ mulComplexity x := by
  unfold mulComplexity
  by_cases h : x ≤ 1024
  · left; exact h
  · right
    rw [if_neg (by omega), if_neg h]
    omega

theorem mulComplexity_pos (x : Nat) (h : 1 ≤ x) : 1 ≤ mulComplexity x := by
  unfold mulComplexity
  split
  · exact Nat.mul_le_mul h h
  · split <;> omega

/-- the raw (unsaturated) price, in terms of the untruncated header words -/
def modExpRaw (b e m expHeadBits : Nat) : Nat :=
  mulComplexity (max m b) * max ((if e > 32 then 8 * (e - 32) else 0) + expHeadBits) 1 / 20

/-- If the raw price is below 2^64 then base and
    modulus lengths are below 2^64 (so `Run`'s truncation changes nothing), are at most
    `price + 1024`, and the exponent length — truncated or not — is at most `3·price + 35`
    unless both base and modulus are empty. -/
theorem modexp_core (b e m hb : Nat) (hlt : modExpRaw b e m hb < 2 ^ 64) :
    max m b < 2 ^ 64 ∧ max m b ≤ modExpRaw b e m hb + 1024 ∧
    (1 ≤ max m b → e % 2 ^ 64 ≤ 3 * modExpRaw b e m hb + 35) := by
  unfold modExpRaw at *
  generalize max m b = x at *
  generalize hadj : (if e > 32 then 8 * (e - 32) else 0) + hb = adj at *
  -- the price is at least a twentieth of each factor
  have h1 : mulComplexity x / 20 ≤ mulComplexity x * max adj 1 / 20 :=
    Nat.div_le_div_right (Nat.le_mul_of_pos_right _ (Nat.le_max_right _ _))
  have h2 : 1 ≤ x → max adj 1 / 20 ≤ mulComplexity x * max adj 1 / 20 := fun hx1 =>
    Nat.div_le_div_right (Nat.le_mul_of_pos_left _ (mulComplexity_pos x hx1))
  have hlow := mulComplexity_lower x
  have ha : adj ≤ max adj 1 := Nat.le_max_left _ _
  have hmod : e % 2 ^ 64 ≤ e := Nat.mod_le _ _
  generalize mulComplexity x * max adj 1 / 20 = price at *
  generalize mulComplexity x = c at *
  generalize max adj 1 = a at *
  generalize e % 2 ^ 64 = e64 at *
  -- above 1024, `480·x − 199680 ≤ c ≤ 20·price + 19` gives `x ≤ price + 1024`
  refine ⟨by omega, by omega, fun hx1 => ?_⟩
  -- `8·(e − 32) ≤ adj ≤ 20·price + 19` gives `e ≤ 3·price + 35`
  have := h2 hx1
  by_cases he : e > 32
  · rw [if_pos he] at hadj; omega
  · rw [if_neg he] at hadj; omega

/-- `modExpGas` as a function of the three header words and of one number `hbits` read off the head of the exponent;
    what follows holds whatever that number is. -/
theorem modExpGas_eq (input : BA) : ∃ hbits, modExpGas input =
    if bitLen (modExpRaw (beNat (getData input 0 32)) (beNat (getData input 32 32)) (beNat (getData input 64 32)) hbits) > 64
    then maxU64
    else modExpRaw (beNat (getData input 0 32)) (beNat (getData input 32 32)) (beNat (getData input 64 32)) hbits :=
  ⟨_, rfl⟩

/-- A MODEXP whose price is not the saturated `MaxUint64` makes
    `Run` allocate at most `6·price + 3200` bytes of operand / result buffers. -/
theorem modexp_alloc_priced (input : BA) (h : modExpGas input < maxU64) :
    modExpRunAlloc input ≤ 6 * modExpGas input + 3200 := by
  obtain ⟨hbits, heq⟩ := modExpGas_eq input
  rw [heq] at h ⊢
  unfold modExpRunAlloc
  simp only
  generalize beNat (getData input 0 32) = b at *
  generalize beNat (getData input 32 32) = e at *
  generalize beNat (getData input 64 32) = m at *
  have hc := modexp_core b e m hbits
  generalize modExpRaw b e m hbits = raw at *
  have hsat : ¬ bitLen raw > 64 := fun hg => by rw [if_pos hg] at h; exact absurd h (Nat.lt_irrefl _)
  rw [if_neg hsat] at h ⊢
  obtain ⟨hx64, hxle, hele⟩ := hc (Nat.lt_of_not_ge (fun hge => hsat ((bitLen_gt_64 raw).mpr hge)))
  rw [Nat.mod_eq_of_lt (a := b) (by omega), Nat.mod_eq_of_lt (a := m) (by omega)]
  split
  · omega
  · have := hele (by omega)
    omega

/-- the same bound for every precompile address: the others allocate a constant amount beyond what
    is proportional to their input -/
theorem precompile_alloc_priced (addr : Nat) (input : BA) (h : precompileGas addr input < maxU64) :
    precompileRunAlloc addr input ≤ 6 * precompileGas addr input + 3200 := by
  unfold precompileRunAlloc
  split
  · omega
  · have : precompileGas 5 input = modExpGas input := rfl
    rw [this] at h ⊢
    exact modexp_alloc_priced input h
  all_goals omega

/-- the input of seeded change `C11-a`: header `baseLen = 1, expLen = 2^61+32, modLen = 1`
    is priced at the exact `8·2^61/20` (≈ 9.2·10^17, unpayable), not at the wrapped 51 -/
example : modExpRaw 1 (2 ^ 61 + 32) 1 0 = 2 ^ 64 / 20 := by decide
/-- and with `expLen = 2^64 + 40` (truncates to 40 in `Run`) the price is still above 7·10^18 -/
example : modExpRaw 1 (2 ^ 64 + 40) 1 0 > 7 * 10 ^ 18 := by decide

/-- a precompile `Run` that succeeded passed its length gate, so its input length is one of the
    few shapes the gate admits — e.g. BLS12-381 pairing takes a positive multiple of 384 bytes -/
example : precompileLenOk 16 768 = true ∧ precompileLenOk 16 0 = false ∧ precompileLenOk 9 212 = false := by decide

end Rangers.Props.C11G
