import Rangers.Generated.C07Admit
/-!
# C07 — every path into the pool goes through `VerifyTransaction` (T-gen)

`Generated.C07.admissionSites` is re-extracted on every run from *all* non-test Go files under
`src/` (`gen/cmd/c07admit`, go/ast): every call of `.received.push(` (the physical insertion),
of `pool.add(`, of `.AddTransaction(`, and of every function found (by fixpoint) to forward
to `AddTransaction` without checking; each with the way a successful `VerifyTransaction`
dominates it inside its function.  A new insertion site, a new caller, a removed or re-ordered
check (the anchors `network/worker_conn.go`, `core/game_executor.go`, or anywhere else)
changes the list and breaks an obligation below.
-/
namespace Rangers.Props.C07Admit
open Rangers.Generated.C07

abbrev Site := String × String × String × String × String
def Site.file (s : Site) := s.1
def Site.base (s : Site) := s.2.2.1
def Site.callee (s : Site) := s.2.2.2.1
def Site.guard (s : Site) := s.2.2.2.2

/-- A site outside the pool's own file is fine when a successful `VerifyTransaction` dominates
    it, or when its function is a pure forwarder: it is itself called somewhere and every call
    of it is dominated by a successful `VerifyTransaction`. -/
def admissionOK (sites : List Site) : Bool :=
  sites.all fun s =>
    s.file == "src/service/transaction_pool.go" || s.guard != "none" ||
      ((sites.any fun t => t.callee == s.base) &&
       (sites.all fun t => t.callee != s.base || t.guard != "none"))

/-- The sites, pinned. Inside the pool: `add` is the only `push`, and `add` is called by
    `AddTransaction` (the admission entry) and `UnMarkExecuted` (re-insertion of the
    transactions of a block that is being removed — they were admitted before). Outside:
    the network handler (guarded `if … nil == err`) and the game executor (three calls of the
    forwarder `sendTransaction`, each after `if err := …VerifyTransaction…; err != nil { …return }`). -/
theorem admission_sites_pinned :
    admissionSites = [
      ("src/core/game_executor.go", "GameExecutor.runWrite", "runWrite", "sendTransaction", "early-return"),
      ("src/core/game_executor.go", "GameExecutor.runWrite", "runWrite", "sendTransaction", "early-return"),
      ("src/core/game_executor.go", "GameExecutor.sendTransaction", "sendTransaction", "AddTransaction", "none"),
      ("src/core/game_executor.go", "GameExecutor.write", "write", "sendTransaction", "early-return"),
      ("src/network/worker_conn.go", "WorkerConn.handleMessage", "handleMessage", "AddTransaction", "if-ok"),
      ("src/service/transaction_pool.go", "TxPool.AddTransaction", "AddTransaction", "add", "none"),
      ("src/service/transaction_pool.go", "TxPool.UnMarkExecuted", "UnMarkExecuted", "add", "none"),
      ("src/service/transaction_pool.go", "TxPool.add", "add", "push", "none")] := rfl

/-- Every path that puts a transaction into the pool from outside the pool's own file goes
    through a successful `VerifyTransaction`. -/
theorem every_admission_path_verified : admissionOK admissionSites = true := by decide +kernel

/-- the criterion is not vacuous: an unguarded direct call is flagged -/
example : admissionOK [("src/x.go", "f", "f", "AddTransaction", "none")] = false := by decide +kernel
example : admissionOK [("src/x.go", "T.fwd", "fwd", "AddTransaction", "none"),
                       ("src/y.go", "g", "g", "fwd", "none")] = false := by decide +kernel

/-- No admission function verifies or inserts inside a goroutine or function literal: the
    verdict is computed and used for the element at hand, sequentially (a parallelised batch
    loop — captured loop variable, detached verdicts — changes this list). -/
theorem admission_is_sequential : admissionGoroutines = [] := rfl

/-- The admission handlers keep no state of their own: the files that contain them declare only
    the eight message-method constants (`worker_conn.go`; `game_executor.go` declares none), and no
    admission function assigns to, or calls a method on, a package-level variable of its package — no
    cache of rejected hashes, no seen-set, no counter. The pool is the only memory, as in
    `hashesAfterSeq`. -/
theorem admission_handlers_stateless :
    admissionFileVars = [
      ("src/network/worker_conn.go", "methodCodeBroadcast"), ("src/network/worker_conn.go", "methodCodeJoinGroup"),
      ("src/network/worker_conn.go", "methodCodeQuitGroup"), ("src/network/worker_conn.go", "methodCodeSend"),
      ("src/network/worker_conn.go", "methodCodeSendToGroup"), ("src/network/worker_conn.go", "methodCodeTxBroadcast"),
      ("src/network/worker_conn.go", "methodSendToManager"), ("src/network/worker_conn.go", "methodSetNetId")] ∧
    admissionStateUses = [] := ⟨rfl, rfl⟩

theorem scanned_whole_tree : admissionFilesScanned ≥ 300 := by decide

end Rangers.Props.C07Admit
