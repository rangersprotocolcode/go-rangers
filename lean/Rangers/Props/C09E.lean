import Rangers.Proofs.C09Json
import Rangers.Props.C09D
/-!
# C09, part 5 — the RequestIds JSON is carried exactly; group members and group lists

`reqIds_stable`: a canonical `RequestIds` map (`ReqIdsCanon`) satisfies `ReqIdsStable`, and what the
parser returns is canonical (`reqIds_parsed_canon`), so the header and block theorems of `Props/C09B`, `C09C`, `C09D`
hold with `HeaderCanon` in place of their stability hypothesis.  Then the member codec
(`parse_total_member`, `member_roundtrip`) and `PbToGroups` (`pbToGroups_total`, `parse_total_groups`), both on the
group-sync receive path.
-/
namespace Rangers.Props.C09
open Rangers Rangers.Wire Rangers.Json

/-- decode ∘ encode of the RequestIds JSON is the identity for every map the node can hold:
    nil, or any finite map (strictly increasing keys) whose keys JSON writes verbatim, uint64 values.
    (`getRequestIdFromTransactions` only ever adds the key "fixed".) -/
theorem reqIds_stable (r : ReqIds) (h : ReqIdsCanon r) : ReqIdsStable r := decReqIds_encReqIds r h

example : ReqIdsCanon (.map [([0x61], 7), ([0x66, 0x69, 0x78, 0x65, 0x64], 18446744073709551615)]) := by
  refine ⟨⟨?_, ?_, trivial⟩, ?_⟩
  · intro x hx
    simp only [List.mem_singleton] at hx; subst hx; decide
  · intro x hx; cases hx
  · intro e he
    simp only [List.mem_cons, List.not_mem_nil, or_false] at he
    rcases he with rfl | rfl
    · exact ⟨by decide, by decide⟩
    · exact ⟨by decide, by decide⟩

/-- Decimal rendering and parsing of uint64 are inverse (the digits `strconv` writes). -/
theorem uint64_literal_roundtrip (v : Nat) (hv : v < 2 ^ 64) : parseNum (decNat v ++ [125]) = some (v, [125]) :=
  parseNum_decNat v [125] hv (nonDigit_125 [])

/-- The decoder only ever returns nil, a canonical map, `mapEsc` or `opaque` (bytes outside the modelled class). -/
theorem reqIds_parsed_canon (raw : Bytes) :
    (∃ r, decReqIds raw = .opaque r) ∨ (∃ kvs, decReqIds raw = .mapEsc kvs) ∨ ReqIdsCanon (decReqIds raw) :=
  decReqIds_canon raw

/-- Times `MarshalBinary` carries and a canonical RequestIds map — no JSON hypothesis left. -/
def HeaderCanon (h : Header) : Prop := TimeOK h.preTime ∧ TimeOK h.curTime ∧ ReqIdsCanon h.requestIds

theorem headerOK_of_canon (h : Header) (c : HeaderCanon h) : HeaderOK h :=
  ⟨c.1, c.2.1, reqIds_stable _ c.2.2⟩

/-- `header_lossless` with every hypothesis explicit and decidable in content: a producible header
    with canonical RequestIds and marshalable times is stored, reloaded or relayed unchanged, same GenHash. -/
theorem header_lossless_canon (h : Header) (c : HeaderCanon h) (fits : HeaderFits h) (hp : Producible h) :
    ∃ b, marshalHeader h = some b ∧ unmarshalHeader b = .ok h ∧
      ∀ h', unmarshalHeader b = .ok h' → headerGenHash h' = headerGenHash h :=
  header_lossless h (headerOK_of_canon h c) fits hp

theorem block_lossless_canon (b : Block) (h : Header) (hh : b.header = some h) (c : HeaderCanon h)
    (fits : BlockFits b) (hp : Producible h) (ht : TxsCarried b.txs) :
    ∃ bs, marshalBlock b = .ok bs ∧ unmarshalBlock bs = .ok b :=
  block_lossless b h hh (headerOK_of_canon h c) fits hp ht

theorem parsed_requestIds (bs : Bytes) (h : Header) (hu : unmarshalHeader bs = .ok h) :
    (∃ r, h.requestIds = .opaque r) ∨ (∃ kvs, h.requestIds = .mapEsc kvs) ∨ ReqIdsCanon h.requestIds := by
  obtain ⟨p, hph⟩ := unmarshalHeader_ok bs h hu
  rcases (pbToHeader_ok p h hph).2 with e | ⟨raw, e⟩
  · rw [e]; exact Or.inr (Or.inr trivial)
  · rw [e]; exact reqIds_parsed_canon raw

/-- `parsed_fixed_point_partial` without the JSON hypothesis: a header obtained by parsing whose
    RequestIds bytes were in the modelled class and whose times `MarshalBinary` carries is a fixed
    point of the next Marshal/UnMarshal pass (same content, same GenHash). -/
theorem parsed_fixed_point_partial_canon (bs : Bytes) (h : Header) (hu : unmarshalHeader bs = .ok h)
    (hpt : TimeOK h.preTime) (hct : TimeOK h.curTime)
    (hno : ∀ r, h.requestIds ≠ .opaque r) (hne : ∀ kvs, h.requestIds ≠ .mapEsc kvs)
    (fits : HeaderFits h) : passIsIdentity h = true := by
  have hc : ReqIdsCanon h.requestIds := by
    rcases parsed_requestIds bs h hu with ⟨r, hr⟩ | ⟨kvs, hr⟩ | hc
    · exact absurd hr (hno r)
    · exact absurd hr (hne kvs)
    · exact hc
  exact parsed_fixed_point_partial bs h hu (headerOK_of_canon h ⟨hpt, hct, hc⟩) fits

theorem parse_total_member (bs : Bytes) : IsObjOrErr (unmarshalMember bs) := by
  unfold unmarshalMember
  cases decMember bs <;> trivial

theorem mapM'_mem {α β : Type} (f : α → Option β) (l : List α) (r : List β) (h : mapM' f l = some r) :
    ∀ b ∈ r, ∃ a, f a = some b := by
  revert h
  fun_induction mapM' f l generalizing r <;> intro h <;> cases h
  · exact fun _ hb => nomatch hb
  next hfa _ hl ih => exact List.forall_mem_cons.mpr ⟨⟨_, hfa⟩, ih _ hl⟩

theorem pbToGroups_total (ps : List PbGroup) (h : ∀ p ∈ ps, ∃ g, p.header = some g) :
    ∃ gs, pbToGroups ps = .ok gs := by
  induction ps with
  | nil => exact ⟨[], rfl⟩
  | cons p ps ih =>
    obtain ⟨g, hg⟩ := pbToGroup_parsed_ok p (h p (by simp))
    obtain ⟨gs, hgs⟩ := ih (fun q hq => h q (by simp [hq]))
    exact ⟨g :: gs, by simp only [pbToGroups, hg, hgs]⟩

/-- `PbToGroups` after `proto.Unmarshal` of a `GroupSlice` never panics: every element carries its
    required header, so the unchecked `PbToGroupHeader` is never entered with nil. -/
theorem parse_total_groups (bs : Bytes) : IsObjOrErr (unmarshalGroups bs) := by
  unfold unmarshalGroups
  cases hd : decGroupSlice bs with
  | none => trivial
  | some ps =>
    have hall : ∀ p ∈ ps, ∃ g, p.header = some g := by
      intro p hp
      unfold decGroupSlice at hd
      cases hr : parseRaw bs with
      | none => simp [hr] at hd
      | some rs =>
        simp only [hr] at hd
        obtain ⟨c, hc⟩ := mapM'_mem decGroup _ ps hd p hp
        exact decGroup_header_some c p hc
    obtain ⟨gs, hgs⟩ := pbToGroups_total ps hall
    simp only [hgs]
    trivial

/-- Member round trip: both required fields present and within the framing limits. -/
theorem member_roundtrip (i k : Bytes) (hi : i.length < 2 ^ 64) (hk : k.length < 2 ^ 64) :
    ∃ bs, marshalMember ⟨some i, some k⟩ = .ok bs ∧ unmarshalMember bs = .ok ⟨some i, some k⟩ := by
  refine ⟨_, rfl, ?_⟩
  have hwf : RawsWF (rawsOfMember (memberToPb ⟨some i, some k⟩)) :=
    List.forall_mem_cons.mpr ⟨⟨by decide, by decide, hi⟩,
      List.forall_mem_cons.mpr ⟨⟨by decide, by decide, hk⟩, fun _ h => nomatch h⟩⟩
  simp only [unmarshalMember, decMember, encMember, parseRaw_encRaws _ hwf]
  simp [memberReq, hasLen, rawsOfMember, memberToPb, lastLen_append, pbToMember]

example : unmarshalMember [0x0a, 0x01, 0x07] = .err := by decide

end Rangers.Props.C09
