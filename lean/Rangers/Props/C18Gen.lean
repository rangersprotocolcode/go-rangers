import Rangers.Model.Decimal
import Rangers.Model.DecimalTx
import Rangers.Generated.C18Facts
/-!
# C18 — facts re-extracted from the source on every run (T-gen)

`Rangers.Generated.C18Facts` is rewritten by `gen/cmd/c18facts` from the go-rangers
working tree before the proofs are checked. The theorems below state what the Lean
model `Rangers.Model.Decimal` transcribes: a changed constant, rounding mode, an
inserted `SetMode`/`SetPrec`/`Mul`, a wrapper that calls a different member of the
conversion family, a changed end of the wrapped-transaction value path or a new
`FormatDecimalFor*` call site makes one of them fail. (Finite generated tables:
`decide`/`rfl` is the right tool here.) Renaming a local or re-ordering independent
statements changes none of the generated facts.
-/
namespace Rangers.Props.C18Gen
open Rangers.Decimal
open Rangers.Generated

theorem gen_prec_eq_model : C18.prec = Rangers.Decimal.prec := rfl

/-- `defaultDecimal` is 18 and `baseNumber` is `10^18`; the model's exported entry
    points use it. -/
theorem gen_default_decimal :
    C18.defaultDecimal = 18 ∧ C18.baseNumber = 10 ^ C18.defaultDecimal ∧
    (∀ s, StrToBigInt s = strToBigInt s (C18.defaultDecimal : Int)) ∧
    (∀ n, n ≠ 0 → BigIntToStr n = bigIntToStr n (C18.defaultDecimal : Int)) := by
  refine ⟨rfl, by decide, fun _ => rfl, fun n hn => ?_⟩
  unfold BigIntToStr; rw [if_neg hn]; rfl

/-- `big.ParseFloat(_, 10, prec, big.AwayFromZero)`: base 10, the `prec` constant,
    away-from-zero — what `scanFloat`/`buildFloat` model. -/
theorem gen_parse_call : C18.parseFloatArgs = ["10", "prec", "big.AwayFromZero"] := rfl

/-- The value of the parsed float is touched by exactly `ParseFloat`, one `Mul`, one
    `Int`, in this order (model: `parseFloat`, `mul .away prec _ (baseFloat d)`, `toInt`). -/
theorem gen_pipeline : C18.strToBigIntPipeline = ["ParseFloat", "Mul", "Int"] := rfl

/-- The wrappers call the members of the conversion family the model says they call. -/
theorem gen_wrappers :
    C18.calls_StrToBigInt = ["strToBigInt/defaultDecimal"] ∧
    C18.calls_BigIntToStr = ["bigIntToStr/defaultDecimal"] ∧
    C18.calls_FormatDecimalForERC20 = ["BigIntToStr", "strToBigInt"] ∧
    C18.calls_FormatDecimalForRocket = ["bigIntToStr", "StrToBigInt"] ∧
    C18.calls_BigIntToStrWithoutDot = ["BigIntToStr"] := ⟨rfl, rfl, rfl, rfl, rfl⟩

/-- Both ends of the wrapped-transaction value path (`evmValue` in the model). -/
theorem gen_value_path :
    C18.convertTxTransferValue = ["utility.BigIntToStr"] ∧
    C18.decodeTransferValue = ["utility.StrToBigInt"] := ⟨rfl, rfl⟩

/-- Inventory of the re-scaling call sites ("every balance read/write passes through
    FormatDecimalForRocket/FormatDecimalForERC20"): a new or removed site is flagged. -/
theorem gen_call_sites :
    C18.formatCallSites =
      ["src/storage/account/accountdb.go:setBalance:utility.FormatDecimalForERC20",
       "src/storage/account/accountdb_tuntun.go:AddFT:utility.FormatDecimalForERC20",
       "src/storage/account/accountdb_tuntun.go:GetFT:utility.FormatDecimalForRocket",
       "src/storage/account/accountdb_tuntun.go:SetFT:utility.FormatDecimalForERC20",
       "src/storage/account/accountdb_tuntun.go:SubFT:utility.FormatDecimalForERC20",
       "src/storage/account/accountdb_tuntun.go:SubFT:utility.FormatDecimalForRocket"] := rfl

/-- math/big's `pow5tab` (toolchain the harness is built with) is `5^0 … 5^27`, and
    the model's `pow5` returns exactly its entries on the table range. -/
theorem gen_pow5tab :
    C18.pow5tab = (List.range 28).map (fun n => 5 ^ n) ∧
    ∀ n < 28, pow5 n = BF.fin false (C18.pow5tab[n]?.getD 0) 0 := by
  constructor
  · rfl
  · decide +kernel

/-- **No shared mutable state.** No function of `data_convert.go` assigns to, increments,
    takes the address of, or calls a (non read-only) method on a package-level variable of
    package `utility` — directly or through a local assigned from one (alias). Hence each
    conversion is a function of its arguments alone: answers cannot depend on earlier calls
    (the history / interleaving / concurrency phases of the harness test the same thing
    dynamically). -/
theorem gen_no_package_state_writes : C18.pkgStateWrites = [] := rfl

/-- The package-level variables of `data_convert.go` are exactly the read-only constants
    `ten` and `tenToAny`; a new one (a cache, a hoisted scale factor) is flagged. -/
theorem gen_package_vars : C18.pkgVars = ["ten", "tenToAny"] := rfl

/-- Fork-configuration reads on the conversion paths: none inside `data_convert.go`,
    `GetFT`/`SetFT`/`ConvertTx`/`transferBalance`/`ChangeAssets`; `AddFT`/`SubFT` read
    Proposal002 (journaled `SetData` vs plain `setData` — same stored value),
    `decodeContractData` reads 017 (default gas limit) and 005 (ABI data) — neither touches the
    transfer value; `GetERC20Binding` reads `IsSub` (slot position 4 vs 3, decimals 18 in both).
    The model is therefore flag-free; the harness runs `ft`/`xfer`/`evmval` on both sides of
    each of these flags (`cfg` op). -/
theorem gen_fork_flag_reads :
    C18.forkFlagReads =
      ["AddFT:common.IsProposal002", "SubFT:common.IsProposal002", "GetERC20Binding:common.IsSub",
       "decodeContractData:common.IsProposal017", "decodeContractData:common.IsProposal005"] := rfl

/-- gas-limit defaults of contract_executor.go are the model's. -/
theorem gen_gas_defaults : C18.gasDefaults = [defaultGasLimit, p017defaultGasLimit] := rfl

/-- Guards of `decodeContractData` in source order (JSON error; gas limit empty or "0" →
    default, chosen by Proposal017; `ParseUint(_, 10, 64)` error; `StrToBigInt` error;
    Proposal005 ∧ ABI data empty or "0x0" → no input) — the branch structure of the model's
    `decodeContractData`. -/
theorem gen_decode_guards :
    C18.decodeConds = ["_ != nil", "_.GasLimit == \"\" || _.GasLimit == \"0\"", "common.IsProposal017()", "_ != nil",
      "_ != nil", "common.IsProposal005() && (_.AbiData == \"\" || _.AbiData == \"0x0\")"] ∧
    C18.decodeParseUint = ["strconv.ParseUint(_.GasLimit, 10, 64)"] := ⟨rfl, rfl⟩

/-- What `ConvertTx` writes into each `ContractData` field (model: `convertTxData`). -/
theorem gen_convert_fields :
    C18.convertFields = ["AbiData = common.ToHex(_.Data())", "TransferValue = utility.BigIntToStr(_)",
      "GasPrice = _.GasPrice().String()", "GasLimit = strconv.FormatUint(_.Gas(), 10)"] := rfl

/-- Guards of `common.FromHex` / `ToHex` and the byte order of the uint64 helpers
    (model: `fromHex`, `toHex`, `uint64ToByte`, `byteToUInt64`). -/
theorem gen_hex_and_bytes :
    C18.fromHexConds = ["len(_) > 1", "_[0:2] == \"0x\" || _[0:2] == \"0X\"", "len(_) % 2 == 1"] ∧
    C18.toHexConds = ["len(_) == 0"] ∧
    C18.byteHelperCalls = ["UInt64ToByte:binary.Write(_, binary.BigEndian, _)",
      "ByteToUInt64:binary.Read(_, binary.BigEndian, &_)"] := ⟨rfl, rfl, rfl⟩

/-- Every guard of the token layer (`AccountDB.GetFT/SetFT/AddFT/SubFT`, the account-object
    FT functions of the unbound path, `GetERC20Binding`, `AddERC20Binding`) and of
    `transferBalance`: the comparison operators and nil / zero tests the `World` model and
    `gameTransfer` transcribe. -/
theorem gen_token_layer_guards :
    C18.tokenLayerConds = ["AccountDB.GetFT: _",
      "AccountDB.GetFT: _ == nil",
      "AccountDB.SetFT: nil == _",
      "AccountDB.SetFT: _",
      "AccountDB.AddFT: nil == _",
      "AccountDB.AddFT: _",
      "AccountDB.AddFT: common.IsProposal002()",
      "AccountDB.SubFT: nil == _",
      "AccountDB.SubFT: _",
      "AccountDB.SubFT: _.Cmp(_) < 0",
      "AccountDB.SubFT: common.IsProposal002()",
      "accountObject.getFT: nil == _ || 0 == len(_)",
      "accountObject.AddFT: _.Sign() == 0",
      "accountObject.AddFT: _.empty()",
      "accountObject.AddFT: nil == _",
      "accountObject.SubFT: _.Sign() == 0",
      "accountObject.SubFT: nil == _",
      "accountObject.SubFT: nil == _ || _.Cmp(_) == -1",
      "accountObject.SetFT: nil == _",
      "GetERC20Binding: 0 == _.Compare(_, common.BLANCE_NAME)",
      "GetERC20Binding: 0 == _.Compare(_.Bytes(), ?.Bytes())",
      "GetERC20Binding: common.IsSub()",
      "GetERC20Binding: !_.Exist(_)",
      "AddERC20Binding: _.Exist(_)"] ∧
    C18.transferBalanceConds = ["_ != nil", "_.Sign() == -1", "_.Cmp(_) == -1"] := ⟨rfl, rfl⟩

end Rangers.Props.C18Gen
