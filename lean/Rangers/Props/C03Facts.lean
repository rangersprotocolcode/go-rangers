import Rangers.Generated.TrieDbFacts
import Rangers.Model.StateCommit
/-!
# C03 — proof obligations about the facts the translator regenerates on every run

`gen/cmd/c03facts` rewrites `Rangers/Generated/TrieDbFacts.lean` from the
go-rangers working tree before every proof run.  The model
(`Rangers/Model/TrieDB.lean`) is written against the values asserted here: a
re-ordered statement in `commit`/`Commit`/`childs`, a new caller of
`Dereference`/`Cap`/`Delete`, or a changed leaf callback changes the generated
definitions and these obligations stop checking.
-/
namespace Rangers.Props.C03Facts
open Rangers.Generated

/-- `commit`: lookup, recurse into `childs()`, then `batch.Put` of the node, then the flush test. -/
theorem facts_commit_is_post_order :
    TrieDbFacts.commitSkeleton =
      ["lookup-cached-else-return-nil", "for-childs-recurse-commit", "batch.Put-self",
       "if-ValueSize-flush-Write-Reset", "return-nil"] := rfl

/-- `Commit`: the root walk, the final `batch.Write()`, and only then `uncache`. -/
theorem facts_uncache_after_final_write :
    TrieDbFacts.commitTopSkeleton =
      ["RLock", "NewBatch", "range-preimages", "db.commit-root", "batch.Write-final", "RUnlock", "Lock",
       "reset-preimages", "uncache-root"] := rfl

theorem facts_childs_ext_then_inner :
    TrieDbFacts.childsSkeleton = ["range-n.children-append", "if-not-rawNode-gatherChildren"] := rfl

/-- history is append-only: nobody calls `Dereference`, `Cap`, a `Delete` on
    the state store, or fills the preimage table. -/
theorem facts_history_append_only :
    TrieDbFacts.dereferenceCallers = [] ∧ TrieDbFacts.capCallers = [] ∧
    TrieDbFacts.stateStoreDeleteSites = [] ∧ TrieDbFacts.preimageCallers = [] := ⟨rfl, rfl, rfl, rfl⟩

/-- the leaf callback references exactly the storage root and the code hash, each behind its guard. -/
theorem facts_leaf_callback :
    TrieDbFacts.leafCallbackRefs =
      [("account.Root", "account.Root != emptyData"), ("code", "code != emptyCode")] ∧
    TrieDbFacts.storeInsertBeforeOnleaf = true ∧
    TrieDbFacts.stateCommitSkeleton =
      ["InsertBlob-code-if-dirty", "CommitTrie-storage", "updateAccountObject", "trie.Commit-with-leaf-callback"] :=
  ⟨rfl, rfl, rfl⟩

/-- What gates a write in `AccountDB.Commit` and where dirty state is reset:
    `InsertBlob` is gated by `nftSet != nil && dirtyNFTSet`; the only place a
    `dirty*` flag is cleared (set to anything but `true`) besides the one-shot
    `onDirty` callback, object copies and whole-state `Reset`/`Clean` is
    `AccountDB.Commit` itself, after the blob was inserted; the dirty sets are
    only drained by `updateTrie` (which writes the slot), by `Commit`, and by the
    undo of an object creation / a touch.  A journal undo that clears a flag
    (so that what it restored is never flushed) changes this inventory. -/
theorem facts_dirty_flags :
    TrieDbFacts.insertBlobGate = "accountObject.nftSet != nil && accountObject.dirtyNFTSet" ∧
    TrieDbFacts.dirtyFlagClearSites =
      ["src/storage/account/account_object.go:accountObject.deepCopy:dirtyStorage=ao.dirtyStorage.Copy()",
       "src/storage/account/account_object.go:accountObject.markSuicided:onDirty=nil",
       "src/storage/account/account_object.go:accountObject.setData:onDirty=nil",
       "src/storage/account/account_object.go:accountObject.setNonce:onDirty=nil",
       "src/storage/account/account_object.go:accountObject.touch:onDirty=nil",
       "src/storage/account/account_object_nftset.go:accountObject.setNFTSetDefinition:onDirty=nil",
       "src/storage/account/accountdb.go:AccountDB.Clean:accountObjectsDirty=make(map[common.Address]struct{})",
       "src/storage/account/accountdb.go:AccountDB.Commit:dirtyNFTSet=false",
       "src/storage/account/accountdb.go:AccountDB.Reset:accountObjectsDirty=make(map[common.Address]struct{})"] ∧
    TrieDbFacts.dirtySetDeleteSites =
      ["src/storage/account/account_object.go:accountObject.updateTrie:ao.dirtyStorage",
       "src/storage/account/accountdb.go:AccountDB.Commit:adb.accountObjectsDirty",
       "src/storage/account/transition.go:createObjectChange.undo:s.accountObjectsDirty",
       "src/storage/account/transition.go:touchChange.undo:s.accountObjectsDirty"] := ⟨rfl, rfl, rfl⟩

/-- no journal undo (transition.go) assigns a `dirty*` field directly: undos restore
    fields through the setters, which mark the object and the field dirty again. -/
theorem facts_no_undo_assigns_a_dirty_flag : TrieDbFacts.undoDirtyFieldAssignments = [] := rfl

/-- The only fork / network flags the state path reads are `IsProposal002` (in
    `AddFT`/`SubFT`: journaled `SetData` or direct `setData`) and `IsSub` (slot
    position of the balance binding); the harness runs schedules on both sides of
    Proposal002.  The only package-level variables written by functions of
    `storage/trie` and `storage/account` are the logger (at `Init`) and the cached
    token-contract address (`loadContractCache`): no scratch buffer or table shared
    across calls sits on the commit path.  A new flag read or a new global write
    changes these lists. -/
theorem facts_fork_flags_and_globals :
    TrieDbFacts.forkFlagReads =
      ["src/storage/account/accountdb_eth.go:GetERC20Binding:IsSub",
       "src/storage/account/accountdb_tuntun.go:AddFT:IsProposal002",
       "src/storage/account/accountdb_tuntun.go:SubFT:IsProposal002"] ∧
    TrieDbFacts.packageLevelWrites =
      ["src/storage/account/accountdb_eth.go:loadContractCache:rpgContractAddress",
       "src/storage/account/init.go:Init:accountLog"] := ⟨rfl, rfl⟩

/-- the batch objects of `src/middleware/db` as `Model.TrieDB.BatchSt` transcribes them:
    `Put` appends the pair and adds `len(value)` (not the key) to `size`, `ValueSize` returns
    `size`, `Reset` clears the pairs and `size`, `Write` hands the pairs to the store in one call
    (`leveldb.DB.Write` of one `leveldb.Batch`; one locked loop for the in-memory store). -/
theorem facts_batch_objects :
    TrieDbFacts.batchObjectFacts =
      ["ldbBatch.Put: b.b.Put(key, value) ; b.size += len(value) ; return nil",
       "ldbBatch.ValueSize: return b.size",
       "ldbBatch.Write: return b.db.Write(b.b, nil)",
       "ldbBatch.Reset: b.b.Reset() ; b.size = 0",
       "prefixBatch.Put: b.b.Put(generateKey(key, b.prefix), value) ; b.size += len(value) ; return nil",
       "prefixBatch.ValueSize: return b.size",
       "prefixBatch.Write: return b.db.Write(b.b, nil)",
       "prefixBatch.Reset: b.b.Reset() ; b.size = 0",
       "memBatch.Put: b.writes = append(b.writes, kv{common.CopyBytes(key), common.CopyBytes(value)}) ; b.size += len(value) ; return nil",
       "memBatch.ValueSize: return b.size",
       "memBatch.Write: b.db.lock.Lock() ; defer b.db.lock.Unlock() ; for _, kv := range b.writes { b.db.db[string(kv.k)] = kv.v } ; return nil",
       "memBatch.Reset: b.writes = b.writes[:0] ; b.size = 0"] := rfl

open Rangers.Model.StateCommit in
/-- the guards `Model/StateCommit.lean` transcribes, verbatim from the source: `Commit`
    deletes an object only if it self-destructed or is **dirty** and empty (with
    `deleteEmptyObjects`), writes it only if dirty; `Finalise` walks the dirty set only.
    A helper call, a dropped `isDirty`, a new case — any change of these texts breaks this. -/
theorem facts_commit_guards :
    TrieDbFacts.commitObjectCases =
      ["accountObject.suicided || (isDirty && deleteEmptyObjects && accountObject.empty()) => delete",
       "isDirty => update"] ∧
    TrieDbFacts.commitIsDirtyDef = "_, isDirty := adb.accountObjectsDirty[addr]" ∧
    TrieDbFacts.finaliseDeleteGuard = "accountObject.suicided || (deleteEmptyObjects && accountObject.empty())" ∧
    TrieDbFacts.finaliseRangesOver = "adb.accountObjectsDirty" := ⟨rfl, rfl, rfl, rfl⟩

open Rangers.Model.StateCommit in
/-- **a commit changes only what the block changed**: an account object that was merely
    loaded (looked at through `Exist`/`GetNonce`/`GetCode*`/…, not modified, not
    self-destructed) is neither deleted nor rewritten — whatever `empty()` says about
    it, i.e. also when all it has is storage on disk, nonce 0 and no code. -/
theorem commit_leaves_clean_objects (del : Bool) (o : Obj) (hs : o.suicided = false) (hd : o.dirty = false) :
    commitAction del o = .none := by
  simp [commitAction, hs, hd]

open Rangers.Model.StateCommit in
/-- `Commit` and `Finalise` (hence `IntermediateRoot`) agree on every object that did not
    self-destruct while clean: the root computed just before the commit is the committed root's content. -/
theorem commit_agrees_with_finalise (del : Bool) (o : Obj) (h : o.suicided = true → o.dirty = true) :
    commitAction del o = finaliseAction del o := by
  cases hd : o.dirty
  · -- a clean object did not self-destruct, so neither function touches it
    have hs : o.suicided = false := by
      cases hs : o.suicided
      · rfl
      · rw [h hs] at hd; cases hd
    simp [commitAction, finaliseAction, hs, hd]
  · simp [commitAction, finaliseAction, hd]

open Rangers.Model.StateCommit in
/-- non-vacuity: a data-only account (storage on disk, nonce 0, no code) that a block only looked at -/
example : commitAction true ⟨false, false, true⟩ = .none ∧ commitAction true ⟨false, true, true⟩ = .delete := by decide

end Rangers.Props.C03Facts
