import Rangers.Generated.C02Facts
import Rangers.Model.Trie
/-!
C02, T-gen obligations: the constants and construction sites the trie model hard-codes are
the ones `gen/cmd/c02facts` re-extracts from `src/storage/trie` on every run
(`Rangers/Generated/C02Facts.lean`).  A changed constant, a node built by `insert`/`delete`
without `newFlag()`, or a re-ordered iterator loop makes one of these fail.
-/
namespace Rangers.Props.C02Facts
open Rangers Rangers.Trie Rangers.Generated.C02

/-- the model's constant root of the empty trie is the literal in trie.go -/
theorem emptyRoot_matches_source : toHex emptyRoot = emptyRootHex := by decide +kernel

/-- `hasher.store`: a node is embedded iff its RLP is shorter than the threshold in the source -/
theorem embed_rule_matches_source (H : Bytes → Bytes) (e : Bytes) :
    embedOp = "<" ∧ embedOrHash H e = if e.length < embedThreshold then e else rlpString (H e) :=
  ⟨rfl, rfl⟩

/-- a full node has the source's number of slots; all but the last are hashed -/
theorem full_node_slots_match_source : emptyFull.length = fullSlots ∧ hashedSlots + 1 = fullSlots ∧ hashedSlots = 16 := by
  decide

/-- `keybytesToHex` appends the source's terminator -/
theorem terminator_matches_source (k : Bytes) : keybytesToHex k = hexOfBytes k ++ [terminator] := rfl

/-- `hexToCompact` flag bits -/
theorem hexprefix_flags_match_source :
    hexToCompact [terminator] = [UInt8.ofNat (1 <<< termShift)] ∧
    hexToCompact [1] = [UInt8.ofNat ((1 <<< oddShift) + 1)] := by decide

/-- `delete` does not try to merge the value slot -/
theorem reduce_skip_matches_source : reduceSkipSlot = terminator ∧ reduceSkipSlot = 16 := by decide

/-- mechanism "dirty flag forces re-hash of every modified path": every node `insert`/`delete`
    construct carries `t.newFlag()` (hash = nil, dirty), every copied node is re-flagged -/
theorem every_constructed_node_is_dirty : nodeLiterals = nodeLiteralsWithNewFlag ∧ copySites = reflagSites := by
  decide

/-- the iterator walks a full node's slots in ascending index order through the value slot
    (which is why a key follows its extensions: known finding `iter-order-prefix-keys`) -/
theorem iterator_loop_matches_source :
    iterLoopInit = "i := parent.index + 1" ∧ iterLoopCond = "i < len(node.Children)" := ⟨rfl, rfl⟩

/-- the trie package keeps no mutable package-level state: its package variables are these seven
    (constants, the error value, the hasher `sync.Pool`) and nothing assigns to them or into them —
    so calls cannot influence one another through package state (the pool's scratch buffers are
    exercised by the retention / repeated-history streams of the correspondence run) -/
theorem no_package_state_written :
    packageVars = "emptyRoot,emptyState,errIteratorEnd,hasherPool,indices,nilValueNode,secureKeyPrefix" ∧
    packageVarWrites = 0 := ⟨rfl, rfl⟩

/-- nothing in the trie package reads a proposal flag, the chain configuration or the block
    height: the property has no fork-configuration-dependent path -/
theorem no_fork_configuration_reads : forkConfigReads = 0 := by decide

end Rangers.Props.C02Facts
