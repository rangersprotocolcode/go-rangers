import Rangers.Props.C01
/-!
# C01 (continued) — blocks of any size: the sort result is unique when `Less` is total

For more than 12 transactions Go runs pdqsort, which the model does not replicate.  The driver
answers such blocks only when the insertion-sorted list is `strictSorted`; this file proves that
then *every* permutation satisfying Go's post-condition (`sort.IsSorted`: no adjacent inversion)
is that very list — whatever algorithm, pivot choice or input order produced it.
-/
namespace Rangers.Props.C01C
open Rangers Rangers.Model.BlockExec Rangers.Props.C01
open List

theorem noAdjInv_tail {lt : α → α → Bool} {a : α} {l : List α} (h : noAdjInv lt (a :: l)) : noAdjInv lt l := by
  cases l with
  | nil => trivial
  | cons b l => exact h.2

theorem noAdjInv_pred {lt : α → α → Bool} (s : List α) (p a : α) (r : List α)
    (h : noAdjInv lt (s ++ p :: a :: r)) : lt a p = false := by
  induction s with
  | nil => exact h.1
  | cons x s ih => exact ih (noAdjInv_tail h)

theorem exists_pred {lt : α → α → Bool} {a : α} : ∀ (x : α) (l : List α), x ≠ a → a ∈ l → noAdjInv lt (x :: l) →
    ∃ q ∈ x :: l, q ≠ a ∧ lt a q = false
  | x, y :: l, hx, ha, h => by
    by_cases hy : y = a
    · exact ⟨x, mem_cons_self, hx, hy ▸ h.1⟩
    · obtain ⟨q, hq, hne, hlt⟩ := exists_pred y l hy ((mem_cons.mp ha).resolve_left (Ne.symm hy)) h.2
      exact ⟨q, mem_cons_of_mem _ hq, hne, hlt⟩

theorem strictSorted_cons {lt : α → α → Bool} {a : α} {l : List α} (h : strictSorted lt (a :: l) = true) :
    (∀ b ∈ l, lt a b = true ∧ lt b a = false) ∧ strictSorted lt l = true := by
  simp only [strictSorted, Bool.and_eq_true, all_eq_true, Bool.not_eq_true'] at h
  exact h

theorem strictSorted_head_not_mem {lt : α → α → Bool} {a : α} {l : List α} (h : strictSorted lt (a :: l) = true) :
    a ∉ l := fun hm =>
  have ⟨h1, h2⟩ := (strictSorted_cons h).1 a hm
  Bool.noConfusion (h1.symm.trans h2)

theorem strictSorted_nodup {lt : α → α → Bool} : ∀ {l : List α}, strictSorted lt l = true → l.Nodup
  | [], _ => Pairwise.nil
  | _ :: _, h => nodup_cons.mpr ⟨strictSorted_head_not_mem h, strictSorted_nodup (strictSorted_cons h).2⟩

theorem sort_result_unique_total {α : Type} [DecidableEq α] (lt : α → α → Bool) :
    ∀ (l₁ l₂ : List α), strictSorted lt l₁ = true → l₂ ~ l₁ → noAdjInv lt l₂ → l₂ = l₁
  | [], l₂, _, p, _ => p.eq_nil
  | a :: t, [], _, p, _ => absurd p.symm.eq_nil (cons_ne_nil a t)
  | a :: t, x :: rest, hs, p, hc => by
    obtain ⟨hall, hst⟩ := strictSorted_cons hs
    have hx : x = a := by
      apply Classical.byContradiction
      intro hne
      -- otherwise `a` sits further right, and its left neighbour `q` is an element of `t` that `a` is not below
      obtain ⟨q, hq, hqa, hlt⟩ := exists_pred x rest hne ((mem_cons.mp (p.symm.subset mem_cons_self)).resolve_left (Ne.symm hne)) hc
      rw [(hall q ((mem_cons.mp (p.subset hq)).resolve_left hqa)).1] at hlt
      cases hlt
    subst hx
    rw [sort_result_unique_total lt t rest hst ((perm_cons x).mp p) (noAdjInv_tail hc)]

/-- for blocks of any size: when the driver's `sortTxsAny` answers on a list longer than 12, whatever
    `sort.Sort` returned (a permutation without adjacent inversion) is the list the model executes -/
theorem sortTxsAny_is_any_sorted_result (f : Flags) (txs out goOut : List Tx) (hlen : txs.length > 12)
    (hm : sortTxsAny f txs = some out) (hperm : goOut ~ txs) (hsorted : noAdjInv (txLess f) goOut) :
    goOut = out := by
  unfold sortTxsAny at hm
  simp only [show ¬ txs.length ≤ 12 by omega, if_false] at hm
  split at hm
  · rename_i hs
    cases hm
    exact sort_result_unique_total (txLess f) _ _ hs (hperm.trans (sortTxs_perm f txs).symm) hsorted
  · cases hm

example : strictSorted (txLess ⟨true, true, true, true, true, true⟩) [txA, txB] = true := by decide
example : noAdjInv (txLess ⟨true, true, true, true, true, true⟩) [txA, txB] := ⟨by decide, trivial⟩

end Rangers.Props.C01C
