import Rangers.Generated.JournalFacts
import Rangers.Model.Journal
/-!
# C04 — journal completeness facts re-extracted from the source on every run (T-gen)

`Rangers.Generated.JournalFacts` is rewritten by `gen/cmd/c04facts` from `src/storage/account/*.go`
(go/ast): per method of `*AccountDB` / `*accountObject`, how many `append(…transitions…)` it contains,
which un-journaled lower-case setters it calls, which journaled fields it assigns directly, and
whether the first append precedes the first such write.  A new mutator without a journal entry, a
write moved in front of its append, or a new journal entry kind breaks one of these theorems before
any test runs.
-/
namespace Rangers.Props.C04B
open Rangers.Generated.JournalFacts Rangers.Model.Journal

/-- writers that legitimately write without (or before) a journal append -/
def exempt : List (String × String) :=
  [ ("AccountDB", "AddFT"),      -- raw `setData` only on the pre-Proposal002 branch; `SetData` otherwise
    ("AccountDB", "SubFT"),      -- idem
    ("AccountDB", "setBalance"), -- helper of Suicide (journaled as suicideChange) and of suicideChange.undo
    ("AccountDB", "createObject"), -- `setNonce(0)` on the object before it is published, then the append
    ("AccountDB", "Reset"), ("AccountDB", "clearJournalAndRefund") ] -- block / transaction boundary

/-- every method that writes journaled state appends its undo entry first, or is a listed exemption -/
theorem journal_complete :
    ∀ f ∈ facts, (f.raw ≠ [] ∨ f.direct ≠ []) → f.appendFirst = true ∨ (f.recv, f.name) ∈ exempt := by
  decide +kernel

/-- exactly the journaling methods the model transcribes append to the journal -/
theorem journal_writers :
    (facts.filter (fun f => decide (f.appends > 0))).map (fun f => (f.recv, f.name, f.appends)) =
      [("AccountDB", "AddAddressToAccessList", 1), ("AccountDB", "AddLog", 1), ("AccountDB", "AddRefund", 1),
       ("AccountDB", "AddSlotToAccessList", 2), ("AccountDB", "SetTransientState", 1), ("AccountDB", "SubRefund", 1),
       ("AccountDB", "Suicide", 1), ("AccountDB", "createObject", 2), ("accountObject", "IncreaseNonce", 1),
       ("accountObject", "SetData", 1), ("accountObject", "SetNFTSetDefinition", 1), ("accountObject", "SetNonce", 1),
       ("accountObject", "touch", 1)] :=
  rfl

/-- name of the Go type behind a model entry -/
def kindName : Entry → String
  | .create _ => "createObjectChange"
  | .suicide .. => "suicideChange"
  | .nonce .. => "nonceChange"
  | .storage .. => "storageChange"
  | .code .. => "nftSetDefinitionChange"
  | .refund _ => "refundChange"
  | .addLog _ => "addLogChange"
  | .touch .. => "touchChange"
  | .alAddr _ => "accessListAddAccountChange"
  | .alSlot .. => "accessListAddSlotChange"
  | .transient .. => "transientStorageChange"

/-- the journal entry kinds of the source are the model's eleven plus `resetObjectChange` (appended only by
    `createObject(addr, prev)` with `prev != nil`; see design/C04.md why no caller does that) -/
theorem undo_kinds_modelled :
    undoKinds.filter (· ≠ "resetObjectChange") =
      [kindName (.alAddr []), kindName (.alSlot [] []), kindName (.addLog []), kindName (.create []),
       kindName (.code [] none []), kindName (.nonce [] 0), kindName (.refund 0), kindName (.storage [] [] []),
       kindName (.suicide [] false 0), kindName (.touch [] false false), kindName (.transient [] [] [])] := by
  decide +kernel

/-- fields of the model's journal entries, under the Go names, in the order of the constructor arguments -/
def modelFields : List (String × List String) :=
  [ ("accessListAddAccountChange", ["address"]),            -- Entry.alAddr a
    ("accessListAddSlotChange", ["address", "slot"]),       -- Entry.alSlot a slot
    ("addLogChange", ["txhash"]),                           -- Entry.addLog th
    ("createObjectChange", ["account"]),                    -- Entry.create a
    ("nftSetDefinitionChange", ["account", "prev", "prevhash"]), -- Entry.code a prevCode prevHash
    ("nonceChange", ["account", "prev"]),                   -- Entry.nonce a prev
    ("refundChange", ["prev"]),                             -- Entry.refund prev
    ("resetObjectChange", ["prev"]),                        -- (unreachable, not in the model)
    ("storageChange", ["account", "key", "prevalue"]),      -- Entry.storage a k prev
    ("suicideChange", ["account", "prev", "prevbalance"]),  -- Entry.suicide a prev prevBal
    ("touchChange", ["account", "prev", "prevDirty"]),      -- Entry.touch a prev prevDirty
    ("transientStorageChange", ["account", "key", "prevalue"]) ] -- Entry.transient a k prev

/-- every journal entry struct of `transition.go` carries exactly the fields the model's entry carries
    (a dropped or added field breaks this) -/
theorem entry_fields_modelled : entryFields = modelFields := rfl

/-- every undo method reads every field of its entry (an undo that substitutes a constant for a recorded
    value leaves the field unread and breaks this) -/
theorem undo_reads_all_fields : undoUses = entryFields := rfl

/-- every place that builds a journal entry sets all of its fields (keyed literals list them, the two
    positional ones give one value for the single field) -/
theorem literals_set_all_fields :
    literals = ["accessListAddAccountChange:#1", "accessListAddAccountChange:#1", "accessListAddSlotChange:address,slot",
      "addLogChange:txhash", "createObjectChange:account", "nftSetDefinitionChange:account,prevhash,prev",
      "nonceChange:account,prev", "nonceChange:account,prev", "refundChange:prev", "refundChange:prev",
      "resetObjectChange:prev", "storageChange:account,key,prevalue", "suicideChange:account,prev,prevbalance",
      "touchChange:account,prev,prevDirty", "transientStorageChange:account,key,prevalue"] := rfl

/-- the only package-level state of `src/storage/account` that any function assigns: the logger (start-up) and
    the process-wide bound-token-contract cache, which is an explicit parameter of the model (`Cfg.tok`) and is
    exercised in two processes (zero and non-zero contract). No scratch buffers, pools or other shared state. -/
theorem package_state_writers : pkgStateWriters = ["Init:accountLog", "loadContractCache:rpgContractAddress"] := rfl

/-- the fork / configuration flags read on this code path, each an input of the model: `IsProposal002` in the two
    balance writers (`Cfg.p002`), `IsSub` only selects the slot position inside the Keccak pre-image (`Cfg.balKey`) -/
theorem fork_flag_reads : forkReads = ["AddFT:IsProposal002", "GetERC20Binding:IsSub", "SubFT:IsProposal002"] := rfl

/-- the fields of the state-carrying structs and where each lives in the model (`Obj`, `ADB`, `Leaf`, `AccessList`);
    a new cache or memo field in `accountObject` / `AccountDB` (e.g. a memoised code size) breaks this before any
    input is searched — the searcher then supplies the failing history (derived reads inside the reverted region) -/
theorem state_fields_modelled :
    stateFields =
      [ ("Account", ["Nonce", "Root", "kind", "NFTSetDefinitionHash"]),   -- Leaf.nonce, Leaf.storage (content of Root), –, Leaf.codeHash
        ("AccountDB", ["db", "trie", "accessList", "accountObjectsLock", "accountObjects", "accountObjectsDirty", "dbErr",
          "refund", "transientStorage", "transitions", "validRevisions", "nextRevisionID", "thash", "bhash", "txIndex",
          "logs", "logSize"]),   -- codes/committed, trie, al, –, objs, dirtySet, (not modelled), refund, transient, journal, revisions, nextRev, thash, bhash, txIndex, logs, logSize
        ("accessList", ["addresses", "slots"]),   -- AccessList.addrs, .slots
        ("accountObject", ["address", "addrHash", "data", "db", "dbErr", "trie", "nftSet", "dirtyNFTSet", "cachedLock",
          "cachedStorage", "dirtyStorage", "suicided", "touched", "deleted", "onDirty"]) ] :=   -- key of objs, –, nonce/codeHash, –, (not modelled), strie, code, dirtyCode, –, cached, dirty, suicided, touched, deleted, armed
  rfl

end Rangers.Props.C04B
