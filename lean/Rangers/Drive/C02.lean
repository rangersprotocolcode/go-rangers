import Rangers.Basic.Hex
import Rangers.Basic.Line
import Rangers.Basic.Keccak
import Rangers.Model.TrieMachine
import Rangers.Model.TrieIter
import Rangers.Model.TrieNdb
/-
C02 line-protocol driver.  State = the live trie model (`Trie.LTrie`: nodes with cache flags,
hash nodes, cache generation / limit, node database); every trie operation goes through
`Trie.lstep`, the machine `Props/C02Live` proves observationally equal to the fully loaded,
flag-free model of `Props/C02`.
  new | upd k v | del k | get k | hash | commit | reopen | dbcommit | cachelimit n | iter start | shape | keccak x
  snap | sget i k | shash i | sshape i | badopen h      (retained trie objects; rejected opens)
-/
namespace Rangers.Drive.C02
open Rangers Rangers.Trie

def H := Keccak.keccak256

/-- fuel for full iteration: enough for keys of up to 2047 bytes (`Props.C02Live.live_run_observes`) -/
def iterFuel : Nat := 8200

def showObs : Obs → String
  | .ok => "ok"
  | .value (some v) => "v=" ++ toHex v
  | .value none => "absent"
  | .root h => toHex h
  | .pairs l => "n=" ++ toString l.length ++ String.join (l.map (fun e => " " ++ toHex e.1 ++ ":" ++ toHex e.2))
  | .err => "model-error"

def parseOp (line : String) : Option Op :=
  match splitWords line with
  | ["upd", k, v] => do let k ← ofHex? k; let v ← ofHex? v; pure (.upd k v)
  | ["del", k] => (ofHex? k).map .del
  | ["get", k] => (ofHex? k).map .get
  | ["hash"] => some .hash
  | ["commit"] => some .commit
  | ["reopen"] => some .reopen
  | ["dbcommit"] => some .dbcommit
  | ["cachelimit", n] => n.toNat?.bind (fun n => if n < 65536 then some (.cachelimit n) else none)
  | ["iter", s] => (ofHex? s).map .iter
  | _ => none

/-- driver state: the working trie and the retained trie objects (`snap`) -/
structure DState where
  cur : LTrie
  snaps : List LTrie
  ndb : NDb := NDb.empty      -- the two-layer NodeDatabase (`Model/TrieNdb`), fed by every `Trie.Commit`

def showGet : Option (Option Bytes × LTrie) → String
  | some (some v, _) => "v=" ++ toHex v
  | some (none, _) => "absent"
  | none => "model-error"

def step1 (t : LTrie) (line : String) : LTrie × String :=
  match splitWords line with
  | ["shape"] => (t, shapeL t.root ++ " g" ++ toString t.gen)
  | ["keccak", x] =>
    match ofHex? x with
    | some x => (t, toHex (H x))
    | none => (t, "bad-op")
  | _ =>
    match parseOp line with
    | some (.iter start) =>
      -- `lstep` answers with `iterFrom` (the specification of the order); the iterator stack machine
      -- (`Model/TrieIter`) is run next to it on the same expanded trie and must agree
      let r := lstep H iterFuel t (.iter start)
      let t' := (t.hash H).2
      match expandFull t'.db iterFuel t'.root with
      | some n =>
        if Obs.pairs (iterMachine n start) == r.2 then (r.1, showObs r.2)
        else (r.1, "model-iterator-machine-differs " ++ showObs (.pairs (iterMachine n start)))
      | none => (r.1, showObs r.2)
    | some op => let r := lstep H iterFuel t op; (r.1, showObs r.2)
    | none => (t, "bad-op")

def step (s : DState) (line : String) : DState × String :=
  match splitWords line with
  | ["new"] => ({ cur := LTrie.empty, snaps := [], ndb := NDb.empty }, "ok")
  | ["rlpstr", x] =>
    match ofHex? x with
    | some x => (s, toHex (rlpString x))
    | none => (s, "bad-op")
  | "rlplist" :: xs =>
    match xs.mapM ofHex? with
    | some items => (s, toHex (rlpList (items.flatMap rlpString)))
    | none => (s, "bad-op")
  | ["rlpsplit", x] =>
    match ofHex? x with
    | some x =>
      match rlpSplit x with
      | some r =>
        let kind := match r.1 with | .byte => "byte" | .string => "string" | .list => "list"
        let cnt := match countValues x.length x with | some n => toString n | none => "count-error"
        (s, kind ++ " " ++ toHex r.2.1 ++ " " ++ toHex r.2.2 ++ " " ++ cnt)
      | none => (s, "split-error")
    | none => (s, "bad-op")
  | ["opendisk", x] =>
    match ofHex? x with
    | some x =>
      match decodeNode 0 (20 * x.length + 20) (some (H x)) x with
      | some n => (s, shapeL n ++ " g0")
      | none => (s, "decode-panic")
    | none => (s, "bad-op")
  | ["dbstate"] =>
    (s, "mem=" ++ keyDigest (s.ndb.mem.map (·.1)) ++ " disk=" ++ keyDigest (s.ndb.disk.map (·.1)))
  | ["node", h] =>
    match ofHex? h with
    | some h => (s, match s.ndb.blob h with | some b => "blob=" ++ toHex b | none => "absent")
    | none => (s, "bad-op")
  | ["blob", x] =>
    match ofHex? x with
    | some x => ({ s with ndb := s.ndb.insert (H x) (.raw x) }, toHex (H x))
    | none => (s, "bad-op")
  | ["commitref"] =>
    -- `Trie.Commit(onleaf)`: insert, then the leaf callback references 32-byte leaf values
    let att := commitAttempts H s.cur
    let r := s.cur.commit H
    match (s.ndb.insertAll att).onleafAll att with
    | some ndb => ({ s with cur := r.2, ndb := ndb }, toHex r.1)
    | none => (s, "model-error")
  | ["commit"] =>
    let r := s.cur.commit H
    ({ s with cur := r.2, ndb := s.ndb.insertAll (commitAttempts H s.cur) }, toHex r.1)
  | ["reopen"] =>
    let r := s.cur.reopen H
    ({ s with cur := r.1, ndb := s.ndb.insertAll (commitAttempts H s.cur) }, showObs r.2)
  | ["dbcommit"] =>
    -- `Trie.Commit` + `NodeDatabase.Commit(root)` + `NewTrie(root)` (root decoded from its disk blob)
    let r := s.cur.reopenDisk H
    let root := (s.cur.commit H).1
    ({ s with cur := r.1, ndb := ((s.ndb.insertAll (commitAttempts H s.cur)).commit iterFuel root) }, showObs r.2)
  | ["snap"] =>
    -- keep the current trie value, continue on a reopened one (`Commit` + `NewTrie(root, db)`)
    let r := s.cur.reopen H
    match r.2 with
    | .root h =>
      let snaps' := s.snaps ++ [(s.cur.commit H).2]
      let ndb' := s.ndb.insertAll (commitAttempts H s.cur)
      ({ s with cur := r.1, snaps := snaps', ndb := ndb' }, toHex h)
    | _ => (s, "model-error")
  | ["fork"] => ({ s with snaps := s.snaps ++ [s.cur] }, "ok")     -- a value copy of the trie object
  | ["sget", i, k] =>
    match i.toNat?, ofHex? k with
    | some i, some k =>
      match s.snaps[i]? with
      | some st =>
        let r := st.get k
        ({ s with snaps := s.snaps.set i (match r with | some x => x.2 | none => st) }, showGet r)
      | none => (s, "bad-op")
    | _, _ => (s, "bad-op")
  | ["shash", i] =>
    match i.toNat?.bind (fun i => s.snaps[i]?.map (fun st => (i, st))) with
    | some (i, st) => let r := st.hash H; ({ s with snaps := s.snaps.set i r.2 }, toHex r.1)
    | none => (s, "bad-op")
  | ["sshape", i] =>
    match i.toNat?.bind (fun i => s.snaps[i]?) with
    | some st => (s, shapeL st.root ++ " g" ++ toString st.gen)
    | none => (s, "bad-op")
  | ["badopen", h] =>
    match ofHex? h with
    | some h =>
      if h.length = 32 then
        match LTrie.open s.cur.db h with
        | some _ => (s, "opened")
        | none => (s, "err-missing-node")
      else (s, "bad-op")
    | none => (s, "bad-op")
  | _ => let r := step1 s.cur line; ({ s with cur := r.1 }, r.2)

def run : IO Unit := runLines { cur := LTrie.empty, snaps := [], ndb := NDb.empty } step
end Rangers.Drive.C02
